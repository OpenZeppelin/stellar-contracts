import OZ.Model.Timelock
import OZ.Lemmas.Lists
import OZ.Lemmas.Except
/-
The timelock model: every operation as an `↔` over the stored ledger, the relation `Step` these add up to
(`apply_iff`), and the invariant `Inv` that the stored ledgers cohere with the ghost log.
-/
namespace OZ.Timelock
open OZ.Host

theorem updId_same (f : Id → Nat) (a : Id) (v : Nat) : updId f a v a = v := by simp [updId]
theorem updId_other (f : Id → Nat) (a x : Id) (v : Nat) (h : x ≠ a) : updId f a v x = f x := by
  simp [updId, h]

theorem stateOf_unset {v now : Nat} : stateOf v now = .unset ↔ v = 0 := by
  unfold stateOf UNSET_LEDGER DONE_LEDGER
  by_cases h0 : v = 0
  · simp [h0]
  · by_cases h1 : v = 1
    · simp [h1]
    · by_cases h2 : v > now <;> simp [h0, h1, h2]

theorem stateOf_done {v now : Nat} : stateOf v now = .done ↔ v = 1 := by
  unfold stateOf UNSET_LEDGER DONE_LEDGER
  by_cases h0 : v = 0
  · simp [h0]
  · by_cases h1 : v = 1
    · simp [h1]
    · by_cases h2 : v > now <;> simp [h0, h1, h2]

theorem stateOf_ready {v now : Nat} : stateOf v now = .ready ↔ 2 ≤ v ∧ v ≤ now := by
  unfold stateOf UNSET_LEDGER DONE_LEDGER
  by_cases h0 : v = 0
  · simp [h0]
  · by_cases h1 : v = 1
    · simp [h1]
    · by_cases h2 : v > now
      · simp [h0, h1, h2] <;> omega
      · simp [h0, h1, h2] <;> omega

theorem stateOf_waiting {v now : Nat} : stateOf v now = .waiting ↔ 2 ≤ v ∧ now < v := by
  unfold stateOf UNSET_LEDGER DONE_LEDGER
  by_cases h0 : v = 0
  · simp [h0]
  · by_cases h1 : v = 1
    · simp [h1]
    · by_cases h2 : v > now
      · simp [h0, h1, h2] <;> omega
      · simp [h0, h1, h2] <;> omega

theorem stateOf_ge_two {v now : Nat} (h : 2 ≤ v) :
    stateOf v now = .waiting ∨ stateOf v now = .ready := by
  by_cases hn : now < v
  · exact Or.inl (stateOf_waiting.mpr ⟨h, hn⟩)
  · exact Or.inr (stateOf_ready.mpr ⟨h, by omega⟩)

theorem stateOf_advance (v : Nat) {now now' : Nat} (h : now ≤ now') :
    stateOf v now' = stateOf v now ∨
      (stateOf v now = .waiting ∧ stateOf v now' = .ready ∧ v ≤ now') := by
  by_cases h0 : v = 0
  · left; rw [stateOf_unset.mpr h0, stateOf_unset.mpr h0]
  · by_cases h1 : v = 1
    · left; rw [stateOf_done.mpr h1, stateOf_done.mpr h1]
    · have h2 : 2 ≤ v := by omega
      by_cases hw : now < v
      · by_cases hw' : now' < v
        · left; rw [stateOf_waiting.mpr ⟨h2, hw⟩, stateOf_waiting.mpr ⟨h2, hw'⟩]
        · exact Or.inr ⟨stateOf_waiting.mpr ⟨h2, hw⟩, stateOf_ready.mpr ⟨h2, by omega⟩, by omega⟩
      · left; rw [stateOf_ready.mpr ⟨h2, by omega⟩, stateOf_ready.mpr ⟨h2, by omega⟩]

theorem satAdd_ge (a b : Nat) (ha : a ≤ U32_MAX) : a ≤ satAdd a b := by
  unfold satAdd; split <;> omega

theorem satAdd_ge_two {a b : Nat} (h : 2 ≤ a) : 2 ≤ satAdd a b := by
  unfold satAdd U32_MAX; split <;> omega

theorem satAdd_le (a b : Nat) : satAdd a b ≤ U32_MAX := by
  unfold satAdd; split <;> omega

theorem satAdd_le_iff_elapsed {l d now : Nat} (hn : now ≤ U32_MAX) :
    satAdd l d ≤ now ↔ elapsed l d now := by
  unfold satAdd elapsed
  split <;> constructor <;> intro h <;> omega

/-! ### the queries -/

section
variable {s : State} {id : Id}

theorem operationExists_iff : operationExists s id = true ↔ getOperationState s id ≠ .unset := bne_iff_ne

theorem isOperationPending_iff :
    isOperationPending s id = true ↔ getOperationState s id = .waiting ∨ getOperationState s id = .ready := by
  unfold isOperationPending; rw [Bool.or_eq_true, beq_iff_eq, beq_iff_eq]

theorem isOperationReady_iff : isOperationReady s id = true ↔ getOperationState s id = .ready := beq_iff_eq

theorem isOperationDone_iff : isOperationDone s id = true ↔ getOperationState s id = .done := beq_iff_eq

theorem state_unset : getOperationState s id = .unset ↔ s.ledger id = 0 := stateOf_unset
theorem state_done : getOperationState s id = .done ↔ s.ledger id = 1 := stateOf_done
theorem state_ready : getOperationState s id = .ready ↔ 2 ≤ s.ledger id ∧ s.ledger id ≤ s.now := stateOf_ready
theorem state_pending :
    getOperationState s id = .waiting ∨ getOperationState s id = .ready ↔ 2 ≤ s.ledger id :=
  ⟨fun h => h.elim (fun h => (stateOf_waiting.mp h).1) (fun h => (stateOf_ready.mp h).1), stateOf_ge_two⟩

end

/-! ### exact descriptions of accepted calls -/

theorem getMinDelay_ok {s : State} {m : Nat} : getMinDelay s = .ok m ↔ s.minDelay = some m := by
  unfold getMinDelay; cases s.minDelay <;> simp

theorem schedule_iff {s s' : State} {op : Operation} {d : Nat} :
    schedule s op d = .ok s' ↔ ∃ m, s.minDelay = some m ∧ m ≤ d ∧ s.ledger op.id = 0 ∧
      s' = { s with ledger := updId s.ledger op.id (satAdd s.now d),
                    log := .sched op.id s.now d m :: s.log } := by
  unfold schedule
  rw [ite_error_eq_ok_iff, operationExists_iff, Decidable.not_not, state_unset]
  cases hg : getMinDelay s with
  | error e => exact ⟨fun h => (by cases h.2), fun ⟨m, hm, _⟩ => by rw [getMinDelay_ok.mpr hm] at hg; cases hg⟩
  | ok m =>
    show _ ∧ (if _ then _ else _) = _ ↔ _
    rw [ite_error_ok_iff, Nat.not_lt]
    have hm := getMinDelay_ok.mp hg
    exact ⟨fun ⟨h0, hd, e⟩ => ⟨m, hm, hd, h0, e⟩,
      fun ⟨_, hm', hd, h0, e⟩ => by cases hm.symm.trans hm'; exact ⟨h0, hd, e⟩⟩

theorem setExecute_iff {s s' : State} {op : Operation} :
    setExecute s op = .ok s' ↔
      (2 ≤ s.ledger op.id ∧ s.ledger op.id ≤ s.now ∧ (op.pred = Id.zero ∨ s.ledger op.pred = 1)) ∧
      s' = { s with ledger := updId s.ledger op.id DONE_LEDGER, log := .exec op.id s.now :: s.log } := by
  unfold setExecute
  rw [ite_error_eq_ok_iff, ite_error_ok_iff, Bool.not_eq_true', Bool.not_eq_false, isOperationReady_iff, state_ready,
    Bool.not_eq_true', Decidable.not_and_iff_not_or_not, Decidable.not_not, Bool.not_eq_false, isOperationDone_iff,
    state_done]
  exact ⟨fun ⟨⟨a, b⟩, c, e⟩ => ⟨⟨a, b, c⟩, e⟩, fun ⟨⟨a, b, c⟩, e⟩ => ⟨⟨a, b⟩, c, e⟩⟩

theorem cancel_iff {s s' : State} {id : Id} :
    cancel s id = .ok s' ↔ 2 ≤ s.ledger id ∧
      s' = { s with ledger := updId s.ledger id UNSET_LEDGER, log := .cancel id s.now :: s.log } := by
  unfold cancel
  rw [ite_error_ok_iff, Bool.not_eq_true', Bool.not_eq_false, isOperationPending_iff, state_pending]

theorem execute_iff {s s' : State} {op : Operation} {ok : Bool} :
    execute s op ok = .ok s' ↔ ∃ s1, setExecute s op = .ok s1 ∧ ok = true ∧
      s' = { s1 with calls := (op.target, op.fn, op.args) :: s1.calls } := by
  unfold execute
  cases setExecute s op with
  | error e => exact ⟨fun h => (by cases h), fun ⟨_, h, _⟩ => (by cases h)⟩
  | ok s1 =>
    show (if _ then _ else _) = _ ↔ _
    rw [ite_ok_iff]
    exact ⟨fun ⟨a, b⟩ => ⟨s1, rfl, a, b⟩, fun ⟨_, h, a, b⟩ => by cases h; exact ⟨a, b⟩⟩

theorem advance_iff {s s' : State} {n : Nat} :
    advance s n = .ok s' ↔ s.now + n ≤ U32_MAX ∧ s' = { s with now := s.now + n } := by
  unfold advance
  rw [ite_error_ok_iff, Nat.not_lt]

/-! ### one accepted call, as a relation

Four of the six operations do the same thing: they look at the stored ledger of one id, write one value
there and log one record (`Write`); `advance` and `set_min_delay` touch neither ledgers nor log. -/

def called : Op → List Call
  | .execute op _ => [(op.target, op.fn, op.args)]
  | _ => []

inductive Write (s : State) : Op → Id → Nat → Ev → Prop
  | schedule {op : Operation} {d m : Nat} (hm : s.minDelay = some m) (hd : m ≤ d) (h0 : s.ledger op.id = 0) :
      Write s (.schedule op d) op.id (satAdd s.now d) (.sched op.id s.now d m)
  | setExecute {op : Operation} (h2 : 2 ≤ s.ledger op.id) (hn : s.ledger op.id ≤ s.now)
      (hp : op.pred = Id.zero ∨ s.ledger op.pred = 1) :
      Write s (.setExecute op) op.id DONE_LEDGER (.exec op.id s.now)
  | execute {op : Operation} (h2 : 2 ≤ s.ledger op.id) (hn : s.ledger op.id ≤ s.now)
      (hp : op.pred = Id.zero ∨ s.ledger op.pred = 1) :
      Write s (.execute op true) op.id DONE_LEDGER (.exec op.id s.now)
  | cancel {id : Id} (h2 : 2 ≤ s.ledger id) : Write s (.cancel id) id UNSET_LEDGER (.cancel id s.now)

inductive Step (s : State) : Op → State → Prop
  | write {x : Op} {id : Id} {v : Nat} {e : Ev} (w : Write s x id v e) :
      Step s x { s with ledger := updId s.ledger id v, log := e :: s.log, calls := called x ++ s.calls }
  | setMinDelay (d : Nat) : Step s (.setMinDelay d) (setMinDelay s d)
  | advance {n : Nat} (h : s.now + n ≤ U32_MAX) : Step s (.advance n) { s with now := s.now + n }

theorem apply_iff {s s' : State} {x : Op} : apply s x = .ok s' ↔ Step s x s' := by
  constructor
  · intro h
    cases x with
    | schedule op d => obtain ⟨m, hm, hd, h0, rfl⟩ := schedule_iff.mp h; exact .write (.schedule hm hd h0)
    | setExecute op => obtain ⟨⟨h2, hn, hp⟩, rfl⟩ := setExecute_iff.mp h; exact .write (.setExecute h2 hn hp)
    | execute op ok =>
      obtain ⟨s1, h1, rfl, rfl⟩ := execute_iff.mp h
      obtain ⟨⟨h2, hn, hp⟩, rfl⟩ := setExecute_iff.mp h1
      exact .write (.execute h2 hn hp)
    | cancel id => obtain ⟨h2, rfl⟩ := cancel_iff.mp h; exact .write (.cancel h2)
    | setMinDelay d => cases h; exact .setMinDelay d
    | advance n => obtain ⟨hn, rfl⟩ := advance_iff.mp h; exact .advance hn
  · intro st
    cases st with
    | setMinDelay d => rfl
    | advance h => exact advance_iff.mpr ⟨h, rfl⟩
    | write w =>
      cases w with
      | schedule hm hd h0 => exact schedule_iff.mpr ⟨_, hm, hd, h0, rfl⟩
      | setExecute h2 hn hp => exact setExecute_iff.mpr ⟨⟨h2, hn, hp⟩, rfl⟩
      | execute h2 hn hp => exact execute_iff.mpr ⟨_, setExecute_iff.mpr ⟨⟨h2, hn, hp⟩, rfl⟩, rfl, rfl⟩
      | cancel h2 => exact cancel_iff.mpr ⟨h2, rfl⟩

/-! ### the ghost log and the coherence invariant -/

theorem ghost_sched_same (i : Id) (l d m : Nat) (rest : List Ev) :
    ghost (.sched i l d m :: rest) i = .pending l d m := by simp [ghost]
theorem ghost_cancel_same (i : Id) (l : Nat) (rest : List Ev) :
    ghost (.cancel i l :: rest) i = .unset := by simp [ghost]
theorem ghost_exec_same (i : Id) (l : Nat) (rest : List Ev) :
    ghost (.exec i l :: rest) i = .done := by simp [ghost]
theorem ghost_other (e : Ev) (rest : List Ev) (id : Id) (h : e.id ≠ id) :
    ghost (e :: rest) id = ghost rest id := by
  cases e <;> simp [ghost, Ev.id] at * <;> simp [h]

theorem ghost_cons (e : Ev) (rest : List Ev) (id : Id) :
    ghost (e :: rest) id = if e.id = id then ghost [e] id else ghost rest id := by
  by_cases h : e.id = id
  · rw [if_pos h]
    cases e <;> (simp only [Ev.id] at h; subst h; simp [ghost])
  · rw [if_neg h, ghost_other e rest id h]

theorem ghost_cons_known {e : Ev} {rest : List Ev} {id : Id} (h : ghost (e :: rest) id ≠ .unset) :
    e.id = id ∨ ghost rest id ≠ .unset := by
  by_cases he : e.id = id
  · exact Or.inl he
  · rw [ghost_other e rest id he] at h; exact Or.inr h

theorem execCount_exec_same (i : Id) (l : Nat) (rest : List Ev) :
    execCount (.exec i l :: rest) i = 1 + execCount rest i := by simp [execCount]
theorem execCount_other (e : Ev) (rest : List Ev) (id : Id) (h : e.id ≠ id) :
    execCount (e :: rest) id = execCount rest id := by
  cases e <;> simp [execCount, Ev.id] at * <;> simp [h]
theorem execCount_sched (i : Id) (l d m : Nat) (rest : List Ev) (id : Id) :
    execCount (.sched i l d m :: rest) id = execCount rest id := by simp [execCount]
theorem execCount_cancel (i : Id) (l : Nat) (rest : List Ev) (id : Id) :
    execCount (.cancel i l :: rest) id = execCount rest id := by simp [execCount]
theorem execCount_cons (e : Ev) (rest : List Ev) (id : Id) :
    execCount (e :: rest) id = execCount [e] id + execCount rest id := by
  cases e <;> simp [execCount]

theorem ghost_pending_split {log : List Ev} {id : Id} {l d m : Nat}
    (h : ghost log id = .pending l d m) :
    ∃ newer older, log = newer ++ Ev.sched id l d m :: older ∧ ∀ e ∈ newer, e.id ≠ id := by
  induction log with
  | nil => simp [ghost] at h
  | cons e rest ih =>
    by_cases he : e.id = id
    · cases e with
      | sched i l' d' m' =>
        simp only [Ev.id] at he; subst he
        rw [ghost_sched_same] at h
        injection h with h1 h2 h3; subst h1; subst h2; subst h3
        exact ⟨[], rest, rfl, by intro e he; cases he⟩
      | cancel i l' => simp only [Ev.id] at he; subst he; rw [ghost_cancel_same] at h; cases h
      | exec i l' => simp only [Ev.id] at he; subst he; rw [ghost_exec_same] at h; cases h
    · rw [ghost_other e rest id he] at h
      obtain ⟨newer, older, hl, hn⟩ := ih h
      refine ⟨e :: newer, older, by rw [hl]; rfl, ?_⟩
      intro x hx
      cases hx with
      | head => exact he
      | tail _ hx' => exact hn x hx'

theorem ghost_of_split {log newer older : List Ev} {id : Id} {l d m : Nat}
    (h : log = newer ++ Ev.sched id l d m :: older) (hn : ∀ e ∈ newer, e.id ≠ id) :
    ghost log id = .pending l d m := by
  subst h
  induction newer with
  | nil => exact ghost_sched_same id l d m older
  | cons e rest ih =>
    show ghost (e :: (rest ++ Ev.sched id l d m :: older)) id = _
    rw [ghost_other e _ id (hn e List.mem_cons_self)]
    exact ih (fun x hx => hn x (List.mem_cons_of_mem _ hx))

theorem ghost_done_mem {log : List Ev} {id : Id} (h : ghost log id = .done) :
    ∃ l, Ev.exec id l ∈ log := by
  induction log with
  | nil => simp [ghost] at h
  | cons e rest ih =>
    by_cases he : e.id = id
    · cases e with
      | sched i l d m => simp only [Ev.id] at he; subst he; rw [ghost_sched_same] at h; cases h
      | cancel i l => simp only [Ev.id] at he; subst he; rw [ghost_cancel_same] at h; cases h
      | exec i l => simp only [Ev.id] at he; subst he; exact ⟨l, List.mem_cons_self⟩
    · rw [ghost_other e rest id he] at h
      obtain ⟨l, hl⟩ := ih h
      exact ⟨l, List.mem_cons_of_mem _ hl⟩

theorem execCount_zero_iff {log : List Ev} {id : Id} :
    execCount log id = 0 ↔ ∀ l, Ev.exec id l ∉ log := by
  induction log with
  | nil => simp [execCount]
  | cons e rest ih =>
    cases e with
    | sched i l d m => rw [execCount_sched]; simp [ih]
    | cancel i l => rw [execCount_cancel]; simp [ih]
    | exec i l =>
      by_cases hi : i = id
      · subst hi
        rw [execCount_exec_same]
        constructor
        · intro h; omega
        · intro h; exact absurd (List.mem_cons_self) (h l)
      · rw [execCount_other _ _ _ (by simpa [Ev.id] using hi)]
        rw [ih]
        constructor
        · intro h l' hm
          cases hm with
          | head => exact hi rfl
          | tail _ hm' => exact h l' hm'
        · intro h l' hm; exact h l' (List.mem_cons_of_mem _ hm)

/-- the stored ledger value `v` of an id agrees with what the ghost log says about it -/
def Coh (g : Ghost) (v now : Nat) : Prop :=
  match g with
  | .unset => v = 0
  | .done => v = 1
  | .pending l d m => v = satAdd l d ∧ m ≤ d ∧ 2 ≤ l ∧ l ≤ now

/-- the regime of the property (ledger sequence ≥ 2, a `u32`), stored ledgers cohere with
the ghost log, and an id is marked done iff the log holds exactly one execution of it -/
structure Inv (s : State) : Prop where
  nowLo : 2 ≤ s.now
  nowHi : s.now ≤ U32_MAX
  coh : ∀ id, Coh (ghost s.log id) (s.ledger id) s.now
  cnt : ∀ id, execCount s.log id = if s.ledger id = 1 then 1 else 0

theorem Coh.mono {g : Ghost} {v now now' : Nat} (h : Coh g v now) (hn : now ≤ now') : Coh g v now' := by
  cases g with
  | unset => exact h
  | done => exact h
  | pending l d m => obtain ⟨a, b, c, e⟩ := h; exact ⟨a, b, c, by omega⟩

theorem Coh.ledger_ge_two {g : Ghost} {v now : Nat} (h : Coh g v now) (hv : 2 ≤ v) :
    ∃ l d m, g = .pending l d m ∧ v = satAdd l d ∧ m ≤ d ∧ 2 ≤ l ∧ l ≤ now := by
  cases g with
  | unset => simp [Coh] at h; omega
  | done => simp [Coh] at h; omega
  | pending l d m => exact ⟨l, d, m, rfl, h⟩

theorem Coh.of_zero {g : Ghost} {v now : Nat} (h : Coh g v now) (hv : v = 0) : g = .unset := by
  cases g with
  | unset => rfl
  | done => simp [Coh] at h; omega
  | pending l d m =>
    obtain ⟨a, _, c, _⟩ := h
    have := satAdd_ge_two (b := d) c
    omega

theorem Coh.of_one {g : Ghost} {v now : Nat} (h : Coh g v now) (hn : now ≤ U32_MAX) (hv : v = 1) :
    g = .done := by
  cases g with
  | unset => simp [Coh] at h; omega
  | done => rfl
  | pending l d m =>
    obtain ⟨a, _, c, e⟩ := h
    have := satAdd_ge l d (by omega)
    omega

def ghostLedger : Ghost → Nat
  | .unset => 0
  | .done => 1
  | .pending l d _ => satAdd l d

theorem Coh.ledger_eq {g : Ghost} {v now : Nat} (h : Coh g v now) : v = ghostLedger g := by
  cases g with
  | unset => exact h
  | done => exact h
  | pending l d m => exact h.1

theorem Coh.stateOf_eq {g : Ghost} {v now : Nat} (h : Coh g v now) (hn : now ≤ U32_MAX) :
    stateOf v now = ghostState g now := by
  cases g with
  | unset => exact stateOf_unset.mpr h
  | done => exact stateOf_done.mpr h
  | pending l d m =>
    obtain ⟨hv, _, hl2, _⟩ := h
    have hge : 2 ≤ v := by rw [hv]; exact satAdd_ge_two hl2
    have hel : v ≤ now ↔ elapsed l d now := by rw [hv]; exact satAdd_le_iff_elapsed hn
    show _ = if elapsed l d now then OpState.ready else OpState.waiting
    by_cases he : elapsed l d now
    · rw [if_pos he]; exact stateOf_ready.mpr ⟨hge, hel.mpr he⟩
    · rw [if_neg he]; exact stateOf_waiting.mpr ⟨hge, Nat.lt_of_not_le (fun h => he (hel.mp h))⟩

section
variable {g : Ghost} {now : Nat}

theorem ghostState_unset : ghostState g now = .unset ↔ g = .unset := by
  cases g with
  | unset | done => simp [ghostState]
  | pending l d m => by_cases he : elapsed l d now <;> simp [ghostState, he]

theorem ghostState_done : ghostState g now = .done ↔ g = .done := by
  cases g with
  | unset | done => simp [ghostState]
  | pending l d m => by_cases he : elapsed l d now <;> simp [ghostState, he]

theorem ghostState_ready : ghostState g now = .ready ↔ ∃ l d m, g = .pending l d m ∧ elapsed l d now := by
  cases g with
  | unset | done => simp [ghostState]
  | pending l d m => by_cases he : elapsed l d now <;> simp [ghostState, he, and_assoc]

theorem ghostState_pending :
    ghostState g now = .waiting ∨ ghostState g now = .ready ↔ ∃ l d m, g = .pending l d m := by
  cases g with
  | unset | done => simp [ghostState]
  | pending l d m => by_cases he : elapsed l d now <;> simp [ghostState, he]

end

theorem Inv.state_eq {s : State} (hi : Inv s) (id : Id) :
    getOperationState s id = ghostState (ghost s.log id) s.now := (hi.coh id).stateOf_eq hi.nowHi

/-- a Ready operation of a reachable timelock state was scheduled, with a sufficient delay that has
elapsed, and nothing about it was accepted since -/
theorem ready_was_scheduled {s : Timelock.State} (hi : Inv s) {id : Id}
    (h : getOperationState s id = .ready) :
    ∃ newer older l d m, s.log = newer ++ Ev.sched id l d m :: older ∧ (∀ e ∈ newer, e.id ≠ id) ∧
      m ≤ d ∧ elapsed l d s.now := by
  obtain ⟨l, d, m, hg, hel⟩ := ghostState_ready.mp ((hi.state_eq id).symm.trans h)
  obtain ⟨newer, older, hlog, hnew⟩ := ghost_pending_split hg
  have hc := hi.coh id
  rw [hg] at hc
  exact ⟨newer, older, l, d, m, hlog, hnew, hc.2.1, hel⟩

theorem init_inv {now : Nat} (h2 : 2 ≤ now) (hm : now ≤ U32_MAX) : Inv (init now) :=
  ⟨h2, hm, fun _ => rfl, fun _ => by simp [init, execCount, UNSET_LEDGER]⟩

section
variable {s : State} {x : Op} {id : Id} {v : Nat} {e : Ev}

theorem Write.id_eq (w : Write s x id v e) : e.id = id := by cases w <;> rfl

theorem Write.old_ne_one (w : Write s x id v e) : s.ledger id ≠ 1 := by cases w <;> omega

theorem Write.states (w : Write s x id v e) (h2 : 2 ≤ s.now) :
    match x with
    | .schedule _ _ => stateOf (s.ledger id) s.now = .unset ∧
        (stateOf v s.now = .waiting ∨ stateOf v s.now = .ready)
    | .cancel _ => (stateOf (s.ledger id) s.now = .waiting ∨ stateOf (s.ledger id) s.now = .ready) ∧
        stateOf v s.now = .unset
    | _ => stateOf (s.ledger id) s.now = .ready ∧ stateOf v s.now = .done := by
  cases w with
  | schedule hm hd h0 => exact ⟨stateOf_unset.mpr h0, stateOf_ge_two (satAdd_ge_two h2)⟩
  | setExecute h2 hn hp | execute h2 hn hp => exact ⟨stateOf_ready.mpr ⟨h2, hn⟩, stateOf_done.mpr rfl⟩
  | cancel h2 => exact ⟨stateOf_ge_two h2, stateOf_unset.mpr rfl⟩

theorem Write.coh (w : Write s x id v e) (h2 : 2 ≤ s.now) : Coh (ghost [e] id) v s.now := by
  cases w with
  | schedule hm hd h0 => rw [ghost_sched_same]; exact ⟨rfl, hd, h2, Nat.le_refl _⟩
  | setExecute | execute => rw [ghost_exec_same]; rfl
  | cancel h2 => rw [ghost_cancel_same]; rfl

theorem Write.cnt (w : Write s x id v e) (h2 : 2 ≤ s.now) : execCount [e] id = if v = 1 then 1 else 0 := by
  cases w with
  | @schedule op d m hm hd h0 => rw [if_neg (by have := satAdd_ge_two (b := d) h2; omega)]; rfl
  | setExecute | execute => rw [execCount_exec_same]; rfl
  | cancel h2 => rfl

end

theorem Step.inv {s s' : State} {x : Op} (hi : Inv s) (st : Step s x s') : Inv s' := by
  cases st with
  | setMinDelay d => exact ⟨hi.nowLo, hi.nowHi, hi.coh, hi.cnt⟩
  | advance h =>
    exact ⟨Nat.le_trans hi.nowLo (Nat.le_add_right _ _), h, fun j => (hi.coh j).mono (Nat.le_add_right _ _), hi.cnt⟩
  | @write _ id v e w =>
    refine ⟨hi.nowLo, hi.nowHi, fun j => ?_, fun j => ?_⟩
    · show Coh (ghost (e :: s.log) j) (updId s.ledger id v j) s.now
      rw [ghost_cons, w.id_eq]
      by_cases hj : id = j
      · subst hj; rw [if_pos rfl, updId_same]; exact w.coh hi.nowLo
      · rw [if_neg hj, updId_other _ _ _ _ (Ne.symm hj)]; exact hi.coh j
    · show execCount (e :: s.log) j = if updId s.ledger id v j = 1 then 1 else 0
      rw [execCount_cons, hi.cnt j]
      by_cases hj : id = j
      · subst hj; rw [updId_same, if_neg w.old_ne_one, w.cnt hi.nowLo]; rfl
      · rw [updId_other _ _ _ _ (Ne.symm hj), execCount_other _ _ _ (by rw [w.id_eq]; exact hj)]
        exact Nat.zero_add _

theorem apply_inv {s s' : State} (hi : Inv s) {x : Op} (h : apply s x = .ok s') : Inv s' :=
  (apply_iff.mp h).inv hi

theorem step_inv {s : State} (hi : Inv s) (x : Op) : Inv (step s x) := by
  unfold step
  cases h : apply s x with
  | ok s' => exact apply_inv hi h
  | error e => exact hi

theorem run_inv {s : State} (hi : Inv s) (ops : List Op) : Inv (run s ops) :=
  OZ.Lists.foldl_inv (P := Inv) (fun _ x h => step_inv h x) ops s hi

theorem Step.ledger_one {s s' : State} {x : Op} (st : Step s x s') {j : Id} (h1 : s.ledger j = 1) :
    s'.ledger j = 1 := by
  cases st with
  | @write _ id v e w =>
    show updId s.ledger id v j = 1
    rw [updId_other _ _ _ _ (by rintro rfl; exact w.old_ne_one h1)]; exact h1
  | _ => exact h1

theorem Step.minDelay {s s' : State} {x : Op} (st : Step s x s') (hx : ∀ d, x ≠ .setMinDelay d) :
    s'.minDelay = s.minDelay := by
  cases st with
  | setMinDelay d => exact absurd rfl (hx d)
  | _ => rfl

theorem apply_ledger_one {s s' : State} {x : Op} {id : Id} (h1 : s.ledger id = 1)
    (h : apply s x = .ok s') : s'.ledger id = 1 :=
  (apply_iff.mp h).ledger_one h1

theorem step_ledger_one {s : State} {id : Id} (h1 : s.ledger id = 1) (x : Op) :
    (step s x).ledger id = 1 := by
  unfold step
  cases h : apply s x with
  | ok s' => exact apply_ledger_one h1 h
  | error e => exact h1

theorem run_ledger_one {s : State} {id : Id} (h1 : s.ledger id = 1) (ops : List Op) :
    (run s ops).ledger id = 1 :=
  OZ.Lists.foldl_inv (P := fun s => s.ledger id = 1) (fun _ x h => step_ledger_one h x) ops s h1

/-! ### the log and the history -/

/-- what an accepted call appends to the log (an accepted `schedule` has `s.minDelay = some m`, `schedule_iff`: the
default of `getD` is not reached) -/
def logged (s : State) : Op → Option Ev
  | .schedule op d => some (.sched op.id s.now d (s.minDelay.getD 0))
  | .setExecute op => some (.exec op.id s.now)
  | .execute op _ => some (.exec op.id s.now)
  | .cancel id => some (.cancel id s.now)
  | .setMinDelay _ => none
  | .advance _ => none

/-- every accepted schedule / set_execute / execute / cancel is recorded, with the ledger of
the call, nothing else is, and a rejected call leaves the log alone -/
theorem accepted_is_logged (s : State) (x : Op) :
    (step s x).log = match apply s x, logged s x with
      | .ok _, some e => e :: s.log
      | _, _ => s.log := by
  unfold step
  cases h : apply s x with
  | error e => rfl
  | ok s' =>
    cases apply_iff.mp h with
    | write w => cases w <;> simp [logged, *]
    | setMinDelay d => rfl
    | advance hn => rfl

theorem run_append (s : State) (a b : List Op) : run s (a ++ b) = run (run s a) b := by
  unfold run; rw [List.foldl_append]

theorem run_cons (s : State) (x : Op) (xs : List Op) : run s (x :: xs) = run (step s x) xs := rfl

def emit (s : State) (x : Op) : List Ev :=
  match apply s x, logged s x with
  | .ok _, some e => [e]
  | _, _ => []

theorem step_ok {s s' : State} {x : Op} (h : apply s x = .ok s') : step s x = s' := by
  unfold step; rw [h]

theorem step_log (s : State) (x : Op) : (step s x).log = emit s x ++ s.log := by
  rw [accepted_is_logged]; unfold emit
  cases apply s x <;> cases logged s x <;> rfl

theorem emit_cases (s : State) (x : Op) :
    emit s x = [] ∨ ∃ s1 e, apply s x = .ok s1 ∧ logged s x = some e ∧ emit s x = [e] := by
  unfold emit
  cases apply s x <;> cases logged s x <;> simp

/-- the records a history appends to the log, newest first -/
def events (s : State) : List Op → List Ev
  | [] => []
  | x :: xs => events (step s x) xs ++ emit s x

theorem run_log (s : State) (ops : List Op) : (run s ops).log = events s ops ++ s.log := by
  induction ops generalizing s with
  | nil => rfl
  | cons x xs ih => rw [run_cons, ih, step_log, events, List.append_assoc]

theorem events_append (s : State) (a b : List Op) : events s (a ++ b) = events (run s a) b ++ events s a := by
  induction a generalizing s with
  | nil => exact (List.append_nil _).symm
  | cons x xs ih => show events (step s x) (xs ++ b) ++ _ = _; rw [ih, List.append_assoc]; rfl

/-- a position of the log is a position of the history: the record `e` was logged by an accepted call `x` of the
history, and `newer` is what the calls after `x` logged -/
theorem events_split {s : State} {ops : List Op} {newer older : List Ev} {e : Ev}
    (h : events s ops = newer ++ e :: older) :
    ∃ pre x post s1, ops = pre ++ x :: post ∧ apply (run s pre) x = .ok s1 ∧ logged (run s pre) x = some e ∧
      events s1 post = newer := by
  induction ops generalizing s older with
  | nil => cases newer <;> cases h
  | cons x xs ih =>
    replace h : events (step s x) xs ++ emit s x = newer ++ e :: older := h
    rcases emit_cases s x with hem | ⟨s1, e', ha, hlg, hem⟩
    · rw [hem, List.append_nil] at h
      obtain ⟨pre, y, post, s2, rfl, h2, h3, h4⟩ := ih h
      exact ⟨x :: pre, y, post, s2, rfl, h2, h3, h4⟩
    · -- the record of the first call is the oldest of all
      rw [hem] at h
      rcases older.eq_nil_or_concat with rfl | ⟨older', b, rfl⟩
      · obtain ⟨hE, he⟩ := List.append_inj' h rfl
        cases he
        exact ⟨[], x, xs, s1, rfl, ha, hlg, step_ok ha ▸ hE⟩
      · rw [List.concat_eq_append, ← List.cons_append, ← List.append_assoc] at h
        obtain ⟨pre, y, post, s2, rfl, h2, h3, h4⟩ := ih (List.append_inj' h rfl).1
        exact ⟨x :: pre, y, post, s2, rfl, h2, h3, h4⟩

theorem mem_events {s : State} {ops : List Op} {e : Ev} :
    e ∈ events s ops ↔ ∃ pre x post s1, ops = pre ++ x :: post ∧ apply (run s pre) x = .ok s1 ∧
      logged (run s pre) x = some e := by
  constructor
  · intro h
    obtain ⟨newer, older, h⟩ := List.append_of_mem h
    obtain ⟨pre, x, post, s1, h1, h2, h3, _⟩ := events_split h
    exact ⟨pre, x, post, s1, h1, h2, h3⟩
  · rintro ⟨pre, x, post, s1, rfl, h2, h3⟩
    rw [events_append]
    exact List.mem_append_left _ (List.mem_append_right _ (by simp [emit, h2, h3]))

end OZ.Timelock
