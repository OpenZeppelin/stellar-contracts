import OZ.Lemmas.NftMon
/-
For the soundness of the C10 monitor (`OZ.NftMon.Own`, OZ/Model/NftMon.lean): the relation `Live` between the
monitor's plain map / counters and a model state, kept by every accepted call, under which the observation checks
are silent.
-/
namespace OZ.NftMon.Own
open OZ.Host OZ.Nft

/-- monitor state and model state describe the same point of a history (while the monitor judges) -/
structure Live (m : Mon) (ms : MState) (spec : Nat → Option Nat) : Prop where
  good : Good ms spec
  owner : ∀ id, ghostOwner m id = spec id
  bal : m.bal = (List.range N).map ms.core.bal
  next : m.next ≤ ms.core.nextId
  over : ms.isCons = true → ∀ p ∈ m.over, p.1 < ms.core.nextId
  enumOK : EnumOK ms
  live : ms.isEnum = true → m.live = ms.total
  flav : m.flavour = "enum" → ms.isEnum = true

/-- `disabled`: a mint hit an owned id (the fresh-id hypothesis failed) and the monitor has stopped judging -/
def Tracked (t : Mon × Option String) (ms : MState) (spec : Nat → Option Nat) : Prop :=
  t.1.disabled = true ∨ (t.2 = none ∧ Live t.1 ms spec)

theorem isEnum_of_isCons {ms : MState} (h : ms.isCons = true) : ms.isEnum = false := by
  cases ms <;> first | rfl | cases h

theorem addBal_one (bal : Nat → Nat) (i : Nat) :
    addBal ((List.range N).map bal) i 1 = (List.range N).map (upd bal i (bal i + 1)) := by
  have := addBal_inc N bal i 1
  simpa using this

section live
variable {m : Mon} {ms ms' : MState} {spec : Nat → Option Nat}

theorem Live.setGap (ha : Live m ms spec) (g : Bool) : Live { m with gap := g } ms spec :=
  ⟨ha.good, ha.owner, ha.bal, ha.next, ha.over, ha.enumOK, ha.live, ha.flav⟩

theorem Live.idle (ha : Live m ms spec) (hgood : Good ms' spec) (hbal : ms'.core.bal = ms.core.bal)
    (hk : Same ms ms') (hen : EnumOK ms' ∧ (ms.isEnum = true → ms'.total = ms.total)) : Live m ms' spec := by
  refine ⟨hgood, ha.owner, by rw [hbal]; exact ha.bal, by rw [hk.nextId]; exact ha.next, ?_, hen.1, ?_, ?_⟩
  · intro hc p hp; rw [hk.cons] at hc; rw [hk.nextId]; exact ha.over hc p hp
  · intro he; rw [hk.enum] at he; rw [hen.2 he]; exact ha.live he
  · intro hf; rw [hk.enum]; exact ha.flav hf

/-- the calls the monitor records as a point override (sequential and explicit mint, transfer, burn): what is
left to check is the arithmetic of balances, counter and supply -/
theorem Live.setOwner (ha : Live m ms spec) {m' : Mon} {id : Nat} {o : Option Nat}
    (hb : m'.batches = m.batches) (ho : m'.over = setOver m.over id o) (hfl : m'.flavour = m.flavour)
    (hgood : Good ms' (upd spec id o)) (hbal : m'.bal = (List.range N).map ms'.core.bal)
    (hnext : m'.next ≤ ms'.core.nextId) (hnx : ms.core.nextId ≤ ms'.core.nextId)
    (hcons : ms'.isCons = ms.isCons) (hid : ms.isCons = true → id < ms.core.nextId)
    (henum : ms'.isEnum = ms.isEnum) (he : EnumOK ms') (hlive : ms.isEnum = true → m'.live = ms'.total) :
    Live m' ms' (upd spec id o) := by
  refine ⟨hgood, ?_, hbal, hnext, ?_, he, ?_, ?_⟩
  · intro x; unfold ghostOwner; rw [hb, ho]; exact plainOwner_setOver_eq ha.owner id o x
  · intro hc; rw [hcons] at hc; rw [ho]; exact setOver_lt o (ha.over hc) (hid hc) hnx
  · intro hen; rw [henum] at hen; exact hlive hen
  · intro hf; rw [henum]; exact ha.flav (hfl ▸ hf)

theorem trackMove_live (ha : Live m ms spec) {l : Line} {f t id : Nat} (hid : l.id = id)
    (hs : spec id = some f) (hgood : Good ms' (upd spec id (some t)))
    (hcore : MoveStep ms.core ms'.core f (some t) id) (hlt : ms.isCons = true → id < ms.core.nextId)
    (hk : Same ms ms') (hen : EnumOK ms' ∧ (ms.isEnum = true → ms'.total = ms.total)) :
    Tracked (trackMove m l f t) ms' (upd spec id (some t)) := by
  unfold trackMove
  rw [hid, if_neg (by rw [ha.owner, hs]; simp)]
  refine Or.inr ⟨rfl, ha.setOwner rfl rfl rfl hgood ?_ (by rw [hk.nextId]; exact ha.next)
    (Nat.le_of_eq hk.nextId.symm) hk.cons hlt hk.enum hen.1 (fun he => by rw [hen.2 he]; exact ha.live he)⟩
  show addBal (addBal m.bal f (-1)) t 1 = _
  rw [ha.bal, addBal_dec, addBal_one, hcore.1]; rfl

theorem trackBurn_live (ha : Live m ms spec) {l : Line} {f id : Nat} (hid : l.id = id)
    (hs : spec id = some f) (hgood : Good ms' (upd spec id none))
    (hcore : MoveStep ms.core ms'.core f none id) (hlt : ms.isCons = true → id < ms.core.nextId)
    (hk : Same ms ms') (hen : EnumOK ms' ∧ (ms.isEnum = true → ms'.total = ms.total - 1)) :
    Tracked (trackBurn m l f) ms' (upd spec id none) := by
  unfold trackBurn
  rw [hid, if_neg (by rw [ha.owner, hs]; simp)]
  refine Or.inr ⟨rfl, ha.setOwner rfl rfl rfl hgood ?_ (by rw [hk.nextId]; exact ha.next)
    (Nat.le_of_eq hk.nextId.symm) hk.cons hlt hk.enum hen.1
    (fun he => by show m.live - 1 = _; rw [hen.2 he, ha.live he])⟩
  show addBal m.bal f (-1) = _
  rw [ha.bal, addBal_dec, hcore.1]; rfl

theorem trackMint_live (ha : Live m ms spec) {l : Line} {o : Obs} {to : Nat} (harg : l.arg 0 = to)
    (hret : o.ret = some ms.core.nextId)
    (hgood : Good ms' (upd spec ms.core.nextId (some to))) (hcore : MintStep ms.core ms'.core to 1)
    (hnx : ms'.core.nextId = ms.core.nextId + 1) (hc : ms.isCons = false)
    (hcons : ms'.isCons = ms.isCons) (henum : ms'.isEnum = ms.isEnum)
    (hen : spec ms.core.nextId = none → EnumOK ms' ∧ (ms.isEnum = true → ms'.total = ms.total + 1)) :
    Tracked (trackMint m l o) ms' (upd spec ms.core.nextId (some to)) := by
  unfold trackMint
  rw [hret]
  simp only
  rw [if_neg (Nat.not_lt.mpr ha.next)]
  by_cases hown : (ghostOwner m ms.core.nextId).isSome = true
  · rw [if_pos hown]; exact Or.inl rfl
  · rw [if_neg hown, harg]
    obtain ⟨he, hlive⟩ := hen (by rw [← ha.owner]; simpa using hown)
    refine Or.inr ⟨rfl, ha.setOwner rfl rfl rfl hgood ?_ (Nat.le_of_eq hnx.symm)
      (by rw [hnx]; exact Nat.le_succ _) hcons (fun hcc => by rw [hc] at hcc; cases hcc) henum he
      (fun hen => by show m.live + 1 = _; rw [hlive hen, ha.live hen])⟩
    show addBal m.bal to 1 = _
    rw [ha.bal, addBal_one, hcore.1]

theorem trackMintId_live (ha : Live m ms spec) {l : Line} {to id : Nat} (harg : l.arg 0 = to)
    (hid : l.id = id) (hgood : Good ms' (upd spec id (some to))) (hcore : MintStep ms.core ms'.core to 1)
    (hc : ms.isCons = false) (hk : Same ms ms')
    (hen : spec id = none → EnumOK ms' ∧ (ms.isEnum = true → ms'.total = ms.total + 1)) :
    Tracked (trackMintId m l) ms' (upd spec id (some to)) := by
  unfold trackMintId
  rw [hid]
  by_cases hown : (ghostOwner m id).isSome = true
  · rw [if_pos hown]; exact Or.inl rfl
  · rw [if_neg hown, harg]
    obtain ⟨he, hlive⟩ := hen (by rw [← ha.owner]; simpa using hown)
    refine Or.inr ⟨rfl, ha.setOwner rfl rfl rfl hgood ?_ (by rw [hk.nextId]; exact ha.next)
      (Nat.le_of_eq hk.nextId.symm) hk.cons (fun hcc => by rw [hc] at hcc; cases hcc) hk.enum he
      (fun hen => by show m.live + 1 = _; rw [hlive hen, ha.live hen])⟩
    show addBal m.bal to 1 = _
    rw [ha.bal, addBal_one, hcore.1]

theorem trackBatch_live (ha : Live m ms spec) {l : Line} {o : Obs} {to n last : Nat}
    (harg : l.arg 0 = to) (hn : l.n = n) (hret : o.ret = some last) (h1 : 1 ≤ n)
    (hlast : last + 1 = ms.core.nextId + n)
    (hgood : Good ms' (fun id => if ms.core.nextId ≤ id ∧ id < ms.core.nextId + n then some to else spec id))
    (hcore : MintStep ms.core ms'.core to n) (hnx : ms'.core.nextId = ms.core.nextId + n)
    (hc : ms.isCons = true) (henum : ms'.isEnum = ms.isEnum) (he : EnumOK ms') :
    Tracked (trackBatch m l o) ms'
      (fun id => if ms.core.nextId ≤ id ∧ id < ms.core.nextId + n then some to else spec id) := by
  have hfirst : last + 1 - n = ms.core.nextId := by omega
  have hsize : ¬ (last + 1 < n ∨ n = 0) := by omega
  unfold trackBatch
  rw [hret, hn]
  simp only
  rw [hfirst, if_neg hsize, if_neg (Nat.not_lt.mpr ha.next), harg]
  refine Or.inr ⟨rfl, hgood, plainOwner_block ha.owner (ha.over hc) hlast to, ?_, Nat.le_of_eq (hlast.trans hnx.symm), ?_, he, ?_,
    fun e => by rw [henum]; exact ha.flav e⟩
  · show addBal m.bal to (n : Int) = _
    rw [ha.bal, addBal_inc, hcore.1]
  · intro _ p hp
    rw [hnx]; exact Nat.lt_of_lt_of_le (ha.over hc p hp) (Nat.le_add_right _ n)
  · intro hen
    rw [henum, isEnum_of_isCons hc] at hen; cases hen

end live

theorem track_accepted {cfg : Cfg} {m : Mon} {ms ms' : MState} {spec : Nat → Option Nat} {l : Line} {op : Op}
    {r : Option Nat} (ha : Live m ms spec) (hl : l.op = some op)
    (h : ms.apply cfg l.auth op = .ok (ms', r)) (o : Obs) (hok : o.ok = true) (hret : o.ret = r) :
    Tracked (track m l o) ms' (mspecStep spec ms.core.nextId op r) := by
  have hf := mstate_step cfg ha.good h
  have hd := Line.op_inv hl
  have htr : track m l o = trackAccepted m l o := by
    unfold track; rw [if_neg (by simp [hok])]
  rw [htr]
  have hgood := hf.good
  have hcore := hf.core
  have hen := mstate_enum_step cfg ha.good ha.enumOK h
  -- with the line taken apart and its fields replaced by what `op` says they are, `trackAccepted` computes to the
  -- tracking function of the kind, applied to the arguments of `op`
  obtain ⟨kind, a, id, n, lu, auth, q, qa⟩ := l
  cases op with
  | mintSeq to =>
    obtain ⟨rfl, rfl⟩ := hd
    obtain ⟨rfl, hnx, hc⟩ := hf.seq to rfl
    exact trackMint_live ha rfl hret hgood hcore hnx hc hf.cons hf.enum hen
  | mint to id' =>
    obtain ⟨rfl, rfl, rfl⟩ := hd
    exact trackMintId_live ha rfl rfl hgood hcore (hf.expl to id rfl) (hf.same rfl) hen
  | batchMint to n' =>
    dsimp only [Line.Denotes] at hd
    obtain ⟨rfl, rfl, rfl⟩ := hd
    obtain ⟨h1, hr, hnx, hc⟩ := hf.batch to n rfl
    exact trackBatch_live ha rfl rfl (hret.trans hr) h1
      (Nat.sub_add_cancel (Nat.le_trans h1 (Nat.le_add_left n _))) hgood hcore hnx hc hf.enum (hen trivial).1
  | transfer f t id' | transferFrom sp f t id' =>
    obtain ⟨rfl, rfl, rfl⟩ := hd
    obtain ⟨hs, _, hlt⟩ := hf.moves f id rfl
    exact trackMove_live ha rfl hs hgood hcore hlt (hf.same rfl) (hen trivial)
  | burn f id' | burnFrom sp f id' =>
    obtain ⟨rfl, rfl, rfl⟩ := hd
    obtain ⟨hs, _, hlt⟩ := hf.moves f id rfl
    exact trackBurn_live ha rfl hs hgood hcore hlt (hf.same rfl) (hen trivial)
  | approve ap a' id' lu' =>
    obtain ⟨rfl, _⟩ := hd
    obtain ⟨ow', _, hc⟩ : ∃ o, spec id' = some o ∧ approveForOwner cfg ms.core o ap a' id' lu' = .ok ms'.core := hcore
    exact Or.inr ⟨rfl, ha.idle hgood (approveForOwner_fields hc).1 (hf.same rfl) (hen trivial)⟩
  | approveForAll ow p lu' =>
    obtain ⟨rfl, _⟩ := hd
    have hc : approveForAll cfg ms.core auth ow p lu' = .ok ms'.core := hcore
    exact Or.inr ⟨rfl, ha.idle hgood (approveForAll_fields hc).1 (hf.same rfl) (hen trivial)⟩
  | advance k =>
    obtain ⟨rfl, _⟩ := hd
    have hc : ms'.core = ms.core.advance k := hcore
    exact Or.inr ⟨rfl, (ha.setGap _).idle hgood (by rw [hc]; rfl) (hf.same rfl) (hen trivial)⟩

theorem toOption_getTokenId (e : NftEnum.State) (i : Nat) : (NftEnum.getTokenId e i).toOption = e.gTok i := by
  unfold NftEnum.getTokenId; cases e.gTok i <;> rfl

theorem toOption_getOwnerTokenId (e : NftEnum.State) (a i : Nat) :
    (NftEnum.getOwnerTokenId e a i).toOption = e.oTok a i := by
  unfold NftEnum.getOwnerTokenId; cases e.oTok a i <;> rfl

theorem probe_flag {l : Line} {op : Op} (hl : l.op = some op) (acc : Nat) :
    (probeOf op l.a).contains acc = decide (l.kind ≠ .advance ∧ l.a.contains acc = true) := by
  have hd := Line.op_inv hl
  cases op <;> simp_all [Line.Denotes, probeOf]

theorem vUri_none {m : Mon} {ms : MState} {spec : Nat → Option Nat} (ha : Live m ms spec) (l : Line) (o : Obs)
    (huri : o.uri = l.qa.filter ms.uri) : vUri m l o = none := by
  unfold vUri
  rw [if_neg]
  rw [Bool.not_eq_true, List.any_eq_false]
  intro id hid
  have h1 : o.uri.contains id = ms.uri id := by
    rw [huri]
    cases hu : ms.uri id with
    | true => exact List.contains_iff_mem.mpr (List.mem_filter.mpr ⟨hid, hu⟩)
    | false =>
      cases hc : (l.qa.filter ms.uri).contains id with
      | false => rfl
      | true =>
        have := (List.mem_filter.mp (List.contains_iff_mem.mp hc)).2
        rw [hu] at this; cases this
  rw [h1, ha.good.uri, ha.owner]
  simp

theorem vEnum_none {m : Mon} {ms : MState} {spec : Nat → Option Nat} (ha : Live m ms spec)
    (hfl : m.flavour = "enum") (l : Line) (o : Obs) (probe : List Nat)
    (hprobe : ∀ acc, probe.contains acc = decide (l.kind ≠ .advance ∧ l.a.contains acc = true))
    (hts : o.ts = enumTs ms) (hgl : o.gl = enumGl ms) (hol : o.ol = enumOl probe ms) : vEnum m l o = none := by
  have hen := ha.flav hfl
  have hlive := ha.live hen
  have hok := ha.enumOK
  have hgood := ha.good
  have hbal := ha.bal
  cases ms with
  | base s | cons s => cases hen
  | enum e =>
    have hspec : spec = e.owner := Good.enum_inv hgood
    have hinv : NftEnum.EInv e := hok
    have hl : m.live = e.total := hlive
    unfold vEnum
    rw [if_neg (by rw [hts, hl]; simp [enumTs])]
    have hg : checkList "global" o.gl m.live true (fun t => (ghostOwner m t).isSome) = none := by
      rw [hgl, hl]
      have : enumGl (.enum e) = (List.range (if true then e.total + 1 else e.total)).map e.gTok := by
        show (List.range (e.total + 1)).map _ = (List.range (e.total + 1)).map e.gTok
        apply List.map_congr_left; intro i _; exact toOption_getTokenId e i
      rw [this]
      apply checkList_none "global" hinv.glob true
      intro t ht
      rw [ha.owner, hspec]; exact ht
    rw [hg]
    simp only
    rw [List.findSome?_eq_none_iff]
    intro acc hacc
    have hacc := List.mem_range.mp hacc
    unfold vOwnerList
    have hb : m.bal.getD acc 0 = e.bal acc := by
      rw [hbal, List.getD_eq_getElem?_getD, List.getElem?_map, List.getElem?_range hacc]; rfl
    have hlist : o.ol.getD acc [] =
        (List.range (if decide (l.kind ≠ .advance ∧ l.a.contains acc = true) then e.bal acc + 1 else e.bal acc)).map (e.oTok acc) := by
      rw [hol]
      unfold enumOl
      rw [List.getD_eq_getElem?_getD, List.getElem?_map, List.getElem?_range hacc]
      simp only [Option.map_some, Option.getD_some]
      rw [hprobe acc]
      apply List.map_congr_left; intro i _; exact toOption_getOwnerTokenId e acc i
    rw [hb, hlist]
    apply checkList_none _ (hinv.own acc)
    intro t ht
    rw [ha.owner, hspec]; simpa using ht

theorem answers_none {m : Mon} {ms : MState} {spec : Nat → Option Nat} (ha : Live m ms spec) (l : Line)
    (ok : Bool) (ret : Option Nat) (probe dem : List Nat)
    (hprobe : ∀ acc, probe.contains acc = decide (l.kind ≠ .advance ∧ l.a.contains acc = true)) :
    answers m l (obsOf ok ret ms l probe dem) = none := by
  have hrun : ∀ r, RunOK ms.ownerOf r → RunOK (ghostOwner m) r := by
    intro r hr j h1 h2
    rw [ha.owner, ← ha.good.ownerOf]; exact hr j h1 h2
  have h1 : firstBadRun m (obsOf ok ret ms l probe dem).own = none :=
    firstBadRun_none (fun r hr => hrun r (rleRuns_ok ms.ownerOf l.q r hr))
  have h2 : firstBadRun m ((obsOf ok ret ms l probe dem).oq.map (fun (id, ow) => (id, id, ow))) = none := by
    apply firstBadRun_none
    intro r hr
    obtain ⟨p, hp, e⟩ := List.mem_map.mp hr
    obtain ⟨id, _, e'⟩ := List.mem_map.mp (show p ∈ l.qa.map (fun id => (id, ms.ownerOf id)) from hp)
    subst e'; subst e
    apply hrun
    intro j h1 h2
    have : j = id := by
      have h1 : id ≤ j := h1
      have h2 : j ≤ id := h2
      omega
    subst this; rfl
  have h3 : vBalance m (obsOf ok ret ms l probe dem) = none := by
    unfold vBalance; rw [if_neg (by rw [ha.bal]; simp [obsOf])]
  have h4 : vUri m l (obsOf ok ret ms l probe dem) = none := vUri_none ha l _ rfl
  unfold answers
  rw [h1, h2, h3, h4]
  simp only [orElse]
  split
  · rename_i hfl; exact vEnum_none ha hfl l _ probe hprobe rfl rfl rfl
  · rfl

end OZ.NftMon.Own
