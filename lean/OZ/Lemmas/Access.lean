import OZ.Model.Access
import OZ.Lemmas.RoleTransfer
import OZ.Lemmas.SlotIndex
/-
The storage invariant of the access-control model (per role, index map and enumeration are inverse and gap-free; the
existing roles are the roles with members) and its preservation by `add_to_role_enumeration` and
`remove_from_role_enumeration`.
-/
namespace OZ.Access
open OZ.Host OZ.NftEnum

theorem require_true (e : Err) : require true e = .ok () := rfl

theorem require_iff {b : Bool} {e : Err} : require b e = .ok () ↔ b = true := by
  cases b <;> simp [require]

theorem requireAuth_ok {auth : List Nat} {a : Nat} {u : Unit} (h : requireAuth auth a = .ok u) :
    a ∈ auth := by
  simpa using require_iff.mp h

theorem requireAuth_of_mem {auth : List Nat} {a : Nat} (h : a ∈ auth) : requireAuth auth a = .ok () := by
  unfold requireAuth require
  rw [if_pos (by simpa using h)]

theorem upd2_fst_ne {β} {f : Nat → Nat → β} {a b x y : Nat} {v : β} (h : x ≠ a) :
    upd2 f a b v x y = f x y := upd2_other f a b x y v (fun e => h e.1)

theorem upd2_snd_ne {β} {f : Nat → Nat → β} {a b x y : Nat} {v : β} (h : y ≠ b) :
    upd2 f a b v x y = f x y := upd2_other f a b x y v (fun e => h e.2)

theorem cnt_upd_same {s s' : State} {r n : Nat} (h : s'.count = upd s.count r (some n)) :
    cnt s' r = n := by
  unfold cnt; rw [h, upd_same]; rfl

theorem cnt_upd_ne {s s' : State} {r q : Nat} {v : Option Nat} (h : s'.count = upd s.count r v)
    (hq : q ≠ r) : cnt s' q = cnt s q := by
  unfold cnt; rw [h, upd_other _ _ _ _ hq]

def SameRest (s s' : State) : Prop :=
  s'.roleAdmin = s.roleAdmin ∧ s'.adm = s.adm ∧ s'.own = s.own

/-- what `add_to_role_enumeration(account, role)` leaves: the account in the slot after the last one, the role registered
if it had no member -/
structure Appended (s s' : State) (a r : Nat) : Prop where
  accounts : s'.accounts = upd2 s.accounts r (cnt s r) (some a)
  hasRole : s'.hasRole = upd2 s.hasRole a r (some (cnt s r))
  count : s'.count = upd s.count r (some (cnt s r + 1))
  existing : s'.existing = (if cnt s r = 0 then s.existing ++ [r] else s.existing)
  room : cnt s r = 0 → s.existing.length ≠ MAX_ROLES
  rest : SameRest s s'
  events : s'.events = s.events

theorem addToRoleEnumeration_ok {s s' : State} {a r : Nat} (h : addToRoleEnumeration s a r = .ok s') :
    Appended s s' a r := by
  unfold addToRoleEnumeration at h
  obtain ⟨s1, h1, h2⟩ := bind_eq_ok h
  unfold storeMember at h2
  split at h2
  · cases h2
  · injection h2 with h2; subst h2
    unfold noteFirst at h1
    split at h1
    · rename_i h0
      unfold pushExisting at h1
      split at h1
      · cases h1
      · rename_i hl
        injection h1 with h1; subst h1
        exact ⟨rfl, rfl, rfl, (if_pos h0).symm, fun _ => hl, ⟨rfl, rfl, rfl⟩, rfl⟩
    · rename_i h0
      injection h1 with h1; subst h1
      exact ⟨rfl, rfl, rfl, (if_neg h0).symm, fun h => absurd h h0, ⟨rfl, rfl, rfl⟩, rfl⟩

/-- Swap-and-pop: the account `la` of the last slot moves into the slot `idx` of the removed account and the last slot is
dropped. When the removed account is itself the last one nothing is moved, which is the same two updates with `la = a`:
the second update overwrites the first. -/
structure Popped (s s' : State) (a r idx la : Nat) : Prop where
  idx_eq : s.hasRole a r = some idx
  last : idx ≠ cnt s r - 1 → s.accounts r (cnt s r - 1) = some la
  self : idx = cnt s r - 1 → la = a
  accounts : s'.accounts = upd2 (upd2 s.accounts r idx (some la)) r (cnt s r - 1) none
  hasRole : s'.hasRole = upd2 (upd2 s.hasRole la r (some idx)) a r none
  count : s'.count = upd s.count r (some (cnt s r - 1))
  existing : s'.existing = (if cnt s r - 1 = 0 then s.existing.erase r else s.existing)
  rest : SameRest s s'
  events : s'.events = s.events

theorem removeFromRoleEnumeration_ok {s s' : State} {a r : Nat}
    (h : removeFromRoleEnumeration s a r = .ok s') : cnt s r ≠ 0 ∧ ∃ idx la, Popped s s' a r idx la := by
  unfold removeFromRoleEnumeration at h
  split at h
  · cases h
  · rename_i h0
    refine ⟨h0, ?_⟩
    unfold removeIdx at h
    split at h
    · cases h
    · rename_i idx hidx
      unfold removeAt at h
      obtain ⟨s1, h1, h2⟩ := bind_eq_ok h
      injection h2 with h2; subst h2
      unfold swapLast at h1
      split at h1
      · rename_i hne
        split at h1
        · cases h1
        · rename_i la hla
          injection h1 with h1; subst h1
          refine ⟨idx, la, ?_⟩
          unfold forgetIfEmpty dropLast
          split <;> exact ⟨hidx, fun _ => hla, fun e => absurd e hne, rfl, rfl, rfl, by simp [*], ⟨rfl, rfl, rfl⟩, rfl⟩
      · rename_i heq
        have heq : idx = cnt s r - 1 := Decidable.of_not_not heq
        injection h1 with h1; subst h1
        refine ⟨idx, a, ?_⟩
        unfold forgetIfEmpty dropLast
        split <;> exact ⟨hidx, fun hne => absurd heq hne, fun _ => rfl, by rw [heq, upd2_upd2], by rw [heq, upd2_upd2], rfl,
          by simp [*], ⟨rfl, rfl, rfl⟩, rfl⟩

structure RoleInv (s : State) (r : Nat) : Prop where
  fwd : ∀ i, i < cnt s r → ∃ a, s.accounts r i = some a ∧ s.hasRole a r = some i
  beyond : ∀ i, cnt s r ≤ i → s.accounts r i = none
  back : ∀ a i, s.hasRole a r = some i → i < cnt s r ∧ s.accounts r i = some a

structure Inv (s : State) : Prop where
  role : ∀ r, RoleInv s r
  exNodup : s.existing.Nodup
  exIff : ∀ r, r ∈ s.existing ↔ 0 < cnt s r
  exLen : s.existing.length ≤ MAX_ROLES

theorem init_inv (admin owner : Option Nat) (now : Nat) : Inv (init admin owner now) := by
  refine ⟨fun r => ⟨?_, ?_, ?_⟩, List.nodup_nil, ?_, by simp [init, MAX_ROLES]⟩
  · intro i hi; simp [init, cnt] at hi
  · intro i _; rfl
  · intro a i h; simp [init] at h
  · intro r; simp [init, cnt]

theorem RoleInv.lokd {s : State} {r : Nat} (hi : RoleInv s r) :
    LOKD (s.accounts r) (fun a => s.hasRole a r) (cnt s r) :=
  ⟨fun i h => let ⟨a, h1, h2⟩ := hi.fwd i h; ⟨a, h1, h2, Option.isSome_iff_exists.mpr ⟨i, h2⟩⟩,
   fun a h => let ⟨i, hi'⟩ := Option.isSome_iff_exists.mp h; ⟨i, (hi.back a i hi').1, hi', (hi.back a i hi').2⟩,
   hi.beyond⟩

theorem RoleInv.of_lokd {s : State} {r : Nat} (h : LOKD (s.accounts r) (fun a => s.hasRole a r) (cnt s r)) :
    RoleInv s r :=
  ⟨fun i hi => let ⟨a, h1, h2, _⟩ := h.1 i hi; ⟨a, h1, h2⟩, h.2.2, fun _ _ => h.idx_lt⟩

theorem RoleInv.congr {s s' : State} {r : Nat} (hi : RoleInv s r)
    (h1 : ∀ i, s'.accounts r i = s.accounts r i) (h2 : ∀ a, s'.hasRole a r = s.hasRole a r)
    (hc : cnt s' r = cnt s r) : RoleInv s' r :=
  .of_lokd (LOKD_congr hi.lokd h1 h2 hc)

theorem RoleInv.last_account {s s' : State} {a r idx la : Nat} (hi : RoleInv s r) (w : Popped s s' a r idx la) :
    s.accounts r (cnt s r - 1) = some la ∧ s.hasRole la r = some (cnt s r - 1) := by
  by_cases e : idx = cnt s r - 1
  · rw [w.self e, ← e]; exact ⟨(hi.back a idx w.idx_eq).2, w.idx_eq⟩
  · exact ⟨w.last e, (hi.lokd.tok_lt (w.last e)).2⟩

-- `idx` is given here and in `roleInv_remove`: from `hn` / `w.idx_eq` alone unification takes `s.hasRole a` for it
theorem roleInv_add {s s' : State} {a r : Nat} (hi : RoleInv s r) (hn : s.hasRole a r = none)
    (w : Appended s s' a r) : RoleInv s' r :=
  .of_lokd (LOKD_congr (LOKD_add (idx := fun b => s.hasRole b r) hi.lokd hn) (fun i => by rw [w.accounts, upd2_row])
    (fun b => by rw [w.hasRole, upd2_col]) (cnt_upd_same w.count))

theorem roleInv_remove {s s' : State} {a r idx la : Nat} (hi : RoleInv s r) (w : Popped s s' a r idx la) :
    RoleInv s' r := by
  have hpos : cnt s r - 1 + 1 = cnt s r :=
    Nat.sub_add_cancel (Nat.lt_of_le_of_lt (Nat.zero_le _) (hi.back a idx w.idx_eq).1)
  have hcol : ∀ b, s'.hasRole b r = upd (upd (fun b => s.hasRole b r) la (some idx)) a none b := fun b => by
    rw [w.hasRole, upd2_col]; unfold upd; split
    · rfl
    · exact upd2_col ..
  have hrow : ∀ i, s'.accounts r i = upd (upd (s.accounts r) idx (some la)) (cnt s r - 1) none i := fun i => by
    rw [w.accounts, upd2_row]; unfold upd; split
    · rfl
    · exact upd2_row ..
  exact .of_lokd (LOKD_congr (LOKD_remove (idx := fun b => s.hasRole b r) (n := cnt s r - 1) (id := a)
    (hpos ▸ hi.lokd) w.idx_eq (hi.last_account w).1) hrow hcol (cnt_upd_same w.count))

/-- a role other than the one touched is not affected by `upd2 _ _ r _` / `upd _ r _` -/
theorem roleInv_other {s s' : State} {r q : Nat} (_hq : q ≠ r) (hi : RoleInv s q)
    (h1 : ∀ i, s'.accounts q i = s.accounts q i) (h2 : ∀ a, s'.hasRole a q = s.hasRole a q)
    (h3 : s'.count q = s.count q) : RoleInv s' q := hi.congr h1 h2 (by unfold cnt; rw [h3])

theorem add_inv {s s' : State} {a r : Nat} (hi : Inv s) (hn : s.hasRole a r = none)
    (h : addToRoleEnumeration s a r = .ok s') : Inv s' := by
  have w := addToRoleEnumeration_ok h
  have hcr : cnt s' r = cnt s r + 1 := cnt_upd_same w.count
  have hco : ∀ q, q ≠ r → cnt s' q = cnt s q := fun q hq => cnt_upd_ne w.count hq
  refine ⟨?_, ?_, ?_, ?_⟩
  · intro q
    by_cases hq : q = r
    · subst hq; exact roleInv_add (hi.role q) hn w
    · refine (hi.role q).congr ?_ ?_ ?_
      · intro i; rw [w.accounts, upd2_fst_ne hq]
      · intro b; rw [w.hasRole, upd2_snd_ne hq]
      · exact hco q hq
  · rw [w.existing]
    split
    · rename_i h0
      have hnot : r ∉ s.existing := fun hm => by have := (hi.exIff r).mp hm; omega
      rw [List.nodup_append]
      refine ⟨hi.exNodup, by simp, ?_⟩
      intro x hx y hy
      simp only [List.mem_singleton] at hy
      subst hy
      intro e; subst e; exact hnot hx
    · exact hi.exNodup
  · intro q
    rw [w.existing]
    by_cases hq : q = r
    · subst hq
      rw [hcr]
      split
      · simp
      · rename_i h0
        constructor
        · intro _; omega
        · intro _; exact (hi.exIff q).mpr (by omega)
    · rw [hco q hq]
      split
      · rw [List.mem_append]
        simp only [List.mem_singleton]
        constructor
        · rintro (h | h)
          · exact (hi.exIff q).mp h
          · exact absurd h hq
        · intro h; exact Or.inl ((hi.exIff q).mpr h)
      · exact hi.exIff q
  · rw [w.existing]
    split
    · rename_i h0
      have := w.room h0
      have := hi.exLen
      rw [List.length_append]
      simp only [List.length_singleton]
      omega
    · exact hi.exLen

theorem remove_inv {s s' : State} {a r : Nat} (hi : Inv s)
    (h : removeFromRoleEnumeration s a r = .ok s') : Inv s' := by
  obtain ⟨h0, idx, la, w⟩ := removeFromRoleEnumeration_ok h
  have hcr : cnt s' r = cnt s r - 1 := cnt_upd_same w.count
  have hco : ∀ q, q ≠ r → cnt s' q = cnt s q := fun q hq => cnt_upd_ne w.count hq
  refine ⟨?_, ?_, ?_, ?_⟩
  · intro q
    by_cases hq : q = r
    · subst hq; exact roleInv_remove (hi.role q) w
    · refine (hi.role q).congr ?_ ?_ ?_
      · intro i; rw [w.accounts, upd2_fst_ne hq, upd2_fst_ne hq]
      · intro b; rw [w.hasRole, upd2_snd_ne hq, upd2_snd_ne hq]
      · exact hco q hq
  · rw [w.existing]; split
    · exact hi.exNodup.erase r
    · exact hi.exNodup
  · intro q
    rw [w.existing]
    by_cases hq : q = r
    · subst hq
      rw [hcr]
      split
      · rename_i hz
        rw [hi.exNodup.mem_erase_iff]
        constructor
        · intro h; exact absurd rfl h.1
        · intro h; omega
      · rename_i hz
        constructor
        · intro _; omega
        · intro _; exact (hi.exIff q).mpr (by omega)
    · rw [hco q hq]
      split
      · rw [List.mem_erase_of_ne hq]; exact hi.exIff q
      · exact hi.exIff q
  · rw [w.existing]; split
    · have := hi.exLen
      have hl := List.length_erase_le (a := r) (l := s.existing)
      omega
    · exact hi.exLen

theorem Inv.congr {s s' : State} (hi : Inv s) (h1 : s'.accounts = s.accounts)
    (h2 : s'.hasRole = s.hasRole) (h3 : ∀ r, cnt s' r = cnt s r) (h4 : s'.existing = s.existing) :
    Inv s' := by
  refine ⟨fun r => (hi.role r).congr (fun _ => by rw [h1]) (fun _ => by rw [h2]) (h3 r),
    by rw [h4]; exact hi.exNodup, ?_, by rw [h4]; exact hi.exLen⟩
  intro r; rw [h4, h3]; exact hi.exIff r

end OZ.Access
