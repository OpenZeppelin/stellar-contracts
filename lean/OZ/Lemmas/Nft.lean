import OZ.Lemmas.Except
import OZ.Model.Nft
import OZ.Lemmas.Host
/-
The base NFT model: the approval functions and `debit` / `credit` / `update` read once, exactly, as equations of
states; what an accepted `apply` ran, by operation (`apply_ran`); and the invariant `Inv` (the token list has no
duplicates, every balance counts what the owner map gives the account), kept under the fresh-id hypothesis `FreshOp`.
-/
namespace OZ.NftMon
open OZ.Host OZ.Nft

def MintStep (c c' : Core) (to n : Nat) : Prop :=
  c'.bal = upd c.bal to (c.bal to + n) ∧ c'.approval = c.approval ∧ c'.operator = c.operator ∧ c'.now = c.now

/-- `to = none`: the token is burned -/
def moveBal (bal : Nat → Nat) (f : Nat) (to : Option Nat) : Nat → Nat :=
  match to with
  | some t => upd (upd bal f (bal f - 1)) t (upd bal f (bal f - 1) t + 1)
  | none => upd bal f (bal f - 1)

def MoveStep (c c' : Core) (f : Nat) (to : Option Nat) (id : Nat) : Prop :=
  c'.bal = moveBal c.bal f to ∧ c'.approval = upd c.approval id none ∧ c'.operator = c.operator ∧ c'.now = c.now

end OZ.NftMon

namespace OZ.Nft
open OZ.Host

theorem pure_eq_ok {ε α} {a b : α} (h : (pure a : Except ε α) = .ok b) : a = b := by
  injection h

theorem ok_unique {ε α : Type} {x : Except ε α} {P : α → Prop} (h : ∃ a, x = .ok a ∧ P a) {a : α}
    (ha : x = .ok a) : P a := by
  obtain ⟨a', h1, h2⟩ := h
  rw [h1] at ha; cases ha; exact h2

theorem requireAuth_ok {auth : List Nat} {a : Nat} {u : Unit} (h : requireAuth auth a = .ok u) :
    a ∈ auth := by
  unfold requireAuth at h
  split at h
  · assumption
  · cases h

def cnt (L : List Nat) (own : Nat → Option Nat) (a : Nat) : Nat :=
  (L.filter (fun t => decide (own t = some a))).length

theorem cnt_nil (own : Nat → Option Nat) (a : Nat) : cnt [] own a = 0 := rfl

theorem cnt_cons (x : Nat) (L : List Nat) (own : Nat → Option Nat) (a : Nat) :
    cnt (x :: L) own a = (if own x = some a then 1 else 0) + cnt L own a := by
  unfold cnt
  rw [List.filter_cons]
  by_cases h : own x = some a
  · simp [h]; omega
  · simp [h]

theorem cnt_upd_notin (L : List Nat) (own : Nat → Option Nat) (id : Nat) (v : Option Nat) (a : Nat)
    (h : id ∉ L) : cnt L (upd own id v) a = cnt L own a := by
  induction L with
  | nil => rfl
  | cons x xs ih =>
    have hx : x ≠ id := fun e => h (by simp [e])
    have hxs : id ∉ xs := fun e => h (by simp [e])
    rw [cnt_cons, cnt_cons, upd_other _ _ _ _ hx, ih hxs]

theorem cnt_upd_in (L : List Nat) (own : Nat → Option Nat) (id : Nat) (v : Option Nat) (a : Nat)
    (hn : L.Nodup) (h : id ∈ L) :
    cnt L (upd own id v) a + (if own id = some a then 1 else 0)
      = cnt L own a + (if v = some a then 1 else 0) := by
  induction L with
  | nil => cases h
  | cons x xs ih =>
    have hnx : x ∉ xs := (List.nodup_cons.mp hn).1
    have hnxs : xs.Nodup := (List.nodup_cons.mp hn).2
    rw [cnt_cons, cnt_cons]
    by_cases hx : x = id
    · subst hx
      rw [upd_same, cnt_upd_notin _ _ _ _ _ hnx]; omega
    · have hxs : id ∈ xs := List.mem_of_ne_of_mem (fun e => hx e.symm) h
      rw [upd_other _ _ _ _ hx]
      have := ih hnxs hxs
      omega

theorem cnt_erase (L : List Nat) (own : Nat → Option Nat) (id : Nat) (a : Nat)
    (hn : L.Nodup) (h : id ∈ L) :
    cnt (L.erase id) own a + (if own id = some a then 1 else 0) = cnt L own a := by
  induction L with
  | nil => cases h
  | cons x xs ih =>
    have hnxs : xs.Nodup := (List.nodup_cons.mp hn).2
    by_cases hx : x = id
    · subst hx
      rw [List.erase_cons_head, cnt_cons]; omega
    · have hxs : id ∈ xs := List.mem_of_ne_of_mem (fun e => hx e.symm) h
      rw [List.erase_cons_tail (by simpa using hx), cnt_cons, cnt_cons]
      have := ih hnxs hxs
      omega

theorem cnt_congr (L : List Nat) (own own' : Nat → Option Nat) (a : Nat)
    (h : ∀ t, t ∈ L → own' t = own t) : cnt L own' a = cnt L own a := by
  induction L with
  | nil => rfl
  | cons x xs ih =>
    rw [cnt_cons, cnt_cons, h x (by simp), ih (fun t ht => h t (by simp [ht]))]

def ownedBy (L : List Nat) (own : Nat → Option Nat) (a : Nat) : List Nat :=
  L.filter (fun t => decide (own t = some a))

theorem ownedBy_length (L : List Nat) (own : Nat → Option Nat) (a : Nat) :
    (ownedBy L own a).length = cnt L own a := rfl

theorem ownedBy_nodup {L : List Nat} (hn : L.Nodup) (own : Nat → Option Nat) (a : Nat) :
    (ownedBy L own a).Nodup := hn.filter _

theorem mem_ownedBy {L : List Nat} {own : Nat → Option Nat} {a t : Nat} :
    t ∈ ownedBy L own a ↔ t ∈ L ∧ own t = some a := by
  simp [ownedBy, List.mem_filter]

theorem cnt_append (L1 L2 : List Nat) (own : Nat → Option Nat) (a : Nat) :
    cnt (L1 ++ L2) own a = cnt L1 own a + cnt L2 own a := by
  unfold cnt; rw [List.filter_append, List.length_append]

theorem cnt_pos {L : List Nat} {own : Nat → Option Nat} {id a : Nat} (hin : id ∈ L)
    (hown : own id = some a) : 1 ≤ cnt L own a := by
  have : id ∈ ownedBy L own a := mem_ownedBy.mpr ⟨hin, hown⟩
  have := List.length_pos_of_mem this
  rw [ownedBy_length] at this; omega

theorem bal_burn {L : List Nat} {own : Nat → Option Nat} {bal : Nat → Nat} {f id : Nat}
    (hn : L.Nodup) (hin : id ∈ L) (hown : own id = some f) (hb : ∀ a, bal a = cnt L own a) :
    ∀ a, upd bal f (bal f - 1) a = cnt L (upd own id none) a := by
  intro a
  have hc := cnt_upd_in L own id none a hn hin
  have hba := hb a
  rw [hown] at hc
  by_cases haf : a = f
  · subst haf; rw [upd_same]; simp at hc; omega
  · rw [upd_other _ _ _ _ haf]
    have : ¬ (some f = some a) := by intro e; injection e with e; exact haf e.symm
    simp [this] at hc; omega

theorem bal_credit {L : List Nat} {own : Nat → Option Nat} {bal : Nat → Nat} {to id : Nat}
    (hn : L.Nodup) (hin : id ∈ L) (hown : own id = none) (hb : ∀ a, bal a = cnt L own a) :
    ∀ a, upd bal to (bal to + 1) a = cnt L (upd own id (some to)) a := by
  intro a
  have hc := cnt_upd_in L own id (some to) a hn hin
  rw [hown, if_neg nofun, Nat.add_zero] at hc
  rw [hc, ← hb a]
  by_cases hat : a = to
  · subst hat; rw [upd_same, if_pos rfl]
  · rw [upd_other _ _ _ _ hat, if_neg (fun e => hat (Option.some.inj e).symm)]; rfl

/-- a transfer is a burn followed by a credit of the then unowned token -/
theorem bal_move {L : List Nat} {own : Nat → Option Nat} {bal : Nat → Nat} {f to id : Nat}
    (hn : L.Nodup) (hin : id ∈ L) (hown : own id = some f) (hb : ∀ a, bal a = cnt L own a) :
    ∀ a, upd (upd bal f (bal f - 1)) to (upd bal f (bal f - 1) to + 1) a
      = cnt L (upd own id (some to)) a := by
  rw [← upd_upd own id none (some to)]
  exact bal_credit hn hin (upd_same ..) (bal_burn hn hin hown hb)

theorem increaseBalance_ok {c c' : Core} {to n : Nat} (h : increaseBalance c to n = .ok c') :
    c' = { c with bal := upd c.bal to (c.bal to + n) } ∧ c.bal to + n ≤ U32_MAX := by
  unfold increaseBalance at h
  split at h
  · cases h
  · injection h with h; exact ⟨h.symm, by omega⟩

theorem decreaseBalance_ok {c c' : Core} {f n : Nat} (h : decreaseBalance c f n = .ok c') :
    c' = { c with bal := upd c.bal f (c.bal f - n) } ∧ n ≤ c.bal f := by
  unfold decreaseBalance at h
  split at h
  · cases h
  · injection h with h; exact ⟨h.symm, by omega⟩

theorem incrementTokenId_ok {c c' : Core} {n id : Nat} (h : incrementTokenId c n = .ok (c', id)) :
    c' = { c with nextId := c.nextId + n } ∧ id = c.nextId ∧ c.nextId + n ≤ U32_MAX := by
  unfold incrementTokenId at h
  split at h
  · cases h
  · injection h with h; injection h with h1 h2; exact ⟨h1.symm, h2.symm, by omega⟩

/-- `set` then `extend_ttl(lu - now, lu - now)` at a ledger `now ≤ lu` -/
theorem extend_set_eq_some_iff {α : Type} {cfg : Cfg} {t : Option (Temp α)} {now lu : Nat} {v : α} {e : Temp α}
    (hlu : now ≤ lu) :
    Temp.extend cfg (Temp.set cfg t now v) now (lu - now) (lu - now) = some e ↔
      lu ≤ cfg.maxLiveUntil now ∧
        e = { Temp.set cfg t now v with liveUntil := max (Temp.set cfg t now v).liveUntil lu } := by
  have := Temp.extend_eq_some_iff cfg (Temp.set cfg t now v) e now (lu - now)
  rwa [show now + (lu - now) = lu by omega] at this

/-- the entry `approve` / `approve_for_all` leave under their key (`t`: the entry found there) -/
def liveEntry {α : Type} (cfg : Cfg) (t : Option (Temp α)) (now lu : Nat) (v : α) : Option (Temp α) :=
  if lu = 0 then none
  else some { Temp.set cfg t now v with liveUntil := max (Temp.set cfg t now v).liveUntil lu }

theorem liveEntry_zero {α : Type} {cfg : Cfg} {t : Option (Temp α)} {now lu : Nat} {v : α} (h : lu = 0) :
    liveEntry cfg t now lu v = none := if_pos h

theorem liveEntry_pos {α : Type} {cfg : Cfg} {t : Option (Temp α)} {now lu : Nat} {v : α} (h : lu ≠ 0) :
    ∃ e, liveEntry cfg t now lu v = some e ∧ e.val = v ∧ lu ≤ e.liveUntil :=
  ⟨_, if_neg h, Temp.set_val cfg t now v, Nat.le_max_right ..⟩

theorem liveEntry_eq_some {α : Type} {cfg : Cfg} {t : Option (Temp α)} {now lu : Nat} {v : α} {e : Temp α}
    (h : liveEntry cfg t now lu v = some e) : lu ≠ 0 ∧ e.val = v ∧ lu ≤ e.liveUntil := by
  by_cases h0 : lu = 0
  · rw [liveEntry_zero h0] at h; cases h
  · obtain ⟨e', he', hv, hl⟩ := liveEntry_pos (cfg := cfg) (t := t) (now := now) (v := v) h0
    cases he'.symm.trans h
    exact ⟨h0, hv, hl⟩

/-- the `live_until_ledger` window `approve` / `approve_for_all` accept: 0 (revoke), or between the
current ledger and the host's `max_live_until_ledger` -/
def LiveUntilOK (cfg : Cfg) (now lu : Nat) : Prop := lu = 0 ∨ (now ≤ lu ∧ lu ≤ cfg.maxLiveUntil now)

theorem approveForOwner_eq_ok_iff {cfg : Cfg} {c c' : Core} {o ap a id lu : Nat} :
    approveForOwner cfg c o ap a id lu = .ok c' ↔
      (ap = o ∨ isApprovedForAll c o ap = true) ∧ LiveUntilOK cfg c.now lu ∧
        c' = { c with approval := upd c.approval id (liveEntry cfg (c.approval id) c.now lu ⟨a, lu⟩) } := by
  unfold approveForOwner LiveUntilOK liveEntry
  by_cases hap : ap = o ∨ isApprovedForAll c o ap = true
  · rw [if_neg (fun h => hap.elim h.1 (fun e => by rw [h.2] at e; cases e))]
    by_cases h0 : lu = 0
    · rw [if_pos h0, if_pos h0]
      exact ⟨fun h => ⟨hap, Or.inl h0, (Except.ok.inj h).symm⟩, fun h => by rw [h.2.2]; rfl⟩
    · rw [if_neg h0, if_neg h0]
      by_cases hlt : lu < c.now
      · rw [if_pos hlt]
        exact ⟨nofun, fun h => by have := h.2.1; omega⟩
      · rw [if_neg hlt]
        have key := fun e => extend_set_eq_some_iff (cfg := cfg) (t := c.approval id) (v := (⟨a, lu⟩ : ApprovalData))
          (e := e) (Nat.le_of_not_lt hlt)
        unfold storeApproval
        constructor
        · intro h
          split at h
          · cases h
          · rename_i e he
            obtain ⟨hm, rfl⟩ := (key e).mp he
            exact ⟨hap, Or.inr ⟨Nat.le_of_not_lt hlt, hm⟩, (Except.ok.inj h).symm⟩
        · rintro ⟨_, hl, rfl⟩
          have hm : lu ≤ cfg.maxLiveUntil c.now := hl.elim (fun e => absurd e h0) (·.2)
          have := (key _).mpr ⟨hm, rfl⟩
          simp only at this ⊢
          rw [this]
  · rw [if_pos ⟨fun e => hap (Or.inl e), by
      cases hb : isApprovedForAll c o ap
      · rfl
      · exact absurd (Or.inr hb) hap⟩]
    exact ⟨nofun, fun h => absurd h.1 hap⟩

theorem approveForAll_eq_ok_iff {cfg : Cfg} {c c' : Core} {auth : List Nat} {o p lu : Nat} :
    approveForAll cfg c auth o p lu = .ok c' ↔
      o ∈ auth ∧ LiveUntilOK cfg c.now lu ∧
        c' = { c with operator := upd2 c.operator o p (liveEntry cfg (c.operator o p) c.now lu lu) } := by
  unfold approveForAll LiveUntilOK liveEntry
  by_cases ha : o ∈ auth
  · rw [show requireAuth auth o = .ok () from if_pos ha, ok_bind]
    by_cases h0 : lu = 0
    · rw [if_pos h0, if_pos h0]
      exact ⟨fun h => ⟨ha, Or.inl h0, (Except.ok.inj h).symm⟩, fun h => by rw [h.2.2]; rfl⟩
    · rw [if_neg h0, if_neg h0]
      by_cases hlt : lu < c.now
      · rw [if_pos hlt]
        exact ⟨nofun, fun h => by have := h.2.1; omega⟩
      · rw [if_neg hlt]
        have key := fun e => extend_set_eq_some_iff (cfg := cfg) (t := c.operator o p) (v := lu) (e := e)
          (Nat.le_of_not_lt hlt)
        unfold storeOperator
        constructor
        · intro h
          split at h
          · cases h
          · rename_i e he
            obtain ⟨hm, rfl⟩ := (key e).mp he
            exact ⟨ha, Or.inr ⟨Nat.le_of_not_lt hlt, hm⟩, (Except.ok.inj h).symm⟩
        · rintro ⟨_, hl, rfl⟩
          have hm : lu ≤ cfg.maxLiveUntil c.now := hl.elim (fun e => absurd e h0) (·.2)
          rw [(key _).mpr ⟨hm, rfl⟩]
  · rw [show requireAuth auth o = .error .auth from if_neg ha]
    exact ⟨nofun, fun h => absurd h.1 ha⟩

theorem approveForOwner_fields {cfg : Cfg} {c c' : Core} {o ap a id lu : Nat}
    (h : approveForOwner cfg c o ap a id lu = .ok c') : c'.bal = c.bal ∧ c'.nextId = c.nextId := by
  obtain ⟨_, _, rfl⟩ := approveForOwner_eq_ok_iff.mp h
  exact ⟨rfl, rfl⟩

theorem approveForAll_fields {cfg : Cfg} {c c' : Core} {auth : List Nat} {o p lu : Nat}
    (h : approveForAll cfg c auth o p lu = .ok c') :
    c'.bal = c.bal ∧ c'.nextId = c.nextId ∧ c'.approval = c.approval ∧ c'.now = c.now := by
  obtain ⟨_, _, rfl⟩ := approveForAll_eq_ok_iff.mp h
  exact ⟨rfl, rfl, rfl, rfl⟩

theorem ownerOf_ok {s : State} {id a : Nat} (h : ownerOf s id = .ok a) : s.owner id = some a := by
  unfold ownerOf at h
  split at h
  · injection h with h; subst h; assumption
  · cases h

theorem checkOwner_ok {o f : Nat} {u : Unit} (h : checkOwner o f = .ok u) : o = f := by
  unfold checkOwner at h
  split at h
  · cases h
  · rename_i hn; exact Classical.not_not.mp hn

theorem debit_none (s : State) (id : Nat) : debit s none id = .ok s := rfl

theorem debit_eq_ok_iff {s s1 : State} {f id : Nat} :
    debit s (some f) id = .ok s1 ↔ s.owner id = some f ∧ 1 ≤ s.bal f ∧
      s1 = { s with bal := upd s.bal f (s.bal f - 1), approval := upd s.approval id none } := by
  unfold debit
  simp only
  constructor
  · intro h
    obtain ⟨o, ho, h⟩ := bind_eq_ok h
    obtain ⟨_, hc, h⟩ := bind_eq_ok h
    obtain ⟨c, hd, h⟩ := bind_eq_ok h
    cases checkOwner_ok hc
    obtain ⟨rfl, hle⟩ := decreaseBalance_ok hd
    exact ⟨ownerOf_ok ho, hle, (pure_eq_ok h).symm⟩
  · rintro ⟨ho, hb, rfl⟩
    have h1 : ownerOf s id = .ok f := by unfold ownerOf; rw [ho]
    have h2 : checkOwner f f = .ok () := if_neg (fun h => h rfl)
    have h3 : decreaseBalance s.toCore f 1 = .ok { s.toCore with bal := upd s.bal f (s.bal f - 1) } :=
      if_neg (by omega)
    rw [h1, ok_bind, h2, ok_bind, h3, ok_bind]
    rfl

theorem credit_none (s : State) (id : Nat) :
    credit s none id = .ok { s with owner := upd s.owner id none } := rfl

theorem credit_some_eq_ok_iff {s s1 : State} {t id : Nat} :
    credit s (some t) id = .ok s1 ↔ s.bal t + 1 ≤ U32_MAX ∧
      s1 = { s with bal := upd s.bal t (s.bal t + 1), owner := upd s.owner id (some t) } := by
  unfold credit increaseBalance
  by_cases hb : s.bal t + 1 > U32_MAX
  · simp only [if_pos hb]; exact ⟨nofun, fun h => by omega⟩
  · simp only [if_neg hb, ok_bind]
    exact ⟨fun h => ⟨by omega, (pure_eq_ok h).symm⟩, fun h => h.2 ▸ rfl⟩

/-- the `checked_add` of the `to` branch of `update`, on the balances the `from` branch left -/
def CreditOK (bal : Nat → Nat) : Option Nat → Prop
  | some t => bal t + 1 ≤ U32_MAX
  | none => True

theorem update_from_eq_ok_iff {s s' : State} {f id : Nat} {to : Option Nat} :
    update s (some f) to id = .ok s' ↔ s.owner id = some f ∧ 1 ≤ s.bal f ∧
      CreditOK (upd s.bal f (s.bal f - 1)) to ∧
      s' = { toCore := { s.toCore with bal := NftMon.moveBal s.bal f to, approval := upd s.approval id none },
             owner := upd s.owner id to } := by
  unfold update
  rw [bind_eq_ok_iff]
  constructor
  · rintro ⟨s1, hd, hc⟩
    obtain ⟨ho, hb, rfl⟩ := debit_eq_ok_iff.mp hd
    cases to with
    | some t => obtain ⟨hle, rfl⟩ := credit_some_eq_ok_iff.mp hc; exact ⟨ho, hb, hle, rfl⟩
    | none => cases hc; exact ⟨ho, hb, trivial, rfl⟩
  · rintro ⟨ho, hb, hc, rfl⟩
    refine ⟨_, debit_eq_ok_iff.mpr ⟨ho, hb, rfl⟩, ?_⟩
    cases to with
    | some t => exact credit_some_eq_ok_iff.mpr ⟨hc, rfl⟩
    | none => rfl

theorem update_mint_eq_ok_iff {s s' : State} {t id : Nat} :
    update s none (some t) id = .ok s' ↔ s.bal t + 1 ≤ U32_MAX ∧
      s' = { s with bal := upd s.bal t (s.bal t + 1), owner := upd s.owner id (some t) } :=
  credit_some_eq_ok_iff

theorem sequentialMint_ok {s s' : State} {to id : Nat} (h : sequentialMint s to = .ok (s', id)) :
    id = s.nextId ∧ s.nextId + 1 ≤ U32_MAX ∧
    update { s with nextId := s.nextId + 1 } none (some to) id = .ok s' := by
  unfold sequentialMint at h
  obtain ⟨⟨c, i⟩, h1, h⟩ := bind_eq_ok h
  obtain ⟨s2, h2, h⟩ := bind_eq_ok h
  have h := pure_eq_ok h
  injection h with ha hb
  subst ha; subst hb
  obtain ⟨hc, hi, hle⟩ := incrementTokenId_ok h1
  subst hc
  exact ⟨hi, hle, h2⟩

/-- the fresh-id hypothesis under which minting is specified: the id being minted (explicitly,
or the next sequential one) has no owner at that time -/
def FreshOp (s : State) : Op → Prop
  | .mint _ id => s.owner id = none
  | .mintSeq _ => s.owner s.nextId = none
  | _ => True

instance (s : State) (op : Op) : Decidable (FreshOp s op) := by
  cases op <;> unfold FreshOp <;> infer_instance

def Op.moves : Op → Option (Nat × Nat)
  | .transfer f _ id => some (f, id)
  | .transferFrom _ f _ id => some (f, id)
  | .burn f id => some (f, id)
  | .burnFrom _ f id => some (f, id)
  | _ => none

/-- `ret`: the id a sequential mint returned -/
def specStep (own : Nat → Option Nat) (op : Op) (ret : Option Nat) : Nat → Option Nat :=
  match op, ret with
  | .mintSeq to, some id => upd own id (some to)
  | .mint to id, _ => upd own id (some to)
  | .transfer _ t id, _ => upd own id (some t)
  | .transferFrom _ _ t id, _ => upd own id (some t)
  | .burn _ id, _ => upd own id none
  | .burnFrom _ _ id, _ => upd own id none
  | _, _ => own

def listStep (L : List Nat) (op : Op) (ret : Option Nat) : List Nat :=
  match op, ret with
  | .mintSeq _, some id => id :: L
  | .mint _ id, _ => id :: L
  | .burn _ id, _ => L.erase id
  | .burnFrom _ _ id, _ => L.erase id
  | _, _ => L

structure Inv (L : List Nat) (s : State) : Prop where
  nodup : L.Nodup
  mem : ∀ t, t ∈ L ↔ (s.owner t).isSome
  bal : ∀ a, s.bal a = cnt L s.owner a

theorem init_inv (now : Nat) : Inv [] (init now) :=
  ⟨List.nodup_nil, by intro t; simp [init], by intro a; rfl⟩

theorem Inv.balance_counts {L : List Nat} {s : State} (hi : Inv L s) (a : Nat) :
    ∃ l : List Nat, l.Nodup ∧ (∀ t, t ∈ l ↔ s.owner t = some a) ∧ l.length = s.bal a :=
  ⟨ownedBy L s.owner a, ownedBy_nodup hi.nodup _ a,
    fun t => mem_ownedBy.trans ⟨fun h => h.2, fun h => ⟨(hi.mem t).mpr (by rw [h]; rfl), h⟩⟩,
    (ownedBy_length ..).trans (hi.bal a).symm⟩

theorem mint_inv {L : List Nat} {s s' : State} {to id : Nat} (hi : Inv L s)
    (hfresh : s.owner id = none) (h : update s none (some to) id = .ok s') :
    Inv (id :: L) s' := by
  obtain ⟨_, rfl⟩ := update_mint_eq_ok_iff.mp h
  have hnot : id ∉ L := by
    intro hm; have := (hi.mem id).mp hm; rw [hfresh] at this; cases this
  have hnd := List.nodup_cons.mpr ⟨hnot, hi.nodup⟩
  refine ⟨hnd, ?_, ?_⟩
  · intro t
    by_cases ht : t = id
    · subst ht; simp [upd_same]
    · simp only [List.mem_cons, ht, false_or]
      show t ∈ L ↔ (upd s.owner id (some to) t).isSome
      rw [upd_other _ _ _ _ ht]; exact hi.mem t
  · -- the new token enters the list unowned, then it is credited
    refine bal_credit hnd List.mem_cons_self hfresh fun a => ?_
    rw [cnt_cons, hfresh, if_neg nofun, Nat.zero_add]; exact hi.bal a

theorem transfer_inv {L : List Nat} {s s' : State} {f to id : Nat} (hi : Inv L s)
    (h : update s (some f) (some to) id = .ok s') :
    Inv L s' := by
  obtain ⟨hown, _, _, rfl⟩ := update_from_eq_ok_iff.mp h
  have hin : id ∈ L := (hi.mem id).mpr (by rw [hown]; rfl)
  refine ⟨hi.nodup, ?_, bal_move hi.nodup hin hown hi.bal⟩
  intro t
  show t ∈ L ↔ (upd s.owner id (some to) t).isSome
  by_cases ht : t = id
  · subst ht; rw [upd_same]; simp [hin]
  · rw [upd_other _ _ _ _ ht]; exact hi.mem t

theorem burn_inv {L : List Nat} {s s' : State} {f id : Nat} (hi : Inv L s)
    (h : update s (some f) none id = .ok s') :
    Inv (L.erase id) s' := by
  obtain ⟨hown, _, _, rfl⟩ := update_from_eq_ok_iff.mp h
  have hin : id ∈ L := (hi.mem id).mpr (by rw [hown]; rfl)
  refine ⟨hi.nodup.erase id, ?_, ?_⟩
  · intro t
    show t ∈ L.erase id ↔ (upd s.owner id none t).isSome
    by_cases ht : t = id
    · subst ht; rw [upd_same]
      simp [hi.nodup.mem_erase_iff]
    · rw [upd_other _ _ _ _ ht, hi.nodup.mem_erase_iff]
      simp [ht, hi.mem t]
  · intro a
    show upd s.bal f (s.bal f - 1) a = cnt (L.erase id) (upd s.owner id none) a
    -- the erased token counts for nobody
    have hc := cnt_erase L (upd s.owner id none) id a hi.nodup hin
    rw [upd_same, if_neg (by intro e; cases e)] at hc
    rw [bal_burn hi.nodup hin hown hi.bal a]
    exact hc.symm

theorem apply_ran {cfg : Cfg} {s s' : State} {auth : List Nat} {op : Op} {r : Option Nat}
    (h : apply cfg s auth op = .ok (s', r)) :
    match op with
    | .mintSeq to =>
      r = some s.nextId ∧ update { s with nextId := s.nextId + 1 } none (some to) s.nextId = .ok s'
    | .mint to id => r = none ∧ update s none (some to) id = .ok s'
    | .batchMint _ _ => False
    | .transfer f t id => r = none ∧ update s (some f) (some t) id = .ok s' ∧ f ∈ auth
    | .transferFrom sp f t id => r = none ∧ update s (some f) (some t) id = .ok s' ∧ sp ∈ auth ∧
        checkSpenderApproval s.toCore sp f id = .ok ()
    | .burn f id => r = none ∧ update s (some f) none id = .ok s' ∧ f ∈ auth
    | .burnFrom sp f id => r = none ∧ update s (some f) none id = .ok s' ∧ sp ∈ auth ∧
        checkSpenderApproval s.toCore sp f id = .ok ()
    | .approve ap a id lu => r = none ∧ ap ∈ auth ∧ ∃ o c, s.owner id = some o ∧
        approveForOwner cfg s.toCore o ap a id lu = .ok c ∧ s' = { s with toCore := c }
    | .approveForAll o p lu =>
      r = none ∧ ∃ c, approveForAll cfg s.toCore auth o p lu = .ok c ∧ s' = { s with toCore := c }
    | .advance n => r = none ∧ s' = { s with toCore := s.toCore.advance n } := by
  cases op with
  | batchMint to n => cases h
  | advance n => cases h; exact ⟨rfl, rfl⟩
  | mintSeq to =>
    obtain ⟨⟨s2, id⟩, h1, h⟩ := bind_eq_ok h
    cases pure_eq_ok h
    obtain ⟨rfl, _, hu⟩ := sequentialMint_ok h1
    exact ⟨rfl, hu⟩
  | mint to id =>
    obtain ⟨s2, hu, h⟩ := bind_eq_ok h
    cases pure_eq_ok h
    exact ⟨rfl, hu⟩
  | transfer f t id | burn f id =>
    obtain ⟨s2, h1, h⟩ := bind_eq_ok h
    cases pure_eq_ok h
    obtain ⟨_, ha, hu⟩ := bind_eq_ok h1
    exact ⟨rfl, hu, requireAuth_ok ha⟩
  | transferFrom sp f t id | burnFrom sp f id =>
    obtain ⟨s2, h1, h⟩ := bind_eq_ok h
    cases pure_eq_ok h
    obtain ⟨_, ha, h1⟩ := bind_eq_ok h1
    obtain ⟨_, hc, hu⟩ := bind_eq_ok h1
    exact ⟨rfl, hu, requireAuth_ok ha, hc⟩
  | approve ap a id lu =>
    obtain ⟨s2, h1, h⟩ := bind_eq_ok h
    cases pure_eq_ok h
    unfold approve at h1
    obtain ⟨_, ha, h1⟩ := bind_eq_ok h1
    obtain ⟨o, ho, h1⟩ := bind_eq_ok h1
    obtain ⟨c, hc, h1⟩ := bind_eq_ok h1
    cases pure_eq_ok h1
    exact ⟨rfl, requireAuth_ok ha, o, c, ownerOf_ok ho, hc, rfl⟩
  | approveForAll o p lu =>
    obtain ⟨c, hc, h⟩ := bind_eq_ok h
    cases pure_eq_ok h
    exact ⟨rfl, c, hc, rfl⟩

theorem apply_owner (cfg : Cfg) {s s' : State} {auth : List Nat} {op : Op} {r : Option Nat}
    (h : apply cfg s auth op = .ok (s', r)) :
    s'.owner = specStep s.owner op r ∧
    (∀ f id, op.moves = some (f, id) → s.owner id = some f) ∧
    (∀ to, op = .mintSeq to → r = some s.nextId ∧ s'.nextId = s.nextId + 1) ∧
    ((∀ to, op ≠ .mintSeq to) → s'.nextId = s.nextId) := by
  have hr := apply_ran h
  cases op with
  | mintSeq to =>
    obtain ⟨rfl, hu⟩ := hr
    obtain ⟨_, rfl⟩ := update_mint_eq_ok_iff.mp hu
    exact ⟨rfl, nofun, fun _ _ => ⟨rfl, rfl⟩, fun hne => absurd rfl (hne to)⟩
  | mint to id =>
    obtain ⟨rfl, hu⟩ := hr
    obtain ⟨_, rfl⟩ := update_mint_eq_ok_iff.mp hu
    exact ⟨rfl, nofun, nofun, fun _ => rfl⟩
  | batchMint to n => exact hr.elim
  | transfer f t id | transferFrom _ f t id | burn f id | burnFrom _ f id =>
    obtain ⟨rfl, hu, _⟩ := hr
    obtain ⟨hs, _, _, rfl⟩ := update_from_eq_ok_iff.mp hu
    exact ⟨rfl, (by intro _ _ hm; cases hm; exact hs), nofun, fun _ => rfl⟩
  | approve ap a id lu =>
    obtain ⟨rfl, _, o, c, _, hc, rfl⟩ := hr
    exact ⟨rfl, nofun, nofun, fun _ => (approveForOwner_fields hc).2⟩
  | approveForAll o p lu =>
    obtain ⟨rfl, c, hc, rfl⟩ := hr
    exact ⟨rfl, nofun, nofun, fun _ => (approveForAll_fields hc).2.1⟩
  | advance n =>
    obtain ⟨rfl, rfl⟩ := hr
    exact ⟨rfl, nofun, nofun, fun _ => rfl⟩

theorem Inv.of_core {L : List Nat} {s : State} (hi : Inv L s) {c : Core} (hb : c.bal = s.bal) :
    Inv L { s with toCore := c } :=
  ⟨hi.nodup, hi.mem, fun a => by show c.bal a = _; rw [hb]; exact hi.bal a⟩

/-- one successful invocation on the base flavour, under the fresh-id hypothesis: the owner
map follows the plain rule, a transfer / burn names the owner, a sequential mint returns the
counter and advances it, balances keep counting owned tokens -/
theorem apply_inv (cfg : Cfg) {L : List Nat} {s s' : State} {auth : List Nat} {op : Op} {r : Option Nat}
    (hi : Inv L s) (hf : FreshOp s op) (h : apply cfg s auth op = .ok (s', r)) :
    Inv (listStep L op r) s' ∧ s'.owner = specStep s.owner op r ∧
    (∀ f id, op.moves = some (f, id) → s.owner id = some f) ∧
    (∀ to, op = .mintSeq to → r = some s.nextId ∧ s'.nextId = s.nextId + 1) ∧
    ((∀ to, op ≠ .mintSeq to) → s'.nextId = s.nextId) := by
  refine ⟨?_, apply_owner cfg h⟩
  have hr := apply_ran h
  cases op with
  | mintSeq to =>
    obtain ⟨rfl, hu⟩ := hr
    exact mint_inv (s := { s with nextId := s.nextId + 1 }) ⟨hi.nodup, hi.mem, hi.bal⟩ hf hu
  | mint to id => obtain ⟨rfl, hu⟩ := hr; exact mint_inv hi hf hu
  | batchMint to n => exact hr.elim
  | transfer f t id | transferFrom _ f t id => obtain ⟨rfl, hu, _⟩ := hr; exact transfer_inv hi hu
  | burn f id | burnFrom _ f id => obtain ⟨rfl, hu, _⟩ := hr; exact burn_inv hi hu
  | approve ap a id lu =>
    obtain ⟨rfl, _, o, c, _, hc, rfl⟩ := hr
    exact hi.of_core (approveForOwner_fields hc).1
  | approveForAll o p lu =>
    obtain ⟨rfl, c, hc, rfl⟩ := hr
    exact hi.of_core (approveForAll_fields hc).1
  | advance n => obtain ⟨rfl, rfl⟩ := hr; exact hi.of_core rfl

/-- nothing at or above the sequential counter is owned (true as long as ids are only
issued by the counter) -/
def NoneAbove (s : State) : Prop := ∀ id, s.nextId ≤ id → s.owner id = none

def Op.isExplicitMint : Op → Bool
  | .mint _ _ => true
  | _ => false

theorem freshOp_of_noneAbove {s : State} {op : Op} (hn : NoneAbove s) (he : op.isExplicitMint = false) :
    FreshOp s op := by
  cases op with
  | mint to id => cases he
  | mintSeq to => exact hn _ (Nat.le_refl _)
  | _ => trivial

theorem apply_noneAbove (cfg : Cfg) {s s' : State} {auth : List Nat} {op : Op} {r : Option Nat}
    (hn : NoneAbove s) (he : op.isExplicitMint = false) (h : apply cfg s auth op = .ok (s', r)) :
    NoneAbove s' := by
  obtain ⟨hown, hmv, hseq, hother⟩ := apply_owner cfg h
  intro id hid
  rw [hown]
  cases op with
  | mint to id => cases he
  | batchMint to n => cases h
  | mintSeq to =>
    obtain ⟨rfl, hnx⟩ := hseq to rfl
    show upd s.owner s.nextId (some to) id = none
    rw [upd_other _ _ _ _ (by omega)]; exact hn id (by omega)
  | transfer f t id' | transferFrom _ f t id' =>
    have hnx := hother nofun
    -- the moved token has an owner, so it lies below the counter
    have : id ≠ id' := by
      intro e; have hf := hmv f id' rfl
      rw [← e, hn id (by omega)] at hf; cases hf
    show upd s.owner id' (some t) id = none
    rw [upd_other _ _ _ _ this]; exact hn id (by omega)
  | burn f id' | burnFrom _ f id' =>
    have hnx := hother nofun
    show upd s.owner id' none id = none
    by_cases e : id = id'
    · rw [e]; exact upd_same _ _ _
    · rw [upd_other _ _ _ _ e]; exact hn id (by omega)
  | approve ap a id' lu | approveForAll o p lu | advance n =>
    have hnx := hother nofun
    exact hn id (by omega)

end OZ.Nft
