import OZ.Lemmas.IntDiv
/-
The private rounding helpers of i128_fixed_point.rs / i256_fixed_point.rs compute the exactly
rounded quotient (`exactQ`) or signal that it does not fit.
-/
namespace OZ.MulDiv

theorem div_lin (r d : Int) (hd : d ≠ 0) :
    d * (r / d) + r % d = r ∧ 0 ≤ r % d ∧ (0 < d → r % d < d) ∧ (d < 0 → r % d < -d) ∧
    (0 ≤ r ∨ r % d = 0 → Int.tdiv r d = r / d) ∧
    (r < 0 ∧ r % d ≠ 0 ∧ 0 < d → Int.tdiv r d = r / d + 1) ∧
    (r < 0 ∧ r % d ≠ 0 ∧ d < 0 → Int.tdiv r d = r / d - 1) ∧
    (0 < d ∨ r % d = 0 → Int.fdiv r d = r / d) ∧
    (d < 0 ∧ r % d ≠ 0 → Int.fdiv r d = r / d - 1) ∧
    (d < 0 ∨ r % d = 0 → Int.cdiv r d = r / d) ∧
    (0 < d ∧ r % d ≠ 0 → Int.cdiv r d = r / d + 1) ∧
    (0 ≤ r → -r ≤ Int.tdiv r d ∧ Int.tdiv r d ≤ r) ∧
    (r ≤ 0 → r ≤ Int.tdiv r d ∧ Int.tdiv r d ≤ -r) ∧
    (r = 0 → r % d = 0) := by
  obtain ⟨h1, h2, h3, ht, hf, hc, hb⟩ := div_facts r d hd
  refine ⟨h1, h2, ?_, ?_, ?_, ?_, ?_, ?_, ?_, ?_, ?_, ?_, ?_, fun h => h ▸ Int.zero_emod d⟩
  · clear ht hf hc; omega
  · clear ht hf hc; omega
  · intro h; rw [ht, if_pos h, Int.add_zero]
  · rintro ⟨a, b, c⟩
    rw [ht, if_neg (not_or.mpr ⟨Int.not_le.mpr a, b⟩), Int.sign_eq_one_of_pos c]
  · rintro ⟨a, b, c⟩
    rw [ht, if_neg (not_or.mpr ⟨Int.not_le.mpr a, b⟩), Int.sign_eq_neg_one_of_neg c]; rfl
  · intro h; rw [hf, if_pos (h.imp Int.le_of_lt id), Int.sub_zero]
  · rintro ⟨a, b⟩; rw [hf, if_neg (not_or.mpr ⟨Int.not_le.mpr a, b⟩)]
  · intro h; rw [hc, if_pos h, Int.add_zero]
  · rintro ⟨a, b⟩; rw [hc, if_neg (not_or.mpr ⟨Int.not_lt.mpr (Int.le_of_lt a), b⟩)]
  · clear ht hf hc; omega
  · clear ht hf hc; omega

theorem tdiv_sign (r d : Int) :
    (0 ≤ r → 0 ≤ d → 0 ≤ Int.tdiv r d) ∧ (r ≤ 0 → d ≤ 0 → 0 ≤ Int.tdiv r d) ∧
    (0 ≤ r → d ≤ 0 → Int.tdiv r d ≤ 0) ∧ (r ≤ 0 → 0 ≤ d → Int.tdiv r d ≤ 0) := by
  refine ⟨Int.tdiv_nonneg, Int.tdiv_nonneg_of_nonpos_of_nonpos,
    Int.tdiv_nonpos_of_nonneg_of_nonpos, ?_⟩
  intro h1 h2
  have := Int.tdiv_nonneg (a := -r) (b := d) (by omega) h2
  rw [Int.neg_tdiv] at this
  omega

-- a tool for exploring a goal about the three quotients of `r / d`, called by no proof: all linear
-- facts about them at once, with the division terms abstracted. `omega` is slow on all ~20
-- implications together: clear the facts a goal does not need, or go through the equations of
-- OZ/Lemmas/IntDiv.lean as the proofs below do.
set_option hygiene false in
macro "div_prelude" r:term "," d:term "," hd0:term : tactic => `(tactic| (
  obtain ⟨h1, h2, h3, h4, t1, t2, t3, f1, f2, c1, c2, b1, b2, z0⟩ := div_lin $r $d $hd0
  obtain ⟨s1, s2, s3, s4⟩ := tdiv_sign $r $d
  have hh := tdiv_half $r $d
  generalize Int.tdiv $r $d = t at *
  generalize Int.fdiv $r $d = f at *
  generalize Int.cdiv $r $d = c at *
  generalize $r % $d = m at *
  generalize $r / $d = q at *))

theorem tdiv_mem_range {M r d : Int} (hr : -M - 1 ≤ r ∧ r ≤ M) (hd0 : d ≠ 0)
    (hne : ¬ (r = -M - 1 ∧ d = -1)) : -M - 1 ≤ Int.tdiv r d ∧ Int.tdiv r d ≤ M := by
  by_cases h1 : d = 1
  · rw [h1, Int.tdiv_one]; exact hr
  by_cases h2 : d = -1
  · rw [h2, Int.tdiv_neg, Int.tdiv_one]; omega
  have := tdiv_half r d (by omega)
  omega

/-- The four products `(B ∓ x) * (B ∓ y)` are nonnegative; multiplied out and added in pairs they
are the two bounds. -/
theorem mul_mem_sq {B x y : Int} (hx : -B ≤ x ∧ x ≤ B) (hy : -B ≤ y ∧ y ≤ B) :
    -(B * B) ≤ x * y ∧ x * y ≤ B * B := by
  have h1 := Int.mul_nonneg (Int.sub_nonneg_of_le hx.2) (Int.sub_nonneg_of_le hy.2)
  have h2 := Int.mul_nonneg (Int.sub_nonneg_of_le hx.2) (Int.sub_nonneg_of_le hy.1)
  have h3 := Int.mul_nonneg (Int.sub_nonneg_of_le hx.1) (Int.sub_nonneg_of_le hy.2)
  have h4 := Int.mul_nonneg (Int.sub_nonneg_of_le hx.1) (Int.sub_nonneg_of_le hy.1)
  simp only [Int.sub_neg, Int.sub_mul, Int.mul_sub, Int.add_mul, Int.mul_add] at h1 h2 h3 h4
  omega

theorem mul_in128_bound {x y : Int} (hx : in128 x) (hy : in128 y) :
    -((I128_MAX + 1) * (I128_MAX + 1)) ≤ x * y ∧ x * y ≤ (I128_MAX + 1) * (I128_MAX + 1) :=
  mul_mem_sq ⟨hx.1, Int.le_add_one hx.2⟩ ⟨hy.1, Int.le_add_one hy.2⟩

theorem rounded_mem_range {B r d : Int} (hr : -B ≤ r ∧ r ≤ B) (hd0 : d ≠ 0) :
    (-B ≤ Int.tdiv r d ∧ Int.tdiv r d ≤ B) ∧
    (-B - 1 ≤ Int.fdiv r d ∧ Int.fdiv r d ≤ B + 1) ∧
    (-B - 1 ≤ Int.cdiv r d ∧ Int.cdiv r d ≤ B + 1) := by
  have ht : -B ≤ Int.tdiv r d ∧ Int.tdiv r d ≤ B := by
    have := Int.natAbs_tdiv_le_natAbs r d
    omega
  refine ⟨ht, ?_, ?_⟩
  · by_cases hs : (r < 0 ∧ d > 0) ∨ (r > 0 ∧ d < 0)
    · rw [fdiv_eq_tdiv_sub hd0 hs]; split <;> omega
    · rw [fdiv_eq_tdiv hd0 hs]; omega
  · by_cases hs : (r ≤ 0 ∧ d > 0) ∨ (r ≥ 0 ∧ d < 0)
    · rw [cdiv_eq_tdiv hd0 hs]; omega
    · rw [cdiv_eq_tdiv_add hd0 hs]; split <;> omega

theorem tdiv_in128 {r d : Int} (hr : in128 r) (hd0 : d ≠ 0) (hne : ¬ (r = I128_MIN ∧ d = -1)) :
    in128 (Int.tdiv r d) :=
  tdiv_mem_range (M := I128_MAX) hr hd0 hne

theorem tdiv_in256 {r d : Int} (hr : in256 r) (hd0 : d ≠ 0) (hne : ¬ (r = I256_MIN ∧ d = -1)) :
    in256 (Int.tdiv r d) :=
  tdiv_mem_range (M := I256_MAX) hr hd0 hne

/-! ### i128 helpers -/

theorem ofOpt_chk128 (x : Int) : ofOpt (chk128 x) = if in128 x then .ok x else .none := by
  unfold chk128; split <;> rfl

theorem chk128_of_in {x : Int} (h : in128 x) : chk128 x = some x := if_pos h

theorem checkedDiv128_eq {r d : Int} (hd0 : d ≠ 0) : checkedDiv128 r d = chk128 (Int.tdiv r d) :=
  if_neg hd0

theorem checkedRemEuclid128_eq {r d : Int} (hd0 : d ≠ 0) (hne : ¬ (r = I128_MIN ∧ d = -1)) :
    checkedRemEuclid128 r d = some (r % d) := by
  unfold checkedRemEuclid128; rw [if_neg hd0, if_neg hne]

theorem checkedDiv128_spec (r d : Int) (hd0 : d ≠ 0) :
    ofOpt (checkedDiv128 r d) = if in128 (Int.tdiv r d) then .ok (Int.tdiv r d) else .none := by
  rw [checkedDiv128_eq hd0, ofOpt_chk128]

theorem divFloor128_spec (r d : Int) (hr : in128 r) (hd0 : d ≠ 0) :
    divFloor128 r d = if in128 (Int.fdiv r d) then .ok (Int.fdiv r d) else .none := by
  unfold divFloor128
  by_cases hs : (r < 0 ∧ d > 0) ∨ (r > 0 ∧ d < 0)
  · -- `MIN / -1` has equal signs, so the remainder exists and the truncated quotient fits
    have hne : ¬ (r = I128_MIN ∧ d = -1) := by unfold I128_MIN; omega
    simp only [if_pos hs, checkedRemEuclid128_eq hd0 hne, checkedDiv128_eq hd0,
      chk128_of_in (tdiv_in128 hr hd0 hne), fdiv_eq_tdiv_sub hd0 hs]
    exact ofOpt_chk128 _
  · rw [if_neg hs, fdiv_eq_tdiv hd0 hs]; exact checkedDiv128_spec r d hd0

theorem divCeil128_spec (r d : Int) (hr : in128 r) (hd0 : d ≠ 0) :
    divCeil128 r d = if in128 (Int.cdiv r d) then .ok (Int.cdiv r d) else .none := by
  by_cases hmin : r = I128_MIN ∧ d = -1
  · obtain ⟨rfl, rfl⟩ := hmin; decide
  unfold divCeil128
  by_cases hs : (r ≤ 0 ∧ d > 0) ∨ (r ≥ 0 ∧ d < 0)
  · rw [if_pos hs, cdiv_eq_tdiv hd0 hs]; exact checkedDiv128_spec r d hd0
  · simp only [if_neg hs, checkedRemEuclid128_eq hd0 hmin, checkedDiv128_eq hd0,
      chk128_of_in (tdiv_in128 hr hd0 hmin), cdiv_eq_tdiv_add hd0 hs]
    exact ofOpt_chk128 _

/-! ### I256 helpers -/

theorem trap_chk256 (x : Int) : trap (chk256 x) = if in256 x then .ok x else .panic := by
  unfold chk256; split <;> rfl

theorem match_chk256 (x : Int) :
    (match chk256 x with | Option.none => Res.panic | some v => Res.ok v) =
      if in256 x then .ok x else .panic := by
  unfold chk256
  by_cases h : in256 x
  · rw [if_pos h, if_pos h]
  · rw [if_neg h, if_neg h]

theorem chk256_of_in {x : Int} (h : in256 x) : chk256 x = some x := if_pos h

theorem div256_eq {r d : Int} (hd0 : d ≠ 0) : div256 r d = chk256 (Int.tdiv r d) := if_neg hd0

theorem remEuclid256_eq {r d : Int} (hd0 : d ≠ 0) (hne : ¬ (r = I256_MIN ∧ d = -1)) :
    remEuclid256 r d = some (r % d) := by
  unfold remEuclid256; rw [if_neg hd0, if_neg hne]

theorem div256_spec (r d : Int) (hd0 : d ≠ 0) :
    trap (div256 r d) = if in256 (Int.tdiv r d) then .ok (Int.tdiv r d) else .panic := by
  rw [div256_eq hd0, trap_chk256]

theorem divFloor256_spec (r d : Int) (hr : in256 r) (hd0 : d ≠ 0) :
    divFloor256 r d = if in256 (Int.fdiv r d) then .ok (Int.fdiv r d) else .panic := by
  unfold divFloor256
  by_cases hs : (r < 0 ∧ d > 0) ∨ (r > 0 ∧ d < 0)
  · have hne : ¬ (r = I256_MIN ∧ d = -1) := by unfold I256_MIN; omega
    simp only [if_pos hs, remEuclid256_eq hd0 hne, div256_eq hd0,
      chk256_of_in (tdiv_in256 hr hd0 hne), fdiv_eq_tdiv_sub hd0 hs]
    exact match_chk256 _
  · rw [if_neg hs, fdiv_eq_tdiv hd0 hs]; exact div256_spec r d hd0

theorem divCeil256_spec (r d : Int) (hr : in256 r) (hd0 : d ≠ 0) :
    divCeil256 r d = if in256 (Int.cdiv r d) then .ok (Int.cdiv r d) else .panic := by
  by_cases hmin : r = I256_MIN ∧ d = -1
  · obtain ⟨rfl, rfl⟩ := hmin; decide
  unfold divCeil256
  by_cases hs : (r ≤ 0 ∧ d > 0) ∨ (r ≥ 0 ∧ d < 0)
  · rw [if_pos hs, cdiv_eq_tdiv hd0 hs]; exact div256_spec r d hd0
  · simp only [if_neg hs, remEuclid256_eq hd0 hmin, div256_eq hd0,
      chk256_of_in (tdiv_in256 hr hd0 hmin), cdiv_eq_tdiv_add hd0 hs]
    exact match_chk256 _

/-! ### the three roundings at once -/

theorem round128_spec (rd : Rounding) (x y d : Int) (hp : in128 (x * y)) (hd0 : d ≠ 0) :
    (match rd with
      | .floor => divFloor128 (x * y) d
      | .ceil => divCeil128 (x * y) d
      | .trunc => ofOpt (checkedDiv128 (x * y) d)) =
    if in128 (exactQ rd x y d) then .ok (exactQ rd x y d) else .none := by
  cases rd
  · exact divFloor128_spec _ _ hp hd0
  · exact divCeil128_spec _ _ hp hd0
  · exact checkedDiv128_spec _ _ hd0

theorem round256_spec (rd : Rounding) (x y d : Int) (hp : in256 (x * y)) (hd0 : d ≠ 0) :
    (match rd with
      | .floor => divFloor256 (x * y) d
      | .ceil => divCeil256 (x * y) d
      | .trunc => trap (div256 (x * y) d)) =
    if in256 (exactQ rd x y d) then .ok (exactQ rd x y d) else .panic := by
  cases rd
  · exact divFloor256_spec _ _ hp hd0
  · exact divCeil256_spec _ _ hp hd0
  · exact div256_spec _ _ hd0

theorem mul_in256 (x y : Int) (hx : in128 x) (hy : in128 y) : in256 (x * y) := by
  have hb := mul_in128_bound hx hy
  unfold in256 I256_MIN I256_MAX I128_MAX at *; omega

theorem orPanic_ite (p : Prop) [Decidable p] (v : Int) :
    (if p then Res.ok v else Res.none).orPanic = if p then .ok v else .panic := by
  split <;> rfl

end OZ.MulDiv
