import OZ.Lemmas.RwaMonPost
/-
Check by check: the C04 monitor's `vX` reports nothing on the model's own observation of an accepted call (`vX_ok`).
The four checks that read the observation alone are stated for any observation (`vX_of`): they serve the rejected
case too.
-/
namespace OZ.Rwa.Mon
open OZ.Host OZ.Fungible OZ.Rwa

/-! ### the op line of a model operation

What `OZ.Drv.C04.parseLine` reads from the harness's rendering of an operation
(`rwa <kind> a=<addrs> amt=<amount> lu=<lu> b=<b> auth=<signers>`, `rwa advance n=..`,
`rwa env_id a=.. b=..`, `rwa env_rec a=.. t=..`, `rwa env_mod m=.. ..`) — the same fields
`OZ.Drv.C04.parseOp` builds the model's `Op` from. `x` / `y` stand for whatever the line carries in
`amt=` / `lu=` when the operation itself does not determine them (e.g. the mux id of a `transfer`
in `lu=`): the theorems hold for every such value. -/

def kindOf : Op → Kind
  | .transfer _ _ _ => .transfer
  | .transferFrom _ _ _ _ => .transferFrom
  | .approve _ _ _ _ => .approve
  | .mint _ _ _ => .mint
  | .burn _ _ _ => .burn
  | .forcedTransfer _ _ _ _ => .forcedTransfer
  | .recover _ _ _ => .recover
  | .freezePartial _ _ _ => .freeze
  | .unfreezePartial _ _ _ => .unfreeze
  | .setAddressFrozen _ _ _ => .setFrozen
  | .pause _ => .pause
  | .unpause _ => .unpause
  | .advance _ => .other "advance"
  | .envIdOk _ _ => .other "env_id"
  | .envRecTarget _ _ => .other "env_rec"
  | .envModule _ _ _ => .other "env_mod"
  | .addModule _ _ _ => .addModule
  | .removeModule _ _ _ => .removeModule
  | .bindToken _ => .bind
  | .unbindToken _ => .unbind

/-- the `a=` field -/
def addrsOf : Op → List Nat
  | .transfer f t _ => [f, t]
  | .transferFrom sp f t _ => [sp, f, t]
  | .approve o sp _ _ => [o, sp]
  | .mint t _ op => [t, op]
  | .burn x _ op => [x, op]
  | .forcedTransfer f t _ op => [f, t, op]
  | .recover o n op => [o, n, op]
  | .freezePartial x _ op => [x, op]
  | .unfreezePartial x _ op => [x, op]
  | .setAddressFrozen x _ op => [x, op]
  | .pause op => [op]
  | .unpause op => [op]
  | .advance _ => []
  | .envIdOk a _ => [a]
  | .envRecTarget a _ => [a]
  | .envModule _ _ _ => []
  | .addModule _ m op => [m, op]
  | .removeModule _ m op => [m, op]
  | .bindToken op => [op]
  | .unbindToken op => [op]

def amtOf (x : Int) : Op → Int
  | .transfer _ _ a => a
  | .transferFrom _ _ _ a => a
  | .approve _ _ a _ => a
  | .mint _ a _ => a
  | .burn _ a _ => a
  | .forcedTransfer _ _ a _ => a
  | .freezePartial _ a _ => a
  | .unfreezePartial _ a _ => a
  | _ => x

def luOf (y : Nat) : Op → Nat
  | .approve _ _ _ lu => lu
  | .addModule h _ _ => hookIx h
  | .removeModule h _ _ => hookIx h
  | _ => y

def lineOf (op : Op) (x : Int) (y : Nat) : Line :=
  { kind := kindOf op, a := addrsOf op, amt := amtOf x op, lu := luOf y op }

def regOf (s : State) : List (List Nat) := (List.range 5).map (fun h => s.mods (hookOf h))

structure Shows (p : Obs) (s : State) (cs : List Comp) : Prop where
  sup : p.sup = s.base.supply
  bal : p.bal = (List.range N).map s.base.bal
  allow : p.allow = allowList s
  paused : p.paused = s.paused
  af : p.af = (List.range N).map s.addrFrozen
  ft : p.ft = (List.range N).map s.frozen
  id : p.id = (List.range N).map s.idOk
  rct : p.rct = (List.range N).map s.recTarget
  bound : p.bound = s.bound
  mods : p.mods = regOf s
  mcfg : p.mcfg = cs

theorem shows_stateObs (s : State) (cs : List Comp) (ok : Bool) : Shows (stateObs s cs ok) s cs :=
  ⟨rfl, rfl, rfl, rfl, rfl, rfl, rfl, rfl, rfl, rfl, rfl⟩

theorem shows_obsOk (s s' : State) (r : Bool) (op : Op) (cs' : List Comp) : Shows (obsOk s s' r op cs') s' cs' :=
  ⟨rfl, rfl, rfl, rfl, rfl, rfl, rfl, rfl, rfl, rfl, rfl⟩

/-- whatever a module oracle approves its script approves; unscripted modules approve everything -/
def CompInv (s : State) (cs : List Comp) : Prop :=
  (∀ m f t a, a ≤ I128_MAX → s.modCanTransfer m f t a = true → (cs.getD m Comp.default).canTransfer f t a = true) ∧
  (∀ m t a, a ≤ I128_MAX → s.modCanCreate m t a = true → (cs.getD m Comp.default).canCreate t a = true)

structure Good (s : State) (cs : List Comp) : Prop where
  inv : Inv (List.range N) s.base
  frozen : FrozenInv s
  nodup : ModsNodup s
  replay : ReplayOK s
  comp : CompInv s cs
  len : cs.length = K

theorem regOf_getD (s : State) {i : Nat} (hi : i < 5) : (regOf s).getD i [] = s.mods (hookOf i) :=
  getD_map_range _ [] hi

theorem regOf_getD_hookIx (s : State) (h : Hook) : (regOf s).getD (hookIx h) [] = s.mods h := by
  rw [regOf_getD s (hookIx_lt h), hookOf_hookIx]

theorem default_canTransfer (f t : Nat) (a : Int) (h : a ≤ I128_MAX) : Comp.default.canTransfer f t a = true := by
  simp [Comp.default, Comp.canTransfer, h]

theorem default_canCreate (t : Nat) (a : Int) (h : a ≤ I128_MAX) : Comp.default.canCreate t a = true := by
  simp [Comp.default, Comp.canCreate, h]

theorem closedGates_nil {reg : List (List Nat)} {p : Obs} {f t : Nat} {amt : Int}
    (h1 : p.paused = false) (h2 : gb p.af f = false) (h3 : gb p.af t = false)
    (h4 : amt ≤ gi p.bal f - gi p.ft f) (h5 : gb p.id f = true) (h6 : gb p.id t = true)
    (h7 : vetoes reg p f t amt = []) : closedGates reg p f t amt = [] := by
  have h4' : ¬ (amt > gi p.bal f - gi p.ft f) := by omega
  unfold closedGates
  rw [h1, h2, h3, h5, h6, h7, if_neg h4']
  simp

theorem amt_le_max {s : State} (hi : Inv (List.range N) s.base) (hf : FrozenInv s) {f : Nat} {amt : Int}
    (h : amt ≤ s.base.bal f - s.frozen f) : amt ≤ I128_MAX := by
  have h1 := (hf f).1
  have h2 := bal_le_supply List.nodup_range hi f
  have h3 := hi.supHi
  omega

theorem closedGates_of_gates {s : State} {cs : List Comp} {p : Obs} (hg : Good s cs) (hp : Shows p s cs)
    {f t : Nat} {amt : Int} (hf : f < N) (ht : t < N) (g : Gates s f t amt) :
    closedGates (regOf s) p f t amt = [] := by
  apply closedGates_nil
  · rw [hp.paused]; exact g.notPaused
  · rw [hp.af, gb_map _ hf]; exact g.fromNotFrozen
  · rw [hp.af, gb_map _ ht]; exact g.toNotFrozen
  · rw [hp.bal, hp.ft, gi_map _ hf, gi_map _ hf]; exact g.free
  · rw [hp.id, gb_map _ hf]; exact g.fromVerified
  · rw [hp.id, gb_map _ ht]; exact g.toVerified
  · unfold vetoes
    rw [List.filter_eq_nil_iff, regOf_getD s (by decide : 3 < 5), hp.mcfg]
    intro m hm
    have hv := (consult_true_iff _ _).mp g.compliant m hm
    have := hg.comp.1 m f t amt (amt_le_max hg.inv hg.frozen g.free) hv
    rw [this]; decide

theorem guarded_none {p : Prop} [Decidable p] {c : Bool} {msg : String} (h : p → c = true) :
    (if p then orFail c msg else none) = none := by
  split
  · exact orFail_true _ (h (by assumption))
  · rfl

theorem kindOf_inv {op : Op} {k : Kind} (h : kindOf op = k) :
    match k with
    | .transfer => ∃ f t a, op = .transfer f t a
    | .transferFrom => ∃ sp f t a, op = .transferFrom sp f t a
    | .mint => ∃ t a o, op = .mint t a o
    | .burn => ∃ t a o, op = .burn t a o
    | .forcedTransfer => ∃ f t a o, op = .forcedTransfer f t a o
    | .recover => ∃ o n x, op = .recover o n x
    | .freeze => ∃ t a o, op = .freezePartial t a o
    | .unfreeze => ∃ t a o, op = .unfreezePartial t a o
    | .addModule => ∃ k m o, op = .addModule k m o
    | .removeModule => ∃ k m o, op = .removeModule k m o
    | _ => True := by
  subst h
  cases op with
  | transferFrom | forcedTransfer => exact ⟨_, _, _, _, rfl⟩
  | transfer | mint | burn | recover | freezePartial | unfreezePartial | addModule | removeModule => exact ⟨_, _, _, rfl⟩
  | _ => trivial

/-! ### the checks on the observation of an accepted call

Each check takes what its proof reads: of the guards `g : Pre s op`, of the post-state `q : Post s s' op r`, of the
tables by kind the one equation of `line_spec`. -/

section accepted
variable {c : Cfg} {s s' : State} {cs cs' : List Comp} {p : Obs} {auth : List Nat} {op : Op} {r : Bool}
  {x : Int} {y : Nat}

theorem vGateTransfer_ok (hg : Good s cs) (hp : Shows p s cs) (hU : ∀ a ∈ op.addrs, a < N) (g : Pre s op) :
    vGateTransfer (regOf s) p (lineOf op x y) (obsOk s s' r op cs') = none := by
  unfold vGateTransfer
  refine guarded_none fun hk => ?_
  obtain ⟨f, t, a, rfl⟩ := kindOf_inv hk.2
  have hf : f < N := hU f (by simp [Op.addrs])
  have ht : t < N := hU t (by simp [Op.addrs])
  show (closedGates (regOf s) p f t a).isEmpty = true
  rw [closedGates_of_gates hg hp hf ht g]; rfl

theorem vGateTransferFrom_ok (hg : Good s cs) (hp : Shows p s cs) (hU : ∀ a ∈ op.addrs, a < N) (g : Pre s op) :
    vGateTransferFrom (regOf s) p (lineOf op x y) (obsOk s s' r op cs') = none := by
  unfold vGateTransferFrom
  refine guarded_none fun hk => ?_
  obtain ⟨sp, f, t, a, rfl⟩ := kindOf_inv hk.2
  have hf : f < N := hU f (by simp [Op.addrs])
  have ht : t < N := hU t (by simp [Op.addrs])
  show (closedGates (regOf s) p f t a).isEmpty = true
  rw [closedGates_of_gates hg hp hf ht g]; rfl

theorem vGateMint_ok (hg : Good s cs) (hp : Shows p s cs) (hU : ∀ a ∈ op.addrs, a < N) (g : Pre s op)
    (hi' : Inv (List.range N) s'.base) (hs' : s'.base.supply = s.base.supply + supplyDelta op) :
    vGateMint (regOf s) p (lineOf op x y) (obsOk s s' r op cs') = none := by
  unfold vGateMint
  refine guarded_none fun hk => ?_
  obtain ⟨t, a, o, rfl⟩ := kindOf_inv hk.2
  have ht : t < N := hU t (by simp [Op.addrs])
  have hmax : a ≤ I128_MAX := by
    have h1 := hi'.supHi; have h2 := hg.inv.supLo
    simp only [supplyDelta] at hs'
    omega
  show (gb p.id t && (createVetoes (regOf s) p t a).isEmpty) = true
  have e1 : gb p.id t = true := by rw [hp.id, gb_map _ ht]; exact g.1
  have e2 : createVetoes (regOf s) p t a = [] := by
    unfold createVetoes
    rw [List.filter_eq_nil_iff, regOf_getD s (by decide : 4 < 5), hp.mcfg]
    intro m hm
    have hv := (consult_true_iff _ _).mp g.2 m hm
    have := hg.comp.2 m t a hmax hv
    rw [this]; decide
  rw [e1, e2]; rfl

theorem vFrozenLeBalance_of {s : State} (hf : FrozenInv s) {o : Obs}
    (h1 : o.ft = (List.range N).map s.frozen) (h2 : o.bal = (List.range N).map s.base.bal) :
    vFrozenLeBalance o = none := by
  unfold vFrozenLeBalance
  apply orFail_true
  rw [List.all_eq_true]
  intro i hi
  have hi := List.mem_range.mp hi
  rw [h1, h2, gi_map _ hi, gi_map _ hi]
  simpa using hf i

theorem unfreezeWant_eq (hp : Shows p s cs) {a : Nat} (ha : a < N) (amt : Int) :
    unfreezeWant p a amt = frozenAfter s a amt := by
  unfold unfreezeWant frozenAfter
  rw [hp.ft, hp.bal, gi_map _ ha, gi_map _ ha]
  split <;> split <;> omega

theorem vForcedUnfreeze_ok (hp : Shows p s cs) (hU : ∀ a ∈ op.addrs, a < N) (q : Post s s' op r) :
    vForcedUnfreeze p (lineOf op x y) (obsOk s s' r op cs') = none := by
  unfold vForcedUnfreeze
  refine guarded_none fun hk => ?_
  obtain ⟨f, t, a, o, rfl⟩ := kindOf_inv hk.2
  have hf : f < N := hU f (by simp [Op.addrs])
  show ((List.range N).map s'.frozen == setAt p.ft f (unfreezeWant p f a)) = true
  rw [unfreezeWant_eq hp hf, hp.ft, setAt_map, q.frozen]
  exact beq_self_eq_true _

theorem vBurnUnfreeze_ok (hp : Shows p s cs) (hU : ∀ a ∈ op.addrs, a < N) (q : Post s s' op r) :
    vBurnUnfreeze p (lineOf op x y) (obsOk s s' r op cs') = none := by
  unfold vBurnUnfreeze
  refine guarded_none fun hk => ?_
  obtain ⟨f, a, o, rfl⟩ := kindOf_inv hk.2
  have hf : f < N := hU f (by simp [Op.addrs])
  show ((List.range N).map s'.frozen == setAt p.ft f (unfreezeWant p f a)) = true
  rw [unfreezeWant_eq hp hf, hp.ft, setAt_map, q.frozen]
  exact beq_self_eq_true _

theorem recExpFt_eq (hp : Shows p s cs) {old new : Nat} (ho : old < N) :
    recExpFt p old new = (List.range N).map
      (if old = new then s.frozen else upd (upd s.frozen old 0) new (upd s.frozen old 0 new + s.frozen old)) := by
  unfold recExpFt
  by_cases hon : old = new
  · rw [if_pos hon, if_pos hon]; exact hp.ft
  · rw [if_neg hon, if_neg hon, hp.ft, gi_map _ ho, setAt_map, addAt_map]

theorem recExpAf_eq (hp : Shows p s cs) {old new : Nat} (ho : old < N) (hn : new < N) :
    recExpAf p old new = (List.range N).map (upd s.addrFrozen new (s.addrFrozen new || s.addrFrozen old)) := by
  unfold recExpAf
  rw [hp.af, gb_map _ ho, gb_map _ hn, setAt_map]

/-- the monitor's test on the printed return value is the model's test on the balance -/
theorem ret_ite {α} {b : Int} (A B : α) :
    (if some (decide (b ≠ 0)) = some true then A else B) = if b = 0 then B else A := by
  by_cases hz : b = 0
  · rw [if_pos hz, if_neg (by simp [hz])]
  · rw [if_neg hz, if_pos (by simp [hz])]

theorem vRecover_ok (hp : Shows p s cs) (hU : ∀ a ∈ op.addrs, a < N) (q : Post s s' op r) (g : Pre s op) :
    vRecover p (lineOf op x y) (obsOk s s' r op cs') = none := by
  unfold vRecover
  split
  · rename_i hk
    obtain ⟨old, new, o, rfl⟩ := kindOf_inv hk.2
    have ho : old < N := hU old (by simp [Op.addrs])
    have hn : new < N := hU new (by simp [Op.addrs])
    obtain ⟨hid, htg⟩ := g
    have hb : gi p.bal old = s.base.bal old := by rw [hp.bal]; exact gi_map _ ho
    have hret : r = decide (s.base.bal old ≠ 0) := q.ret
    have e1 : vRecoverTarget p (lineOf (.recover old new o) x y) = none := by
      refine orFail_true _ ?_
      show (p.rct.getD old none == some new && gb p.id new) = true
      rw [hp.rct, hp.id, gb_map _ hn, getD_map_range _ none ho, htg, hid]
      simp
    have e2 : vRecoverRet p (lineOf (.recover old new o) x y) (obsOk s s' r (.recover old new o) cs') = none := by
      refine orFail_true _ ?_
      show (some r == some (decide (gi p.bal old ≠ 0))) = true
      rw [hb, hret]
      exact beq_self_eq_true _
    have e3 : vRecoverEffects p (lineOf (.recover old new o) x y) (obsOk s s' r (.recover old new o) cs') = none := by
      unfold vRecoverEffects
      show (if some r = some true then
          orFail ((List.range N).map s'.frozen == recExpFt p old new && (List.range N).map s'.addrFrozen == recExpAf p old new) _
        else orFail ((List.range N).map s'.frozen == p.ft && (List.range N).map s'.addrFrozen == p.af) _) = none
      rw [hret, ret_ite, q.frozen, q.addrFrozen, recExpFt_eq hp ho, recExpAf_eq hp ho hn, hp.ft, hp.af]
      simp only [frozenAfterOp, afAfter]
      -- in either case each of the two comparisons has the same list on both sides
      by_cases hz : s.base.bal old = 0
      · simp only [if_pos hz]; exact orFail_true _ (by simp)
      · simp only [if_neg hz]; exact orFail_true _ (by simp)
    rw [e1, e2, e3]; rfl
  · rfl

theorem vFrameFrozen_ok (hp : Shows p s cs) (q : Post s s' op r) :
    vFrameFrozen p (lineOf op x y) (obsOk s s' r op cs') = none := by
  unfold vFrameFrozen
  refine guarded_none fun hk => ?_
  show ((List.range N).map s'.frozen == p.ft) = true
  have : frozenAfterOp s op = s.frozen := by
    cases op <;> first | rfl | exact absurd rfl hk.2
  rw [q.frozen, this, hp.ft]
  exact beq_self_eq_true _

theorem vFrameAddrFrozen_ok (hp : Shows p s cs) (q : Post s s' op r) :
    vFrameAddrFrozen p (lineOf op x y) (obsOk s s' r op cs') = none := by
  unfold vFrameAddrFrozen
  refine guarded_none fun hk => ?_
  show ((List.range N).map s'.addrFrozen == p.af) = true
  have : afAfter s op = s.addrFrozen := by
    cases op <;> first | rfl | exact absurd rfl hk.2
  rw [q.addrFrozen, this, hp.af]
  exact beq_self_eq_true _

theorem vFreezeEffect_ok (hp : Shows p s cs) (q : Post s s' op r) (g : Pre s op) :
    vFreezeEffect p (lineOf op x y) (obsOk s s' r op cs') = none := by
  unfold vFreezeEffect
  refine guarded_none fun hk => ?_
  obtain ⟨t, a, o, rfl⟩ := kindOf_inv hk.2
  show (decide (a ≥ 0) && (List.range N).map s'.frozen == addAt p.ft t a) = true
  rw [hp.ft, addAt_map, q.frozen]
  simp only [frozenAfterOp, Bool.and_eq_true, decide_eq_true_eq]
  exact ⟨g, beq_self_eq_true _⟩

theorem vUnfreezeEffect_ok (hp : Shows p s cs) (q : Post s s' op r) (g : Pre s op) :
    vUnfreezeEffect p (lineOf op x y) (obsOk s s' r op cs') = none := by
  unfold vUnfreezeEffect
  refine guarded_none fun hk => ?_
  obtain ⟨t, a, o, rfl⟩ := kindOf_inv hk.2
  show (decide (a ≥ 0) && (List.range N).map s'.frozen == addAt p.ft t (-a)) = true
  rw [hp.ft, addAt_map, q.frozen]
  simp only [frozenAfterOp, Bool.and_eq_true, decide_eq_true_eq]
  exact ⟨g, beq_self_eq_true _⟩

theorem obsOk_cn (hs : s'.notes = s.notes ++ op.owedNotes s) : (obsOk s s' r op cs').cn = op.owedNotes s := by
  show s'.notes.drop s.notes.length = _
  rw [hs, List.drop_left]

theorem obsOk_ml (hs : s'.modCalls = s.modCalls ++ op.owedModCalls s) :
    (obsOk s s' r op cs').ml = grouped (op.owedModCalls s) := by
  show grouped (s'.modCalls.drop s.modCalls.length) = _
  rw [hs, List.drop_left]

/-- the logs of a call that consulted the verdict modules `vs` and then notified the hook modules `hs`, split the
way the monitor splits them (`gotHooks`, `gotVerdicts`); a call that consults nobody is `vs = []`, with any verdict
call for `v` -/
theorem grouped_split {vs hs : List Nat} {v h : ModCall} (hv : isHookCall v = false) (hh : isHookCall h = true)
    (nv : vs.Nodup) (nh : hs.Nodup) :
    fanOut hs h = (grouped (callsTo vs v ++ callsTo hs h)).filter (fun e => isHookCall e.2) ∧
    fanOut vs v = (grouped (callsTo vs v ++ callsTo hs h)).filter (fun e => !isHookCall e.2) := by
  rw [filter_grouped, filter_grouped, List.filter_append, List.filter_append, filter_callsTo_neg _ _ _ hv,
    filter_callsTo_pos _ _ _ hh, filter_callsTo_pos _ _ (fun c => !isHookCall c) (by simp [hv]),
    filter_callsTo_neg _ _ (fun c => !isHookCall c) (by simp [hh]), List.nil_append, List.append_nil,
    grouped_callsTo _ _ nh, grouped_callsTo _ _ nv]
  exact ⟨rfl, rfl⟩

/-- the monitor's four tables by kind are the model's; for the verdict calls: an accepted holder move or mint has
consulted every registered verdict module -/
theorem line_spec (hg : Good s cs) (hp : Shows p s cs) (hU : ∀ a ∈ op.addrs, a < N) (hr : r = retSpec s op)
    (g : Pre s op) :
    expBal p (lineOf op x y) (retOf op r) = (List.range N).map (balAfter s op) ∧
    owedOf p (lineOf op x y) (retOf op r) = op.owedNotes s ∧
    owedHooksOf (regOf s) p (lineOf op x y) (retOf op r) =
      (grouped (op.owedModCalls s)).filter (fun e => isHookCall e.2) ∧
    owedVerdictsOf (regOf s) (lineOf op x y) = (grouped (op.owedModCalls s)).filter (fun e => !isHookCall e.2) := by
  have r3 : _ = s.mods .canTransfer := regOf_getD s (by decide : 3 < 5)
  have r4 : _ = s.mods .canCreate := regOf_getD s (by decide : 4 < 5)
  have r0 := regOf_getD s (by decide : 0 < 5)
  have r1 := regOf_getD s (by decide : 1 < 5)
  have r2 := regOf_getD s (by decide : 2 < 5)
  subst hr
  cases op with
  | transfer f t a | transferFrom _ f t a =>
    have hc : (compCanTransfer s f t a).1 = s.mods .canTransfer := consult_called_all _ _ g.compliant
    obtain ⟨e1, e2⟩ := grouped_split (v := .canTransfer f t a) (h := .onTransfer f t a) rfl rfl
      (hc ▸ hg.nodup .canTransfer) (hg.nodup .transferred)
    refine ⟨?_, rfl, ?_, ?_⟩
    · show move p.bal f t a = _; rw [hp.bal]; exact move_map N _ f t a
    · show fanOut ((regOf s).getD 0 []) (.onTransfer f t a) = _
      rw [r0]; exact e1
    · show fanOut ((regOf s).getD 3 []) (.canTransfer f t a) = _
      rw [r3, ← hc]; exact e2
  | forcedTransfer f t a o =>
    obtain ⟨e1, e2⟩ := grouped_split (v := .canTransfer f t a) (h := .onTransfer f t a) rfl rfl .nil (hg.nodup .transferred)
    refine ⟨?_, rfl, ?_, e2⟩
    · show move p.bal f t a = _; rw [hp.bal]; exact move_map N _ f t a
    · show fanOut ((regOf s).getD 0 []) (.onTransfer f t a) = _
      rw [r0]; exact e1
  | mint t a o =>
    have hc : (compCanCreate s t a).1 = s.mods .canCreate := consult_called_all _ _ g.2
    obtain ⟨e1, e2⟩ := grouped_split (v := .canCreate t a) (h := .onCreated t a) rfl rfl
      (hc ▸ hg.nodup .canCreate) (hg.nodup .created)
    refine ⟨?_, rfl, ?_, ?_⟩
    · show addAt p.bal t a = _; rw [hp.bal]; exact addAt_map N _ t a
    · show fanOut ((regOf s).getD 1 []) (.onCreated t a) = _
      rw [r1]; exact e1
    · show fanOut ((regOf s).getD 4 []) (.canCreate t a) = _
      rw [r4, ← hc]; exact e2
  | burn t a o =>
    obtain ⟨e1, e2⟩ := grouped_split (v := .canCreate t a) (h := .onDestroyed t a) rfl rfl .nil (hg.nodup .destroyed)
    refine ⟨?_, rfl, ?_, e2⟩
    · show addAt p.bal t (-a) = _; rw [hp.bal]; exact addAt_map N _ t (-a)
    · show fanOut ((regOf s).getD 2 []) (.onDestroyed t a) = _
      rw [r2]; exact e1
  | recover old new o =>
    have hb : gi p.bal old = s.base.bal old := by rw [hp.bal]; exact gi_map _ (hU old (by simp [Op.addrs]))
    obtain ⟨e1, e2⟩ := grouped_split (v := .canCreate new 0) (h := .onTransfer old new (s.base.bal old)) rfl rfl .nil
      (hg.nodup .transferred)
    show (if some (decide (s.base.bal old ≠ 0)) = some true then move p.bal old new (gi p.bal old) else p.bal) = _ ∧
      (if some (decide (s.base.bal old ≠ 0)) = some true then [Note.transferred old new (gi p.bal old)] else []) = _ ∧
      (if some (decide (s.base.bal old ≠ 0)) = some true then
        fanOut ((regOf s).getD 0 []) (.onTransfer old new (gi p.bal old)) else []) = _ ∧ [] = _
    simp only [ret_ite, hb, balAfter, Op.owedNotes, Op.owedModCalls]
    by_cases hz : s.base.bal old = 0
    · simp only [if_pos hz, grouped_nil]; exact ⟨hp.bal, trivial, rfl, rfl⟩
    · simp only [if_neg hz, r0, hp.bal]
      exact ⟨move_map N _ _ _ _, trivial, e1, e2⟩
  | _ => exact ⟨hp.bal, rfl, (by rw [grouped_nil]; rfl : [] = (grouped []).filter _), (by rw [grouped_nil]; rfl : [] = (grouped []).filter _)⟩

theorem vMove_ok (q : Post s s' op r)
    (e : expBal p (lineOf op x y) (retOf op r) = (List.range N).map (balAfter s op)) :
    vMove p (lineOf op x y) (obsOk s s' r op cs') = none := by
  unfold vMove
  refine guarded_none fun _ => ?_
  show ((List.range N).map s'.base.bal == expBal p (lineOf op x y) (retOf op r)) = true
  rw [e, q.bal]
  exact beq_self_eq_true _

theorem owed_obsOk (e : owedOf p (lineOf op x y) (retOf op r) = op.owedNotes s) :
    owed p (lineOf op x y) (obsOk s s' r op cs') = op.owedNotes s := by
  unfold owed
  rw [if_neg (by intro hc; exact hc rfl)]
  exact e

theorem vNotify_ok (e : owedOf p (lineOf op x y) (retOf op r) = op.owedNotes s)
    (hs : s'.notes = s.notes ++ op.owedNotes s) :
    vNotify p (lineOf op x y) (obsOk s s' r op cs') = none := by
  unfold vNotify
  apply orFail_true
  rw [owed_obsOk e, obsOk_cn hs]
  exact beq_self_eq_true _

theorem vBound_ok (hp : Shows p s cs) (e : owedOf p (lineOf op x y) (retOf op r) = op.owedNotes s)
    (hb : op.owedNotes s ≠ [] → s.bound = true) :
    vBound p (lineOf op x y) (obsOk s s' r op cs') = none := by
  unfold vBound
  rw [owed_obsOk e]
  by_cases hn : op.owedNotes s = []
  · rw [if_neg (by rw [hn]; simp)]
  · rw [if_pos ⟨rfl, by simpa using hn⟩]
    apply orFail_true
    rw [hp.bound]
    exact hb hn

theorem vFanout_ok
    (e : owedHooksOf (regOf s) p (lineOf op x y) (retOf op r) = (grouped (op.owedModCalls s)).filter (fun e => isHookCall e.2))
    (hs : s'.modCalls = s.modCalls ++ op.owedModCalls s) :
    vFanout (regOf s) p (lineOf op x y) (obsOk s s' r op cs') = none := by
  unfold vFanout
  apply orFail_true
  have e' : owedHooks (regOf s) p (lineOf op x y) (obsOk s s' r op cs') =
      owedHooksOf (regOf s) p (lineOf op x y) (retOf op r) := by
    unfold owedHooks
    rw [if_neg (by intro hc; exact hc rfl)]; rfl
  unfold gotHooks
  rw [e', obsOk_ml hs, e]
  exact beq_self_eq_true _

theorem vConsulted_ok
    (e : owedVerdictsOf (regOf s) (lineOf op x y) = (grouped (op.owedModCalls s)).filter (fun e => !isHookCall e.2))
    (hs : s'.modCalls = s.modCalls ++ op.owedModCalls s) :
    vConsulted (regOf s) (lineOf op x y) (obsOk s s' r op cs') = none := by
  unfold vConsulted
  refine guarded_none fun _ => ?_
  have e' : owedVerdicts (regOf s) (lineOf op x y) (obsOk s s' r op cs') = owedVerdictsOf (regOf s) (lineOf op x y) := by
    unfold owedVerdicts
    rw [if_neg (by intro hc; exact hc rfl)]
  unfold gotVerdicts
  rw [e', obsOk_ml hs, e]
  exact beq_self_eq_true _

theorem ghostReg_spec (op : Op) (x : Int) (y : Nat) :
    ghostReg (regOf s) (lineOf op x y) true = (List.range 5).map (fun h => modsAfter s op (hookOf h)) := by
  have hset : ∀ (k : Hook) (v : List Nat), setAt (regOf s) (hookIx k) v =
      (List.range 5).map (fun h => if hookOf h = k then v else s.mods (hookOf h)) := by
    intro k v
    unfold regOf
    rw [setAt_map]
    refine List.map_congr_left fun i hi => ?_
    have hi := List.mem_range.mp hi
    simp only [upd]
    by_cases hik : i = hookIx k
    · rw [if_pos hik, if_pos ((hookOf_eq_iff hi k).mpr hik)]
    · rw [if_neg hik, if_neg (fun e => hik ((hookOf_eq_iff hi k).mp e))]
  unfold ghostReg
  by_cases hk : kindOf op = .addModule
  · obtain ⟨k, m, o, rfl⟩ := kindOf_inv hk
    rw [if_pos ⟨rfl, rfl⟩]
    show setAt (regOf s) (hookIx k) ((regOf s).getD (hookIx k) [] ++ [m]) = _
    rw [regOf_getD_hookIx, hset]; rfl
  · rw [if_neg (fun e => hk e.2)]
    by_cases hk2 : kindOf op = .removeModule
    · obtain ⟨k, m, o, rfl⟩ := kindOf_inv hk2
      rw [if_pos ⟨rfl, rfl⟩]
      show setAt (regOf s) (hookIx k) (((regOf s).getD (hookIx k) []).erase m) = _
      rw [regOf_getD_hookIx, hset]; rfl
    · rw [if_neg (fun e => hk2 e.2)]
      have : modsAfter s op = s.mods := by
        cases op <;> first | rfl | exact absurd rfl hk | exact absurd rfl hk2
      rw [this]; rfl

theorem vRegistry_of {reg : List (List Nat)} {l : Line} {o : Obs} (h : o.mods = ghostReg reg l o.ok) :
    vRegistry reg l o = none := by
  unfold vRegistry
  apply orFail_true
  rw [h]; exact beq_self_eq_true _

theorem vAddModule_ok (g : Pre s op) :
    vAddModule (regOf s) (lineOf op x y) (obsOk s s' r op cs') = none := by
  unfold vAddModule
  refine guarded_none fun hk => ?_
  obtain ⟨k, m, o, rfl⟩ := kindOf_inv hk.2
  show (!((regOf s).getD (hookIx k) []).contains m) = true
  rw [regOf_getD_hookIx]
  simpa using g.1

theorem vRemoveModule_ok (g : Pre s op) :
    vRemoveModule (regOf s) (lineOf op x y) (obsOk s s' r op cs') = none := by
  unfold vRemoveModule
  refine guarded_none fun hk => ?_
  obtain ⟨k, m, o, rfl⟩ := kindOf_inv hk.2
  show ((regOf s).getD (hookIx k) []).contains m = true
  rw [regOf_getD_hookIx]
  exact List.contains_iff_mem.mpr g

theorem demOf_contains {op : Op} {o : Nat} (he : isEnv op = false) (hr : op.required = [o]) :
    (demOf op).contains o = true := by
  simp [demOf, he, hr]

theorem operator_spec (h : apply c s auth op = .ok s') (hk : (kindOf op).supervisory = true) :
    (lineOf op x y).operator = s.admin ∧ (demOf op).contains (lineOf op x y).operator = true := by
  cases op with
  | transfer | transferFrom | approve | advance | envIdOk | envRecTarget | envModule => cases hk
  | _ => exact ⟨(apply_ok h).1.2, demOf_contains rfl rfl⟩

theorem vOperator_ok {admin : Nat} (hadm : admin = s.admin) (h : applyRet c s auth op = .ok (s', r)) :
    vOperator admin (lineOf op x y) (obsOk s s' r op cs') = none := by
  unfold vOperator
  refine guarded_none fun hk => ?_
  obtain ⟨e1, e2⟩ := operator_spec (x := x) (y := y) (applyRet_apply h) hk.2
  show (decide ((lineOf op x y).operator = admin) && (demOf op).contains (lineOf op x y).operator) = true
  rw [e2, hadm]
  simp [e1]

theorem vSum_of {s : State} (hi : Inv (List.range N) s.base) {o : Obs}
    (h1 : o.bal = (List.range N).map s.base.bal) (h2 : o.sup = s.base.supply) : vSum o = none := by
  unfold vSum
  apply orFail_true
  rw [h1, h2]
  have hs : ((List.range N).map s.base.bal).sum = s.base.supply := hi.sum
  rw [hs]
  simp only [decide_true, Bool.true_and, List.all_eq_true, List.mem_map, decide_eq_true_eq]
  rintro v ⟨a, _, rfl⟩
  exact hi.nonneg a

theorem vRollback_ok (p : Obs) : vRollback p (obsOk s s' r op cs') = none := by
  unfold vRollback
  rw [if_neg (by intro hc; exact hc rfl)]

theorem vReplay_of {rep : List Int} {o : Obs} (h : rep = o.bal) : vReplay rep o = none := by
  unfold vReplay
  apply orFail_true
  rw [h]; exact beq_self_eq_true _

end accepted

end OZ.Rwa.Mon
