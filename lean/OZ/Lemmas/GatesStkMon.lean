import OZ.Lemmas.GatesStk
import OZ.Model.GatesStkMon
/-
Lemmas for the monitor soundness of the machine `stk` (C16; OZ/Props/C16StkMon.lean): a decision check of the monitor is
silent when an accepted call met the conditions it tests and a refused one did not.
-/
namespace OZ.Gates.Stk.Mon
open OZ.Host OZ.Fungible OZ.Gates OZ.Gates.Stk

/-! ### the op line of a model operation

What `OZ.Drv.C16.StkIO.parseLine` reads from the harness's rendering of an operation
(`gate <fn> a=<caller|-> d=- auth=<signers>`, `gate pause|unpause a=<caller> ..`, `fungible advance n=<k>`)
— the same words `StkIO.parseOp` builds the model's `SOp` from: only the role-guarded entry points carry
a caller. -/

def callerArg (f : Fn) (c : Nat) : List Nat := if f.spec.who = .role then [c] else []

def lineOf (auth : List Nat) : SOp → Line
  | .op (.call f c) => ⟨.fn f, callerArg f c, auth, 0⟩
  | .op (.pause c) => ⟨.pause, [c], auth, 0⟩
  | .op (.unpause c) => ⟨.unpause, [c], auth, 0⟩
  | .advance n => ⟨.advance, [], auth, n⟩

theorem orElse_none {a : Option String} {b : Unit → Option String} (h : a = none) : orElse a b = b () := by
  subst h; rfl

theorem verdict_none {m : Mon} {l : Line} {o : Obs} (h0 : vRollback m o = none) (h1 : vCall m l o = none)
    (h2 : vEffect m l o = none) : verdict m l o = none := by
  unfold verdict
  rw [orElse_none h0, orElse_none h1, h2]

theorem vRollback_none {m : Mon} {o : Obs} (h : o.ok = false → m.prev = none ∨ m.prev = some o.st) :
    vRollback m o = none := by
  unfold vRollback
  rw [if_neg]
  rintro ⟨h1, h2, h3⟩
  rcases h (by simpa using h1) with hp | hp
  · rw [hp] at h2; cases h2
  · exact h3 hp

theorem vFn_none {m : Mon} {l : Line} {f : Fn} {o : Obs}
    (h1 : o.ok = true → m.paused = f.spec.needPaused ∧ authorized m l f.spec.who = true)
    (h2 : o.ok = false → guardsHold m l f = false) : vFn m l f o = none := by
  unfold vFn
  rw [if_neg fun h => h.2 (h1 h.1).1, if_neg fun h => h.2 (h1 h.1).2,
    if_neg fun h => Bool.false_ne_true ((h2 (Bool.eq_false_iff.2 h.1)).symm.trans h.2)]

theorem vToggle_none {m : Mon} {l : Line} {o : Obs} {b : Bool} (hc : l.call = if b then .unpause else .pause)
    (h1 : o.ok = true → m.paused = b ∧ byOwner m l = true)
    (h2 : o.ok = false → ¬ (m.paused = b ∧ byOwner m l = true)) : vToggle m l o = none := by
  unfold vToggle
  -- a finite table: the five conditions of the chain for each flag and each verdict
  cases b <;> cases hk : o.ok <;> simp_all

theorem vToggle_other {m : Mon} {l : Line} {o : Obs} (h1 : l.call ≠ .pause) (h2 : l.call ≠ .unpause) :
    vToggle m l o = none := by
  unfold vToggle
  rw [if_neg fun h => h1 h.2.1, if_neg fun h => h2 h.2.1, if_neg fun h => h.2.1.elim h1 h2, if_neg fun h => h1 h.2.1,
    if_neg fun h => h2 h.2.1]

theorem vEffect_none {m : Mon} {l : Line} {o : Obs}
    (h1 : o.st.counter = counterStep m l o.ok) (h2 : o.st.paused = pausedStep m l o.ok)
    (h3 : o.ok = true → l.call.isInc = true → o.ret = some o.st.counter) : vEffect m l o = none := by
  unfold vEffect
  rw [if_neg (fun h => h h1), if_neg (fun h => h h2), if_neg (fun h => h.2.2 (h3 h.1 h.2.1))]

theorem stepM_some {x : MSt} {auth : List Nat} {op : SOp} {s' : Stk}
    (h : applyModel x.s auth op = some s') : stepM x auth op = (⟨s', nowStep x.now op⟩, true) := by
  unfold stepM; rw [h]

theorem stepM_none {x : MSt} {auth : List Nat} {op : SOp}
    (h : applyModel x.s auth op = none) : stepM x auth op = (x, false) := by
  unfold stepM; rw [h]

theorem applyModel_op_some {s s' : Stk} {auth : List Nat} {o : Op}
    (h : applyModel s auth (.op o) = some s') : s.apply auth o = .ok s' := by
  simp only [applyModel] at h
  cases hx : s.apply auth o with
  | error e => rw [hx] at h; cases h
  | ok s1 => rw [hx] at h; injection h with h; rw [h]

theorem applyModel_op_none {s : Stk} {auth : List Nat} {o : Op}
    (h : applyModel s auth (.op o) = none) : ∀ s', s.apply auth o ≠ .ok s' := by
  intro s' hx
  simp only [applyModel] at h
  rw [hx] at h
  cases h

theorem apply_effect {s s' : Stk} {auth : List Nat} {op : SOp} (hs : applyModel s auth op = some s') :
    s'.counter = counterF s.counter (lineOf auth op).call ∧ s'.p.paused = pausedF s.p.paused (lineOf auth op).call ∧
    s'.owner = s.owner ∧ s'.admin = s.admin ∧ s'.isOp = s.isOp := by
  cases op with
  | advance n => cases hs; exact ⟨rfl, rfl, rfl, rfl, rfl⟩
  | op o =>
    have hx := applyModel_op_some hs
    cases o with
    | call f c => obtain ⟨-, rfl⟩ := body_iff.1 (call_iff.1 hx).2.2; exact ⟨rfl, rfl, rfl, rfl, rfl⟩
    | pause c => obtain ⟨-, -, -, rfl⟩ := pause_iff.1 hx; exact ⟨rfl, rfl, rfl, rfl, rfl⟩
    | unpause c => obtain ⟨-, -, -, rfl⟩ := unpause_iff.1 hx; exact ⟨rfl, rfl, rfl, rfl, rfl⟩

end OZ.Gates.Stk.Mon
