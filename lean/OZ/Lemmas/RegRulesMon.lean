import OZ.Lemmas.RegRules
import OZ.Lemmas.RegMon
import OZ.Model.RegRulesMon
/-
For the soundness of the `rules` monitor of C20 (OZ/Props/C20dMon.lean): the monitor's plain list is the image `ghost s`
of the model's live rules (`Agree`). `installOk` is the harness's oracle, a constant of OZ/Model/RegRulesMon.lean here
and not a variable. The lemmas on `R=`, `T=` and the fingerprint line are stated on the bodies of the fields of
`modelObs`, which OZ/Props/C20dMon.lean defines after this file: they have to be kept in step with that definition by hand.
-/
namespace OZ.RegRules.Mon
open OZ.Reg OZ.RegMon OZ.RegRules OZ.Lists

theorem sortNat_eq_iff_mem {a b : List Nat} (ha : a.Nodup) (hb : b.Nodup) :
    sortNat a = sortNat b ↔ ∀ x, x ∈ a ↔ x ∈ b :=
  mergeSort_le_eq_iff_perm.trans (List.perm_ext_iff_of_nodup ha hb)

def toGR (r : Rule) : GR := ⟨r.id, r.ctx, r.name, r.validUntil, r.signers, r.policies⟩

def gAt (s : State) (i : Nat) : Option GR := (getContextRule s i).map toGR

def ghost (s : State) : List GR := (liveRules s).map toGR

/-- the extra model invariant the `T=` line needs: every per-type id vector is increasing (ids are
handed out in increasing order, appended at the end and removed in place) -/
def IdsSorted (s : State) : Prop := ∀ c, (s.ids c).Pairwise (· < ·)

structure Agree (g : Mon) (s : State) : Prop where
  rules : g.rules = ghost s
  maxId : g.maxId + 1 = s.nextId
  now : g.now = s.now

theorem gAt_eq (s : State) (i : Nat) :
    gAt s i = (s.info i).map (fun m => ⟨i, m.ctx, m.name, m.validUntil, s.signers i, s.policies i⟩) := by
  unfold gAt getContextRule toGR
  cases s.info i <;> rfl

theorem gAt_id {s : State} {i : Nat} {x : GR} (h : gAt s i = some x) : x.id = i := by
  rw [gAt_eq] at h
  cases hm : s.info i with
  | none => rw [hm] at h; cases h
  | some m => rw [hm] at h; injection h with h; rw [← h]

theorem gAt_of_info {s : State} {id : Nat} {m : Meta} (hm : s.info id = some m) :
    gAt s id = some ⟨id, m.ctx, m.name, m.validUntil, s.signers id, s.policies id⟩ := by
  rw [gAt_eq, hm]; rfl

theorem gAt_of_info_none {s : State} {id : Nat} (hm : s.info id = none) : gAt s id = none := by
  rw [gAt_eq, hm]; rfl

theorem gAt_none_of_ge {s : State} (hI : Inv s) {i : Nat} (h : s.nextId ≤ i) : gAt s i = none :=
  gAt_of_info_none (hI.r.info_none h)

theorem ghost_eq (s : State) : ghost s = (List.range (s.nextId + 1)).filterMap (gAt s) := by
  unfold ghost liveRules
  rw [List.map_filterMap]
  rfl

theorem mem_liveRules {s : State} (hI : Inv s) (r : Rule) :
    r ∈ liveRules s ↔ ∃ i, getContextRule s i = some r := by
  unfold liveRules
  rw [List.mem_filterMap]
  constructor
  · rintro ⟨i, _, h⟩; exact ⟨i, h⟩
  · rintro ⟨i, h⟩
    refine ⟨i, ?_, h⟩
    rw [List.mem_range]
    obtain ⟨m, hm, _⟩ := (getContextRule_some s i r).1 h
    have := hI.r.idLt i (by rw [hm]; rfl)
    omega

theorem mem_ghost' {s : State} (hI : Inv s) (x : GR) : x ∈ ghost s ↔ ∃ i, gAt s i = some x := by
  unfold ghost gAt
  simp only [List.mem_map, mem_liveRules hI, Option.map_eq_some_iff]
  exact ⟨fun ⟨r, ⟨i, h⟩, e⟩ => ⟨i, r, h, e⟩, fun ⟨i, r, h, e⟩ => ⟨r, ⟨i, h⟩, e⟩⟩

theorem mem_ghost {s : State} (hI : Inv s) (x : GR) : x ∈ ghost s ↔ gAt s x.id = some x :=
  (mem_ghost' hI x).trans ⟨fun ⟨i, h⟩ => by rw [gAt_id h]; exact h, fun h => ⟨_, h⟩⟩

theorem ghost_ids_sorted (s : State) : ((ghost s).map (·.id)).Pairwise (· < ·) := by
  rw [ghost_eq, List.pairwise_map]
  exact KeyTab.sorted (fun i x h => gAt_id h) _

theorem ghost_ids_nodup (s : State) : ((ghost s).map (·.id)).Nodup :=
  (ghost_ids_sorted s).imp (fun h => Nat.ne_of_lt h)

theorem find_ghost {g : Mon} {s : State} (ha : Agree g s) (hI : Inv s) (id : Nat) : find g id = gAt s id := by
  unfold find
  rw [ha.rules, ghost_eq, KeyTab.find (fun i x h => gAt_id h)]
  by_cases h : id < s.nextId + 1
  · rw [if_pos h]
  · rw [if_neg h, gAt_none_of_ge hI (by omega)]

theorem ghost_length {s : State} (hI : Inv s) : (ghost s).length = s.count := by
  obtain ⟨lv, h1, h2, h3⟩ := hI.r.live
  rw [h3, ← List.length_map (f := (·.id))]
  apply length_eq_of_nodup_mem (ghost_ids_nodup s) h1
  intro i
  rw [h2, List.mem_map]
  constructor
  · rintro ⟨x, hx, rfl⟩
    have := (mem_ghost hI x).1 hx
    rw [gAt_eq] at this
    cases hm : s.info x.id with
    | none => rw [hm] at this; cases this
    | some m => rfl
  · intro h
    obtain ⟨m, hm⟩ := Option.isSome_iff_exists.1 h
    exact ⟨_, (mem_ghost hI ⟨i, _, _, _, _, _⟩).2 (gAt_of_info hm), rfl⟩

theorem ghost_put {s s' : State} (id : Nat) (r r' : GR) (hn : s'.nextId = s.nextId) (hr : gAt s id = some r)
    (h' : ∀ i, gAt s' i = if i = id then some r' else gAt s i) :
    ghost s' = (ghost s).map (fun x => if x.id == id then r' else x) := by
  rw [ghost_eq, ghost_eq, hn, KeyTab.modify (fun i x h => gAt_id h) id (fun _ => r')]
  refine List.filterMap_congr (fun i _ => ?_)
  rw [h' i, hr]; rfl

theorem agree_put {g : Mon} {s s' : State} (ha : Agree g s) (id : Nat) (r r' : GR) (hid : r'.id = id)
    (hn : s'.nextId = s.nextId) (hnow : s'.now = s.now) (hr : gAt s id = some r)
    (h' : ∀ i, gAt s' i = if i = id then some r' else gAt s i) : Agree (put g r') s' := by
  refine ⟨?_, by rw [hn]; exact ha.maxId, by rw [hnow]; exact ha.now⟩
  show g.rules.map _ = _
  rw [ghost_put id r r' hn hr h', ha.rules, hid]

theorem ghost_remove {s s' : State} (id : Nat) (hn : s'.nextId = s.nextId)
    (h' : ∀ i, gAt s' i = if i = id then none else gAt s i) :
    ghost s' = (ghost s).filter (fun x => x.id ≠ id) := by
  rw [ghost_eq, ghost_eq, hn, KeyTab.erase (fun i x h => gAt_id h) id (fun x => decide_eq_true_iff)]
  exact List.filterMap_congr (fun i _ => h' i)

theorem ghost_add {s s' : State} (hI : Inv s) (r' : GR) (hn : s'.nextId = s.nextId + 1)
    (h' : ∀ i, gAt s' i = if i = s.nextId then some r' else gAt s i) :
    ghost s' = ghost s ++ [r'] := by
  rw [ghost_eq, ghost_eq, hn, List.range_succ, List.range_succ, List.filterMap_append,
    List.filterMap_append, List.filterMap_append]
  have e1 : [s.nextId + 1].filterMap (gAt s') = [] := by
    have : gAt s' (s.nextId + 1) = none := by
      rw [h', if_neg (by omega)]; exact gAt_none_of_ge hI (by omega)
    simp [this]
  have e2 : [s.nextId].filterMap (gAt s') = [r'] := by
    have : gAt s' s.nextId = some r' := by rw [h', if_pos rfl]
    simp [this]
  have e3 : [s.nextId].filterMap (gAt s) = [] := by
    have : gAt s s.nextId = none := gAt_none_of_ge hI (Nat.le_refl _)
    simp [this]
  rw [e1, e2, e3, List.append_nil, List.append_nil]
  congr 1
  refine List.filterMap_congr (fun i hi => ?_)
  rw [List.mem_range] at hi
  rw [h', if_neg (by omega)]

theorem gAt_of {s s' : State} {id : Nat} {new : Option Rule}
    (h : ∀ i, getContextRule s' i = if i = id then new else getContextRule s i) (i : Nat) :
    gAt s' i = if i = id then new.map toGR else gAt s i := by
  unfold gAt; rw [h]; split <;> rfl

theorem idsSorted_init (now : Nat) : IdsSorted (init now) := fun _ => List.Pairwise.nil

theorem _root_.OZ.RegRules.Eff.idsSorted {s s' : State} (h : Eff s s') (hI : Inv s) (hS : IdsSorted s) : IdsSorted s' := by
  cases h with
  | @add c _ _ _ _ hc ok =>
    refine fun c' => forall_updD (P := fun _ l => List.Pairwise (· < ·) l) ?_ (fun x _ => hS x) c'
    refine List.pairwise_append.2 ⟨hS c, List.pairwise_singleton _ _, fun a ha b hb => ?_⟩
    obtain ⟨m, hm, _⟩ := (hI.r.idsMem c a).1 ha
    exact List.mem_singleton.1 hb ▸ hI.r.idLt a (by rw [hm]; rfl)
  | remove hm =>
    exact fun c' => forall_updD (P := fun _ l => List.Pairwise (· < ·) l) ((hS _).sublist (eraseLast_sublist _ _))
      (fun x _ => hS x) c'
  | _ => exact hS

theorem idsSorted_next {s : State} (hI : Inv s) (hS : IdsSorted s) (o : Op) : IdsSorted (next installOk s o) :=
  (next_eff installOk s o).elim (fun h => h.symm ▸ hS) (·.idsSorted hI hS)

theorem sameFp_toGR {r : Rule} {c : Nat} {sg ps : List Nat} (h : r.signers.Nodup ∧ r.policies.Nodup) (hsg : sg.Nodup)
    (hps : ps.Nodup) : sameFp c sg ps (toGR r) = true ↔ fingerprint r = (c, sortNat sg, sortNat ps) := by
  unfold sameFp fingerprint toGR
  simp only [Bool.and_eq_true, beq_iff_eq, sameSet_iff, Prod.mk.injEq, sortNat_eq_iff_mem h.1 hsg,
    sortNat_eq_iff_mem h.2 hps, and_assoc]

theorem mem_fps_iff {s : State} (hI : Inv s) (fp : FP) : fp ∈ s.fps ↔ fp ∈ (liveRules s).map fingerprint := by
  rw [hI.mem_fps, List.mem_map]
  exact ⟨fun ⟨i, r, hr, h⟩ => ⟨r, (mem_liveRules hI r).2 ⟨i, hr⟩, h⟩,
    fun ⟨r, hr, h⟩ => let ⟨i, hi⟩ := (mem_liveRules hI r).1 hr; ⟨i, r, hi, h⟩⟩

theorem anyFp_iff {g : Mon} {s : State} (ha : Agree g s) (hI : Inv s) (c : Nat) {sg ps : List Nat}
    (hsg : sg.Nodup) (hps : ps.Nodup) :
    g.rules.any (sameFp c sg ps) = true ↔ (c, sortNat sg, sortNat ps) ∈ s.fps := by
  rw [ha.rules, mem_fps_iff hI, ghost, List.any_map, List.any_eq_true, List.mem_map]
  refine exists_congr fun r => and_congr_right fun hr => ?_
  obtain ⟨i, hi⟩ := (mem_liveRules hI r).1 hr
  exact sameFp_toGR (hI.rule_nodup hi) hsg hps

theorem past_eq {g : Mon} {s : State} (ha : Agree g s) (vu : Option Nat) : past g vu = pastValidUntil s vu := by
  cases vu with
  | none => rfl
  | some v => simp [past, pastValidUntil, ha.now]

theorem refused {s : State} {op : Op} (h : ∀ s', step installOk s op = .ok s' → False) :
    ∃ e, step installOk s op = .error e :=
  err_of_not_ok (fun s' hok => h s' hok)

theorem count_ne_zero {s : State} (hI : Inv s) {id : Nat} {m : Meta} (hm : s.info id = some m) : s.count ≠ 0 := by
  obtain ⟨lv, _, h2, h3⟩ := hI.r.live
  have : id ∈ lv := (h2 id).2 (by rw [hm]; rfl)
  rw [h3]
  intro h0
  rw [List.length_eq_zero_iff] at h0
  rw [h0] at this; cases this

theorem plain_add_ok_iff (g t : Mon) (c n : Nat) (vu : Option Nat) (sg ps : List Nat) :
    plain g (.add c n vu sg ps) = .ok t ↔
      (g.rules.length < MAX_CONTEXT_RULES ∧ sg.Nodup ∧ past g vu = false ∧
        (sg.length ≤ MAX_SIGNERS ∧ ps.length ≤ MAX_POLICIES ∧ ¬ (sg = [] ∧ ps = [])) ∧
        ps.Nodup ∧ g.rules.any (sameFp c sg ps) = false ∧ ps.all installOk = true) ∧
      t = { g with rules := g.rules ++ [⟨g.maxId + 1, c, n, vu, sg, ps⟩], maxId := g.maxId + 1 } := by
  simp only [plain]
  rw [ite_error_eq_ok_iff, ite_error_eq_ok_iff, ite_error_eq_ok_iff, ite_error_eq_ok_iff, ite_error_eq_ok_iff,
    ite_error_eq_ok_iff, ite_error_eq_ok_iff, ite_error_eq_ok_iff, ite_error_eq_ok_iff]
  simp only [Bool.not_eq_true', Bool.not_eq_false, Bool.not_eq_true, nodupB_iff, Nat.not_le, Nat.not_lt, ge_iff_le, gt_iff_lt,
    Except.ok.injEq, MAX_CONTEXT_RULES, MAX_SIGNERS, MAX_POLICIES, and_assoc]
  rw [@eq_comm _ t]

/-- the tail the four signer / policy edits share: the model re-fingerprints the live rule `id` to `(nS, nP)` and writes
(`W`); the plain list runs one test `d` that stands for `validate`, then looks for a rule with the new fingerprint -/
theorem decides_refp {g : Mon} {s : State} (ha : Agree g s) (hI : Inv s) {id : Nat} {m : Meta} (hm : s.info id = some m)
    {d : Prop} [Decidable d] {nS nP : List Nat} {W : State → State} {w w' : String} (hS : nS.Nodup) (hP : nP.Nodup)
    (hd : ¬ d ↔ nS.length ≤ MAX_SIGNERS ∧ nP.length ≤ MAX_POLICIES ∧ ¬ (nS = [] ∧ nP = []))
    (hW : ∀ i, getContextRule (W (refp s m.ctx (s.signers id) (s.policies id) nS nP)) i =
      if i = id then some ⟨id, m.ctx, m.name, nS, nP, m.validUntil⟩ else getContextRule s i)
    (hn : (W (refp s m.ctx (s.signers id) (s.policies id) nS nP)).nextId = s.nextId)
    (hnow : (W (refp s m.ctx (s.signers id) (s.policies id) nS nP)).now = s.now) :
    Decides Agree ((refingerprint s m.ctx (s.signers id) (s.policies id) nS nP).bind fun s1 => .ok (W s1))
      (if d then .error w else if g.rules.any (sameFp m.ctx nS nP) = true then .error w'
        else .ok (put g ⟨id, m.ctx, m.name, m.validUntil, nS, nP⟩)) := by
  refine .of_iff (refingerprint_bind_ok_iff s · m.ctx _ _ nS nP W)
    (fun t => by
      rw [ite_error_eq_ok_iff, ite_error_eq_ok_iff, Except.ok.injEq, ← and_assoc]; exact and_congr_right' eq_comm)
    ?_ (fun _ => ⟨_, rfl⟩) fun _ _ e => e ▸ agree_put ha id _ _ rfl hn hnow (gAt_of_info hm) (gAt_of hW)
  rw [anyFp_iff ha hI m.ctx hS hP, hd]
  exact ⟨fun ⟨⟨l1, l2, ne⟩, h⟩ => ⟨⟨l1, l2, ne, hS, hP, h⟩, hI.r.sgNodup id, hI.r.psNodup id⟩,
    fun ⟨ok, _⟩ => ⟨⟨ok.sgLe, ok.psLe, ok.ne⟩, ok.fresh⟩⟩

/-- for an operation on a rule the plain list's look-up is rewritten into the model's, so that one case split serves both;
the checks of the operation itself are the same on both sides, in the same order -/
theorem decides {g : Mon} {s : State} (ha : Agree g s) (hI : Inv s) (op : Op) :
    Decides Agree (step installOk s op) (plain g op) := by
  cases op with
  | add c n vu sg ps =>
    have hlen : g.rules.length = s.count := by rw [ha.rules]; exact ghost_length hI
    refine .of_iff (addContextRule_ok_iff installOk s · c n vu sg ps) (plain_add_ok_iff g · c n vu sg ps) ?_
      (fun _ => ⟨_, rfl⟩) fun _ _ e => e ▸ ⟨?_, ?_, ha.now⟩
    · rw [hlen, past_eq ha]
      exact ⟨fun ⟨h1, h2, h3, ⟨l1, l2, ne⟩, h7, h8, h9⟩ =>
          ⟨h1, h3, ⟨l1, l2, ne, h2, h7, (Bool.eq_false_iff.trans (anyFp_iff ha hI c h2 h7).not).1 h8⟩, h9⟩,
        fun ⟨h1, h3, ok, h9⟩ => ⟨h1, ok.sgNodup, h3, ⟨ok.sgLe, ok.psLe, ok.ne⟩, ok.psNodup,
          (Bool.eq_false_iff.trans (anyFp_iff ha hI c ok.sgNodup ok.psNodup).not).2 ok.fresh, h9⟩⟩
    · show g.rules ++ [_] = _
      rw [ghost_add hI ⟨s.nextId, c, n, vu, sg, ps⟩ rfl (gAt_of (getContextRule_added s c n vu sg ps)), ha.rules, ha.maxId]
    · show g.maxId + 1 + 1 = s.nextId + 1
      rw [ha.maxId]
  | advance n => exact .accepted rfl rfl ⟨ha.rules, ha.maxId, congrArg (· + n) ha.now⟩
  | rename id n =>
    rw [step, updateName, plain, find_ghost ha hI, gAt_eq]
    cases hm : s.info id with
    | none => exact .refused
    | some m =>
      exact .accepted rfl rfl
        (agree_put ha id _ _ rfl rfl rfl (gAt_of_info hm) (gAt_of (getContextRule_setMeta s id _)))
  | revalid id vu =>
    rw [step, updateValidUntil, plain, find_ghost ha hI, gAt_eq, past_eq ha]
    cases hm : s.info id with
    | none => exact .refused
    | some m =>
      exact .ite .rfl fun _ => .accepted rfl rfl
        (agree_put ha id _ _ rfl rfl rfl (gAt_of_info hm) (gAt_of (getContextRule_setMeta s id _)))
  | remove id =>
    rw [step, plain, find_ghost ha hI, gAt_eq]
    cases hm : s.info id with
    | none => rw [removeContextRule, hm]; exact .refused
    | some m =>
      refine .accepted (g' := { g with rules := g.rules.filter (fun r => r.id ≠ id) }) ((removeContextRule_ok_iff s _ id).2
          ⟨m, hm, ⟨hI.r.sgNodup id, hI.r.psNodup id, count_ne_zero hI hm⟩, rfl⟩) rfl ⟨?_, ha.maxId, ha.now⟩
      show g.rules.filter _ = _
      rw [ghost_remove (s := s) (s' := removed s id m) id rfl (gAt_of (getContextRule_removed s id m)), ha.rules]
  | addSigner id x =>
    rw [step, addSigner, plain, find_ghost ha hI, gAt_eq]
    cases hm : s.info id with
    | none => exact .refused
    | some m =>
      exact .ite .rfl fun hx => decides_refp ha hI hm
        (nodup_append_singleton (hI.r.sgNodup id) (fun h => hx (List.contains_iff_mem.2 h))) (hI.r.psNodup id)
        (by simp [MAX_SIGNERS, hI.r.psLe id]) (getContextRule_sgSet hm (s.signers id ++ [x])) rfl rfl
  | removeSigner id x =>
    rw [step, removeSigner, plain, find_ghost ha hI, gAt_eq]
    cases hm : s.info id with
    | none => exact .refused
    | some m =>
      dsimp only [Option.map_some]
      rw [← eraseLast_eq_erase (hI.r.sgNodup id) x]
      exact .ite .rfl fun _ => decides_refp ha hI hm (nodup_eraseLast (hI.r.sgNodup id) x) (hI.r.psNodup id)
        (by simp [Nat.le_trans (length_eraseLast_le _ _) (hI.r.sgLe id), hI.r.psLe id])
        (getContextRule_sgSet hm (eraseLast (s.signers id) x)) rfl rfl
  | addPolicy id x =>
    rw [step, addPolicy, plain, find_ghost ha hI, gAt_eq]
    cases hm : s.info id with
    | none => exact .refused
    | some m =>
      exact .ite .rfl fun hx => .ite .rfl fun _ => decides_refp ha hI hm (hI.r.sgNodup id)
        (nodup_append_singleton (hI.r.psNodup id) (fun h => hx (List.contains_iff_mem.2 h)))
        (by simp [MAX_POLICIES, hI.r.sgLe id]) (getContextRule_psSet hm (s.policies id ++ [x])) rfl rfl
  | removePolicy id x =>
    rw [step, removePolicy, plain, find_ghost ha hI, gAt_eq]
    cases hm : s.info id with
    | none => exact .refused
    | some m =>
      dsimp only [Option.map_some]
      rw [← eraseLast_eq_erase (hI.r.psNodup id) x]
      exact .ite .rfl fun _ => decides_refp ha hI hm (hI.r.sgNodup id) (nodup_eraseLast (hI.r.psNodup id) x)
        (by simp [Nat.le_trans (length_eraseLast_le _ _) (hI.r.psLe id), hI.r.sgLe id])
        (getContextRule_psSet hm (eraseLast (s.policies id) x)) rfl rfl

/-- `Decides.ok` and `Decides.err` of `decides` as one disjunction -/
def Outcome (g : Mon) (s : State) (op : Op) : Prop :=
  (∃ s' g', step installOk s op = .ok s' ∧ plain g op = .ok g' ∧ Agree g' s') ∨
  ((∃ e, step installOk s op = .error e) ∧ ∃ w, plain g op = .error w)

/-- every operation is decided alike -/
theorem outcome {g : Mon} {s : State} (ha : Agree g s) (hI : Inv s) (op : Op) : Outcome g s op := by
  have h := decides ha hI op
  unfold Outcome
  cases hs : step installOk s op with
  | ok s' => obtain ⟨g', hp, ha'⟩ := h.ok s' hs; exact .inl ⟨s', g', rfl, hp, ha'⟩
  | error e => exact .inr ⟨⟨e, rfl⟩, h.err hs⟩

/-! ### the returned id -/

/-- the `ret=` word the model driver prints, parsed: the id `NextId` of the OLD state for an
accepted `add_context_rule`, `-` otherwise -/
def retOf (s : State) (op : Op) (ok : Bool) : Option Nat :=
  match op, ok with
  | .add .., true => some s.nextId
  | _, _ => none

theorem idStep_ok {g g' : Mon} {s s' : State} (ha : Agree g s) (hI : Inv s) {op : Op}
    (hs : step installOk s op = .ok s') (ha' : Agree g' s') :
    ∃ g2, idStep g g' none op true (retOf s op true) = (g2, none) ∧ Agree g2 s' := by
  cases op with
  | add c n vu sg ps =>
    obtain ⟨_, rfl⟩ := (addContextRule_ok_iff installOk s s' c n vu sg ps).1 hs
    refine ⟨{ g' with rules := g.rules ++ [⟨s.nextId, c, n, vu, sg, ps⟩], maxId := s.nextId }, ?_, ?_, rfl, ha'.now⟩
    · show (if s.nextId ≤ g.maxId then _ else if (none : Option String).isNone = true then _ else _) = _
      rw [if_neg (by have := ha.maxId; omega), if_pos (show (none : Option String).isNone = true from rfl)]
    · show g.rules ++ [_] = _
      rw [ghost_add hI ⟨s.nextId, c, n, vu, sg, ps⟩ rfl (gAt_of (getContextRule_added s c n vu sg ps)), ha.rules]
  | _ => exact ⟨g', rfl, ha'⟩

theorem idStep_err (g g1 : Mon) (a : Option String) (op : Op) (r : Option Nat) :
    idStep g g1 a op false r = (g1, none) := by
  cases op <;> rfl

/-! ### `R=` and `T=` -/

theorem showGR_toGR (r : Rule) : showGR (toGR r) = showRule r := rfl

theorem rWant_eq {g : Mon} {s : State} (ha : Agree g s) :
    sepBy ";" ((liveRules s).map showRule) = rWant g := by
  unfold rWant
  rw [ha.rules]
  unfold ghost
  rw [List.map_map]
  rfl

theorem ids_eq {g : Mon} {s : State} (ha : Agree g s) (hI : Inv s) (hS : IdsSorted s) (c : Nat) :
    s.ids c = (g.rules.filter (fun r => r.ctx == c)).map (·.id) := by
  rw [ha.rules]
  refine eq_of_lt_of_mem (hS c)
    ((ghost_ids_sorted s).sublist (List.filter_sublist.map _)) (fun i => ?_)
  rw [hI.mem_ids, List.mem_map]
  constructor
  · rintro ⟨r, hr, hc⟩
    have hg : gAt s i = some (toGR r) := by unfold gAt; rw [hr]; rfl
    exact ⟨toGR r, List.mem_filter.2 ⟨(mem_ghost' hI _).2 ⟨i, hg⟩, beq_iff_eq.2 hc⟩, gAt_id hg⟩
  · rintro ⟨x, hx, rfl⟩
    obtain ⟨hx, hc⟩ := List.mem_filter.1 hx
    obtain ⟨r, hr, rfl⟩ := Option.map_eq_some_iff.1 ((mem_ghost hI x).1 hx)
    exact ⟨r, hr, beq_iff_eq.1 hc⟩

theorem tWant_eq {g : Mon} {s : State} (ha : Agree g s) (hI : Inv s) (hS : IdsSorted s) :
    sepBy ";" ((List.range NC).map (fun c => match getContextRules s c with
      | some l => s!"{c}:{nats (l.map (·.id))}"
      | none => s!"{c}:x")) = tWant g := by
  unfold tWant
  congr 1
  refine List.map_congr_left (fun c _ => ?_)
  obtain ⟨l, hl, hmap, _⟩ := getContextRules_spec hI c
  rw [hl]
  show s!"{c}:{nats (l.map (·.id))}" = _
  rw [hmap, ids_eq ha hI hS c]

/-! ### the fingerprint line -/

/-- the fingerprints of the live rules, as the model driver computes them -/
def fpsLive (s : State) : List FP :=
  (liveRules s).filterMap (fun r => match computeFp r.ctx r.signers r.policies with
    | .ok fp => some fp
    | .error _ => none)

theorem liveRules_nodup (s : State) : (liveRules s).Nodup := by
  have := ghost_ids_nodup s
  unfold ghost at this
  rw [List.map_map] at this
  exact List.Nodup.of_map _ this

theorem fpsLive_eq {s : State} (hI : Inv s) : fpsLive s = (liveRules s).map fingerprint := by
  unfold fpsLive
  rw [← List.filterMap_eq_map]
  refine List.filterMap_congr (fun r hr => ?_)
  obtain ⟨i, hi⟩ := (mem_liveRules hI r).1 hr
  obtain ⟨m, _, rfl⟩ := (getContextRule_some s i r).1 hi
  have := (computeFp_ok_iff m.ctx (s.signers i) (s.policies i) _).2 ⟨hI.r.sgNodup i, hI.r.psNodup i, rfl⟩
  simp only [this]
  rfl

theorem fps_image_nodup {s : State} (hI : Inv s) : ((liveRules s).map fingerprint).Nodup := by
  refine List.Nodup.map_on (fun x hx y hy h => ?_) (liveRules_nodup s)
  obtain ⟨i, hi⟩ := (mem_liveRules hI x).1 hx
  obtain ⟨j, hj⟩ := (mem_liveRules hI y).1 hy
  have e := hI.fp_inj hi hj h
  subst e
  rw [hi] at hj; injection hj

theorem liveRules_length (s : State) : (liveRules s).length = (ghost s).length := by
  unfold ghost; rw [List.length_map]

theorem nfp_eq {s : State} (hI : Inv s) : s.fps.length = (ghost s).length := by
  rw [length_eq_of_nodup_mem hI.f.fpsNodup (fps_image_nodup hI) (mem_fps_iff hI), List.length_map, liveRules_length]

theorem fpd_eq {s : State} (hI : Inv s) : (fpsLive s).eraseDups.length = (ghost s).length := by
  rw [fpsLive_eq hI, eraseDups_of_nodup (fps_image_nodup hI), List.length_map, liveRules_length]

theorem fpok_eq {s : State} (hI : Inv s) :
    (fpsLive s).length = (liveRules s).length ∧ (fpsLive s).all s.fps.contains = true := by
  rw [fpsLive_eq hI, List.length_map]
  refine ⟨rfl, ?_⟩
  rw [List.all_eq_true]
  intro fp hfp
  rw [List.contains_iff_mem]
  exact (mem_fps_iff hI fp).2 hfp

theorem agree_constructor {now : Nat} {s0 p0 : List Nat} {s : State}
    (h : addContextRule installOk (init now) 0 0 none s0 p0 = .ok s) :
    Agree { rules := [⟨0, 0, 0, none, s0, p0⟩], maxId := 0, now := now } s ∧ Inv s ∧ IdsSorted s := by
  have hn : next installOk (init now) (.add 0 0 none s0 p0) = s := by
    unfold next
    rw [show step installOk (init now) (.add 0 0 none s0 p0) = addContextRule installOk (init now) 0 0 none s0 p0 from rfl, h]
  refine ⟨?_, hn ▸ inv_next installOk (inv_init now) _, hn ▸ idsSorted_next (inv_init now) (idsSorted_init now) _⟩
  obtain ⟨_, rfl⟩ := (addContextRule_ok_iff installOk (init now) s 0 0 none s0 p0).1 h
  refine ⟨?_, rfl, rfl⟩
  show [_] = _
  rw [ghost_add (inv_init now) ⟨0, 0, 0, none, s0, p0⟩ rfl (gAt_of (getContextRule_added (init now) 0 0 none s0 p0))]
  rfl

end OZ.RegRules.Mon
