import OZ.Lemmas.Fungible
/-
For C02 (tokens move only with the holder's authorization or a live allowance): what the allowance getter reads,
what each accepted entry point may change, and the ghost bookkeeping ("last approved amount", "spent since",
"live_until of the last approval") with its invariant over arbitrary histories.
-/
namespace OZ.Fungible
open OZ.Host

/-! ### `allowance_data` / `allowance` -/

theorem allowanceData_eq (s : State) (o sp : Nat) :
    allowanceData s o sp =
      if ((Temp.get? (s.allow o sp) s.now).getD ⟨0, 0⟩).liveUntilLedger < s.now then ⟨0, 0⟩
      else (Temp.get? (s.allow o sp) s.now).getD ⟨0, 0⟩ := rfl

theorem allowance_congr {s s' : State} (h1 : s'.allow = s.allow) (h2 : s'.now = s.now)
    (o sp : Nat) : allowance s' o sp = allowance s o sp := by
  unfold allowance; rw [allowanceData_eq, allowanceData_eq, h1, h2]

theorem allowanceData_congr_entry {s s' : State} {o sp : Nat}
    (h1 : s'.allow o sp = s.allow o sp) (h2 : s'.now = s.now) :
    allowanceData s' o sp = allowanceData s o sp := by
  rw [allowanceData_eq, allowanceData_eq, h1, h2]

theorem allowance_congr_entry {s s' : State} {o sp : Nat}
    (h1 : s'.allow o sp = s.allow o sp) (h2 : s'.now = s.now) :
    allowance s' o sp = allowance s o sp := by
  unfold allowance; rw [allowanceData_congr_entry h1 h2]

theorem allowanceData_none {s : State} {o sp : Nat} (h : s.allow o sp = none) :
    allowanceData s o sp = ⟨0, 0⟩ := by
  rw [allowanceData_eq, h, Temp.get?_none]
  split <;> rfl

theorem allowance_none {s : State} {o sp : Nat} (h : s.allow o sp = none) : allowance s o sp = 0 :=
  congrArg AllowanceData.amount (allowanceData_none h)

theorem allowanceData_dead {s : State} {o sp : Nat} {e : Temp AllowanceData}
    (h : s.allow o sp = some e) (hd : ¬ s.now ≤ e.liveUntil) :
    allowanceData s o sp = ⟨0, 0⟩ := by
  rw [allowanceData_eq, h, Temp.get?_dead hd]
  split <;> rfl

theorem allowanceData_expired {s : State} {o sp : Nat} {e : Temp AllowanceData}
    (h : s.allow o sp = some e) (hx : e.val.liveUntilLedger < s.now) :
    allowanceData s o sp = ⟨0, 0⟩ := by
  by_cases hl : s.now ≤ e.liveUntil
  · rw [allowanceData_eq, h, Temp.get?_live hl]
    simp only [Option.getD_some]
    rw [if_pos hx]
  · exact allowanceData_dead h hl

theorem allowanceData_live {s : State} {o sp : Nat} {e : Temp AllowanceData}
    (h : s.allow o sp = some e) (hl : s.now ≤ e.liveUntil) (hx : s.now ≤ e.val.liveUntilLedger) :
    allowanceData s o sp = e.val := by
  rw [allowanceData_eq, h, Temp.get?_live hl]
  simp only [Option.getD_some]
  rw [if_neg (by omega)]

/-- the allowance entry of `(o, sp)` is readable (the host still keeps it) and its explicit
expiry `live_until_ledger` has not passed -/
def Unexpired (s : State) (o sp : Nat) : Prop :=
  ∃ e, s.allow o sp = some e ∧ s.now ≤ e.liveUntil ∧ s.now ≤ e.val.liveUntilLedger

theorem allowanceData_cases (s : State) (o sp : Nat) :
    allowanceData s o sp = ⟨0, 0⟩ ∨
    ∃ e, s.allow o sp = some e ∧ s.now ≤ e.liveUntil ∧ s.now ≤ e.val.liveUntilLedger ∧
      allowanceData s o sp = e.val := by
  cases h : s.allow o sp with
  | none => exact .inl (allowanceData_none h)
  | some e =>
    by_cases hl : s.now ≤ e.liveUntil
    · by_cases hx : s.now ≤ e.val.liveUntilLedger
      · exact .inr ⟨e, rfl, hl, hx, allowanceData_live h hl hx⟩
      · exact .inl (allowanceData_expired h (by omega))
    · exact .inl (allowanceData_dead h hl)

theorem allowance_ne_zero_unexpired {s : State} {o sp : Nat} (h : allowance s o sp ≠ 0) :
    ∃ e, s.allow o sp = some e ∧ s.now ≤ e.liveUntil ∧ s.now ≤ e.val.liveUntilLedger ∧
      allowanceData s o sp = e.val := by
  rcases allowanceData_cases s o sp with h0 | h1
  · exact absurd (by unfold allowance; rw [h0]) h
  · exact h1

theorem allowance_later {s s' : State} {o sp : Nat} (ha : s'.allow o sp = s.allow o sp)
    (hn : s.now ≤ s'.now) : allowance s' o sp = allowance s o sp ∨ allowance s' o sp = 0 := by
  rcases allowanceData_cases s' o sp with h1 | ⟨e, he, hl, hx, hd⟩
  · exact .inr (by unfold allowance; rw [h1])
  · rw [ha] at he
    refine .inl ?_
    unfold allowance
    rw [hd, allowanceData_live he (by omega) (by omega)]

/-! ### `set_allowance` and `approve` -/

theorem setAllowance_entry {c : Cfg} {s s' : State} {o sp : Nat} {amt : Int} {lu : Nat}
    (h : setAllowance c s o sp amt lu = .ok s') :
    0 ≤ amt ∧ lu ≤ c.maxLiveUntil s.now ∧ (0 < amt → s.now ≤ lu) ∧
    ∃ e', s'.allow o sp = some e' ∧ e'.val = ⟨amt, lu⟩ ∧ (0 < amt → lu ≤ e'.liveUntil) ∧
      (∀ e, s.allow o sp = some e → s.now ≤ e.liveUntil → e.liveUntil ≤ e'.liveUntil) := by
  obtain ⟨h0, hmax, hnow, rfl⟩ := setAllowance_eq_ok_iff.1 h
  refine ⟨h0, hmax, hnow, _, upd2_same _ _ _ _, ?_⟩
  unfold setEntry
  dsimp only
  split
  · next hp =>
    have := hnow hp
    refine ⟨Temp.set_val .., fun _ => by show lu ≤ max _ _; omega, fun e he hl => ?_⟩
    rw [he]; show e.liveUntil ≤ max _ _; rw [Temp.set_live c _ hl]; omega
  · next hp =>
    exact ⟨Temp.set_val .., fun h => absurd h hp, fun e he hl => by rw [he, Temp.set_live c _ hl]; exact Nat.le_refl _⟩

theorem setAllowance_allowanceData {c : Cfg} {s s0 : State} {o sp : Nat} {amt : Int} {lu : Nat}
    (h : setAllowance c s o sp amt lu = .ok s0) (hp : 0 < amt) : allowanceData s0 o sp = ⟨amt, lu⟩ := by
  obtain ⟨-, -, hnow, e', he', hv', hlu', -⟩ := setAllowance_entry h
  obtain ⟨-, -, en, -, -⟩ := setAllowance_ok h
  rw [allowanceData_live he' (by rw [en]; have := hlu' hp; have := hnow hp; omega)
    (by rw [hv', en]; exact hnow hp), hv']

theorem setAllowance_allowance {c : Cfg} {s s0 : State} {o sp : Nat} {amt : Int} {lu : Nat}
    (h : setAllowance c s o sp amt lu = .ok s0) : allowance s0 o sp = amt := by
  by_cases hp : 0 < amt
  · exact congrArg AllowanceData.amount (setAllowance_allowanceData h hp)
  · obtain ⟨h0, -, -, e', he', hv', -⟩ := setAllowance_entry h
    have hz : amt = 0 := by omega
    rcases allowanceData_cases s0 o sp with h1 | ⟨e1, he1, -, -, hd⟩
    · unfold allowance; rw [h1, hz]
    · rw [he'] at he1; injection he1 with he1; subst he1
      unfold allowance; rw [hd, hv', hz]

theorem setAllowance_succeeds_iff (c : Cfg) (s : State) (o sp : Nat) (amt : Int) (lu : Nat) :
    (∃ s', setAllowance c s o sp amt lu = .ok s') ↔
      0 ≤ amt ∧ lu ≤ c.maxLiveUntil s.now ∧ (0 < amt → s.now ≤ lu) := by
  simp only [setAllowance_eq_ok_iff, exists_and_left, exists_eq, and_true]

theorem approve_exists_ok_iff (c : Cfg) (s : State) (auth : List Nat) (o sp : Nat) (amt : Int) (lu : Nat) :
    (∃ s', approve c s auth o sp amt lu = .ok s') ↔
      o ∈ auth ∧ 0 ≤ amt ∧ lu ≤ c.maxLiveUntil s.now ∧ (0 < amt → s.now ≤ lu) := by
  rw [← setAllowance_succeeds_iff c s o sp]
  exact ⟨fun ⟨_, h⟩ => let ⟨ha, s0, h0, _⟩ := approve_eq_ok_iff.1 h; ⟨ha, s0, h0⟩,
    fun ⟨ha, s0, h0⟩ => ⟨_, approve_eq_ok_iff.2 ⟨ha, s0, h0, rfl⟩⟩⟩

/-! ### `spend_allowance` -/

/-- the getter's `⟨0, 0⟩` for an expired entry covers no positive amount -/
theorem spendAllowance_unexpired {c : Cfg} {s s' : State} {o sp : Nat} {amt : Int}
    (h : spendAllowance c s o sp amt = .ok s') (hp : 0 < amt) :
    ∃ e, s.allow o sp = some e ∧ s.now ≤ e.liveUntil ∧ s.now ≤ e.val.liveUntilLedger ∧
      allowanceData s o sp = e.val :=
  allowance_ne_zero_unexpired (by have := (spendAllowance_cases h).2.1; unfold allowance; omega)

/-- also when the remainder is 0: the entry was live and stays so -/
theorem spendAllowance_allowanceData {c : Cfg} {s s' : State} {o sp : Nat} {amt : Int}
    (h : spendAllowance c s o sp amt = .ok s') (hp : 0 < amt) :
    allowanceData s' o sp =
      ⟨(allowanceData s o sp).amount - amt, (allowanceData s o sp).liveUntilLedger⟩ := by
  obtain ⟨-, hset⟩ := (spendAllowance_cases h).2.2.resolve_right (by omega)
  obtain ⟨e, he, hl, hx, hd⟩ := spendAllowance_unexpired h hp
  rw [hd] at hset ⊢
  obtain ⟨-, -, -, e', he', hv', -, hmono⟩ := setAllowance_entry hset
  obtain ⟨-, -, en, -, -⟩ := setAllowance_ok hset
  rw [allowanceData_live he' (by rw [en]; have := hmono e he hl; omega) (by rw [hv', en]; exact hx), hv']

/-! ### what each accepted entry point may change -/

theorem spendAllowance_exact {c : Cfg} {s s' : State} {o sp : Nat} {amt : Int}
    (h : spendAllowance c s o sp amt = .ok s') : allowance s' o sp = allowance s o sp - amt := by
  obtain ⟨h0, -, hc⟩ := spendAllowance_cases h
  rcases hc with ⟨hp, -⟩ | ⟨hz, rfl⟩
  · exact congrArg AllowanceData.amount (spendAllowance_allowanceData h hp)
  · omega

theorem spendAllowance_others {c : Cfg} {s s' : State} {o sp : Nat} {amt : Int}
    (h : spendAllowance c s o sp amt = .ok s') (x y : Nat) (hxy : ¬ (x = o ∧ y = sp)) :
    allowance s' x y = allowance s x y := by
  obtain ⟨-, -, e3, -, e5⟩ := spendAllowance_ok h
  exact allowance_congr_entry (e5 x y hxy) e3

theorem update_frame {s s' : State} {f t : Option Nat} {amt : Int}
    (h : update s f t amt = .ok s') :
    s'.allow = s.allow ∧ s'.now = s.now ∧ 0 ≤ amt ∧
    ∀ a, s'.bal a < s.bal a → f = some a ∧ 0 < amt := by
  obtain ⟨h0, _, rfl⟩ := update_eq h
  refine ⟨updateSt_allow .., updateSt_now .., h0, fun a hlt => ?_⟩
  rw [updateSt_bal] at hlt
  by_cases hf : f = some a
  · rw [if_pos hf] at hlt; exact ⟨hf, by split at hlt <;> omega⟩
  · rw [if_neg hf] at hlt; split at hlt <;> omega

/-- the allowance an op spends from: `(owner, spender, amount)` for `transfer_from` /
`burn_from` -/
def Op.spend? : Op → Option (Nat × Nat × Int)
  | .transferFrom sp f _ amt => some (f, sp, amt)
  | .burnFrom sp f amt => some (f, sp, amt)
  | _ => none

theorem spend?_eq {op : Op} {f sp : Nat} {amt : Int} (h : op.spend? = some (f, sp, amt)) :
    (∃ t, op = .transferFrom sp f t amt) ∨ op = .burnFrom sp f amt := by
  cases op with
  | transferFrom sp' f' t amt' =>
    simp only [Op.spend?, Option.some.injEq, Prod.mk.injEq] at h
    obtain ⟨rfl, rfl, rfl⟩ := h
    exact .inl ⟨t, rfl⟩
  | burnFrom sp' f' amt' =>
    simp only [Op.spend?, Option.some.injEq, Prod.mk.injEq] at h
    obtain ⟨rfl, rfl, rfl⟩ := h
    exact .inr rfl
  | mint _ _ => cases h
  | transfer _ _ _ => cases h
  | approve _ _ _ _ => cases h
  | burn _ _ => cases h
  | advance _ => cases h

theorem spend_update_frame {c : Cfg} {s s0 s1 : State} {f sp : Nat} {t : Option Nat} {amt : Int}
    (h0 : spendAllowance c s f sp amt = .ok s0) (h1 : update s0 (some f) t amt = .ok s1) (ev : Event) :
    (emit s1 ev).allow = s0.allow ∧ (emit s1 ev).now = s.now ∧
    ∀ a, (emit s1 ev).bal a < s.bal a → a = f ∧ 0 < amt := by
  obtain ⟨ua, un, _, ub⟩ := update_frame h1
  obtain ⟨_, eb, en, _, _⟩ := spendAllowance_ok h0
  refine ⟨ua, by rw [emit_now, un, en], ?_⟩
  intro a hlt
  rw [emit_bal, ← eb] at hlt
  obtain ⟨hf, hp⟩ := ub a hlt
  exact ⟨by injection hf with hf; exact hf.symm, hp⟩

theorem apply_spend {c : Cfg} {s s' : State} {auth : List Nat} {op : Op} {f sp : Nat} {amt : Int}
    (h : apply c s auth op = .ok s') (hs : op.spend? = some (f, sp, amt)) :
    sp ∈ auth ∧ ∃ s0, spendAllowance c s f sp amt = .ok s0 ∧ s'.allow = s0.allow ∧
      s'.now = s.now ∧ ∀ a, s'.bal a < s.bal a → a = f ∧ 0 < amt := by
  rcases spend?_eq hs with ⟨t, rfl⟩ | rfl
  · obtain ⟨ha, s0, s1, h0, h1, rfl⟩ := transferFrom_ok h
    exact ⟨ha, s0, h0, spend_update_frame h0 h1 _⟩
  · obtain ⟨ha, s0, s1, h0, h1, rfl⟩ := burnFrom_ok h
    exact ⟨ha, s0, h0, spend_update_frame h0 h1 _⟩

theorem apply_approve {c : Cfg} {s s' : State} {auth : List Nat} {o sp : Nat} {amt : Int} {lu : Nat}
    (h : apply c s auth (.approve o sp amt lu) = .ok s') :
    o ∈ auth ∧ ∃ s0, setAllowance c s o sp amt lu = .ok s0 ∧ s'.allow = s0.allow ∧
      s'.now = s.now ∧ s'.bal = s.bal := by
  obtain ⟨ha, s0, h0, rfl⟩ := approve_ok h
  obtain ⟨_, eb, en, _, _⟩ := setAllowance_ok h0
  exact ⟨ha, s0, h0, rfl, by rw [emit_now, en], by rw [emit_bal, eb]⟩

theorem apply_other {c : Cfg} {s s' : State} {auth : List Nat} {op : Op}
    (h : apply c s auth op = .ok s') (hs : op.spend? = none)
    (hap : ∀ o sp amt lu, op ≠ .approve o sp amt lu) :
    s'.allow = s.allow ∧ s.now ≤ s'.now ∧ ((∀ n, op ≠ .advance n) → s'.now = s.now) ∧
    ∀ a, s'.bal a < s.bal a →
      a ∈ auth ∧ ((∃ t amt, op = .transfer a t amt) ∨ (∃ amt, op = .burn a amt)) := by
  -- what `update` alone followed by an event gives; the cases differ in who `from` is
  have frame : ∀ {f t amt s1} ev, update s f t amt = .ok s1 →
      (emit s1 ev).allow = s.allow ∧ s.now ≤ (emit s1 ev).now ∧
      ((∀ n, op ≠ .advance n) → (emit s1 ev).now = s.now) ∧
      ∀ a, (emit s1 ev).bal a < s.bal a → f = some a := by
    intro f t amt s1 ev h1
    obtain ⟨ua, un, _, ub⟩ := update_frame h1
    exact ⟨ua, Nat.le_of_eq un.symm, fun _ => un, fun a hlt => (ub a hlt).1⟩
  cases op with
  | mint t amt =>
    obtain ⟨s1, h1, rfl⟩ := mint_ok h
    obtain ⟨e1, e2, e3, hb⟩ := frame _ h1
    exact ⟨e1, e2, e3, fun a hlt => by cases hb a hlt⟩
  | transfer f t amt =>
    obtain ⟨ha, s1, h1, rfl⟩ := transfer_ok h
    obtain ⟨e1, e2, e3, hb⟩ := frame _ h1
    refine ⟨e1, e2, e3, fun a hlt => ?_⟩
    cases hb a hlt
    exact ⟨ha, .inl ⟨t, amt, rfl⟩⟩
  | burn f amt =>
    obtain ⟨ha, s1, h1, rfl⟩ := burn_ok h
    obtain ⟨e1, e2, e3, hb⟩ := frame _ h1
    refine ⟨e1, e2, e3, fun a hlt => ?_⟩
    cases hb a hlt
    exact ⟨ha, .inr ⟨amt, rfl⟩⟩
  | advance n =>
    injection h with h; subst h
    exact ⟨rfl, Nat.le_add_right _ _, fun hn => absurd rfl (hn n),
      fun a hlt => absurd hlt (Int.lt_irrefl _)⟩
  | transferFrom _ _ _ _ => cases hs
  | burnFrom _ _ _ => cases hs
  | approve o sp amt lu => exact absurd rfl (hap o sp amt lu)

theorem op_trichotomy (op : Op) :
    (∃ o sp amt lu, op = .approve o sp amt lu) ∨ (∃ f sp amt, op.spend? = some (f, sp, amt)) ∨
    (op.spend? = none ∧ ∀ o sp amt lu, op ≠ .approve o sp amt lu) := by
  cases op with
  | approve o sp amt lu => exact .inl ⟨o, sp, amt, lu, rfl⟩
  | transferFrom sp f t amt => exact .inr (.inl ⟨f, sp, amt, rfl⟩)
  | burnFrom sp f amt => exact .inr (.inl ⟨f, sp, amt, rfl⟩)
  | mint _ _ => exact .inr (.inr ⟨rfl, fun _ _ _ _ h => by cases h⟩)
  | transfer _ _ _ => exact .inr (.inr ⟨rfl, fun _ _ _ _ h => by cases h⟩)
  | burn _ _ => exact .inr (.inr ⟨rfl, fun _ _ _ _ h => by cases h⟩)
  | advance _ => exact .inr (.inr ⟨rfl, fun _ _ _ _ h => by cases h⟩)

/-- only a signer's or an approver's balance can go down, an `approve` is signed by its owner, and a spend from an
owner without allowance spends nothing -/
theorem apply_passive {c : Cfg} {s s' : State} {auth : List Nat} {op : Op}
    (h : apply c s auth op = .ok s') (v : Nat) (hv : v ∉ auth) (hnone : ∀ sp, s.allow v sp = none) :
    s.bal v ≤ s'.bal v ∧ ∀ sp, s'.allow v sp = none := by
  rcases op_trichotomy op with ⟨o, sp, amt, lu, rfl⟩ | ⟨f, sp, amt, hs⟩ | ⟨hs, hap⟩
  · obtain ⟨ho, s0, h0, ea, -, eb⟩ := apply_approve h
    have hov : o ≠ v := fun e => hv (e ▸ ho)
    refine ⟨by rw [eb]; exact Int.le_refl _, fun sp0 => ?_⟩
    rw [ea, (setAllowance_ok h0).2.2.2.2 v sp0 (fun e => hov e.1.symm)]; exact hnone sp0
  · obtain ⟨-, s0, h0, ea, -, hb⟩ := apply_spend h hs
    obtain ⟨g1, g2, hc⟩ := spendAllowance_cases h0
    by_cases hfv : f = v
    · -- the owner `v` has no allowance, so the amount is zero and nothing happens to `v`
      have g2 : amt ≤ allowance s v sp := hfv ▸ g2
      rw [allowance_none (hnone sp)] at g2
      obtain ⟨-, rfl⟩ := hc.resolve_left (fun hp => by omega)
      exact ⟨Int.not_lt.1 fun hlt => by have := (hb v hlt).2; omega, fun sp0 => ea ▸ hnone sp0⟩
    · refine ⟨Int.not_lt.1 fun hlt => hfv (hb v hlt).1.symm, fun sp0 => ?_⟩
      rw [ea, (spendAllowance_ok h0).2.2.2.2 v sp0 (fun e => hfv e.1.symm)]; exact hnone sp0
  · obtain ⟨ea, -, -, hb⟩ := apply_other h hs hap
    exact ⟨Int.not_lt.1 fun hlt => hv (hb v hlt).1, fun sp0 => ea ▸ hnone sp0⟩

theorem apply_now_le {c : Cfg} {s s' : State} {auth : List Nat} {op : Op}
    (h : apply c s auth op = .ok s') : s.now ≤ s'.now := by
  rcases op_trichotomy op with ⟨o, sp, amt, lu, rfl⟩ | ⟨f, sp, amt, hs⟩ | ⟨hs, hap⟩
  · obtain ⟨_, _, _, _, hn, _⟩ := apply_approve h
    exact Nat.le_of_eq hn.symm
  · obtain ⟨_, _, _, _, hn, _⟩ := apply_spend h hs
    exact Nat.le_of_eq hn.symm
  · exact (apply_other h hs hap).2.1

/-! ### ghost bookkeeping over histories

The ghost state is computed from the history alone: which calls were accepted and what
their arguments were. It never looks at the stored allowances. -/

/-- per (owner, spender): amount of the last accepted `approve`, total spent by accepted
`transfer_from` / `burn_from` since then, and the `live_until_ledger` of that approval -/
structure Ghost where
  approved : Int
  spent : Int
  lu : Nat
  deriving Repr, DecidableEq

def Ghost.rem (g : Ghost) : Int := g.approved - g.spent

def ghost0 : Nat → Nat → Ghost := fun _ _ => ⟨0, 0, 0⟩

/-- ghost update for an ACCEPTED operation -/
def ghostOp (g : Nat → Nat → Ghost) : Op → Nat → Nat → Ghost
  | .approve o sp amt lu => upd2 g o sp ⟨amt, 0, lu⟩
  | .transferFrom sp f _ amt => upd2 g f sp ⟨(g f sp).approved, (g f sp).spent + amt, (g f sp).lu⟩
  | .burnFrom sp f amt => upd2 g f sp ⟨(g f sp).approved, (g f sp).spent + amt, (g f sp).lu⟩
  | _ => g

def gstep (c : Cfg) (x : State × (Nat → Nat → Ghost)) (y : List Nat × Op) :
    State × (Nat → Nat → Ghost) :=
  match apply c x.1 y.1 y.2 with
  | .ok s' => (s', ghostOp x.2 y.2)
  | .error _ => x

def grun (c : Cfg) (x : State × (Nat → Nat → Ghost)) (ops : List (List Nat × Op)) :
    State × (Nat → Nat → Ghost) := ops.foldl (gstep c) x

def ghost (c : Cfg) (now : Nat) (ops : List (List Nat × Op)) : Nat → Nat → Ghost :=
  (grun c (init now, ghost0) ops).2

theorem gstep_fst (c : Cfg) (x : State × (Nat → Nat → Ghost)) (y : List Nat × Op) :
    (gstep c x y).1 = step c x.1 y := by
  unfold gstep step
  cases apply c x.1 y.1 y.2 <;> rfl

theorem grun_fst (c : Cfg) (x : State × (Nat → Nat → Ghost)) (ops : List (List Nat × Op)) :
    (grun c x ops).1 = run c x.1 ops := by
  induction ops generalizing x with
  | nil => rfl
  | cons y ys ih =>
    simp only [grun, run, List.foldl_cons] at *
    rw [ih, gstep_fst]

def GRel (g : Ghost) (t : Option (Temp AllowanceData)) : Prop :=
  0 ≤ g.rem ∧ (t = none → g.rem = 0) ∧
  ∀ e, t = some e → e.val.amount = g.rem ∧
    (0 < g.rem → e.val.liveUntilLedger = g.lu ∧ g.lu ≤ e.liveUntil)

def GInv (s : State) (g : Nat → Nat → Ghost) : Prop := ∀ o sp, GRel (g o sp) (s.allow o sp)

theorem ginv_init (now : Nat) : GInv (init now) ghost0 := by
  intro o sp
  refine ⟨by simp [ghost0, Ghost.rem], fun _ => by simp [ghost0, Ghost.rem], ?_⟩
  intro e he
  simp [init] at he

theorem allowance_of_grel {s : State} {o sp : Nat} {g : Ghost} (h : GRel g (s.allow o sp)) :
    allowance s o sp = if s.now ≤ g.lu then g.rem else 0 := by
  obtain ⟨h0, hn, hs⟩ := h
  cases ht : s.allow o sp with
  | none =>
    have := hn ht
    rw [allowance_none ht]
    split <;> omega
  | some e =>
    obtain ⟨ha, hp⟩ := hs e ht
    by_cases hr : 0 < g.rem
    · obtain ⟨hlu, hlive⟩ := hp hr
      by_cases hnow : s.now ≤ g.lu
      · rw [if_pos hnow]
        unfold allowance
        rw [allowanceData_live ht (by omega) (by omega), ha]
      · rw [if_neg hnow]
        unfold allowance
        rw [allowanceData_expired ht (by omega)]
    · have hz : g.rem = 0 := by omega
      have : allowance s o sp = 0 := by
        rcases allowanceData_cases s o sp with h1 | ⟨e1, he1, _, _, hd⟩
        · unfold allowance; rw [h1]
        · rw [ht] at he1; injection he1 with he1; subst he1
          unfold allowance; rw [hd, ha, hz]
      rw [this, hz]; split <;> rfl

theorem ginv_setAllowance {c : Cfg} {s s0 : State} {g : Nat → Nat → Ghost} {o sp : Nat}
    {amt : Int} {lu : Nat} (hi : GInv s g) (h : setAllowance c s o sp amt lu = .ok s0)
    (a b : Int) (hab : a - b = amt) : GInv s0 (upd2 g o sp ⟨a, b, lu⟩) := by
  intro x y
  by_cases hxy : x = o ∧ y = sp
  · obtain ⟨rfl, rfl⟩ := hxy
    rw [upd2_same]
    obtain ⟨h0, _, _, e', he', hv', hlu', _⟩ := setAllowance_entry h
    refine ⟨?_, ?_, ?_⟩
    · simp only [Ghost.rem]; omega
    · intro hn; rw [he'] at hn; cases hn
    · intro e he
      rw [he'] at he; injection he with he; subst he
      rw [hv']
      have hr : (Ghost.mk a b lu).rem = a - b := rfl
      rw [hr]
      exact ⟨by show amt = a - b; omega, fun hp => ⟨rfl, hlu' (by omega)⟩⟩
  · rw [upd2_other _ _ _ _ _ _ hxy]
    obtain ⟨_, _, _, _, hother⟩ := setAllowance_ok h
    rw [hother x y hxy]
    exact hi x y

/-- how the ghost record splits the remainder into approved and spent does not matter -/
theorem ginv_spend {c : Cfg} {s s0 : State} {g : Nat → Nat → Ghost} {f sp : Nat} {amt : Int}
    (hi : GInv s g) (h : spendAllowance c s f sp amt = .ok s0) (a b : Int) (hab : a - b = (g f sp).rem - amt) :
    GInv s0 (upd2 g f sp ⟨a, b, (g f sp).lu⟩) := by
  obtain ⟨h0, hle, hc⟩ := spendAllowance_cases h
  rcases hc with ⟨hp, hset⟩ | ⟨hz, rfl⟩
  · obtain ⟨e, he, -, -, hd⟩ := spendAllowance_unexpired h hp
    obtain ⟨_, _, hs⟩ := hi f sp
    obtain ⟨hamt, hpos⟩ := hs e he
    rw [hd] at hset hle
    obtain ⟨hlu, _⟩ := hpos (by omega)
    rw [hlu] at hset
    exact ginv_setAllowance hi hset a b (by omega)
  · intro x y
    by_cases hxy : x = f ∧ y = sp
    · obtain ⟨rfl, rfl⟩ := hxy
      rw [upd2_same]
      have hr : (Ghost.mk a b (g x y).lu).rem = (g x y).rem := by show a - b = _; omega
      unfold GRel
      rw [hr]
      exact hi x y
    · rw [upd2_other _ _ _ _ _ _ hxy]; exact hi x y

theorem GInv.congr {s s' : State} {g : Nat → Nat → Ghost} (hi : GInv s g) (h : s'.allow = s.allow) :
    GInv s' g := by
  intro o sp; rw [h]; exact hi o sp

theorem ginv_apply {c : Cfg} {s s' : State} {g : Nat → Nat → Ghost} {auth : List Nat} {op : Op}
    (hi : GInv s g) (h : apply c s auth op = .ok s') : GInv s' (ghostOp g op) := by
  rcases op_trichotomy op with ⟨o, sp, amt, lu, rfl⟩ | ⟨f, sp, amt, hs⟩ | ⟨hs, hap⟩
  · obtain ⟨_, s0, h0, ha, _, _⟩ := apply_approve h
    exact (ginv_setAllowance hi h0 amt 0 (by omega)).congr ha
  · obtain ⟨_, s0, h0, ha, _, _⟩ := apply_spend h hs
    have hg := (ginv_spend hi h0 (g f sp).approved ((g f sp).spent + amt) (by simp only [Ghost.rem]; omega)).congr ha
    rcases spend?_eq hs with ⟨t, rfl⟩ | rfl <;> exact hg
  · obtain ⟨ha, _, _, _⟩ := apply_other h hs hap
    have hg : ghostOp g op = g := by
      cases op with
      | approve o sp amt lu => exact absurd rfl (hap o sp amt lu)
      | transferFrom _ _ _ _ => cases hs
      | burnFrom _ _ _ => cases hs
      | _ => rfl
    rw [hg]; exact hi.congr ha

theorem ginv_grun (c : Cfg) (x : State × (Nat → Nat → Ghost)) (ops : List (List Nat × Op))
    (hi : GInv x.1 x.2) : GInv (grun c x ops).1 (grun c x ops).2 := by
  refine OZ.Lists.foldl_inv (P := fun x => GInv x.1 x.2) (fun x y hi => ?_) ops x hi
  unfold gstep
  split
  · next hok => exact ginv_apply hi hok
  · exact hi

end OZ.Fungible
