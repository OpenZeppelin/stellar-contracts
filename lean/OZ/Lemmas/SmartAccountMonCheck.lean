import OZ.Lemmas.SmartAccountMon
import OZ.Lemmas.SmartAccountTrace
/-
The verdict of the C03 monitor on a `check` / `e2e` line. On the ghost list of a model store the monitor's
candidates (filter + sort) are the model's `get_valid_context_rules`, `satisfied` is the loop body
`ruleMatches`, `expectedCans` / `expEnforce` / `expVerif` are the three parts of the model's call
trace, `enforceAllowed` is the enforce loop, and every event of the trace passes the foreign-signer check.
-/
namespace OZ.SmartAccount.Mon
open OZ.SmartAccount

variable {O : Oracle} {s : Store} {now : Nat} {c : Ctx} {all : List Signer} {r : Rule}

theorem counted_toG (r : Rule) (sup : List Signer) : counted (toG r) sup = getAuthenticatedSigners r.signers sup := by
  unfold counted getAuthenticatedSigners toG
  apply List.filter_congr
  intro x _
  simp

theorem monCan_eq (m : Mocks) (p : Nat) (c : Ctx) (n rid : Nat) : monCan m p c n rid = m.can p c n rid := rfl

theorem sigValid_eq (m : Mocks) (auth : List Nat) (x : Signer) (g : Nat) :
    sigValid m auth x g = sigOk (oracleOf m auth) x g := by
  cases x <;> rfl

theorem live_toG (now : Nat) (r : Rule) : live now (toG r) = !expired now r.validUntil := by
  unfold live toG expired
  cases r.validUntil with
  | none => rfl
  | some v =>
    show decide (now ≤ v) = !decide (v < now)
    by_cases h : now ≤ v
    · rw [decide_eq_true h, decide_eq_false (by omega)]; rfl
    · rw [decide_eq_false h, decide_eq_true (by omega)]; rfl

theorem satisfied_toG (m : Mocks) (auth : List Nat) (c : Ctx) (sup : List Signer) (r : Rule) :
    satisfied m c sup (toG r) = ruleMatches (oracleOf m auth) c sup r := by
  unfold satisfied ruleMatches
  have hp : (toG r).policies = r.policies := rfl
  have hs : (toG r).signers = r.signers := rfl
  rw [hp, hs]
  by_cases he : r.policies.isEmpty = true
  · rw [if_pos he, if_pos he]
    unfold getAuthenticatedSigners
    rw [length_beq_filter_length]
    congr 1
    funext x
    exact List.contains_eq_mem x sup
  · rw [if_neg he, if_neg he]
    unfold canEnforceAllPolicies
    rw [counted_toG]
    rfl

theorem filter_ty_live (hI : Inv s) (now : Nat) (t : RuleType) :
    (allRules s).filter (fun r => r.ty == t && live now r) = (liveOf s now (s.ids t)).map toG := by
  have hg : gAt s = fun id => (ruleAt s id).map toG := by
    funext id; unfold gAt ruleAt; cases getContextRule s id <;> rfl
  rw [funext fun r : GRule => Bool.and_comm (r.ty == t) (live now r), ← List.filter_filter, allRules_filter_ty hI, hg,
    ← List.map_filterMap, List.filter_map, liveOf]
  congr 2
  funext r
  exact live_toG now r

theorem candidates_eq (hI : Inv s) (now : Nat) (c : Ctx) :
    candidates (allRules s) now c = (validRules s now (typeOf c)).map toG := by
  unfold candidates validRules
  have hs : ∀ t, ((allRules s).filter (fun r => r.ty == t && live now r)).Pairwise (fun a b => a.id < b.id) :=
    fun t => (allRules_sorted s).sublist List.filter_sublist
  rw [byIdDesc_of_sorted _ (hs _), byIdDesc_of_sorted _ (hs _), filter_ty_live hI, filter_ty_live hI,
    List.map_append, List.map_reverse, List.map_reverse]

theorem find_candidates (hI : Inv s) (now : Nat) (m : Mocks) (auth : List Nat) (all : List Signer) (c : Ctx) :
    (candidates (allRules s) now c).find? (satisfied m c all) = (pick (oracleOf m auth) s now all c).map toG := by
  rw [candidates_eq hI, List.find?_map]
  unfold pick
  congr 1
  apply find?_congr'
  intro r _
  exact satisfied_toG m auth c all r

/-- `asked` without the accumulator -/
def askedRec (m : Mocks) (c : Ctx) (n rid : Nat) : List Nat → List Nat
  | [] => []
  | p :: ps => if monCan m p c n rid then p :: askedRec m c n rid ps else [p]

theorem foldl_askedStep_done (m : Mocks) (c : Ctx) (n rid : Nat) (acc : List Nat) (ps : List Nat) :
    ps.foldl (askedStep m c n rid) (acc, true) = (acc, true) := by
  induction ps with
  | nil => rfl
  | cons p t ih => rw [List.foldl_cons]; exact ih

theorem foldl_askedStep (m : Mocks) (c : Ctx) (n rid : Nat) (ps : List Nat) (acc : List Nat) :
    (ps.foldl (askedStep m c n rid) (acc, false)).1 = acc ++ askedRec m c n rid ps := by
  induction ps generalizing acc with
  | nil => simp [askedRec]
  | cons p t ih =>
    rw [List.foldl_cons]
    unfold askedRec
    by_cases h : monCan m p c n rid = true
    · have : askedStep m c n rid (acc, false) p = (acc ++ [p], false) := by simp [askedStep, h]
      rw [this, ih, if_pos h]; simp
    · have h' : monCan m p c n rid = false := by simpa using h
      have : askedStep m c n rid (acc, false) p = (acc ++ [p], true) := by simp [askedStep, h']
      rw [this, foldl_askedStep_done, if_neg h]

theorem asked_eq (m : Mocks) (c : Ctx) (n rid : Nat) (ps : List Nat) : asked m c n rid ps = askedRec m c n rid ps := by
  unfold asked; rw [foldl_askedStep]; rfl

theorem canTrace_log (m : Mocks) (auth : List Nat) (c : Ctx) (r : Rule) (matched : List Signer) (ps : List Nat) :
    (canTrace (oracleOf m auth) c r matched ps).1.filterMap toLEv
      = (askedRec m c matched.length r.id ps).map (fun p => LEv.c p r.id c matched) := by
  induction ps with
  | nil => rfl
  | cons p t ih =>
    unfold canTrace askedRec
    have hc : (oracleOf m auth).can p c matched r = monCan m p c matched.length r.id := rfl
    by_cases h : monCan m p c matched.length r.id = true
    · rw [if_pos (by rw [hc]; exact h), if_pos h]
      show List.filterMap toLEv (Event.can p r c matched :: _) = _
      rw [List.filterMap_cons_some (by rfl : toLEv (Event.can p r c matched) = some (LEv.c p r.id c matched)), ih]; rfl
    · rw [if_neg (by rw [hc]; exact h), if_neg h]; rfl

theorem ruleCans_toG (m : Mocks) (auth : List Nat) (c : Ctx) (all : List Signer) (r : Rule) :
    ruleCans m c all (toG r) = (ruleTrace (oracleOf m auth) c all r).1.filterMap toLEv := by
  unfold ruleCans ruleTrace
  rw [asked_eq, counted_toG]
  have hp : (toG r).policies = r.policies := rfl
  have hi : (toG r).id = r.id := rfl
  rw [hp, hi]
  by_cases he : r.policies.isEmpty = true
  · rw [if_pos he]
    have : r.policies = [] := by simpa using he
    rw [this]; rfl
  · rw [if_neg he, canTrace_log]

theorem expectedCans_toG (m : Mocks) (auth : List Nat) (c : Ctx) (all : List Signer) (rs : List Rule) :
    expectedCans m c all (rs.map toG) = (rulesTrace (oracleOf m auth) c all rs).1.filterMap toLEv := by
  induction rs with
  | nil => rfl
  | cons r t ih =>
    rw [List.map_cons]
    unfold expectedCans rulesTrace
    rw [satisfied_toG m auth, ← ruleTrace_snd, ruleCans_toG m auth]
    by_cases h : (ruleTrace (oracleOf m auth) c all r).2 = true
    · rw [if_pos h, if_pos h]
    · rw [if_neg h, if_neg h, ih]
      show _ = List.filterMap toLEv ((ruleTrace (oracleOf m auth) c all r).1 ++ (rulesTrace (oracleOf m auth) c all t).1)
      rw [List.filterMap_append]

/-! ### one context, a batch of contexts -/

theorem ctxTrace_eq (hI : Inv s) (O : Oracle) (now : Nat) (all : List Signer) (c : Ctx) :
    ctxTrace O s now all c
      = ((rulesTrace O c all (validRules s now (typeOf c))).1,
         (pick O s now all c).map (tripleOf all c)) := by
  unfold ctxTrace pick
  rw [getValidContextRules_ok hI]
  dsimp only
  rw [← rulesTrace_snd]
  cases (rulesTrace O c all (validRules s now (typeOf c))).2 <;> rfl

theorem chosenOf_eq (hI : Inv s) (now : Nat) (m : Mocks) (auth : List Nat) (all : List Signer)
    (ctxs : List Ctx) :
    chosenOf { rules := allRules s, now := now, mocks := m } all ctxs
      = ctxs.map (fun c => (c, (pick (oracleOf m auth) s now all c).map toG)) := by
  unfold chosenOf
  apply List.map_congr_left
  intro c _
  rw [find_candidates hI now m auth]

theorem ctxsTrace_covered (hI : Inv s) (O : Oracle) (now : Nat) (all : List Signer) (ctxs : List Ctx)
    (h : ctxs.all (fun c => (pick O s now all c).isSome) = true) :
    (ctxsTrace O s now all ctxs).1 = ctxs.flatMap (fun c => (rulesTrace O c all (validRules s now (typeOf c))).1) := by
  induction ctxs with
  | nil => rfl
  | cons c rest ih =>
    rw [List.all_cons, Bool.and_eq_true] at h
    rw [ctxsTrace, ctxTrace_eq hI, List.flatMap_cons, ← ih h.2]
    cases hp : pick O s now all c with
    | none => rw [hp] at h; cases h.1
    | some r => dsimp only [Option.map_some]; split <;> rfl

theorem covered_eq (f : Ctx → Option Rule) (ctxs : List Ctx) :
    covered (ctxs.map (fun c => (c, (f c).map toG))) = ctxs.all (fun c => (f c).isSome) := by
  unfold covered
  rw [List.all_map]
  exact congrArg ctxs.all (funext fun c => Option.isSome_map ..)

/-! ### the enforce calls -/

theorem filterMap_some_map {α β γ} (f : α → β) (g : β → Option γ) (k : α → γ) (l : List α)
    (h : ∀ a, g (f a) = some (k a)) : (l.map f).filterMap g = l.map k := by
  induction l with
  | nil => rfl
  | cons a t ih => rw [List.map_cons, List.filterMap_cons_some (h a), ih, List.map_cons]

theorem enforce_log (all : List Signer) (f : Ctx → Option Rule) (ctxs : List Ctx) :
    ((callsOf (ctxs.filterMap (fun c => (f c).map (tripleOf all c)))).map enfEvent).filterMap toLEv
      = expEnforce all (ctxs.map (fun c => (c, (f c).map toG))) := by
  induction ctxs with
  | nil => rfl
  | cons c rest ih =>
    unfold expEnforce callsOf at *
    rw [List.map_cons, List.flatMap_cons, ← ih, List.filterMap_cons]
    cases f c with
    | none => rfl
    | some r =>
      dsimp only [Option.map_some]
      rw [List.flatMap_cons, List.map_append, List.filterMap_append]
      congr 1
      show List.filterMap toLEv (List.map enfEvent (r.policies.map _))
        = (toG r).policies.map (fun q => LEv.e q (toG r).id c (counted (toG r) all))
      rw [counted_toG, List.map_map]
      exact filterMap_some_map _ _ _ _ (fun _ => rfl)

theorem enforce_pols (all : List Signer) (f : Ctx → Option Rule) (ctxs : List Ctx) :
    (callsOf (ctxs.filterMap (fun c => (f c).map (tripleOf all c)))).map (·.policy)
      = expEnforcePols (ctxs.map (fun c => (c, (f c).map toG))) := by
  induction ctxs with
  | nil => rfl
  | cons c rest ih =>
    unfold expEnforcePols callsOf at *
    rw [List.map_cons, List.flatMap_cons, ← ih, List.filterMap_cons]
    cases f c with
    | none => rfl
    | some r =>
      dsimp only [Option.map_some]
      rw [List.flatMap_cons, List.map_append]
      congr 1
      show List.map (fun q : EnfCall => q.policy) (r.policies.map _) = r.policies
      rw [List.map_map]
      exact List.map_id' ..

/-! ### the verifier calls -/

theorem authTrace_log (m : Mocks) (auth : List Nat) (sigs : List (Signer × Nat)) :
    (authTrace (oracleOf m auth) sigs).2 = true →
    (authTrace (oracleOf m auth) sigs).1.filterMap toLEv = sigs.filterMap expVerif := by
  induction sigs with
  | nil => intro _; rfl
  | cons a rest ih =>
    obtain ⟨x, g⟩ := a
    intro h
    unfold authTrace at h ⊢
    by_cases hok : sigOk (oracleOf m auth) x g = true
    · rw [if_pos hok] at h ⊢
      have ih := ih h
      show List.filterMap toLEv (sigEvent x g ++ _) = _
      rw [List.filterMap_append, ih]
      cases x with
      | delegated a => rfl
      | external v k =>
        simp only [sigEvent, List.filterMap_cons, List.filterMap_nil, toLEv, expVerif]
        by_cases hv : v ≥ 2
        · simp [hv]
        · simp [hv]
    · rw [if_neg hok] at h; cases h

/-! ### shape of the events of a trace -/

def CanOk (s : Store) (all : List Signer) (ev : Event) : Prop :=
  ∃ p r c, ev = Event.can p r c (getAuthenticatedSigners r.signers all) ∧ getContextRule s r.id = .ok r

theorem ctxsTrace_can (hI : Inv s) (O : Oracle) (now : Nat) (all : List Signer) (ctxs : List Ctx) :
    ∀ ev ∈ (ctxsTrace O s now all ctxs).1, CanOk s all ev := by
  intro ev hev
  obtain ⟨c, -, hm⟩ := ctxsTrace_mem O s now all ctxs ev hev
  rw [ctxTrace_eq hI] at hm
  obtain ⟨r, hr', p, hp⟩ := rulesTrace_can O c all _ ev hm
  exact ⟨p, r, c, hp, ((mem_validRules hI).mp hr').1⟩

theorem enforceTrace_mem (O : Oracle) (calls : List EnfCall) : ∀ (hist : List EnfCall),
    ∀ ev ∈ (enforceTrace O hist calls).1, ∃ c ∈ calls, ev = enfEvent c := by
  induction calls with
  | nil => intro _ ev h; simp [enforceTrace] at h
  | cons c rest ih =>
    intro hist ev h
    unfold enforceTrace at h
    by_cases hc : O.enf hist c = true
    · rw [if_pos hc] at h
      cases List.mem_cons.mp h with
      | inl e => exact ⟨c, by simp, e⟩
      | inr m =>
        obtain ⟨c', hc', he⟩ := ih _ ev m
        exact ⟨c', List.mem_cons_of_mem _ hc', he⟩
    · rw [if_neg hc] at h
      exact ⟨c, by simp, by simpa using h⟩

def GoodEv (s : Store) (all : List Signer) : Event → Prop
  | .verify _ _ _ => True
  | .can _ r _ m => getContextRule s r.id = .ok r ∧ m = getAuthenticatedSigners r.signers all
  | .enforce _ r _ m => getContextRule s r.id = .ok r ∧ m = getAuthenticatedSigners r.signers all

theorem callsOf_mem (hI : Inv s) {ctxs : List Ctx} {call : EnfCall}
    (h : call ∈ callsOf (ctxs.filterMap (fun c => (pick O s now all c).map (tripleOf all c)))) :
    getContextRule s call.rule.id = .ok call.rule ∧ call.signers = getAuthenticatedSigners call.rule.signers all := by
  obtain ⟨v, hv, hc⟩ := List.mem_flatMap.mp h
  obtain ⟨c, -, hp⟩ := List.mem_filterMap.mp hv
  obtain ⟨q, -, rfl⟩ := List.mem_map.mp hc
  cases hr : pick O s now all c with
  | none => rw [hr] at hp; cases hp
  | some r => rw [hr] at hp; cases hp; exact ⟨((pick_eq_some_iff hI).mp hr).1.1, rfl⟩

/-! ### the foreign-signer check -/

theorem checkTrace_good (hI : Inv s) (O : Oracle) (now : Nat) (sigs : List (Signer × Nat)) (ctxs : List Ctx) :
    ∀ ev ∈ (checkTrace O s now sigs ctxs).1, GoodEv s (sigs.map Prod.fst) ev := by
  intro ev h
  rcases checkTrace_mem O s now sigs ctxs ev h with m | m | ⟨vs, hval, m⟩
  · obtain ⟨v, k, g, rfl⟩ := authTrace_verify O sigs ev m
    trivial
  · obtain ⟨p, r, c, rfl, hr⟩ := ctxsTrace_can hI O now _ ctxs ev m
    exact ⟨hr, rfl⟩
  · obtain ⟨c, hcm, rfl⟩ := enforceTrace_mem O _ _ ev m
    obtain ⟨-, rfl⟩ := ite_ok_iff.mp ((validateAll_eq hI ..).symm.trans hval)
    exact callsOf_mem hI hcm

theorem foreignSg_good (hI : Inv s) (all : List Signer) {r : Rule} (hst : getContextRule s r.id = .ok r) (l : LEv) :
    foreignSg (allRules s) all l r.id (getAuthenticatedSigners r.signers all) = none := by
  unfold foreignSg
  rw [allRules_find hI hst]
  simp only
  rw [counted_toG]; simp

theorem foreignEv_good (hI : Inv s) (all : List Signer) (ev : Event) (l : LEv) (hg : GoodEv s all ev)
    (hl : toLEv ev = some l) (hk : l.isC = true ∨ l.isE = true) : foreignEv (allRules s) all l = none := by
  cases ev with
  | verify v k g =>
    simp only [toLEv] at hl
    by_cases hv : v ≥ 2
    · rw [if_pos hv] at hl; cases hl
    · rw [if_neg hv] at hl; injection hl with hl; subst hl
      cases hk with
      | inl h => cases h
      | inr h => cases h
  | can p r c m | enforce p r c m =>
    simp only [toLEv] at hl; injection hl with hl; subst hl
    obtain ⟨hst, rfl⟩ := hg
    exact foreignSg_good hI all hst _

theorem foreign_quiet (hI : Inv s) (all : List Signer) (tr : List Event)
    (h : ∀ ev ∈ tr, GoodEv s all ev) : foreign (allRules s) all (tr.filterMap toLEv) = none := by
  unfold foreign
  rw [List.findSome?_eq_none_iff]
  intro l hl
  have : l ∈ tr.filterMap toLEv ∧ (l.isC = true ∨ l.isE = true) := by
    cases List.mem_append.mp hl with
    | inl m => rw [List.mem_filter] at m; exact ⟨m.1, Or.inl m.2⟩
    | inr m => rw [List.mem_filter] at m; exact ⟨m.1, Or.inr m.2⟩
  obtain ⟨hm, hk⟩ := this
  obtain ⟨ev, hev, hle⟩ := List.mem_filterMap.mp hm
  exact foreignEv_good hI all ev l (h ev hev) hle hk

/-! ### splitting a log by the kind of its entries -/

def OnlyV (l : List LEv) : Prop := ∀ x ∈ l, ∃ v k g, x = LEv.v v k g
def OnlyC (l : List LEv) : Prop := ∀ x ∈ l, ∃ p rid c sg, x = LEv.c p rid c sg
def OnlyE (l : List LEv) : Prop := ∀ x ∈ l, ∃ p rid c sg, x = LEv.e p rid c sg

theorem OnlyV.filters {l : List LEv} (h : OnlyV l) :
    l.filter LEv.isV = l ∧ l.filter LEv.isC = [] ∧ l.filter LEv.isE = [] := by
  refine ⟨List.filter_eq_self.mpr ?_, OZ.Lists.filter_all_false _ _ ?_, OZ.Lists.filter_all_false _ _ ?_⟩ <;>
  · intro x hx; obtain ⟨v, k, g, e⟩ := h x hx; rw [e]; rfl

theorem OnlyC.filters {l : List LEv} (h : OnlyC l) :
    l.filter LEv.isV = [] ∧ l.filter LEv.isC = l ∧ l.filter LEv.isE = [] := by
  refine ⟨OZ.Lists.filter_all_false _ _ ?_, List.filter_eq_self.mpr ?_, OZ.Lists.filter_all_false _ _ ?_⟩ <;>
  · intro x hx; obtain ⟨p, rid, c, sg, e⟩ := h x hx; rw [e]; rfl

theorem OnlyE.filters {l : List LEv} (h : OnlyE l) :
    l.filter LEv.isV = [] ∧ l.filter LEv.isC = [] ∧ l.filter LEv.isE = l := by
  refine ⟨OZ.Lists.filter_all_false _ _ ?_, OZ.Lists.filter_all_false _ _ ?_, List.filter_eq_self.mpr ?_⟩ <;>
  · intro x hx; obtain ⟨p, rid, c, sg, e⟩ := h x hx; rw [e]; rfl

theorem onlyV_expVerif (sigs : List (Signer × Nat)) : OnlyV (sigs.filterMap expVerif) := by
  intro x hx
  obtain ⟨sg, _, h⟩ := List.mem_filterMap.mp hx
  unfold expVerif at h
  cases hs : sg.1 with
  | delegated a => rw [hs] at h; cases h
  | external v k =>
    rw [hs] at h
    dsimp only at h
    by_cases hv : v ≥ 2
    · rw [if_pos hv] at h; cases h
    · rw [if_neg hv] at h; injection h with h; exact ⟨v, k, sg.2, h.symm⟩

theorem onlyC_of_can (tr : List Event) (h : ∀ ev ∈ tr, CanOk s all ev) :
    OnlyC (tr.filterMap toLEv) := by
  intro x hx
  obtain ⟨ev, hev, hl⟩ := List.mem_filterMap.mp hx
  obtain ⟨p, r, c, e, _⟩ := h ev hev
  rw [e] at hl
  simp only [toLEv] at hl
  injection hl with hl
  exact ⟨p, r.id, c, _, hl.symm⟩

theorem onlyE_enf (calls : List EnfCall) : OnlyE ((calls.map enfEvent).filterMap toLEv) := by
  intro x hx
  obtain ⟨ev, hev, hl⟩ := List.mem_filterMap.mp hx
  obtain ⟨c, _, e⟩ := List.mem_map.mp hev
  rw [← e] at hl
  simp only [enfEvent, toLEv] at hl
  injection hl with hl
  exact ⟨_, _, _, _, hl.symm⟩

theorem split_log {V C E : List LEv} (hV : OnlyV V) (hC : OnlyC C) (hE : OnlyE E) :
    (V ++ C ++ E).filter LEv.isV = V ∧ (V ++ C ++ E).filter LEv.isC = C ∧ (V ++ C ++ E).filter LEv.isE = E := by
  simp only [List.filter_append, hV.filters, hC.filters, hE.filters, List.append_nil, List.nil_append, and_self]

/-! ### signatures and enforce budgets -/

theorem allValid_iff (m : Mocks) (auth : List Nat) (sigs : List (Signer × Nat)) :
    allValid m auth sigs = true ↔ authenticate (oracleOf m auth) sigs = .ok () := by
  unfold allValid
  rw [authenticate_ok_iff, List.all_eq_true]
  constructor
  · intro h x g hm
    have := h (x, g) hm
    rw [sigValid_eq] at this; exact this
  · intro h sg hm
    rw [sigValid_eq]; exact h sg.1 sg.2 hm

theorem enforceAllowed_iff (m : Mocks) (auth : List Nat) (calls : List EnfCall) : ∀ (hist : List EnfCall),
    enforceAllowed m (hist.map (·.policy)) (calls.map (·.policy)) = true ↔
      enforceLoop (oracleOf m auth) hist calls = .ok () := by
  induction calls with
  | nil => intro hist; simp [enforceAllowed, enforceLoop]
  | cons c rest ih =>
    intro hist
    rw [List.map_cons]
    unfold enforceAllowed enforceLoop
    have hcount : countBefore (hist.map (·.policy)) c.policy = (hist.filter (fun h => h.policy == c.policy)).length := by
      unfold countBefore
      rw [List.filter_map, List.length_map]
      rfl
    have henf : (oracleOf m auth).enf hist c = m.enfOk c.policy (countBefore (hist.map (·.policy)) c.policy) := by
      rw [hcount]; rfl
    rw [henf]
    by_cases hb : m.enfOk c.policy (countBefore (hist.map (·.policy)) c.policy) = true
    · rw [if_pos hb, hb, Bool.true_and]
      have := ih (hist ++ [c])
      rw [List.map_append] at this
      exact this
    · rw [if_neg hb]
      have hb' : m.enfOk c.policy (countBefore (hist.map (·.policy)) c.policy) = false := by simpa using hb
      rw [hb']; simp

/-! ### the verdict on a check -/

theorem expCans_eq (hI : Inv s) (now : Nat) (m : Mocks) (auth : List Nat) (all : List Signer)
    (ctxs : List Ctx) : expCans { rules := allRules s, now := now, mocks := m } all ctxs
      = (ctxs.flatMap (fun c => (rulesTrace (oracleOf m auth) c all (validRules s now (typeOf c))).1)).filterMap toLEv := by
  induction ctxs with
  | nil => rfl
  | cons c rest ih =>
    unfold expCans at ih ⊢
    rw [List.flatMap_cons, List.flatMap_cons, List.filterMap_append, ih]
    congr 1
    show expectedCans m c all (candidates (allRules s) now c) = _
    rw [candidates_eq hI, expectedCans_toG m auth]

theorem rejected_view (hI : Inv s) (now : Nat) (m : Mocks) (sigs : List (Signer × Nat)) (auth : List Nat)
    (ctxs : List Ctx) {e : Err} (hd : doCheckAuth (oracleOf m auth) s now sigs ctxs = .error e) :
    (allValid m auth sigs
      && covered (chosenOf { rules := allRules s, now := now, mocks := m } (sigs.map Prod.fst) ctxs)
      && enforceAllowed m [] (expEnforcePols (chosenOf { rules := allRules s, now := now, mocks := m } (sigs.map Prod.fst) ctxs)))
      = false := by
  refine Bool.eq_false_iff.mpr fun h => ?_
  simp only [Bool.and_eq_true] at h
  obtain ⟨⟨h1, h2⟩, h3⟩ := h
  rw [chosenOf_eq hI now m auth] at h2 h3
  rw [covered_eq] at h2
  rw [← enforce_pols] at h3
  rw [doCheckAuth_ok_iff.mpr ⟨(allValid_iff m auth sigs).mp h1, _, (validateAll_eq hI ..).trans (if_pos h2),
    (enforceAllowed_iff m auth _ []).mp h3, rfl⟩] at hd
  cases hd

theorem accepted_view (hI : Inv s) (now : Nat) (m : Mocks) (sigs : List (Signer × Nat)) (auth : List Nat)
    (ctxs : List Ctx) {calls : List EnfCall} (hd : doCheckAuth (oracleOf m auth) s now sigs ctxs = .ok calls)
    {L : List LEv} (hL : L = (checkTrace (oracleOf m auth) s now sigs ctxs).1.filterMap toLEv) :
    allValid m auth sigs = true ∧
    ∃ ch, chosenOf { rules := allRules s, now := now, mocks := m } (sigs.map Prod.fst) ctxs = ch ∧ covered ch = true ∧
      enforceAllowed m [] (expEnforcePols ch) = true ∧
      L.filter LEv.isV = sigs.filterMap expVerif ∧
      L.filter LEv.isC = expCans { rules := allRules s, now := now, mocks := m } (sigs.map Prod.fst) ctxs ∧
      L.filter LEv.isE = expEnforce (sigs.map Prod.fst) ch ∧
      expEnforce (sigs.map Prod.fst) ch = (calls.map enfEvent).filterMap toLEv := by
  obtain ⟨ha, vs, hv, he, rfl⟩ := doCheckAuth_ok_iff.mp hd
  obtain ⟨hcov, rfl⟩ := ite_ok_iff.mp ((validateAll_eq hI ..).symm.trans hv)
  have hctr := ctxsTrace_covered hI _ now _ ctxs hcov
  have hC := expCans_eq hI now m auth (sigs.map Prod.fst) ctxs
  have hE := enforce_log (sigs.map Prod.fst) (pick (oracleOf m auth) s now (sigs.map Prod.fst)) ctxs
  have hs := split_log (onlyV_expVerif sigs)
    (show OnlyC (expCans _ _ ctxs) by rw [hC, ← hctr]; exact onlyC_of_can _ (ctxsTrace_can hI _ now _ ctxs))
    (show OnlyE (expEnforce _ _) by rw [← hE]; exact onlyE_enf _)
  rw [hL, checkTrace_ok ha hv he, List.filterMap_append, List.filterMap_append,
    authTrace_log m auth sigs (by rw [authTrace_snd, ha]; rfl), hE, hctr, ← hC]
  refine ⟨(allValid_iff m auth sigs).mpr ha, _, chosenOf_eq hI now m auth _ ctxs, (covered_eq ..).trans hcov, ?_,
    hs.1, hs.2.1, hs.2.2, rfl⟩
  rw [← enforce_pols]; exact (enforceAllowed_iff m auth _ []).mpr he

theorem checkAuthMon_quiet (hI : Inv s) (now : Nat) (m : Mocks) (sigs : List (Signer × Nat))
    (auth : List Nat) (ctxs : List Ctx) (o : Obs)
    (hok : o.ok = (doCheckAuth (oracleOf m auth) s now sigs ctxs).toBool)
    (hlog : o.log = (checkTrace (oracleOf m auth) s now sigs ctxs).1.filterMap toLEv) :
    checkAuthMon { rules := allRules s, now := now, mocks := m } sigs auth ctxs o = none := by
  have hfor : foreign (allRules s) (sigs.map Prod.fst) o.log = none := by
    rw [hlog]; exact foreign_quiet hI _ _ (checkTrace_good hI _ now sigs ctxs)
  unfold checkAuthMon
  cases hd : doCheckAuth (oracleOf m auth) s now sigs ctxs with
  | error e =>
    rw [hd] at hok
    rw [if_neg (by rw [hok]; exact Bool.false_ne_true)]
    unfold verdictErr
    rw [rejected_view hI now m sigs auth ctxs hd, hfor]
    rfl
  | ok calls =>
    rw [hd] at hok
    rw [if_pos (show o.ok = true from hok)]
    obtain ⟨hvalid, ch, hch, hcov, hen, fV, fC, fE, -⟩ := accepted_view hI now m sigs auth ctxs hd hlog
    unfold verdictOk
    rw [hch, hvalid, fV, fC, fE, hcov, hen, hfor]
    simp

/-! ### the enforce calls an accepted check reports -/

theorem log_enforce_ok (hI : Inv s) {m : Mocks} {auth : List Nat} {sigs : List (Signer × Nat)} {ctxs : List Ctx}
    {calls : List EnfCall} (h : doCheckAuth (oracleOf m auth) s now sigs ctxs = .ok calls) :
    ((checkTrace (oracleOf m auth) s now sigs ctxs).1.filterMap toLEv).filter LEv.isE
      = (calls.map enfEvent).filterMap toLEv := by
  obtain ⟨-, ch, -, -, -, -, -, fE, hE⟩ := accepted_view hI now m sigs auth ctxs h rfl
  exact fE.trans hE

theorem pols_of_enforce_log (calls : List EnfCall) :
    ((calls.map enfEvent).filterMap toLEv).filterMap polOfLEv = calls.map (·.policy) := by
  induction calls with
  | nil => rfl
  | cons c t ih =>
    rw [List.map_cons, List.filterMap_cons_some (by rfl : toLEv (enfEvent c) = some (LEv.e c.policy c.rule.id c.ctx c.signers)),
      List.filterMap_cons_some (by rfl : polOfLEv (LEv.e c.policy c.rule.id c.ctx c.signers) = some c.policy), ih, List.map_cons]

end OZ.SmartAccount.Mon
