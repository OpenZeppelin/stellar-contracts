import OZ.Lemmas.RegList
import OZ.Lemmas.Lists
/-
The schema every C20 registry model follows, stated once (no Mathlib): a storage map is rewritten at one key (`updD`),
membership is tested by `any (· == a)`, a limit is met exactly (`limit_exact`).
-/
namespace OZ.Reg

theorem forall_updD {κ β : Type} [DecidableEq κ] {P : κ → β → Prop} {f : κ → β} {a : κ} {v : β}
    (ha : P a v) (hf : ∀ x, x ≠ a → P x (f x)) (x : κ) : P x (updD f a v x) := by
  by_cases h : x = a
  · subst h; rw [updD_same]; exact ha
  · rw [updD_other _ _ _ _ h]; exact hf x h

theorem mem_updD_append {κ α : Type} [DecidableEq κ] (f : κ → List α) (a : κ) (v : α) (x : κ) (y : α) :
    y ∈ updD f a (f a ++ [v]) x ↔ y ∈ f x ∨ (x = a ∧ y = v) :=
  forall_updD (P := fun x l => y ∈ l ↔ y ∈ f x ∨ (x = a ∧ y = v))
    (by rw [List.mem_append, List.mem_singleton]; exact or_congr_right (and_iff_right rfl).symm)
    (fun x h => (or_iff_left fun h' => h h'.1).symm) x

theorem mem_updD_erase {κ α : Type} [DecidableEq κ] [BEq α] [LawfulBEq α] (f : κ → List α) (a : κ) (v : α)
    (hnd : (f a).Nodup) (x : κ) (y : α) :
    y ∈ updD f a ((f a).erase v) x ↔ y ∈ f x ∧ ¬ (x = a ∧ y = v) :=
  forall_updD (P := fun x l => y ∈ l ↔ y ∈ f x ∧ ¬ (x = a ∧ y = v))
    (by rw [hnd.mem_erase_iff, and_comm]; exact and_congr_right fun _ => (not_congr (and_iff_right rfl)).symm)
    (fun x h => (and_iff_left fun h' => h h'.1).symm) x

theorem le_updD {κ α : Type} [DecidableEq κ] {f : κ → List α} {n : Nat} (hf : ∀ x, (f x).length ≤ n) (a : κ)
    {l : List α} (hl : l.length ≤ n) (x : κ) : (updD f a l x).length ≤ n :=
  forall_updD (P := fun _ (l : List α) => l.length ≤ n) hl (fun x _ => hf x) x

theorem limit_exact {σ : Type} {r : Except RErr σ} {n a b : Nat} (hab : b = a + 1)
    (key : (∃ s', r = .ok s') ↔ n < b) :
    ((∃ s', r = .ok s') ↔ n < b) ∧ (n = a → ∃ s', r = .ok s') ∧ (n = b → ∃ e, r = .error e) :=
  ⟨key, fun h => key.2 (by omega), fun h => err_of_not_ok fun s' h' => by have := key.1 ⟨s', h'⟩; omega⟩

end OZ.Reg
