import OZ.Lemmas.Rwa
import OZ.Lemmas.FungibleMon
import OZ.Model.RwaMon
/-
List algebra for the soundness of the C04 monitor (OZ/Props/C04Mon.lean): the monitor's printed lists
`(List.range n).map g` against pointwise updates of the model's maps, its list-level event replay and its
grouped module logs against the model's.
-/
namespace OZ.Rwa.Mon
open OZ.Host OZ.Fungible OZ.Rwa

theorem orFail_true {c : Bool} (msg : String) (h : c = true) : orFail c msg = none := by
  unfold orFail; rw [if_pos h]

theorem first_nil : first [] = none := rfl

theorem first_cons_none (l : List (Option String)) : first (none :: l) = first l := rfl

theorem beq_true_of_eq {α} [BEq α] [LawfulBEq α] {a b : α} (h : a = b) : (a == b) = true := by
  subst h; exact beq_self_eq_true a

/-! ### printed lists against maps -/

theorem gi_map {n i : Nat} (g : Nat → Int) (h : i < n) : gi ((List.range n).map g) i = g i :=
  getD_map_range g 0 h

theorem gb_map {n i : Nat} (g : Nat → Bool) (h : i < n) : gb ((List.range n).map g) i = g i :=
  getD_map_range g false h

theorem addAt_map (n : Nat) (b : Nat → Int) (i : Nat) (d : Int) :
    addAt ((List.range n).map b) i d = (List.range n).map (upd b i (b i + d)) :=
  mapIdx_map_range n b i (· + d)

theorem setAt_map {α : Type} (n : Nat) (g : Nat → α) (i : Nat) (v : α) :
    setAt ((List.range n).map g) i v = (List.range n).map (upd g i v) :=
  mapIdx_map_range n g i fun _ => v

theorem setAt_length {α} (l : List α) (i : Nat) (v : α) : (setAt l i v).length = l.length := by
  simp [setAt]

theorem getD_beyond {α} (l : List α) (m : Nat) (d : α) (h : l.length ≤ m) : l.getD m d = d := by
  simp [List.getD_eq_getElem?_getD, List.getElem?_eq_none h]

theorem getD_setAt {α} (l : List α) (i m : Nat) (v d : α) :
    (setAt l i v).getD m d = if m = i ∧ i < l.length then v else l.getD m d := by
  unfold setAt
  rw [List.getD_eq_getElem?_getD, List.getD_eq_getElem?_getD, List.getElem?_mapIdx]
  by_cases hm : m < l.length
  · rw [List.getElem?_eq_getElem hm]
    simp only [Option.map_some, Option.getD_some]
    by_cases hmi : m = i
    · subst hmi; rw [if_pos rfl, if_pos ⟨rfl, hm⟩]
    · rw [if_neg hmi, if_neg (fun e => hmi e.1)]
  · rw [List.getElem?_eq_none (by omega)]
    simp only [Option.map_none, Option.getD_none]
    rw [if_neg (fun (e : m = i ∧ i < l.length) => hm (e.1 ▸ e.2))]

/-- `addAt (addAt l f (-a)) t a` on the printed balances is the moved-balance map -/
def movedBal (b : Nat → Int) (f t : Nat) (a : Int) : Nat → Int :=
  upd (upd b f (b f + -a)) t (upd b f (b f + -a) t + a)

theorem move_map (n : Nat) (b : Nat → Int) (f t : Nat) (a : Int) :
    move ((List.range n).map b) f t a = (List.range n).map (movedBal b f t a) := by
  unfold move movedBal
  rw [addAt_map, addAt_map]

/-! ### list-level replay of events -/

theorem replayBase_eq : replayBase = OZ.FungibleMon.Supply.replayEv := by
  funext b ev; cases ev <;> rfl

theorem foldl_replayBase_map (n : Nat) (evs : List Fungible.Event) (b : Nat → Int) :
    evs.foldl replayBase ((List.range n).map b) = (List.range n).map (evs.foldl Fungible.replayEvent b) :=
  replayBase_eq ▸ OZ.FungibleMon.foldl_replayEv_map n evs b

theorem foldl_replayEv_baseOf (evs : List Ev) (b : Nat → Int) :
    evs.foldl Rwa.replayEv b = (evs.filterMap baseOf).foldl Fungible.replayEvent b := by
  induction evs generalizing b with
  | nil => rfl
  | cons e es ih =>
    cases e <;> simp only [List.foldl_cons, List.filterMap_cons, baseOf, Rwa.replayEv] <;> exact ih _

/-! ### the per-module logs -/

theorem grouped_nil : grouped [] = [] := by
  unfold grouped
  simp

theorem filter_grouped (p : Nat × ModCall → Bool) (l : List (Nat × ModCall)) :
    (grouped l).filter p = grouped (l.filter p) := by
  unfold grouped
  rw [List.filter_flatMap]
  congr 1
  funext m
  rw [List.filter_filter, List.filter_filter]
  congr 1
  funext x
  exact Bool.and_comm _ _

theorem flatMap_ite_eq_filterMap (ms : List Nat) (c : ModCall) (L : List Nat) :
    L.flatMap (fun m => if m ∈ ms then [(m, c)] else []) =
      L.filterMap (fun m => if ms.contains m then some (m, c) else none) := by
  induction L with
  | nil => rfl
  | cons x xs ih =>
    simp only [List.contains_iff_mem] at ih ⊢
    by_cases hx : x ∈ ms
    · simp only [List.flatMap_cons, List.filterMap_cons, hx, if_true]; rw [← ih]; rfl
    · simp only [List.flatMap_cons, List.filterMap_cons, hx, if_false]; rw [← ih]; rfl

theorem grouped_callsTo (ms : List Nat) (c : ModCall) (hn : ms.Nodup) :
    grouped (callsTo ms c) = fanOut ms c := by
  unfold grouped fanOut
  rw [← flatMap_ite_eq_filterMap]
  congr 1
  funext m
  exact callsTo_filter ms c m hn

theorem filter_callsTo_pos (ms : List Nat) (c : ModCall) (p : ModCall → Bool) (h : p c = true) :
    (callsTo ms c).filter (fun e => p e.2) = callsTo ms c := by
  unfold callsTo
  rw [List.filter_eq_self]
  intro e he
  rw [List.mem_map] at he
  obtain ⟨m, _, rfl⟩ := he
  exact h

theorem filter_callsTo_neg (ms : List Nat) (c : ModCall) (p : ModCall → Bool) (h : p c = false) :
    (callsTo ms c).filter (fun e => p e.2) = [] := by
  unfold callsTo
  rw [List.filter_eq_nil_iff]
  intro e he
  rw [List.mem_map] at he
  obtain ⟨m, _, rfl⟩ := he
  simp [h]

theorem fanOut_nil (c : ModCall) : fanOut [] c = [] := by
  unfold fanOut
  simp

/-! ### the five hooks by index -/

theorem hookOf_hookIx (h : Hook) : hookOf (hookIx h) = h := by cases h <;> rfl

theorem hookIx_lt (h : Hook) : hookIx h < 5 := by cases h <;> decide

theorem hookOf_eq_iff {i : Nat} (hi : i < 5) (h : Hook) : hookOf i = h ↔ i = hookIx h := by
  constructor
  · intro e; subst e
    have : i = 0 ∨ i = 1 ∨ i = 2 ∨ i = 3 ∨ i = 4 := by omega
    rcases this with rfl | rfl | rfl | rfl | rfl <;> rfl
  · intro e; subst e; exact hookOf_hookIx h

end OZ.Rwa.Mon
