import OZ.Lemmas.Except
import OZ.Model.Fungible
import OZ.Lemmas.Host
import OZ.Lemmas.Lists
/-
The fungible model: sums over a duplicate-free universe under point updates, the supply invariant `Inv`, and each
token function read once as an iff that needs no invariant (`update` succeeds iff `updateCond`, and gives `updateSt`);
under `Inv` the credit half of `updateCond` is automatic.
-/
namespace OZ.Fungible
open OZ.Host

theorem upd_nonneg {b : Nat → Int} (h : ∀ x, 0 ≤ b x) (a : Nat) {v : Int} (hv : 0 ≤ v) (x : Nat) :
    0 ≤ upd b a v x := by
  by_cases hx : x = a
  · rw [hx, upd_same]; exact hv
  · rw [upd_other _ _ _ _ hx]; exact h x

theorem upd_outside {U : List Nat} {b : Nat → Int} (h : ∀ x, x ∉ U → b x = 0) {a : Nat} (ha : a ∈ U)
    (v : Int) (x : Nat) (hx : x ∉ U) : upd b a v x = 0 := by
  rw [upd_other _ _ _ _ (fun e : x = a => hx (e ▸ ha))]; exact h x hx

theorem total_upd_notin (U : List Nat) (b : Nat → Int) (a : Nat) (v : Int) (h : a ∉ U) :
    total U (upd b a v) = total U b := by
  induction U with
  | nil => rfl
  | cons x xs ih =>
    have hx : x ≠ a := fun e => h (by simp [e])
    have hxs : a ∉ xs := fun e => h (by simp [e])
    simp only [total, List.map_cons, List.sum_cons] at *
    rw [upd_other _ _ _ _ hx, ih hxs]

theorem total_upd_in (U : List Nat) (b : Nat → Int) (a : Nat) (v : Int) (hn : U.Nodup) (h : a ∈ U) :
    total U (upd b a v) = total U b + (v - b a) := by
  induction U with
  | nil => cases h
  | cons x xs ih =>
    have hnx : x ∉ xs := (List.nodup_cons.mp hn).1
    have hnxs : xs.Nodup := (List.nodup_cons.mp hn).2
    simp only [total, List.map_cons, List.sum_cons] at *
    by_cases hx : x = a
    · subst hx
      have := total_upd_notin xs b x v hnx
      simp only [total] at this
      rw [upd_same, this]; omega
    · have hxs : a ∈ xs := by
        cases h with
        | head => exact absurd rfl hx
        | tail _ h' => exact h'
      rw [upd_other _ _ _ _ hx, ih hnxs hxs]; omega

theorem total_nonneg (U : List Nat) (b : Nat → Int) (h : ∀ a, 0 ≤ b a) : 0 ≤ total U b := by
  induction U with
  | nil => simp [total]
  | cons x xs ih =>
    simp only [total, List.map_cons, List.sum_cons] at *
    have := h x; omega

theorem le_total {U : List Nat} {b : Nat → Int} (h : ∀ x, 0 ≤ b x) {a : Nat} (ha : a ∈ U) :
    b a ≤ total U b := by
  induction U with
  | nil => cases ha
  | cons x xs ih =>
    have hx := h x
    have hxs := total_nonneg xs b h
    simp only [total, List.map_cons, List.sum_cons] at *
    cases ha with
    | head => omega
    | tail _ h' => have := ih h'; omega

structure Inv (U : List Nat) (s : State) : Prop where
  sum : total U s.bal = s.supply
  nonneg : ∀ a, 0 ≤ s.bal a
  outside : ∀ a, a ∉ U → s.bal a = 0
  supLo : 0 ≤ s.supply
  supHi : s.supply ≤ I128_MAX

theorem Inv.congr {U : List Nat} {s s' : State} (hi : Inv U s) (h1 : s'.supply = s.supply)
    (h2 : s'.bal = s.bal) : Inv U s' :=
  ⟨by rw [h2, h1]; exact hi.sum, by rw [h2]; exact hi.nonneg, by rw [h2]; exact hi.outside,
   by rw [h1]; exact hi.supLo, by rw [h1]; exact hi.supHi⟩

theorem bal_le_supply {U : List Nat} {s : State} (hn : U.Nodup) (hi : Inv U s) (a : Nat) :
    s.bal a ≤ s.supply := by
  by_cases ha : a ∈ U
  · rw [← hi.sum]; exact le_total hi.nonneg ha
  · rw [hi.outside a ha]; exact hi.supLo

theorem bal_add_le_supply {U : List Nat} {s : State} (hn : U.Nodup) (hi : Inv U s) (a b : Nat)
    (hab : a ≠ b) : s.bal a + s.bal b ≤ s.supply := by
  by_cases ha : a ∈ U
  · by_cases hb : b ∈ U
    · -- with `a`'s balance zeroed, `b`'s is still a term of the (smaller) sum
      have h1 := total_upd_in U s.bal a 0 hn ha
      have h2 := le_total (upd_nonneg hi.nonneg a (Int.le_refl 0)) hb
      rw [upd_other _ _ _ _ (Ne.symm hab)] at h2
      have := hi.sum
      omega
    · rw [hi.outside b hb]; have := bal_le_supply hn hi a; omega
  · rw [hi.outside a ha]; have := bal_le_supply hn hi b; omega

/-! ### the two halves of `Base::update` -/

def debitSt (s : State) (f : Option Nat) (a : Int) : State :=
  match f with
  | some x => { s with bal := upd s.bal x (s.bal x - a) }
  | none => { s with supply := s.supply + a }

def creditSt (s : State) (t : Option Nat) (a : Int) : State :=
  match t with
  | some y => { s with bal := upd s.bal y (s.bal y + a) }
  | none => { s with supply := s.supply - a }

def updateSt (s : State) (f t : Option Nat) (a : Int) : State := creditSt (debitSt s f a) t a

def debitCond (s : State) (f : Option Nat) (a : Int) : Prop :=
  match f with
  | some x => a ≤ s.bal x
  | none => in128 (s.supply + a)

def creditCond (s : State) (t : Option Nat) (a : Int) : Prop :=
  match t with
  | some y => in128 (s.bal y + a)
  | none => in128 (s.supply - a)

def updateCond (s : State) (f t : Option Nat) (a : Int) : Prop :=
  0 ≤ a ∧ debitCond s f a ∧ creditCond (debitSt s f a) t a

theorem debit_eq_ok_iff {s s1 : State} {f : Option Nat} {a : Int} :
    debit s f a = .ok s1 ↔ debitCond s f a ∧ s1 = debitSt s f a := by
  cases f with
  | some x => exact ite_error_ok_iff.trans (and_congr_left' Int.not_lt)
  | none => exact ite_ok_iff

theorem debit_ne_panic (s : State) (f : Option Nat) (a : Int) : debit s f a ≠ .error .overflowPanic := by
  intro h
  unfold debit at h
  cases f <;> simp only at h <;> split at h <;> cases h

theorem credit_eq_ok_iff {s s' : State} {t : Option Nat} {a : Int} :
    credit s t a = .ok s' ↔ creditCond s t a ∧ s' = creditSt s t a := by
  cases t <;> exact ite_ok_iff

theorem update_eq_ok_iff {s s' : State} {f t : Option Nat} {a : Int} :
    update s f t a = .ok s' ↔ updateCond s f t a ∧ s' = updateSt s f t a := by
  unfold update
  split
  · next h0 => exact ⟨nofun, fun h => absurd h.1.1 (by omega)⟩
  · next h0 =>
    cases hd : debit s f a with
    | error e => exact ⟨nofun, fun h => by rw [debit_eq_ok_iff.2 ⟨h.1.2.1, rfl⟩] at hd; cases hd⟩
    | ok s1 =>
      obtain ⟨hc, rfl⟩ := debit_eq_ok_iff.1 hd
      show credit _ t a = .ok s' ↔ _
      rw [credit_eq_ok_iff]
      exact ⟨fun h => ⟨⟨by omega, hc, h.1⟩, h.2⟩, fun h => ⟨h.1.2.2, h.2⟩⟩

/-- a successful `update` produces exactly `updateSt` -/
theorem update_eq {s s' : State} {f t : Option Nat} {a : Int} (h : update s f t a = .ok s') :
    0 ≤ a ∧ debitCond s f a ∧ s' = updateSt s f t a :=
  let ⟨⟨h0, hc, _⟩, e⟩ := update_eq_ok_iff.1 h; ⟨h0, hc, e⟩

theorem updateCond_congr {s s0 : State} (hs : s0.supply = s.supply) (hb : s0.bal = s.bal) (f t : Option Nat)
    (a : Int) : updateCond s0 f t a ↔ updateCond s f t a := by
  cases s; cases s0; dsimp only at hs hb; subst hs hb
  cases f <;> cases t <;> exact Iff.rfl

theorem updateSt_allow (s : State) (f t : Option Nat) (a : Int) : (updateSt s f t a).allow = s.allow := by
  cases f <;> cases t <;> rfl
theorem updateSt_now (s : State) (f t : Option Nat) (a : Int) : (updateSt s f t a).now = s.now := by
  cases f <;> cases t <;> rfl
theorem updateSt_events (s : State) (f t : Option Nat) (a : Int) :
    (updateSt s f t a).events = s.events := by
  cases f <;> cases t <;> rfl

theorem updateSt_supply (s : State) (f t : Option Nat) (a : Int) :
    (updateSt s f t a).supply =
      s.supply + (if f = none then a else 0) - (if t = none then a else 0) := by
  cases f <;> cases t <;> simp [updateSt, debitSt, creditSt]

theorem debitSt_bal (s : State) (f : Option Nat) (a : Int) (x : Nat) :
    (debitSt s f a).bal x = s.bal x - (if f = some x then a else 0) := by
  cases f with
  | none => show s.bal x = s.bal x - 0; omega
  | some y =>
    show upd s.bal y (s.bal y - a) x = _
    by_cases h : x = y
    · subst h; rw [upd_same, if_pos rfl]
    · rw [upd_other _ _ _ _ h, if_neg (fun e => h (Option.some.inj e).symm)]; omega

theorem creditSt_bal (s : State) (t : Option Nat) (a : Int) (x : Nat) :
    (creditSt s t a).bal x = s.bal x + (if t = some x then a else 0) := by
  cases t with
  | none => show s.bal x = s.bal x + 0; omega
  | some y =>
    show upd s.bal y (s.bal y + a) x = _
    by_cases h : x = y
    · subst h; rw [upd_same, if_pos rfl]
    · rw [upd_other _ _ _ _ h, if_neg (fun e => h (Option.some.inj e).symm)]; omega

theorem updateSt_bal (s : State) (f t : Option Nat) (a : Int) (x : Nat) :
    (updateSt s f t a).bal x =
      s.bal x - (if f = some x then a else 0) + (if t = some x then a else 0) := by
  rw [updateSt, creditSt_bal, debitSt_bal]

/-! ### `update` and the supply invariant -/

/-- the state between the two halves of `update`: as `Inv`, except that the balances sum to `d` less than the supply -/
structure Debited (U : List Nat) (d : Int) (s : State) : Prop where
  sum : total U s.bal + d = s.supply
  nonneg : ∀ a, 0 ≤ s.bal a
  outside : ∀ a, a ∉ U → s.bal a = 0
  supHi : s.supply ≤ I128_MAX

/-- also for `from` outside `U`: it holds nothing, so only 0 can be taken from it -/
theorem debit_debited {U : List Nat} (hn : U.Nodup) {s : State} (hi : Inv U s) {f : Option Nat}
    {amt : Int} (h0 : 0 ≤ amt) (hc : debitCond s f amt) : Debited U amt (debitSt s f amt) := by
  cases f with
  | none => exact ⟨by show total U s.bal + amt = s.supply + amt; rw [hi.sum], hi.nonneg, hi.outside, hc.2⟩
  | some a =>
    have hc : amt ≤ s.bal a := hc
    show Debited U amt { s with bal := upd s.bal a (s.bal a - amt) }
    by_cases ha : a ∈ U
    · refine ⟨?_, upd_nonneg hi.nonneg a (by omega), upd_outside hi.outside ha _, hi.supHi⟩
      show total U (upd s.bal a (s.bal a - amt)) + amt = s.supply
      rw [total_upd_in _ _ _ _ hn ha, ← hi.sum]; omega
    · have hz : amt = 0 := by have := hi.outside a ha; omega
      subst hz
      rw [Int.sub_zero, upd_self]
      exact ⟨by show total U s.bal + 0 = s.supply; rw [hi.sum]; omega, hi.nonneg, hi.outside, hi.supHi⟩

/-- the code's "can't overflow": with the amount pending, nothing leaves i128 when it arrives -/
theorem credit_succeeds {U : List Nat} {s : State} {amt : Int} (hs : Debited U amt s) (h0 : 0 ≤ amt)
    (t : Option Nat) : creditCond s t amt := by
  have htot := total_nonneg U s.bal hs.nonneg
  have hsum := hs.sum
  have hhi := hs.supHi
  cases t with
  | none => show in128 (s.supply - amt); unfold in128 I128_MIN; constructor <;> omega
  | some b =>
    have hb := hs.nonneg b
    have hle : s.bal b ≤ total U s.bal := by
      by_cases hbU : b ∈ U
      · exact le_total hs.nonneg hbU
      · rw [hs.outside b hbU]; exact htot
    show in128 (s.bal b + amt); unfold in128 I128_MIN; constructor <;> omega

theorem updateCond_iff_of_inv {U : List Nat} (hn : U.Nodup) {s : State} (hi : Inv U s) (f t : Option Nat)
    (a : Int) : updateCond s f t a ↔ 0 ≤ a ∧ debitCond s f a :=
  ⟨fun h => ⟨h.1, h.2.1⟩, fun h => ⟨h.1, h.2, credit_succeeds (debit_debited hn hi h.1 h.2) h.1 t⟩⟩

theorem credit_inv {U : List Nat} (hn : U.Nodup) {s : State} {amt : Int} (hs : Debited U amt s)
    (h0 : 0 ≤ amt) {t : Option Nat} (ht : ∀ b, t = some b → b ∈ U) : Inv U (creditSt s t amt) := by
  have htot := total_nonneg U s.bal hs.nonneg
  have hsum := hs.sum
  have hhi := hs.supHi
  cases t with
  | none =>
    exact ⟨by show total U s.bal = s.supply - amt; omega, hs.nonneg, hs.outside,
      by show 0 ≤ s.supply - amt; omega, by show s.supply - amt ≤ I128_MAX; omega⟩
  | some b =>
    have hbU := ht b rfl
    have hb := hs.nonneg b
    refine ⟨?_, upd_nonneg hs.nonneg b (by omega), upd_outside hs.outside hbU _, ?_, hhi⟩
    · show total U (upd s.bal b (s.bal b + amt)) = s.supply
      rw [total_upd_in _ _ _ _ hn hbU]; omega
    · show 0 ≤ s.supply; omega

theorem inv_of_updateSt {U : List Nat} (hn : U.Nodup) {s s' : State} (hi : Inv U s)
    (f t : Option Nat) {a : Int} (h0 : 0 ≤ a) (hc : debitCond s f a)
    (ht : ∀ b, t = some b → b ∈ U) (hs : s'.supply = (updateSt s f t a).supply)
    (hb : s'.bal = (updateSt s f t a).bal) : Inv U s' :=
  (credit_inv hn (debit_debited hn hi h0 hc) h0 ht).congr hs hb

theorem update_inv {U : List Nat} (hn : U.Nodup) {s s' : State} (hi : Inv U s)
    {f t : Option Nat} {amt : Int} (ht : ∀ b, t = some b → b ∈ U)
    (h : update s f t amt = .ok s') :
    Inv U s' ∧
    s'.supply = s.supply + (if f = none then amt else 0) - (if t = none then amt else 0) := by
  obtain ⟨h0, hc, rfl⟩ := update_eq h
  exact ⟨inv_of_updateSt hn hi f t h0 hc ht rfl rfl, updateSt_supply s f t amt⟩

/-! ### `set_allowance` and `spend_allowance` -/

def setEntry (c : Cfg) (s : State) (o sp : Nat) (amt : Int) (lu : Nat) : Temp AllowanceData :=
  let e := Temp.set c (s.allow o sp) s.now ⟨amt, lu⟩
  if 0 < amt then { e with liveUntil := max e.liveUntil (s.now + (lu - s.now)) } else e

/-- after the two explicit checks the `extend_ttl` call cannot fail: the code's "cannot revert because of the check
above" is true -/
theorem setAllowance_eq_ok_iff {c : Cfg} {s s' : State} {o sp : Nat} {amt : Int} {lu : Nat} :
    setAllowance c s o sp amt lu = .ok s' ↔
      0 ≤ amt ∧ lu ≤ c.maxLiveUntil s.now ∧ (0 < amt → s.now ≤ lu) ∧
      s' = { s with allow := upd2 s.allow o sp (some (setEntry c s o sp amt lu)) } := by
  unfold setAllowance setEntry
  rw [ite_error_eq_ok_iff, ite_error_eq_ok_iff, Int.not_lt]
  refine and_congr_right fun h0 => ?_
  dsimp only
  by_cases hp : 0 < amt
  · rw [if_pos hp, if_pos hp]
    constructor
    · rintro ⟨hc, h⟩
      split at h
      · cases h
      · next e' he' =>
        obtain ⟨-, rfl⟩ := (Temp.extend_eq_some_iff ..).1 he'
        exact ⟨by omega, fun _ => by omega, (Except.ok.inj h).symm⟩
    · rintro ⟨hmax, hnow, rfl⟩
      have := hnow hp
      refine ⟨by omega, ?_⟩
      rw [(Temp.extend_eq_some_iff ..).2 ⟨by omega, rfl⟩]
  · rw [if_neg hp, if_neg hp]
    exact ⟨fun ⟨hc, h⟩ => ⟨by omega, fun h => absurd h hp, (Except.ok.inj h).symm⟩,
      fun ⟨hmax, _, h⟩ => ⟨by omega, congrArg _ h.symm⟩⟩

theorem setAllowance_ok {c : Cfg} {s s' : State} {o sp : Nat} {amt : Int} {lu : Nat}
    (h : setAllowance c s o sp amt lu = .ok s') :
    s'.supply = s.supply ∧ s'.bal = s.bal ∧ s'.now = s.now ∧ s'.events = s.events ∧
    (∀ x y, ¬ (x = o ∧ y = sp) → s'.allow x y = s.allow x y) := by
  obtain ⟨-, -, -, rfl⟩ := setAllowance_eq_ok_iff.1 h
  exact ⟨rfl, rfl, rfl, rfl, fun x y hxy => upd2_other _ _ _ _ _ _ hxy⟩

theorem spendAllowance_eq_ok_iff {c : Cfg} {s s' : State} {o sp : Nat} {amt : Int} :
    spendAllowance c s o sp amt = .ok s' ↔
      0 ≤ amt ∧ amt ≤ (allowanceData s o sp).amount ∧
      if 0 < amt then setAllowance c s o sp ((allowanceData s o sp).amount - amt)
          (allowanceData s o sp).liveUntilLedger = .ok s'
      else s' = s := by
  unfold spendAllowance
  rw [ite_error_eq_ok_iff, ite_error_eq_ok_iff, Int.not_lt, Int.not_lt]
  refine and_congr_right fun _ => and_congr_right fun _ => ?_
  split
  · exact Iff.rfl
  · exact ⟨fun h => (Except.ok.inj h).symm, fun h => congrArg _ h.symm⟩

theorem spendAllowance_cases {c : Cfg} {s s' : State} {o sp : Nat} {amt : Int}
    (h : spendAllowance c s o sp amt = .ok s') :
    0 ≤ amt ∧ amt ≤ (allowanceData s o sp).amount ∧
    ((0 < amt ∧ setAllowance c s o sp ((allowanceData s o sp).amount - amt)
        (allowanceData s o sp).liveUntilLedger = .ok s') ∨ (amt = 0 ∧ s' = s)) := by
  obtain ⟨h0, hle, hc⟩ := spendAllowance_eq_ok_iff.1 h
  refine ⟨h0, hle, ?_⟩
  split at hc
  · next hp => exact .inl ⟨hp, hc⟩
  · next hp => exact .inr ⟨by omega, hc⟩

theorem spendAllowance_ok {c : Cfg} {s s' : State} {o sp : Nat} {amt : Int}
    (h : spendAllowance c s o sp amt = .ok s') :
    s'.supply = s.supply ∧ s'.bal = s.bal ∧ s'.now = s.now ∧ s'.events = s.events ∧
    (∀ x y, ¬ (x = o ∧ y = sp) → s'.allow x y = s.allow x y) := by
  obtain ⟨-, -, ⟨-, hset⟩ | ⟨-, rfl⟩⟩ := spendAllowance_cases h
  · exact setAllowance_ok hset
  · exact ⟨rfl, rfl, rfl, rfl, fun _ _ _ => rfl⟩

theorem spendAllowance_state {c : Cfg} {s s0 : State} {o sp : Nat} {a : Int}
    (h : spendAllowance c s o sp a = .ok s0) : s0 = { s with allow := s0.allow } := by
  obtain ⟨e1, e2, e3, e4, -⟩ := spendAllowance_ok h
  cases s; cases s0; dsimp only at e1 e2 e3 e4; subst e1 e2 e3 e4; rfl

theorem requireAuth_ok {auth : List Nat} {a : Nat} {u : Unit} (h : requireAuth auth a = .ok u) :
    a ∈ auth := by
  unfold requireAuth at h
  split at h
  · assumption
  · cases h

theorem requireAuth_of_mem {auth : List Nat} {a : Nat} (h : a ∈ auth) : requireAuth auth a = .ok () := by
  unfold requireAuth; rw [if_pos h]

theorem requireAuth_bind_ok_iff {α} {auth : List Nat} {a : Nat} {x : Except Err α} {v : α} :
    (requireAuth auth a >>= fun _ => x) = .ok v ↔ a ∈ auth ∧ x = .ok v := by
  constructor
  · intro h
    obtain ⟨_, ha, hx⟩ := bind_eq_ok h
    exact ⟨requireAuth_ok ha, hx⟩
  · intro ⟨ha, hx⟩
    rw [requireAuth_of_mem ha]; exact hx

theorem emit_allow (s : State) (ev : Event) : (emit s ev).allow = s.allow := rfl
theorem emit_now (s : State) (ev : Event) : (emit s ev).now = s.now := rfl
theorem emit_bal (s : State) (ev : Event) : (emit s ev).bal = s.bal := rfl

theorem mint_ok {s s' : State} {t : Nat} {amt : Int} (h : mint s t amt = .ok s') :
    ∃ s1, update s none (some t) amt = .ok s1 ∧ s' = emit s1 (.mint t amt) := by
  obtain ⟨s1, h1, h2⟩ := bind_eq_ok h
  injection h2 with h2
  exact ⟨s1, h1, h2.symm⟩

theorem transfer_ok {s s' : State} {auth : List Nat} {f t : Nat} {amt : Int}
    (h : transfer s auth f t amt = .ok s') :
    f ∈ auth ∧ ∃ s1, update s (some f) (some t) amt = .ok s1 ∧ s' = emit s1 (.transfer f t amt) := by
  obtain ⟨_, ha, h⟩ := bind_eq_ok h
  obtain ⟨s1, h1, h2⟩ := bind_eq_ok h
  injection h2 with h2
  exact ⟨requireAuth_ok ha, s1, h1, h2.symm⟩

theorem burn_ok {s s' : State} {auth : List Nat} {f : Nat} {amt : Int}
    (h : burn s auth f amt = .ok s') :
    f ∈ auth ∧ ∃ s1, update s (some f) none amt = .ok s1 ∧ s' = emit s1 (.burn f amt) := by
  obtain ⟨_, ha, h⟩ := bind_eq_ok h
  obtain ⟨s1, h1, h2⟩ := bind_eq_ok h
  injection h2 with h2
  exact ⟨requireAuth_ok ha, s1, h1, h2.symm⟩

theorem transferFrom_ok {c : Cfg} {s s' : State} {auth : List Nat} {sp f t : Nat} {amt : Int}
    (h : transferFrom c s auth sp f t amt = .ok s') :
    sp ∈ auth ∧ ∃ s0 s1, spendAllowance c s f sp amt = .ok s0 ∧
      update s0 (some f) (some t) amt = .ok s1 ∧ s' = emit s1 (.transfer f t amt) := by
  obtain ⟨_, ha, h⟩ := bind_eq_ok h
  obtain ⟨s0, h0, h⟩ := bind_eq_ok h
  obtain ⟨s1, h1, h2⟩ := bind_eq_ok h
  injection h2 with h2
  exact ⟨requireAuth_ok ha, s0, s1, h0, h1, h2.symm⟩

theorem burnFrom_ok {c : Cfg} {s s' : State} {auth : List Nat} {sp f : Nat} {amt : Int}
    (h : burnFrom c s auth sp f amt = .ok s') :
    sp ∈ auth ∧ ∃ s0 s1, spendAllowance c s f sp amt = .ok s0 ∧
      update s0 (some f) none amt = .ok s1 ∧ s' = emit s1 (.burn f amt) := by
  obtain ⟨_, ha, h⟩ := bind_eq_ok h
  obtain ⟨s0, h0, h⟩ := bind_eq_ok h
  obtain ⟨s1, h1, h2⟩ := bind_eq_ok h
  injection h2 with h2
  exact ⟨requireAuth_ok ha, s0, s1, h0, h1, h2.symm⟩

theorem approve_eq_ok_iff {c : Cfg} {s s' : State} {auth : List Nat} {o sp : Nat} {amt : Int} {lu : Nat} :
    approve c s auth o sp amt lu = .ok s' ↔
      o ∈ auth ∧ ∃ s0, setAllowance c s o sp amt lu = .ok s0 ∧ s' = emit s0 (.approve o sp amt lu) := by
  unfold approve
  rw [requireAuth_bind_ok_iff, bind_eq_ok_iff]
  exact and_congr_right fun _ => exists_congr fun s0 => and_congr_right fun _ =>
    ⟨fun h => (Except.ok.inj h).symm, fun h => congrArg _ h.symm⟩

theorem approve_ok {c : Cfg} {s s' : State} {auth : List Nat} {o sp : Nat} {amt : Int} {lu : Nat}
    (h : approve c s auth o sp amt lu = .ok s') :
    o ∈ auth ∧ ∃ s0, setAllowance c s o sp amt lu = .ok s0 ∧ s' = emit s0 (.approve o sp amt lu) :=
  approve_eq_ok_iff.1 h

/-! ### the bodies of the entry points, with the conditions of the state they are called in -/

theorem update_emit_eq_ok_iff {s s' : State} {f t : Option Nat} {a : Int} {ev : Event} :
    (update s f t a >>= fun s1 => pure (emit s1 ev)) = .ok s' ↔
      updateCond s f t a ∧ s' = emit (updateSt s f t a) ev := by
  rw [bind_eq_ok_iff]
  constructor
  · rintro ⟨s1, h1, h2⟩
    obtain ⟨hc, rfl⟩ := update_eq_ok_iff.1 h1
    exact ⟨hc, (Except.ok.inj h2).symm⟩
  · rintro ⟨hc, rfl⟩
    exact ⟨_, update_eq_ok_iff.2 ⟨hc, rfl⟩, rfl⟩

theorem spend_update_eq_ok_iff {c : Cfg} {s s' : State} {sp f : Nat} {t : Option Nat} {a : Int} {ev : Event} :
    (spendAllowance c s f sp a >>= fun s0 => update s0 (some f) t a >>= fun s1 => pure (emit s1 ev)) = .ok s' ↔
      updateCond s (some f) t a ∧ ∃ s0, spendAllowance c s f sp a = .ok s0 ∧
        s' = { emit (updateSt s (some f) t a) ev with allow := s0.allow } := by
  rw [bind_eq_ok_iff]
  constructor
  · rintro ⟨s0, h0, h1⟩
    obtain ⟨hc, rfl⟩ := update_emit_eq_ok_iff.1 h1
    obtain ⟨e1, e2, -⟩ := spendAllowance_ok h0
    refine ⟨(updateCond_congr e1 e2 _ _ _).1 hc, s0, h0, ?_⟩
    rw [spendAllowance_state h0]; cases t <;> rfl
  · rintro ⟨hc, s0, h0, rfl⟩
    obtain ⟨e1, e2, -⟩ := spendAllowance_ok h0
    refine ⟨s0, h0, update_emit_eq_ok_iff.2 ⟨(updateCond_congr e1 e2 _ _ _).2 hc, ?_⟩⟩
    rw [spendAllowance_state h0]; cases t <;> rfl

/-- the one `Base::update` call behind an operation, `(from, to, amount)`, with the event emitted after it -/
def Op.move? : Op → Option (Option Nat × Option Nat × Int × Event)
  | .mint t a => some (none, some t, a, .mint t a)
  | .transfer f t a => some (some f, some t, a, .transfer f t a)
  | .transferFrom _ f t a => some (some f, some t, a, .transfer f t a)
  | .burn f a => some (some f, none, a, .burn f a)
  | .burnFrom _ f a => some (some f, none, a, .burn f a)
  | .approve _ _ _ _ => none
  | .advance _ => none

theorem apply_move {c : Cfg} {s s' : State} {auth : List Nat} {op : Op} {f t : Option Nat} {a : Int}
    {ev : Event} (h : apply c s auth op = .ok s') (hm : op.move? = some (f, t, a, ev)) :
    ∃ s0 s1, s0.supply = s.supply ∧ s0.bal = s.bal ∧ s0.now = s.now ∧ s0.events = s.events ∧
      update s0 f t a = .ok s1 ∧ s' = emit s1 ev := by
  cases op with
  | mint _ _ =>
    cases hm
    obtain ⟨s1, h1, rfl⟩ := mint_ok h
    exact ⟨s, s1, rfl, rfl, rfl, rfl, h1, rfl⟩
  | transfer _ _ _ =>
    cases hm
    obtain ⟨_, s1, h1, rfl⟩ := transfer_ok h
    exact ⟨s, s1, rfl, rfl, rfl, rfl, h1, rfl⟩
  | burn _ _ =>
    cases hm
    obtain ⟨_, s1, h1, rfl⟩ := burn_ok h
    exact ⟨s, s1, rfl, rfl, rfl, rfl, h1, rfl⟩
  | transferFrom _ _ _ _ =>
    cases hm
    obtain ⟨_, s0, s1, h0, h1, rfl⟩ := transferFrom_ok h
    obtain ⟨es, eb, en, ee, _⟩ := spendAllowance_ok h0
    exact ⟨s0, s1, es, eb, en, ee, h1, rfl⟩
  | burnFrom _ _ _ =>
    cases hm
    obtain ⟨_, s0, s1, h0, h1, rfl⟩ := burnFrom_ok h
    obtain ⟨es, eb, en, ee, _⟩ := spendAllowance_ok h0
    exact ⟨s0, s1, es, eb, en, ee, h1, rfl⟩
  | approve _ _ _ _ => cases hm
  | advance _ => cases hm

theorem replayEvent_move {op : Op} {f t : Option Nat} {a : Int} {ev : Event}
    (hm : op.move? = some (f, t, a, ev)) (s : State) :
    replayEvent s.bal ev = (updateSt s f t a).bal := by
  cases op <;> cases hm <;> rfl

theorem update_replay {op : Op} {f t : Option Nat} {a : Int} {ev : Event} (hm : op.move? = some (f, t, a, ev))
    {s s' : State} (h : update s f t a = .ok s') : replayEvent s.bal ev = s'.bal := by
  obtain ⟨-, -, rfl⟩ := update_eq h
  exact replayEvent_move hm s

def supplyDelta : Op → Int
  | .mint _ a => a
  | .burn _ a => -a
  | .burnFrom _ _ a => -a
  | _ => 0

theorem supplyDelta_move {op : Op} {f t : Option Nat} {a : Int} {ev : Event}
    (hm : op.move? = some (f, t, a, ev)) :
    supplyDelta op = (if f = none then a else 0) - (if t = none then a else 0) := by
  cases op <;> cases hm <;> simp [supplyDelta]

/-- from any state: the invariant is needed only for the amounts' staying i128 (`update_inv`) -/
theorem apply_accounting {c : Cfg} {s s' : State} {auth : List Nat} {op : Op} (h : apply c s auth op = .ok s') :
    s'.supply = s.supply + supplyDelta op ∧
    ∃ evs, s'.events = s.events ++ evs ∧ evs.foldl replayEvent s.bal = s'.bal := by
  cases hm : op.move? with
  | some m =>
    obtain ⟨f, t, a, ev⟩ := m
    obtain ⟨s0, s1, es, eb, -, ee, h1, rfl⟩ := apply_move h hm
    obtain ⟨-, -, rfl⟩ := update_eq h1
    refine ⟨?_, [ev], ?_, ?_⟩
    · show (updateSt s0 f t a).supply = _
      rw [updateSt_supply, es, supplyDelta_move hm]; omega
    · show (updateSt s0 f t a).events ++ [ev] = _
      rw [updateSt_events, ee]
    · show replayEvent s.bal ev = (updateSt s0 f t a).bal
      rw [← eb]; exact replayEvent_move hm s0
  | none =>
    cases op with
    | approve o sp amt lu =>
      obtain ⟨_, s0, h0, rfl⟩ := approve_ok h
      obtain ⟨es, eb, -, ee, -⟩ := setAllowance_ok h0
      exact ⟨es.trans (Int.add_zero _).symm, [_], congrArg (· ++ _) ee, eb.symm⟩
    | advance n =>
      injection h with h; subst h
      exact ⟨(Int.add_zero _).symm, [], (List.append_nil _).symm, rfl⟩
    | _ => cases hm

theorem apply_supply {c : Cfg} {s s' : State} {auth : List Nat} {op : Op} (h : apply c s auth op = .ok s') :
    s'.supply = s.supply + supplyDelta op :=
  (apply_accounting h).1

theorem run_keeps {c : Cfg} (P : State → Prop) (ops : List (List Nat × Op))
    (hstep : ∀ x ∈ ops, ∀ s s', P s → apply c s x.1 x.2 = .ok s' → P s') {s : State} (h : P s) :
    P (run c s ops) := by
  refine OZ.Lists.foldl_keeps (fun s x hs hx => ?_) ops s h hstep
  unfold step
  split
  · next hok => exact hx s _ hs hok
  · exact hs

end OZ.Fungible
