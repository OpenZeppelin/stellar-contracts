import OZ.Lemmas.RegStep
/-
A relation `{(k, t, r)}` stored twice: per key `k` the list `P k` of its pairs `(t, r)`, per topic `t` the list `T t`
of the keys holding some pair for it. The signing-key registry keeps this layout, in the hand model
(OZ/Model/RegKeys.lean) and in the generated store (OZ/Gen/Keys.lean); what a granted and a withdrawn pair do to it is
proved here once, about the two maps alone.
-/
namespace OZ.Reg

variable {τ κ ρ : Type} [DecidableEq τ] [DecidableEq κ] [BEq κ] [LawfulBEq κ] [BEq (τ × ρ)] [LawfulBEq (τ × ρ)]

structure TwoWay (T : τ → List κ) (P : κ → List (τ × ρ)) : Prop where
  two_way : ∀ k t, k ∈ T t ↔ ∃ r, (t, r) ∈ P k
  nd_pairs : ∀ k, (P k).Nodup
  nd_topics : ∀ t, (T t).Nodup

def listKey (T : τ → List κ) (k : κ) (t : τ) : τ → List κ :=
  if k ∈ T t then T else updD T t (T t ++ [k])

def unlistKey (T : τ → List κ) (ps : List (τ × ρ)) (k : κ) (t : τ) : τ → List κ :=
  if ps.any (fun p => decide (p.1 = t)) = true then T else updD T t ((T t).erase k)

omit [DecidableEq κ] in
theorem forall_listKey {Q : τ → List κ → Prop} {T : τ → List κ} {k : κ} {t : τ}
    (h0 : ∀ x, Q x (T x)) (h1 : k ∉ T t → Q t (T t ++ [k])) (x : τ) : Q x (listKey T k t x) := by
  unfold listKey
  split
  · exact h0 x
  · rename_i hk; exact forall_updD (h1 hk) (fun x _ => h0 x) x

omit [DecidableEq κ] [LawfulBEq κ] [BEq (τ × ρ)] [LawfulBEq (τ × ρ)] in
theorem forall_unlistKey {Q : τ → List κ → Prop} {T : τ → List κ} {ps : List (τ × ρ)} {k : κ} {t : τ}
    (h0 : ∀ x, Q x (T x)) (h1 : Q t ((T t).erase k)) (x : τ) : Q x (unlistKey T ps k t x) := by
  unfold unlistKey
  split
  · exact h0 x
  · exact forall_updD h1 (fun x _ => h0 x) x

omit [DecidableEq κ] in
theorem mem_listKey (T : τ → List κ) (k : κ) (t t' : τ) (k' : κ) :
    k' ∈ listKey T k t t' ↔ k' ∈ T t' ∨ (t' = t ∧ k' = k) := by
  unfold listKey
  split
  · rename_i hm; exact ⟨Or.inl, fun h => h.elim id fun ⟨ht, hk⟩ => ht ▸ hk ▸ hm⟩
  · exact mem_updD_append _ _ _ _ _

omit [DecidableEq κ] in
theorem le_listKey {T : τ → List κ} {n : Nat} (hT : ∀ x, (T x).length ≤ n) {k : κ} {t : τ}
    (hroom : k ∈ T t ∨ (T t).length < n) (x : τ) : (listKey T k t x).length ≤ n :=
  forall_listKey (Q := fun _ l => l.length ≤ n) hT
    (fun hk => by rw [List.length_append]; exact hroom.resolve_left hk) x

omit [DecidableEq κ] [LawfulBEq κ] [BEq (τ × ρ)] [LawfulBEq (τ × ρ)] in
theorem le_unlistKey {T : τ → List κ} {n : Nat} (hT : ∀ x, (T x).length ≤ n) (ps : List (τ × ρ)) (k : κ) (t : τ)
    (x : τ) : (unlistKey T ps k t x).length ≤ n :=
  forall_unlistKey (Q := fun _ l => l.length ≤ n) hT (Nat.le_trans List.length_erase_le (hT t)) x

namespace TwoWay
variable {T : τ → List κ} {P : κ → List (τ × ρ)}

omit [DecidableEq κ] [BEq κ] [LawfulBEq κ] in
theorem any_erase_iff (h : TwoWay T P) (k : κ) (t : τ) (r : ρ) :
    ((P k).erase (t, r)).any (fun p => decide (p.1 = t)) = true ↔ ∃ r', r' ≠ r ∧ (t, r') ∈ P k := by
  simp only [List.any_eq_true, (h.nd_pairs k).mem_erase_iff, decide_eq_true_eq]
  exact ⟨fun ⟨p, ⟨hne, hm⟩, hp⟩ => ⟨p.2, fun e => hne (Prod.ext hp e), hp ▸ hm⟩,
    fun ⟨r', hne, hm⟩ => ⟨(t, r'), ⟨fun e => hne (Prod.mk.inj e).2, hm⟩, rfl⟩⟩

omit [BEq (τ × ρ)] [LawfulBEq (τ × ρ)] in
theorem allow (h : TwoWay T P) {k : κ} {t : τ} {r : ρ} (hnew : (t, r) ∉ P k) :
    TwoWay (listKey T k t) (updD P k (P k ++ [(t, r)])) where
  two_way k' t' := by
    rw [mem_listKey, h.two_way]
    simp only [mem_updD_append, exists_or]
    exact or_congr Iff.rfl ⟨fun ⟨ht, hk⟩ => ⟨r, hk, by rw [ht]⟩, fun ⟨_, hk, he⟩ => ⟨(Prod.mk.inj he).1, hk⟩⟩
  nd_pairs := forall_updD (P := fun _ (l : List (τ × ρ)) => l.Nodup) (nodup_append_singleton (h.nd_pairs k) hnew) fun x _ => h.nd_pairs x
  nd_topics := forall_listKey (Q := fun _ l => l.Nodup) h.nd_topics (nodup_append_singleton (h.nd_topics t))

theorem remove (h : TwoWay T P) (k : κ) (t : τ) (r : ρ) :
    TwoWay (unlistKey T ((P k).erase (t, r)) k t) (updD P k ((P k).erase (t, r))) where
  two_way k' t' := by
    simp only [mem_updD_erase _ _ _ (h.nd_pairs _)]
    unfold unlistKey
    split
    · rename_i hany
      rw [h.two_way]
      refine ⟨fun ⟨r', hr⟩ => ?_, fun ⟨r', hr, _⟩ => ⟨r', hr⟩⟩
      by_cases hc : k' = k ∧ (t', r') = (t, r)
      · -- the removed pair was the witness: the key holds another pair for the topic
        obtain ⟨r'', hne, hm⟩ := (h.any_erase_iff k t r).1 hany
        rw [hc.1, (Prod.mk.inj hc.2).1]
        exact ⟨r'', hm, fun c => hne (Prod.mk.inj c.2).2⟩
      · exact ⟨r', hr, hc⟩
    · rename_i hany
      rw [mem_updD_erase _ _ _ (h.nd_topics _), h.two_way]
      refine ⟨fun ⟨⟨r', hr⟩, hn⟩ => ⟨r', hr, fun c => hn ⟨(Prod.mk.inj c.2).1, c.1⟩⟩, fun ⟨r', hr, hn⟩ => ⟨⟨r', hr⟩, ?_⟩⟩
      rintro ⟨rfl, rfl⟩
      -- a pair other than the removed one would have kept the key on the list
      exact hany ((h.any_erase_iff _ _ r).2 ⟨r', fun e => hn ⟨rfl, by rw [e]⟩, hr⟩)
  nd_pairs := forall_updD (P := fun _ (l : List (τ × ρ)) => l.Nodup) ((h.nd_pairs k).erase _) fun x _ => h.nd_pairs x
  nd_topics := forall_unlistKey (Q := fun _ l => l.Nodup) h.nd_topics ((h.nd_topics t).erase k)

end TwoWay

end OZ.Reg
