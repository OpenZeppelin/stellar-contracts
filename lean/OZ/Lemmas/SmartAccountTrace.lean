import OZ.Model.SmartAccount
import OZ.Lemmas.Lists
/-
`checkTrace` (the external-call trace the driver compares with the mock contracts' logs) and `doCheckAuth` are two views of
the same evaluation; each part of the trace holds one kind of event, so only the last part contributes enforce events.
-/
namespace OZ.SmartAccount

def isEnforce : Event → Bool
  | .enforce _ _ _ _ => true
  | _ => false

theorem authTrace_snd (O : Oracle) (sigs : List (Signer × Nat)) :
    (authTrace O sigs).2 = (authenticate O sigs).toBool := by
  induction sigs with
  | nil => rfl
  | cons a t ih =>
    obtain ⟨x, g⟩ := a
    unfold authTrace authenticate
    by_cases h : sigOk O x g = true
    · rw [if_pos h, if_pos h]; exact ih
    · rw [if_neg h, if_neg h]; rfl

theorem canTrace_snd (O : Oracle) (ctx : Ctx) (r : Rule) (m : List Signer) (ps : List Nat) :
    (canTrace O ctx r m ps).2 = ps.all (fun p => O.can p ctx m r) := by
  induction ps with
  | nil => rfl
  | cons p t ih =>
    unfold canTrace
    by_cases h : O.can p ctx m r = true
    · rw [if_pos h, List.all_cons, h, Bool.true_and]; exact ih
    · have : O.can p ctx m r = false := by simpa using h
      rw [if_neg h, List.all_cons, this]; rfl

theorem ruleTrace_snd (O : Oracle) (ctx : Ctx) (all : List Signer) (r : Rule) :
    (ruleTrace O ctx all r).2 = ruleMatches O ctx all r := by
  unfold ruleTrace ruleMatches canEnforceAllPolicies
  by_cases h : r.policies.isEmpty = true
  · rw [if_pos h, if_pos h]
  · rw [if_neg h, if_neg h]; exact canTrace_snd O ctx r _ _

theorem rulesTrace_snd (O : Oracle) (ctx : Ctx) (all : List Signer) (rs : List Rule) :
    (rulesTrace O ctx all rs).2 = rs.find? (ruleMatches O ctx all) := by
  induction rs with
  | nil => rfl
  | cons r t ih =>
    unfold rulesTrace
    by_cases h : (ruleTrace O ctx all r).2 = true
    · have h' : ruleMatches O ctx all r = true := by rw [← ruleTrace_snd]; exact h
      rw [if_pos h, List.find?_cons_of_pos h']
    · have h' : ¬ ruleMatches O ctx all r = true := by rw [← ruleTrace_snd]; exact h
      rw [if_neg h, List.find?_cons_of_neg h']; exact ih

theorem authTrace_verify (O : Oracle) (sigs : List (Signer × Nat)) :
    ∀ ev ∈ (authTrace O sigs).1, ∃ v k g, ev = Event.verify v k g := by
  induction sigs with
  | nil => intro ev h; simp [authTrace] at h
  | cons a rest ih =>
    obtain ⟨x, g⟩ := a
    intro ev h
    unfold authTrace at h
    have hs : ∀ ev ∈ sigEvent x g, ∃ v k g, ev = Event.verify v k g := by
      intro ev hev
      cases x with
      | delegated a => simp [sigEvent] at hev
      | external v k => simp only [sigEvent, List.mem_singleton] at hev; exact ⟨v, k, g, hev⟩
    by_cases hok : sigOk O x g = true
    · rw [if_pos hok] at h
      cases List.mem_append.mp h with
      | inl m => exact hs ev m
      | inr m => exact ih ev m
    · rw [if_neg hok] at h; exact hs ev h

theorem canTrace_can (O : Oracle) (c : Ctx) (r : Rule) (mt : List Signer) (ps : List Nat) :
    ∀ ev ∈ (canTrace O c r mt ps).1, ∃ p, ev = Event.can p r c mt := by
  induction ps with
  | nil => intro ev h; simp [canTrace] at h
  | cons p ps ih =>
    intro ev h
    unfold canTrace at h
    by_cases hc : O.can p c mt r = true
    · rw [if_pos hc] at h
      cases List.mem_cons.mp h with
      | inl e => exact ⟨p, e⟩
      | inr m => exact ih ev m
    · rw [if_neg hc] at h
      exact ⟨p, by simpa using h⟩

theorem ruleTrace_can (O : Oracle) (c : Ctx) (all : List Signer) (r : Rule) :
    ∀ ev ∈ (ruleTrace O c all r).1, ∃ p, ev = Event.can p r c (getAuthenticatedSigners r.signers all) := by
  intro ev h
  unfold ruleTrace at h
  by_cases he : r.policies.isEmpty = true
  · rw [if_pos he] at h; simp at h
  · rw [if_neg he] at h; exact canTrace_can O c r _ _ ev h

theorem rulesTrace_can (O : Oracle) (c : Ctx) (all : List Signer) (rs : List Rule) :
    ∀ ev ∈ (rulesTrace O c all rs).1, ∃ r ∈ rs, ∃ p, ev = Event.can p r c (getAuthenticatedSigners r.signers all) := by
  induction rs with
  | nil => intro ev h; simp [rulesTrace] at h
  | cons r rs ih =>
    intro ev h
    unfold rulesTrace at h
    by_cases hm : (ruleTrace O c all r).2 = true
    · rw [if_pos hm] at h
      exact ⟨r, by simp, ruleTrace_can O c all r ev h⟩
    · rw [if_neg hm] at h
      cases List.mem_append.mp h with
      | inl m => exact ⟨r, by simp, ruleTrace_can O c all r ev m⟩
      | inr m =>
        obtain ⟨r', hr', hp⟩ := ih ev m
        exact ⟨r', List.mem_cons_of_mem _ hr', hp⟩

theorem authTrace_noEnforce (O : Oracle) (sigs : List (Signer × Nat)) :
    (authTrace O sigs).1.filter isEnforce = [] :=
  OZ.Lists.filter_all_false _ _ (fun ev hev => by obtain ⟨v, k, g, rfl⟩ := authTrace_verify O sigs ev hev; rfl)

theorem ctxTrace_snd (O : Oracle) (s : Store) (now : Nat) (all : List Signer) (c : Ctx) :
    (ctxTrace O s now all c).2 = (getValidatedContext O s now c all).toOption := by
  unfold ctxTrace getValidatedContext
  cases hv : getValidContextRules s now (typeOf c) with
  | error e => rfl
  | ok rules =>
    dsimp only
    have := rulesTrace_snd O c all rules
    cases hr : (rulesTrace O c all rules).2 with
    | none => rw [hr] at this; rw [← this]; rfl
    | some r => rw [hr] at this; rw [← this]; rfl

theorem ctxTrace_mem (O : Oracle) (s : Store) (now : Nat) (all : List Signer) (c : Ctx) :
    ∀ ev ∈ (ctxTrace O s now all c).1,
      ∃ rules, getValidContextRules s now (typeOf c) = .ok rules ∧ ev ∈ (rulesTrace O c all rules).1 := by
  intro ev h
  unfold ctxTrace at h
  split at h
  · cases h
  · next rules hv => exact ⟨rules, hv, by split at h <;> exact h⟩

theorem ctxsTrace_snd (O : Oracle) (s : Store) (now : Nat) (all : List Signer) (ctxs : List Ctx) :
    (ctxsTrace O s now all ctxs).2 = (validateAll O s now all ctxs).toOption := by
  induction ctxs with
  | nil => rfl
  | cons c t ih =>
    unfold ctxsTrace validateAll
    rw [ctxTrace_snd, ih]
    cases getValidatedContext O s now c all with
    | error e => rfl
    | ok v => cases validateAll O s now all t <;> rfl

theorem ctxsTrace_mem (O : Oracle) (s : Store) (now : Nat) (all : List Signer) (ctxs : List Ctx) :
    ∀ ev ∈ (ctxsTrace O s now all ctxs).1, ∃ c ∈ ctxs, ev ∈ (ctxTrace O s now all c).1 := by
  induction ctxs with
  | nil => intro ev h; cases h
  | cons c t ih =>
    intro ev h
    unfold ctxsTrace at h
    have hboth : ev ∈ (ctxTrace O s now all c).1 ∨ ev ∈ (ctxsTrace O s now all t).1 := by
      split at h
      · exact Or.inl h
      · split at h <;> exact List.mem_append.mp h
    cases hboth with
    | inl m => exact ⟨c, List.mem_cons_self, m⟩
    | inr m =>
      obtain ⟨c', hc', hm⟩ := ih ev m
      exact ⟨c', List.mem_cons_of_mem _ hc', hm⟩

theorem ctxsTrace_noEnforce (O : Oracle) (s : Store) (now : Nat) (all : List Signer) (ctxs : List Ctx) :
    (ctxsTrace O s now all ctxs).1.filter isEnforce = [] :=
  OZ.Lists.filter_all_false _ _ (fun ev hev => by
    obtain ⟨c, -, hm⟩ := ctxsTrace_mem O s now all ctxs ev hev
    obtain ⟨rules, -, hr⟩ := ctxTrace_mem O s now all c ev hm
    obtain ⟨r, -, p, rfl⟩ := rulesTrace_can O c all rules ev hr
    rfl)

theorem enforceTrace_snd (O : Oracle) (hist calls : List EnfCall) :
    (enforceTrace O hist calls).2 = (enforceLoop O hist calls).toBool := by
  induction calls generalizing hist with
  | nil => rfl
  | cons c t ih =>
    unfold enforceTrace enforceLoop
    by_cases h : O.enf hist c = true
    · rw [if_pos h, if_pos h]; exact ih _
    · rw [if_neg h, if_neg h]; rfl

theorem enforceTrace_ok (O : Oracle) (hist calls : List EnfCall) (h : (enforceTrace O hist calls).2 = true) :
    (enforceTrace O hist calls).1 = calls.map enfEvent := by
  induction calls generalizing hist with
  | nil => rfl
  | cons c t ih =>
    unfold enforceTrace at h ⊢
    by_cases hc : O.enf hist c = true
    · rw [if_pos hc] at h ⊢
      show enfEvent c :: (enforceTrace O (hist ++ [c]) t).1 = _
      rw [ih _ h]; rfl
    · rw [if_neg hc] at h; cases h

theorem filter_enfEvents (calls : List EnfCall) : (calls.map enfEvent).filter isEnforce = calls.map enfEvent := by
  induction calls with
  | nil => rfl
  | cons c t ih => simp only [List.map_cons]; rw [List.filter_cons_of_pos (by simp [enfEvent, isEnforce]), ih]

theorem checkTrace_ok {O : Oracle} {s : Store} {now : Nat} {sigs : List (Signer × Nat)} {ctxs : List Ctx}
    {vs : List (Rule × Ctx × List Signer)} (ha : authenticate O sigs = .ok ())
    (hv : validateAll O s now (sigs.map Prod.fst) ctxs = .ok vs) (he : enforceLoop O [] (callsOf vs) = .ok ()) :
    (checkTrace O s now sigs ctxs).1
      = (authTrace O sigs).1 ++ (ctxsTrace O s now (sigs.map Prod.fst) ctxs).1 ++ (callsOf vs).map enfEvent := by
  have hA : (authTrace O sigs).2 = true := by rw [authTrace_snd, ha]; rfl
  have hC : (ctxsTrace O s now (sigs.map Prod.fst) ctxs).2 = some vs := by rw [ctxsTrace_snd, hv]; rfl
  have hE : (enforceTrace O [] (callsOf vs)).2 = true := by rw [enforceTrace_snd, he]; rfl
  unfold checkTrace
  rw [if_pos hA, hC]
  dsimp only
  rw [enforceTrace_ok O [] _ hE]

theorem checkTrace_snd (O : Oracle) (s : Store) (now : Nat) (sigs : List (Signer × Nat)) (ctxs : List Ctx) :
    (checkTrace O s now sigs ctxs).2 = (doCheckAuth O s now sigs ctxs).toBool := by
  unfold checkTrace doCheckAuth finishCheck
  rw [authTrace_snd]
  cases authenticate O sigs with
  | error e => rfl
  | ok u =>
    rw [ctxsTrace_snd]
    cases validateAll O s now (sigs.map Prod.fst) ctxs with
    | error e => rfl
    | ok vs =>
      dsimp only [Except.toBool, Except.toOption]
      rw [enforceTrace_snd]
      cases enforceLoop O [] (callsOf vs) <;> rfl

theorem checkTrace_mem (O : Oracle) (s : Store) (now : Nat) (sigs : List (Signer × Nat)) (ctxs : List Ctx) :
    ∀ ev ∈ (checkTrace O s now sigs ctxs).1,
      ev ∈ (authTrace O sigs).1 ∨ ev ∈ (ctxsTrace O s now (sigs.map Prod.fst) ctxs).1 ∨
      ∃ vs, validateAll O s now (sigs.map Prod.fst) ctxs = .ok vs ∧ ev ∈ (enforceTrace O [] (callsOf vs)).1 := by
  intro ev h
  unfold checkTrace at h
  split at h
  · split at h
    · exact (List.mem_append.mp h).imp_right Or.inl
    · next vs hc =>
      rw [ctxsTrace_snd] at hc
      cases List.mem_append.mp h with
      | inl m => exact (List.mem_append.mp m).imp_right Or.inl
      | inr m =>
        cases hv : validateAll O s now (sigs.map Prod.fst) ctxs with
        | error e => rw [hv] at hc; cases hc
        | ok vs' => rw [hv] at hc; cases hc; exact Or.inr (Or.inr ⟨vs, rfl, m⟩)
  · exact Or.inl h

end OZ.SmartAccount
