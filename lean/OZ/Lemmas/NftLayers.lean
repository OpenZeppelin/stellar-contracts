import OZ.Lemmas.NftBits
/-
Run-level simulation between two instances of the consecutive contract logic: any
implementation `B` of the ownership-bit set (`Impl B g W`) is simulated, call by call, by the
set-level instance on the abstracted state — same accepted calls, same rejected calls, same
return values, related states.
-/
namespace OZ.NftCons
open OZ.Host OZ.Nft

def RelE {α α' : Type} (R : α → α' → Prop) : Except Err α → Except Err α' → Prop
  | .ok a, .ok a' => R a a'
  | .error _, .error _ => True
  | _, _ => False

theorem RelE_bind {α α' γ γ' : Type} {R : α → α' → Prop} {Q : γ → γ' → Prop}
    {x : Except Err α} {x' : Except Err α'} {f : α → Except Err γ} {f' : α' → Except Err γ'}
    (hx : RelE R x x') (hf : ∀ a a', R a a' → RelE Q (f a) (f' a')) : RelE Q (x >>= f) (x' >>= f') := by
  cases x with
  | error e =>
    cases x' with
    | error e' => exact True.intro
    | ok a' => exact hx.elim
  | ok a =>
    cases x' with
    | error e' => exact hx.elim
    | ok a' => exact hf a a' hx

theorem RelE_bind_same {α γ γ' : Type} {Q : γ → γ' → Prop} {x : Except Err α}
    {f : α → Except Err γ} {f' : α → Except Err γ'}
    (hf : ∀ a, x = .ok a → RelE Q (f a) (f' a)) : RelE Q (x >>= f) (x >>= f') := by
  cases x with
  | error e => exact True.intro
  | ok a => exact hf a rfl

theorem RelE_of_eq {α : Type} {x y : Except Err α} (h : x = y) : RelE Eq x y := by
  subst h
  cases x with
  | error e => exact True.intro
  | ok a => exact rfl

section
variable {β : Type} {B : BitOps β} {g : β → Nat → Bool} {W : β → Prop}

structure SR (g : β → Nat → Bool) (W : β → Prop) (s : State β) (s' : SState) : Prop where
  core : s'.toCore = s.toCore
  mark : s'.mark = s.mark
  burned : s'.burned = s.burned
  bits : s'.bits = g s.bits
  wf : W s.bits
  lt : ∀ i, g s.bits i = true → i < s.nextId

theorem SR.nextId {s : State β} {s' : SState} (h : SR g W s s') : s'.nextId = s.nextId := by
  show s'.toCore.nextId = s.toCore.nextId; rw [h.core]

theorem SR.withCore {s : State β} {s' : SState} (h : SR g W s s') (c : Core) (hc : s.nextId ≤ c.nextId) :
    SR g W { s with toCore := c } { s' with toCore := c } :=
  ⟨rfl, h.mark, h.burned, h.bits, h.wf, fun i hi => Nat.lt_of_lt_of_le (h.lt i hi) hc⟩

theorem SR.withMark {s : State β} {s' : SState} (h : SR g W s s') (m : Nat → Option Nat) :
    SR g W { s with mark := m } { s' with mark := m } :=
  ⟨h.core, rfl, h.burned, h.bits, h.wf, h.lt⟩

theorem SR.withMark' {s : State β} {s' : SState} (h : SR g W s s') (i a : Nat) :
    SR g W { s with mark := upd s.mark i (some a) } { s' with mark := upd s'.mark i (some a) } :=
  ⟨h.core, by show upd s'.mark i (some a) = upd s.mark i (some a); rw [h.mark], h.burned, h.bits, h.wf, h.lt⟩

theorem ownerOf_sim (hI : Impl B g W) {s : State β} {s' : SState} (h : SR g W s s') (id : Nat) :
    ownerOf B s id = ownerOf setOps s' id := by
  unfold ownerOf
  rw [h.nextId, h.burned]
  by_cases h0 : s.nextId = 0
  · rw [if_pos h0, if_pos h0]
  · rw [if_neg h0, if_neg h0]
    by_cases h1 : s.burned id = true ∨ id > s.nextId - 1
    · rw [if_pos h1, if_pos h1]
    · rw [if_neg h1, if_neg h1]
      have hlt : id < s.nextId := by
        apply Classical.byContradiction; intro hn; exact h1 (Or.inr (by omega))
      rw [hI.find s.bits id s.nextId h.wf hlt h.lt, h.bits, setOps_impl.find (g s.bits) id s.nextId trivial hlt h.lt]
      cases findFrom (g s.bits) id s.nextId with
      | none => rfl
      | some j =>
        show markOwner s j = markOwner s' j
        unfold markOwner; rw [h.mark]

theorem setOwnership_sim (hI : Impl B g W) {s : State β} {s' : SState} (h : SR g W s s') (id : Nat) :
    RelE (SR g W) (setOwnershipInBucket B s id) (setOwnershipInBucket setOps s' id) := by
  unfold setOwnershipInBucket
  rw [h.nextId]
  by_cases h0 : id ≥ s.nextId
  · rw [if_pos h0, if_pos h0]; exact True.intro
  · rw [if_neg h0, if_neg h0]
    obtain ⟨b', hb', hw', hg'⟩ := hI.set s.bits id h.wf
    rw [hb']
    show SR g W { s with bits := b' } { s' with bits := upd s'.bits id true }
    refine ⟨h.core, h.mark, h.burned, ?_, hw', ?_⟩
    · show upd s'.bits id true = g b'
      rw [h.bits, hg']
    · intro i hi
      rw [hg'] at hi
      by_cases e : i = id
      · subst e; show i < s.nextId; omega
      · rw [upd_other _ _ _ _ e] at hi; exact h.lt i hi

theorem setOwnerForPrev_sim (hI : Impl B g W) {s : State β} {s' : SState} (h : SR g W s s') (f id : Nat) :
    RelE (SR g W) (setOwnerForPreviousToken B s f id) (setOwnerForPreviousToken setOps s' f id) := by
  unfold setOwnerForPreviousToken
  rw [h.nextId, h.mark, h.burned]
  by_cases h0 : id = 0 ∨ id ≥ s.nextId
  · rw [if_pos h0, if_pos h0]; exact h
  · rw [if_neg h0, if_neg h0]
    by_cases h1 : (s.mark (id - 1)).isSome = true
    · rw [if_pos h1, if_pos h1]; exact h
    · rw [if_neg h1, if_neg h1]
      by_cases h2 : s.burned (id - 1) = true
      · rw [if_pos h2, if_pos h2]; exact h
      · rw [if_neg h2, if_neg h2]
        exact setOwnership_sim hI (s := { s with mark := upd s.mark (id - 1) (some f) })
          (s' := { toCore := s'.toCore, mark := upd s.mark (id - 1) (some f), bits := s'.bits, burned := s.burned })
          ⟨h.core, rfl, rfl, h.bits, h.wf, h.lt⟩ (id - 1)

theorem debit_sim (hI : Impl B g W) {s : State β} {s' : SState} (h : SR g W s s') (frm : Option Nat) (id : Nat) :
    RelE (SR g W) (debit B s frm id) (debit setOps s' frm id) := by
  unfold debit
  cases frm with
  | none => exact h
  | some f =>
    simp only
    rw [← ownerOf_sim hI h id, h.core]
    refine RelE_bind_same ?_
    intro o _
    refine RelE_bind_same ?_
    intro _ _
    refine RelE_bind_same ?_
    intro c hc
    obtain ⟨hcc, _⟩ := decreaseBalance_ok hc
    have hn : s.nextId ≤ (clearApproval c id).nextId := by
      subst hcc; exact Nat.le_refl _
    exact setOwnerForPrev_sim hI (h.withCore (clearApproval c id) hn) f id

theorem credit_sim (hI : Impl B g W) {s : State β} {s' : SState} (h : SR g W s s') (to : Option Nat) (id : Nat) :
    RelE (SR g W) (credit B s to id) (credit setOps s' to id) := by
  unfold credit
  cases to with
  | none =>
    show SR g W { s with mark := upd s.mark id none, burned := upd s.burned id true }
      { s' with mark := upd s'.mark id none, burned := upd s'.burned id true }
    exact ⟨h.core, by show upd s'.mark id none = upd s.mark id none; rw [h.mark],
      by show upd s'.burned id true = upd s.burned id true; rw [h.burned], h.bits, h.wf, h.lt⟩
  | some t =>
    simp only
    rw [h.core, h.mark]
    refine RelE_bind_same ?_
    intro c hc
    obtain ⟨hcc, _⟩ := increaseBalance_ok hc
    have hn : s.nextId ≤ c.nextId := by subst hcc; exact Nat.le_refl _
    have h1 := (h.withCore c hn).withMark (upd s.mark id (some t))
    exact setOwnership_sim hI h1 id

theorem update_sim (hI : Impl B g W) {s : State β} {s' : SState} (h : SR g W s s')
    (frm to : Option Nat) (id : Nat) :
    RelE (SR g W) (update B s frm to id) (update setOps s' frm to id) := by
  unfold update
  exact RelE_bind (debit_sim hI h frm id) (fun a a' ha => credit_sim hI ha to id)

theorem batchMint_sim (hI : Impl B g W) {s : State β} {s' : SState} (h : SR g W s s') (to n : Nat) :
    RelE (fun p p' => SR g W p.1 p'.1 ∧ p.2 = p'.2) (batchMint B s to n) (batchMint setOps s' to n) := by
  unfold batchMint
  by_cases h0 : n = 0 ∨ n > MAX_TOKENS_IN_BATCH
  · rw [if_pos h0, if_pos h0]; exact True.intro
  · rw [if_neg h0, if_neg h0, h.core]
    refine RelE_bind_same ?_
    intro p hp
    obtain ⟨c, first⟩ := p
    obtain ⟨hc, _, _⟩ := incrementTokenId_ok hp
    refine RelE_bind_same ?_
    intro c2 hc2
    obtain ⟨hcc2, _⟩ := increaseBalance_ok hc2
    have hn : s.nextId ≤ c2.nextId := by subst hcc2; subst hc; show s.nextId ≤ s.nextId + n; omega
    refine RelE_bind (setOwnership_sim hI (h.withCore c2 hn) (first + n - 1)) ?_
    intro a a' ha
    exact ⟨ha.withMark' (first + n - 1) to, rfl⟩

theorem approve_sim (hI : Impl B g W) (cfg : Cfg) {s : State β} {s' : SState} (h : SR g W s s')
    (auth : List Nat) (ap a id lu : Nat) :
    RelE (SR g W) (approve B cfg s auth ap a id lu) (approve setOps cfg s' auth ap a id lu) := by
  unfold approve
  rw [← ownerOf_sim hI h id, h.core]
  refine RelE_bind_same (fun _ _ => RelE_bind_same (fun o _ => RelE_bind_same ?_))
  intro c hc
  obtain ⟨_, hn⟩ := approveForOwner_fields hc
  exact h.withCore c (by rw [hn]; exact Nat.le_refl _)

theorem apply_sim (hI : Impl B g W) (cfg : Cfg) {s : State β} {s' : SState} (h : SR g W s s')
    (auth : List Nat) (op : Op) :
    RelE (fun p p' => SR g W p.1 p'.1 ∧ p.2 = p'.2) (apply B cfg s auth op) (apply setOps cfg s' auth op) := by
  cases op with
  | mintSeq to | mint to id => exact True.intro
  | batchMint to n =>
    exact RelE_bind (batchMint_sim hI h to n) (fun p p' hp => ⟨hp.1, by rw [hp.2]⟩)
  | transfer f t id | burn f id =>
    exact RelE_bind (RelE_bind_same fun _ _ => update_sim hI h _ _ id) (fun a a' ha => ⟨ha, rfl⟩)
  | transferFrom sp f t id | burnFrom sp f id =>
    refine RelE_bind (RelE_bind_same fun _ _ => ?_) (fun a a' ha => ⟨ha, rfl⟩)
    rw [h.core]
    exact RelE_bind_same fun _ _ => update_sim hI h _ _ id
  | approve ap a id lu => exact RelE_bind (approve_sim hI cfg h auth ap a id lu) (fun a a' ha => ⟨ha, rfl⟩)
  | approveForAll o p lu =>
    show RelE _ (approveForAll cfg s.toCore auth o p lu >>= fun c => pure ({ s with toCore := c }, none))
      (approveForAll cfg s'.toCore auth o p lu >>= fun c => pure ({ s' with toCore := c }, none))
    rw [h.core]
    refine RelE_bind_same ?_
    intro c hc
    obtain ⟨_, hn, _⟩ := approveForAll_fields hc
    exact ⟨h.withCore c (by rw [hn]; exact Nat.le_refl _), rfl⟩
  | advance n =>
    show SR g W { s with toCore := s.toCore.advance n } { s' with toCore := s'.toCore.advance n } ∧ none = none
    rw [h.core]
    exact ⟨h.withCore _ (Nat.le_refl _), rfl⟩

theorem step_sim (hI : Impl B g W) (cfg : Cfg) {s : State β} {s' : SState} (h : SR g W s s')
    (x : List Nat × Op) : SR g W (step B cfg s x) (step setOps cfg s' x) := by
  have := apply_sim hI cfg h x.1 x.2
  unfold step
  cases h1 : apply B cfg s x.1 x.2 with
  | error e =>
    cases h2 : apply setOps cfg s' x.1 x.2 with
    | error e' => exact h
    | ok p' => rw [h1, h2] at this; exact this.elim
  | ok p =>
    cases h2 : apply setOps cfg s' x.1 x.2 with
    | error e' => rw [h1, h2] at this; exact this.elim
    | ok p' => rw [h1, h2] at this; exact this.1

theorem run_sim (hI : Impl B g W) (cfg : Cfg) (ops : List (List Nat × Op)) {s : State β} {s' : SState}
    (h : SR g W s s') : SR g W (run B cfg s ops) (run setOps cfg s' ops) := by
  induction ops generalizing s s' with
  | nil => exact h
  | cons x xs ih => exact ih (step_sim hI cfg h x)

end

end OZ.NftCons
