import OZ.Model.RegMonUtil
import Mathlib.Data.List.Nodup
import Mathlib.Data.List.Perm.Basic
import Std.Data.String.ToNat
/-
Facts about the shared vocabulary of the C20 monitor cores (OZ/Model/RegMonUtil.lean), and the accept / refuse decision
of a monitor set against the model's (`Decides`).
-/
namespace OZ.RegMon
open OZ.Reg

variable {α : Type}

theorem firstFail_nil : firstFail [] = none := rfl

theorem firstFail_none_cons (l : List (Option String)) : firstFail (none :: l) = firstFail l := rfl

theorem firstFail_all_none {l : List (Option String)} (h : ∀ x, x ∈ l → x = none) : firstFail l = none := by
  induction l with
  | nil => rfl
  | cons a as ih =>
    have ha : a = none := h a (List.mem_cons_self ..)
    subst ha
    rw [firstFail_none_cons]
    exact ih (fun x hx => h x (List.mem_cons_of_mem _ hx))

theorem chk_true (msg : String) : chk true msg = none := rfl

theorem chk_of {c : Bool} (h : c = true) (msg : String) : chk c msg = none := by subst h; rfl

theorem chk_decide {p : Prop} [Decidable p] (h : p) (msg : String) : chk (decide p) msg = none := by
  rw [decide_eq_true h]; rfl

theorem decide2_ok {γ : Type} (reg : String) (g g' : γ) (near : String) :
    decide2 reg g (.ok g') true near = (g', none) := rfl

theorem decide2_err {γ : Type} (reg : String) (g : γ) (why near : String) :
    decide2 reg g (.error why) false near = (g, none) := rfl

section
variable [BEq α] [LawfulBEq α]

theorem nodupB_iff (l : List α) : nodupB l = true ↔ l.Nodup := by
  induction l with
  | nil => simp [nodupB]
  | cons x xs ih => simp [nodupB, ih]

theorem sameSet_iff (a b : List α) : sameSet a b = true ↔ ∀ x, x ∈ a ↔ x ∈ b := by
  simp only [sameSet, Bool.and_eq_true, List.all_eq_true, List.contains_iff_mem]
  constructor
  · rintro ⟨h1, h2⟩ x; exact ⟨h1 x, h2 x⟩
  · intro h; exact ⟨fun x hx => (h x).1 hx, fun x hx => (h x).2 hx⟩

theorem sameSet_of_perm {a b : List α} (h : a.Perm b) : sameSet a b = true :=
  (sameSet_iff a b).2 (fun _ => h.mem_iff)

end

theorem perm_of_nodup_mem {a b : List α} (ha : a.Nodup) (hb : b.Nodup) (h : ∀ x, x ∈ a ↔ x ∈ b) :
    a.Perm b := (List.perm_ext_iff_of_nodup ha hb).2 h

theorem length_eq_of_nodup_mem {a b : List α} (ha : a.Nodup) (hb : b.Nodup) (h : ∀ x, x ∈ a ↔ x ∈ b) :
    a.length = b.length :=
  (perm_of_nodup_mem ha hb h).length_eq

theorem foldl_add_eq_sum (f : Nat → Nat) (l : List Nat) (a : Nat) :
    l.foldl (fun h x => h + f x) a = a + (l.map f).sum := by
  induction l generalizing a with
  | nil => rfl
  | cons x xs ih => rw [List.foldl_cons, ih, List.map_cons, List.sum_cons, Nat.add_assoc]

theorem sum1_eq (l : List Nat) : sum1 l = (l.map (· + 1)).sum :=
  (foldl_add_eq_sum _ l 0).trans (Nat.zero_add _)

theorem sumSq_eq (l : List Nat) : sumSq l = (l.map (fun x => (x + 1) * (x + 1))).sum :=
  (foldl_add_eq_sum _ l 0).trans (Nat.zero_add _)

theorem sum1_perm {a b : List Nat} (h : a.Perm b) : sum1 a = sum1 b := by
  rw [sum1_eq, sum1_eq]; exact (h.map _).sum_nat

theorem sumSq_perm {a b : List Nat} (h : a.Perm b) : sumSq a = sumSq b := by
  rw [sumSq_eq, sumSq_eq]; exact (h.map _).sum_nat

/-! printed pairs `a.b` are injective (the monitors compare printed ids) -/

theorem dot_not_mem_repr (n : Nat) : '.' ∉ n.repr.toList := by
  intro h
  rw [Nat.toList_repr] at h
  have := Nat.isDigit_of_mem_toDigits (by decide) (by decide) h
  simp at this

theorem showPair_inj {a b c d : Nat} (h : s!"{a}.{b}" = s!"{c}.{d}") : a = c ∧ b = d := by
  have h' := congrArg String.toList h
  simp only [String.toList_append, toString] at h'
  have e : ".".toList = ['.'] := rfl
  rw [e, List.append_assoc, List.append_assoc] at h'
  obtain ⟨r1, _, r2⟩ := (List.append_cons_inj_of_notMem (dot_not_mem_repr a) (dot_not_mem_repr b)).1 h'
  exact ⟨Nat.repr_injective (String.toList_inj.1 r1), Nat.repr_injective (String.toList_inj.1 r2)⟩

theorem find_graph {β : Type} (l : List Nat) (f : Nat → β) (h : Nat) (hm : h ∈ l) :
    (l.map (fun k => (k, f k))).find? (fun x => x.1 == h) = some (h, f h) := by
  induction l with
  | nil => cases hm
  | cons k ks ih =>
    rw [List.map_cons, List.find?_cons]
    by_cases hk : k = h
    · subst hk; rw [beq_self_eq_true]
    · rw [beq_false_of_ne hk]; exact ih ((List.mem_cons.1 hm).resolve_left (Ne.symm hk))

theorem all_graph {β : Type} (l : List Nat) (f : Nat → β) (p : Nat × β → Bool) (h : ∀ k, k ∈ l → p (k, f k) = true) :
    (l.map (fun k => (k, f k))).all p = true := by
  rw [List.all_eq_true]
  intro x hx
  obtain ⟨k, hk, rfl⟩ := List.mem_map.1 hx
  exact h k hk

theorem find_graph_some {β : Type} (l : List Nat) (f : Nat → β) (i : Nat) (x : Nat × β)
    (h : (l.map (fun k => (k, f k))).find? (fun x => x.1 == i) = some x) : x = (i, f i) := by
  have h1 := List.mem_of_find?_eq_some h
  have h2 : x.1 = i := by simpa using List.find?_some h
  obtain ⟨k, _, rfl⟩ := List.mem_map.1 h1
  simp only at h2
  rw [h2]

theorem find_graphO {κ β : Type} [BEq κ] [LawfulBEq κ] (l : List κ) (f : κ → Option β) (h : κ)
    (hm : (f h).isSome = true → h ∈ l) :
    (l.filterMap (fun k => (f k).map (fun v => (k, v)))).find? (fun x => x.1 == h) = (f h).map (fun v => (h, v)) := by
  induction l with
  | nil =>
    cases hf : f h with
    | none => rfl
    | some v => exact absurd (hm (hf ▸ rfl)) List.not_mem_nil
  | cons k ks ih =>
    by_cases hk : k = h
    · subst hk
      cases hf : f k with
      | none => simpa [hf] using ih (fun h' => by simp [hf] at h')
      | some v => simp [hf]
    · have ih := ih fun h' => (List.mem_cons.1 (hm h')).resolve_left (Ne.symm hk)
      cases hfk : f k with
      | none => simpa [hfk] using ih
      | some w => simpa [hfk, hk] using ih

theorem mem_fibre {κ β : Type} [BEq κ] [LawfulBEq κ] (l : List (κ × β)) (k : κ) (v : β) :
    v ∈ (l.filter (fun p => p.1 == k)).map (·.2) ↔ (k, v) ∈ l := by
  simp only [List.mem_map, List.mem_filter, beq_iff_eq]
  exact ⟨fun ⟨p, ⟨hp, hk⟩, hv⟩ => by rw [← hk, ← hv]; exact hp, fun h => ⟨(k, v), ⟨h, rfl⟩, rfl⟩⟩

theorem nodup_fibre {κ β : Type} [BEq κ] [LawfulBEq κ] {l : List (κ × β)} (h : l.Nodup) (k : κ) :
    ((l.filter (fun p => p.1 == k)).map (·.2)).Nodup := by
  refine List.Nodup.map_on (fun p hp q hq hpq => ?_) (h.filter _)
  rw [List.mem_filter, beq_iff_eq] at hp hq
  exact Prod.ext (hp.2.trans hq.2.symm) hpq

/-! ### the accept / refuse decision

The model's answer `r` to a call and the plain structure's answer `p` to the same call: accepted together, with
successors that stay related. Where both look an entry up, the model's look-up is first rewritten into the plain
structure's, so that one case split serves both and each side computes to its answer (`Decides.refused`,
`Decides.accepted rfl rfl`). -/

section
variable {γ σ : Type} {A : γ → σ → Prop} {r : Except RErr σ} {p : Except String γ}

structure Decides (A : γ → σ → Prop) (r : Except RErr σ) (p : Except String γ) : Prop where
  ok : ∀ s', r = .ok s' → ∃ g', p = .ok g' ∧ A g' s'
  back : ∀ g', p = .ok g' → ∃ s', r = .ok s'

theorem Decides.of_iff {P P' : Prop} {Q : σ → Prop} {G : γ}
    (hr : ∀ s', r = .ok s' ↔ P ∧ Q s') (hp : ∀ g', p = .ok g' ↔ P' ∧ g' = G)
    (hPP : P' ↔ P) (hex : P → ∃ s', Q s') (hA : P → ∀ s', Q s' → A G s') : Decides A r p where
  ok s' h := ⟨G, (hp G).2 ⟨hPP.2 ((hr s').1 h).1, rfl⟩, hA ((hr s').1 h).1 s' ((hr s').1 h).2⟩
  back g' h := (hex (hPP.1 ((hp g').1 h).1)).imp fun s' hq => (hr s').2 ⟨hPP.1 ((hp g').1 h).1, hq⟩

theorem Decides.err (h : Decides A r p) {e : RErr} (hr : r = .error e) : ∃ w, p = .error w := by
  cases hp : p with
  | error w => exact ⟨w, rfl⟩
  | ok g' => obtain ⟨s', hs⟩ := h.back g' hp; rw [hs] at hr; cases hr

theorem Decides.refused {e : RErr} {w : String} : Decides A (.error e) (.error w) :=
  ⟨fun _ h => (nomatch h), fun _ h => (nomatch h)⟩

theorem Decides.accepted {s' : σ} {g' : γ} (hr : r = .ok s') (hp : p = .ok g') (h : A g' s') : Decides A r p :=
  ⟨fun _ e => ⟨g', hp, Except.ok.inj (hr.symm.trans e) ▸ h⟩, fun _ _ => ⟨s', hr⟩⟩

theorem Decides.ite {c c' : Prop} [Decidable c] [Decidable c'] {e : RErr} {w : String} (hc : c' ↔ c)
    (k : ¬ c → Decides A r p) : Decides A (if c then .error e else r) (if c' then .error w else p) := by
  by_cases h : c
  · rw [if_pos h, if_pos (hc.2 h)]; exact .refused
  · rw [if_neg h, if_neg (mt hc.1 h)]; exact k h

/-- `acc` and `s1` stand for the registry's `accepted s op` and `next s op`: each is its own `match` on `step s op`,
so they enter through what they are in the two cases -/
theorem Decides.quiet (h : Decides A r p) {g : γ} {s : σ} (ha : A g s) (reg near : String) {acc : Bool} {s1 : σ}
    (hok : ∀ s', r = .ok s' → acc = true ∧ s1 = s') (herr : ∀ e, r = .error e → acc = false ∧ s1 = s) :
    ∃ g', decide2 reg g p acc near = (g', none) ∧ A g' s1 := by
  cases hr : r with
  | ok s' =>
    obtain ⟨g', hp, ha'⟩ := h.ok s' hr
    obtain ⟨rfl, rfl⟩ := hok s' hr
    exact ⟨g', by rw [hp]; rfl, ha'⟩
  | error e =>
    obtain ⟨w, hp⟩ := h.err hr
    obtain ⟨rfl, rfl⟩ := herr e hr
    exact ⟨g, by rw [hp]; rfl, ha⟩

end

/-- `run` stands for a registry's `monitorRun`, given by its two equations; `check g s o` for its step on the item `o` of
the history -/
theorem run_quiet {γ σ ι : Type} {R : γ → σ → Prop} {check : γ → σ → ι → γ × Option String} {next : σ → ι → σ}
    {run : γ → σ → List ι → Option String} (run_nil : ∀ g s, run g s [] = none)
    (run_cons : ∀ g s o os, (check g s o).2 = none → run g s (o :: os) = run (check g s o).1 (next s o) os) :
    ∀ (os : List ι), (∀ o ∈ os, ∀ g s, R g s → (check g s o).2 = none ∧ R (check g s o).1 (next s o)) →
      ∀ (g : γ) (s : σ), R g s → run g s os = none
  | [], _, g, s, _ => run_nil g s
  | o :: os, step, g, s, h => by
    obtain ⟨h1, h2⟩ := step o (List.mem_cons_self ..) g s h
    rw [run_cons g s o os h1]
    exact run_quiet run_nil run_cons os (fun o' ho' => step o' (List.mem_cons_of_mem _ ho')) _ _ h2

end OZ.RegMon
