import OZ.Lemmas.TimelockController
import OZ.Model.TimelockControllerMon
/-
For the soundness proof of the C09 monitor (OZ/Props/C09Mon.lean): the MODEL side of the driver OZ/Drv/C09.lean on
parsed lines (`MS`, `resolve…`, `modelStep`), the structured content of exactly what `stepLine` / `showState` do and
print; the relation between monitor state and model state (`Agree`) and the reachable-state invariant (`MInv`).
`toG`, `get_set` … `get_defs`, `satU32_eq` repeat OZ/Lemmas/TimelockMon.lean: the two monitors are separate
models, each with its own `Mon`, `G`, `Key`, `satU32`.
-/
namespace OZ.TimelockController.Mon
open OZ.Host OZ.Timelock OZ.TimelockController OZ.Lists

/-! ### the model driver on parsed lines (mirror of `OZ.Drv.C09.stepLine`) -/

/-- the model driver's state (`OZ.Drv.C09.M`) -/
structure MS where
  c : CState
  defs : List Operation

def MAX_TTL : Nat := 6312000

/-- `initM`: the constructor with the label's parameters; the controller's address is 0 -/
def initMS (start min : Nat) (prop exec : List Nat) (admin : Option Nat) : MS :=
  ⟨construct start MAX_TTL 0 min prop exec admin, []⟩

/-- `parseMeta` -/
def resolveMeta (defs : List Operation) (md : MetaM) : Option Meta :=
  (refKey defs md.p).map (fun p => ⟨p, md.s, md.e⟩)

/-- `parseSig` on a descriptor vector: fails if one reference does not resolve -/
def resolveMetas (defs : List Operation) : List MetaM → Option (List Meta)
  | [] => some []
  | md :: rest =>
    match resolveMeta defs md, resolveMetas defs rest with
    | some m, some ms => some (m :: ms)
    | _, _ => none

def resolveSig (defs : List Operation) (sig : Option (List MetaM)) : Option (List Meta) :=
  sig.bind (resolveMetas defs)

/-- `parseCtx` -/
def resolveCtx (defs : List Operation) : CtxM → Option Context
  | .create => some .createContract
  | .defk k => (defs[k]?).map (fun d => .contract d.target d.fn d.args)
  | .call t f a => some (.contract t f a)
  | .bad => none

/-- `parseCtxs`: unreadable contexts are dropped -/
def resolveCtxs (defs : List Operation) (l : List CtxM) : List Context := l.filterMap (resolveCtx defs)

/-- one token of `parseToks` -/
def resolveTok (metas : List Meta) (ctxs : List Context) : AuthM → Option AuthTok
  | .call i => some (.call i)
  | .exec i j =>
    match ctxs[j]?, metas[j]? with
    | some (.contract addr fn args), some m => some (.exec i addr fn args m.pred m.salt)
    | _, _ => none

def resolveToks (metas : List Meta) (ctxs : List Context) (l : List AuthM) : List AuthTok :=
  l.filterMap (resolveTok metas ctxs)

/-- the single context of an invocation of one of the controller's own entry points -/
def ownCtx (x : MS) (c : Call) : List Context := [.contract x.c.self (fnOf c) (argsOf c)]

/-- tokens of a call on one of the controller's own entry points -/
def ownToks (x : MS) (cl : CallLine) : List AuthTok :=
  resolveToks ((resolveSig x.defs cl.sig).getD []) (ownCtx x cl.call) cl.auth

/-- `stepLine`: the entry point and the authorization tokens a call line denotes
(`none`: the driver prints `bad-op`) -/
def resolveCall (x : MS) (cl : CallLine) : Option (Entry × List AuthTok) :=
  match cl.call with
  | .sched k d p => (x.defs[k]?).map (fun op => (.scheduleOp op d p, resolveToks [] [] cl.auth))
  | .cancel r p => (refKey x.defs r).map (fun id => (.cancelOp id p, resolveToks [] [] cl.auth))
  | .exec k ex ok => (x.defs[k]?).map (fun op => (.executeOp op ex (ok = 1), resolveToks [] [] cl.auth))
  | .update d => some (.updateDelay d, ownToks x cl)
  | .grant a r k => some (.grantRole a r k, ownToks x cl)
  | .revoke a r k => some (.revokeRole a r k, ownToks x cl)
  | .renrole r k => some (.renounceRole r k, ownToks x cl)
  | .setradm r ar => some (.setRoleAdmin r ar, ownToks x cl)
  | .transfer a lu => some (.transferAdmin a lu, ownToks x cl)
  | .renounce => some (.renounceAdmin, ownToks x cl)
  | .accept => some (.acceptAdmin, resolveToks [] [] cl.auth)
  | .check metas ctxs =>
    some (.checkAuth ((resolveMetas x.defs metas).getD []) (resolveCtxs x.defs ctxs),
          resolveToks ((resolveMetas x.defs metas).getD []) (resolveCtxs x.defs ctxs) cl.auth)
  | .advance n => some (.advance n, [])
  | .other _ => none

def modelCall (x : MS) (cl : CallLine) (e : Entry) (auth : List AuthTok) : MS × Obs :=
  match applyE x.c auth (resolveSig x.defs cl.sig) e with
  | .ok c' => (⟨c', x.defs⟩, modelObs c' x.defs true none)
  | .error _ => (x, modelObs x.c x.defs false none)

def modelDef (x : MS) (op : Operation) : MS × Obs :=
  (⟨x.c, x.defs ++ [op]⟩, modelObs x.c (x.defs ++ [op]) true (some (sameTuples x.defs op)))

/-- one line through the model driver: new state and the observation it prints
(`none`: it prints `bad-op`, there is no observation) -/
def modelStep (x : MS) : Line → Option (MS × Obs)
  | .badDef => none
  | .defn t f args p s => (refKey x.defs p).map (fun pid => modelDef x ⟨t, f, args, pid, s⟩)
  | .call cl => (resolveCall x cl).map (fun ea => modelCall x cl ea.1 ea.2)

/-! ### agreement and invariant -/

/-- the monitor's reading of the model's ghost log -/
def toG : Ghost → G
  | .unset => .unset
  | .pending l d _ => .pending l d
  | .done => .done

/-- the reachable-state invariant of the model driver: the C08 timelock invariant, C06's storage
invariant, the controller's address is 0, and every id the log knows about is a defined operation -/
structure MInv (x : MS) : Prop where
  tl : Inv x.c.tl
  ac : OZ.Access.Inv x.c.ac
  self : x.c.self = 0
  known : ∀ id, ghost x.c.tl.log id ≠ .unset → id ∈ x.defs.map Operation.id

/-- monitor state and model-driver state describe the same point of a history -/
structure Agree (m : Mon) (x : MS) : Prop where
  defs : m.defs = x.defs
  ghost : ∀ id, m.get (some id) = toG (ghost x.c.tl.log id)
  prev : ∀ p, m.prev = some p → ∃ ok eq, p = modelObs x.c x.defs ok eq
  first : m.prev = none → x.defs = [] ∧ ∀ r, OZ.Access.getRoleAdmin x.c.ac r = none

theorem grantOrKeep_roleAdmin (s : AC) (a r c : Nat) : (grantOrKeep s a r c).roleAdmin = s.roleAdmin := by
  unfold grantOrKeep
  cases h : OZ.Access.grantRoleNoAuth s a r c with
  | error _ => rfl
  | ok s' => exact (OZ.Access.grantRoleNoAuth_rest h).1

theorem foldl_roleAdmin {α : Type} (f : AC → α → AC) (hf : ∀ s x, (f s x).roleAdmin = s.roleAdmin) (l : List α) (s : AC) :
    (l.foldl f s).roleAdmin = s.roleAdmin :=
  OZ.Lists.foldl_inv (P := fun t => t.roleAdmin = s.roleAdmin) (fun t x ht => (hf t x).trans ht) l s rfl

theorem construct_roleAdmin_none (now maxTtl self minDelay : Nat) (ps es : List Nat) (admin : Option Nat) (r : Nat) :
    OZ.Access.getRoleAdmin (construct now maxTtl self minDelay ps es admin).ac r = none := by
  unfold OZ.Access.getRoleAdmin construct
  simp only
  rw [foldl_roleAdmin _ (fun s x => grantOrKeep_roleAdmin s x _ _),
    foldl_roleAdmin _ (fun s x => by rw [grantOrKeep_roleAdmin, grantOrKeep_roleAdmin])]
  rfl

/-! ### the monitor's table -/

theorem get_set (m : Mon) (k k' : Key) (g : G) :
    (m.set k g).get k' = if k = k' then g else m.get k' := by
  unfold Mon.get Mon.set
  by_cases h : k = k'
  · simp [h]
  · simp [h]

theorem get_set_log {m : Mon} {log : List Ev} (hm : ∀ id, m.get (some id) = toG (Timelock.ghost log id))
    (e : Ev) {g : G} (hg : toG (Timelock.ghost [e] e.id) = g) (id : Id) :
    (m.set (some e.id) g).get (some id) = toG (Timelock.ghost (e :: log) id) := by
  rw [get_set, ghost_cons]
  by_cases h : e.id = id
  · subst h; rw [if_pos rfl, if_pos rfl, hg]
  · rw [if_neg (fun h' => h (Option.some.inj h')), if_neg h]; exact hm id

theorem get_prev (m : Mon) (p : Option Obs) (k : Key) : ({ m with prev := p } : Mon).get k = m.get k := rfl

theorem get_defs (m : Mon) (d : List Operation) (k : Key) : ({ m with defs := d } : Mon).get k = m.get k := rfl

theorem set_defs (m : Mon) (k : Key) (g : G) : (m.set k g).defs = m.defs := rfl

theorem markDone_defs (m : Mon) (ids : List Id) : (markDone m ids).defs = m.defs := by
  unfold markDone
  induction ids generalizing m with
  | nil => rfl
  | cons a t ih => rw [List.foldl_cons, ih]; rfl

theorem get_markDone (m : Mon) (ids : List Id) (id : Id) :
    (markDone m ids).get (some id) = if id ∈ ids then .done else m.get (some id) := by
  unfold markDone
  induction ids generalizing m with
  | nil => simp
  | cons a t ih =>
    rw [List.foldl_cons, ih, get_set]
    by_cases h1 : id ∈ t
    · rw [if_pos h1, if_pos (List.mem_cons_of_mem _ h1)]
    · rw [if_neg h1]
      by_cases h2 : a = id
      · subst h2; simp
      · rw [if_neg (by simpa using h2), if_neg (by simp [h1]; exact fun e => h2 e.symm)]

/-! ### state letters, and the pair the ghost log prescribes -/

theorem codeOf_ne_X (s : OpState) : codeOf s ≠ "X" := by cases s <;> decide
theorem codeOf_D {s : OpState} : codeOf s = "D" ↔ s = .done := by cases s <;> simp [codeOf]
theorem codeOf_R {s : OpState} : codeOf s = "R" ↔ s = .ready := by cases s <;> simp [codeOf]
theorem codeOf_W {s : OpState} : codeOf s = "W" ↔ s = .waiting := by cases s <;> simp [codeOf]

theorem satU32_eq (a b : Nat) : satU32 a b = satAdd a b := rfl

theorem elapsedM_iff (l d now : Nat) : elapsedM l d now = true ↔ elapsed l d now := by
  unfold elapsedM elapsed U32_MAX
  simp

theorem expectedSt_toG {s : Timelock.State} (hi : Inv s) (id : Id) :
    expectedSt (toG (Timelock.ghost s.log id)) s.now =
      (codeOf (getOperationState s id), getOperationLedger s id) := by
  unfold getOperationState getOperationLedger
  rw [(hi.coh id).stateOf_eq hi.nowHi, (hi.coh id).ledger_eq]
  cases Timelock.ghost s.log id with
  | unset => rfl
  | done => rfl
  | pending l d mn =>
    show expectedSt (.pending l d) s.now =
      (codeOf (if elapsed l d s.now then .ready else .waiting), satAdd l d)
    unfold expectedSt
    simp only
    by_cases he : elapsed l d s.now
    · rw [if_pos he, if_pos ((elapsedM_iff l d s.now).mpr he)]; rfl
    · rw [if_neg he, if_neg (fun h => he ((elapsedM_iff l d s.now).mp h))]; rfl

/-! ### observation fields of the model -/

theorem modelSt_length (c : CState) (defs : List Operation) : (modelSt c defs).length = defs.length := by
  unfold modelSt; simp

theorem modelSt_get (c : CState) (defs : List Operation) (k : Nat) :
    (modelSt c defs)[k]? = (defs[k]?).map (fun d => (codeOf (getOperationState c.tl d.id), getOperationLedger c.tl d.id)) := by
  unfold modelSt; simp

theorem stCode_model (c : CState) (defs : List Operation) (ok : Bool) (eq : Option (List Nat)) (k : Nat) :
    stCode (modelObs c defs ok eq) k =
      match defs[k]? with
      | some d => codeOf (getOperationState c.tl d.id)
      | none => "?" := by
  unfold stCode
  show (match (modelSt c defs)[k]? with | some (c, _) => c | none => "?") = _
  rw [modelSt_get]
  cases defs[k]? <;> rfl

theorem stCode_model_some (c : CState) (defs : List Operation) (ok : Bool) (eq : Option (List Nat)) (k : Nat)
    (d : Operation) (h : defs[k]? = some d) :
    stCode (modelObs c defs ok eq) k = codeOf (getOperationState c.tl d.id) := by
  rw [stCode_model, h]

/-! ### the state check and the end of a step -/

theorem stateBad_none (m : Mon) (c : CState) (defs : List Operation) (ok : Bool) (eq : Option (List Nat))
    (hi : Inv c.tl) (hd : m.defs = defs) (hg : ∀ id, m.get (some id) = toG (Timelock.ghost c.tl.log id)) (k : Nat) :
    stateBad m (modelObs c defs ok eq) k = none := by
  unfold stateBad
  rw [hd]
  show (match defs[k]?, (modelSt c defs)[k]? with
    | some d, some (c', l) => _
    | _, _ => none) = none
  rw [modelSt_get]
  cases hk : defs[k]? with
  | none => rfl
  | some d =>
    simp only [Option.map_some]
    rw [if_neg (codeOf_ne_X _), if_neg]
    rw [hg]
    intro h
    exact h (expectedSt_toG hi d.id)

theorem checkStates_quiet (m : Mon) (c : CState) (defs : List Operation) (ok : Bool) (eq : Option (List Nat))
    (hi : Inv c.tl) (hd : m.defs = defs) (hg : ∀ id, m.get (some id) = toG (Timelock.ghost c.tl.log id)) :
    checkStates m (modelObs c defs ok eq) = none := by
  unfold checkStates
  have : (List.range (modelObs c defs ok eq).st.length).filterMap (stateBad m (modelObs c defs ok eq)) = [] := by
    rw [List.filterMap_eq_nil_iff]
    intro k _
    exact stateBad_none m c defs ok eq hi hd hg k
  rw [this]; rfl

theorem finDef_sound (m' : Mon) (x' : MS) (ok : Bool) (eq : Option (List Nat)) (f : Option String)
    (hf : f = none) (hi' : Inv x'.c.tl) (hd : m'.defs = x'.defs)
    (hg : ∀ id, m'.get (some id) = toG (Timelock.ghost x'.c.tl.log id)) :
    (finDef (modelObs x'.c x'.defs ok eq) m' f).2 = none ∧ Agree (finDef (modelObs x'.c x'.defs ok eq) m' f).1 x' := by
  subst hf
  constructor
  · show firstSome none (checkStates m' _) = none
    exact checkStates_quiet m' x'.c x'.defs ok eq hi' hd hg
  · exact ⟨hd, fun id => by rw [← hg id]; rfl, fun p hp => by
      injection hp with hp; exact ⟨ok, eq, hp.symm⟩, fun h => by cases h⟩

theorem fin_sound (cl : CallLine) (pa : Option Nat) (m : Mon) (x' : MS) (ok : Bool) (f : Option String)
    (hf : f = none) (hi' : Inv x'.c.tl)
    (hd : (ghostAfter m cl (modelObs x'.c x'.defs ok none) pa).defs = x'.defs)
    (hg : ∀ id, (ghostAfter m cl (modelObs x'.c x'.defs ok none) pa).get (some id) =
      toG (Timelock.ghost x'.c.tl.log id)) :
    (fin cl pa (modelObs x'.c x'.defs ok none) m f).2 = none ∧
    Agree (fin cl pa (modelObs x'.c x'.defs ok none) m f).1 x' :=
  finDef_sound _ x' ok none f hf hi' hd hg

theorem findDef_some {defs : List Operation} {id : Id} {k : Nat} (h : findDef defs (some id) = some k) :
    (defs[k]?).map Operation.id = some id := by
  unfold findDef at h
  have := List.find?_some h
  simpa using this

theorem findDef_of_mem {defs : List Operation} {id : Id} (h : id ∈ defs.map Operation.id) :
    ∃ k, findDef defs (some id) = some k := by
  show ∃ k, (List.range defs.length).find? (fun k => decide ((defs[k]?).map Operation.id = some id)) = some k
  cases hf : (List.range defs.length).find? (fun k => decide ((defs[k]?).map Operation.id = some id)) with
  | some k => exact ⟨k, rfl⟩
  | none =>
    exfalso
    rw [List.find?_eq_none] at hf
    obtain ⟨d, hd, he⟩ := List.mem_map.mp h
    obtain ⟨k, hk, hdk⟩ := List.getElem_of_mem hd
    apply hf k (List.mem_range.mpr hk)
    simp [List.getElem?_eq_getElem hk, hdk, he]

/-! ### resolution of descriptors, contexts and tokens -/

theorem resolveMetas_map {defs : List Operation} {l : List MetaM} {ms : List Meta}
    (h : resolveMetas defs l = some ms) : l.map (resolveMeta defs) = ms.map some := by
  induction l generalizing ms with
  | nil => injection h with h; subst h; rfl
  | cons md rest ih =>
    unfold resolveMetas at h
    cases h1 : resolveMeta defs md with
    | none => rw [h1] at h; cases h
    | some m =>
      cases h2 : resolveMetas defs rest with
      | none => rw [h1, h2] at h; cases h
      | some ms' =>
        rw [h1, h2] at h
        injection h with h; subst h
        simp [h1, ih h2]

theorem mem_resolveToks_call {metas : List Meta} {ctxs : List Context} {l : List AuthM} {a : Nat} :
    AuthTok.call a ∈ resolveToks metas ctxs l ↔ AuthM.call a ∈ l := by
  unfold resolveToks
  rw [List.mem_filterMap]
  constructor
  · rintro ⟨t, ht, he⟩
    cases t with
    | call i =>
      simp only [resolveTok, Option.some.injEq, AuthTok.call.injEq] at he
      subst he; exact ht
    | exec i j =>
      simp only [resolveTok] at he
      split at he
      · injection he with he; cases he
      · cases he
  · intro h
    exact ⟨.call a, h, rfl⟩

theorem mem_resolveToks_exec {metas : List Meta} {ctxs : List Context} {l : List AuthM}
    {ex addr fn : Nat} {args : List Nat} {pred : Id} {salt : Nat}
    (h : AuthTok.exec ex addr fn args pred salt ∈ resolveToks metas ctxs l) :
    ∃ j m, AuthM.exec ex j ∈ l ∧ ctxs[j]? = some (.contract addr fn args) ∧ metas[j]? = some m ∧
      m.pred = pred ∧ m.salt = salt := by
  unfold resolveToks at h
  rw [List.mem_filterMap] at h
  obtain ⟨t, ht, he⟩ := h
  cases t with
  | call i => simp [resolveTok] at he
  | exec i j =>
    simp only [resolveTok] at he
    split at he
    · rename_i a f ar m hc hm
      injection he with he
      injection he with e1 e2 e3 e4 e5 e6
      subst e1 e2 e3 e4
      exact ⟨j, m, ht, hc, hm, e5, e6⟩
    · cases he

end OZ.TimelockController.Mon
