import OZ.Props.C01
import OZ.Lemmas.VotesTokens
namespace OZ.C01Flavours
open OZ.Host OZ.Fungible

theorem votes_base_sim (c : Cfg) (tok tok' : Fungible.State) (auth : List Nat)
    (op : OZ.FungibleVotes.Op) (a : OZ.Votes.Act) (h : OZ.FungibleVotes.base c tok auth op = .ok (tok', a)) :
    (∃ o, op.tokOp = some o ∧ Fungible.apply c tok auth o = .ok tok') ∨ (op.tokOp = none ∧ tok' = tok) := by
  cases op
  case delegate x d => cases h; exact .inr ⟨rfl, rfl⟩
  case advance n => cases h; exact .inl ⟨_, rfl, rfl⟩
  -- the token entry points: `base` is the `Base` call paired with the votes action
  all_goals exact .inl ⟨_, rfl, (map_pair_ok h).1⟩

theorem mint_init {U : List Nat} (hn : U.Nodup) (now a : Nat) (x : Int) (t : Fungible.State)
    (ha : a ∈ U) (h : Fungible.mint (Fungible.init now) a x = .ok t) :
    Inv U t ∧ replay t.events = t.bal := by
  have h' : Fungible.apply ⟨1, 1⟩ (Fungible.init now) [] (.mint a x) = .ok t := h
  exact ⟨(apply_inv hn ⟨1, 1⟩ (init_inv U now) [] _ (by intro b hb; simp [Op.addrs] at hb; subst hb; exact ha) h').1,
    apply_replay ⟨1, 1⟩ [] _ (by simp [Fungible.init, replay]) h'⟩

end OZ.C01Flavours
