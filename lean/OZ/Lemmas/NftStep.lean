import OZ.Lemmas.NftAuth
import OZ.Lemmas.NftEnumerable
import OZ.Lemmas.NftConsecutive
import OZ.Lemmas.Lists
/-
What an accepted call checked (`Checked`) and did to the shared core (`CoreStep`), said once for
all flavours over the flavour's view `own` of `owner_of`. The base and the consecutive flavour each
prove one theorem `apply_did` (an accepted call of the enumerable flavour is the base one,
`apply_base`); who authorized a move, that a move deletes the token's approval, that only `approve`
writes an approval entry, and their run-level forms are then facts about `Checked` / `CoreStep`,
not about a flavour.
-/
namespace OZ.NftMon
open OZ.Host OZ.Nft

def CoreStep (cfg : Cfg) (own : Nat → Option Nat) (c c' : Core) (auth : List Nat) : Op → Prop
  | .mintSeq to => MintStep c c' to 1
  | .mint to _ => MintStep c c' to 1
  | .batchMint to n => MintStep c c' to n
  | .transfer f t id => MoveStep c c' f (some t) id
  | .transferFrom _ f t id => MoveStep c c' f (some t) id
  | .burn f id => MoveStep c c' f none id
  | .burnFrom _ f id => MoveStep c c' f none id
  | .approve ap a id lu => ∃ o, own id = some o ∧ approveForOwner cfg c o ap a id lu = .ok c'
  | .approveForAll o p lu => approveForAll cfg c auth o p lu = .ok c'
  | .advance n => c' = c.advance n

/-- the checks an accepted call has passed that `CoreStep` does not record: the token a transfer
or burn names belongs to `from`, the caller authorized and (a spender) was entitled; the approver
of an `approve` authorized -/
def Checked (own : Nat → Option Nat) (c : Core) (auth : List Nat) : Op → Prop
  | .transfer f _ id => own id = some f ∧ f ∈ auth
  | .burn f id => own id = some f ∧ f ∈ auth
  | .transferFrom sp f _ id => own id = some f ∧ sp ∈ auth ∧
      (sp = f ∨ getApproved c id = some sp ∨ isApprovedForAll c f sp = true)
  | .burnFrom sp f id => own id = some f ∧ sp ∈ auth ∧
      (sp = f ∨ getApproved c id = some sp ∨ isApprovedForAll c f sp = true)
  | .approve ap _ _ _ => ap ∈ auth
  | _ => True

section
variable {cfg : Cfg} {own : Nat → Option Nat} {c c' : Core} {auth : List Nat} {op : Op}

theorem Checked.moves (h : Checked own c auth op) {f id : Nat} (hm : op.moves = some (f, id)) :
    own id = some f ∧ Justified c auth f id op := by
  cases op <;> cases hm <;> exact h

theorem CoreStep.moves (h : CoreStep cfg own c c' auth op) {f id : Nat} (hm : op.moves = some (f, id)) :
    ∃ to, MoveStep c c' f to id := by
  cases op <;> cases hm <;> exact ⟨_, h⟩

theorem CoreStep.clears (h : CoreStep cfg own c c' auth op) {f id : Nat} (hm : op.moves = some (f, id)) :
    c'.approval id = none ∧ getApproved c' id = none := by
  obtain ⟨_, _, ha, _⟩ := h.moves hm
  have : c'.approval id = none := by rw [ha]; exact upd_same _ _ _
  exact ⟨this, getApproved_none_of_entry_none this⟩

theorem CoreStep.approve {ap a id lu : Nat} (h : CoreStep cfg own c c' auth (.approve ap a id lu)) :
    ∃ o, own id = some o ∧ (ap = o ∨ isApprovedForAll c o ap = true) :=
  let ⟨o, ho, hc⟩ := h; ⟨o, ho, (approveForOwner_eq_ok_iff.mp hc).1⟩

theorem CoreStep.grant {o p lu : Nat} (h : CoreStep cfg own c c' auth (.approveForAll o p lu)) : o ∈ auth :=
  (approveForAll_eq_ok_iff.mp h).1

theorem CoreStep.approval_none (h : CoreStep cfg own c c' auth op) {id : Nat} (hn : c.approval id = none)
    (hop : op.approves id = false) : c'.approval id = none := by
  have keep : ∀ id' v, id' ≠ id ∨ v = none → upd c.approval id' v id = none := by
    intro id' v hv
    by_cases e : id = id'
    · subst e; rw [upd_same]; exact hv.resolve_left (fun h => h rfl)
    · rw [upd_other _ _ _ _ e]; exact hn
  cases op with
  | mintSeq to | mint to i | batchMint to n => rw [h.2.1]; exact hn
  | transfer f t i | transferFrom sp f t i | burn f i | burnFrom sp f i =>
    rw [h.2.1]; exact keep i none (Or.inr rfl)
  | approve ap a i lu =>
    have hne : i ≠ id := by intro e; subst e; simp [Op.approves] at hop
    obtain ⟨o, _, hc⟩ := h
    obtain ⟨_, _, rfl⟩ := approveForOwner_eq_ok_iff.mp hc
    exact keep i _ (Or.inl hne)
  | approveForAll o p lu => rw [(approveForAll_fields h).2.2.1]; exact hn
  | advance n => rw [h]; exact hn

end

theorem operator_of_justified {c : Core} {auth : List Nat} {op : Op} {f id sp : Nat}
    (hj : Justified c auth f id op) (hsp : op.spender = some sp) (h1 : sp ≠ f)
    (h2 : getApproved c id ≠ some sp) : isApprovedForAll c f sp = true := by
  unfold Justified at hj
  rw [hsp] at hj
  exact (hj.2.resolve_left h1).resolve_left h2

end OZ.NftMon

namespace OZ.Nft
open OZ.Host OZ.NftMon

theorem update_from_did {s s' : State} {f id : Nat} {to : Option Nat} (h : update s (some f) to id = .ok s') :
    s.owner id = some f ∧ MoveStep s.toCore s'.toCore f to id := by
  obtain ⟨ho, _, _, rfl⟩ := update_from_eq_ok_iff.mp h
  exact ⟨ho, rfl, rfl, rfl, rfl⟩

theorem update_mint_did {s s' : State} {to id : Nat} (h : update s none (some to) id = .ok s') :
    MintStep s.toCore s'.toCore to 1 := by
  obtain ⟨_, rfl⟩ := update_mint_eq_ok_iff.mp h
  exact ⟨rfl, rfl, rfl, rfl⟩

theorem apply_did (cfg : Cfg) {s s' : State} {auth : List Nat} {op : Op} {r : Option Nat}
    (h : apply cfg s auth op = .ok (s', r)) :
    Checked s.owner s.toCore auth op ∧ CoreStep cfg s.owner s.toCore s'.toCore auth op := by
  have hr := apply_ran h
  cases op with
  | batchMint to n => exact hr.elim
  | mintSeq to => exact ⟨trivial, (update_mint_did hr.2 :)⟩
  | mint to id => exact ⟨trivial, update_mint_did hr.2⟩
  | transfer f t id | burn f id =>
    obtain ⟨_, hu, ha⟩ := hr
    exact ⟨⟨(update_from_did hu).1, ha⟩, (update_from_did hu).2⟩
  | transferFrom sp f t id | burnFrom sp f id =>
    obtain ⟨_, hu, ha, hck⟩ := hr
    exact ⟨⟨(update_from_did hu).1, ha, checkSpender_ok hck⟩, (update_from_did hu).2⟩
  | approve ap a id lu => obtain ⟨_, ha, o, c, ho, hc, rfl⟩ := hr; exact ⟨ha, o, ho, hc⟩
  | approveForAll o p lu => obtain ⟨_, c, hc, rfl⟩ := hr; exact ⟨trivial, hc⟩
  | advance n => obtain ⟨_, rfl⟩ := hr; exact ⟨trivial, rfl⟩

/-- `step` rolls a refused call back -/
theorem step_keeps (cfg : Cfg) {P : State → Prop} {s : State} {x : List Nat × Op} (hs : P s)
    (h : ∀ s' r, apply cfg s x.1 x.2 = .ok (s', r) → P s') : P (step cfg s x) := by
  unfold step
  cases ha : apply cfg s x.1 x.2 with
  | error e => exact hs
  | ok p => exact h p.1 p.2 ha

theorem run_approval_none (cfg : Cfg) (ops : List (List Nat × Op)) (s : State) (id : Nat)
    (hn : s.approval id = none) (hx : ∀ x ∈ ops, x.2.approves id = false) :
    (run cfg s ops).approval id = none :=
  OZ.Lists.foldl_keeps (P := fun s => s.approval id = none) (fun _ _ hs hq =>
    step_keeps cfg hs fun _ _ h => (apply_did cfg h).2.approval_none hs hq) ops s hn hx

end OZ.Nft

namespace OZ.NftEnum
open OZ.Host OZ.Nft

theorem step_keeps (cfg : Cfg) {P : State → Prop} {s : State} {x : List Nat × Op} (hs : P s)
    (h : ∀ s' r, apply cfg s x.1 x.2 = .ok (s', r) → P s') : P (step cfg s x) := by
  unfold step
  cases ha : apply cfg s x.1 x.2 with
  | error e => exact hs
  | ok p => exact h p.1 p.2 ha

theorem run_approval_none (cfg : Cfg) (ops : List (List Nat × Op)) (s : State) (id : Nat)
    (hn : s.approval id = none) (hx : ∀ x ∈ ops, x.2.approves id = false) :
    (run cfg s ops).approval id = none :=
  OZ.Lists.foldl_keeps (P := fun s => s.approval id = none) (fun _ _ hs hq =>
    step_keeps cfg hs fun _ _ h => (Nft.apply_did cfg (apply_base cfg h)).2.approval_none hs hq) ops s hn hx

end OZ.NftEnum

namespace OZ.NftCons
open OZ.Host OZ.Nft OZ.NftMon

section
variable {β : Type} (B : BitOps β)

theorem update_from_did {s s' : State β} {f id : Nat} {to : Option Nat}
    (h : update B s (some f) to id = .ok s') :
    ownerOf B s id = .ok f ∧ MoveStep s.toCore s'.toCore f to id := by
  obtain ⟨ho, _, hc⟩ := update_from_core_eq B h
  rw [hc]; exact ⟨ho, rfl, rfl, rfl, rfl⟩

theorem apply_did (cfg : Cfg) {s s' : State β} {auth : List Nat} {op : Op} {r : Option Nat}
    (h : apply B cfg s auth op = .ok (s', r)) :
    Checked (fun id => (ownerOf B s id).toOption) s.toCore auth op ∧
    CoreStep cfg (fun id => (ownerOf B s id).toOption) s.toCore s'.toCore auth op := by
  have hr := apply_ran h
  cases op with
  | mintSeq to | mint to id => exact hr.elim
  | batchMint to n => obtain ⟨last, _, h1⟩ := hr; exact ⟨trivial, (batchMint_did B h1).2.1⟩
  | transfer f t id | burn f id =>
    obtain ⟨_, hu, ha⟩ := hr
    exact ⟨⟨toOption_eq_some.mpr (update_from_did B hu).1, ha⟩, (update_from_did B hu).2⟩
  | transferFrom sp f t id | burnFrom sp f id =>
    obtain ⟨_, hu, ha, hck⟩ := hr
    exact ⟨⟨toOption_eq_some.mpr (update_from_did B hu).1, ha, checkSpender_ok hck⟩, (update_from_did B hu).2⟩
  | approve ap a id lu =>
    obtain ⟨_, ha, o, c, ho, hc, rfl⟩ := hr; exact ⟨ha, o, toOption_eq_some.mpr ho, hc⟩
  | approveForAll o p lu => obtain ⟨_, c, hc, rfl⟩ := hr; exact ⟨trivial, hc⟩
  | advance n => obtain ⟨_, rfl⟩ := hr; exact ⟨trivial, rfl⟩

theorem step_keeps (cfg : Cfg) {P : State β → Prop} {s : State β} {x : List Nat × Op} (hs : P s)
    (h : ∀ s' r, apply B cfg s x.1 x.2 = .ok (s', r) → P s') : P (step B cfg s x) := by
  unfold step
  cases ha : apply B cfg s x.1 x.2 with
  | error e => exact hs
  | ok p => exact h p.1 p.2 ha

theorem run_approval_none (cfg : Cfg) (ops : List (List Nat × Op)) (s : State β) (id : Nat)
    (hn : s.approval id = none) (hx : ∀ x ∈ ops, x.2.approves id = false) :
    (run B cfg s ops).approval id = none :=
  OZ.Lists.foldl_keeps (P := fun s => s.approval id = none) (fun _ _ hs hq =>
    step_keeps B cfg hs fun _ _ h => (apply_did B cfg h).2.approval_none hs hq) ops s hn hx

end
end OZ.NftCons
