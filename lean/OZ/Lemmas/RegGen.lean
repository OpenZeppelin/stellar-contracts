import OZ.Model.RustSem
/-
Generated registry code beside the guards of OZ/Lemmas/Comp.lean: the translated `position` + `remove` is
`List.erase`; the writers store a vector by deleting the entry when it is empty.
-/
namespace OZ.RegGen

section
variable {α : Type} [DecidableEq α]

/-- `iter().position(|y| y == x)` -/
theorem position_eq_none_iff {l : List α} {x : α} :
    List.findIdx? (fun y => decide (y = x)) l = none ↔ x ∉ l :=
  List.findIdx?_eq_none_iff.trans
    ⟨fun h hm => of_decide_eq_false (h x hm) rfl, fun hm _ hy => decide_eq_false fun e => hm (e ▸ hy)⟩

variable [BEq α] [LawfulBEq α]

theorem eraseIdx_of_findIdx?_eq_some {l : List α} {x : α} {i : Nat}
    (h : List.findIdx? (fun y => decide (y = x)) l = some i) :
    l.eraseIdx i = l.erase x ∧ i < l.length ∧ x ∈ l := by
  induction l generalizing i with
  | nil => cases h
  | cons a r ih =>
    rw [List.findIdx?_cons] at h
    by_cases ha : a = x
    · rw [if_pos (decide_eq_true ha)] at h
      cases h; subst ha
      exact ⟨by rw [List.eraseIdx_cons_zero, List.erase_cons_head], Nat.succ_pos _, List.mem_cons_self⟩
    · rw [if_neg (by simpa using ha)] at h
      obtain ⟨j, hj, rfl⟩ := Option.map_eq_some_iff.1 h
      obtain ⟨h1, h2, h3⟩ := ih hj
      exact ⟨by rw [List.eraseIdx_cons_succ, h1, List.erase_cons_tail (by simpa using ha)],
        Nat.succ_lt_succ h2, List.mem_cons_of_mem _ h3⟩

/-- `remove(pos as u32)`: in a list of at most `M` entries the cast (`% M`) loses nothing -/
theorem position_of_mem {l : List α} {x : α} {M : Nat} (hm : x ∈ l) (hl : l.length ≤ M) :
    ∃ p, List.findIdx? (fun y => decide (y = x)) l = some p ∧ l.eraseIdx (p % M) = l.erase x := by
  cases hf : List.findIdx? (fun y => decide (y = x)) l with
  | none => exact absurd hm (position_eq_none_iff.1 hf)
  | some p =>
    obtain ⟨he, hp, -⟩ := eraseIdx_of_findIdx?_eq_some hf
    exact ⟨p, rfl, by rw [Nat.mod_eq_of_lt (Nat.lt_of_lt_of_le hp hl), he]⟩

theorem position_eq_idxOf (l : List α) (x : α) :
    List.findIdx? (fun y => decide (y = x)) l = if l.contains x then some (l.idxOf x) else none := by
  rw [List.findIdx?_eq_guard_findIdx_lt,
    show (fun y => decide (y = x)) = (· == x) from funext fun y => (Bool.beq_eq_decide_eq y x).symm]
  exact ite_congr (by rw [decide_eq_true_eq, List.contains_iff_mem, ← List.idxOf_lt_length_iff]; rfl)
    (fun _ => rfl) (fun _ => rfl)

end

theorem getD_store {β : Type} (l : List β) :
    (if l.isEmpty = true then (none : Option (List β)) else some l).getD [] = l := by
  cases l <;> rfl

/-- `bucket(b).expect(..).get(j).expect(..)` -/
theorem unwrap_slot {α β : Type} (o : Option (List α)) (j : Nat) (K : α → OZ.Rs.Comp β) :
    OZ.Rs.Comp.unwrap o (fun v => OZ.Rs.Comp.unwrap v[j]? K) = OZ.Rs.Comp.unwrap ((o.getD [])[j]?) K := by
  cases o <;> rfl

theorem store_ne_nil {β : Type} (l : List β) :
    (if l.isEmpty = true then (none : Option (List β)) else some l) ≠ some [] := by
  cases l <;> nofun

theorem ite_ne {α : Type} {c : Prop} [Decidable c] {a b x : α} (ha : a ≠ x) (hb : b ≠ x) :
    (if c then a else b) ≠ x := by
  split
  · exact ha
  · exact hb

theorem ite_and {α : Type} {P Q : Prop} [Decidable P] [Decidable Q] (a b : α) :
    (if P ∧ Q then a else b) = if P then (if Q then a else b) else b := by
  by_cases hp : P <;> simp only [hp, true_and, false_and, if_true, if_false]

end OZ.RegGen
