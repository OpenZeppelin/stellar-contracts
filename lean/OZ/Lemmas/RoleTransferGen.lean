import OZ.Lemmas.RoleTransfer
import OZ.Model.RustSemHost
import OZ.Lemmas.Comp
/-
The role-transfer library as `rs2lean.py` renders it, with the storage keys left open: `transfer_role` /
`accept_transfer` / `enforce_*_auth` are printed once per user of the library (`RoleTransfer`, `Ownable`, the admin of
`AccessControl`), each over a store of its own; each rendering unfolds to the function below on the fields of that
store, with the write-back as the continuation `k`.
-/
namespace OZ.RoleTransfer.Gen
open OZ.Rs OZ.Host

variable {β : Type}

def transferRoleC (c : Cfg) (now : Nat) (pending : Option (Temp Nat)) (new lu : Nat)
    (k : Option (Temp Nat) → Comp β) : Comp β :=
  if lu = 0 then
    optCase (Temp.get? pending now) (fun p => if p ≠ new then Comp.panic else k none) Comp.panic
  else if lu > c.maxLiveUntil now ∨ lu < now then Comp.panic
  else Comp.bind (uN_sub 32 lu now) fun t =>
    tempExtend c (some (Temp.set c none now new)) now t t fun e => k (some e)

def acceptTransferC (now : Nat) (pending : Option (Temp Nat)) (authorized : Nat → Bool)
    (k : Nat → Comp β) : Comp β :=
  Comp.unwrap (Temp.get? pending now) fun v => if authorized v = true then k v else Comp.panic

def enforceAuthC (holder : Option Nat) (authorized : Nat → Bool) : Comp Nat :=
  optCase holder (fun h => if authorized h = true then Comp.ok h else Comp.panic) Comp.panic

/-- the minimum lifetime ≥ 1 makes the freshly set entry live for `extend_ttl` -/
theorem transferRoleC_eq (c : Cfg) (hmin : 1 ≤ c.minTempTtl) (s : State) (new lu : Nat)
    (k : Option (Temp Nat) → Comp β) :
    transferRoleC c s.now s.pending new lu k =
      match transferRole c s new lu with
      | .ok s' => k s'.pending
      | .error _ => Comp.panic := by
  unfold transferRoleC transferRole
  by_cases h0 : lu = 0
  · rw [if_pos h0, if_pos h0]
    unfold cancelPending
    cases Temp.get? s.pending s.now with
    | none => rfl
    | some p =>
      simp only [optCase_some]
      by_cases hne : p ≠ new
      · rw [if_pos hne, if_pos hne]
      · rw [if_neg hne, if_neg hne]
  · rw [if_neg h0, if_neg h0]
    unfold storePending
    by_cases hb : lu > c.maxLiveUntil s.now ∨ lu < s.now
    · rw [if_pos hb, if_pos hb]
    · rw [if_neg hb, if_neg hb]
      have h1 : s.now ≤ lu := Nat.le_of_not_lt fun h => hb (Or.inr h)
      have h2 : lu ≤ c.maxLiveUntil s.now := Nat.le_of_not_lt fun h => hb (Or.inl h)
      have hlive : s.now ≤ (Temp.set c none s.now new).liveUntil :=
        Nat.le_sub_one_of_lt (Nat.lt_add_of_pos_right hmin)
      rw [uN_sub_ok h1, Comp.bind_ok]
      simp only [tempExtend]
      rw [if_pos hlive, fresh_extend c s.now new lu h1 h2]
      rfl

theorem acceptTransferC_eq (s : State) (auth : List Nat) (authorized : Nat → Bool)
    (hauth : ∀ a, authorized a = decide (a ∈ auth)) (k : Nat → Comp β) :
    acceptTransferC s.now s.pending authorized k =
      match acceptTransfer s auth with
      | .ok r => k r.2
      | .error _ => Comp.panic := by
  unfold acceptTransferC acceptTransfer
  cases Temp.get? s.pending s.now with
  | none => rfl
  | some p =>
    simp only [Comp.unwrap_some, hauth, decide_eq_true_eq]
    by_cases hm : p ∈ auth
    · rw [if_pos hm, if_pos hm]
    · rw [if_neg hm, if_neg hm]

theorem enforceAuthC_eq (s : State) (auth : List Nat) (authorized : Nat → Bool)
    (hauth : ∀ a, authorized a = decide (a ∈ auth)) :
    enforceAuthC s.holder authorized =
      match enforceHolderAuth s auth with
      | .ok h => Comp.ok h
      | .error _ => Comp.panic := by
  unfold enforceAuthC enforceHolderAuth
  cases s.holder with
  | none => rfl
  | some o =>
    simp only [optCase_some, hauth, decide_eq_true_eq]
    by_cases hm : o ∈ auth
    · rw [if_pos hm, if_pos hm]
    · rw [if_neg hm, if_neg hm]

theorem run_refines_of_step {σ : Type} (c : Cfg) (f : Flavor) (R : Nat → σ → State → Prop)
    (gstep : Nat × σ → List Nat × Op → Nat × σ)
    (hstep : ∀ now st s ao, R now st s →
      R (gstep (now, st) ao).1 (gstep (now, st) ao).2 (step c f s ao))
    (ops : List (List Nat × Op)) :
    ∀ now st s, R now st s →
      R (ops.foldl gstep (now, st)).1 (ops.foldl gstep (now, st)).2 (run c f s ops) := by
  induction ops with
  | nil => intro now st s h; exact h
  | cons ao rest ih => intro now st s h; exact ih _ _ _ (hstep now st s ao h)

end OZ.RoleTransfer.Gen
