import OZ.Lemmas.RegBinder
import OZ.Lemmas.RegMon
import OZ.Model.RegBinderMon
/-
For the soundness of the `binder` monitor of C20 (OZ/Props/C20cMon.lean): the monitor's plain set has the members of
the flat list the buckets represent (`AgreeL`).
-/
namespace OZ.RegBinder.Mon
open OZ.Reg OZ.RegMon OZ.RegBinder

structure AgreeL (g : Mon) (s : State) (l : List Nat) : Prop where
  rep : Rep s l
  nodup : g.set.Nodup
  mem : ∀ x, x ∈ g.set ↔ x ∈ l

structure Agree (g : Mon) (s : State) (u : Nat) : Prop where
  u : g.u = u
  list : ∃ l, AgreeL g s l

theorem AgreeL.perm {g : Mon} {s : State} {l : List Nat} (h : AgreeL g s l) : g.set.Perm l :=
  perm_of_nodup_mem h.nodup h.rep.nodup h.mem

theorem AgreeL.len {g : Mon} {s : State} {l : List Nat} (h : AgreeL g s l) : g.set.length = l.length :=
  h.perm.length_eq

theorem AgreeL.contains {g : Mon} {s : State} {l : List Nat} (h : AgreeL g s l) (t : Nat) :
    g.set.contains t = isTokenBound s t := by
  rw [Bool.eq_iff_iff, List.contains_iff_mem, rep_isTokenBound h.rep, h.mem]

theorem AgreeL.push {g : Mon} {s : State} {l : List Nat} (ha : AgreeL g s l) {ts : List Nat} (hnd : ts.Nodup)
    (hdis : ∀ t, t ∈ ts → t ∉ l) (hl : l.length + ts.length ≤ MAX_TOKENS) :
    AgreeL { g with set := g.set ++ ts } (ts.foldl push s) (l ++ ts) :=
  ⟨rep_foldl_push ha.rep ts hnd hdis hl,
    List.nodup_append.2 ⟨ha.nodup, hnd, fun a ha' b hb hab => hdis b hb ((ha.mem b).1 (hab ▸ ha'))⟩,
    fun x => by rw [List.mem_append, List.mem_append, ha.mem]⟩

/-- the two binds run the model's checks in the model's order; the model's limits `BUCKET_SIZE * 2` and `MAX_TOKENS` are
the monitor's numerals 200 and 10000, whence `Iff.rfl` -/
theorem decides {g : Mon} {s : State} {u : Nat} (ha : Agree g s u) (op : Op) :
    Decides (Agree · · u) (step s op) (plain g op) := by
  obtain ⟨l, hl⟩ := ha.list
  have h := hl.rep
  have hlen : g.set.length = s.count := hl.len.trans h.count.symm
  cases op with
  | bind t =>
    rw [step, bindToken, plain]
    refine .ite (by rw [hl.contains]) fun hn => .ite (by rw [hlen]; exact Iff.rfl) fun hc =>
      .accepted rfl rfl ⟨ha.u, _, hl.push (ts := [t]) (List.nodup_singleton t) ?_ ?_⟩
    · intro x hx; rw [List.mem_singleton.1 hx, ← rep_isTokenBound h]; exact hn
    · rw [← h.count]; exact Nat.lt_of_not_le hc
  | bindMany ts =>
    rw [step, bindTokens, pushAll_eq, rep_linkedTokens h, plain]
    refine .ite Iff.rfl fun _ => .ite (by rw [hlen]; exact Iff.rfl) fun hc =>
      .ite (by rw [Bool.not_eq_true', ← Bool.not_eq_true, nodupB_iff]) fun hnd => .ite ?_ fun hdis =>
        .accepted rfl rfl ⟨ha.u, _, hl.push (Classical.not_not.1 hnd) ?_ (by rw [← h.count]; exact Nat.le_of_not_lt hc)⟩
    · simp only [List.any_eq_true, List.contains_iff_mem, hl.mem]
    · exact fun t ht hm => hdis (List.any_eq_true.2 ⟨t, ht, List.contains_iff_mem.2 hm⟩)
  | unbind t =>
    rw [step, plain]
    by_cases ht : t ∈ l
    · obtain ⟨s', hs⟩ := unbindToken_accepts h ht
      obtain ⟨_, l', hr, hmem⟩ := unbindToken_ok h hs
      refine .accepted hs (if_pos (List.contains_iff_mem.2 ((hl.mem t).2 ht))) ⟨ha.u, l', hr, hl.nodup.erase t, fun x => ?_⟩
      show x ∈ g.set.erase t ↔ _
      rw [hl.nodup.mem_erase_iff, hmem, hl.mem, and_comm]
    · rw [unbindToken, (rep_getTokenIndex_none h t).2 ht, if_neg fun hc => ht ((hl.mem t).1 (List.contains_iff_mem.1 hc))]
      exact .refused

theorem bOk_model {g : Mon} {s : State} {l : List Nat} (ha : AgreeL g s l) (t : Nat) :
    bOk g (t, some (if isTokenBound s t then 1 else 0)) = true := by
  unfold bOk
  simp only [ha.contains t]
  exact beq_self_eq_true _

theorem ixOk_model {g : Mon} {s : State} {l : List Nat} (ha : AgreeL g s l) (t : Nat) :
    ixOk g l.length (t, getTokenIndex s t) = true := by
  unfold ixOk
  simp only
  cases hi : getTokenIndex s t with
  | none =>
    have : t ∉ l := (rep_getTokenIndex_none ha.rep t).1 hi
    have hc : g.set.contains t = false := by
      rw [Bool.eq_false_iff]; exact fun hc => this ((ha.mem t).1 (List.contains_iff_mem.1 hc))
    rw [hc]; rfl
  | some i =>
    have hget := rep_getTokenIndex_some ha.rep t i hi
    have hlt : i < l.length := by rw [List.getElem?_eq_some_iff] at hget; exact hget.1
    have hc : g.set.contains t = true :=
      List.contains_iff_mem.2 ((ha.mem t).2 (List.mem_of_getElem? hget))
    rw [hc]
    simp [hlt]

theorem atOk_model {g : Mon} {s : State} {l : List Nat} (ha : AgreeL g s l) (i : Nat) :
    atOk g l.length (i, getTokenByIndex s i) = true := by
  unfold atOk
  simp only
  rw [rep_getTokenByIndex ha.rep]
  cases hi : l[i]? with
  | none =>
    have : l.length ≤ i := by simpa using hi
    simp; omega
  | some t =>
    have hlt : i < l.length := by rw [List.getElem?_eq_some_iff] at hi; exact hi.1
    have hc : t ∈ g.set := (ha.mem t).2 (List.mem_of_getElem? hi)
    simp [hlt, hc]

theorem roundOk_model {s : State} {l : List Nat} (h : Rep s l) (pi : List Nat) (full : Option (List Nat))
    (hf : ∀ l', full = some l' → l' = l) (t : Nat) :
    roundOk (pi.map (fun i => (i, getTokenByIndex s i))) full (t, getTokenIndex s t) = true := by
  unfold roundOk
  simp only
  cases hi : getTokenIndex s t with
  | none => rfl
  | some i =>
    have hget := rep_getTokenIndex_some h t i hi
    simp only [Bool.and_eq_true]
    constructor
    · cases hf' : (pi.map (fun i => (i, getTokenByIndex s i))).find? (fun x => x.1 == i) with
      | none => rfl
      | some x =>
        have := find_graph_some pi (getTokenByIndex s) i x hf'
        subst this
        rw [rep_getTokenByIndex h, hget]
        simp
    · cases hfu : full with
      | none => rfl
      | some l' =>
        rw [hf l' hfu]
        show (l[i]? == some t) = true
        rw [hget]
        simp

end OZ.RegBinder.Mon
