import OZ.Model.Vault
import OZ.Props.C01
import OZ.Props.C12
import OZ.Lemmas.FungibleComplete
import Mathlib.Tactic.Linarith
/-
The vault's two internal movers are described once, as `Inflow` / `Outflow` (one field per component of
the state); `MovedIn` / `MovedOut` say the same balance by balance, for the `*_eq_preview` theorems of
OZ/Props/C05.lean. A property of all histories is `run_keeps` with, for its step, `apply_ok` and a
`cases` on the operation.
-/
namespace OZ.Vault
open OZ.Host

theorem guard_ok {p : Prop} [Decidable p] {e : Err} {u : Unit} (h : guard p e = .ok u) : p := by
  unfold guard at h
  split at h
  · assumption
  · cases h

theorem requireAuth_ok {auth : List Nat} {a : Nat} {u : Unit} (h : requireAuth auth a = .ok u) :
    a ∈ auth := guard_ok h

theorem liftS_ok {α} {x : Except OZ.Fungible.Err α} {v : α} (h : liftS x = .ok v) : x = .ok v := by
  cases x with
  | ok a => simp only [liftS] at h; injection h with h; rw [h]
  | error e => simp only [liftS] at h; cases h

theorem liftA_ok {α} {x : Except OZ.Fungible.Err α} {v : α} (h : liftA x = .ok v) : x = .ok v := by
  cases x with
  | ok a => simp only [liftA] at h; injection h with h; rw [h]
  | error e => simp only [liftA] at h; cases h

theorem guard_ok_iff (p : Prop) [Decidable p] (e : Err) : guard p e = .ok () ↔ p :=
  ⟨guard_ok, fun h => if_pos h⟩

theorem liftS_ok_iff {α} (x : Except OZ.Fungible.Err α) (v : α) : liftS x = .ok v ↔ x = .ok v :=
  ⟨liftS_ok, fun h => by rw [h]; rfl⟩

theorem liftA_ok_iff {α} (x : Except OZ.Fungible.Err α) (v : α) : liftA x = .ok v ↔ x = .ok v :=
  ⟨liftA_ok, fun h => by rw [h]; rfl⟩

theorem guard_bind_ok_iff {p : Prop} [Decidable p] {e : Err} {α} {x : Except Err α} {v : α} :
    (guard p e >>= fun _ => x) = .ok v ↔ p ∧ x = .ok v := by
  constructor
  · intro h
    obtain ⟨_, h1, h2⟩ := bind_eq_ok h
    exact ⟨guard_ok h1, h2⟩
  · rintro ⟨h1, h2⟩
    rw [(guard_ok_iff p e).2 h1]; exact h2

/-- the tail of every entry point: preview, move, emit one event, return the previewed amount -/
theorem tail_eq_ok_iff {pv : Except Err Int} {mv : Int → Except Err State} {ev : Int → Event}
    {s' : State} {y : Int} :
    (pv >>= fun x => mv x >>= fun s1 => pure (emit s1 (ev x), x)) = .ok (s', y) ↔
      pv = .ok y ∧ ∃ s1, mv y = .ok s1 ∧ s' = emit s1 (ev y) := by
  constructor
  · intro h
    obtain ⟨x, h1, h⟩ := bind_eq_ok h
    obtain ⟨s1, h2, h3⟩ := bind_eq_ok h
    injection h3 with h3; injection h3 with h3 h4; subst h3; subst h4
    exact ⟨h1, s1, h2, rfl⟩
  · rintro ⟨h1, s1, h2, rfl⟩
    rw [h1, ok_bind, h2]; rfl

theorem ofChk_ok {x : Int} {v : Int} (h : ofChk (OZ.MulDiv.chk128 x) = .ok v) :
    v = x ∧ OZ.MulDiv.in128 x := by
  unfold OZ.MulDiv.chk128 at h
  split at h
  · simp only [ofChk] at h; injection h with h; exact ⟨h.symm, by assumption⟩
  · simp only [ofChk] at h; cases h

theorem ofRes_ok {r : OZ.MulDiv.Res} {v : Int} (h : ofRes r = .ok v) : r = .ok v := by
  cases r with
  | ok a => simp only [ofRes] at h; injection h with h; rw [h]
  | none => simp only [ofRes] at h; cases h
  | panic => simp only [ofRes] at h; cases h

theorem in128_host_iff (x : Int) : OZ.Host.in128 x ↔ OZ.MulDiv.in128 x := Iff.rfl

theorem pow10_bounds {n : Nat} (o : Nat) (h : o ≤ n) : 1 ≤ (10 : Int) ^ o ∧ (10 : Int) ^ o ≤ 10 ^ n :=
  ⟨one_le_pow₀ (by decide), pow_le_pow_right₀ (by decide) h⟩

theorem virtualShares_eq (s : State) (h : s.offset ≤ 10) : virtualShares s = .ok (10 ^ s.offset) := by
  obtain ⟨h1, h2⟩ := pow10_bounds s.offset h
  unfold virtualShares OZ.MulDiv.chk128
  rw [if_pos]
  · rfl
  · unfold OZ.MulDiv.in128 OZ.MulDiv.I128_MIN OZ.MulDiv.I128_MAX; omega

/-! ### the exactly rounded quotient for a positive divisor -/

theorem exactQ_zero (rd : Rounding) (y d : Int) : OZ.MulDiv.exactQ rd 0 y d = 0 := by
  cases rd <;> simp [OZ.MulDiv.exactQ, OZ.MulDiv.Int.cdiv]

/-! Floor and ceiling are the two adjoints of multiplication by `d`; every comparison of a rounded
quotient with an integer below goes through these. -/

theorem le_exactQ_floor {x y d k : Int} (hd : 0 < d) :
    k ≤ OZ.MulDiv.exactQ .floor x y d ↔ k * d ≤ x * y := OZ.MulDiv.le_fdiv_iff hd

theorem exactQ_floor_lt {x y d k : Int} (hd : 0 < d) :
    OZ.MulDiv.exactQ .floor x y d < k ↔ x * y < k * d := by
  rw [← Int.not_le, le_exactQ_floor hd, Int.not_le]

theorem exactQ_ceil_le {x y d k : Int} (hd : 0 < d) :
    OZ.MulDiv.exactQ .ceil x y d ≤ k ↔ x * y ≤ k * d := OZ.MulDiv.cdiv_le_iff hd

theorem lt_exactQ_ceil {x y d k : Int} (hd : 0 < d) :
    k < OZ.MulDiv.exactQ .ceil x y d ↔ k * d < x * y := by
  rw [← Int.not_le, exactQ_ceil_le hd, Int.not_le]

theorem exactQ_ceil_lt_add {x y d : Int} (hd : 0 < d) :
    OZ.MulDiv.exactQ .ceil x y d * d < x * y + d := by
  have := (lt_exactQ_ceil (x := x) (y := y) (k := OZ.MulDiv.exactQ .ceil x y d - 1) hd).1 (by omega)
  rw [Int.sub_mul, Int.one_mul] at this; omega

theorem exactQ_floor_le_ceil (x y d : Int) (hd : 0 < d) :
    OZ.MulDiv.exactQ .floor x y d ≤ OZ.MulDiv.exactQ .ceil x y d :=
  Int.le_of_mul_le_mul_right
    (Int.le_trans ((le_exactQ_floor hd).1 (Int.le_refl _)) ((exactQ_ceil_le hd).1 (Int.le_refl _))) hd

theorem exactQ_nonneg (rd : Rounding) (x y d : Int) (hx : 0 ≤ x) (hy : 0 ≤ y) (hd : 0 < d)
    (hrd : rd ≠ .trunc) : 0 ≤ OZ.MulDiv.exactQ rd x y d := by
  have hxy : 0 ≤ x * y := Int.mul_nonneg hx hy
  cases rd with
  | floor => rw [le_exactQ_floor hd, Int.zero_mul]; exact hxy
  | ceil =>
    have := (lt_exactQ_ceil (x := x) (y := y) (k := -1) hd).2 (by omega)
    omega
  | trunc => exact absurd rfl hrd

/-! ### conversions -/

def roundedOrOverflow (rd : Rounding) (x y d : Int) : Except Err Int :=
  if OZ.MulDiv.in128 (OZ.MulDiv.exactQ rd x y d) then .ok (OZ.MulDiv.exactQ rd x y d)
  else .error .fixedPoint

theorem ofRes_mulDiv (rd : Rounding) (x y d : Int) (hx : OZ.MulDiv.in128 x) (hy : OZ.MulDiv.in128 y)
    (hd : OZ.MulDiv.in128 d) (hd0 : d ≠ 0) :
    ofRes (OZ.MulDiv.mulDiv128 rd x y d) = roundedOrOverflow rd x y d := by
  rw [OZ.MulDiv.mul_div_i128_spec rd x y d hx hy hd]
  unfold OZ.MulDiv.spec128 roundedOrOverflow
  rw [if_neg hd0]
  split <;> rfl

theorem ofChk_chk128 (x : Int) :
    ofChk (OZ.MulDiv.chk128 x) = if OZ.MulDiv.in128 x then .ok x else .error .mathOverflow := by
  unfold OZ.MulDiv.chk128
  split <;> rfl

theorem convert_tail (rd : Rounding) {x Y D : Int} (hx : OZ.MulDiv.in128 x) (hD : D ≠ 0) :
    (ofChk (OZ.MulDiv.chk128 Y) >>= fun y => ofChk (OZ.MulDiv.chk128 D) >>= fun d =>
      ofRes (OZ.MulDiv.mulDiv128 rd x y d)) =
    if ¬ OZ.MulDiv.in128 Y ∨ ¬ OZ.MulDiv.in128 D then .error .mathOverflow
    else roundedOrOverflow rd x Y D := by
  rw [ofChk_chk128]
  by_cases hy : OZ.MulDiv.in128 Y
  · rw [if_pos hy, ok_bind, ofChk_chk128]
    by_cases hd : OZ.MulDiv.in128 D
    · rw [if_pos hd, ok_bind, if_neg (by simp [hy, hd])]
      exact ofRes_mulDiv rd x _ _ hx hy hd hD
    · rw [if_neg hd, error_bind, if_pos (Or.inr hd)]
  · rw [if_neg hy, error_bind, if_pos (Or.inl hy)]

theorem convertToShares_eq (s : State) (a : Int) (rd : Rounding) (ha : OZ.MulDiv.in128 a)
    (hoff : s.offset ≤ 10) (hA : 0 ≤ totalAssets s) :
    convertToShares s a rd =
      if a < 0 then .error .invalidAssets
      else if a = 0 then .ok 0
      else if ¬ OZ.MulDiv.in128 (totalShares s + 10 ^ s.offset) ∨ ¬ OZ.MulDiv.in128 (totalAssets s + 1) then
        .error .mathOverflow
      else roundedOrOverflow rd a (totalShares s + 10 ^ s.offset) (totalAssets s + 1) := by
  unfold convertToShares
  rw [virtualShares_eq s hoff, ok_bind, convert_tail rd ha (by omega)]

theorem convertToAssets_eq (s : State) (x : Int) (rd : Rounding) (hx : OZ.MulDiv.in128 x)
    (hoff : s.offset ≤ 10) (hS : 0 ≤ totalShares s) :
    convertToAssets s x rd =
      if x < 0 then .error .invalidShares
      else if x = 0 then .ok 0
      else if ¬ OZ.MulDiv.in128 (totalAssets s + 1) ∨ ¬ OZ.MulDiv.in128 (totalShares s + 10 ^ s.offset) then
        .error .mathOverflow
      else roundedOrOverflow rd x (totalAssets s + 1) (totalShares s + 10 ^ s.offset) := by
  have hV := pow10_bounds s.offset hoff
  unfold convertToAssets
  simp only [virtualShares_eq s hoff, ok_bind]
  rw [convert_tail rd hx (by omega)]

/-! A conversion that succeeds returns the exactly rounded quotient whatever its operands: no range
condition on the amount, no invariant (`OZ.MulDiv.mulDiv128_ok`). -/

theorem convertToShares_ok {s : State} {a v : Int} {rd : Rounding}
    (h : convertToShares s a rd = .ok v) :
    0 ≤ a ∧ v = OZ.MulDiv.exactQ rd a (totalShares s + 10 ^ s.offset) (totalAssets s + 1) ∧
    OZ.MulDiv.in128 v := by
  unfold convertToShares virtualShares at h
  split at h
  · cases h
  split at h
  · rename_i h0; injection h with h; subst h; subst h0
    exact ⟨Int.le_refl _, (exactQ_zero _ _ _).symm, by decide⟩
  obtain ⟨pow, h1, h⟩ := bind_eq_ok h
  obtain ⟨y, h2, h⟩ := bind_eq_ok h
  obtain ⟨d, h3, h⟩ := bind_eq_ok h
  obtain ⟨rfl, -⟩ := ofChk_ok h1
  obtain ⟨rfl, -⟩ := ofChk_ok h2
  obtain ⟨rfl, -⟩ := ofChk_ok h3
  exact ⟨by omega, (OZ.MulDiv.mulDiv128_ok (ofRes_ok h)).2⟩

theorem convertToAssets_ok {s : State} {x v : Int} {rd : Rounding}
    (h : convertToAssets s x rd = .ok v) :
    0 ≤ x ∧ v = OZ.MulDiv.exactQ rd x (totalAssets s + 1) (totalShares s + 10 ^ s.offset) ∧
    OZ.MulDiv.in128 v := by
  unfold convertToAssets virtualShares at h
  split at h
  · cases h
  split at h
  · rename_i h0; injection h with h; subst h; subst h0
    exact ⟨Int.le_refl _, (exactQ_zero _ _ _).symm, by decide⟩
  obtain ⟨y, h1, h⟩ := bind_eq_ok h
  obtain ⟨pow, h2, h⟩ := bind_eq_ok h
  obtain ⟨d, h3, h⟩ := bind_eq_ok h
  obtain ⟨rfl, -⟩ := ofChk_ok h1
  obtain ⟨rfl, -⟩ := ofChk_ok h2
  obtain ⟨rfl, -⟩ := ofChk_ok h3
  exact ⟨by omega, (OZ.MulDiv.mulDiv128_ok (ofRes_ok h)).2⟩

/-! ### the token calls the vault makes -/

theorem transfer_ok {s s' : Tok} {auth : List Nat} {f t : Nat} {a : Int}
    (h : OZ.Fungible.transfer s auth f t a = .ok s') :
    f ∈ auth ∧ 0 ≤ a ∧ a ≤ s.bal f ∧ s'.supply = s.supply ∧ s'.allow = s.allow ∧ s'.now = s.now ∧
    s'.bal = moved s.bal f t a := by
  obtain ⟨hu, ⟨h0, hc, -⟩, rfl⟩ := OZ.Fungible.transfer_eq_ok_iff.1 h
  exact ⟨hu, h0, hc, rfl, rfl, rfl, rfl⟩

theorem transferFrom_ok {c : Cfg} {s s' : Tok} {auth : List Nat} {sp f t : Nat} {a : Int}
    (h : OZ.Fungible.transferFrom c s auth sp f t a = .ok s') :
    sp ∈ auth ∧ 0 ≤ a ∧ a ≤ s.bal f ∧ a ≤ OZ.Fungible.allowance s f sp ∧ s'.supply = s.supply ∧
    s'.now = s.now ∧ s'.bal = moved s.bal f t a ∧
    (∀ x y, ¬ (x = f ∧ y = sp) → s'.allow x y = s.allow x y) ∧ (a = 0 → s'.allow = s.allow) ∧
    OZ.Fungible.allowance s' f sp = OZ.Fungible.allowance s f sp - a := by
  obtain ⟨hu, ⟨h0, hc, -⟩, s0, hs, rfl⟩ := OZ.Fungible.transferFrom_eq_ok_iff.1 h
  obtain ⟨-, g2, hz⟩ := OZ.Fungible.spendAllowance_cases hs
  obtain ⟨-, -, e3, -, e5⟩ := OZ.Fungible.spendAllowance_ok hs
  refine ⟨hu, h0, hc, g2, rfl, rfl, rfl, e5,
    fun ha => show s0.allow = s.allow from congrArg _ (hz.resolve_left (fun hp => by omega)).2, ?_⟩
  rw [← OZ.Fungible.spendAllowance_exact hs]
  apply OZ.Fungible.allowance_congr
  exacts [rfl, e3.symm]

/-! ### the two internal movers -/

/-- effect of `deposit_internal` (shared by `deposit` and `mint`): `assets` go from `frm` to
the vault on the asset token, `shares` are minted to `receiver`, nothing else changes except
the asset allowance `frm → operator` when the operator is not the payer -/
structure Inflow (s s' : State) (tauth : List Nat) (r f o : Nat) (assets shares : Int) : Prop where
  a0 : 0 ≤ assets
  v0 : 0 ≤ shares
  afford : assets ≤ s.ast.bal f
  astBal : s'.ast.bal = moved s.ast.bal f s.vault assets
  astSup : s'.ast.supply = s.ast.supply
  astNow : s'.ast.now = s.ast.now
  shBal : s'.sh.bal = upd s.sh.bal r (s.sh.bal r + shares)
  shSup : s'.sh.supply = s.sh.supply + shares
  shSupHi : s'.sh.supply ≤ I128_MAX
  shAllow : s'.sh.allow = s.sh.allow
  shNow : s'.sh.now = s.sh.now
  vault : s'.vault = s.vault
  offset : s'.offset = s.offset
  direct : o = f → f ∈ tauth ∧ s'.ast.allow = s.ast.allow
  via : o ≠ f → o ∈ tauth ∧ assets ≤ OZ.Fungible.allowance s.ast f o ∧
    (∀ x y, ¬ (x = f ∧ y = o) → s'.ast.allow x y = s.ast.allow x y) ∧
    (assets = 0 → s'.ast.allow = s.ast.allow)

/-- effect of `withdraw_internal` (shared by `withdraw` and `redeem`): `shares` are burned from
`owner` (spending the share allowance `owner → operator` iff the operator is not the owner),
`assets` go from the vault to `receiver` -/
structure Outflow (s s' : State) (r ow o : Nat) (assets shares : Int) : Prop where
  a0 : 0 ≤ assets
  v0 : 0 ≤ shares
  hasShares : shares ≤ s.sh.bal ow
  hasAssets : assets ≤ s.ast.bal s.vault
  astBal : s'.ast.bal = moved s.ast.bal s.vault r assets
  astSup : s'.ast.supply = s.ast.supply
  astAllow : s'.ast.allow = s.ast.allow
  astNow : s'.ast.now = s.ast.now
  shBal : s'.sh.bal = upd s.sh.bal ow (s.sh.bal ow - shares)
  shSup : s'.sh.supply = s.sh.supply - shares
  shNow : s'.sh.now = s.sh.now
  vault : s'.vault = s.vault
  offset : s'.offset = s.offset
  own : o = ow → s'.sh.allow = s.sh.allow
  spent : o ≠ ow → shares ≤ OZ.Fungible.allowance s.sh ow o ∧
    (∀ x y, ¬ (x = ow ∧ y = o) → s'.sh.allow x y = s.sh.allow x y)

theorem Inflow.emit {s s' : State} {tauth : List Nat} {r f o : Nat} {a v : Int}
    (h : Inflow s s' tauth r f o a v) (ev : Event) : Inflow s (emit s' ev) tauth r f o a v :=
  ⟨h.a0, h.v0, h.afford, h.astBal, h.astSup, h.astNow, h.shBal, h.shSup, h.shSupHi, h.shAllow,
    h.shNow, h.vault, h.offset, h.direct, h.via⟩

theorem Outflow.emit {s s' : State} {r ow o : Nat} {a v : Int}
    (h : Outflow s s' r ow o a v) (ev : Event) : Outflow s (emit s' ev) r ow o a v :=
  ⟨h.a0, h.v0, h.hasShares, h.hasAssets, h.astBal, h.astSup, h.astAllow, h.astNow, h.shBal,
    h.shSup, h.shNow, h.vault, h.offset, h.own, h.spent⟩

theorem depositInternal_ok {c : Cfg} {s s' : State} {tauth : List Nat} {r f o : Nat} {a v : Int}
    (h : depositInternal c s tauth r a v f o = .ok s') :
    Inflow s s' tauth r f o a v ∧ s'.events = s.events ∧
    (o ≠ f → OZ.Fungible.allowance s'.ast f o = OZ.Fungible.allowance s.ast f o - a) := by
  obtain ⟨ast, h1, h⟩ := bind_eq_ok h
  obtain ⟨sh, h2, h3⟩ := bind_eq_ok h
  injection h3 with h3; subst h3
  obtain ⟨m1, hc, rfl⟩ := OZ.Fungible.update_eq (liftS_ok h2)
  unfold pullAssets at h1
  by_cases hof : o = f
  · rw [if_pos hof] at h1
    obtain ⟨t1, t2, t3, t4, t5, t6, t7⟩ := transfer_ok (liftA_ok h1)
    exact ⟨⟨t2, m1, t3, t7, t4, t6, rfl, rfl, hc.2, rfl, rfl, rfl, rfl, fun _ => ⟨t1, t5⟩,
      fun hne => absurd hof hne⟩, rfl, fun hne => absurd hof hne⟩
  · rw [if_neg hof] at h1
    obtain ⟨t1, t2, t3, t4, t5, t6, t7, t8, t9, t10⟩ := transferFrom_ok (liftA_ok h1)
    exact ⟨⟨t2, m1, t3, t7, t5, t6, rfl, rfl, hc.2, rfl, rfl, rfl, rfl, fun he => absurd he hof,
      fun _ => ⟨t1, t4, t8, t9⟩⟩, rfl, fun _ => t10⟩

theorem withdrawInternal_ok {c : Cfg} {s s' : State} {r ow o : Nat} {a v : Int}
    (h : withdrawInternal c s r ow a v o = .ok s') :
    Outflow s s' r ow o a v ∧ s'.events = s.events ∧
    (o ≠ ow → OZ.Fungible.allowance s'.sh ow o = OZ.Fungible.allowance s.sh ow o - v) ∧
    (v = 0 → s'.sh.allow = s.sh.allow) := by
  obtain ⟨sh1, h1, h⟩ := bind_eq_ok h
  obtain ⟨sh2, h2, h⟩ := bind_eq_ok h
  obtain ⟨ast, h3, h4⟩ := bind_eq_ok h
  injection h4 with h4; subst h4
  obtain ⟨b1, b2, rfl⟩ := OZ.Fungible.update_eq (liftS_ok h2)
  obtain ⟨t1, t2, t3, t4, t5, t6, t7⟩ := transfer_ok (liftA_ok h3)
  unfold spendShares at h1
  by_cases hoo : o = ow
  · rw [if_pos hoo] at h1
    injection h1 with h1; subst h1
    exact ⟨⟨t2, b1, b2, t3, t7, t4, t5, t6, rfl, rfl, rfl, rfl, rfl, fun _ => rfl,
      fun hne => absurd hoo hne⟩, rfl, fun hne => absurd hoo hne, fun _ => rfl⟩
  · rw [if_neg hoo] at h1
    have h1 := liftS_ok h1
    obtain ⟨e1, e2, e3, -, e5⟩ := OZ.Fungible.spendAllowance_ok h1
    obtain ⟨-, g2, hz⟩ := OZ.Fungible.spendAllowance_cases h1
    exact ⟨⟨t2, b1, e2 ▸ b2, t3, t7, t4, t5, t6, by rw [← e2]; rfl, by rw [← e1]; rfl,
      by rw [← e3]; rfl, rfl, rfl, fun he => absurd he hoo, fun _ => ⟨g2, e5⟩⟩, rfl,
      fun _ => show OZ.Fungible.allowance sh1 ow o = _ from OZ.Fungible.spendAllowance_exact h1,
      fun hv => show sh1.allow = _ from congrArg _ (hz.resolve_left (fun hp => by omega)).2⟩

/-! ### the four entry points

Each is the same chain: authorization, a limit, the preview, an internal mover, one event. -/

theorem deposit_eq_ok_iff {c : Cfg} {s s' : State} {auth : List Nat} {sub : Bool} {a v : Int}
    {r f o : Nat} :
    deposit c s auth sub a r f o = .ok (s', v) ↔
      o ∈ auth ∧ a ≤ I128_MAX ∧ previewDeposit s a = .ok v ∧
      ∃ s1, depositInternal c s (tokenAuth s auth sub) r a v f o = .ok s1 ∧
        s' = emit s1 (.deposit o f r a v) := by
  unfold deposit requireAuth
  rw [guard_bind_ok_iff, guard_bind_ok_iff, tail_eq_ok_iff]; rfl

theorem mint_eq_ok_iff {c : Cfg} {s s' : State} {auth : List Nat} {sub : Bool} {x a : Int}
    {r f o : Nat} :
    mint c s auth sub x r f o = .ok (s', a) ↔
      o ∈ auth ∧ x ≤ I128_MAX ∧ previewMint s x = .ok a ∧
      ∃ s1, depositInternal c s (tokenAuth s auth sub) r a x f o = .ok s1 ∧
        s' = emit s1 (.deposit o f r a x) := by
  unfold mint requireAuth
  rw [guard_bind_ok_iff, guard_bind_ok_iff, tail_eq_ok_iff]; rfl

theorem withdraw_eq_ok_iff {c : Cfg} {s s' : State} {auth : List Nat} {a v : Int} {r ow o : Nat} :
    withdraw c s auth a r ow o = .ok (s', v) ↔
      o ∈ auth ∧ ∃ m, maxWithdraw s ow = .ok m ∧ a ≤ m ∧ previewWithdraw s a = .ok v ∧
      ∃ s1, withdrawInternal c s r ow a v o = .ok s1 ∧ s' = emit s1 (.withdraw o r ow a v) := by
  unfold withdraw requireAuth
  rw [guard_bind_ok_iff, bind_eq_ok_iff]
  simp only [guard_bind_ok_iff, tail_eq_ok_iff]

theorem redeem_eq_ok_iff {c : Cfg} {s s' : State} {auth : List Nat} {x a : Int} {r ow o : Nat} :
    redeem c s auth x r ow o = .ok (s', a) ↔
      o ∈ auth ∧ x ≤ maxRedeem s ow ∧ previewRedeem s x = .ok a ∧
      ∃ s1, withdrawInternal c s r ow a x o = .ok s1 ∧ s' = emit s1 (.withdraw o r ow a x) := by
  unfold redeem requireAuth
  rw [guard_bind_ok_iff, guard_bind_ok_iff, tail_eq_ok_iff]

/-! ### invocations that are not vault operations -/

theorem shareOp_ok {c : Cfg} {s s' : State} {auth : List Nat} {op : OZ.Fungible.Op}
    (h : shareOp c s auth op = .ok s') :
    shareOpAllowed op = true ∧ ∃ sh, OZ.Fungible.apply c s.sh auth op = .ok sh ∧
      s' = emitOpt { s with sh := sh } (shareEvent op) := by
  unfold shareOp at h
  split at h
  · rename_i ha
    split at h
    · rename_i sh hsh
      injection h with h
      exact ⟨ha, sh, liftS_ok hsh, h.symm⟩
    · cases h
  · cases h

theorem emitOpt_fields (s : State) (o : Option OZ.Fungible.Event) :
    (emitOpt s o).sh = s.sh ∧ (emitOpt s o).ast = s.ast ∧ (emitOpt s o).vault = s.vault ∧
    (emitOpt s o).offset = s.offset := by
  cases o <;> exact ⟨rfl, rfl, rfl, rfl⟩

theorem assetOp_ok {c : Cfg} {s s' : State} {auth : List Nat} {op : OZ.Fungible.Op}
    (h : assetOp c s auth op = .ok s') :
    ∃ a, OZ.Fungible.apply c s.ast auth op = .ok a ∧ s' = { s with ast := a } := by
  unfold assetOp at h
  split at h
  · rename_i a ha
    injection h with h
    exact ⟨a, liftA_ok ha, h.symm⟩
  · cases h

theorem withRet_ok {r : Except Err State} {s' : State} {ret : Int} (h : withRet r = .ok (s', ret)) :
    r = .ok s' := by
  cases r with
  | ok s => exact congrArg _ (Prod.mk.inj (Except.ok.inj h)).1
  | error e => cases h

/-! ### an accepted invocation, by kind of operation -/

theorem apply_ok {c : Cfg} {s s' : State} {ret : Int} {auth : List Nat} {op : Op}
    (h : apply c s auth op = .ok (s', ret)) :
    match (generalizing := false) op with
    | .deposit sub a r f o => o ∈ auth ∧ a ≤ I128_MAX ∧ previewDeposit s a = .ok ret ∧
      Inflow s s' (tokenAuth s auth sub) r f o a ret ∧ s'.events = s.events ++ [.deposit o f r a ret]
    | .mint sub x r f o => o ∈ auth ∧ x ≤ I128_MAX ∧ previewMint s x = .ok ret ∧
      Inflow s s' (tokenAuth s auth sub) r f o ret x ∧ s'.events = s.events ++ [.deposit o f r ret x]
    | .withdraw a r ow o => o ∈ auth ∧ (∃ m, maxWithdraw s ow = .ok m ∧ a ≤ m) ∧ previewWithdraw s a = .ok ret ∧
      Outflow s s' r ow o a ret ∧ s'.events = s.events ++ [.withdraw o r ow a ret] ∧
      (ret = 0 → s'.sh.allow = s.sh.allow)
    | .redeem x r ow o => o ∈ auth ∧ x ≤ maxRedeem s ow ∧ previewRedeem s x = .ok ret ∧
      Outflow s s' r ow o ret x ∧ s'.events = s.events ++ [.withdraw o r ow ret x] ∧
      (x = 0 → s'.sh.allow = s.sh.allow)
    | .share op => shareOpAllowed op = true ∧ ∃ sh, OZ.Fungible.apply c s.sh auth op = .ok sh ∧
      s' = emitOpt { s with sh := sh } (shareEvent op)
    | .asset op => ∃ a, OZ.Fungible.apply c s.ast auth op = .ok a ∧ s' = { s with ast := a }
    | .advance n => s' = advance s n := by
  cases op with
  | deposit sub a r f o =>
    obtain ⟨h1, h2, h3, s1, h4, rfl⟩ := deposit_eq_ok_iff.1 h
    obtain ⟨hin, hev, -⟩ := depositInternal_ok h4
    exact ⟨h1, h2, h3, hin.emit _, congrArg (· ++ _) hev⟩
  | mint sub x r f o =>
    obtain ⟨h1, h2, h3, s1, h4, rfl⟩ := mint_eq_ok_iff.1 h
    obtain ⟨hin, hev, -⟩ := depositInternal_ok h4
    exact ⟨h1, h2, h3, hin.emit _, congrArg (· ++ _) hev⟩
  | withdraw a r ow o =>
    obtain ⟨h1, m, hm, hle, h3, s1, h4, rfl⟩ := withdraw_eq_ok_iff.1 h
    obtain ⟨hout, hev, -, hz⟩ := withdrawInternal_ok h4
    exact ⟨h1, ⟨m, hm, hle⟩, h3, hout.emit _, congrArg (· ++ _) hev, hz⟩
  | redeem x r ow o =>
    obtain ⟨h1, h2, h3, s1, h4, rfl⟩ := redeem_eq_ok_iff.1 h
    obtain ⟨hout, hev, -, hz⟩ := withdrawInternal_ok h4
    exact ⟨h1, h2, h3, hout.emit _, congrArg (· ++ _) hev, hz⟩
  | share op => exact shareOp_ok (withRet_ok h)
  | asset op => exact assetOp_ok (withRet_ok h)
  | advance n => exact (Prod.mk.inj (Except.ok.inj h)).1.symm

/-! ### well-formed states -/

/-- both tokens satisfy the C01 invariant over the universe `U`, the offset is within its
bound, and the vault never approved anybody on the asset token (it cannot: it has no
`__check_auth`, so it never authorizes anything except as the direct invoker) -/
structure WF (U : List Nat) (s : State) : Prop where
  sh : OZ.Fungible.Inv U s.sh
  ast : OZ.Fungible.Inv U s.ast
  off : s.offset ≤ 10
  vin : s.vault ∈ U
  noVaultAllow : ∀ sp, s.ast.allow s.vault sp = none

theorem inflow_wf {U : List Nat} (hn : U.Nodup) {s s' : State} (hw : WF U s) {tauth : List Nat}
    {r f o : Nat} {a v : Int} (hr : r ∈ U) (h : Inflow s s' tauth r f o a v) : WF U s' := by
  refine ⟨?_, ?_, ?_, ?_, ?_⟩
  · have hlo := hw.sh.supLo
    have hhi := h.shSupHi
    rw [h.shSup] at hhi
    exact OZ.Fungible.inv_of_updateSt hn hw.sh none (some r) h.v0 ⟨by unfold I128_MIN; have := h.v0; omega, hhi⟩
      (fun b e => Option.some.inj e ▸ hr) h.shSup h.shBal
  · exact OZ.Fungible.inv_of_updateSt hn hw.ast (some f) (some s.vault) h.a0 h.afford
      (fun b e => Option.some.inj e ▸ hw.vin) h.astSup h.astBal
  · rw [h.offset]; exact hw.off
  · rw [h.vault]; exact hw.vin
  · intro sp; rw [h.vault]
    by_cases hof : o = f
    · rw [(h.direct hof).2]; exact hw.noVaultAllow sp
    · obtain ⟨-, h2, h3, h4⟩ := h.via hof
      by_cases hfv : f = s.vault
      · have h0 : OZ.Fungible.allowance s.ast f o = 0 := by
          rw [hfv]; exact OZ.Fungible.allowance_none (hw.noVaultAllow o)
        have ha : a = 0 := by have := h.a0; omega
        rw [h4 ha]; exact hw.noVaultAllow sp
      · rw [h3 s.vault sp (fun e => hfv e.1.symm)]; exact hw.noVaultAllow sp

theorem outflow_wf {U : List Nat} (hn : U.Nodup) {s s' : State} (hw : WF U s)
    {r ow o : Nat} {a v : Int} (hr : r ∈ U) (h : Outflow s s' r ow o a v) : WF U s' := by
  refine ⟨?_, ?_, ?_, ?_, ?_⟩
  · exact OZ.Fungible.inv_of_updateSt hn hw.sh (some ow) none h.v0 h.hasShares (fun b e => nomatch e) h.shSup h.shBal
  · exact OZ.Fungible.inv_of_updateSt hn hw.ast (some s.vault) (some r) h.a0 h.hasAssets
      (fun b e => Option.some.inj e ▸ hr) h.astSup h.astBal
  · rw [h.offset]; exact hw.off
  · rw [h.vault]; exact hw.vin
  · intro sp; rw [h.vault, h.astAllow]; exact hw.noVaultAllow sp

theorem apply_wf {U : List Nat} (hn : U.Nodup) (c : Cfg) {s s' : State} {ret : Int} (hw : WF U s)
    (auth : List Nat) (op : Op) (hU : ∀ a ∈ op.addrs, a ∈ U) (hv : s.vault ∉ auth)
    (h : apply c s auth op = .ok (s', ret)) : WF U s' := by
  have k := apply_ok h
  cases op with
  | deposit sub a r f o | mint sub a r f o => exact inflow_wf hn hw (hU r (by simp [Op.addrs])) k.2.2.2.1
  | withdraw a r ow o | redeem a r ow o => exact outflow_wf hn hw (hU r (by simp [Op.addrs])) k.2.2.2.1
  | share op =>
    obtain ⟨-, sh, hsh, rfl⟩ := k
    obtain ⟨e1, e2, e3, e4⟩ := emitOpt_fields { s with sh := sh } (shareEvent op)
    have hi := (OZ.Fungible.apply_inv hn c hw.sh auth op hU hsh).1
    refine ⟨by rw [e1]; exact hi, by rw [e2]; exact hw.ast, by rw [e4]; exact hw.off,
      by rw [e3]; exact hw.vin, ?_⟩
    intro sp; rw [e2, e3]; exact hw.noVaultAllow sp
  | asset op =>
    obtain ⟨a, ha, rfl⟩ := k
    have hi := (OZ.Fungible.apply_inv hn c hw.ast auth op hU ha).1
    exact ⟨hw.sh, hi, hw.off, hw.vin, (OZ.Fungible.apply_passive ha s.vault hv hw.noVaultAllow).2⟩
  | advance n =>
    obtain rfl : s' = _ := k
    exact ⟨hw.sh.congr rfl rfl, hw.ast.congr rfl rfl, hw.off, hw.vin, hw.noVaultAllow⟩

theorem construct_eq_ok {vault offset now : Nat} {s : State} :
    construct vault offset now = .ok s ↔
      offset ≤ 10 ∧ s = ⟨OZ.Fungible.init now, OZ.Fungible.init now, vault, offset, []⟩ := by
  unfold construct MAX_DECIMALS_OFFSET
  split
  · exact ⟨nofun, fun h => by omega⟩
  · exact ⟨fun h => ⟨by omega, (Except.ok.inj h).symm⟩, fun h => congrArg _ h.2.symm⟩

theorem construct_wf {U : List Nat} {vault offset now : Nat} {s : State} (hv : vault ∈ U)
    (h : construct vault offset now = .ok s) : WF U s := by
  obtain ⟨ho, rfl⟩ := construct_eq_ok.1 h
  exact ⟨OZ.Fungible.init_inv U now, OZ.Fungible.init_inv U now, ho, hv, fun _ => rfl⟩

theorem apply_static {c : Cfg} {s s' : State} {ret : Int} {auth : List Nat} {op : Op}
    (h : apply c s auth op = .ok (s', ret)) : s'.vault = s.vault ∧ s'.offset = s.offset := by
  have k := apply_ok h
  cases op with
  | deposit | mint => exact ⟨k.2.2.2.1.vault, k.2.2.2.1.offset⟩
  | withdraw | redeem => exact ⟨k.2.2.2.1.vault, k.2.2.2.1.offset⟩
  | share op =>
    obtain ⟨-, sh, -, rfl⟩ := k
    obtain ⟨-, -, e3, e4⟩ := emitOpt_fields { s with sh := sh } (shareEvent op)
    exact ⟨e3, e4⟩
  | asset op => obtain ⟨a, -, rfl⟩ := k; exact ⟨rfl, rfl⟩
  | advance n => obtain rfl : s' = _ := k; exact ⟨rfl, rfl⟩

theorem apply_share_frame {c : Cfg} {s s' : State} {ret : Int} {auth : List Nat}
    {op : OZ.Fungible.Op} (h : apply c s auth (.share op) = .ok (s', ret)) :
    totalShares s' = totalShares s ∧ s'.ast = s.ast ∧ s'.vault = s.vault := by
  obtain ⟨hal, sh, hsh, rfl⟩ := apply_ok h
  obtain ⟨e1, e2, e3, -⟩ := emitOpt_fields { s with sh := sh } (shareEvent op)
  refine ⟨?_, e2, e3⟩
  unfold totalShares; rw [e1]; show sh.supply = _
  -- the three entry points the share token exposes have `supplyDelta` zero
  rw [OZ.Fungible.apply_supply hsh]
  cases op <;> simp [shareOpAllowed, OZ.Fungible.supplyDelta] at hal ⊢

theorem asset_frame {c : Cfg} {s s' : State} {ret : Int} {auth : List Nat} {op : OZ.Fungible.Op}
    (h : apply c s auth (.asset op) = .ok (s', ret)) : s'.sh = s.sh := by
  obtain ⟨a, -, rfl⟩ := apply_ok h
  rfl

theorem wf_pos {U : List Nat} {s : State} (hw : WF U s) :
    0 ≤ totalAssets s ∧ 0 ≤ totalShares s ∧ 1 ≤ (10 : Int) ^ s.offset :=
  ⟨hw.ast.nonneg s.vault, hw.sh.supLo, (pow10_bounds s.offset hw.off).1⟩

theorem wf_rate_pos {U : List Nat} {s : State} (hw : WF U s) :
    0 < totalAssets s + 1 ∧ 0 < totalShares s + 10 ^ s.offset := by
  obtain ⟨hA, hS, hV⟩ := wf_pos hw
  exact ⟨by omega, by omega⟩

/-- a payer that is the vault itself would have to have approved the operator, and the vault has
approved nobody: then nothing is paid -/
theorem inflow_assets {U : List Nat} {s s' : State} (hw : WF U s) {auth : List Nat} {sub : Bool}
    {r f o : Nat} {a v : Int} (ho : o ∈ auth) (hv : s.vault ∉ auth)
    (h : Inflow s s' (tokenAuth s auth sub) r f o a v) : totalAssets s' = totalAssets s + a := by
  unfold totalAssets
  rw [h.vault, h.astBal, moved_apply]
  by_cases hfv : s.vault = f
  · have hof : o ≠ f := fun e => hv (hfv ▸ e ▸ ho)
    obtain ⟨-, h2, -, -⟩ := h.via hof
    have h0 : OZ.Fungible.allowance s.ast f o = 0 := by
      rw [← hfv]; exact OZ.Fungible.allowance_none (hw.noVaultAllow o)
    have := h.a0
    have ha : a = 0 := by omega
    subst ha; simp
  · simp [hfv]

theorem outflow_assets {s s' : State} {r ow o : Nat} {a v : Int} (h : Outflow s s' r ow o a v) :
    totalAssets s' = totalAssets s - a + (if s.vault = r then a else 0) := by
  unfold totalAssets
  rw [h.vault, h.astBal, moved_apply]; simp

theorem shares_in128 {U : List Nat} (hn : U.Nodup) {s : State} (hw : WF U s) {x : Int} {ow : Nat}
    (h0 : 0 ≤ x) (hle : x ≤ s.sh.bal ow) : OZ.MulDiv.in128 x := by
  have h1 := OZ.Fungible.bal_le_supply hn hw.sh ow
  have h2 := hw.sh.supHi
  unfold OZ.MulDiv.in128 OZ.MulDiv.I128_MIN OZ.MulDiv.I128_MAX; unfold I128_MAX at h2; omega

/-! ### vocabulary of the C05 statements, rate arithmetic -/

/-- `assets` moved from `payer` to the vault on the asset token and `shares` were minted to
`receiver`; no other balance, no supply other than the share supply, no share allowance and
no asset allowance other than `payer → operator` (when they differ) changed -/
def MovedIn (s s' : State) (receiver payer operator : Nat) (assets shares : Int) : Prop :=
  (∀ x, s'.ast.bal x = s.ast.bal x - (if x = payer then assets else 0) + (if x = s.vault then assets else 0)) ∧
  (∀ x, s'.sh.bal x = s.sh.bal x + (if x = receiver then shares else 0)) ∧
  s'.sh.supply = s.sh.supply + shares ∧ s'.ast.supply = s.ast.supply ∧ s'.sh.allow = s.sh.allow ∧
  (∀ x y, ¬ (x = payer ∧ y = operator ∧ operator ≠ payer) → s'.ast.allow x y = s.ast.allow x y) ∧
  (operator ≠ payer → assets ≤ OZ.Fungible.allowance s.ast payer operator) ∧
  0 ≤ assets ∧ 0 ≤ shares ∧ assets ≤ s.ast.bal payer

/-- `shares` were burned from `owner`, `assets` moved from the vault to `receiver`; the share
allowance `owner → operator` is required (and is the only one touched) iff they differ -/
def MovedOut (s s' : State) (receiver owner operator : Nat) (assets shares : Int) : Prop :=
  (∀ x, s'.ast.bal x = s.ast.bal x - (if x = s.vault then assets else 0) + (if x = receiver then assets else 0)) ∧
  (∀ x, s'.sh.bal x = s.sh.bal x - (if x = owner then shares else 0)) ∧
  s'.sh.supply = s.sh.supply - shares ∧ s'.ast.supply = s.ast.supply ∧ s'.ast.allow = s.ast.allow ∧
  (∀ x y, ¬ (x = owner ∧ y = operator ∧ operator ≠ owner) → s'.sh.allow x y = s.sh.allow x y) ∧
  (operator ≠ owner → shares ≤ OZ.Fungible.allowance s.sh owner operator) ∧
  0 ≤ assets ∧ 0 ≤ shares ∧ shares ≤ s.sh.bal owner ∧ assets ≤ s.ast.bal s.vault

theorem inflow_movedIn {s s' : State} {tauth : List Nat} {r f o : Nat} {a v : Int}
    (h : Inflow s s' tauth r f o a v) : MovedIn s s' r f o a v := by
  refine ⟨fun x => by rw [h.astBal, moved_apply], ?_, h.shSup, h.astSup, h.shAllow, ?_, ?_,
    h.a0, h.v0, h.afford⟩
  · intro x; rw [h.shBal]
    by_cases hx : x = r
    · subst hx; rw [OZ.Host.upd_same, if_pos rfl]
    · rw [OZ.Host.upd_other _ _ _ _ hx, if_neg hx]; omega
  · intro x y hxy
    by_cases hof : o = f
    · rw [(h.direct hof).2]
    · exact (h.via hof).2.2.1 x y (fun e => hxy ⟨e.1, e.2, hof⟩)
  · intro hof; exact (h.via hof).2.1

theorem outflow_movedOut {s s' : State} {r ow o : Nat} {a v : Int}
    (h : Outflow s s' r ow o a v) : MovedOut s s' r ow o a v := by
  refine ⟨fun x => by rw [h.astBal, moved_apply], ?_, h.shSup, h.astSup, h.astAllow, ?_, ?_,
    h.a0, h.v0, h.hasShares, h.hasAssets⟩
  · intro x; rw [h.shBal]
    by_cases hx : x = ow
    · subst hx; rw [OZ.Host.upd_same, if_pos rfl]
    · rw [OZ.Host.upd_other _ _ _ _ hx, if_neg hx]; omega
  · intro x y hxy
    by_cases hoo : o = ow
    · rw [h.own hoo]
    · exact (h.spent hoo).2 x y (fun e => hxy ⟨e.1, e.2, hoo⟩)
  · intro hoo; exact (h.spent hoo).1

/-- `(A+1)/(S+V)` of `s` is at most that of `s'`, by cross-multiplication -/
def RateLe (s s' : State) : Prop :=
  (totalAssets s + 1) * (totalShares s' + 10 ^ s'.offset) ≤
  (totalAssets s' + 1) * (totalShares s + 10 ^ s.offset)

theorem rateLe_refl (s : State) : RateLe s s := Int.le_refl _

theorem inflow_rateLe {U : List Nat} {s s' : State} (hw : WF U s) {auth : List Nat} {sub : Bool}
    {r f o : Nat} {a v : Int} (ho : o ∈ auth) (hv : s.vault ∉ auth)
    (h : Inflow s s' (tokenAuth s auth sub) r f o a v)
    (hb : v * (totalAssets s + 1) ≤ a * (totalShares s + 10 ^ s.offset)) : RateLe s s' := by
  unfold RateLe
  rw [h.offset, inflow_assets hw ho hv h, show totalShares s' = totalShares s + v from h.shSup]
  linarith only [hb]

/-- when the receiver is the vault itself only shares are burned -/
theorem outflow_rateLe {U : List Nat} {s s' : State} (hw : WF U s) {r ow o : Nat} {a v : Int}
    (h : Outflow s s' r ow o a v)
    (hb : a * (totalShares s + 10 ^ s.offset) ≤ v * (totalAssets s + 1)) : RateLe s s' := by
  obtain ⟨hA, -, -⟩ := wf_pos hw
  unfold RateLe
  rw [h.offset, outflow_assets h, show totalShares s' = totalShares s - v from h.shSup]
  split
  · linarith only [Int.mul_nonneg (show 0 ≤ totalAssets s + 1 by omega) h.v0]
  · linarith only [hb]

theorem cross_le_trans {n1 d1 n2 d2 n3 d3 : Int} (h1 : 0 ≤ d1) (h2 : 0 < d2) (h3 : 0 ≤ d3)
    (r12 : n1 * d2 ≤ n2 * d1) (r23 : n2 * d3 ≤ n3 * d2) : n1 * d3 ≤ n3 * d1 := by
  -- `r12` times `d3` and `r23` times `d1` chain to the claim times `d2 > 0`
  have k1 := Int.mul_le_mul_of_nonneg_right r12 h3
  have k2 := Int.mul_le_mul_of_nonneg_left r23 h1
  refine Int.le_of_mul_le_mul_right (a := d2) ?_ h2
  linarith only [k1, k2]

theorem rateLe_trans {U : List Nat} {s1 s2 s3 : State} (h1 : WF U s1) (h2 : WF U s2) (h3 : WF U s3)
    (r12 : RateLe s1 s2) (r23 : RateLe s2 s3) : RateLe s1 s3 :=
  cross_le_trans (Int.le_of_lt (wf_rate_pos h1).2) (wf_rate_pos h2).2 (Int.le_of_lt (wf_rate_pos h3).2)
    r12 r23

theorem sum_floor_le (L : List Nat) (b : Nat → Int) (y d : Int) (hd : 0 < d) :
    d * OZ.Fungible.total L (fun u => OZ.MulDiv.exactQ .floor (b u) y d) ≤ y * OZ.Fungible.total L b := by
  induction L with
  | nil => simp [OZ.Fungible.total]
  | cons u us ih =>
    simp only [OZ.Fungible.total, List.map_cons, List.sum_cons] at *
    have := (le_exactQ_floor (x := b u) (y := y) hd).1 (Int.le_refl _)
    rw [Int.mul_add, Int.mul_add]
    linarith only [this, ih]

/-! ### the events of a call replayed -/

theorem replay_append (evs evs' : List Event) :
    replay (evs ++ evs') = evs'.foldl replayEvent (replay evs) := List.foldl_append

theorem apply_replayed {c : Cfg} {s s' : State} {ret : Int} {auth : List Nat} {op : Op}
    (h : apply c s auth op = .ok (s', ret)) :
    ∃ evs, s'.events = s.events ++ evs ∧ evs.foldl replayEvent s.sh.bal = s'.sh.bal := by
  have k := apply_ok h
  cases op with
  | deposit | mint => exact ⟨_, k.2.2.2.2, k.2.2.2.1.shBal.symm⟩
  | withdraw | redeem => exact ⟨_, k.2.2.2.2.1, k.2.2.2.1.shBal.symm⟩
  | share op =>
    obtain ⟨hal, sh, hsh, rfl⟩ := k
    cases op with
    | transfer f dst amt => exact ⟨[_], rfl, (transfer_ok hsh).2.2.2.2.2.2.symm⟩
    | transferFrom sp f dst amt => exact ⟨[_], rfl, (transferFrom_ok hsh).2.2.2.2.2.2.1.symm⟩
    | approve ow sp amt lu =>
      obtain ⟨-, s0, h0, rfl⟩ := OZ.Fungible.approve_ok hsh
      exact ⟨[_], rfl, (OZ.Fungible.setAllowance_ok h0).2.1.symm⟩
    | mint | burn | burnFrom | advance => cases hal
  | asset op => obtain ⟨a, -, rfl⟩ := k; exact ⟨[], (List.append_nil _).symm, rfl⟩
  | advance n => obtain rfl : s' = _ := k; exact ⟨[], (List.append_nil _).symm, rfl⟩

/-! ### when the token calls succeed -/

/-- `spend_allowance(owner, spender, amt)` gets through exactly when: the amount is not
negative, the live allowance covers it, and (for a positive amount) re-writing the entry with
its old `live_until_ledger` passes `set_allowance`'s own bound -/
def CanSpend (c : Cfg) (t : Tok) (o sp : Nat) (amt : Int) : Prop :=
  0 ≤ amt ∧ amt ≤ OZ.Fungible.allowance t o sp ∧
  (0 < amt → (OZ.Fungible.allowanceData t o sp).liveUntilLedger ≤ c.maxLiveUntil t.now)

theorem update_mint_succeeds_iff {U : List Nat} (hn : U.Nodup) {s : Tok} (hi : OZ.Fungible.Inv U s)
    (t : Nat) (a : Int) :
    (∃ s', OZ.Fungible.update s none (some t) a = .ok s') ↔ 0 ≤ a ∧ s.supply + a ≤ I128_MAX := by
  simp only [OZ.Fungible.update_succeeds_iff hn hi, exists_and_left, exists_eq, and_true]
  have := hi.supLo
  exact and_congr_right fun h0 => ⟨fun h => h.2, fun h => ⟨by unfold I128_MIN; omega, h⟩⟩

theorem transfer_succeeds_iff {U : List Nat} (hn : U.Nodup) {s : Tok} (hi : OZ.Fungible.Inv U s)
    (auth : List Nat) (f t : Nat) (a : Int) :
    (∃ s', OZ.Fungible.transfer s auth f t a = .ok s') ↔ f ∈ auth ∧ 0 ≤ a ∧ a ≤ s.bal f := by
  simp only [OZ.Fungible.transfer_eq_ok_iff, OZ.Fungible.updateCond_iff_of_inv hn hi, exists_and_left,
    exists_eq, and_true]
  rfl

/-! ### allowances across the two internal movers, as the getters read them -/

theorem withdrawInternal_allowances {c : Cfg} {s s' : State} {r ow o : Nat} {a v : Int}
    (h : withdrawInternal c s r ow a v o = .ok s') :
    (o ≠ ow → OZ.Fungible.allowance s'.sh ow o = OZ.Fungible.allowance s.sh ow o - v) ∧
    (∀ x y, ¬ (x = ow ∧ y = o ∧ o ≠ ow) →
      OZ.Fungible.allowance s'.sh x y = OZ.Fungible.allowance s.sh x y) ∧
    (∀ x y, OZ.Fungible.allowance s'.ast x y = OZ.Fungible.allowance s.ast x y) := by
  obtain ⟨hout, -, hx, -⟩ := withdrawInternal_ok h
  refine ⟨hx, fun x y hxy => ?_, OZ.Fungible.allowance_congr hout.astAllow hout.astNow⟩
  by_cases hoo : o = ow
  · exact OZ.Fungible.allowance_congr (hout.own hoo) hout.shNow x y
  · exact OZ.Fungible.allowance_congr_entry ((hout.spent hoo).2 x y fun e => hxy ⟨e.1, e.2, hoo⟩) hout.shNow

theorem depositInternal_allowances {c : Cfg} {s s' : State} {tauth : List Nat} {r f o : Nat}
    {a v : Int} (h : depositInternal c s tauth r a v f o = .ok s') :
    (o ≠ f → OZ.Fungible.allowance s'.ast f o = OZ.Fungible.allowance s.ast f o - a) ∧
    (∀ x y, ¬ (x = f ∧ y = o ∧ o ≠ f) →
      OZ.Fungible.allowance s'.ast x y = OZ.Fungible.allowance s.ast x y) ∧
    (∀ x y, OZ.Fungible.allowance s'.sh x y = OZ.Fungible.allowance s.sh x y) := by
  obtain ⟨hin, -, hx⟩ := depositInternal_ok h
  refine ⟨hx, fun x y hxy => ?_, OZ.Fungible.allowance_congr hin.shAllow hin.shNow⟩
  by_cases hof : o = f
  · exact OZ.Fungible.allowance_congr (hin.direct hof).2 hin.astNow x y
  · exact OZ.Fungible.allowance_congr_entry ((hin.via hof).2.2.1 x y fun e => hxy ⟨e.1, e.2, hof⟩) hin.astNow

/-! ### when the internal movers succeed; feasibility of exits -/

/-- who has to be in the asset token's authorizing set, and what the payer needs -/
def CanPull (c : Cfg) (s : State) (tauth : List Nat) (f o : Nat) (assets : Int) : Prop :=
  0 ≤ assets ∧ assets ≤ s.ast.bal f ∧
  (if o = f then f ∈ tauth else o ∈ tauth ∧ CanSpend c s.ast f o assets)

theorem pullAssets_succeeds_iff {U : List Nat} (hn : U.Nodup) {c : Cfg} {s : State} (hw : WF U s)
    (tauth : List Nat) (f o : Nat) (a : Int) :
    (∃ t, pullAssets c s tauth f o a = .ok t) ↔ CanPull c s tauth f o a := by
  unfold pullAssets CanPull
  by_cases hof : o = f
  · rw [if_pos hof, if_pos hof]
    simp only [liftA_ok_iff]
    rw [transfer_succeeds_iff hn hw.ast]
    constructor
    · rintro ⟨h1, h2, h3⟩; exact ⟨h2, h3, h1⟩
    · rintro ⟨h2, h3, h1⟩; exact ⟨h1, h2, h3⟩
  · rw [if_neg hof, if_neg hof]
    simp only [liftA_ok_iff]
    rw [OZ.Fungible.transferFrom_succeeds_iff hn hw.ast]
    constructor
    · rintro ⟨h1, h2, h3⟩; exact ⟨h2.1, h3, h1, h2⟩
    · rintro ⟨-, h3, h1, h2⟩; exact ⟨h1, h2, h3⟩

theorem depositInternal_succeeds_iff {U : List Nat} (hn : U.Nodup) {c : Cfg} {s : State}
    (hw : WF U s) (tauth : List Nat) (r f o : Nat) (a v : Int) :
    (∃ s', depositInternal c s tauth r a v f o = .ok s') ↔
      CanPull c s tauth f o a ∧ 0 ≤ v ∧ s.sh.supply + v ≤ I128_MAX := by
  unfold depositInternal
  rw [exists_bind_eq_ok_iff]
  constructor
  · rintro ⟨t, h1, s', h2⟩
    obtain ⟨sh, h3, -⟩ := bind_eq_ok h2
    exact ⟨(pullAssets_succeeds_iff hn hw tauth f o a).1 ⟨t, h1⟩,
      (update_mint_succeeds_iff hn hw.sh r v).1 ⟨sh, liftS_ok h3⟩⟩
  · rintro ⟨h1, h2⟩
    obtain ⟨t, ht⟩ := (pullAssets_succeeds_iff hn hw tauth f o a).2 h1
    obtain ⟨sh, hsh⟩ := (update_mint_succeeds_iff hn hw.sh r v).2 h2
    refine ⟨t, ht, { s with ast := t, sh := sh }, ?_⟩
    rw [hsh]; rfl

theorem withdrawInternal_succeeds_iff {U : List Nat} (hn : U.Nodup) {c : Cfg} {s : State}
    (hw : WF U s) (r ow o : Nat) (a v : Int) :
    (∃ s', withdrawInternal c s r ow a v o = .ok s') ↔
      (o ≠ ow → CanSpend c s.sh ow o v) ∧ 0 ≤ v ∧ v ≤ s.sh.bal ow ∧ 0 ≤ a ∧ a ≤ totalAssets s := by
  constructor
  · rintro ⟨s', h⟩
    obtain ⟨hout, -⟩ := withdrawInternal_ok h
    obtain ⟨sh1, h1, -⟩ := bind_eq_ok h
    refine ⟨fun hne => ?_, hout.v0, hout.hasShares, hout.a0, hout.hasAssets⟩
    unfold spendShares at h1
    rw [if_neg hne] at h1
    exact (OZ.Fungible.spendAllowance_succeeds_iff c s.sh ow o v).1 ⟨sh1, liftS_ok h1⟩
  · rintro ⟨h1, h2, h3, h4, h5⟩
    have hs1 : ∃ sh1, spendShares c s ow o v = .ok sh1 ∧ sh1.supply = s.sh.supply ∧ sh1.bal = s.sh.bal := by
      unfold spendShares
      by_cases hoo : o = ow
      · rw [if_pos hoo]; exact ⟨s.sh, rfl, rfl, rfl⟩
      · rw [if_neg hoo]
        obtain ⟨sh1, hsh1⟩ := (OZ.Fungible.spendAllowance_succeeds_iff c s.sh ow o v).2 (h1 hoo)
        obtain ⟨e1, e2, -⟩ := OZ.Fungible.spendAllowance_ok hsh1
        exact ⟨sh1, by rw [hsh1]; rfl, e1, e2⟩
    obtain ⟨sh1, hsh1, e1, e2⟩ := hs1
    have hsh2 := (OZ.Fungible.update_succeeds_iff hn (hw.sh.congr e1 e2) (some ow) none v _).2
      ⟨⟨h2, show v ≤ sh1.bal ow by rw [e2]; exact h3⟩, rfl⟩
    obtain ⟨ast, hast⟩ := (transfer_succeeds_iff hn hw.ast [s.vault] s.vault r a).2
      ⟨List.mem_singleton.2 rfl, h4, h5⟩
    unfold withdrawInternal
    rw [hsh1, ok_bind, hsh2]
    show ∃ s', (liftA (OZ.Fungible.transfer s.ast [s.vault] s.vault r a) >>= _) = _
    rw [hast]
    exact ⟨_, rfl⟩

/-- `x ≤ S < S + V` gives `x·(A+1) < (A+1)·(S+V)` -/
theorem floor_claim_le_assets {U : List Nat} {s : State} (hw : WF U s) {x : Int}
    (hx : x ≤ totalShares s) :
    OZ.MulDiv.exactQ .floor x (totalAssets s + 1) (totalShares s + 10 ^ s.offset) ≤ totalAssets s := by
  obtain ⟨hA, hS, hV⟩ := wf_pos hw
  have k := Int.mul_lt_mul_of_pos_right (show x < totalShares s + 10 ^ s.offset by omega)
    (show 0 < totalAssets s + 1 by omega)
  exact Int.lt_add_one_iff.1 ((exactQ_floor_lt (by omega)).2 (by linarith only [k]))

theorem withdraw_feasible {U : List Nat} (hn : U.Nodup) {s : State} (hw : WF U s) {ow : Nat}
    {a m v : Int} (hm : maxWithdraw s ow = .ok m) (ha : a ≤ m)
    (hp : previewWithdraw s a = .ok v) : v ≤ s.sh.bal ow ∧ a ≤ totalAssets s ∧ 0 ≤ v ∧ 0 ≤ a := by
  obtain ⟨hN, hD⟩ := wf_rate_pos hw
  obtain ⟨-, e1, -⟩ := convertToAssets_ok hm
  obtain ⟨ha0, e2, -⟩ := convertToShares_ok hp
  refine ⟨?_, ?_, ?_, ha0⟩
  · -- `a·(S+V) ≤ m·(S+V) ≤ bal·(A+1)`, so the ceiling of `a·(S+V)/(A+1)` is at most `bal`
    rw [e2, exactQ_ceil_le hN]
    exact Int.le_trans (Int.mul_le_mul_of_nonneg_right ha (Int.le_of_lt hD))
      ((le_exactQ_floor hD).1 (Int.le_of_eq e1))
  · rw [e1] at ha
    exact Int.le_trans ha (floor_claim_le_assets hw (OZ.Fungible.bal_le_supply hn hw.sh ow))
  · rw [e2]; exact exactQ_nonneg .ceil a _ _ ha0 (Int.le_of_lt hD) hN (by decide)

theorem redeem_feasible {U : List Nat} (hn : U.Nodup) {s : State} (hw : WF U s) {ow : Nat}
    {x a : Int} (hx : x ≤ s.sh.bal ow) (hp : previewRedeem s x = .ok a) :
    a ≤ totalAssets s ∧ 0 ≤ a ∧ 0 ≤ x := by
  obtain ⟨hN, hD⟩ := wf_rate_pos hw
  obtain ⟨hx0, rfl, -⟩ := convertToAssets_ok hp
  exact ⟨floor_claim_le_assets hw (Int.le_trans hx (OZ.Fungible.bal_le_supply hn hw.sh ow)),
    exactQ_nonneg .floor x _ _ hx0 (Int.le_of_lt hN) hD (by decide), hx0⟩

theorem floor_claim_mono (b b' a a' t t' : Int) (hb : 0 ≤ b) (hbb : b ≤ b') (ha' : 0 < a')
    (ht : 0 < t) (ht' : 0 < t') (hr : a * t' ≤ a' * t) :
    OZ.MulDiv.exactQ .floor b a t ≤ OZ.MulDiv.exactQ .floor b' a' t' := by
  have f1 := (le_exactQ_floor (x := b) (y := a) ht).1 (Int.le_refl _)
  rw [le_exactQ_floor ht']
  generalize OZ.MulDiv.exactQ .floor b a t = q at *
  -- `q·t'·t ≤ b·a·t' ≤ b·a'·t ≤ b'·a'·t`, then cancel `t`
  have k1 := Int.mul_le_mul_of_nonneg_right f1 (Int.le_of_lt ht')
  have k2 := Int.mul_le_mul_of_nonneg_left hr hb
  have k3 := Int.mul_le_mul_of_nonneg_right hbb (Int.mul_nonneg (Int.le_of_lt ha') (Int.le_of_lt ht))
  refine Int.le_of_mul_le_mul_right (a := t) ?_ ht
  linarith only [k1, k2, k3]

/-! ### a passive user: signs nothing, approved nobody -/

theorem inflow_passive {s s' : State} {tauth : List Nat} {r f o : Nat} {a v : Int}
    (h : Inflow s s' tauth r f o a v) (u : Nat) (hnone : ∀ sp, s.sh.allow u sp = none) :
    s.sh.bal u ≤ s'.sh.bal u ∧ ∀ sp, s'.sh.allow u sp = none := by
  refine ⟨?_, fun sp => by rw [h.shAllow]; exact hnone sp⟩
  rw [h.shBal]; have := h.v0
  by_cases hx : u = r
  · subst hx; rw [OZ.Host.upd_same]; omega
  · rw [OZ.Host.upd_other _ _ _ _ hx]

/-- shares of `u` can only be burned by another operator through `u`'s allowance, and `u` has
none: then nothing is burned and (`hz`) the allowance table is untouched -/
theorem outflow_passive {s s' : State} {auth : List Nat} {r ow o : Nat} {a v : Int}
    (h : Outflow s s' r ow o a v) (ho : o ∈ auth) (hz : v = 0 → s'.sh.allow = s.sh.allow)
    (u : Nat) (hu : u ∉ auth) (hnone : ∀ sp, s.sh.allow u sp = none) :
    s.sh.bal u ≤ s'.sh.bal u ∧ ∀ sp, s'.sh.allow u sp = none := by
  by_cases hx : u = ow
  · have hne : o ≠ ow := fun e => hu (hx ▸ e ▸ ho)
    have hv : v = 0 := by
      have h1 := (h.spent hne).1
      rw [← hx, OZ.Fungible.allowance_none (hnone o)] at h1
      have := h.v0; omega
    refine ⟨?_, fun sp => ?_⟩
    · rw [h.shBal, hx, OZ.Host.upd_same, hv]; omega
    · rw [hz hv]; exact hnone sp
  · refine ⟨?_, fun sp => ?_⟩
    · rw [h.shBal, OZ.Host.upd_other _ _ _ _ hx]
    · by_cases hoo : o = ow
      · rw [h.own hoo]; exact hnone sp
      · rw [(h.spent hoo).2 u sp (fun e => hx e.1)]; exact hnone sp

theorem apply_passive {c : Cfg} {s s' : State} {ret : Int} (auth : List Nat)
    (op : Op) (u : Nat) (hu : u ∉ auth) (hnone : ∀ sp, s.sh.allow u sp = none)
    (h : apply c s auth op = .ok (s', ret)) :
    s.sh.bal u ≤ s'.sh.bal u ∧ ∀ sp, s'.sh.allow u sp = none := by
  have k := apply_ok h
  cases op with
  | deposit | mint => exact inflow_passive k.2.2.2.1 u hnone
  | withdraw | redeem => exact outflow_passive k.2.2.2.1 k.1 k.2.2.2.2.2 u hu hnone
  | share op =>
    obtain ⟨-, sh, hsh, rfl⟩ := k
    obtain ⟨e1, -, -, -⟩ := emitOpt_fields { s with sh := sh } (shareEvent op)
    rw [e1]
    exact OZ.Fungible.apply_passive hsh u hu hnone
  | asset op => obtain ⟨a, -, rfl⟩ := k; exact ⟨Int.le_refl _, hnone⟩
  | advance n => obtain rfl : s' = _ := k; exact ⟨Int.le_refl _, hnone⟩

/-- a rejected invocation changes nothing -/
theorem run_keeps {c : Cfg} (P : State → Prop) (ops : List (List Nat × Op))
    (hstep : ∀ x ∈ ops, ∀ s s' ret, P s → apply c s x.1 x.2 = .ok (s', ret) → P s') {s : State} (h : P s) :
    P (run c s ops) := by
  refine OZ.Lists.foldl_keeps (fun s x hs hx => ?_) ops s h hstep
  unfold step
  split
  · next r hok => exact hx s r.1 r.2 hs hok
  · exact hs

/-- test helpers -/
def okAnd (r : Except Err (State × Int)) (p : State → Int → Bool) : Bool :=
  match r with
  | .ok (s, a) => p s a
  | .error _ => false

def errIs (r : Except Err (State × Int)) (e : Err) : Bool :=
  match r with
  | .ok _ => false
  | .error e' => e' == e

end OZ.Vault
