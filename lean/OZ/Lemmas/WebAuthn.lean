import OZ.Model.WebAuthn
import OZ.Lemmas.Base64Url
import OZ.Lemmas.Except
/-
Each check of `verify` succeeds exactly under its condition; `verify` is the conjunction.
-/
namespace OZ.WebAuthn
open OZ.B64

theorem guard_ok {ε} {c : Prop} [Decidable c] {e : ε} {u : Unit} :
    (if c then Except.error e else Except.ok ()) = .ok u ↔ ¬ c :=
  ite_error_eq_ok_iff.trans (and_iff_left rfl)

theorem checkClientDataLen_ok (cd : Bytes) (u : Unit) :
    checkClientDataLen cd = .ok u ↔ cd.length ≤ 1024 :=
  guard_ok.trans Nat.not_lt

theorem parseClientData_ok (O : Oracles) (cd : Bytes) (j : ClientDataJson) :
    parseClientData O cd = .ok j ↔ O.parse cd = some j := by
  unfold parseClientData; cases O.parse cd <;> simp

theorem validateExpectedType_ok (j : ClientDataJson) (u : Unit) :
    validateExpectedType j = .ok u ↔ j.typeField = WEBAUTHN_GET :=
  guard_ok.trans Classical.not_not

theorem extract_whole (payload : Bytes) :
    extractFromBytes 32 payload 0 none = if payload.length = 32 then some payload else none := by
  unfold extractFromBytes rangeEnd
  simp only [Nat.sub_zero, List.drop_zero, List.take_length, gt_iff_lt, Nat.lt_irrefl, false_or, ne_eq, ite_not]

theorem extract_prefix (N : Nat) (data : Bytes) :
    extractFromBytes N data 0 (some N) = if N ≤ data.length then some (data.take N) else none := by
  unfold extractFromBytes rangeEnd
  simp only [Nat.sub_zero, List.drop_zero, gt_iff_lt, ne_eq, not_true, or_false, ← Nat.not_le, ite_not]

theorem encodeInto_43 (p : Bytes) (h : p.length = 32) :
    encodeInto (List.replicate 43 0) p = some (encode p) := by
  unfold encodeInto
  have hl : (encode p).length = 43 := by rw [encode_length, h]
  rw [hl]
  simp

theorem compareChallenge_ok (j : ClientDataJson) (p : Bytes) (h : p.length = 32) (u : Unit) :
    compareChallenge j p = .ok u ↔ j.challenge = encode p := by
  unfold compareChallenge
  rw [encodeInto_43 p h]
  exact guard_ok.trans Classical.not_not

theorem validateChallenge_ok (j : ClientDataJson) (payload : Bytes) (u : Unit) :
    validateChallenge j payload = .ok u ↔ payload.length = 32 ∧ j.challenge = encode payload := by
  unfold validateChallenge
  rw [extract_whole]
  by_cases h : payload.length = 32
  · rw [if_pos h]; exact (compareChallenge_ok j payload h u).trans (iff_and_self.mpr fun _ => h)
  · rw [if_neg h]; exact ⟨fun h' => (nomatch h'), fun h' => absurd h'.1 h⟩

theorem validateChallengeLegacy_ok (j : ClientDataJson) (payload : Bytes) (u : Unit) :
    validateChallengeLegacy j payload = .ok u ↔ 32 ≤ payload.length ∧ j.challenge = encode (payload.take 32) := by
  unfold validateChallengeLegacy
  rw [extract_prefix]
  by_cases h : 32 ≤ payload.length
  · rw [if_pos h]
    exact (compareChallenge_ok j _ (List.length_take_of_le h) u).trans (iff_and_self.mpr fun _ => h)
  · rw [if_neg h]; exact ⟨fun h' => (nomatch h'), fun h' => absurd h'.1 h⟩

theorem flagSet_iff (f : Byte) (m : Nat) : flagSet f m = true ↔ (f.toNat &&& m) ≠ 0 := by
  simp [flagSet]

theorem and_two_pow_ne_zero (n i : Nat) : n &&& 2 ^ i ≠ 0 ↔ n / 2 ^ i % 2 = 1 := by
  have hbit (j : Nat) : (n &&& 2 ^ i).testBit j = (n.testBit j && decide (i = j)) := by
    rw [Nat.testBit_and, Nat.testBit_two_pow]
  rw [← decide_eq_true_iff (p := n / 2 ^ i % 2 = 1), ← Nat.testBit_eq_decide_div_mod_eq]
  constructor
  · intro h
    obtain ⟨j, hj⟩ := Nat.exists_testBit_of_ne_zero h
    rw [hbit] at hj
    simp only [Bool.and_eq_true, decide_eq_true_eq] at hj
    rw [hj.2]; exact hj.1
  · intro h h0
    have := hbit i
    rw [h0, h] at this
    simp at this

theorem flagSet_two_pow (f : Byte) (i : Nat) : flagSet f (2 ^ i) = true ↔ f.toNat / 2 ^ i % 2 = 1 := by
  rw [flagSet_iff, and_two_pow_ne_zero]

theorem checkAuthDataLen_ok (ad : Bytes) (u : Unit) : checkAuthDataLen ad = .ok u ↔ 37 ≤ ad.length :=
  guard_ok.trans Nat.not_lt

theorem flagsByte_ok (ad : Bytes) (f : Byte) : flagsByte ad = .ok f ↔ ad[32]? = some f := by
  unfold flagsByte; cases ad[32]? <;> simp

theorem validateUP_ok (f : Byte) (u : Unit) :
    validateUserPresentBitSet f = .ok u ↔ flagSet f AUTH_DATA_FLAGS_UP = true :=
  guard_ok.trans (flagSet_iff f _).symm

theorem validateUV_ok (f : Byte) (u : Unit) :
    validateUserVerifiedBitSet f = .ok u ↔ flagSet f AUTH_DATA_FLAGS_UV = true :=
  guard_ok.trans (flagSet_iff f _).symm

theorem validateBackup_ok (f : Byte) (u : Unit) :
    validateBackupEligibilityAndState f = .ok u ↔
      ¬ (flagSet f AUTH_DATA_FLAGS_BE = false ∧ flagSet f AUTH_DATA_FLAGS_BS = true) := by
  have hbe : flagSet f AUTH_DATA_FLAGS_BE = false ↔ (f.toNat &&& AUTH_DATA_FLAGS_BE) = 0 := by simp [flagSet]
  rw [flagSet_iff, hbe]
  exact guard_ok

theorem checkSignature_eq_ok (O : Oracles) (key sig ad cd : Bytes) (b : Bool) :
    checkSignature O key sig ad cd = .ok b ↔
      O.p256Verify key (O.sha256 (ad ++ O.sha256 cd)) sig = true ∧ b = true := by
  unfold checkSignature
  cases O.p256Verify key (O.sha256 (ad ++ O.sha256 cd)) sig <;> cases b <;> simp

theorem verifyRest_eq_ok (O : Oracles) (key sig ad cd : Bytes) (b : Bool) :
    verifyRest O key sig ad cd = .ok b ↔
      37 ≤ ad.length ∧
      (∃ f, ad[32]? = some f ∧ flagSet f AUTH_DATA_FLAGS_UP = true ∧ flagSet f AUTH_DATA_FLAGS_UV = true ∧
        ¬ (flagSet f AUTH_DATA_FLAGS_BE = false ∧ flagSet f AUTH_DATA_FLAGS_BS = true)) ∧
      O.p256Verify key (O.sha256 (ad ++ O.sha256 cd)) sig = true ∧ b = true := by
  unfold verifyRest
  simp only [bind_eq_ok_iff, checkAuthDataLen_ok, flagsByte_ok, validateUP_ok, validateUV_ok, validateBackup_ok,
    checkSignature_eq_ok, exists_const, ← exists_and_right, and_assoc]

theorem verifyRest_ne_false (O : Oracles) (key sig ad cd : Bytes) : verifyRest O key sig ad cd ≠ .ok false :=
  fun h => nomatch ((verifyRest_eq_ok O key sig ad cd false).mp h).2.2.2

theorem verifyWith_eq_ok (O : Oracles) (key : Bytes) (sd : SigData) (vc : ClientDataJson → Except Err Unit)
    (L : Prop) (C : ClientDataJson → Prop) (hvc : ∀ j u, vc j = .ok u ↔ L ∧ C j) (b : Bool) :
    (do checkClientDataLen sd.clientData
        let j ← parseClientData O sd.clientData
        validateExpectedType j
        vc j
        verifyRest O key sd.signature sd.authenticatorData sd.clientData) = .ok b ↔
      sd.clientData.length ≤ 1024 ∧
      (∃ j, O.parse sd.clientData = some j ∧ j.typeField = WEBAUTHN_GET ∧ C j) ∧ L ∧
      verifyRest O key sd.signature sd.authenticatorData sd.clientData = .ok b := by
  simp only [bind_eq_ok_iff, checkClientDataLen_ok, parseClientData_ok, validateExpectedType_ok, hvc, exists_const,
    ← exists_and_right, and_assoc, and_left_comm (a := L)]

theorem verify_eq_ok (O : Oracles) (payload key : Bytes) (sd : SigData) (b : Bool) :
    verify O payload key sd = .ok b ↔
      sd.clientData.length ≤ 1024 ∧
      (∃ j, O.parse sd.clientData = some j ∧ j.typeField = WEBAUTHN_GET ∧ j.challenge = encode payload) ∧
      payload.length = 32 ∧
      verifyRest O key sd.signature sd.authenticatorData sd.clientData = .ok b :=
  verifyWith_eq_ok O key sd _ _ _ (fun j => validateChallenge_ok j payload) b

/-- `verifyLegacy` reads the challenge from the range `0..32` of the payload: the challenge only has to
encode the first 32 bytes of a payload of ANY length ≥ 32 -/
theorem verifyLegacy_ok (O : Oracles) (payload key : Bytes) (sd : SigData) :
    verifyLegacy O payload key sd = .ok true ↔
      sd.clientData.length ≤ 1024 ∧
      (∃ j, O.parse sd.clientData = some j ∧ j.typeField = WEBAUTHN_GET ∧ j.challenge = encode (payload.take 32)) ∧
      32 ≤ payload.length ∧
      verifyRest O key sd.signature sd.authenticatorData sd.clientData = .ok true :=
  verifyWith_eq_ok O key sd _ _ _ (fun j => validateChallengeLegacy_ok j payload) true

theorem decodeSigData_ok (O : Oracles) (x : Bytes) (sd : SigData) : decodeSigData O x = .ok sd ↔ O.fromXdr x = some sd := by
  unfold decodeSigData; cases O.fromXdr x <;> simp

theorem extractPubKey_ok (kd k : Bytes) : extractPubKey kd = .ok k ↔ 65 ≤ kd.length ∧ k = kd.take 65 := by
  unfold extractPubKey
  rw [extract_prefix]
  by_cases h : 65 ≤ kd.length
  · rw [if_pos h]; exact ⟨fun h' => by cases h'; exact ⟨h, rfl⟩, fun h' => by rw [h'.2]⟩
  · rw [if_neg h]; exact ⟨fun h' => (nomatch h'), fun h' => absurd h'.1 h⟩

theorem exampleVerify_eq_ok (O : Oracles) (payload keyData sigData : Bytes) (b : Bool) :
    exampleVerify O payload keyData sigData = .ok b ↔
      ∃ sd, O.fromXdr sigData = some sd ∧ 65 ≤ keyData.length ∧
        verify O payload (keyData.take 65) sd = .ok b := by
  unfold exampleVerify
  simp only [bind_eq_ok_iff, decodeSigData_ok, extractPubKey_ok, and_assoc, exists_and_left, exists_eq_left]

end OZ.WebAuthn
