import OZ.Lemmas.SmartAccountInv
import OZ.Lemmas.Lists
import OZ.Model.SmartAccountMon
/-
The ghost list `allRules s` (all stored rules of a model store by ascending id) that the C03 monitor's own rule list must
equal; the monitor's `sortDedup` / `mergeSort` against the model's `mapKeys` / id lists; and the per-type id lists of a
store in closed form, from which the ghost list restricted to one type is read off.
-/
namespace OZ.SmartAccount.Mon
open OZ.SmartAccount OZ.Lists

variable {s : Store} {id : Nat} {r : Rule}

theorem insertSorted_eq (x : Nat) (l : List Nat) : insertSorted x l = insertKey x l := by
  induction l with
  | nil => rfl
  | cons y ys ih =>
    unfold insertSorted insertKey
    by_cases h1 : x < y
    · rw [if_pos h1, if_pos h1]
    · rw [if_neg h1, if_neg h1]
      by_cases h2 : x = y
      · rw [if_pos h2, if_pos (by simp [h2])]
      · rw [if_neg h2, if_neg (by simp [h2]), ih]

theorem sortDedup_eq (l : List Nat) : sortDedup l = mapKeys l := by
  induction l with
  | nil => rfl
  | cons x xs ih =>
    show insertSorted x (sortDedup xs) = insertKey x (mapKeys xs)
    rw [ih, insertSorted_eq]

theorem byIdAsc_of_sorted (l : List GRule) (h : l.Pairwise (fun a b => a.id < b.id)) : byIdAsc l = l := by
  unfold byIdAsc
  apply List.mergeSort_of_pairwise
  exact h.imp (fun hab => by simpa using Nat.le_of_lt hab)

theorem byIdDesc_of_sorted (l : List GRule) (h : l.Pairwise (fun a b => a.id < b.id)) : byIdDesc l = l.reverse := by
  unfold byIdDesc
  have hperm := List.mergeSort_perm l (fun a b => decide (a.id ≥ b.id))
  have hsorted : (l.mergeSort (fun a b => decide (a.id ≥ b.id))).Pairwise (fun a b => decide (a.id ≥ b.id) = true) :=
    List.pairwise_mergeSort (le := fun a b => decide (a.id ≥ b.id))
      (fun a b c hab hbc => by simp at hab hbc ⊢; omega) (fun a b => by simp; omega) l
  refine List.Perm.eq_of_pairwise (le := fun a b => b.id < a.id)
    (fun _ _ _ _ hab hba => absurd hab (Nat.lt_asymm hba)) ?_ ?_ (hperm.trans (List.reverse_perm l).symm)
  · -- strict: ids are distinct
    have hne : (l.mergeSort (fun a b => decide (a.id ≥ b.id))).Pairwise (fun a b => a.id ≠ b.id) := by
      have hl : l.Pairwise (fun a b => a.id ≠ b.id) := h.imp (fun hab => Nat.ne_of_lt hab)
      exact (hperm.pairwise_iff (fun {a b} (hab : a.id ≠ b.id) => (Ne.symm hab : b.id ≠ a.id))).mpr hl
    exact (hsorted.and hne).imp (fun ⟨h1, h2⟩ => by simp at h1; omega)
  · rw [List.pairwise_reverse]; exact h

def gAt (s : Store) (id : Nat) : Option GRule :=
  match getContextRule s id with
  | .ok r => some (toG r)
  | .error _ => none

def allRules (s : Store) : List GRule := (List.range s.nextId).filterMap (gAt s)

theorem gAt_some {g : GRule} :
    gAt s id = some g ↔ ∃ r, getContextRule s id = .ok r ∧ toG r = g := by
  unfold gAt
  cases h : getContextRule s id with
  | error e => simp
  | ok r => simp

theorem gAt_id {g : GRule} (h : gAt s id = some g) : g.id = id := by
  obtain ⟨r, hr, hg⟩ := gAt_some.mp h
  rw [← hg]; exact getContextRule_id hr

theorem gAt_none_of_ge (hI : Inv s) (h : s.nextId ≤ id) : gAt s id = none := by
  unfold gAt
  cases hg : getContextRule s id with
  | error e => rfl
  | ok r =>
    obtain ⟨m, hm, _⟩ := (getContextRule_ok_iff s id r).mp hg
    have := hI.lt_next id m hm
    omega

theorem allRules_sorted (s : Store) : (allRules s).Pairwise (fun a b => a.id < b.id) :=
  KeyTab.sorted (fun _ _ h => gAt_id h) _

theorem mem_allRules (hI : Inv s) {g : GRule} :
    g ∈ allRules s ↔ ∃ r, getContextRule s g.id = .ok r ∧ toG r = g := by
  unfold allRules
  rw [List.mem_filterMap]
  constructor
  · rintro ⟨i, _, hi⟩
    have := gAt_id hi
    subst this
    exact gAt_some.mp hi
  · rintro ⟨r, hr, hg⟩
    refine ⟨g.id, ?_, gAt_some.mpr ⟨r, hr, hg⟩⟩
    obtain ⟨m, hm, _⟩ := (getContextRule_ok_iff s g.id r).mp hr
    exact List.mem_range.mpr (hI.lt_next _ m hm)

theorem allRules_find (hI : Inv s) (h : getContextRule s id = .ok r) :
    (allRules s).find? (fun g => g.id == id) = some (toG r) := by
  obtain ⟨m, hm, _⟩ := (getContextRule_ok_iff s id r).mp h
  unfold allRules
  rw [KeyTab.find (fun _ _ h => gAt_id h), if_pos (hI.lt_next _ m hm)]
  unfold gAt; rw [h]

def hasType (s : Store) (t : RuleType) (i : Nat) : Bool :=
  match s.metas i with
  | some m => decide (m.ctype = t)
  | none => false

def idsOfType (s : Store) (t : RuleType) : List Nat := (List.range s.nextId).filter (hasType s t)

theorem hasType_iff (t : RuleType) (i : Nat) : hasType s t i = true ↔ ∃ m, s.metas i = some m ∧ m.ctype = t := by
  unfold hasType
  cases s.metas i <;> simp

theorem ids_eq_of_inv (hI : Inv s) (t : RuleType) : s.ids t = idsOfType s t := by
  refine eq_of_lt_of_mem (hI.sorted t) (List.pairwise_lt_range.sublist List.filter_sublist) fun i => ?_
  rw [idsOfType, List.mem_filter, hasType_iff, hI.ids_meta, List.mem_range]
  exact ⟨fun ⟨m, hm, ht⟩ => ⟨hI.lt_next i m hm, m, hm, ht⟩, fun h => h.2⟩

theorem allRules_filter_ty (hI : Inv s) (t : RuleType) :
    (allRules s).filter (fun g => g.ty == t) = (s.ids t).filterMap (gAt s) := by
  rw [ids_eq_of_inv hI, allRules, idsOfType, List.filter_filterMap, List.filterMap_filter]
  refine filterMap_congr fun i _ => ?_
  unfold gAt getContextRule hasType
  cases s.metas i with
  | none => rfl
  | some m => by_cases h : m.ctype = t <;> simp [Option.filter, toG, h]

theorem allRules_length (hI : Inv s) : (allRules s).length = s.count := by
  rw [hI.count_eq, allRules, List.length_filterMap_eq_countP, List.countP_eq_length_filter]
  congr 2
  funext i
  unfold gAt getContextRule
  cases s.metas i <;> rfl

theorem getContextRules_toG (s : Store) (ids : List Nat) : (∀ id ∈ ids, ∃ r, getContextRule s id = .ok r) →
    ∃ rs, getContextRules s ids = .ok rs ∧ rs.map toG = ids.filterMap (gAt s) := by
  induction ids with
  | nil => intro _; exact ⟨[], rfl, rfl⟩
  | cons id rest ih =>
    intro h
    obtain ⟨r, hr⟩ := h id (by simp)
    obtain ⟨rs, hrs, hmap⟩ := ih (fun i hi => h i (List.mem_cons_of_mem _ hi))
    refine ⟨r :: rs, ?_, ?_⟩
    · unfold getContextRules; rw [hr, hrs]
    · have : gAt s id = some (toG r) := gAt_some.mpr ⟨r, hr, rfl⟩
      rw [List.filterMap_cons_some this, List.map_cons, hmap]

end OZ.SmartAccount.Mon
