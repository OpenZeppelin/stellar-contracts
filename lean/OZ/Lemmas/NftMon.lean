import OZ.Model.NftMon
import OZ.Lemmas.NftStep
import OZ.Lemmas.NftBits
/-
For the soundness of the C10 / C11 monitors (OZ/Model/NftMon.lean): the plain ownership map as the monitors
store it (balances, run-length encoding, the enumeration check), and one uniform description of what an accepted
call does to a model state of any flavour (`mstate_step`), with the total supply and the list invariant of the
enumerable flavour beside it (`mstate_enum_step`).
-/
namespace OZ.NftMon
open OZ.Host OZ.Nft OZ.Lists

theorem find_filter_ne {α : Type} (l : List α) (key : α → Nat) (id id' : Nat) (hne : id' ≠ id) :
    (l.filter (fun p => decide (key p ≠ id))).find? (fun p => decide (key p = id')) = l.find? (fun p => decide (key p = id')) :=
  (find?_filter_key key l id id' (by simp) (by simp)).trans (if_neg hne)

theorem find_filter_eq {α : Type} (l : List α) (key : α → Nat) (id : Nat) :
    (l.filter (fun p => decide (key p ≠ id))).find? (fun p => decide (key p = id)) = none :=
  (find?_filter_key key l id id (by simp) (by simp)).trans (if_pos rfl)

theorem plainOwner_setOver (b : List (Nat × Nat × Nat)) (ov : List (Nat × Option Nat)) (id : Nat) (o : Option Nat) :
    plainOwner b (setOver ov id o) = upd (plainOwner b ov) id o := by
  funext x
  by_cases e : x = id
  · subst e
    simp [plainOwner, setOver, upd]
  · rw [upd_other _ _ _ _ e]
    unfold plainOwner setOver
    rw [List.find?_cons_of_neg (by simpa using fun h => e h.symm), find_filter_ne ov (fun p => p.1) id x e]

theorem plainOwner_setOver_eq {b : List (Nat × Nat × Nat)} {ov : List (Nat × Option Nat)} {spec : Nat → Option Nat}
    (h : ∀ x, plainOwner b ov x = spec x) (id : Nat) (o : Option Nat) (x : Nat) :
    plainOwner b (setOver ov id o) x = upd spec id o x := by
  rw [plainOwner_setOver, funext h]

theorem setOver_lt {ov : List (Nat × Option Nat)} {id n n' : Nat} (o : Option Nat) (h : ∀ p ∈ ov, p.1 < n)
    (hid : id < n) (hn : n ≤ n') : ∀ p ∈ setOver ov id o, p.1 < n' := by
  intro p hp
  rcases List.mem_cons.mp hp with e | hp
  · rw [e]; exact Nat.lt_of_lt_of_le hid hn
  · exact Nat.lt_of_lt_of_le (h p (List.mem_filter.mp hp).1) hn

theorem plainOwner_cons_out (b : List (Nat × Nat × Nat)) (ov : List (Nat × Option Nat)) {f l id : Nat} (o : Nat)
    (h : ¬ (f ≤ id ∧ id ≤ l)) : plainOwner ((f, l, o) :: b) ov id = plainOwner b ov id := by
  unfold plainOwner
  rw [List.find?_cons_of_neg (by simpa using h)]

theorem plainOwner_batch (b : List (Nat × Nat × Nat)) (ov : List (Nat × Option Nat)) (f l o : Nat)
    (hov : ∀ p ∈ ov, ¬ (f ≤ p.1 ∧ p.1 ≤ l)) (id : Nat) :
    plainOwner ((f, l, o) :: b) ov id = if f ≤ id ∧ id ≤ l then some o else plainOwner b ov id := by
  by_cases h : f ≤ id ∧ id ≤ l
  · rw [if_pos h]
    unfold plainOwner
    cases hfi : List.find? (fun p => decide (p.1 = id)) ov with
    | some p =>
      have hp : p.1 = id := by simpa using List.find?_some hfi
      exact absurd (hp ▸ h) (hov p (List.mem_of_find?_eq_some hfi))
    | none => simp [h]
  · rw [if_neg h, plainOwner_cons_out b ov o h]

theorem plainOwner_block {b : List (Nat × Nat × Nat)} {ov : List (Nat × Option Nat)} {spec : Nat → Option Nat}
    {next n last : Nat} (h : ∀ x, plainOwner b ov x = spec x) (hov : ∀ p ∈ ov, p.1 < next)
    (hlast : last + 1 = next + n) (to x : Nat) :
    plainOwner ((next, last, to) :: b) ov x = if next ≤ x ∧ x < next + n then some to else spec x := by
  rw [plainOwner_batch b ov next last to (fun p hp hin => Nat.lt_irrefl _ (Nat.lt_of_le_of_lt hin.1 (hov p hp))), h x]
  have : (next ≤ x ∧ x ≤ last) ↔ (next ≤ x ∧ x < next + n) := by omega
  simp only [this]

theorem plainOwner_nil (id : Nat) : plainOwner [] [] id = none := rfl

theorem addBal_range (n : Nat) (bal : Nat → Nat) (i : Nat) (d : Int) :
    Own.addBal ((List.range n).map bal) i d = (List.range n).map (upd bal i ((Int.ofNat (bal i) + d).toNat)) :=
  mapIdx_map_range n bal i fun x => (Int.ofNat x + d).toNat

theorem addBal_inc (n : Nat) (bal : Nat → Nat) (i k : Nat) :
    Own.addBal ((List.range n).map bal) i (k : Int) = (List.range n).map (upd bal i (bal i + k)) := by
  have : (Int.ofNat (bal i) + (k : Int)).toNat = bal i + k := by
    simp only [Int.ofNat_eq_natCast]; omega
  rw [addBal_range, this]

theorem addBal_dec (n : Nat) (bal : Nat → Nat) (i : Nat) :
    Own.addBal ((List.range n).map bal) i (-1) = (List.range n).map (upd bal i (bal i - 1)) := by
  have : (Int.ofNat (bal i) + (-1)).toNat = bal i - 1 := by
    simp only [Int.ofNat_eq_natCast]; omega
  rw [addBal_range, this]

def RunOK (f : Nat → Option Nat) (r : Run) : Prop := ∀ j, r.1 ≤ j → j ≤ r.2.1 → f j = r.2.2

theorem rleGo_ok (f : Nat → Option Nat) (hi : Nat) : ∀ (fuel start : Nat) (cur : Option Nat) (id : Nat)
    (acc : List Run), fuel = hi - id → (∀ j, start ≤ j → j ≤ id → f j = cur) → (∀ r ∈ acc, RunOK f r) →
    ∀ r ∈ rleGo f hi fuel start cur id acc, RunOK f r := by
  intro fuel
  induction fuel with
  | zero =>
    intro start cur id acc hf hinv hacc r hr
    unfold rleGo at hr
    rcases List.mem_cons.mp hr with e | hr
    · subst e
      intro j h1 h2
      exact hinv j h1 (by show j ≤ id; have : j ≤ hi := h2; omega)
    · exact hacc r hr
  | succ fuel ih =>
    intro start cur id acc hf hinv hacc r hr
    unfold rleGo at hr
    by_cases hne : f (id + 1) = cur
    · rw [if_neg (by simp [hne])] at hr
      refine ih start cur (id + 1) acc (by omega) ?_ hacc r hr
      intro j h1 h2
      by_cases e : j = id + 1
      · subst e; exact hne
      · exact hinv j h1 (by omega)
    · rw [if_pos (by simp [hne])] at hr
      refine ih (id + 1) (f (id + 1)) (id + 1) _ (by omega) ?_ ?_ r hr
      · intro j h1 h2
        have : j = id + 1 := by omega
        subst this; rfl
      · intro r' hr'
        rcases List.mem_cons.mp hr' with e | hr'
        · subst e; intro j h1 h2; exact hinv j h1 h2
        · exact hacc r' hr'

theorem rleRuns_ok (f : Nat → Option Nat) (q : List (Nat × Nat)) : ∀ r ∈ rleRuns f q, RunOK f r := by
  intro r hr
  unfold rleRuns at hr
  rw [List.mem_reverse] at hr
  suffices h : ∀ (q : List (Nat × Nat)) (acc : List Run), (∀ r ∈ acc, RunOK f r) →
      ∀ r ∈ q.foldl (fun acc w => rleGo f w.2 (w.2 - w.1) w.1 (f w.1) w.1 acc) acc, RunOK f r from
    h q [] (fun _ h => by cases h) r hr
  intro q
  induction q with
  | nil => intro acc hacc r hr; exact hacc r hr
  | cons w ws ih =>
    intro acc hacc r hr
    rw [List.foldl_cons] at hr
    refine ih _ ?_ r hr
    exact rleGo_ok f w.2 _ _ _ _ acc rfl (fun j h1 h2 => by have : j = w.1 := by omega
                                                            subst this; rfl) hacc

theorem badInRun_none {m : Own.Mon} {r : Run} (h : RunOK (Own.ghostOwner m) r) : Own.badInRun m r = none := by
  unfold Own.badInRun
  rw [Option.map_eq_none_iff, List.find?_eq_none]
  intro k hk
  have hk := List.mem_range.mp hk
  have := h (r.1 + k) (by omega) (by omega)
  simp [this]

theorem firstBadRun_none {m : Own.Mon} {runs : List Run} (h : ∀ r ∈ runs, RunOK (Own.ghostOwner m) r) :
    Own.firstBadRun m runs = none := by
  unfold Own.firstBadRun
  rw [List.findSome?_eq_none_iff]
  intro r hr
  exact badInRun_none (h r hr)

theorem nodup_iff (l : List Nat) : Own.nodup l = true ↔ l.Nodup := by
  induction l with
  | nil => simp [Own.nodup]
  | cons x xs ih =>
    unfold Own.nodup
    rw [List.nodup_cons, ← ih]
    simp

open OZ.NftEnum in
theorem checkList_none (what : String) {tok idx : Nat → Option Nat} {count : Nat} {P : Nat → Prop}
    (h : LOK tok idx count P) (probe : Bool) (okTok : Nat → Bool) (hok : ∀ t, P t → okTok t = true) :
    Own.checkList what ((List.range (if probe then count + 1 else count)).map tok) count probe okTok = none := by
  have hle : count ≤ (if probe then count + 1 else count) := by split <;> omega
  have htake : ((List.range (if probe then count + 1 else count)).map tok).take count = (List.range count).map tok := by
    rw [← List.map_take, List.take_range, Nat.min_eq_left hle]
  have hfm : ((List.range count).map tok).filterMap id = listOf tok count := by
    rw [List.filterMap_map]; rfl
  obtain ⟨hlen, hnd, hmem⟩ := LOK_list h
  unfold Own.checkList
  rw [htake, hfm]
  rw [if_neg (by simp [hlen]), if_neg (by simp [(nodup_iff _).mpr hnd]),
    if_neg (by
      simp only [Bool.not_eq_true', Bool.not_eq_false]
      rw [List.all_eq_true]
      intro t ht; exact hok t ((hmem t).mp ht))]
  cases probe with
  | false => simp
  | true =>
    rw [if_neg]
    simp only [true_and, ne_eq, Decidable.not_not, if_true]
    rw [List.range_succ, List.map_append, List.drop_append]
    simp [h.2.2 count (Nat.le_refl _)]

/-! ### an accepted call on a model state of any flavour -/

def MState.isCons : MState → Bool
  | .cons _ => true
  | _ => false

def MState.isEnum : MState → Bool
  | .enum _ => true
  | _ => false

/-- `Good ms spec`: `spec` is the plain ownership map of the model state `ms` (base, enumerable: the
stored owner map; consecutive: the map the representation invariant `GInv` relates the state to) -/
inductive Good : MState → (Nat → Option Nat) → Prop
  | base (s : Nft.State) : Good (.base s) s.owner
  | enum (s : NftEnum.State) : Good (.enum s) s.owner
  | cons (s : NftCons.BState) (spec : Nat → Option Nat) :
      NftCons.GInv NftCons.bitOf NftCons.WFB s spec → Good (.cons s) spec

/-- `next`: the id counter before the call, `r`: the returned id -/
def mspecStep (spec : Nat → Option Nat) (next : Nat) (op : Op) (r : Option Nat) : Nat → Option Nat :=
  match op with
  | .batchMint to n => fun id => if next ≤ id ∧ id < next + n then some to else spec id
  | op => Nft.specStep spec op r

theorem Good.ownerOf {ms : MState} {spec : Nat → Option Nat} (h : Good ms spec) (id : Nat) :
    ms.ownerOf id = spec id := by
  cases h with
  | base s => show (Nft.ownerOf s id).toOption = s.owner id; unfold Nft.ownerOf; cases s.owner id <;> rfl
  | enum s => show (Nft.ownerOf s.toState id).toOption = s.owner id; unfold Nft.ownerOf; cases s.owner id <;> rfl
  | cons s spec hi => exact NftCons.ownerOf_impl_spec NftCons.bitOps_impl hi id

theorem Good.uri {ms : MState} {spec : Nat → Option Nat} (h : Good ms spec) (id : Nat) :
    ms.uri id = (spec id).isSome := by
  cases h with
  | base s | enum s => rfl
  | cons s spec hi =>
    show (!(s.burned id) && decide (id < s.nextId)) = (spec id).isSome
    cases hb : s.burned id with
    | true => rw [hi.ci.dead id hb]; rfl
    | false =>
      by_cases hlt : id < s.nextId
      · rw [hi.ci.live id hlt hb]; simp [hlt]
      · rw [hi.ci.above id (by omega)]; simp [hlt]

structure StepFacts (cfg : Cfg) (ms ms' : MState) (spec : Nat → Option Nat) (auth : List Nat) (op : Op)
    (r : Option Nat) : Prop where
  good : Good ms' (mspecStep spec ms.core.nextId op r)
  core : CoreStep cfg spec ms.core ms'.core auth op
  moves : ∀ f id, op.moves = some (f, id) →
    spec id = some f ∧ Justified ms.core auth f id op ∧ (ms.isCons = true → id < ms.core.nextId)
  approve : ∀ ap a id lu, op = .approve ap a id lu →
    ap ∈ auth ∧ ∃ o, spec id = some o ∧ (ap = o ∨ isApprovedForAll ms.core o ap = true)
  grant : ∀ o p lu, op = .approveForAll o p lu → o ∈ auth
  seq : ∀ to, op = .mintSeq to →
    r = some ms.core.nextId ∧ ms'.core.nextId = ms.core.nextId + 1 ∧ ms.isCons = false
  expl : ∀ to id, op = .mint to id → ms.isCons = false
  batch : ∀ to n, op = .batchMint to n →
    1 ≤ n ∧ r = some (ms.core.nextId + n - 1) ∧ ms'.core.nextId = ms.core.nextId + n ∧ ms.isCons = true
  other : (∀ to, op ≠ .mintSeq to) → (∀ to n, op ≠ .batchMint to n) → ms'.core.nextId = ms.core.nextId
  cons : ms'.isCons = ms.isCons
  enum : ms'.isEnum = ms.isEnum

theorem mspecStep_base {spec : Nat → Option Nat} {next : Nat} {op : Op} {r : Option Nat}
    (h : ∀ to n, op ≠ .batchMint to n) : mspecStep spec next op r = Nft.specStep spec op r := by
  cases op <;> first | rfl | exact absurd rfl (h _ _)

theorem mspecStep_cons {spec : Nat → Option Nat} {next : Nat} {op : Op} {r : Option Nat}
    (h1 : ∀ to, op ≠ .mintSeq to) (h2 : ∀ to id, op ≠ .mint to id) :
    mspecStep spec next op r = NftCons.specStep spec next op := by
  cases op <;> first | rfl | exact absurd rfl (h1 _) | exact absurd rfl (h2 _ _)

theorem base_step (cfg : Cfg) {s s' : Nft.State} {auth : List Nat} {op : Op} {r : Option Nat}
    (h : Nft.apply cfg s auth op = .ok (s', r)) : StepFacts cfg (.base s) (.base s') s.owner auth op r := by
  have hnb : ∀ to n, op ≠ .batchMint to n := by
    intro to n e; subst e; cases h
  obtain ⟨ho, _, hseq, hoth⟩ := apply_owner cfg h
  obtain ⟨hc, hs⟩ := Nft.apply_did cfg h
  exact ⟨by show Good _ (mspecStep s.owner s.nextId op r); rw [mspecStep_base hnb, ← ho]; exact Good.base s', hs,
    fun _ _ hm => ⟨(hc.moves hm).1, (hc.moves hm).2, nofun⟩, fun _ _ _ _ e => by subst e; exact ⟨hc, hs.approve⟩,
    fun _ _ _ e => by subst e; exact hs.grant,
    fun to e => ⟨(hseq to e).1, (hseq to e).2, rfl⟩, fun _ _ _ => rfl,
    fun to n e => absurd e (hnb to n), fun h1 _ => hoth h1, rfl, rfl⟩

theorem Good.base_inv {s : Nft.State} {spec : Nat → Option Nat} (h : Good (.base s) spec) : spec = s.owner := by
  cases h; rfl

theorem Good.enum_inv {e : NftEnum.State} {spec : Nat → Option Nat} (h : Good (.enum e) spec) : spec = e.owner := by
  cases h; rfl

theorem mstate_step (cfg : Cfg) {ms ms' : MState} {spec : Nat → Option Nat} {auth : List Nat} {op : Op}
    {r : Option Nat} (hg : Good ms spec) (h : ms.apply cfg auth op = .ok (ms', r)) :
    StepFacts cfg ms ms' spec auth op r := by
  cases hg with
  | base s =>
    obtain ⟨⟨s', r'⟩, hap, he⟩ := map_eq_ok h
    injection he with e1 e2; subst e1; subst e2
    exact base_step cfg hap
  | enum s =>
    -- the call is the base one on `s.toState` (`apply_base`), and `StepFacts` reads the two states only through `core`,
    -- `isCons`, `isEnum` and `Good`
    obtain ⟨⟨s', r'⟩, hap, he⟩ := map_eq_ok h
    injection he with e1 e2; subst e1; subst e2
    have hb := base_step cfg (NftEnum.apply_base cfg hap)
    exact { hb with good := Good.base_inv hb.good ▸ Good.enum s', enum := rfl }
  | cons s spec hi =>
    obtain ⟨⟨s', r'⟩, hap, he⟩ := map_eq_ok h
    injection he with e1 e2; subst e1; subst e2
    have hns : ∀ to, op ≠ .mintSeq to := by intro to e; subst e; cases hap
    have hnm : ∀ to id, op ≠ .mint to id := by intro to id e; subst e; cases hap
    obtain ⟨hi', _, hb, hoth⟩ := NftCons.apply_impl_step NftCons.bitOps_impl cfg hi hap
    -- the flavour's `owner_of`, over which `apply_did` speaks, is the plain map
    have hdid := NftCons.apply_did NftCons.bitOps cfg hap
    rw [show (fun id => (NftCons.ownerOf NftCons.bitOps s id).toOption) = spec from
      funext (NftCons.ownerOf_impl_spec NftCons.bitOps_impl hi)] at hdid
    obtain ⟨hc, hs⟩ := hdid
    exact ⟨by show Good _ (mspecStep spec s.nextId op r'); rw [mspecStep_cons hns hnm]; exact Good.cons s' _ hi',
      hs, fun _ _ hm => ⟨(hc.moves hm).1, (hc.moves hm).2, fun _ => (hi.ci.spec_lt (hc.moves hm).1).1⟩,
      fun _ _ _ _ e => by subst e; exact ⟨hc, hs.approve⟩, fun _ _ _ e => by subst e; exact hs.grant,
      fun to e => absurd e (hns to), fun to id e => absurd e (hnm to id),
      fun to n e => ⟨(hb to n e).1, (hb to n e).2.1, (hb to n e).2.2, rfl⟩, fun _ h2 => hoth h2, rfl, rfl⟩

/-- the calls that move the id counter -/
def counts : Op → Bool
  | .mintSeq _ | .batchMint _ _ => true
  | _ => false

structure Same (ms ms' : MState) : Prop where
  nextId : ms'.core.nextId = ms.core.nextId
  cons : ms'.isCons = ms.isCons
  enum : ms'.isEnum = ms.isEnum

theorem StepFacts.same {cfg : Cfg} {ms ms' : MState} {spec : Nat → Option Nat} {auth : List Nat} {op : Op}
    {r : Option Nat} (hf : StepFacts cfg ms ms' spec auth op r) (h : counts op = false) : Same ms ms' :=
  ⟨hf.other (fun _ e => by subst e; cases h) (fun _ _ e => by subst e; cases h), hf.cons, hf.enum⟩

/-! ### the enumerable flavour: total supply -/

def totalStep (total : Nat) : Op → Nat
  | .mintSeq _ => total + 1
  | .mint _ _ => total + 1
  | .burn _ _ => total - 1
  | .burnFrom _ _ _ => total - 1
  | _ => total

open OZ.NftEnum in
theorem enum_apply_total (cfg : Cfg) {s s' : NftEnum.State} {auth : List Nat} {op : Op} {r : Option Nat}
    (h : NftEnum.apply cfg s auth op = .ok (s', r)) : s'.total = totalStep s.total op := by
  obtain ⟨b, _, hup⟩ := NftEnum.apply_ran h
  cases op with
  | mintSeq to => obtain ⟨_, _, h3⟩ := hup; exact (addToEnumerations_toState h3).2.2
  | mint to id => exact (addToEnumerations_toState hup).2.2
  | transfer f t id | transferFrom sp f t id => exact (moveInOwner_toState hup).2
  | burn f id | burnFrom sp f id => exact (removeFromEnumerations_toState hup).2
  | batchMint to n | approve ap a id lu | approveForAll o p lu | advance n => rw [hup]; rfl

def EnumOK : MState → Prop
  | .enum e => NftEnum.EInv e
  | _ => True

def MState.total : MState → Nat
  | .enum e => e.total
  | _ => 0

/-- the fresh-id hypothesis of a mint -/
def FreshAt (spec : Nat → Option Nat) (next : Nat) : Op → Prop
  | .mintSeq _ => spec next = none
  | .mint _ id => spec id = none
  | _ => True

theorem mstate_enum_step (cfg : Cfg) {ms ms' : MState} {spec : Nat → Option Nat} {auth : List Nat} {op : Op}
    {r : Option Nat} (hg : Good ms spec) (he : EnumOK ms) (h : ms.apply cfg auth op = .ok (ms', r))
    (hfr : FreshAt spec ms.core.nextId op) :
    EnumOK ms' ∧ (ms.isEnum = true → ms'.total = totalStep ms.total op) := by
  cases hg with
  | base s | cons s spec hi =>
    obtain ⟨⟨s', r'⟩, hap, he'⟩ := map_eq_ok h
    injection he' with e1 e2; subst e1; subst e2
    exact ⟨trivial, fun h => by cases h⟩
  | enum s =>
    obtain ⟨⟨s', r'⟩, hap, he'⟩ := map_eq_ok h
    injection he' with e1 e2; subst e1; subst e2
    have hf : FreshOp s.toState op := by cases op <;> exact hfr
    exact ⟨NftEnum.apply_step cfg he hf hap, fun _ => enum_apply_total cfg hap⟩

/-! ### trace lines and the initial state -/

/-- what `l.op = some op` says about the fields of the line -/
def Line.Denotes (l : Line) : Op → Prop
  | .mintSeq t => l.kind = .mint ∧ l.a = [t]
  | .mint t id => l.kind = .mintId ∧ l.a = [t] ∧ l.id = id
  | .batchMint t n => l.kind = .batchMint ∧ l.a = [t] ∧ l.n = n
  | .transfer f t id => l.kind = .transfer ∧ l.a = [f, t] ∧ l.id = id
  | .transferFrom sp f t id => l.kind = .transferFrom ∧ l.a = [sp, f, t] ∧ l.id = id
  | .approve ap a id lu => l.kind = .approve ∧ l.a = [ap, a] ∧ l.id = id ∧ l.lu = lu
  | .approveForAll o p lu => l.kind = .approveForAll ∧ l.a = [o, p] ∧ l.lu = lu
  | .burn f id => l.kind = .burn ∧ l.a = [f] ∧ l.id = id
  | .burnFrom sp f id => l.kind = .burnFrom ∧ l.a = [sp, f] ∧ l.id = id
  | .advance n => l.kind = .advance ∧ l.n = n

theorem Line.op_inv {l : Line} {op : Op} (h : l.op = some op) : l.Denotes op := by
  unfold Line.op at h
  split at h <;> first
    | (injection h with h; subst h; simp_all [Line.Denotes])
    | cases h

theorem init_good (fl : String) (start : Nat) :
    Good (initState fl start) (fun _ => none) ∧ (initState fl start).core = Core.init start ∧
    EnumOK (initState fl start) ∧ (initState fl start).total = 0 ∧
    ((initState fl start).isEnum = true ↔ fl = "enum") := by
  unfold initState
  by_cases h1 : fl = "enum"
  · rw [if_pos h1]
    exact ⟨Good.enum (NftEnum.init start), rfl, NftEnum.init_einv start, rfl, by simp [MState.isEnum, h1]⟩
  · rw [if_neg h1]
    by_cases h2 : fl = "cons"
    · rw [if_pos h2]
      exact ⟨Good.cons _ _ (NftCons.init_ginv start), rfl, trivial, rfl,
        by simp [MState.isEnum, h1]⟩
    · rw [if_neg h2]
      exact ⟨Good.base (Nft.init start), rfl, trivial, rfl, by simp [MState.isEnum, h1]⟩

end OZ.NftMon
