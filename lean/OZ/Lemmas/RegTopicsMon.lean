import OZ.Lemmas.RegTopics
import OZ.Lemmas.RegMon
import OZ.Model.RegTopicsMon
/-
For the soundness of the `topics` monitor of C20 (OZ/Props/C20bMon.lean). `tiCheck_quiet`, `itCheck_quiet`, `mOk_quiet`,
`hcell_eq` spell out the bodies of `modelObs`'s fields `TI`, `IT`, `M` and of `modelH`, which OZ/Props/C20bMon.lean
defines: they are kept in step with them by hand.
-/
namespace OZ.RegTopics.Mon
open OZ.Reg OZ.RegMon OZ.RegTopics

theorem ok_bind {α β ε : Type} (a : α) (f : α → Except ε β) : (Except.ok a).bind f = f a := rfl

theorem contains_eq_isSome {β : Type} {f : Nat → Option β} {l : List Nat} (h : ∀ x, (f x).isSome = true ↔ x ∈ l)
    (x : Nat) : l.contains x = (f x).isSome :=
  Bool.eq_iff_iff.2 (List.contains_iff_mem.trans (h x).symm)

theorem sort_graph (l : List Nat) (F : Nat → List Nat) :
    (l.map (fun t => (t, F t))).mergeSort (fun (a b : Nat × List Nat) => decide (a.1 ≤ b.1)) =
      (sortN l).map (fun t => (t, F t)) := by
  unfold sortN
  exact (List.map_mergeSort (r := fun a b => decide (a ≤ b)) (s := fun (a b : Nat × List Nat) => decide (a.1 ≤ b.1))
    (f := fun t => (t, F t)) (l := l) (fun a _ b _ => rfl)).symm

theorem colon_mem_entry (k : Nat) (l : List Nat) : ':' ∈ (entry k l).toList := by
  unfold entry
  simp only [String.toList_append, toString]
  have e : ":".toList = [':'] := rfl
  rw [e]; simp

/-- the printed `M=` word of a successful `get_claim_topics_and_issuers` is never the failure mark -/
theorem mraw_ne_x (l : List (Nat × List Nat)) :
    sepBy ";" (l.map (fun (p : Nat × List Nat) => entry p.1 p.2)) ≠ "x" := by
  unfold sepBy
  cases l with
  | nil => decide
  | cons p ps =>
    rw [if_neg (by simp)]
    intro h
    have hc : ':' ∈ (";".intercalate (List.map (fun (p : Nat × List Nat) => entry p.1 p.2) (p :: ps))).toList := by
      rw [String.toList_intercalate, List.map_cons, List.map_cons]
      cases ps with
      | nil => simpa using colon_mem_entry p.1 p.2
      | cons q qs =>
        rw [List.map_cons, List.map_cons, List.intercalate_cons_cons]
        exact List.mem_append_left _ (List.mem_append_left _ (colon_mem_entry p.1 p.2))
    rw [h] at hc
    revert hc; decide

structure Agree (g : Mon) (s : State) (nt ni ht : Nat) : Prop where
  nt : g.nt = nt
  ni : g.ni = ni
  ht : g.ht = ht
  topics : g.topics = s.topics
  issuers : g.issuers = s.issuers
  rel : ∀ i t, (i, t) ∈ g.rel ↔ memO (s.issuerTopics i) t

theorem mem_wantT (g : Mon) (t x : Nat) : x ∈ wantT g t ↔ (x, t) ∈ g.rel := by simp [wantT]

theorem mem_wantI (g : Mon) (i x : Nat) : x ∈ wantI g i ↔ (i, x) ∈ g.rel := by simp [wantI]

theorem validTs_ok_iff (g : Mon) (e : String) (ts : List Nat) :
    validTs g e ts = .ok () ↔ ts ≠ [] ∧ ts.length ≤ 15 ∧ ts.Nodup ∧ ∀ t, t ∈ ts → t ∈ g.topics := by
  unfold validTs
  rw [ite_error_eq_ok_iff, ite_error_eq_ok_iff, ite_error_eq_ok_iff, ite_error_eq_ok_iff, Nat.not_lt, Bool.not_eq_true',
    Bool.not_eq_false, nodupB_iff, Bool.not_eq_true', Bool.not_eq_false, List.all_eq_true, and_iff_left rfl]
  simp only [List.contains_iff_mem, ne_eq]

theorem mem_map_pair (i : Nat) (ts : List Nat) (i' t : Nat) : (i', t) ∈ ts.map (fun t => (i, t)) ↔ i' = i ∧ t ∈ ts := by
  rw [List.mem_map]
  exact ⟨fun ⟨_, h, e⟩ => by cases e; exact ⟨rfl, h⟩, fun ⟨e, h⟩ => ⟨t, h, by rw [e]⟩⟩

theorem plain_addTopic_ok_iff (g g' : Mon) (t : Nat) :
    plain g (.addTopic t) = .ok g' ↔
      (g.topics.length < 15 ∧ t ∉ g.topics) ∧ g' = { g with topics := g.topics ++ [t] } := by
  rw [plain, ite_error_eq_ok_iff, ite_error_eq_ok_iff, List.contains_iff_mem, Nat.not_le, Except.ok.injEq]
  exact ⟨fun h => ⟨⟨h.2.1, h.1⟩, h.2.2.symm⟩, fun h => ⟨h.1.2, h.1.1, h.2.symm⟩⟩

theorem plain_removeTopic_ok_iff (g g' : Mon) (t : Nat) :
    plain g (.removeTopic t) = .ok g' ↔
      t ∈ g.topics ∧ g' = { g with topics := g.topics.erase t, rel := g.rel.filter (fun p => p.2 ≠ t) } := by
  rw [plain, ite_error_eq_ok_iff, Bool.not_eq_true', Bool.not_eq_false, List.contains_iff_mem, Except.ok.injEq]
  exact and_congr_right' eq_comm

theorem plain_addIssuer_ok_iff (g g' : Mon) (i : Nat) (ts : List Nat) :
    plain g (.addIssuer i ts) = .ok g' ↔
      ((ts ≠ [] ∧ ts.length ≤ 15 ∧ ts.Nodup ∧ ∀ t, t ∈ ts → t ∈ g.topics) ∧
        g.issuers.length < 50 ∧ i ∉ g.issuers) ∧
      g' = { g with issuers := g.issuers ++ [i], rel := g.rel ++ ts.map (fun t => (i, t)) } := by
  rw [plain, unit_bind_eq_ok, validTs_ok_iff, ite_error_eq_ok_iff, ite_error_eq_ok_iff, List.contains_iff_mem, Nat.not_le,
    Except.ok.injEq]
  exact ⟨fun h => ⟨⟨h.1, h.2.2.1, h.2.1⟩, h.2.2.2.symm⟩, fun h => ⟨h.1.1, h.1.2.2, h.1.2.1, h.2.symm⟩⟩

theorem plain_removeIssuer_ok_iff (g g' : Mon) (i : Nat) :
    plain g (.removeIssuer i) = .ok g' ↔
      i ∈ g.issuers ∧ g' = { g with issuers := g.issuers.erase i, rel := g.rel.filter (fun p => p.1 ≠ i) } := by
  rw [plain, ite_error_eq_ok_iff, Bool.not_eq_true', Bool.not_eq_false, List.contains_iff_mem, Except.ok.injEq]
  exact and_congr_right' eq_comm

theorem plain_update_ok_iff (g g' : Mon) (i : Nat) (ts : List Nat) :
    plain g (.update i ts) = .ok g' ↔
      ((ts ≠ [] ∧ ts.length ≤ 15 ∧ ts.Nodup ∧ ∀ t, t ∈ ts → t ∈ g.topics) ∧ i ∈ g.issuers) ∧
      g' = { g with rel := g.rel.filter (fun p => p.1 ≠ i) ++ ts.map (fun t => (i, t)) } := by
  rw [plain, unit_bind_eq_ok, validTs_ok_iff, ite_error_eq_ok_iff, Bool.not_eq_true', Bool.not_eq_false, List.contains_iff_mem,
    Except.ok.injEq, ← and_assoc]
  exact and_congr_right' eq_comm

/-- through `Decides.of_iff` and the two `*_ok_iff`, not check by check (`Decides.ite`): `plain` tests `dup` before
`limit`, the model the other way round -/
theorem decides {g : Mon} {s : State} {nt ni ht : Nat} (ha : Agree g s nt ni ht) (hI : Inv s) (op : Op) :
    Decides (Agree · · nt ni ht) (step s op) (plain g op) := by
  have hT := ha.topics
  have hS := ha.issuers
  cases op with
  | addTopic t =>
    exact .of_iff (addClaimTopic_ok_iff s · t) (plain_addTopic_ok_iff g · t) (hT ▸ Iff.rfl) (fun _ => ⟨_, rfl⟩)
      fun _ _ e => e ▸ { ha with topics := congrArg (· ++ [t]) hT }
  | removeTopic t =>
    refine .of_iff (removeClaimTopic_ok_iff s · t) (plain_removeTopic_ok_iff g · t) (hT ▸ Iff.rfl) (fun _ => ⟨_, rfl⟩)
      fun _ _ e => e ▸ { ha with topics := congrArg (·.erase t) hT, rel := fun i t' => ?_ }
    dsimp only [removeTopic']
    rw [hI.core.memO_dropTopicFromIssuers, ← ha.rel, List.mem_filter, decide_eq_true_eq]
  | addIssuer i ts =>
    refine .of_iff (addTrustedIssuer_ok_iff hI · i ts) (plain_addIssuer_ok_iff g · i ts) (hT ▸ hS ▸ Iff.rfl)
      (fun _ => ⟨_, rfl⟩) fun hc _ e => e ▸ { ha with issuers := congrArg (· ++ [i]) hS, rel := fun i' t => ?_ }
    dsimp only [addIssuer']
    rw [memO_updD, memO_some, List.mem_append, mem_map_pair, ha.rel]
    -- the new issuer had no entry
    exact Or.comm.trans (or_congr_right
      (and_iff_right_of_imp fun h e => hc.2.2 ((hI.itDom i).1 (memO_isSome (e ▸ h)))).symm)
  | removeIssuer i =>
    refine .of_iff (Q := fun s' => ∃ its, s.issuerTopics i = some its ∧ s' = removeIssuer' s i its)
      (removeTrustedIssuer_ok_iff hI · i) (plain_removeIssuer_ok_iff g · i) (hS ▸ Iff.rfl)
      (fun hm => let ⟨its, h⟩ := Option.isSome_iff_exists.1 ((hI.itDom i).2 hm); ⟨_, its, h, rfl⟩)
      fun _ _ ⟨its, _, e⟩ => e ▸ { ha with issuers := congrArg (·.erase i) hS, rel := fun i' t => ?_ }
    dsimp only [removeIssuer']
    rw [memO_updD_none, List.mem_filter, decide_eq_true_eq, ha.rel]
    exact And.comm
  | update i ts =>
    refine .of_iff (Q := fun s' => ∃ old, s.issuerTopics i = some old ∧ s' = update' s i ts old)
      (update_ok_iff hI · i ts) (plain_update_ok_iff g · i ts) (hT ▸ hS ▸ Iff.rfl)
      (fun hc => let ⟨old, h⟩ := Option.isSome_iff_exists.1 ((hI.itDom i).2 hc.2); ⟨_, old, h, rfl⟩)
      fun _ _ ⟨old, _, e⟩ => e ▸ { ha with rel := fun i' t => ?_ }
    dsimp only [update']
    rw [memO_updD, memO_some, List.mem_append, List.mem_filter, decide_eq_true_eq, mem_map_pair, ha.rel]
    exact Or.comm.trans (or_congr_right And.comm)

theorem mem_ti_iff {g : Mon} {s : State} {nt ni ht : Nat} (ha : Agree g s nt ni ht) (hI : Inv s)
    {t : Nat} {l : List Nat} (hf : s.topicIssuers t = some l) (x : Nat) : x ∈ l ↔ x ∈ wantT g t := by
  rw [mem_wantT, ha.rel, hI.twoWay, hf, memO_some]

theorem mem_it_iff {g : Mon} {s : State} {nt ni ht : Nat} (ha : Agree g s nt ni ht)
    {i : Nat} {l : List Nat} (hf : s.issuerTopics i = some l) (x : Nat) : x ∈ l ↔ x ∈ wantI g i := by
  rw [mem_wantI, ha.rel, hf, memO_some]

theorem tiCheck_quiet {g : Mon} {s : State} {nt ni ht : Nat} (ha : Agree g s nt ni ht) (hI : Inv s)
    (n t : Nat) (ht' : t ∈ List.range n) :
    tiCheck g ((List.range n).filterMap (fun t => (getClaimTopicIssuers s t).map (fun l => (t, l)))) t = none := by
  unfold tiCheck
  rw [find_graphO (List.range n) (getClaimTopicIssuers s) t (fun _ => ht'), ha.topics, contains_eq_isSome hI.tiDom]
  unfold getClaimTopicIssuers
  cases hf : s.topicIssuers t with
  | none => rfl
  | some l => exact chk_decide ⟨rfl, (nodupB_iff _).2 (hI.tiN t l hf), (sameSet_iff _ _).2 (mem_ti_iff ha hI hf)⟩ _

theorem itCheck_quiet {g : Mon} {s : State} {nt ni ht : Nat} (ha : Agree g s nt ni ht) (hI : Inv s)
    (n i : Nat) (hi : i ∈ List.range n) :
    itCheck g ((List.range n).filterMap (fun i => (getTrustedIssuerClaimTopics s i).map (fun l => (i, l)))) i = none := by
  unfold itCheck
  rw [find_graphO (List.range n) (getTrustedIssuerClaimTopics s) i (fun _ => hi), ha.issuers,
    contains_eq_isSome hI.itDom]
  unfold getTrustedIssuerClaimTopics
  cases hf : s.issuerTopics i with
  | none => rfl
  | some l => exact chk_decide ⟨rfl, (nodupB_iff _).2 (hI.itN i l hf), (sameSet_iff _ _).2 (mem_it_iff ha hf)⟩ _

theorem mOk_quiet {g : Mon} {s : State} {nt ni ht : Nat} (ha : Agree g s nt ni ht) (hI : Inv s)
    (raw : String) (hraw : raw ≠ "x") :
    mOk g raw ((s.topics.map (fun t => (t, (s.topicIssuers t).getD []))).mergeSort
      (fun (a b : Nat × List Nat) => decide (a.1 ≤ b.1))) = true := by
  rw [sort_graph]
  unfold mOk mWant
  rw [ha.topics, decide_eq_true hraw, List.map_map, List.map_map, List.zip_map']
  simp only [Bool.true_and, Bool.and_eq_true, decide_eq_true_eq, List.all_map, List.all_eq_true, Function.comp]
  refine ⟨rfl, ?_⟩
  intro t ht'
  have hm : t ∈ s.topics := List.mem_mergeSort.1 ht'
  obtain ⟨l, hl⟩ := Option.isSome_iff_exists.1 ((hI.tiDom t).2 hm)
  rw [hl]
  exact ⟨(sameSet_iff _ _).2 (mem_ti_iff ha hI hl), (nodupB_iff _).2 (hI.tiN t l hl)⟩

/-- one cell of `h=`: `has_claim_topic` against the plain relation -/
theorem hcell_eq {g : Mon} {s : State} {nt ni ht : Nat} (ha : Agree g s nt ni ht) (hI : Inv s) (i t : Nat) :
    (match hasClaimTopic s i t with
      | none => "x"
      | some b => bit b) = if g.issuers.contains i then bit (g.rel.contains (i, t)) else "x" := by
  unfold hasClaimTopic
  rw [ha.issuers, contains_eq_isSome hI.itDom]
  cases hf : s.issuerTopics i with
  | none => rfl
  | some l =>
    show bit (l.contains t) = bit (g.rel.contains (i, t))
    refine congrArg bit ?_
    rw [Bool.eq_iff_iff, List.contains_iff_mem, List.contains_iff_mem, ha.rel, hf, memO_some]

end OZ.RegTopics.Mon
