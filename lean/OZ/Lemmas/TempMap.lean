import OZ.Model.RustSemHost
import OZ.Lemmas.Host
/- Temporary entries under a map of their value: a generated token stores a record type of its own where the model
stores its record. -/
namespace OZ.Gen
open OZ.Rs OZ.Host

variable {α β : Type}

def mapT (f : α → β) (t : Temp α) : Temp β := ⟨f t.val, t.liveUntil⟩

theorem get?_mapT (f : α → β) (x : Option (Temp α)) (now : Nat) :
    Temp.get? (x.map (mapT f)) now = (Temp.get? x now).map f := by
  cases x with
  | none => rfl
  | some e =>
    simp only [Option.map_some, Temp.get?, mapT]
    split <;> rfl

theorem set_mapT (f : α → β) (c : Cfg) (x : Option (Temp α)) (now : Nat) (v : α) :
    Temp.set c (x.map (mapT f)) now (f v) = mapT f (Temp.set c x now v) := by
  cases x with
  | none => rfl
  | some e =>
    simp only [Option.map_some, Temp.set, mapT]
    split <;> rfl

theorem extend_mapT (f : α → β) (c : Cfg) (e : Temp α) (now a b : Nat) :
    Temp.extend c (mapT f e) now a b = (Temp.extend c e now a b).map (mapT f) := by
  unfold Temp.extend
  by_cases h1 : a > b
  · rw [if_pos h1, if_pos h1]; rfl
  · rw [if_neg h1, if_neg h1]
    by_cases h2 : now + b > c.maxLiveUntil now
    · rw [if_pos h2, if_pos h2]; rfl
    · rw [if_neg h2, if_neg h2]
      by_cases h3 : now + b > e.liveUntil ∧ e.liveUntil - now ≤ a
      · rw [if_pos h3, if_pos (show now + b > (mapT f e).liveUntil ∧ (mapT f e).liveUntil - now ≤ a from h3)]; rfl
      · rw [if_neg h3, if_neg (show ¬ (now + b > (mapT f e).liveUntil ∧ (mapT f e).liveUntil - now ≤ a) from h3)]; rfl

/-- `extend_ttl(key, lu - now, lu - now)` after `set` in the generated approval writers: what `set` wrote is live -/
theorem extend_after_set {σ : Type} (c : Cfg) (hmin : 1 ≤ c.minTempTtl) (x : Option (Temp α)) {now lu : Nat}
    (hlu : ¬ lu < now) (v : α) (k : Temp α → Comp σ) :
    (Comp.bind (uN_sub 32 lu now) fun t => tempExtend c (some (Temp.set c x now v)) now t t k) =
      optCase (Temp.extend c (Temp.set c x now v) now (lu - now) (lu - now)) k .panic := by
  unfold uN_sub tempExtend
  rw [if_pos (Nat.le_of_not_lt hlu), Comp.bind_ok]
  simp only [Temp.live_of_set c hmin x now v, if_true]
  cases Temp.extend c (Temp.set c x now v) now (lu - now) (lu - now) <;> rfl

end OZ.Gen
