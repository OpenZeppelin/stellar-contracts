import OZ.Gen.Base64
import OZ.Model.Base64Url
/-
The base64url encoder GENERATED from the Rust source (lean/OZ/Gen/Base64.lean: a fuel-bounded loop over
mutable `di`, `dst`, `si` with indexed reads and writes) is compared with the hand-written `OZ.B64.encodeInto`.
-/
namespace OZ.Gen.B64
open OZ.Rs

/-- bytes as the numbers the generated code works on -/
def nat (bs : OZ.B64.Bytes) : List Nat := bs.map UInt8.toNat

@[simp] theorem nat_length (bs : OZ.B64.Bytes) : (nat bs).length = bs.length := by simp [nat]
theorem nat_append (a b : OZ.B64.Bytes) : nat (a ++ b) = nat a ++ nat b := by simp [nat]
theorem nat_drop (a : OZ.B64.Bytes) (k : Nat) : nat (a.drop k) = (nat a).drop k := by simp [nat, List.map_drop]

/-- a run of consecutive writes `dst[di] = w0; dst[di+1] = w1; …` -/
def writeAll (d : List Nat) (di : Nat) : List Nat → Comp (List Nat)
  | [] => .ok d
  | w :: ws => Comp.bind (setIdx d di w) fun d' => writeAll d' (di + 1) ws

theorem bind_assoc {α β γ : Type} (x : Comp α) (f : α → Comp β) (g : β → Comp γ) :
    (x.bind f).bind g = x.bind fun a => (f a).bind g := by
  cases x <;> rfl

theorem writeAll_append (d : List Nat) (di : Nat) (a b : List Nat) :
    writeAll d di (a ++ b) = Comp.bind (writeAll d di a) fun d' => writeAll d' (di + a.length) b := by
  induction a generalizing d di with
  | nil => simp [writeAll]
  | cons w ws ih =>
    simp only [List.cons_append, writeAll, List.length_cons]
    unfold setIdx
    split
    · simp only [Comp.bind_ok]; rw [ih]; congr 1; funext d'; congr 1; omega
    · rfl

/-- what a successful run of writes leaves in the buffer -/
theorem writeAll_spec (d : List Nat) (di : Nat) (ws : List Nat) (h : di ≤ d.length) :
    writeAll d di ws =
      if di + ws.length ≤ d.length then .ok (d.take di ++ ws ++ d.drop (di + ws.length)) else .panic := by
  induction ws generalizing d di with
  | nil => simp [writeAll, h]
  | cons w ws ih =>
    unfold writeAll setIdx
    by_cases hlt : di < d.length
    · rw [if_pos hlt, Comp.bind_ok, ih _ _ (by rw [List.length_set]; omega), List.length_set, List.take_add_one,
        List.take_set_of_le (Nat.le_refl _), List.getElem?_set_self hlt, List.drop_set_of_lt (by omega)]
      simp only [List.length_cons, Option.toList_some, List.append_assoc, List.singleton_append, Nat.add_assoc,
        Nat.add_comm 1]
    · rw [if_neg hlt, if_neg (by simp only [List.length_cons]; omega)]; rfl

theorem alphabet_eq : OZ.Gen.B64.ALPHABET = OZ.B64.ALPHABET := by decide

theorem alphabet_bytes : ∀ v ∈ OZ.B64.ALPHABET, v < 256 := by decide

/-- the masked index is inside the table, and the entry read is a byte -/
theorem idx_alpha (x : Nat) :
    idx OZ.Gen.B64.ALPHABET (x &&& 63) = .ok (OZ.B64.alpha (x &&& 63)).toNat := by
  have hlt : x &&& 63 < OZ.B64.ALPHABET.length := Nat.lt_succ_of_le Nat.and_le_right
  unfold idx OZ.B64.alpha
  rw [alphabet_eq, List.getElem?_eq_getElem hlt, List.getD_eq_getElem?_getD, List.getElem?_eq_getElem hlt,
    Option.getD_some, UInt8.toNat_ofNat', Nat.mod_eq_of_lt (alphabet_bytes _ (List.getElem_mem hlt))]

theorem idx_pick (val sh : Nat) :
    idx OZ.Gen.B64.ALPHABET ((val >>> sh) &&& 63) = .ok (OZ.B64.pick val sh).toNat := by
  unfold OZ.B64.pick; exact idx_alpha _

theorem idx_rd (src : OZ.B64.Bytes) (i : Nat) (h : i < src.length) :
    idx (nat src) i = .ok (OZ.B64.rd src i) := by
  unfold idx nat OZ.B64.rd
  simp [List.getElem?_map, List.getElem?_eq_getElem h, List.getD_eq_getElem?_getD]

end OZ.Gen.B64
