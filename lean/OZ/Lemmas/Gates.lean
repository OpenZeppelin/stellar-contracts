import OZ.Lemmas.Fungible
import OZ.Model.GatesMon
/-
Lemmas of the gates model (C16): an accepted call of a guarded entry point passed its guards and is the accepted `Base`
call behind them (inversion of the `Except` chains); a history is a fold of a step that rolls rejected calls back
(`run_keeps_on`).
-/
namespace OZ.Gates
open OZ.Host OZ.Fungible

theorem bind_error {ε α β} (e : ε) (f : α → Except ε β) : ((Except.error e : Except ε α) >>= f) = .error e := rfl
theorem bind_ok {ε α β} (a : α) (f : α → Except ε β) : ((Except.ok a : Except ε α) >>= f) = f a := rfl

theorem whenNotPaused_true {p : Pause} (h : p.paused = true) : whenNotPaused p = .error .gate := by
  simp [whenNotPaused, h]
theorem whenNotPaused_false {p : Pause} (h : p.paused = false) : whenNotPaused p = .ok () := by
  simp [whenNotPaused, h]
theorem whenPaused_true {p : Pause} (h : p.paused = true) : whenPaused p = .ok () := by
  simp [whenPaused, h]
theorem whenPaused_false {p : Pause} (h : p.paused = false) : whenPaused p = .error .gate := by
  simp [whenPaused, h]

theorem whenNotPaused_ok {p : Pause} {u : Unit} (h : whenNotPaused p = .ok u) : p.paused = false := by
  cases hp : p.paused with
  | true => rw [whenNotPaused_true hp] at h; cases h
  | false => rfl

theorem whenPaused_ok {p : Pause} {u : Unit} (h : whenPaused p = .ok u) : p.paused = true := by
  cases hp : p.paused with
  | false => rw [whenPaused_false hp] at h; cases h
  | true => rfl

theorem pause_ok {p p' : Pause} (h : pause p = .ok p') :
    p.paused = false ∧ p' = { paused := true, log := p.log ++ [.paused] } :=
  let ⟨_, hg, h⟩ := bind_eq_ok h
  ⟨whenNotPaused_ok hg, (Except.ok.inj h).symm⟩

theorem unpause_ok {p p' : Pause} (h : unpause p = .ok p') :
    p.paused = true ∧ p' = { paused := false, log := p.log ++ [.unpaused] } :=
  let ⟨_, hg, h⟩ := bind_eq_ok h
  ⟨whenPaused_ok hg, (Except.ok.inj h).symm⟩

theorem callerIsOwner_ok {auth : List Nat} {owner caller : Nat} {u : Unit}
    (h : callerIsOwner auth owner caller = .ok u) : caller ∈ auth ∧ owner = caller := by
  unfold callerIsOwner at h
  obtain ⟨_, h1, h2⟩ := bind_eq_ok h
  refine ⟨requireAuth_ok h1, ?_⟩
  split at h2
  · cases h2
  · rename_i hne; exact Decidable.of_not_not hne

/-- the `pause` entry point of the examples (`PTok.apply`, `PCnt.apply`; `f` puts the new flag back) -/
theorem ownerPause_ok {σ : Type} {auth : List Nat} {owner caller : Nat} {p : Pause} {f : Pause → σ} {s' : σ}
    (h : (do callerIsOwner auth owner caller; let p' ← pause p; pure (f p')) = .ok s') :
    p.paused = false ∧ caller ∈ auth ∧ owner = caller ∧ s' = f { paused := true, log := p.log ++ [.paused] } := by
  obtain ⟨_, ha, h⟩ := bind_eq_ok h
  obtain ⟨p1, hp1, h⟩ := bind_eq_ok h
  obtain ⟨hm, heq⟩ := callerIsOwner_ok ha
  obtain ⟨e1, rfl⟩ := pause_ok hp1
  exact ⟨e1, hm, heq, (Except.ok.inj h).symm⟩

theorem ownerUnpause_ok {σ : Type} {auth : List Nat} {owner caller : Nat} {p : Pause} {f : Pause → σ} {s' : σ}
    (h : (do callerIsOwner auth owner caller; let p' ← unpause p; pure (f p')) = .ok s') :
    p.paused = true ∧ caller ∈ auth ∧ owner = caller ∧ s' = f { paused := false, log := p.log ++ [.unpaused] } := by
  obtain ⟨_, ha, h⟩ := bind_eq_ok h
  obtain ⟨p1, hp1, h⟩ := bind_eq_ok h
  obtain ⟨hm, heq⟩ := callerIsOwner_ok ha
  obtain ⟨e1, rfl⟩ := unpause_ok hp1
  exact ⟨e1, hm, heq, (Except.ok.inj h).symm⟩

theorem ownerUnpause_accepted {σ : Type} {auth : List Nat} {c : Nat} {p : Pause} (f : Pause → σ)
    (hp : p.paused = true) (hm : c ∈ auth) :
    (do callerIsOwner auth c c; let p' ← unpause p; pure (f p')) =
      .ok (f { paused := false, log := p.log ++ [.unpaused] }) := by
  simp [callerIsOwner, requireAuth, unpause, whenPaused, hp, hm, bind, Except.bind, pure, Except.pure]

theorem ptok_tok_ok {c : Cfg} {s s' : PTok} {auth : List Nat} {o : Fungible.Op}
    (h : PTok.apply c s auth (.tok o) = .ok s') :
    (pausableOp o = true → s.p.paused = false) ∧ (∀ to a, o = .mint to a → s.owner ∈ auth) ∧
      ∃ t, Fungible.apply c s.tok auth o = .ok t ∧ s' = { s with tok := t } := by
  obtain ⟨t, ht, h⟩ := bind_eq_ok h
  obtain rfl := Except.ok.inj h
  cases o
  case approve => exact ⟨nofun, nofun, t, ht, rfl⟩
  case advance => exact ⟨nofun, nofun, t, ht, rfl⟩
  case mint =>
    obtain ⟨_, hg, ht⟩ := bind_eq_ok ht
    obtain ⟨_, ha, ht⟩ := bind_eq_ok ht
    exact ⟨fun _ => whenNotPaused_ok hg, fun _ _ _ => requireAuth_ok ha, t, ht, rfl⟩
  all_goals
    obtain ⟨_, hg, ht⟩ := bind_eq_ok ht
    exact ⟨fun _ => whenNotPaused_ok hg, nofun, t, ht, rfl⟩

/-! ### alternation of the pause log -/

/-- replay one event on the flag; `none` = the event is impossible in that state -/
def flagStep (ob : Option Bool) (e : GEvent) : Option Bool :=
  match ob, e with
  | some false, .paused => some true
  | some true, .paused => none
  | some true, .unpaused => some false
  | some false, .unpaused => none
  | ob, _ => ob

/-- replay a whole log from the unpaused state: `some b` iff `paused` and `unpaused` events
strictly alternate starting with `paused`; `b` is the flag they lead to -/
def flagAfter (log : List GEvent) : Option Bool := log.foldl flagStep (some false)

theorem flagAfter_snoc (log : List GEvent) (e : GEvent) :
    flagAfter (log ++ [e]) = flagStep (flagAfter log) e := by
  simp [flagAfter, List.foldl_append]

theorem flagAfter_paused {log : List GEvent} (h : flagAfter log = some false) :
    flagAfter (log ++ [.paused]) = some true := by
  rw [flagAfter_snoc, h]; rfl

theorem flagAfter_unpaused {log : List GEvent} (h : flagAfter log = some true) :
    flagAfter (log ++ [.unpaused]) = some false := by
  rw [flagAfter_snoc, h]; rfl

theorem stepWith_or {σ ο : Type} (ap : σ → List Nat → ο → Except Err σ) (s : σ) (x : List Nat × ο) :
    stepWith ap s x = s ∨ ap s x.1 x.2 = .ok (stepWith ap s x) := by
  unfold stepWith
  cases ap s x.1 x.2
  · exact .inl rfl
  · exact .inr rfl

theorem PTok.step_or (c : Cfg) (s : PTok) (x : List Nat × PTok.Op) :
    PTok.step c s x = s ∨ PTok.apply c s x.1 x.2 = .ok (PTok.step c s x) := by
  unfold PTok.step
  cases PTok.apply c s x.1 x.2
  · exact .inl rfl
  · exact .inr rfl

theorem PCnt.step_or (s : PCnt) (x : List Nat × PCnt.Op) :
    PCnt.step s x = s ∨ PCnt.apply s x.1 x.2 = .ok (PCnt.step s x) := by
  unfold PCnt.step
  cases PCnt.apply s x.1 x.2
  · exact .inl rfl
  · exact .inr rfl

theorem run_keeps_on {σ ο ε : Type} {ap : σ → List Nat → ο → Except ε σ} {step : σ → List Nat × ο → σ}
    (hstep : ∀ s x, step s x = s ∨ ap s x.1 x.2 = .ok (step s x)) {P : σ → Prop} {Q : ο → Prop}
    (h : ∀ {s auth o s'}, Q o → P s → ap s auth o = .ok s' → P s')
    (ops : List (List Nat × ο)) (s : σ) (hq : ∀ x ∈ ops, Q x.2) (hs : P s) : P (ops.foldl step s) :=
  OZ.Lists.foldl_keeps (Q := fun x => Q x.2) (fun s x hs hq => (hstep s x).elim (fun e => e.symm ▸ hs) (h hq hs))
    ops s hs hq

theorem run_keeps {σ ο ε : Type} {ap : σ → List Nat → ο → Except ε σ} {step : σ → List Nat × ο → σ}
    (hstep : ∀ s x, step s x = s ∨ ap s x.1 x.2 = .ok (step s x)) {P : σ → Prop}
    (h : ∀ {s auth o s'}, P s → ap s auth o = .ok s' → P s') (ops : List (List Nat × ο)) (s : σ) (hs : P s) :
    P (ops.foldl step s) :=
  run_keeps_on hstep (Q := fun _ => True) (fun _ => h) ops s (fun _ _ => trivial) hs

/-! ### token calls behind a list or a cap -/

theorem withTok_ok {s s' : LTok} {r : Except Err Fungible.State} (h : s.withTok r = .ok s') :
    ∃ t, r = .ok t ∧ s' = { s with tok := t } := by
  cases r with
  | error e => cases h
  | ok t => injection h with h; exact ⟨t, rfl, h.symm⟩

theorem withT_ok {s s' : LEx} {r : Except Err LTok} (h : s.withT r = .ok s') :
    ∃ t, r = .ok t ∧ s' = { s with t := t } := by
  cases r with
  | error e => cases h
  | ok t => injection h with h; exact ⟨t, rfl, h.symm⟩

theorem ctok_withTok_ok {s s' : CTok} {r : Except Err Fungible.State} (h : s.withTok r = .ok s') :
    ∃ t, r = .ok t ∧ s' = { s with tok := t } := by
  cases r with
  | error e => cases h
  | ok t => injection h with h; exact ⟨t, rfl, h.symm⟩

theorem alib_tok_ok {c : Cfg} {s s' : LTok} {auth : List Nat} {o : Fungible.Op}
    (h : ALib.apply c s auth (.tok o) = .ok s') :
    (∀ a ∈ vetted o, s.listed a = true) ∧ ∃ t, Fungible.apply c s.tok auth o = .ok t ∧ s' = { s with tok := t } := by
  cases o
  case mint => exact ⟨nofun, withTok_ok h⟩
  case advance => exact ⟨nofun, _, rfl, (Except.ok.inj h).symm⟩
  all_goals
    obtain ⟨hg, h⟩ := ite_error_eq_ok_iff.1 h
    exact ⟨by simpa [vetted, AllowList.allowed] using hg, withTok_ok h⟩

theorem blib_tok_ok {c : Cfg} {s s' : LTok} {auth : List Nat} {o : Fungible.Op}
    (h : BLib.apply c s auth (.tok o) = .ok s') :
    (∀ a ∈ vetted o, s.listed a = false) ∧ ∃ t, Fungible.apply c s.tok auth o = .ok t ∧ s' = { s with tok := t } := by
  cases o
  case mint => exact ⟨nofun, withTok_ok h⟩
  case advance => exact ⟨nofun, _, rfl, (Except.ok.inj h).symm⟩
  all_goals
    obtain ⟨hg, h⟩ := ite_error_eq_ok_iff.1 h
    exact ⟨by simpa [vetted, BlockList.blocked] using hg, withTok_ok h⟩

/-- the examples route every fungible entry point they expose through the library type -/
theorem aex_tok_ok {c : Cfg} {s s' : LEx} {auth : List Nat} {o : Fungible.Op}
    (h : AEx.apply c s auth (.tok o) = .ok s') :
    ∃ t, ALib.apply c s.t auth (.tok o) = .ok t ∧ s' = { s with t := t } := by
  cases o
  case mint => cases h
  case advance => exact ⟨_, rfl, (Except.ok.inj h).symm⟩
  all_goals exact withT_ok h

theorem bex_tok_ok {c : Cfg} {s s' : LEx} {auth : List Nat} {o : Fungible.Op}
    (h : BEx.apply c s auth (.tok o) = .ok s') :
    ∃ t, BLib.apply c s.t auth (.tok o) = .ok t ∧ s' = { s with t := t } := by
  cases o
  case mint => cases h
  case burn => cases h
  case burnFrom => cases h
  case advance => exact ⟨_, rfl, (Except.ok.inj h).symm⟩
  all_goals exact withT_ok h

theorem ctok_ok {c : Cfg} {s s' : CTok} {auth : List Nat} {o : Fungible.Op} (h : CTok.apply c s auth o = .ok s') :
    (∀ to a, o = .mint to a → checkCap s a = .ok ()) ∧
      ∃ t, Fungible.apply c s.tok auth o = .ok t ∧ s' = { s with tok := t } := by
  cases o
  case mint =>
    obtain ⟨_, hc, h⟩ := bind_eq_ok h
    exact ⟨fun _ _ e => by cases e; exact hc, ctok_withTok_ok h⟩
  case burn => cases h
  case burnFrom => cases h
  all_goals exact ⟨nofun, ctok_withTok_ok h⟩

theorem ctok_construct_ok {now : Nat} {cap : Int} {s0 : CTok} (h : CTok.construct now cap = .ok s0) :
    0 ≤ cap ∧ s0 = { tok := Fungible.init now, cap := some cap } :=
  (ite_error_ok_iff.mp h).imp_left Int.not_lt.mp

/-! ### list changes: the four library functions as one -/

namespace Mon

/-- the library function behind a list change (`ak`: allow list; `on`: allow / block) -/
def setFn (ak on : Bool) : LTok → Nat → LTok :=
  match ak, on with
  | true, true => AllowList.allowUser
  | true, false => AllowList.disallowUser
  | false, true => BlockList.blockUser
  | false, false => BlockList.unblockUser

theorem setFn_eq (ak on : Bool) (s : LTok) (u : Nat) :
    setFn ak on s u =
      if s.listed u = on then s else { s with listed := upd s.listed u on, log := s.log ++ [evOf ak on u] } := by
  cases ak <;> cases on <;> cases h : s.listed u <;>
    simp [setFn, evOf, AllowList.allowUser, AllowList.disallowUser, BlockList.blockUser, BlockList.unblockUser, h]

theorem setFn_noop {ak on : Bool} {s : LTok} {u : Nat} (h : s.listed u = on) : setFn ak on s u = s := by
  rw [setFn_eq, if_pos h]

theorem setFn_listed (ak on : Bool) (s : LTok) (u : Nat) : (setFn ak on s u).listed = upd s.listed u on := by
  rw [setFn_eq]
  split
  · rename_i h; rw [← h, upd_self]
  · rfl

theorem setFn_log (ak on : Bool) (s : LTok) (u : Nat) :
    (setFn ak on s u).log = if s.listed u = on then s.log else s.log ++ [evOf ak on u] := by
  rw [setFn_eq]
  split <;> rfl

theorem setFn_tok (ak on : Bool) (s : LTok) (u : Nat) : (setFn ak on s u).tok = s.tok := by
  rw [setFn_eq]
  split <;> rfl

theorem allowUser_listed (s : LTok) (u : Nat) :
    (AllowList.allowUser s u).listed = upd s.listed u true ∧ (AllowList.allowUser s u).tok = s.tok :=
  ⟨setFn_listed true true s u, setFn_tok true true s u⟩

theorem disallowUser_listed (s : LTok) (u : Nat) :
    (AllowList.disallowUser s u).listed = upd s.listed u false ∧ (AllowList.disallowUser s u).tok = s.tok :=
  ⟨setFn_listed true false s u, setFn_tok true false s u⟩

theorem blockUser_listed (s : LTok) (u : Nat) :
    (BlockList.blockUser s u).listed = upd s.listed u true ∧ (BlockList.blockUser s u).tok = s.tok :=
  ⟨setFn_listed false true s u, setFn_tok false true s u⟩

theorem unblockUser_listed (s : LTok) (u : Nat) :
    (BlockList.unblockUser s u).listed = upd s.listed u false ∧ (BlockList.unblockUser s u).tok = s.tok :=
  ⟨setFn_listed false false s u, setFn_tok false false s u⟩

theorem alib_set_eq {c : Cfg} {s s' : LTok} {auth : List Nat} {u : Nat} {on : Bool} {x : Nat}
    (h : ALib.apply c s auth (.setList u on x) = .ok s') : s' = setFn true on s u := by
  cases on <;> exact (Except.ok.inj h).symm

theorem blib_set_eq {c : Cfg} {s s' : LTok} {auth : List Nat} {u : Nat} {on : Bool} {x : Nat}
    (h : BLib.apply c s auth (.setList u on x) = .ok s') : s' = setFn false on s u := by
  cases on <;> exact (Except.ok.inj h).symm

end Mon

theorem onlyRole_ok {s : LEx} {auth : List Nat} {operator : Nat} {u : Unit} (h : onlyRole s auth operator = .ok u) :
    s.isMgr operator = true ∧ operator ∈ auth := by
  obtain ⟨_, h1, h2⟩ := bind_eq_ok h
  refine ⟨?_, requireAuth_ok h2⟩
  cases hm : s.isMgr operator
  · rw [ensureRole, hm] at h1; cases h1
  · rfl

theorem aex_set_ok {c : Cfg} {s s' : LEx} {auth : List Nat} {u operator : Nat} {on : Bool}
    (h : AEx.apply c s auth (.setList u on operator) = .ok s') :
    onlyRole s auth operator = .ok () ∧ s' = { s with t := Mon.setFn true on s.t u } := by
  cases on <;> exact let ⟨_, h1, h2⟩ := bind_eq_ok h; ⟨h1, (Except.ok.inj h2).symm⟩

theorem bex_set_ok {c : Cfg} {s s' : LEx} {auth : List Nat} {u operator : Nat} {on : Bool}
    (h : BEx.apply c s auth (.setList u on operator) = .ok s') :
    onlyRole s auth operator = .ok () ∧ s' = { s with t := Mon.setFn false on s.t u } := by
  cases on <;> exact let ⟨_, h1, h2⟩ := bind_eq_ok h; ⟨h1, (Except.ok.inj h2).symm⟩

theorem Mon.aex_set_eq {c : Cfg} {s s' : LEx} {auth : List Nat} {u operator : Nat} {on : Bool}
    (h : AEx.apply c s auth (.setList u on operator) = .ok s') : s' = { s with t := Mon.setFn true on s.t u } :=
  (aex_set_ok h).2

theorem Mon.bex_set_eq {c : Cfg} {s s' : LEx} {auth : List Nat} {u operator : Nat} {on : Bool}
    (h : BEx.apply c s auth (.setList u on operator) = .ok s') : s' = { s with t := Mon.setFn false on s.t u } :=
  (bex_set_ok h).2

/-! ### `Base::update` and `Base::approve` on the supply -/

theorem update_supply {s s' : Fungible.State} {f t : Option Nat} {amt : Int}
    (h : update s f t amt = .ok s') :
    0 ≤ amt ∧ s'.supply = s.supply + (if f = none then amt else 0) - (if t = none then amt else 0) ∧
    s'.now = s.now := by
  obtain ⟨h0, -, rfl⟩ := update_eq h
  exact ⟨h0, updateSt_supply s f t amt, updateSt_now s f t amt⟩

theorem approve_frame {c : Cfg} {s s' : Fungible.State} {auth : List Nat} {o sp : Nat} {amt : Int} {lu : Nat}
    (h : Fungible.approve c s auth o sp amt lu = .ok s') : s'.supply = s.supply ∧ s'.bal = s.bal := by
  obtain ⟨-, s0, h0, rfl⟩ := approve_ok h
  exact ⟨(setAllowance_ok h0).1, (setAllowance_ok h0).2.1⟩

/-! ### the migration flag -/

theorem requireOwner_ok {s : Mig} {auth : List Nat} {operator : Nat} {u : Unit}
    (h : Mig.requireOwner s auth operator = .ok u) : operator = s.owner ∧ operator ∈ auth := by
  obtain ⟨_, hr, ho⟩ := bind_eq_ok h
  refine ⟨?_, requireAuth_ok hr⟩
  split at ho
  · cases ho
  · rename_i hne; exact Decidable.of_not_not hne

theorem ensureCanComplete_ok {s : Mig} {u : Unit} :
    ensureCanCompleteMigration s = .ok u ↔ s.migrating = true := by
  unfold ensureCanCompleteMigration canCompleteMigration
  cases s.migrating
  · exact ⟨fun h => (by cases h), fun h => (by cases h)⟩
  · exact ⟨fun _ => rfl, fun _ => rfl⟩

theorem migrate_ok {s s' : Mig} {auth : List Nat} {d : Nat × Nat} {operator : Nat}
    (h : Mig.migrate s auth d operator = .ok s') :
    s.migrating = true ∧ operator = s.owner ∧ operator ∈ auth ∧ s' = completeMigration (Mig.userMigrate s d) := by
  obtain ⟨_, ha, h⟩ := bind_eq_ok h
  obtain ⟨_, he, h⟩ := bind_eq_ok h
  exact ⟨ensureCanComplete_ok.1 he, (requireOwner_ok ha).1, (requireOwner_ok ha).2, (Except.ok.inj h).symm⟩

theorem upgrade_ok {s s' : Mig} {auth : List Nat} {hash operator : Nat} (h : Mig.upgrade s auth hash operator = .ok s') :
    operator = s.owner ∧ operator ∈ auth ∧ s' = { enableMigration s with wasm := hash } := by
  obtain ⟨_, ha, h⟩ := bind_eq_ok h
  exact ⟨(requireOwner_ok ha).1, (requireOwner_ok ha).2, (Except.ok.inj h).symm⟩

theorem migrate_by_owner (s : Mig) (h : s.migrating = true) (d : Nat × Nat) :
    Mig.migrate s [s.owner] d s.owner = .ok (completeMigration (Mig.userMigrate s d)) := by
  have h1 : Mig.requireOwner s [s.owner] s.owner = .ok () := by
    simp [Mig.requireOwner, requireAuth]; rfl
  unfold Mig.migrate
  rw [h1, (ensureCanComplete_ok (u := ())).2 h]
  rfl

end OZ.Gates
