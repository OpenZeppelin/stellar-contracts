import OZ.Model.RegIrs
import OZ.Lemmas.RegStep
/-
The identity registry storage (C20): each operation is accepted exactly under its conditions, with the successor state
written out (only `remove_identity` needs the invariant `Inv`); the invariant is stated and kept account by account.
-/
namespace OZ.RegIrs
open OZ.Reg

structure Inv (s : State) : Prop where
  profDom : ∀ a, (s.profile a).isSome = (s.identity a).isSome
  recNone : ∀ a, (s.recoveredTo a).isSome = true → s.identity a = none
  cdLen : ∀ a p, s.profile a = some p → 1 ≤ p.countries.length ∧ p.countries.length ≤ MAX_COUNTRY_ENTRIES
  cdValid : ∀ a p, s.profile a = some p → p.countries.all validCD = true

theorem inv_init : Inv init := by
  constructor <;> intros <;> simp_all [init]

theorem Inv.profile_some {s : State} (hI : Inv s) {a : Nat} (h : (s.identity a).isSome = true) :
    ∃ p, s.profile a = some p :=
  Option.isSome_iff_exists.1 ((hI.profDom a).trans h)

theorem Inv.profile_none {s : State} (hI : Inv s) {a : Nat} (h : s.identity a = none) : s.profile a = none :=
  Option.not_isSome_iff_eq_none.1 (by rw [hI.profDom, h]; exact Bool.false_ne_true)

theorem entries_of_profile {s : State} {a : Nat} {p : Profile} (hp : s.profile a = some p) :
    getCountryDataEntries s a = p.countries := by
  unfold getCountryDataEntries; rw [hp]

theorem getCountryData_eq_getElem (s : State) (a i : Nat) :
    getCountryData s a i = (getCountryDataEntries s a)[i]? := by
  unfold getCountryData getCountryDataEntries
  cases s.profile a <;> rfl

theorem addIdentity_ok_iff (s s' : State) (a ident ty : Nat) (cs : List CD) :
    addIdentity s a ident ty cs = .ok s' ↔
      s.recoveredTo a = none ∧ cs ≠ [] ∧ cs.length ≤ MAX_COUNTRY_ENTRIES ∧ cs.all validCD = true ∧
        s.identity a = none ∧
      s' = { s with identity := updD s.identity a (some ident), profile := updD s.profile a (some ⟨ty, cs⟩) } := by
  unfold addIdentity
  rw [ite_error_eq_ok_iff, ite_error_eq_ok_iff, ite_error_eq_ok_iff, ite_error_eq_ok_iff, ite_error_eq_ok_iff, ok_eq_ok_iff,
    Option.not_isSome_iff_eq_none, Option.not_isSome_iff_eq_none, Nat.not_lt, Bool.not_eq_true', Bool.not_eq_false]

theorem modifyIdentity_ok_iff (s s' : State) (a ident : Nat) :
    modifyIdentity s a ident = .ok s' ↔
      (s.identity a).isSome = true ∧ s' = { s with identity := updD s.identity a (some ident) } := by
  unfold modifyIdentity
  rw [ite_error_eq_ok_iff, ok_eq_ok_iff, Option.isNone_iff_eq_none, ← Option.ne_none_iff_isSome]

theorem removeIdentity_ok_iff {s : State} (hI : Inv s) (s' : State) (a : Nat) :
    removeIdentity s a = .ok s' ↔
      (s.identity a).isSome = true ∧
        s' = { s with identity := updD s.identity a none, profile := updD s.profile a none } := by
  unfold removeIdentity
  rw [ite_error_eq_ok_iff, ite_error_eq_ok_iff, ok_eq_ok_iff, Option.isNone_iff_eq_none, Option.isNone_iff_eq_none,
    ← Option.ne_none_iff_isSome]
  -- the profile of a registered account is there: the second refusal is dead
  exact and_congr_right fun h => and_iff_right fun hp => by
    obtain ⟨p, hp'⟩ := hI.profile_some (Option.ne_none_iff_isSome.1 h); rw [hp] at hp'; cases hp'

theorem recoverIdentity_ok_iff (s s' : State) (old new : Nat) :
    recoverIdentity s old new = .ok s' ↔
      ∃ ident p, s.identity old = some ident ∧ s.profile old = some p ∧ s.recoveredTo new = none ∧
        s.identity new = none ∧ s' = moveIdentity s old new ident p := by
  unfold recoverIdentity
  cases s.identity old with
  | none => simp [ite_error_eq_ok_iff]
  | some ident =>
    cases s.profile old with
    | none => simp [ite_error_eq_ok_iff]
    | some p =>
      simp only [Option.some.injEq, exists_and_left, exists_eq_left']
      rw [ite_error_eq_ok_iff, ite_error_eq_ok_iff, ok_eq_ok_iff, Option.not_isSome_iff_eq_none, Option.not_isSome_iff_eq_none]

theorem addCountries_ok_iff (s s' : State) (a : Nat) (cs : List CD) :
    addCountryDataEntries s a cs = .ok s' ↔
      ∃ p, s.profile a = some p ∧ cs ≠ [] ∧ cs.all validCD = true ∧
        (p.countries ++ cs).length ≤ MAX_COUNTRY_ENTRIES ∧
        s' = { s with profile := updD s.profile a (some { p with countries := p.countries ++ cs }) } := by
  unfold addCountryDataEntries
  cases s.profile a with
  | none => exact iff_of_false (fun h => nomatch (ite_error_eq_ok_iff.1 (ite_error_eq_ok_iff.1 h).2).2) fun ⟨_, h, _⟩ => nomatch h
  | some p =>
    simp only [Option.some.injEq, exists_eq_left']
    rw [ite_error_eq_ok_iff, ite_error_eq_ok_iff, ite_error_eq_ok_iff, ok_eq_ok_iff, Nat.not_lt, Bool.not_eq_true', Bool.not_eq_false]

theorem modifyCountry_ok_iff (s s' : State) (a i : Nat) (c : CD) :
    modifyCountryData s a i c = .ok s' ↔
      ∃ p, s.profile a = some p ∧ validCD c = true ∧ i < p.countries.length ∧
        s' = { s with profile := updD s.profile a (some { p with countries := p.countries.set i c }) } := by
  unfold modifyCountryData
  cases s.profile a with
  | none => simp [ite_error_eq_ok_iff]
  | some p =>
    simp only [Option.some.injEq, exists_eq_left']
    rw [ite_error_eq_ok_iff, ite_error_eq_ok_iff, ok_eq_ok_iff, Nat.not_le, Bool.not_eq_true', Bool.not_eq_false]

theorem deleteCountry_ok_iff (s s' : State) (a i : Nat) :
    deleteCountryData s a i = .ok s' ↔
      ∃ p, s.profile a = some p ∧ p.countries.length ≠ 1 ∧ i < p.countries.length ∧
        s' = { s with profile := updD s.profile a (some { p with countries := p.countries.eraseIdx i }) } := by
  unfold deleteCountryData
  cases s.profile a with
  | none => simp
  | some p =>
    simp only [Option.some.injEq, exists_eq_left']
    rw [ite_error_eq_ok_iff, ite_error_eq_ok_iff, ok_eq_ok_iff, Nat.not_le]

structure EntryOk (i : Option Nat) (p : Option Profile) (r : Option Nat) : Prop where
  dom : p.isSome = i.isSome
  notRec : r.isSome = true → i = none
  cds : ∀ q, p = some q → (1 ≤ q.countries.length ∧ q.countries.length ≤ MAX_COUNTRY_ENTRIES) ∧
    q.countries.all validCD = true

theorem inv_iff {s : State} : Inv s ↔ ∀ a, EntryOk (s.identity a) (s.profile a) (s.recoveredTo a) :=
  ⟨fun hI a => ⟨hI.profDom a, hI.recNone a, fun q hq => ⟨hI.cdLen a q hq, hI.cdValid a q hq⟩⟩,
   fun h => ⟨fun a => (h a).dom, fun a => (h a).notRec, fun a q hq => ((h a).cds q hq).1,
     fun a q hq => ((h a).cds q hq).2⟩⟩

theorem inv_write {s : State} (hI : Inv s) (a : Nat) {i : Option Nat} {p : Option Profile}
    (h : EntryOk i p (s.recoveredTo a)) :
    Inv { s with identity := updD s.identity a i, profile := updD s.profile a p } :=
  inv_iff.2 fun x => by
    show EntryOk (updD s.identity a i x) (updD s.profile a p x) (s.recoveredTo x)
    by_cases hx : x = a
    · subst hx; rw [updD_same, updD_same]; exact h
    · rw [updD_other _ _ _ _ hx, updD_other _ _ _ _ hx]; exact inv_iff.1 hI x

theorem inv_setCountries {s : State} (hI : Inv s) {a : Nat} {p : Profile} (hp : s.profile a = some p)
    {cs : List CD} (h1 : 1 ≤ cs.length) (h2 : cs.length ≤ MAX_COUNTRY_ENTRIES) (hv : cs.all validCD = true) :
    Inv { s with profile := updD s.profile a (some { p with countries := cs }) } := by
  have := inv_write hI a (i := s.identity a) (p := some { p with countries := cs })
    ⟨by rw [← hI.profDom, hp]; rfl, hI.recNone a, fun q hq => by cases hq; exact ⟨⟨h1, h2⟩, hv⟩⟩
  rwa [updD_self] at this

/-- only `recover` writes `recoveredTo`, at an account that holds an identity and so was not marked -/
theorem next_keeps {s : State} (hI : Inv s) (o : Op) :
    Inv (next s o) ∧ ∀ a b, s.recoveredTo a = some b → (next s o).recoveredTo a = some b := by
  unfold next
  cases hs : step s o with
  | error e => exact ⟨hI, fun _ _ h => h⟩
  | ok s' =>
    cases o with
    | add a ident ty cs =>
      obtain ⟨hr, hne, hl, hv, hid, rfl⟩ := (addIdentity_ok_iff s s' a ident ty cs).1 hs
      exact ⟨inv_write hI a ⟨rfl, fun h => (by rw [hr] at h; cases h),
        fun q hq => by cases hq; exact ⟨⟨List.length_pos_iff.2 hne, hl⟩, hv⟩⟩, fun _ _ h => h⟩
    | modify a ident =>
      obtain ⟨hsome, rfl⟩ := (modifyIdentity_ok_iff s s' a ident).1 hs
      have := inv_write hI a (i := some ident) (p := s.profile a)
        ⟨by rw [hI.profDom, hsome]; rfl, fun h => (by rw [hI.recNone a h] at hsome; cases hsome),
          (inv_iff.1 hI a).cds⟩
      rw [updD_self] at this
      exact ⟨this, fun _ _ h => h⟩
    | remove a =>
      obtain ⟨_, rfl⟩ := (removeIdentity_ok_iff hI s' a).1 hs
      exact ⟨inv_write hI a ⟨rfl, fun _ => rfl, fun q hq => by cases hq⟩, fun _ _ h => h⟩
    | recover old new =>
      obtain ⟨ident, p, hio, hp, hr, hin, rfl⟩ := (recoverIdentity_ok_iff s s' old new).1 hs
      have h1 := inv_write hI new (i := some ident) (p := some p)
        ⟨rfl, fun h => (by rw [hr] at h; cases h), fun q hq => by cases hq; exact (inv_iff.1 hI old).cds p hp⟩
      have h2 := inv_write h1 old (i := none) (p := none) ⟨rfl, fun _ => rfl, fun q hq => by cases hq⟩
      have hrec : ∀ x, x ≠ old → (moveIdentity s old new ident p).recoveredTo x = s.recoveredTo x :=
        fun x hx => updD_other _ _ _ _ hx
      constructor
      · refine inv_iff.2 fun x => ⟨(inv_iff.1 h2 x).dom, fun hrx => ?_, (inv_iff.1 h2 x).cds⟩
        show updD (updD s.identity new (some ident)) old none x = none
        by_cases hxo : x = old
        · rw [hxo, updD_same]
        · exact (inv_iff.1 h2 x).notRec (by rwa [hrec x hxo] at hrx)
      · intro a b h
        have hao : a ≠ old := fun hao => by
          rw [← hao, hI.recNone a (by rw [h]; rfl)] at hio; cases hio
        rw [hrec a hao]; exact h
    | addCountries a cs =>
      obtain ⟨p, hp, hne, hv, hl, rfl⟩ := (addCountries_ok_iff s s' a cs).1 hs
      refine ⟨inv_setCountries hI hp ?_ hl ?_, fun _ _ h => h⟩
      · rw [List.length_append]; exact Nat.le_add_right_of_le (hI.cdLen a p hp).1
      · rw [List.all_append, hI.cdValid a p hp, hv]; rfl
    | modifyCountry a i c =>
      obtain ⟨p, hp, hv, hi, rfl⟩ := (modifyCountry_ok_iff s s' a i c).1 hs
      refine ⟨inv_setCountries hI hp ?_ ?_ (OZ.Lists.all_set (hI.cdValid a p hp) i c hv), fun _ _ h => h⟩
      · rw [List.length_set]; exact (hI.cdLen a p hp).1
      · rw [List.length_set]; exact (hI.cdLen a p hp).2
    | deleteCountry a i =>
      obtain ⟨p, hp, hne, hi, rfl⟩ := (deleteCountry_ok_iff s s' a i).1 hs
      have hlen := hI.cdLen a p hp
      refine ⟨inv_setCountries hI hp ?_ ?_ (OZ.Lists.all_eraseIdx (hI.cdValid a p hp) i), fun _ _ h => h⟩
      · rw [List.length_eraseIdx, if_pos hi]; omega
      · rw [List.length_eraseIdx, if_pos hi]; omega

theorem inv_next {s : State} (hI : Inv s) (o : Op) : Inv (next s o) :=
  (next_keeps hI o).1

theorem inv_run {s : State} (hI : Inv s) (ops : List Op) : Inv (run s ops) :=
  OZ.Lists.foldl_inv (P := Inv) (fun _ o h => inv_next h o) ops s hI

theorem recoveredTo_run {s : State} (hI : Inv s) (ops : List Op) (a b : Nat) (h : s.recoveredTo a = some b) :
    (run s ops).recoveredTo a = some b := by
  induction ops generalizing s with
  | nil => exact h
  | cons o os ih => exact ih (inv_next hI o) ((next_keeps hI o).2 a b h)

def Reachable (s : State) : Prop := ∃ ops, s = run init ops

theorem reachable_inv {s : State} (h : Reachable s) : Inv s := by
  obtain ⟨ops, rfl⟩ := h
  exact inv_run inv_init ops

end OZ.RegIrs
