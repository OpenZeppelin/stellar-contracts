import OZ.Lemmas.PoliciesMonInv
/-
C14 monitor soundness, one lemma per check of the monitor (OZ/Model/PoliciesMon.lean): fed with
the model's own observation of a call, the check is silent. `Facts` collects what the model's
answer to a call line means (rejected = unchanged, accepted = authorized by the account and one
successful `applyM`, a query = unchanged and its answer is `canM`); `Agree` is the relation
between the monitor's state and the model's state that the main induction carries.
-/
namespace OZ.Policies.Mon
open OZ.Host OZ.Policies

structure StateOf (m : M) (o : Obs) : Prop where
  S : o.S = obsS m.s
  W : o.W = obsW m.w
  L : o.L = obsL m.l
  str : o.stateStr = stateStr m

theorem modelObs_stateOf (m : M) (out : Out) : StateOf m (modelObs m out) := ⟨rfl, rfl, rfl, rfl⟩

theorem sThrOf_eq {m : M} {prev : Obs} {p : POp} (hs : StateOf m prev) (hv : Valid p) :
    sThrOf prev p = m.s.thr p.a p.r := by
  unfold sThrOf; rw [hs.S]; exact find_obsS m.s hv.a_lt hv.r_lt

theorem wCfgOf_eq {m : M} {prev : Obs} {p : POp} (hs : StateOf m prev) (hv : Valid p) :
    wCfgOf prev p = (m.w.par p.a p.r).map (toW (p.a, p.r)) := by
  unfold wCfgOf; rw [hs.W]; exact find_obsW m.w hv.a_lt hv.r_lt

theorem lCfgOf_eq {m : M} {prev : Obs} {p : POp} (hs : StateOf m prev) (hv : Valid p) :
    lCfgOf prev p = lCfgM m p := by
  unfold lCfgOf lCfgM; rw [hs.L]; exact find_obsL m.l hv.a_lt hv.r_lt

/-! ### the invariants every observed state must satisfy -/

theorem any_check_none {α : Type} {l : List α} {p : α → Bool} {msg : String} (h : ∀ x ∈ l, p x = false) :
    (if l.any p then some msg else none) = none := by
  refine if_neg ?_
  rw [List.any_eq_true]
  rintro ⟨x, hx, hp⟩
  rw [h x hx] at hp
  cases hp

theorem stateChecks_quiet {m : M} {log : List Spent} {o : Obs} (hi : Inv m log) (ho : StateOf m o)
    (hnow : o.now = m.l.now) : stateChecks o = none := by
  have dok : ∀ x ∈ o.L, ∃ d, x = toL (x.a, x.r) d ∧ DOK m.l.now d := by
    intro x hx
    rw [ho.L] at hx
    obtain ⟨d, hd, hx'⟩ := mem_obsL hx
    have := hi.spend x.a x.r
    rw [hd] at this
    exact ⟨d, hx', this.1⟩
  have hw : ∀ x ∈ o.W, 1 ≤ x.thr ∧ x.thr ≤ nsum (x.ws.map (·.2)) ∧ nsum (x.ws.map (·.2)) ≤ U32_MAX := by
    intro x hx
    rw [ho.W] at hx
    obtain ⟨q, hq, e1, e2⟩ := mem_obsW hx
    rw [e1, e2, nsum_weights]
    exact hi.weighted _ _ _ hq
  have h1 : chkSimpleZero o = none := any_check_none fun x hx => decide_eq_false (by
    rw [ho.S] at hx
    have := hi.simple _ _ _ (mem_obsS hx)
    omega)
  have h2 : chkWeightedZero o = none := any_check_none fun x hx => decide_eq_false (Nat.ne_of_gt (hw x hx).1)
  have h3 : chkWeightedOverflow o = none := any_check_none fun x hx => decide_eq_false (Nat.not_lt.mpr (hw x hx).2.2)
  have h4 : chkWeightedUnreachable o = none := any_check_none fun x hx => decide_eq_false (Nat.not_lt.mpr (hw x hx).2.1)
  have h5 : chkSpendCache o = none := any_check_none fun x hx => decide_eq_false (by
    obtain ⟨d, hxd, hd⟩ := dok x hx
    refine fun hne => hne ?_
    rw [hxd, isum_eq_sum]
    simp only [toL, List.map_map]
    exact hd.cached)
  have h6 : chkSpendSorted o = none := any_check_none fun x hx => by
    obtain ⟨d, hxd, hd⟩ := dok x hx
    have hs : sortedNat (x.hist.map (·.2)) = true := by
      apply sortedNat_of_pairwise
      rw [hxd]
      simp only [toL, List.map_map]
      rw [List.pairwise_map]
      exact hd.sorted
    rw [hs]
    rfl
  have h7 : chkSpendFuture o = none := any_check_none fun x hx => by
    obtain ⟨d, hxd, hd⟩ := dok x hx
    rw [Bool.eq_false_iff, Ne, List.any_eq_true]
    rintro ⟨e, he, hp⟩
    rw [hxd] at he
    obtain ⟨e', he', rfl⟩ := List.mem_map.mp he
    have := hd.le_now e' he'
    have hp := of_decide_eq_true hp
    omega
  have h8 : chkSpendCapacity o = none := any_check_none fun x hx => decide_eq_false (by
    obtain ⟨d, hxd, hd⟩ := dok x hx
    have := hd.bound
    rw [hxd]
    simp only [toL, List.length_map]
    unfold Spend.MAX_HISTORY_ENTRIES at this
    omega)
  have h9 : chkSpendStored o = none := any_check_none fun x hx => decide_eq_false (by
    obtain ⟨d, hxd, hd⟩ := dok x hx
    have a1 := hd.limit_pos
    have a2 := hd.period_pos
    rw [hxd]
    simp only [toL]
    omega)
  unfold stateChecks
  rw [h1, h2, h3, h4, h5, h6, h7, h8, h9]
  rfl

/-! ### the answer of `can_enforce` on the model, by key -/

def CanTrue (m : M) (k : CanKey) : Prop :=
  match k.pol with
  | .s => Simple.canEnforce m.s k.ctx k.sg ⟨k.r, k.rs⟩ k.a = true
  | .w => Weighted.canEnforce m.w k.ctx k.sg ⟨k.r, k.rs⟩ k.a = .ok true
  | .l => Spend.canEnforce m.l k.ctx k.sg ⟨k.r, k.rs⟩ k.a = .ok true

theorem canM_true_iff (m : M) (p : POp) : canM m p = .ok true ↔ CanTrue m (canKeyOf p) := by
  unfold canM CanTrue canKeyOf
  cases p.kind.pol
  · show Except.ok (Simple.canEnforce m.s p.ctx p.sg (rule p) p.a) = Except.ok true ↔ _
    constructor
    · intro h; injection h
    · intro h; exact congrArg _ h
  · exact Iff.rfl
  · exact Iff.rfl

/-- **can_enforce agrees with enforce**, for the three policies at once -/
theorem enforce_iff_can (m : M) (p : POp) (he : p.kind.isEnforce = true) (ha : p.a ∈ p.auth) :
    (∃ m', applyM m p = .ok m') ↔ CanTrue m (canKeyOf p) := by
  obtain ⟨kind, a, r, rs, thr, w, sgn, wt, lim, per, ctxS, ctx, isTransfer, amount, sg, auth⟩ := p
  cases kind <;> try cases he
  · refine Iff.trans ⟨fun ⟨_, h⟩ => ?_, fun ⟨s', hs⟩ => ⟨_, congrArg (liftS m) hs⟩⟩
      (Simple.simple_can_enforce_agrees m.s auth ctx sg ⟨r, rs⟩ a ha).symm
    obtain ⟨s', hs, _⟩ := liftS_ok h
    exact ⟨s', hs⟩
  · refine Iff.trans ⟨fun ⟨_, h⟩ => ?_, fun ⟨s', hs⟩ => ⟨_, congrArg (liftW m) hs⟩⟩
      (Weighted.weighted_can_enforce_agrees m.w auth ctx sg ⟨r, rs⟩ a ha).symm
    obtain ⟨s', hs, _⟩ := liftW_ok h
    exact ⟨s', hs⟩
  · refine Iff.trans ⟨fun ⟨_, h⟩ => ?_, fun ⟨s', hs⟩ => ⟨_, congrArg (liftL m) hs⟩⟩
      (Spend.spend_can_enforce_agrees m.l auth ctx sg ⟨r, rs⟩ a ha).symm
    obtain ⟨s', hs, _⟩ := liftL_ok h
    exact ⟨s', hs⟩

/-- the count / weight rule, evaluated by the monitor on the reported configuration, is the
answer of the model's `can_enforce` -/
theorem expect_iff {m : M} {p : POp} (e : Bool)
    (h : expectAccept p (m.s.thr p.a p.r) ((m.w.par p.a p.r).map (toW (p.a, p.r))) = some e) :
    e = true ↔ CanTrue m (canKeyOf p) := by
  unfold expectAccept at h
  unfold CanTrue canKeyOf
  cases hp : p.kind.pol <;> rw [hp] at h <;> simp only at h
  · injection h with h; subst h
    show _ ↔ Simple.canEnforce m.s p.ctx p.sg ⟨p.r, p.rs⟩ p.a = true
    unfold simpleRule Simple.canEnforce
    cases m.s.thr p.a p.r <;> exact Iff.rfl
  · injection h with h; subst h
    show _ ↔ Weighted.canEnforce m.w p.ctx p.sg ⟨p.r, p.rs⟩ p.a = .ok true
    rw [Weighted.canEnforce_true_iff]
    show _ ↔ ∃ q, m.w.par p.a p.r = some q ∧ _
    cases hq : m.w.par p.a p.r with
    | none =>
      simp only [Option.map_none, weightedRule]
      constructor
      · intro h; cases h
      · rintro ⟨q, h, _⟩; cases h
    | some q =>
      simp only [Option.map_some, weightedRule, wSumOf_eq, toW, decide_eq_true_eq]
      constructor
      · intro h; exact ⟨q, rfl, h⟩
      · rintro ⟨q', h, h2⟩; injection h with h; subst h; exact h2
  · cases h

/-! ### what the model's answer to a call means -/

structure Facts (m : M) (p : POp) (m' : M) (o : Obs) : Prop where
  quiet : (o.ok = false ∨ p.kind.isCan = true) → m' = m ∧ o.ev = "-"
  acc : o.ok = true → p.kind.isCan = false → applyM m p = .ok m' ∧ o.dem = toString p.a
  rej : o.ok = false → p.kind.isCan = false → ∃ e, applyM m p = .error e
  can : p.kind.isCan = true → (o.res = "true" ↔ canM m p = .ok true) ∧ (o.res = "trap" → ∃ e, canM m p = .error e)
  now : o.now = m'.l.now
  state : StateOf m' o

theorem str_true_ne_trap : ¬ ("true" : String) = "trap" := by decide
theorem str_false_ne_true : ¬ ("false" : String) = "true" := by decide
theorem str_false_ne_trap : ¬ ("false" : String) = "trap" := by decide
theorem str_trap_ne_true : ¬ ("trap" : String) = "true" := by decide
theorem str_dash_ne_true : ¬ ("-" : String) = "true" := by decide
theorem tag_err : ¬ (("err" : String) == "ok") = true := by decide
theorem tag_ok' : ¬ (("ok" : String) == "ok") = false := by decide

theorem facts_can {m : M} {p : POp} (hc : p.kind.isCan = true) (out : Out) (hev : out.ev = "-")
    (hcan : (out.res = "true" ↔ canM m p = .ok true) ∧ (out.res = "trap" → ∃ e, canM m p = .error e)) :
    Facts m p m (modelObs m out) :=
  ⟨fun _ => ⟨rfl, hev⟩, fun _ h => (by rw [hc] at h; cases h), fun _ h => (by rw [hc] at h; cases h), fun _ => hcan, rfl,
    modelObs_stateOf _ _⟩

theorem facts_rejected {m : M} {p : POp} {e : Err} (hc : p.kind.isCan = false) (hx : applyM m p = .error e) :
    Facts m p m (modelObs m ⟨"err", "-", "-", "-"⟩) := by
  refine ⟨fun _ => ⟨rfl, rfl⟩, ?_, ?_, ?_, rfl, modelObs_stateOf _ _⟩
  · intro h; exact absurd h tag_err
  · intro _ _; exact ⟨e, hx⟩
  · intro h; rw [hc] at h; cases h

theorem facts_accepted {m m' : M} {p : POp} (ev : String) (hc : p.kind.isCan = false) (hx : applyM m p = .ok m') :
    Facts m p m' (modelObs m' ⟨"ok", "-", ev, toString p.a⟩) := by
  refine ⟨?_, ?_, ?_, ?_, rfl, modelObs_stateOf _ _⟩
  · rintro (h | h)
    · exact absurd h tag_ok'
    · rw [hc] at h; cases h
  · intro _ _; exact ⟨hx, rfl⟩
  · intro h; exact absurd h tag_ok'
  · intro h; rw [hc] at h; cases h

theorem mstepCall_facts (m : M) (p : POp) :
    Facts m p (mstepCall m p).1 (modelObs (mstepCall m p).1 (mstepCall m p).2) := by
  unfold mstepCall
  cases hc : p.kind.isCan with
  | true =>
    rw [if_pos rfl]
    cases hx : canM m p with
    | error e =>
      exact facts_can hc ⟨"err", "trap", "-", "-"⟩ rfl
        ⟨⟨fun h => absurd h str_trap_ne_true, fun h => (by rw [hx] at h; cases h)⟩, fun _ => ⟨e, hx⟩⟩
    | ok b =>
      cases b with
      | true =>
        exact facts_can hc ⟨"ok", "true", "-", "-"⟩ rfl
          ⟨⟨fun _ => hx, fun _ => rfl⟩, fun h => absurd h str_true_ne_trap⟩
      | false =>
        exact facts_can hc ⟨"no", "false", "-", "-"⟩ rfl
          ⟨⟨fun h => absurd h str_false_ne_true, fun h => (by rw [hx] at h; cases h)⟩,
            fun h => absurd h str_false_ne_trap⟩
  | false =>
    rw [if_neg (by simp)]
    cases hx : applyM m p with
    | error e => exact facts_rejected hc hx
    | ok m' => exact facts_accepted _ hc hx

/-! ### the monitor's state and the model's state -/

structure Agree (mon : Mon) (m : M) : Prop where
  inv : Inv m mon.log
  prev : ∀ o, StateOf m (prevOf mon o)
  can : ∀ k ans, mon.lastCan = some (k, ans) → (ans = "true" ↔ CanTrue m k)

theorem showS_init : showS Simple.init = "-" := by decide
theorem showW_init : showW Weighted.init = "-" := by decide
theorem showL_init (start : Nat) : showL (Spend.init start) = "-" := by
  unfold showL Spend.init
  simp only [keys_eq, List.filterMap_cons, List.filterMap_nil, Option.map_none]
  rfl

theorem init_agree (start : Nat) : Agree monInit (M.init start) := by
  refine ⟨init_inv start, fun o => ⟨?_, ?_, ?_, ?_⟩, fun k ans h => by cases h⟩
  · show [] = obsS Simple.init
    decide
  · show [] = obsW Weighted.init
    decide
  · show [] = obsL (Spend.init start)
    unfold obsL Spend.init
    simp only [keys_eq, List.filterMap_cons, List.filterMap_nil, Option.map_none]
  · show blankState = stateStr (M.init start)
    unfold stateStr M.init blankState
    rw [showS_init, showW_init, showL_init]

/-! ### the checks on a call -/

section call
variable {mon : Mon} {m m' : M} {p : POp} {o : Obs}

theorem chkRollback_quiet (hA : Agree mon m) (F : Facts m p m' o) : chkRollback p o (prevOf mon o) = none := by
  unfold chkRollback
  refine if_neg ?_
  rintro ⟨h1, h2⟩
  apply h2
  have : m' = m := by
    apply (F.quiet _).1
    rcases h1 with h | h
    · left; simpa using h
    · right; exact h
  rw [F.state.str, (hA.prev o).str, this]

theorem chkRollbackEvent_quiet (F : Facts m p m' o) : chkRollbackEvent p o = none := by
  unfold chkRollbackEvent
  refine if_neg ?_
  rintro ⟨h1, h2⟩
  apply h2
  apply (F.quiet _).2
  rcases h1 with h | h
  · left; simpa using h
  · right; exact h

theorem chkAuth_quiet (F : Facts m p m' o) : chkAuth p o = none := by
  unfold chkAuth
  refine if_neg ?_
  rintro ⟨h1, h2, h3⟩
  have hc : p.kind.isCan = false := by simpa using h2
  exact h3 (by simpa using (applyM_facts hc (F.acc h1 hc).1).1)

theorem chkAuthDemand_quiet (F : Facts m p m' o) : chkAuthDemand p o = none := by
  unfold chkAuthDemand
  refine if_neg ?_
  rintro ⟨h1, h2, h3⟩
  have hc : p.kind.isCan = false := by simpa using h2
  exact h3 (F.acc h1 hc).2

theorem isCan_of_isEnforce {k : Kind} (h : k.isEnforce = true) : k.isCan = false := by
  cases k <;> first | rfl | cases h

theorem ok_iff_can (F : Facts m p m' o) (he : p.kind.isEnforce = true) (ha : p.a ∈ p.auth) :
    o.ok = true ↔ CanTrue m (canKeyOf p) := by
  have hc := isCan_of_isEnforce he
  have hen := enforce_iff_can m p he ha
  cases hok : o.ok with
  | true => exact ⟨fun _ => hen.mp ⟨_, (F.acc hok hc).1⟩, fun _ => rfl⟩
  | false =>
    refine ⟨fun h => (by cases h), fun hcan => ?_⟩
    obtain ⟨x, hx⟩ := F.rej hok hc
    obtain ⟨_, h⟩ := hen.mpr hcan
    rw [hx] at h
    cases h

theorem chkRule_quiet (F : Facts m p m' o) :
    chkRule p o (expectAccept p (m.s.thr p.a p.r) ((m.w.par p.a p.r).map (toW (p.a, p.r)))) = none := by
  cases he : expectAccept p (m.s.thr p.a p.r) ((m.w.par p.a p.r).map (toW (p.a, p.r))) with
  | none => rfl
  | some e =>
    have hiff := expect_iff e he
    unfold chkRule
    simp only
    rw [if_neg, if_neg]
    · rintro ⟨h1, h2, h3⟩
      have ha : p.a ∈ p.auth := by simpa using h2
      exact h3 (Bool.eq_iff_iff.mpr ((ok_iff_can F h1 ha).trans hiff.symm))
    · rintro ⟨h1, h2⟩
      apply h2
      have hres := (F.can h1).1
      have hcm := canM_true_iff m p
      cases e with
      | true =>
        have : o.res = "true" := hres.mpr (hcm.mpr (hiff.mp rfl))
        rw [this]; decide
      | false =>
        have : ¬ o.res = "true" := fun h => by
          have := hiff.mpr (hcm.mp (hres.mp h)); cases this
        simpa using this

theorem chkTrap_quiet (hi : Inv m mon.log) (F : Facts m p m' o) : chkTrap p o = none := by
  unfold chkTrap
  refine if_neg ?_
  rintro ⟨h1, h2, h3, h4⟩
  obtain ⟨e, he⟩ := (F.can h2).2 h3
  unfold canM at he
  rw [h1] at he
  simp only at he
  unfold Weighted.canEnforce at he
  cases hq : m.w.par p.a (rule p).id with
  | none => rw [hq] at he; cases he
  | some q =>
    rw [hq] at he
    obtain ⟨_, i2, i3⟩ := hi.weighted _ _ _ hq
    have := Weighted.wsum_le_total q.weights p.sg (nodup_of_nodupNat _ h4)
    simp only [Weighted.meets_eq, if_pos (Nat.le_trans this i3)] at he
    cases he

theorem acc_kind {k : Kind} (F : Facts m p m' o) (hok : o.ok = true) (hk : p.kind = k) (hc : k.isCan = false) :
    p.a ∈ p.auth ∧ AccFacts k m p := by
  subst hk
  exact applyM_facts hc (F.acc hok hc).1

theorem chkSimpleConfig_quiet (F : Facts m p m' o) : chkSimpleConfig p o = none := by
  unfold chkSimpleConfig
  refine if_neg ?_
  rintro ⟨hok, hk | hk, hbad⟩
  · obtain ⟨_, _, h1, h2⟩ := acc_kind F hok hk rfl
    omega
  · obtain ⟨_, h1, h2⟩ := acc_kind F hok hk rfl
    omega

theorem chkSimpleReinstall_quiet (F : Facts m p m' o) : chkSimpleReinstall p o (m.s.thr p.a p.r) = none := by
  unfold chkSimpleReinstall
  refine if_neg ?_
  rintro ⟨hok, hk, hsome⟩
  obtain ⟨_, hnone, _⟩ := acc_kind F hok hk rfl
  rw [hnone] at hsome
  cases hsome

theorem chkWeightedInstall_quiet (F : Facts m p m' o) : chkWeightedInstall p o = none := by
  unfold chkWeightedInstall
  refine if_neg ?_
  rintro ⟨hok, hk, hbad⟩
  obtain ⟨_, _, a1, a2, a3⟩ := acc_kind F hok hk rfl
  rw [total_mkMap] at hbad
  omega

theorem chkWeightedReinstall_quiet (F : Facts m p m' o) :
    chkWeightedReinstall p o ((m.w.par p.a p.r).map (toW (p.a, p.r))) = none := by
  unfold chkWeightedReinstall
  refine if_neg ?_
  rintro ⟨hok, hk, hsome⟩
  obtain ⟨_, hnone, _⟩ := acc_kind F hok hk rfl
  rw [hnone] at hsome
  cases hsome

theorem chkWeightedSetThr_quiet (F : Facts m p m' o) :
    chkWeightedSetThr p o ((m.w.par p.a p.r).map (toW (p.a, p.r))) = none := by
  unfold chkWeightedSetThr
  refine if_neg ?_
  rintro ⟨hok, hk, hbad⟩
  obtain ⟨_, ht, q, hq, a2⟩ := acc_kind F hok hk rfl
  rw [hq] at hbad
  simp only [Option.map_some, Option.isNone_some, toW, Option.getD_some, nsum_weights] at hbad
  rcases hbad with hb | hb | hb
  · omega
  · cases hb
  · omega

theorem chkSpendLimit_quiet (F : Facts m p m' o) : chkSpendLimit p o = none := by
  unfold chkSpendLimit
  refine if_neg ?_
  rintro ⟨hok, hk | hk, hbad⟩
  · obtain ⟨_, a1, _⟩ := acc_kind F hok hk rfl
    exact Int.not_lt.mpr hbad a1
  · obtain ⟨_, a1⟩ := acc_kind F hok hk rfl
    exact Int.not_lt.mpr hbad a1

theorem chkSpendInstall_quiet (F : Facts m p m' o) : chkSpendInstall p o (lCfgM m p) = none := by
  unfold chkSpendInstall
  refine if_neg ?_
  rintro ⟨hok, hk, hbad⟩
  obtain ⟨_, _, a2, a3⟩ := acc_kind F hok hk rfl
  unfold lCfgM at hbad
  rw [a3] at hbad
  rcases hbad with hb | hb
  · exact Nat.ne_of_gt a2 hb
  · cases hb

theorem chkSpendCtx_quiet (hv : Valid p) (F : Facts m p m' o) : chkSpendCtx p o (lCfgM m p) = none := by
  unfold chkSpendCtx
  refine if_neg ?_
  rintro ⟨hok, hk, hbad⟩
  obtain ⟨_, hsg, d, amt, hd, hctx⟩ := acc_kind F hok hk rfl
  unfold lCfgM at hbad
  rw [hd] at hbad
  rcases hbad with hb | hb | hb
  · exact hb (hv.transfer_iff.mpr ⟨amt, hctx⟩)
  · rw [hsg] at hb; cases hb
  · cases hb

theorem chkSpendCanCtx_quiet (hv : Valid p) (F : Facts m p m' o) : chkSpendCanCtx p o (lCfgM m p) = none := by
  unfold chkSpendCanCtx
  refine if_neg ?_
  rintro ⟨hc, hp, hres, hbad⟩
  have h := ((F.can hc).1).mp hres
  unfold canM at h
  rw [hp] at h
  simp only at h
  obtain ⟨hsg, d, hd, amt, hctx, _⟩ := (Spend.canEnforce_true_iff m.l p.ctx p.sg (rule p) p.a).mp h
  have hd' : m.l.store p.a p.r = some d := hd
  unfold lCfgM at hbad
  rw [hd'] at hbad
  rcases hbad with hb | hb | hb
  · exact hb (hv.transfer_iff.mpr ⟨amt, hctx⟩)
  · rw [hsg] at hb; cases hb
  · cases hb

theorem chkAgree_quiet (hA : Agree mon m) (F : Facts m p m' o) : chkAgree mon p o = none := by
  unfold chkAgree
  split
  · rename_i h
    obtain ⟨h1, h2⟩ := h
    have ha : p.a ∈ p.auth := by simpa using h2
    cases hl : mon.lastCan with
    | none => rfl
    | some ka =>
      obtain ⟨k, ans⟩ := ka
      simp only
      refine if_neg ?_
      rintro ⟨hk, hne⟩
      apply hne
      have hcan := hA.can k ans hl
      rw [hk] at hcan
      exact Bool.eq_iff_iff.mpr (beq_iff_eq.trans (hcan.trans (ok_iff_can F h1 ha).symm))
  · rfl

theorem call_log (hA : Agree mon m) (hv : Valid p) (F : Facts m p m' o) :
    Inv m' (monStep mon p o).log ∧ chkWindow (entryOf o.ok p o.now (lCfgM m p)) (monStep mon p o).log = none := by
  show Inv m' (log2Of o.ok p (log1Of (entryOf o.ok p o.now (lCfgOf (prevOf mon o) p)) mon.log)) ∧
    chkWindow (entryOf o.ok p o.now (lCfgM m p))
      (log2Of o.ok p (log1Of (entryOf o.ok p o.now (lCfgOf (prevOf mon o) p)) mon.log)) = none
  rw [lCfgOf_eq (hA.prev o) hv]
  cases hok : o.ok with
  | false =>
    have e1 : entryOf false p o.now (lCfgM m p) = none := by
      unfold entryOf; rw [if_neg (fun hh => by cases hh.1)]
    have e2 : ∀ lg, log2Of false p lg = lg := by
      intro lg; unfold log2Of; rw [if_neg (fun hh => by cases hh.1)]
    rw [e1, e2, (F.quiet (.inl hok)).1]
    exact ⟨hA.inv, rfl⟩
  | true =>
    cases hc : p.kind.isCan with
    | true =>
      rw [entryOf_none (fun e => by rw [e] at hc; cases hc), log2Of_id _ (fun e => by rw [e] at hc; cases hc),
        (F.quiet (.inr hc)).1]
      exact ⟨hA.inv, rfl⟩
    | false =>
      obtain ⟨h1, h2, h3⟩ := applyM_inv hA.inv hv hc (F.acc hok hc).1
      rw [F.now, h1]
      exact ⟨h2, h3⟩

end call

theorem move_sound {mon : Mon} {m : M} (hA : Agree mon m) (k : Nat) {op : MOp} (hop : op = .idle ∨ op = .adv) :
    (checkCore mon op (modelObs (advance m k) ⟨"ok", "-", "-", "-"⟩)).2 = none ∧
    Agree (checkCore mon op (modelObs (advance m k) ⟨"ok", "-", "-", "-"⟩)).1 (advance m k) := by
  have hi := advance_inv hA.inv k
  have hs : StateOf (advance m k) (modelObs (advance m k) ⟨"ok", "-", "-", "-"⟩) := modelObs_stateOf _ _
  have hnow : (modelObs (advance m k) ⟨"ok", "-", "-", "-"⟩).now = (advance m k).l.now := rfl
  generalize modelObs (advance m k) ⟨"ok", "-", "-", "-"⟩ = o at hs hnow ⊢
  -- both verdicts are "the state text changed", else the state checks
  have hq : ∀ msg : String,
      (if o.stateStr ≠ (prevOf mon o).stateStr then some msg else stateChecks o) = none := fun _ => by
    rw [if_neg (by rw [(hA.prev _).str, hs.str]; exact fun h => h rfl)]
    exact stateChecks_quiet hi hs hnow
  rcases hop with rfl | rfl <;> exact ⟨hq _, hi, fun _ => hs, fun k ans h => by cases h⟩

end OZ.Policies.Mon
