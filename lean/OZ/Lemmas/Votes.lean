import OZ.Model.Votes
import OZ.Lemmas.Host
import OZ.Lemmas.Lists
/-
The votes model (packages/governance/src/votes/storage.rs): well-formed checkpoint timelines (`WF`), the
specification of a lookup (`scan`) and the binary search against it, `store` (a second write in the same
ledger overwrites the first, so "untouched or stored into once", `TlStep`, composes), every primitive read
once as the fields it writes and the balance equations between the old values and the new, the invariant
`Inv` (votes = delegated units, total = Σ units) and what no operation changes about the past (`SamePast`).
-/
namespace OZ.Votes
open OZ.Host

/-! ### sums over the universe, the indicator `ind` -/

theorem sumN_congr_mem (U : List Nat) (f g : Nat → Nat) (h : ∀ d, d ∈ U → f d = g d) : sumN U f = sumN U g := by
  unfold sumN
  rw [List.map_congr_left h]

theorem sumN_congr (U : List Nat) (g g' : Nat → Nat) (hg : ∀ d, g' d = g d) : sumN U g' = sumN U g :=
  sumN_congr_mem U g' g (fun d _ => hg d)

theorem sumN_change (U : List Nat) (g g' : Nat → Nat) (a : Nat) (hn : U.Nodup) (h : a ∈ U)
    (hg : ∀ d, d ≠ a → g' d = g d) : sumN U g' + g a = sumN U g + g' a := by
  induction U with
  | nil => cases h
  | cons x xs ih =>
    have hnx : x ∉ xs := (List.nodup_cons.mp hn).1
    have hnxs : xs.Nodup := (List.nodup_cons.mp hn).2
    simp only [sumN, List.map_cons, List.sum_cons] at *
    by_cases hx : x = a
    · subst hx
      have := sumN_congr_mem xs g' g (fun d hd => hg d (fun e => hnx (e ▸ hd)))
      simp only [sumN] at this
      rw [this]; omega
    · have hxs : a ∈ xs := by
        cases h with
        | head => exact absurd rfl hx
        | tail _ h' => exact h'
      have := ih hnxs hxs
      rw [hg x hx]; omega

theorem sumN_zero (U : List Nat) : sumN U (fun _ => 0) = 0 := by
  induction U with
  | nil => rfl
  | cons x xs ih => simp only [sumN, List.map_cons, List.sum_cons] at *; omega

theorem sumN_le_sumN (U : List Nat) (f g : Nat → Nat) (h : ∀ d, f d ≤ g d) : sumN U f ≤ sumN U g := by
  induction U with
  | nil => simp [sumN]
  | cons x xs ih =>
    simp only [sumN, List.map_cons, List.sum_cons] at *
    have := h x; omega

theorem le_sumN (U : List Nat) (g : Nat → Nat) (a : Nat) (h : a ∈ U) : g a ≤ sumN U g := by
  induction U with
  | nil => cases h
  | cons x xs ih =>
    simp only [sumN, List.map_cons, List.sum_cons] at *
    cases h with
    | head => omega
    | tail _ h' => have := ih h'; omega

def ind (o : Option Nat) (x amt : Nat) : Nat := if o = some x then amt else 0

theorem ind_add (o : Option Nat) (x a b : Nat) : ind o x (a + b) = ind o x a + ind o x b := by
  unfold ind; split <;> rfl

theorem ind_zero (o : Option Nat) (x : Nat) : ind o x 0 = 0 := by
  unfold ind; split <;> rfl

theorem ind_none (x a : Nat) : ind none x a = 0 := if_neg (fun e => nomatch e)

theorem ind_self (x a : Nat) : ind (some x) x a = a := if_pos rfl

theorem ind_ne {o : Option Nat} {x : Nat} (h : o ≠ some x) (a : Nat) : ind o x a = 0 := if_neg h

theorem ind_bind (o : Option Nat) (del : Nat → Option Nat) (x amt : Nat) :
    ind (o.bind del) x amt = o.elim 0 (fun a => ind (del a) x amt) := by
  cases o
  · exact ind_none x amt
  · rfl

/-- the part of a mint / burn that is booked on the total supply: all of it when there is no account -/
def nobody (o : Option Nat) (amt : Nat) : Nat := o.elim amt (fun _ => 0)

theorem nobody_add (o : Option Nat) (amt : Nat) : o.elim 0 (fun _ => amt) + nobody o amt = amt := by
  cases o
  · exact Nat.zero_add amt
  · rfl

theorem upd_sub_ind (u : Nat → Nat) (a n x : Nat) (h : n ≤ u a) :
    upd u a (u a - n) x + ind (some a) x n = u x ∧ ind (some a) x n ≤ u x := by
  by_cases hxa : x = a
  · subst hxa; rw [upd_same, ind_self]; exact ⟨Nat.sub_add_cancel h, h⟩
  · rw [upd_other _ _ _ _ hxa, ind_ne (fun e => hxa (Option.some.inj e).symm)]; exact ⟨rfl, Nat.zero_le _⟩

theorem upd_add_ind (u : Nat → Nat) (a n x : Nat) : upd u a (u a + n) x = u x + ind (some a) x n := by
  by_cases hxa : x = a
  · subst hxa; rw [upd_same, ind_self]
  · rw [upd_other _ _ _ _ hxa, ind_ne (fun e => hxa (Option.some.inj e).symm)]; rfl

theorem sumN_add (U : List Nat) (g h : Nat → Nat) : sumN U (fun d => g d + h d) = sumN U g + sumN U h := by
  induction U with
  | nil => rfl
  | cons x xs ih => simp only [sumN, List.map_cons, List.sum_cons] at *; omega

theorem sumN_conserve (U : List Nat) {a b c e : Nat → Nat} (h : ∀ d, a d + b d = c d + e d) :
    sumN U a + sumN U b = sumN U c + sumN U e := by
  rw [← sumN_add, ← sumN_add, sumN_congr U _ _ h]

theorem sumN_ind {U : List Nat} (hn : U.Nodup) (o : Option Nat) (ho : ∀ a, o = some a → a ∈ U) (amt : Nat)
    (w : Nat → Nat → Nat) (hw : ∀ d, w d 0 = 0) :
    sumN U (fun d => w d (ind o d amt)) = o.elim 0 (fun a => w a amt) := by
  cases o with
  | none => rw [sumN_congr U (fun _ => 0) _ (fun d => by rw [ind_none, hw])]; exact sumN_zero U
  | some a =>
    have := sumN_change U (fun _ => 0) (fun d => w d (ind (some a) d amt)) a hn (ho a rfl)
      (fun d hd => by rw [ind_ne (fun e => hd (Option.some.inj e).symm), hw])
    rw [sumN_zero, ind_self, Nat.add_zero, Nat.zero_add] at this
    exact this

/-! ### the midpoint -/

theorem mid_gt {low high : Nat} (h : low < high) : low < mid low high := by
  simp only [mid, divCeil2]; split <;> omega

theorem mid_le {low high : Nat} (h : low < high) : mid low high ≤ high := by
  simp only [mid, divCeil2]; split <;> omega

/-- the `u32` subtraction `mid - 1` never wraps -/
theorem mid_pos {low high : Nat} (h : low < high) : 1 ≤ mid low high := by
  exact Nat.lt_of_le_of_lt (Nat.zero_le low) (mid_gt h)

/-- the new `high` of the `else` branch stays in `[low, high)` -/
theorem mid_pred_lt {low high : Nat} (h : low < high) : mid low high - 1 < high :=
  Nat.lt_of_lt_of_le (Nat.sub_lt (mid_pos h) Nat.one_pos) (mid_le h)

theorem le_mid_pred {low high : Nat} (h : low < high) : low ≤ mid low high - 1 :=
  Nat.le_pred_of_lt (mid_gt h)

/-! ### well-formed timelines -/

structure WF (t : Timeline) (now : Nat) : Prop where
  present : ∀ i, i < t.num → ∃ c, t.cp i = some c
  sorted : ∀ i j ci cj, i < j → j < t.num → t.cp i = some ci → t.cp j = some cj →
    ci.ledger < cj.ledger
  bound : ∀ i c, i < t.num → t.cp i = some c → c.ledger ≤ now

theorem WF.mono {t : Timeline} {now now' : Nat} (h : WF t now) (hle : now ≤ now') : WF t now' :=
  ⟨h.present, h.sorted, fun i c hi hc => Nat.le_trans (h.bound i c hi hc) hle⟩

theorem WF_empty (now : Nat) : WF Timeline.empty now :=
  ⟨fun _ hi => absurd hi (Nat.not_lt_zero _), fun _ _ _ _ _ hj => absurd hj (Nat.not_lt_zero _),
   fun _ _ hi => absurd hi (Nat.not_lt_zero _)⟩

theorem WF.last {t : Timeline} {now : Nat} (h : WF t now) (h0 : t.num ≠ 0) :
    ∃ c, t.cp (t.num - 1) = some c ∧ c.ledger ≤ now := by
  have hlt : t.num - 1 < t.num := Nat.sub_lt (Nat.pos_of_ne_zero h0) Nat.one_pos
  obtain ⟨c, hc⟩ := h.present _ hlt
  exact ⟨c, hc, h.bound _ c hlt hc⟩

theorem WF.ledger_mono {t : Timeline} {now : Nat} (h : WF t now) {i j : Nat} {ci cj : Checkpoint}
    (hij : i ≤ j) (hj : j < t.num) (hci : t.cp i = some ci) (hcj : t.cp j = some cj) :
    ci.ledger ≤ cj.ledger := by
  rcases Nat.eq_or_lt_of_le hij with e | hlt
  · subst e; cases hci.symm.trans hcj; exact Nat.le_refl _
  · exact Nat.le_of_lt (h.sorted i j ci cj hlt hj hci hcj)

theorem WF.index_le_ledger {t : Timeline} {now : Nat} (h : WF t now) :
    ∀ i c, i < t.num → t.cp i = some c → i ≤ c.ledger := by
  intro i
  induction i with
  | zero => intro c _ _; exact Nat.zero_le _
  | succ i ih =>
    intro c hi hc
    obtain ⟨c', hc'⟩ := h.present i (Nat.lt_of_succ_lt hi)
    exact Nat.lt_of_le_of_lt (ih c' (Nat.lt_of_succ_lt hi) hc')
      (h.sorted i (i + 1) c' c (Nat.lt_succ_self i) hi hc' hc)

/-- at most one checkpoint per ledger: the counter never exceeds `now + 1` -/
theorem WF.num_le {t : Timeline} {now : Nat} (h : WF t now) : t.num ≤ now + 1 := by
  by_cases h0 : t.num = 0
  · rw [h0]; exact Nat.zero_le _
  · obtain ⟨c, hc, hb⟩ := h.last h0
    have := h.index_le_ledger (t.num - 1) c (Nat.sub_lt (Nat.pos_of_ne_zero h0) Nat.one_pos) hc
    exact Nat.le_succ_of_pred_le (Nat.le_trans this hb)

theorem latest_of_ok {t : Timeline} {p : Nat} (h : latest t = .ok p) : p = latestVotes t := by
  unfold latest at h; unfold latestVotes
  split at h
  · rename_i h0; rw [if_pos h0]; injection h with h; exact h.symm
  · rename_i h0; rw [if_neg h0]
    split at h
    · injection h with h; exact h.symm
    · cases h

theorem latest_present {t : Timeline} {now : Nat} (h : WF t now) : latest t = .ok (latestVotes t) := by
  unfold latest latestVotes
  by_cases h0 : t.num = 0
  · rw [if_pos h0, if_pos h0]
  · obtain ⟨c, hc, _⟩ := h.last h0
    rw [if_neg h0, if_neg h0, hc]

/-! ### `scan`: the specification of a lookup -/

theorem scan_congr (cp cp' : Nat → Option Checkpoint) (q n : Nat) (h : ∀ i, i < n → cp' i = cp i) :
    scan cp' q n = scan cp q n := by
  induction n with
  | zero => rfl
  | succ n ih =>
    simp only [scan]
    rw [h n (Nat.lt_succ_self n), ih (fun i hi => h i (Nat.lt_succ_of_lt hi))]

theorem scan_skip (cp : Nat → Option Checkpoint) (q n : Nat) (h : ∀ c, cp n = some c → q < c.ledger) :
    scan cp q (n + 1) = scan cp q n := by
  simp only [scan]
  cases hc : cp n with
  | none => rfl
  | some c => exact if_neg (Nat.not_le_of_lt (h c hc))

theorem scan_top (cp : Nat → Option Checkpoint) (q n : Nat) (c : Checkpoint) (hc : cp n = some c)
    (hle : c.ledger ≤ q) : scan cp q (n + 1) = c.votes := by
  simp only [scan]; rw [hc]; exact if_pos hle

theorem scan_none (cp : Nat → Option Checkpoint) (q n : Nat)
    (h : ∀ i c, i < n → cp i = some c → q < c.ledger) : scan cp q n = 0 := by
  induction n with
  | zero => rfl
  | succ n ih =>
    rw [scan_skip cp q n (h n · (Nat.lt_succ_self n))]
    exact ih (fun i c hi hc => h i c (Nat.lt_succ_of_lt hi) hc)

theorem scan_at (cp : Nat → Option Checkpoint) (q n r : Nat) (c : Checkpoint) (hr : r < n)
    (hc : cp r = some c) (hle : c.ledger ≤ q)
    (hgt : ∀ j cj, r < j → j < n → cp j = some cj → q < cj.ledger) : scan cp q n = c.votes := by
  induction n with
  | zero => exact absurd hr (Nat.not_lt_zero _)
  | succ n ih =>
    rcases Nat.eq_or_lt_of_le (Nat.le_of_lt_succ hr) with e | hlt
    · subst e; exact scan_top cp q r c hc hle
    · rw [scan_skip cp q n (hgt n · hlt (Nat.lt_succ_self n))]
      exact ih hlt (fun j cj h1 h2 h3 => hgt j cj h1 (Nat.lt_succ_of_lt h2) h3)

theorem scan_cases (cp : Nat → Option Checkpoint) (q : Nat) : ∀ n,
    (∀ i c, i < n → cp i = some c → q < c.ledger) ∨
    ∃ i c, i < n ∧ cp i = some c ∧ c.ledger ≤ q ∧ ∀ j cj, i < j → j < n → cp j = some cj → q < cj.ledger := by
  intro n
  induction n with
  | zero => exact .inl (fun i c hi => absurd hi (Nat.not_lt_zero _))
  | succ n ih =>
    by_cases hn : ∃ c, cp n = some c ∧ c.ledger ≤ q
    · obtain ⟨c, hc, hle⟩ := hn
      exact .inr ⟨n, c, Nat.lt_succ_self n, hc, hle,
        fun j cj h1 h2 => absurd h2 (Nat.not_lt_of_le (Nat.succ_le_of_lt h1))⟩
    · have hskip : ∀ j cj, j < n + 1 → cp j = some cj → ¬ j < n → q < cj.ledger := by
        intro j cj h2 h3 hjn
        cases Nat.le_antisymm (Nat.le_of_lt_succ h2) (Nat.le_of_not_lt hjn)
        exact Nat.lt_of_not_le (fun hle => hn ⟨cj, h3, hle⟩)
      rcases ih with h | ⟨i, c, hi, hc, hle, hgt⟩
      · exact .inl (fun j cj h2 h3 => if hjn : j < n then h j cj hjn h3 else hskip j cj h2 h3 hjn)
      · exact .inr ⟨i, c, Nat.lt_succ_of_lt hi, hc, hle, fun j cj h1 h2 h3 =>
          if hjn : j < n then hgt j cj h1 hjn h3 else hskip j cj h2 h3 hjn⟩

theorem valueAt_last {t : Timeline} {q : Nat} {c : Checkpoint}
    (hc : t.cp (t.num - 1) = some c) (h0 : t.num ≠ 0) (hq : c.ledger ≤ q) : valueAt t q = c.votes := by
  unfold valueAt
  obtain ⟨k, hk⟩ := Nat.exists_eq_succ_of_ne_zero h0
  rw [hk] at hc ⊢
  exact scan_top t.cp q k c hc hq

theorem valueAt_recent {t : Timeline} {now q : Nat} (h : WF t now) (hq : now ≤ q) :
    valueAt t q = latestVotes t := by
  unfold latestVotes
  by_cases h0 : t.num = 0
  · rw [if_pos h0, valueAt, h0]; rfl
  · obtain ⟨c, hc, hb⟩ := h.last h0
    rw [if_neg h0, hc]
    exact valueAt_last hc h0 (Nat.le_trans hb hq)

/-! ### the binary search -/

/-- loop invariant of the `while low < high` loop: entry `low` is at or before `q`, every
entry above `high` is after `q`; at exit `low` is the last entry at or before `q` -/
theorem bsearch_spec (t : Timeline) (now q : Nat) (hw : WF t now) :
    ∀ (d low high : Nat), high - low = d → low ≤ high → high < t.num →
      (∀ c, t.cp low = some c → c.ledger ≤ q) →
      (∀ j cj, high < j → j < t.num → t.cp j = some cj → q < cj.ledger) →
      ∃ r c, bsearch t.cp q low high = .ok r ∧ r < t.num ∧ t.cp r = some c ∧ c.ledger ≤ q ∧
        (∀ j cj, r < j → j < t.num → t.cp j = some cj → q < cj.ledger) := by
  intro d
  induction d using Nat.strongRecOn with
  | _ d ih =>
    intro low high hd hlh hhn hlow hhigh
    subst hd
    unfold bsearch
    by_cases hlt : low < high
    · rw [if_pos hlt]
      have hm1 := mid_gt hlt
      have hm2 := mid_le hlt
      obtain ⟨cm, hcm⟩ := hw.present (mid low high) (Nat.lt_of_le_of_lt hm2 hhn)
      rw [hcm]; simp only
      by_cases hle : cm.ledger ≤ q
      · rw [if_pos hle]
        exact ih (high - mid low high) (Nat.sub_lt_sub_left hlt hm1) (mid low high) high rfl hm2 hhn
          (fun c hc => by cases hcm.symm.trans hc; exact hle) hhigh
      · rw [if_neg hle]
        have hpm := mid_pred_lt hlt
        have hlp := le_mid_pred hlt
        -- everything from `mid` on is after `q`, since entry `mid` is
        exact ih (mid low high - 1 - low) (Nat.sub_lt_sub_right hlp hpm) low (mid low high - 1) rfl hlp
          (Nat.lt_trans hpm hhn) hlow (fun j cj h1 h2 h3 =>
            Nat.lt_of_lt_of_le (Nat.lt_of_not_le hle) (hw.ledger_mono (Nat.le_of_pred_lt h1) h2 hcm h3))
    · rw [if_neg hlt]
      cases Nat.le_antisymm hlh (Nat.le_of_not_lt hlt)
      obtain ⟨c, hc⟩ := hw.present low hhn
      exact ⟨low, c, rfl, hhn, hc, hlow c hc, hhigh⟩

/-- **the lookup is correct**: on a well-formed timeline `lookup_checkpoint_at` never fails
and returns the votes of the last checkpoint at or before `q`, 0 if there is none -/
theorem lookup_eq_valueAt {t : Timeline} {now : Nat} (hw : WF t now) (q : Nat) :
    lookupCheckpointAt t q = .ok (valueAt t q) := by
  unfold lookupCheckpointAt
  by_cases h0 : t.num = 0
  · rw [if_pos h0, valueAt, h0]; rfl
  · rw [if_neg h0]
    have hpos : 0 < t.num := Nat.pos_of_ne_zero h0
    obtain ⟨cl, hcl, _⟩ := hw.last h0
    rw [hcl]; simp only
    by_cases hle : cl.ledger ≤ q
    · rw [if_pos hle, valueAt_last hcl h0 hle]
    · rw [if_neg hle]
      unfold lookupFirst
      obtain ⟨cf, hcf⟩ := hw.present 0 hpos
      rw [hcf]; simp only
      by_cases hgt : cf.ledger > q
      · -- the first entry is after `q`, hence all are
        rw [if_pos hgt, valueAt, scan_none t.cp q t.num]
        exact fun i c hi hc => Nat.lt_of_lt_of_le hgt (hw.ledger_mono (Nat.zero_le i) hi hcf hc)
      · rw [if_neg hgt]
        unfold lookupSearch
        obtain ⟨r, c, hb, hr, hc, hcle, hafter⟩ :=
          bsearch_spec t now q hw (t.num - 1 - 0) 0 (t.num - 1) rfl (Nat.zero_le _)
            (Nat.sub_lt hpos Nat.one_pos)
            (fun c hc => by cases hcf.symm.trans hc; exact Nat.le_of_not_lt hgt)
            (fun j cj h1 h2 _ => absurd h2 (Nat.not_lt_of_le (Nat.le_of_pred_lt h1)))
        rw [hb]; simp only
        rw [hc]; simp only
        rw [valueAt, scan_at t.cp q t.num r c hr hc hcle hafter]

/-! ### `store` / `push_checkpoint` -/

/-- `store` writes `(now, v)` at index `k` and sets the counter to `k + 1`, where `k` is
either the old counter (append: there is no entry yet or the last one is from another
ledger) or the index of the last entry (overwrite: it carries the current ledger) -/
theorem store_cases {t t' : Timeline} {now v : Nat} (h : store t now v = .ok t') :
    ∃ k, t'.num = k + 1 ∧ t'.cp = upd t.cp k (some ⟨now, v⟩) ∧
      ((k = t.num ∧ k + 1 ≤ U32_MAX ∧ ∀ c, t.num ≠ 0 → t.cp (t.num - 1) = some c → c.ledger ≠ now) ∨
       (k + 1 = t.num ∧ ∃ c, t.cp k = some c ∧ c.ledger = now)) := by
  unfold store at h
  split at h
  · rename_i h0
    injection h with h; subst h
    exact ⟨0, rfl, rfl, .inl ⟨h0.symm, by decide, fun c hc => absurd h0 hc⟩⟩
  · rename_i h0
    split at h
    · cases h
    · rename_i c hc
      split at h
      · rename_i hcl
        injection h with h; subst h
        exact ⟨t.num - 1, (Nat.sub_add_cancel (Nat.pos_of_ne_zero h0)).symm, rfl,
          .inr ⟨Nat.sub_add_cancel (Nat.pos_of_ne_zero h0), c, hc, hcl⟩⟩
      · rename_i hcl
        split at h
        · rename_i hle
          injection h with h; subst h
          exact ⟨t.num, rfl, rfl, .inl ⟨rfl, hle, fun c' _ hc' => by
            cases hc.symm.trans hc'; exact hcl⟩⟩
        · cases h

theorem store_votes {t t' : Timeline} {now v : Nat} (h : store t now v = .ok t') :
    latestVotes t' = v := by
  obtain ⟨k, hn, hcp, _⟩ := store_cases h
  rw [latestVotes, hn, if_neg (Nat.succ_ne_zero k), Nat.add_sub_cancel, hcp, upd_same]

theorem store_past {t t' : Timeline} {now v : Nat} (h : store t now v = .ok t') (q : Nat) (hq : q < now) :
    valueAt t' q = valueAt t q := by
  obtain ⟨k, hn, hcp, hk⟩ := store_cases h
  unfold valueAt
  -- the entry written is after `q`; so is the one it replaces, if any
  rw [hn, hcp, scan_skip _ q k (fun c hc => by rw [upd_same] at hc; cases hc; exact hq),
    scan_congr t.cp _ q k (fun i hi => upd_other _ _ _ _ (Nat.ne_of_lt hi))]
  rcases hk with ⟨hk, _⟩ | ⟨hk, c, hc, hcl⟩
  · rw [hk]
  · rw [← hk, scan_skip t.cp q k (fun c' hc' => by cases hc.symm.trans hc'; rw [hcl]; exact hq)]

theorem WF.snoc {t t' : Timeline} {now k v : Nat} (hw : WF t now) (hk : k ≤ t.num)
    (hold : ∀ i ci, i < k → t.cp i = some ci → ci.ledger < now)
    (hn : t'.num = k + 1) (hcp : t'.cp = upd t.cp k (some ⟨now, v⟩)) : WF t' now := by
  have hlt : ∀ {i}, i < k → i < t.num := fun hi => Nat.lt_of_lt_of_le hi hk
  have hget : ∀ {i c}, i < t'.num → t'.cp i = some c → (i = k ∧ c = ⟨now, v⟩) ∨ (i < k ∧ t.cp i = some c) := by
    intro i c hi hc
    rw [hn] at hi; rw [hcp] at hc
    rcases Nat.eq_or_lt_of_le (Nat.le_of_lt_succ hi) with e | hik
    · subst e; rw [upd_same] at hc; cases hc; exact .inl ⟨rfl, rfl⟩
    · rw [upd_other _ _ _ _ (Nat.ne_of_lt hik)] at hc; exact .inr ⟨hik, hc⟩
  refine ⟨fun i hi => ?_, fun i j ci cj hij hj hci hcj => ?_, fun i ci hi hci => ?_⟩
  · rw [hn] at hi; rw [hcp]
    rcases Nat.eq_or_lt_of_le (Nat.le_of_lt_succ hi) with e | hik
    · subst e; exact ⟨_, upd_same _ _ _⟩
    · rw [upd_other _ _ _ _ (Nat.ne_of_lt hik)]; exact hw.present i (hlt hik)
  · rcases hget hj hcj with ⟨ej, ec⟩ | ⟨hjk, hcj'⟩
    · subst ej; subst ec
      rcases hget (Nat.lt_trans hij hj) hci with ⟨ei, _⟩ | ⟨hik, hci'⟩
      · exact absurd ei (Nat.ne_of_lt hij)
      · exact hold i ci hik hci'
    · rcases hget (Nat.lt_trans hij hj) hci with ⟨ei, _⟩ | ⟨_, hci'⟩
      · exact absurd (ei ▸ hij : k < j) (Nat.lt_asymm hjk)
      · exact hw.sorted i j ci cj hij (hlt hjk) hci' hcj'
  · rcases hget hi hci with ⟨_, ec⟩ | ⟨hik, hci'⟩
    · subst ec; exact Nat.le_refl _
    · exact Nat.le_of_lt (hold i ci hik hci')

theorem store_wf {t t' : Timeline} {now v : Nat} (h : store t now v = .ok t') (hw : WF t now) :
    WF t' now := by
  obtain ⟨k, hn, hcp, hk⟩ := store_cases h
  -- every entry below `k` lies strictly before `now`
  rcases hk with ⟨hk, _, hne⟩ | ⟨hk, c, hc, hcl⟩
  · subst hk
    refine hw.snoc (Nat.le_refl _) (fun i ci hi hci => ?_) hn hcp
    have h0 : t.num ≠ 0 := Nat.ne_of_gt (Nat.lt_of_le_of_lt (Nat.zero_le i) hi)
    obtain ⟨c, hc, hb⟩ := hw.last h0
    exact Nat.lt_of_le_of_lt (hw.ledger_mono (Nat.le_pred_of_lt hi) (Nat.sub_lt (Nat.pos_of_ne_zero h0) Nat.one_pos) hci hc)
      (Nat.lt_of_le_of_ne hb (hne c h0 hc))
  · refine hw.snoc (hk ▸ Nat.le_succ k) (fun i ci hi hci => ?_) hn hcp
    rw [← hcl]; exact hw.sorted i k ci c hi (hk ▸ Nat.lt_succ_self k) hci hc

/-- on a well-formed timeline `store` cannot fail while the ledger sequence number is below
`u32::MAX`: the newest entry is present, and a new entry is only appended when all `num`
existing ones are from earlier ledgers, so `num ≤ now` -/
theorem store_succeeds {t : Timeline} {now : Nat} (hw : WF t now) (hnow : now < U32_MAX) (v : Nat) :
    ∃ t', store t now v = .ok t' := by
  unfold store
  by_cases h0 : t.num = 0
  · exact ⟨_, if_pos h0⟩
  · obtain ⟨c, hc, hb⟩ := hw.last h0
    rw [if_neg h0, hc]; simp only
    by_cases hcl : c.ledger = now
    · exact ⟨_, if_pos hcl⟩
    · have := hw.index_le_ledger (t.num - 1) c (Nat.sub_lt (Nat.pos_of_ne_zero h0) Nat.one_pos) hc
      rw [if_neg hcl]
      exact ⟨_, if_pos (Nat.succ_le_of_lt (Nat.lt_of_le_of_lt
        (Nat.le_of_pred_lt (Nat.lt_of_le_of_lt this (Nat.lt_of_le_of_ne hb hcl))) hnow))⟩

def TlStep (now : Nat) (t t' : Timeline) : Prop := t' = t ∨ ∃ v, store t now v = .ok t'

theorem TlStep.wf {now : Nat} {t t' : Timeline} (h : TlStep now t t') (hw : WF t now) : WF t' now := by
  rcases h with rfl | ⟨v, h⟩
  · exact hw
  · exact store_wf h hw

theorem TlStep.past {now : Nat} {t t' : Timeline} (h : TlStep now t t') {q : Nat} (hq : q < now) :
    valueAt t' q = valueAt t q := by
  rcases h with rfl | ⟨v, h⟩
  · rfl
  · exact store_past h q hq

/-- a second `store` in the same ledger overwrites the first: the entry the first one wrote is the newest and
carries `now`, so the second takes the overwrite branch at the same index -/
theorem store_store {t t1 t2 : Timeline} {now v w : Nat} (h1 : store t now v = .ok t1) (h2 : store t1 now w = .ok t2) :
    store t now w = .ok t2 := by
  obtain ⟨k, hn, hcp, hk⟩ := store_cases h1
  have h0 : t1.num ≠ 0 := by rw [hn]; exact Nat.succ_ne_zero k
  have hlast : t1.cp (t1.num - 1) = some ⟨now, v⟩ := by rw [hn, Nat.add_sub_cancel, hcp, upd_same]
  have e2 : t2 = ⟨k + 1, upd t.cp k (some ⟨now, w⟩)⟩ := by
    unfold store at h2
    rw [if_neg h0, hlast] at h2
    simp only [if_true] at h2
    injection h2 with h2
    rw [← h2, hn, Nat.add_sub_cancel, hcp, upd_upd]
  rw [e2]
  unfold store
  rcases hk with ⟨rfl, hle, hne⟩ | ⟨hk, c, hc, hcl⟩
  · by_cases ht0 : t.num = 0
    · rw [if_pos ht0, ht0]
    · rw [if_neg ht0]
      cases hc : t.cp (t.num - 1) with
      | none => unfold store at h1; rw [if_neg ht0, hc] at h1; cases h1
      | some c => simp only; rw [if_neg (hne c ht0 hc), if_pos hle]
  · have ht0 : t.num ≠ 0 := by rw [← hk]; exact Nat.succ_ne_zero k
    have hk' : t.num - 1 = k := by rw [← hk, Nat.add_sub_cancel]
    rw [if_neg ht0, hk', hc]
    simp only
    rw [if_pos hcl, hk]

theorem TlStep.trans {now : Nat} {t t1 t2 : Timeline} (a : TlStep now t t1) (b : TlStep now t1 t2) : TlStep now t t2 := by
  rcases a with rfl | ⟨v, ha⟩
  · exact b
  · rcases b with rfl | ⟨w, hb⟩
    · exact .inr ⟨v, ha⟩
    · exact .inr ⟨w, store_store ha hb⟩

theorem applyOp_add {p d v : Nat} (h : applyOp p .add d = .ok v) : v = p + d ∧ p + d ≤ U128_MAX := by
  simp only [applyOp] at h
  split at h
  · injection h with h; exact ⟨h.symm, by assumption⟩
  · cases h

theorem applyOp_sub {p d v : Nat} (h : applyOp p .sub d = .ok v) : v + d = p := by
  simp only [applyOp] at h
  split at h
  · rename_i hle; injection h with h; subst h; exact Nat.sub_add_cancel hle
  · cases h

theorem push_ok {t t' : Timeline} {now d : Nat} {op : CheckpointOp}
    (h : pushCheckpoint t now op d = .ok t') :
    applyOp (latestVotes t) op d = .ok (latestVotes t') ∧ TlStep now t t' := by
  unfold pushCheckpoint at h
  split at h
  · cases h
  · rename_i p hp
    cases latest_of_ok hp
    split at h
    · cases h
    · rename_i v hv; exact ⟨store_votes h ▸ hv, .inr ⟨v, h⟩⟩

/-- `push_checkpoint` as the code runs it: the newest entry is read once, for the previous value (the model's `latest`)
and for its ledger (the model's `store`) -/
theorem pushCheckpoint_eq (t : Timeline) (now : Nat) (op : CheckpointOp) (delta : Nat) :
    pushCheckpoint t now op delta =
      if t.num = 0 then applyOp 0 op delta >>= fun v => .ok ⟨1, upd t.cp 0 (some ⟨now, v⟩)⟩
      else getCheckpoint t (t.num - 1) >>= fun c => applyOp c.votes op delta >>= fun v =>
        if c.ledger = now then .ok ⟨t.num, upd t.cp (t.num - 1) (some ⟨now, v⟩)⟩
        else if t.num + 1 ≤ U32_MAX then .ok ⟨t.num + 1, upd t.cp t.num (some ⟨now, v⟩)⟩
        else .error .overflowPanic := by
  unfold pushCheckpoint latest store getCheckpoint
  by_cases h0 : t.num = 0
  · simp only [h0, ↓reduceIte]; cases applyOp 0 op delta <;> rfl
  · simp only [h0, ↓reduceIte]
    cases t.cp (t.num - 1) with
    | none => rfl
    | some c => show _ = applyOp c.votes op delta >>= _; dsimp only; cases applyOp c.votes op delta <;> rfl

/-! The model passes an error on by `match x with | .error e => .error e | .ok a => k a`; that is `x >>= k`, the form in
which OZ/Props/C13GenRef.lean sets a call beside the generated one. -/

theorem moveDelegateVotes_eq (s : State) (frm to : Option Nat) (amount : Nat) :
    moveDelegateVotes s frm to amount =
      if amount = 0 then .ok s else if frm = to then .ok s
      else pushAccount s frm .sub amount >>= fun s1 => pushAccount s1 to .add amount := by
  unfold moveDelegateVotes; cases pushAccount s frm .sub amount <;> rfl

theorem transferVotingUnits_eq (s : State) (frm to : Option Nat) (amount : Nat) :
    transferVotingUnits s frm to amount =
      if amount = 0 then .ok s
      else debitUnits s frm amount >>= fun s1 => creditUnits s1 to amount >>= fun s2 =>
        moveDelegateVotes s2 (frm.bind s.delegatee) (to.bind s.delegatee) amount := by
  unfold transferVotingUnits
  split
  · rfl
  · cases debitUnits s frm amount with
    | error e => rfl
    | ok s1 =>
      dsimp only
      show _ = creditUnits s1 to amount >>= fun s2 => moveDelegateVotes s2 _ _ amount
      cases creditUnits s1 to amount <;> rfl

theorem delegate_eq (s : State) (auth : List Nat) (account delegatee : Nat) :
    OZ.Votes.delegate s auth account delegatee =
      requireAuth auth account >>= fun _ =>
        if s.delegatee account = some delegatee then .error .sameDelegate
        else moveDelegateVotes { s with delegatee := upd s.delegatee account (some delegatee) }
          (s.delegatee account) (some delegatee) (s.units account) := by
  unfold OZ.Votes.delegate; cases requireAuth auth account <;> rfl

/-! ### one call: what it writes and what it leaves alone -/

structure Frame (s s' : State) : Prop where
  now : s'.now = s.now
  tl : ∀ x, TlStep s.now (s.tl x) (s'.tl x)
  total : TlStep s.now s.total s'.total

theorem pushAccount_ok {s s' : State} {who : Option Nat} {op : CheckpointOp} {amt : Nat}
    (h : pushAccount s who op amt = .ok s') :
    ∃ tl', s' = { s with tl := tl' } ∧ (∀ x, TlStep s.now (s.tl x) (tl' x)) ∧
      (∀ x, who ≠ some x → tl' x = s.tl x) ∧
      (∀ x, who = some x → applyOp (latestVotes (s.tl x)) op amt = .ok (latestVotes (tl' x))) := by
  unfold pushAccount at h
  cases who with
  | none => injection h with h; exact ⟨s.tl, h.symm, fun _ => .inl rfl, fun _ _ => rfl, nofun⟩
  | some a =>
    simp only at h
    split at h
    · cases h
    · rename_i t ht
      injection h with h
      refine ⟨upd s.tl a t, h.symm, fun x => ?_, fun x hx => upd_other _ _ _ _ (fun e => hx (e ▸ rfl)), ?_⟩
      · by_cases hxa : x = a
        · subst hxa; rw [upd_same]; exact (push_ok ht).2
        · exact .inl (upd_other _ _ _ _ hxa)
      · intro x hx
        cases hx; rw [upd_same]; exact (push_ok ht).1

/-- `move_delegate_votes`: `from`'s delegate loses `amt`, `to`'s delegate gains it (nothing
happens when they are the same or `amt = 0`), stated as one balance equation -/
theorem moveDelegateVotes_ok {s s' : State} {f t : Option Nat} {amt : Nat}
    (h : moveDelegateVotes s f t amt = .ok s') :
    ∃ tl', s' = { s with tl := tl' } ∧ (∀ x, TlStep s.now (s.tl x) (tl' x)) ∧
      ∀ x, latestVotes (tl' x) + ind f x amt = latestVotes (s.tl x) + ind t x amt := by
  unfold moveDelegateVotes at h
  split at h
  · rename_i h0
    injection h with h
    exact ⟨s.tl, h.symm, fun _ => .inl rfl, fun x => by rw [h0, ind_zero, ind_zero]⟩
  · split at h
    · rename_i hft
      injection h with h
      exact ⟨s.tl, h.symm, fun _ => .inl rfl, fun x => by rw [hft]⟩
    · rename_i hft
      split at h
      · cases h
      · rename_i s1 h1
        obtain ⟨tl1, rfl, f1, o1, m1⟩ := pushAccount_ok h1
        obtain ⟨tl2, rfl, f2, o2, m2⟩ := pushAccount_ok h
        refine ⟨tl2, rfl, fun x => (f1 x).trans (f2 x), fun x => ?_⟩
        by_cases hfx : f = some x
        · have htx : t ≠ some x := fun e => hft (by rw [hfx, e])
          rw [ind_ne htx, o2 x htx, hfx, ind_self]
          exact applyOp_sub (m1 x hfx)
        · rw [ind_ne hfx, ← o1 x hfx]
          by_cases htx : t = some x
          · rw [htx, ind_self]; exact (applyOp_add (m2 x htx)).1
          · rw [ind_ne htx, o2 x htx]

theorem pushTotal_ok {s s' : State} {op : CheckpointOp} {amt : Nat} (h : pushTotal s op amt = .ok s') :
    ∃ T', s' = { s with total := T' } ∧ TlStep s.now s.total T' ∧
      applyOp (latestVotes s.total) op amt = .ok (latestVotes T') := by
  unfold pushTotal at h
  split at h
  · cases h
  · rename_i t ht
    injection h with h
    exact ⟨t, h.symm, (push_ok ht).2, (push_ok ht).1⟩

theorem debitUnits_moves {s s' : State} {f : Option Nat} {amt : Nat} (h : debitUnits s f amt = .ok s') :
    ∃ u' T', s' = { s with units := u', total := T' } ∧ TlStep s.now s.total T' ∧
      (∀ x, u' x + ind f x amt = s.units x ∧ ind f x amt ≤ s.units x) ∧
      latestVotes T' = latestVotes s.total + nobody f amt := by
  unfold debitUnits at h
  cases f with
  | some a =>
    simp only at h
    split at h
    · rename_i hle
      injection h with h
      exact ⟨_, s.total, h.symm, .inl rfl, fun x => upd_sub_ind s.units a amt x hle, rfl⟩
    · cases h
  | none =>
    obtain ⟨T', rfl, fr, ha⟩ := pushTotal_ok h
    exact ⟨s.units, T', rfl, fr, fun x => by rw [ind_none]; exact ⟨rfl, Nat.zero_le _⟩, (applyOp_add ha).1⟩

theorem creditUnits_moves {s s' : State} {t : Option Nat} {amt : Nat} (h : creditUnits s t amt = .ok s') :
    ∃ u' T', s' = { s with units := u', total := T' } ∧ TlStep s.now s.total T' ∧
      (∀ x, u' x = s.units x + ind t x amt) ∧
      latestVotes T' + nobody t amt = latestVotes s.total := by
  unfold creditUnits at h
  cases t with
  | some b =>
    simp only at h
    split at h
    · injection h with h
      exact ⟨_, s.total, h.symm, .inl rfl, fun x => upd_add_ind s.units b amt x, rfl⟩
    · cases h
  | none =>
    obtain ⟨T', rfl, fr, hs⟩ := pushTotal_ok h
    exact ⟨s.units, T', rfl, fr, fun x => by rw [ind_none]; rfl, applyOp_sub hs⟩

theorem requireAuth_ok {auth : List Nat} {a : Nat} {u : Unit} (h : requireAuth auth a = .ok u) :
    a ∈ auth := by
  unfold requireAuth at h
  split at h
  · assumption
  · cases h

/-- **`transfer_voting_units`, accepted**: units, timelines and the total supply are written, each timeline at most
once; `amt` units go from `f` to `t`, `amt` votes from `f`'s delegate to `t`'s, and what has no owner on one side is
booked on the total supply -/
theorem transfer_moves {s s' : State} {f t : Option Nat} {amt : Nat}
    (h : transferVotingUnits s f t amt = .ok s') :
    ∃ u' tl' T', s' = { s with units := u', tl := tl', total := T' } ∧
      (∀ x, TlStep s.now (s.tl x) (tl' x)) ∧ TlStep s.now s.total T' ∧
      (∀ x, u' x + ind f x amt = s.units x + ind t x amt ∧ ind f x amt ≤ s.units x) ∧
      (∀ x, latestVotes (tl' x) + ind (f.bind s.delegatee) x amt =
        latestVotes (s.tl x) + ind (t.bind s.delegatee) x amt) ∧
      latestVotes T' + nobody t amt = latestVotes s.total + nobody f amt := by
  unfold transferVotingUnits at h
  split at h
  · rename_i h0
    injection h with h
    refine ⟨s.units, s.tl, s.total, h.symm, fun _ => .inl rfl, .inl rfl, fun x => ?_, fun x => ?_, ?_⟩
    · rw [h0, ind_zero, ind_zero]; exact ⟨rfl, Nat.zero_le _⟩
    · rw [h0, ind_zero, ind_zero]
    · rw [h0]; cases f <;> cases t <;> rfl
  · split at h
    · cases h
    · rename_i s1 h1
      split at h
      · cases h
      · rename_i s2 h2
        obtain ⟨u1, T1, rfl, hT1, hu1, t1⟩ := debitUnits_moves h1
        obtain ⟨u2, T2, rfl, hT2, hu2, t2⟩ := creditUnits_moves h2
        obtain ⟨tl3, rfl, htl, hv⟩ := moveDelegateVotes_ok h
        dsimp only at hu2 t2
        refine ⟨u2, tl3, T2, rfl, htl, hT1.trans hT2, fun x => ?_, hv, ?_⟩
        · have := hu1 x; have := hu2 x; omega
        · omega

theorem transfer_frame {s s' : State} {f t : Option Nat} {amt : Nat}
    (h : transferVotingUnits s f t amt = .ok s') : Frame s s' := by
  obtain ⟨_, _, _, rfl, htl, hT, _⟩ := transfer_moves h
  exact ⟨rfl, htl, hT⟩

/-- **`delegate`, accepted**: the account has authorized, the delegate is new, and the account's units move as votes
from its old delegate to the new one -/
theorem delegate_moves {s s' : State} {auth : List Nat} {a d : Nat} (h : delegate s auth a d = .ok s') :
    a ∈ auth ∧ s.delegatee a ≠ some d ∧
    ∃ tl', s' = { s with delegatee := upd s.delegatee a (some d), tl := tl' } ∧
      (∀ x, TlStep s.now (s.tl x) (tl' x)) ∧
      ∀ x, latestVotes (tl' x) + ind (s.delegatee a) x (s.units a) =
        latestVotes (s.tl x) + ind (some d) x (s.units a) := by
  unfold delegate at h
  split at h
  · cases h
  · rename_i u hu
    split at h
    · cases h
    · rename_i hne
      obtain ⟨tl', rfl, htl, hv⟩ := moveDelegateVotes_ok h
      exact ⟨requireAuth_ok hu, hne, tl', rfl, htl, hv⟩

theorem delegate_frame {s s' : State} {auth : List Nat} {a d : Nat}
    (h : delegate s auth a d = .ok s') : Frame s s' := by
  obtain ⟨_, _, _, rfl, htl, _⟩ := delegate_moves h
  exact ⟨rfl, htl, .inl rfl⟩

/-! ### the invariant -/

def WFAll (s : State) : Prop := (∀ x, WF (s.tl x) s.now) ∧ WF s.total s.now

theorem init_wfAll (now : Nat) : WFAll (init now) := ⟨fun _ => WF_empty _, WF_empty _⟩

theorem getVotesAt_past {s : State} (hw : WFAll s) (a : Nat) {q : Nat} (hq : q < s.now) :
    getVotesAtCheckpoint s a q = .ok (valueAt (s.tl a) q) := by
  rw [getVotesAtCheckpoint, if_neg (Nat.not_le_of_lt hq), lookup_eq_valueAt (hw.1 a)]

theorem getTotalAt_past {s : State} (hw : WFAll s) {q : Nat} (hq : q < s.now) :
    getTotalSupplyAtCheckpoint s q = .ok (valueAt s.total q) := by
  rw [getTotalSupplyAtCheckpoint, if_neg (Nat.not_le_of_lt hq), lookup_eq_valueAt hw.2]

theorem Frame.wfAll {s s' : State} (fr : Frame s s') (hw : WFAll s) : WFAll s' := by
  unfold WFAll; rw [fr.now]; exact ⟨fun x => (fr.tl x).wf (hw.1 x), fr.total.wf hw.2⟩

theorem WFAll.advance {s : State} (hw : WFAll s) (n : Nat) : WFAll { s with now := s.now + n } :=
  ⟨fun x => (hw.1 x).mono (Nat.le_add_right _ _), hw.2.mono (Nat.le_add_right _ _)⟩

structure Inv (U : List Nat) (s : State) : Prop where
  votes : ∀ x, votesOf s x = delegatedTo U s x
  total : latestVotes s.total = sumN U s.units
  outside : ∀ a, a ∉ U → s.units a = 0
  wf : ∀ x, WF (s.tl x) s.now
  wfT : WF s.total s.now

theorem Inv.wfAll {U : List Nat} {s : State} (hi : Inv U s) : WFAll s := ⟨hi.wf, hi.wfT⟩

theorem Inv.getVotes {U : List Nat} {s : State} (hi : Inv U s) (a : Nat) :
    getVotes s a = .ok (delegatedTo U s a) := by
  unfold OZ.Votes.getVotes
  rw [latest_present (hi.wf a)]
  exact congrArg _ (hi.votes a)

theorem Inv.getTotalSupply {U : List Nat} {s : State} (hi : Inv U s) :
    getTotalSupply s = .ok (sumN U s.units) := by
  unfold OZ.Votes.getTotalSupply
  rw [latest_present hi.wfT]
  exact congrArg _ hi.total

theorem Inv.votes_le_total {U : List Nat} {s : State} (hi : Inv U s) (a : Nat) :
    votesOf s a ≤ latestVotes s.total := by
  rw [hi.votes a, hi.total]
  exact sumN_le_sumN U _ _ (fun d => by split <;> omega)

theorem init_inv (U : List Nat) (now : Nat) : Inv U (init now) := by
  refine ⟨?_, ?_, fun _ _ => rfl, fun _ => WF_empty _, WF_empty _⟩
  · intro x
    simp only [votesOf, delegatedTo, init, latestVotes, Timeline.empty]
    rw [sumN_congr U (fun _ => 0) _ (fun d => by simp)]
    exact (sumN_zero U).symm
  · simp only [init, latestVotes, Timeline.empty]
    exact (sumN_zero U).symm

theorem delegatedTo_change (U : List Nat) (hn : U.Nodup) (s s' : State) (a : Nat) (ha : a ∈ U)
    (hd : ∀ y, y ≠ a → s'.delegatee y = s.delegatee y) (hu : ∀ y, y ≠ a → s'.units y = s.units y) (x : Nat) :
    delegatedTo U s' x + ind (s.delegatee a) x (s.units a) =
      delegatedTo U s x + ind (s'.delegatee a) x (s'.units a) :=
  sumN_change U (fun y => if s.delegatee y = some x then s.units y else 0)
    (fun y => if s'.delegatee y = some x then s'.units y else 0) a hn ha
    (fun y hy => by rw [hd y hy, hu y hy])

theorem delegatedTo_of_units (U : List Nat) (s : State) (b : Nat → Nat) (h : ∀ d, s.units d = b d) (a : Nat) :
    delegatedTo U s a = sumN U (fun d => if s.delegatee d = some a then b d else 0) :=
  sumN_congr U _ _ (fun d => by rw [h d])

theorem transferVotingUnits_inv {U : List Nat} (hn : U.Nodup) {s s' : State} (hi : Inv U s)
    {f t : Option Nat} {amt : Nat} (hf : ∀ a, f = some a → a ∈ U) (ht : ∀ b, t = some b → b ∈ U)
    (h : transferVotingUnits s f t amt = .ok s') : Inv U s' := by
  obtain ⟨w1, w2⟩ := (transfer_frame h).wfAll hi.wfAll
  obtain ⟨u', tl', T', rfl, _, _, hu, hv, hT⟩ := transfer_moves h
  refine ⟨fun x => ?_, ?_, fun a ha => ?_, w1, w2⟩
  · -- the units equation, weighted by "delegates to `x`" and summed over the universe
    have e := sumN_conserve U (a := fun d => ind (s.delegatee d) x (u' d))
      (b := fun d => ind (s.delegatee d) x (ind f d amt)) (c := fun d => ind (s.delegatee d) x (s.units d))
      (e := fun d => ind (s.delegatee d) x (ind t d amt)) (fun d => by rw [← ind_add, ← ind_add, (hu d).1])
    rw [sumN_ind hn f hf amt (fun d n => ind (s.delegatee d) x n) (fun d => ind_zero _ x),
      sumN_ind hn t ht amt (fun d n => ind (s.delegatee d) x n) (fun d => ind_zero _ x),
      ← ind_bind, ← ind_bind] at e
    have hx : latestVotes (s.tl x) = sumN U fun d => ind (s.delegatee d) x (s.units d) := hi.votes x
    have := hv x
    show latestVotes (tl' x) = sumN U fun d => ind (s.delegatee d) x (u' d)
    omega
  · have e := sumN_conserve U (fun d => (hu d).1)
    rw [sumN_ind hn f hf amt (fun _ n => n) (fun _ => rfl), sumN_ind hn t ht amt (fun _ n => n) (fun _ => rfl)] at e
    have := nobody_add f amt; have := nobody_add t amt; have := hi.total
    show latestVotes T' = sumN U u'
    omega
  · have := (hu a).1
    rw [ind_ne (fun e => ha (hf a e)), ind_ne (fun e => ha (ht a e)), hi.outside a ha] at this
    exact this

theorem delegate_inv {U : List Nat} (hn : U.Nodup) {s s' : State} (hi : Inv U s)
    {auth : List Nat} {a d : Nat} (ha : a ∈ U) (h : delegate s auth a d = .ok s') : Inv U s' := by
  obtain ⟨w1, w2⟩ := (delegate_frame h).wfAll hi.wfAll
  obtain ⟨_, _, tl', rfl, _, hv⟩ := delegate_moves h
  refine ⟨fun x => ?_, hi.total, hi.outside, w1, w2⟩
  have e2 := delegatedTo_change U hn s { s with delegatee := upd s.delegatee a (some d), tl := tl' } a ha
    (fun y hy => upd_other _ _ _ _ hy) (fun y _ => rfl) x
  dsimp only at e2
  rw [upd_same] at e2
  have hx : latestVotes (s.tl x) = _ := hi.votes x
  have := hv x
  show latestVotes (tl' x) = _
  omega

/-- one library-level operation keeps the invariant -/
theorem apply_inv {U : List Nat} (hn : U.Nodup) {s s' : State} (hi : Inv U s) (auth : List Nat)
    (op : Op) (hU : ∀ a ∈ op.addrs, a ∈ U) (h : apply s auth op = .ok s') : Inv U s' := by
  cases op with
  | transferUnits f t amt =>
    exact transferVotingUnits_inv hn hi
      (fun a e => hU a (by subst e; simp [Op.addrs]))
      (fun b e => hU b (by subst e; simp [Op.addrs])) h
  | delegate a d => exact delegate_inv hn hi (hU a (by simp [Op.addrs])) h
  | advance n =>
    injection h with h; subst h
    exact ⟨hi.votes, hi.total, hi.outside, (hi.wfAll.advance n).1, (hi.wfAll.advance n).2⟩

def SamePast (s s' : State) : Prop :=
  s.now ≤ s'.now ∧ (∀ x q, q < s.now → valueAt (s'.tl x) q = valueAt (s.tl x) q) ∧
  (∀ q, q < s.now → valueAt s'.total q = valueAt s.total q)

theorem SamePast.refl (s : State) : SamePast s s := ⟨Nat.le_refl _, fun _ _ _ => rfl, fun _ _ => rfl⟩

theorem SamePast.trans {s s1 s2 : State} (a : SamePast s s1) (b : SamePast s1 s2) : SamePast s s2 :=
  ⟨Nat.le_trans a.1 b.1, fun x q hq => by rw [b.2.1 x q (Nat.lt_of_lt_of_le hq a.1), a.2.1 x q hq],
   fun q hq => by rw [b.2.2 q (Nat.lt_of_lt_of_le hq a.1), a.2.2 q hq]⟩

theorem Frame.samePast {s s' : State} (f : Frame s s') : SamePast s s' :=
  ⟨Nat.le_of_eq f.now.symm, fun x _ hq => (f.tl x).past hq, fun _ hq => f.total.past hq⟩

theorem apply_samePast {s s' : State} (auth : List Nat) (op : Op) (h : apply s auth op = .ok s') :
    SamePast s s' := by
  cases op with
  | transferUnits f t amt => exact (transfer_frame h).samePast
  | delegate a d => exact (delegate_frame h).samePast
  | advance n =>
    injection h with h; subst h
    exact ⟨Nat.le_add_right _ _, fun _ _ _ => rfl, fun _ _ => rfl⟩

theorem apply_wfAll {s s' : State} (hw : WFAll s) (auth : List Nat) (op : Op)
    (h : apply s auth op = .ok s') : WFAll s' := by
  cases op with
  | transferUnits f t amt => exact (transfer_frame h).wfAll hw
  | delegate a d => exact (delegate_frame h).wfAll hw
  | advance n => injection h with h; subst h; exact hw.advance n

/-! ### from one operation to a history -/

theorem step_cases (s : State) (x : List Nat × Op) :
    step s x = s ∨ apply s x.1 x.2 = .ok (step s x) := by
  unfold step
  cases apply s x.1 x.2 with
  | error e => exact .inl rfl
  | ok s' => exact .inr rfl

theorem step_samePast (s : State) (x : List Nat × Op) : SamePast s (step s x) := by
  rcases step_cases s x with e | h
  · rw [e]; exact SamePast.refl _
  · exact apply_samePast x.1 x.2 h

theorem run_samePast (s : State) (ops : List (List Nat × Op)) : SamePast s (run s ops) :=
  OZ.Lists.foldl_inv (P := SamePast s) (fun s' x h => h.trans (step_samePast s' x)) ops s (SamePast.refl s)

theorem step_inv {U : List Nat} (hn : U.Nodup) {s : State} (hi : Inv U s) (x : List Nat × Op)
    (hU : ∀ a ∈ x.2.addrs, a ∈ U) : Inv U (step s x) := by
  rcases step_cases s x with e | h
  · rw [e]; exact hi
  · exact apply_inv hn hi x.1 x.2 hU h

theorem run_inv {U : List Nat} (hn : U.Nodup) {s : State} (hi : Inv U s) (ops : List (List Nat × Op))
    (hU : ∀ x ∈ ops, ∀ a ∈ x.2.addrs, a ∈ U) : Inv U (run s ops) :=
  OZ.Lists.foldl_keeps (P := Inv U) (fun _ x h hx => step_inv hn h x hx) ops s hi hU

theorem step_wfAll {s : State} (hw : WFAll s) (x : List Nat × Op) : WFAll (step s x) := by
  rcases step_cases s x with e | h
  · rw [e]; exact hw
  · exact apply_wfAll hw x.1 x.2 h

theorem run_wfAll {s : State} (hw : WFAll s) (ops : List (List Nat × Op)) : WFAll (run s ops) :=
  OZ.Lists.foldl_inv (P := WFAll) (fun _ x h => step_wfAll h x) ops s hw

/-! ### the ghost history -/

def GInv (x : State × Ghost) : Prop :=
  ∀ q, q < x.1.now → (∀ a, valueAt (x.1.tl a) q = x.2.votes q a) ∧ valueAt x.1.total q = x.2.total q

theorem gstep_fst (x : State × Ghost) (o : List Nat × Op) : (gstep x o).1 = step x.1 o := by
  unfold gstep; cases o.2 <;> rfl

theorem grun_fst (x : State × Ghost) (ops : List (List Nat × Op)) : (grun x ops).1 = run x.1 ops := by
  induction ops generalizing x with
  | nil => rfl
  | cons o os ih => simp only [grun, run, List.foldl_cons]; rw [← gstep_fst]; exact ih (gstep x o)

theorem GInv.samePast {s s' : State} {g : Ghost} (hg : GInv (s, g)) (hn : s'.now = s.now)
    (hp : SamePast s s') : GInv (s', g) := by
  intro q hq
  have hq' : q < s.now := hn ▸ hq
  exact ⟨fun a => (hp.2.1 a q hq').trans ((hg q hq').1 a), (hp.2.2 q hq').trans (hg q hq').2⟩

theorem gstep_inv {x : State × Ghost} (hw : WFAll x.1) (hg : GInv x) (o : List Nat × Op) :
    GInv (gstep x o) := by
  obtain ⟨s, g⟩ := x
  obtain ⟨auth, op⟩ := o
  have hstill : ∀ op', (∀ s', apply s auth op' = .ok s' → s'.now = s.now) →
      GInv (step s (auth, op'), g) := by
    intro op' hnow
    rcases step_cases s (auth, op') with e | h
    · rw [e]; exact hg
    · exact hg.samePast (hnow _ h) (apply_samePast auth op' h)
  cases op with
  | transferUnits f t amt => exact hstill _ (fun _ h => (transfer_frame h).now)
  | delegate a d => exact hstill _ (fun _ h => (delegate_frame h).now)
  | advance n =>
    simp only [gstep, step, apply, Ghost.close]
    intro q hq
    simp only at hq ⊢
    by_cases hlt : q < s.now
    · have hc : ¬ (s.now ≤ q ∧ q < s.now + n) := fun h => Nat.not_lt_of_le h.1 hlt
      simp only [if_neg hc]
      exact hg q hlt
    · have hc : s.now ≤ q ∧ q < s.now + n := ⟨Nat.le_of_not_lt hlt, hq⟩
      simp only [if_pos hc]
      exact ⟨fun a => valueAt_recent (hw.1 a) hc.1, valueAt_recent hw.2 hc.1⟩

theorem grun_inv {x : State × Ghost} (hw : WFAll x.1) (hg : GInv x) (ops : List (List Nat × Op)) :
    GInv (grun x ops) := by
  induction ops generalizing x with
  | nil => exact hg
  | cons o os ih =>
    simp only [grun, List.foldl_cons]
    exact ih (by rw [gstep_fst]; exact step_wfAll hw o) (gstep_inv hw hg o)

/-! ### list view of a timeline -/

theorem mem_entries (cp : Nat → Option Checkpoint) (n : Nat) (c : Checkpoint) :
    c ∈ entries cp n ↔ ∃ i, i < n ∧ cp i = some c := by
  induction n with
  | zero => simp [entries]
  | succ n ih =>
    simp only [entries, List.mem_append, ih, Option.mem_toList]
    constructor
    · rintro (⟨i, hi, hc⟩ | hc)
      · exact ⟨i, Nat.lt_succ_of_lt hi, hc⟩
      · exact ⟨n, Nat.lt_succ_self n, hc⟩
    · rintro ⟨i, hi, hc⟩
      rcases Nat.eq_or_lt_of_le (Nat.le_of_lt_succ hi) with e | hlt
      · subst e; exact .inr hc
      · exact .inl ⟨i, hlt, hc⟩

theorem entries_sorted {t : Timeline} {now : Nat} (hw : WF t now) :
    ∀ n, n ≤ t.num → (entries t.cp n).Pairwise (fun a b => a.ledger < b.ledger) := by
  intro n
  induction n with
  | zero => intro _; simp [entries]
  | succ n ih =>
    intro hn
    simp only [entries]
    rw [List.pairwise_append]
    refine ⟨ih (Nat.le_of_succ_le hn), ?_, ?_⟩
    · cases t.cp n <;> simp
    · intro a ha b hb
      rw [mem_entries] at ha
      obtain ⟨i, hi, hci⟩ := ha
      rw [Option.mem_toList] at hb
      exact hw.sorted i n a b hi hn hci hb

theorem WF.toList {t : Timeline} {now : Nat} (hw : WF t now) :
    t.toList.Pairwise (fun c d => c.ledger < d.ledger) ∧ ∀ c ∈ t.toList, c.ledger ≤ now :=
  ⟨entries_sorted hw _ (Nat.le_refl _), fun c hc => by
    obtain ⟨i, hi, hci⟩ := (mem_entries _ _ _).mp hc
    exact hw.bound i c hi hci⟩

end OZ.Votes
