import OZ.Lemmas.TimelockControllerMonChecks
/-
Soundness of the C09 monitor, by family of lines, one lemma each (`admin_sound`, `caller_sound`, `tl_sound` over the
relation `Write` of OZ/Lemmas/Timelock.lean, `check_sound`: `loop_sound` carried from the descriptors and contexts the
model driver resolved to those the monitor reads on the line). Which entry point a line of a family denotes is a small
relation (`AdminLine`, `CallerLine`, `TlLine`), so that `resolveCall` and the line itself are taken apart once, in the
assembly (`accepted_callSound`).
-/
namespace OZ.TimelockController.Mon
open OZ.Host OZ.Timelock OZ.TimelockController OZ.Lists

/-! ### admin-only entry points -/

inductive AdminLine : Call → Entry → Prop
  | update (d : Nat) : AdminLine (.update d) (.updateDelay d)
  | setradm (r ar : Nat) : AdminLine (.setradm r ar) (.setRoleAdmin r ar)
  | transfer (a lu : Nat) : AdminLine (.transfer a lu) (.transferAdmin a lu)
  | renounce : AdminLine .renounce .renounceAdmin

theorem AdminLine.spec {k : Call} {e : Entry} (hl : AdminLine k e) (sig : Option (List MetaM)) (auth : List AuthM) :
    e.adminCall = some (fnOf k, argsOf k) ∧ isAdminK k = true ∧ (∀ prev o, idle k prev o = none) ∧
    (∀ m prev o, verdictAccepted m prev o ⟨k, sig, auth⟩ = verdictAdmin m prev o ⟨k, sig, auth⟩) ∧
    ∀ m now who, ghostStep m ⟨k, sig, auth⟩ now (some who) =
      if who = 0 then markDone m (sigKeys m.defs k sig) else m := by
  cases hl <;> refine ⟨rfl, rfl, fun _ _ => rfl, fun _ _ _ => rfl, fun m now who => ?_⟩ <;>
    simp [ghostStep, consumedKeys, consumes, isCheck, isAdminKind, isCallerKind]

theorem admin_sound (m : Mon) (x : MS) (hi : MInv x) (ha : Agree m x) (sig) (auth : List AuthM)
    {k : Call} {e : Entry} (hl : AdminLine k e) (c' : CState)
    (hx : applyE x.c (ownToks x ⟨k, sig, auth⟩) (resolveSig x.defs sig) e = .ok c') :
    CallSound m x ⟨k, sig, auth⟩ c' := by
  obtain ⟨hcall, hK, hidle, hver, hstep⟩ := hl.spec sig auth
  obtain ⟨who, c1, hadm, hph, hled, hlog, hmin, hroles, hradm, hadmin, hsetr⟩ : ∃ who c1, x.c.admin = some who ∧
      requireAuth checkAuth x.c (ownToks x ⟨k, sig, auth⟩) (resolveSig x.defs sig) who (fnOf k) (argsOf k) = .ok c1 ∧
      c'.tl.ledger = c1.tl.ledger ∧ c'.tl.log = c1.tl.log ∧
      (isUpdateK k = false → c'.tl.minDelay = c1.tl.minDelay) ∧ c'.ac.hasRole = c1.ac.hasRole ∧
      (isSetradmK k = false → c'.ac.roleAdmin = c1.ac.roleAdmin) ∧
      (isRenounceK k = false → c'.ac.adm.holder = c1.ac.adm.holder) ∧
      setradmEffect k (modelObs c' x.defs true none) = none := by
    obtain ⟨a, c1, hadm, hph, hb⟩ := admin_ok hcall hx
    refine ⟨a, c1, hadm, hph, ?_⟩
    cases hb with
    | updateDelay d => cases hl; exact ⟨rfl, rfl, (fun h => by cases h), rfl, fun _ => rfl, fun _ => rfl, rfl⟩
    | setRoleAdmin r ar =>
      cases hl
      refine ⟨rfl, rfl, fun _ => rfl, rfl, (fun h => by cases h), fun _ => rfl, if_neg ?_⟩
      rintro ⟨hr, hne⟩
      apply hne
      show ((modelRadm _)[r]?).join = some ar
      rw [modelRadm_get, if_pos (by simpa [inR] using hr)]
      show upd _ r (some ar) r = some ar
      simp [upd]
    | transferAdmin _ _ hh => cases hl; exact ⟨rfl, rfl, fun _ => rfl, rfl, fun _ => rfl, fun _ => hh, rfl⟩
    | renounceAdmin _ => cases hl; exact ⟨rfl, rfl, fun _ => rfl, rfl, fun _ => rfl, (fun h => by cases h), rfl⟩
    | grantRole | revokeRole | renounceRole => cases hl
  have ps := phase_sound m x hi ha ⟨k, sig, auth⟩ who (fun now => by rw [hadm]; exact hstep m now who) c1 hph
  refine ⟨fun ok0 eq0 => ?_, fun id => by rw [hlog]; exact ps.ghost _ id, fun id => by rw [hlog]; exact ps.known id⟩
  apply verdictCall_none (hidle _ _)
    (undone_none x.defs ok0 true eq0 none (fun id h1 => applyE_ledger_one hx h1)) rfl
  · apply effect_none
    · intro h; show c'.tl.minDelay = x.c.tl.minDelay; rw [hmin h, ps.min]
    · intro _; exact modelRoles_of_ac (by rw [hroles, ps.ac])
    · intro h; exact modelRadm_of_ac (by rw [hradm h, ps.ac])
    · intro _ h; show c'.ac.adm.holder = x.c.ac.adm.holder; rw [hadmin h, ps.ac]
    · intro h; rw [hK] at h; cases h
  · rw [hver]
    unfold verdictAdmin
    rw [hsetr, (ps.auth c' ok0 eq0 hled).2 hadm]
    rfl

/-! ### caller-authorized entry points -/

theorem callerPerm_none_of_admin (c : CState) (defs : List Operation) (ok0 : Bool) (eq0 : Option (List Nat))
    (cl : CallLine) (hnr : ∀ r k, cl.call ≠ .renrole r k) (role caller : Nat)
    (h : OZ.Access.isAdmin c.ac caller = true ∨ OZ.Access.isAdminRole c.ac role caller = true) :
    callerPerm (modelObs c defs ok0 eq0) cl role caller = none := by
  have hgoal : (!decide ((modelObs c defs ok0 eq0).admin = some caller) &&
      !viaRole (modelObs c defs ok0 eq0) role caller && !cannotTell (modelObs c defs ok0 eq0) role caller) = false := by
    rcases h with h | h
    · have : (modelObs c defs ok0 eq0).admin = some caller := by
        show OZ.Access.getAdmin c.ac = some caller
        unfold OZ.Access.isAdmin at h
        cases hg : OZ.Access.getAdmin c.ac with
        | none => rw [hg] at h; cases h
        | some ad => rw [hg] at h; simp only [beq_iff_eq] at h; rw [h]
      simp [this]
    · by_cases hct : cannotTell (modelObs c defs ok0 eq0) role caller = true
      · simp [hct]
      · have hct' : cannotTell (modelObs c defs ok0 eq0) role caller = false := by simpa using hct
        unfold OZ.Access.isAdminRole at h
        cases hra : OZ.Access.getRoleAdmin c.ac role with
        | none => rw [hra] at h; cases h
        | some ar =>
          rw [hra] at h
          simp only at h
          unfold cannotTell at hct'
          simp only [Bool.or_eq_false_iff, Bool.not_eq_eq_eq_not, Bool.not_false] at hct'
          obtain ⟨⟨hu, hr⟩, hrest⟩ := hct'
          have hr' : role < NROLES := by simpa [inR] using hr
          have hu' : caller ≤ NACC := by simpa [inU] using hu
          have hj : ((modelObs c defs ok0 eq0).radm[role]?).join = some ar := by
            show ((modelRadm c)[role]?).join = some ar
            rw [modelRadm_get, if_pos hr', hra]
          rw [hj] at hrest
          simp only [Bool.not_eq_eq_eq_not, Bool.not_false] at hrest
          have har : ar < NROLES := by simpa [inR] using hrest
          have : viaRole (modelObs c defs ok0 eq0) role caller = true := by
            unfold viaRole
            rw [hj]
            simp only
            rw [members_contains c defs ok0 eq0 har hu']
            exact h
          simp [this]
  unfold callerPerm
  cases hc : cl.call with
  | renrole r k => exact absurd hc (hnr r k)
  | _ => exact if_neg (fun h => by rw [hgoal] at h; cases h)

inductive CallerLine : Call → Entry → Prop
  | grant (a r k : Nat) : CallerLine (.grant a r k) (.grantRole a r k)
  | revoke (a r k : Nat) : CallerLine (.revoke a r k) (.revokeRole a r k)
  | renrole (r k : Nat) : CallerLine (.renrole r k) (.renounceRole r k)

theorem CallerLine.spec {k : Call} {e : Entry} (hl : CallerLine k e) (sig : Option (List MetaM)) (auth : List AuthM) :
    e.callerCall = some ((callerParts k).2.2, fnOf k, argsOf k) ∧ isCallerK k = true ∧ (∀ prev o, idle k prev o = none) ∧
    (∀ m prev o, verdictAccepted m prev o ⟨k, sig, auth⟩ = verdictCaller m prev o ⟨k, sig, auth⟩) ∧
    ∀ m now pa, ghostStep m ⟨k, sig, auth⟩ now pa =
      if (callerParts k).2.2 = 0 then markDone m (sigKeys m.defs k sig) else m := by
  cases hl <;> refine ⟨rfl, rfl, fun _ _ => rfl, fun _ _ _ => rfl, fun m now pa => ?_⟩ <;>
    simp [ghostStep, consumedKeys, consumes, isCheck, isAdminKind, isCallerKind, callerOf, callerParts] <;> rfl

theorem caller_sound (m : Mon) (x : MS) (hi : MInv x) (ha : Agree m x) (sig) (auth : List AuthM)
    {k : Call} {e : Entry} (hl : CallerLine k e) (c' : CState)
    (hx : applyE x.c (ownToks x ⟨k, sig, auth⟩) (resolveSig x.defs sig) e = .ok c') :
    CallSound m x ⟨k, sig, auth⟩ c' := by
  obtain ⟨hcall, hK, hidle, hver, hstep⟩ := hl.spec sig auth
  obtain ⟨c1, a', hph, rfl, ⟨hra, hadm, _⟩, hperm, heffect⟩ : ∃ c1 a',
      requireAuth checkAuth x.c (ownToks x ⟨k, sig, auth⟩) (resolveSig x.defs sig) (callerParts k).2.2
        (fnOf k) (argsOf k) = .ok c1 ∧
      c' = { c1 with ac := a' } ∧ OZ.Access.SameRest x.c.ac a' ∧
      (∀ ok0 eq0, callerPerm (modelObs x.c x.defs ok0 eq0) ⟨k, sig, auth⟩ (callerParts k).2.1 (callerParts k).2.2 = none) ∧
      (∀ ok0 eq0, modelRoles c' =
        expdRoles (modelObs x.c x.defs ok0 eq0) k (callerParts k).1 (callerParts k).2.1) := by
    obtain ⟨c1, hph, hac, hb⟩ := caller_ok hcall hx
    cases hl with
    | grant a r k =>
      cases hb with | grantRole hperm hg => ?_
      rw [hac] at hperm hg
      obtain ⟨_, hm, hrest⟩ := OZ.Access.grantRoleNoAuth_effect hi.ac hg
      exact ⟨c1, _, hph, rfl, hrest,
        fun ok0 eq0 => callerPerm_none_of_admin x.c x.defs ok0 eq0 _ (fun _ _ h => by cases h) r k hperm,
        fun ok0 eq0 => expdRoles_upd x.defs ok0 eq0 _ a r true (fun _ => rfl) hm⟩
    | revoke a r k =>
      cases hb with | revokeRole hperm hg => ?_
      rw [hac] at hperm hg
      obtain ⟨_, hm, _, hrest⟩ := OZ.Access.revokeRoleNoAuth_effect hi.ac hg
      exact ⟨c1, _, hph, rfl, hrest,
        fun ok0 eq0 => callerPerm_none_of_admin x.c x.defs ok0 eq0 _ (fun _ _ h => by cases h) r k hperm,
        fun ok0 eq0 => expdRoles_upd x.defs ok0 eq0 _ a r false (fun _ => rfl) hm⟩
    | renrole r k =>
      cases hb with | renounceRole hg => ?_
      rw [hac] at hg
      obtain ⟨_, hm, hheld, hrest⟩ := OZ.Access.revokeRoleNoAuth_effect hi.ac hg
      refine ⟨c1, _, hph, rfl, hrest, fun ok0 eq0 => ?_,
        fun ok0 eq0 => expdRoles_upd x.defs ok0 eq0 _ k r false (fun _ => rfl) hm⟩
      show callerPerm _ ⟨.renrole r k, sig, auth⟩ r k = none
      unfold callerPerm
      refine if_neg ?_
      rintro ⟨hu, hrr, hnc⟩
      apply hnc
      rw [members_contains x.c x.defs ok0 eq0 (by simpa [inR] using hrr) (by simpa [inU] using hu)]
      exact hheld
  have ps := phase_sound m x hi ha ⟨k, sig, auth⟩ _ (fun now => hstep m now _) c1 hph
  refine ⟨fun ok0 eq0 => ?_, fun id => ps.ghost _ id, fun id => ps.known id⟩
  apply verdictCall_none (hidle _ _)
    (undone_none x.defs ok0 true eq0 none (fun id h1 => applyE_ledger_one hx h1)) rfl
  · apply effect_none
    · intro _; exact ps.min
    · intro h; rw [hK] at h; cases h
    · intro _; exact modelRadm_of_ac hra
    · intro _ _; show OZ.Access.getAdmin a' = OZ.Access.getAdmin x.c.ac
      unfold OZ.Access.getAdmin; rw [hadm]
    · intro _ h; rw [hK] at h; cases h
  · rw [hver]
    unfold verdictCaller
    rw [(ps.auth { c1 with ac := a' } ok0 eq0 rfl).1, hperm ok0 eq0]
    exact if_neg (fun hne => hne (heffect ok0 eq0))

/-! ### timelock calls, accept and advance -/

theorem contains_of_call {l : List AuthM} {a : Nat} (h : AuthTok.call a ∈ resolveToks [] [] l) :
    l.contains (AuthM.call a) = true := by
  simpa using mem_resolveToks_call.mp h

theorem execState_none (x : MS) (c' : CState) (k : Nat) (op : Operation) (hk : x.defs[k]? = some op)
    (hready : getOperationState x.c.tl op.id = .ready) (hdone : c'.tl.ledger op.id = 1) (ok0 : Bool)
    (eq0 : Option (List Nat)) :
    execState (modelObs x.c x.defs ok0 eq0) (modelObs c' x.defs true none) k = none := by
  unfold execState
  rw [if_neg]
  rintro (h | h)
  · exact h (stCode_R.mpr ⟨op, hk, hready⟩)
  · exact h (stCode_D.mpr ⟨op, hk, hdone⟩)

/-- an accepted schedule_op / cancel_op / execute_op: what the three share. The monitor binds the id to what the logged
record says; only `execute_op` may store Done -/
theorem write_sound (m : Mon) (x : MS) (hi : MInv x) (ha : Agree m x) (cl : CallLine) {y : Op} {id : Id} {v : Nat}
    {e : Ev} (w : Write x.c.tl y id v e) (hidle : ∀ prev o, idle cl.call prev o = none)
    (hdone : v = 1 → isExecK cl.call = true)
    (g : G) (hg : toG (Timelock.ghost [e] e.id) = g)
    (hstep : ghostStep m cl x.c.tl.now x.c.admin = m.set (some id) g)
    (hknown : Timelock.ghost [e] id ≠ .unset → id ∈ x.defs.map Operation.id) :
    let c' : CState := { x.c with tl := { x.c.tl with ledger := updId x.c.tl.ledger id v, log := e :: x.c.tl.log,
                                                      calls := called y ++ x.c.tl.calls } }
    (∀ ok0 eq0, verdictAccepted m (modelObs x.c x.defs ok0 eq0) (modelObs c' x.defs true none) cl = none) →
    CallSound m x cl c' := by
  intro c' hacc
  refine ⟨fun ok0 eq0 => ?_, fun j => ?_, fun j hne => ?_⟩
  · apply verdictCall_none (hidle _ _)
      (undone_none x.defs ok0 true eq0 none (fun j h1 => (Step.write w).ledger_one h1)) rfl _ (hacc ok0 eq0)
    apply effect_none
    · intro _; rfl
    · intro _; rfl
    · intro _; rfl
    · intro _ _; rfl
    · intro _ _ _ hk
      apply newlyDone_false
      intro j h1
      have h1' : updId x.c.tl.ledger id v j = 1 := h1
      by_cases hj : j = id
      · rw [hj, updId_same] at h1'; rw [hdone h1'] at hk; cases hk
      · rw [updId_other _ _ _ _ hj] at h1'; exact h1'
  · show (ghostStep m cl x.c.tl.now x.c.admin).get (some j) = toG (Timelock.ghost (e :: x.c.tl.log) j)
    rw [hstep, ← w.id_eq]
    exact get_set_log ha.ghost e hg j
  · rcases ghost_cons_known (e := e) hne with h | h
    · rw [w.id_eq] at h; subst h
      refine hknown (fun h0 => hne ?_)
      show Timelock.ghost (e :: x.c.tl.log) id = .unset
      rw [ghost_cons, if_pos w.id_eq, h0]
    · exact hi.known j h

inductive TlLine (x : MS) : Call → Entry → Prop
  | sched {k d p : Nat} {op : Operation} (hk : x.defs[k]? = some op) : TlLine x (.sched k d p) (.scheduleOp op d p)
  | cancel {r : Ref} {p : Nat} {id0 : Id} (hr : refKey x.defs r = some id0) : TlLine x (.cancel r p) (.cancelOp id0 p)
  | exec {k : Nat} {ex : Option Nat} {okn : Nat} {op : Operation} {b : Bool} (hk : x.defs[k]? = some op) :
      TlLine x (.exec k ex okn) (.executeOp op ex b)

theorem tl_sound (m : Mon) (x : MS) (hi : MInv x) (ha : Agree m x) (sig) (auth : List AuthM)
    {k : Call} {e : Entry} (hl : TlLine x k e) (c' : CState)
    (hx : applyE x.c (resolveToks [] [] auth) (resolveSig x.defs sig) e = .ok c') : CallSound m x ⟨k, sig, auth⟩ c' := by
  cases hl with
  | @sched k d p op hk =>
    obtain ⟨hrole, hauth, tl', hs, rfl⟩ := applyE_ok hx
    cases (apply_iff (x := .schedule op d)).mp hs with
    | write w =>
      cases w with
      | @schedule _ _ mn hmn hmd h0 =>
        have hge : 2 ≤ satAdd x.c.tl.now d := satAdd_ge_two hi.tl.nowLo
        refine write_sound m x hi ha ⟨_, sig, auth⟩ (.schedule hmn hmd h0) (fun _ _ => rfl) (by omega) _
          (congrArg toG (ghost_sched_same _ _ _ _ _)) ?_
          (fun _ => List.mem_map.mpr ⟨op, List.mem_of_getElem? hk, rfl⟩) (fun ok0 eq0 => ?_)
        · simp only [ghostStep, ha.defs, hk, toG]
        · show verdictSched _ d p auth = none
          unfold verdictSched
          have hb : belowMin (modelObs x.c x.defs ok0 eq0).min d = false := by
            show belowMin x.c.tl.minDelay d = false
            rw [hmn]; unfold belowMin; simp; omega
          rw [if_neg (by rw [hb]; simp), if_neg, if_neg]
          · simpa using contains_of_call hauth
          · rintro ⟨hu, hnc⟩
            apply hnc
            rw [members_contains x.c x.defs ok0 eq0 (by decide) (by simpa [inU] using hu)]
            exact hrole
  | @cancel r p id0 hr0 =>
    obtain ⟨hrole, hauth, tl', hs, rfl⟩ := applyE_ok hx
    cases (apply_iff (x := .cancel id0)).mp hs with
    | write w =>
      cases w with
      | cancel h2 =>
        refine write_sound m x hi ha ⟨_, sig, auth⟩ (.cancel h2) (fun _ _ => rfl) (by intro h; cases h) _
          (congrArg toG (ghost_cancel_same _ _ _)) ?_ (fun h => absurd (ghost_cancel_same _ _ _) h) (fun ok0 eq0 => ?_)
        · simp only [ghostStep, ha.defs, hr0, toG]
        · show verdictCancel _ p auth = none
          unfold verdictCancel
          rw [if_neg, if_neg]
          · simpa using contains_of_call hauth
          · rintro ⟨hu, hnc⟩
            apply hnc
            rw [members_contains x.c x.defs ok0 eq0 (by decide) (by simpa [inU] using hu)]
            exact hrole
  | @exec k ex okn op b hk =>
    obtain ⟨hgate, tl', hs, rfl⟩ := applyE_ok hx
    cases (apply_iff (x := .execute op b)).mp hs with
    | write w =>
      cases w with
      | execute h2 hn hpd =>
        refine write_sound m x hi ha ⟨_, sig, auth⟩ (.execute h2 hn hpd) (fun _ _ => rfl)
          (fun _ => rfl) _ (congrArg toG (ghost_exec_same _ _ _)) ?_
          (fun _ => List.mem_map.mpr ⟨op, List.mem_of_getElem? hk, rfl⟩) (fun ok0 eq0 => ?_)
        · simp only [ghostStep, ha.defs, hk, toG]
        · have hstate : ∀ c'' : CState, c''.tl.ledger op.id = 1 →
              firstSome (predBad m k) (execState (modelObs x.c x.defs ok0 eq0) (modelObs c'' x.defs true none) k) = none := by
            intro c'' hd
            have hpred : predBad m k = none := by
              unfold predBad
              rw [ha.defs, hk]
              simp only
              rw [if_neg]
              rintro ⟨hnz, hnd⟩
              rcases hpd with hz | hl1
              · exact hnz hz
              · apply hnd
                rw [ha.ghost, (hi.tl.coh op.pred).of_one hi.tl.nowHi hl1]; rfl
            rw [hpred]
            exact execState_none x _ k op hk (stateOf_ready.mpr ⟨h2, hn⟩) hd ok0 eq0
          show verdictExec m _ _ k ex auth = none
          unfold verdictExec
          by_cases hem : (members (modelObs x.c x.defs ok0 eq0) 1).isEmpty
          · rw [if_pos hem]; exact hstate _ (updId_same _ _ _)
          · rw [if_neg hem]
            obtain ⟨e, rfl, hr, hin⟩ := hgate (executorCount_of_members x.defs ok0 eq0 hi.ac hem)
            simp only
            rw [if_neg, if_neg]
            · exact hstate _ (updId_same _ _ _)
            · simpa using contains_of_call hin
            · rintro ⟨hu, hnc⟩
              apply hnc
              rw [members_contains x.c x.defs ok0 eq0 (by decide) (by simpa [inU] using hu)]
              exact hr

theorem accept_sound (m : Mon) (x : MS) (hi : MInv x) (ha : Agree m x) (sig) (auth : List AuthM)
    (c' : CState) (hx : applyE x.c (resolveToks [] [] auth) (resolveSig x.defs sig) .acceptAdmin = .ok c') :
    CallSound m x ⟨.accept, sig, auth⟩ c' := by
  obtain ⟨t, p, _, hh, _, hauth, rfl⟩ := applyE_ok hx
  refine ⟨?_, ?_, ?_⟩
  · intro ok0 eq0
    apply verdictCall_none
    · rfl
    · exact undone_none x.defs ok0 true eq0 none (fun id h1 => applyE_ledger_one hx h1)
    · rfl
    · apply effect_none
      · intro _; rfl
      · intro _; rfl
      · intro _; rfl
      · intro h; cases h
      · intro _ _ _ _
        exact newlyDone_false x.defs ok0 true eq0 none (fun id h1 => h1)
    · show verdictAccept _ auth = none
      unfold verdictAccept
      show (match t.holder with
        | some a => _
        | none => _) = none
      rw [hh]
      simp only
      rw [if_neg]
      simpa using contains_of_call hauth
  · exact ha.ghost
  · exact hi.known

theorem advance_sound (m : Mon) (x : MS) (hi : MInv x) (ha : Agree m x) (sig) (auth : List AuthM)
    (n : Nat) (c' : CState) (hx : applyE x.c [] (resolveSig x.defs sig) (.advance n) = .ok c') :
    CallSound m x ⟨.advance n, sig, auth⟩ c' := by
  obtain ⟨tl', ht, hc'⟩ := applyE_ok hx
  obtain ⟨_, rfl⟩ := advance_iff.mp ht
  have hled : c'.tl.ledger = x.c.tl.ledger := by rw [hc']
  have hlog : c'.tl.log = x.c.tl.log := by rw [hc']
  have hmin : c'.tl.minDelay = x.c.tl.minDelay := by rw [hc']
  have hcalls : c'.tl.calls = x.c.tl.calls := by rw [hc']
  have hnow : x.c.tl.now ≤ c'.tl.now := by rw [hc']; exact Nat.le_add_right _ _
  have hrole : c'.ac.hasRole = x.c.ac.hasRole := by rw [hc']; rfl
  have hradm : c'.ac.roleAdmin = x.c.ac.roleAdmin := by rw [hc']; rfl
  have hadm : c'.admin = x.c.admin := by rw [hc']; rfl
  refine ⟨?_, ?_, ?_⟩
  · intro ok0 eq0
    apply verdictCall_none
    · show idleCheck _ _ n = none
      exact idleCheck_none x.defs ok0 true eq0 none hmin hadm hrole hradm hcalls hled hnow n
    · exact undone_none x.defs ok0 true eq0 none (fun id h1 => by rw [hled]; exact h1)
    · rfl
    · apply effect_none
      · intro _; exact hmin
      · intro _; exact modelRoles_of_ac hrole
      · intro _; exact modelRadm_of_ac hradm
      · intro _ _; exact hadm
      · intro _ _ _ _
        exact newlyDone_false x.defs ok0 true eq0 none (fun id h1 => by rw [hled] at h1; exact h1)
    · rfl
  · intro id
    show m.get (some id) = _
    rw [hlog]
    exact ha.ghost id
  · intro id; rw [hlog]; exact hi.known id

/-! ### `__check_auth` driven directly: the contexts the model driver reads are the ones the monitor keeps -/

theorem liveCtx_eq (defs : List Operation) (c : CtxM) : liveCtx defs c = (resolveCtx defs c).isSome := by
  cases c with
  | create => rfl
  | defk k =>
    unfold liveCtx resolveCtx
    by_cases h : k < defs.length
    · simp [h]
    · simp [h]
  | call t f a => rfl
  | bad => rfl

theorem live_map (defs : List Operation) (ctxs : List CtxM) :
    (liveCtxs defs ctxs).map (resolveCtx defs) = (resolveCtxs defs ctxs).map some := by
  unfold liveCtxs resolveCtxs
  induction ctxs with
  | nil => rfl
  | cons c t ih =>
    cases h : resolveCtx defs c with
    | none => rw [List.filterMap_cons_none h, List.filter_cons_of_neg (by rw [liveCtx_eq, h]; simp)]; exact ih
    | some b => rw [List.filterMap_cons_some h, List.filter_cons_of_pos (by rw [liveCtx_eq, h]; rfl)]; simp [h, ih]

theorem ctxCall_of_resolve {defs : List Operation} {cm : CtxM} {t f : Nat} {a : List Nat}
    (h : resolveCtx defs cm = some (.contract t f a)) : ctxCall defs cm = some (t, f, a) := by
  cases cm with
  | create => simp [resolveCtx] at h
  | defk k =>
    simp only [resolveCtx] at h
    simp only [ctxCall]
    cases hk : defs[k]? with
    | none => rw [hk] at h; cases h
    | some d =>
      rw [hk] at h
      simp only [Option.map_some, Option.some.injEq, Context.contract.injEq] at h ⊢
      obtain ⟨rfl, rfl, rfl⟩ := h
      rfl
  | call t' f' a' =>
    simp only [resolveCtx, Option.some.injEq, Context.contract.injEq] at h
    obtain ⟨rfl, rfl, rfl⟩ := h
    rfl
  | bad => simp [resolveCtx] at h

theorem getD_resolveMetas_length (defs : List Operation) (metas : List MetaM) :
    ((resolveMetas defs metas).getD []).length ≤ metas.length := by
  cases hr : resolveMetas defs metas with
  | none => simp
  | some ms => simp [map_some_length (resolveMetas_map hr)]

theorem check_sound (m : Mon) (x : MS) (hi : MInv x) (ha : Agree m x) (sig : Option (List MetaM)) (auth : List AuthM)
    (metas : List MetaM) (ctxs : List CtxM) (c' : CState)
    (hx : applyE x.c (resolveToks ((resolveMetas x.defs metas).getD []) (resolveCtxs x.defs ctxs) auth)
        (resolveSig x.defs sig)
        (.checkAuth ((resolveMetas x.defs metas).getD []) (resolveCtxs x.defs ctxs)) = .ok c') :
    CallSound m x ⟨.check metas ctxs, sig, auth⟩ c' := by
  obtain ⟨hlen, hp⟩ := checkAuth_ok (applyE_ok hx)
  obtain ⟨ids, hidl, hc', hgh, hkn, hat⟩ := loop_sound m x hi ha auth hp
  have hlive := live_map x.defs ctxs
  have hn : (liveCtxs x.defs ctxs).length = ids.length := by
    rw [hidl, List.length_zip, hlen, Nat.min_self, map_some_length hlive]
  have per : ∀ j, j < ids.length →
      ∃ cm md fn args id, (liveCtxs x.defs ctxs)[j]? = some cm ∧ ctxCall x.defs cm = some (0, fn, args) ∧
        metas[j]? = some md ∧ ids[j]? = some id ∧ keyOf x.defs fn args md = some id ∧
        ∀ ok0 eq0, consumed m (modelObs x.c x.defs ok0 eq0) (modelObs c' x.defs true none) fn args md j auth
          (decide ((liveCtxs x.defs ctxs).length = 1)) = none := by
    intro j hj
    rw [hidl, List.length_zip, hlen, Nat.min_self] at hj
    have hj' := hlen ▸ hj
    obtain ⟨cm, hcm, hres⟩ := Option.bind_eq_some_iff.mp
      ((map_some_get hlive j).trans (List.getElem?_eq_getElem hj))
    cases hms : resolveMetas x.defs metas with
    | none => rw [hms] at hj'; simp at hj'
    | some ms =>
      rw [hms] at hat hj'
      obtain ⟨md, hmd, hmt⟩ := Option.bind_eq_some_iff.mp
        ((map_some_get (resolveMetas_map hms) j).trans (List.getElem?_eq_getElem hj'))
      obtain ⟨fn, args, hctx, hid, hmon⟩ := hat j _ _ (List.getElem?_eq_getElem hj) (List.getElem?_eq_getElem hj')
      obtain ⟨hkey, hcons⟩ := hmon md hmt
      rw [hctx] at hres
      rw [← map_some_length hlive] at hcons
      exact ⟨cm, md, fn, args, _, hcm, ctxCall_of_resolve hres, hmd, hid, hkey, fun ok0 eq0 => hcons c' ok0 eq0 rfl⟩
  have hkeys : checkKeys x.defs metas (liveCtxs x.defs ctxs) = ids := by
    unfold checkKeys
    rw [hn]
    refine filterMap_range_get (fun j hj => ?_)
    obtain ⟨cm, md, fn, args, id, hcm, hcall', hmd, hid, hkey, _⟩ := per j hj
    unfold checkKey
    rw [hcm, hmd, hid]
    simp only [Option.bind_some, hcall']
    exact hkey
  refine ⟨fun ok0 eq0 => ?_, fun id => ?_, hkn⟩
  · apply verdictCall_none
    · rfl
    · exact undone_none x.defs ok0 true eq0 none (fun id h1 => applyE_ledger_one hx h1)
    · rfl
    · apply effect_none
      · intro _; rw [hc']; rfl
      · intro _; rw [hc']; rfl
      · intro _; rw [hc']; rfl
      · intro _ _; rw [hc']; rfl
      · intro _ _ h; cases h
    · show verdictCheck m _ _ metas (liveCtxs m.defs ctxs) auth = none
      rw [ha.defs]
      unfold verdictCheck
      rw [if_neg (by
        have := getD_resolveMetas_length x.defs metas
        have := map_some_length hlive
        omega)]
      have : (List.range (liveCtxs x.defs ctxs).length).filterMap
          (checkCtx m (modelObs x.c x.defs ok0 eq0) (modelObs c' x.defs true none) metas (liveCtxs x.defs ctxs) auth) = [] := by
        rw [List.filterMap_eq_nil_iff]
        intro j hj
        rw [List.mem_range, hn] at hj
        obtain ⟨cm, md, fn, args, id, hcm, hcall', hmd, _, _, hcons⟩ := per j hj
        unfold checkCtx
        rw [hcm, hmd, ha.defs]
        simp only [Option.bind_some, hcall']
        rw [if_neg (by simp), hcons ok0 eq0]
        rfl
      rw [this]
  · show (markDone m (checkKeys m.defs metas (liveCtxs m.defs ctxs))).get (some id) = _
    rw [ha.defs, hkeys]
    exact hgh id

/-- every call line the model driver resolves and the model accepts passes the monitor's verdict,
and the monitor's ghost log follows the model's log -/
theorem accepted_callSound (m : Mon) (x : MS) (hi : MInv x) (ha : Agree m x) (cl : CallLine) (e : Entry)
    (auth : List AuthTok) (hr : resolveCall x cl = some (e, auth)) (c' : CState)
    (hx : applyE x.c auth (resolveSig x.defs cl.sig) e = .ok c') : CallSound m x cl c' := by
  -- the line is taken apart here, once: the family lemmas see a line of a known kind, on which `ghostStep`,
  -- `verdictAccepted` and `idle` compute
  obtain ⟨k, sig, au⟩ := cl
  cases k <;> simp only [resolveCall, Option.map_eq_some_iff, Option.some.injEq, Prod.mk.injEq, reduceCtorEq] at hr
  case sched k d p =>
    obtain ⟨op, hk, rfl, rfl⟩ := hr
    exact tl_sound m x hi ha sig au (.sched hk) c' hx
  case cancel r p =>
    obtain ⟨id0, hk, rfl, rfl⟩ := hr
    exact tl_sound m x hi ha sig au (.cancel hk) c' hx
  case exec k ex okn =>
    obtain ⟨op, hk, rfl, rfl⟩ := hr
    exact tl_sound m x hi ha sig au (.exec hk) c' hx
  case update d =>
    obtain ⟨rfl, rfl⟩ := hr
    exact admin_sound m x hi ha sig au (.update d) c' hx
  case grant a r k =>
    obtain ⟨rfl, rfl⟩ := hr
    exact caller_sound m x hi ha sig au (.grant a r k) c' hx
  case revoke a r k =>
    obtain ⟨rfl, rfl⟩ := hr
    exact caller_sound m x hi ha sig au (.revoke a r k) c' hx
  case renrole r k =>
    obtain ⟨rfl, rfl⟩ := hr
    exact caller_sound m x hi ha sig au (.renrole r k) c' hx
  case setradm r ar =>
    obtain ⟨rfl, rfl⟩ := hr
    exact admin_sound m x hi ha sig au (.setradm r ar) c' hx
  case transfer a lu =>
    obtain ⟨rfl, rfl⟩ := hr
    exact admin_sound m x hi ha sig au (.transfer a lu) c' hx
  case renounce =>
    obtain ⟨rfl, rfl⟩ := hr
    exact admin_sound m x hi ha sig au .renounce c' hx
  case accept =>
    obtain ⟨rfl, rfl⟩ := hr
    exact accept_sound m x hi ha sig au c' hx
  case check metas ctxs =>
    obtain ⟨rfl, rfl⟩ := hr
    exact check_sound m x hi ha sig au metas ctxs c' hx
  case advance n =>
    obtain ⟨rfl, rfl⟩ := hr
    exact advance_sound m x hi ha sig au n c' hx

/-- on the first line of a sequence (nothing defined yet) the ghost step does not depend on the
previously observed admin: no key can be found -/
theorem ghostStep_nodefs (m : Mon) (h : m.defs = []) (cl : CallLine) (now : Nat) (pa pa' : Option Nat) :
    ghostStep m cl now pa = ghostStep m cl now pa' := by
  have hkey : ∀ f args md, keyOf m.defs f args md = none := by
    intro f args md
    unfold keyOf findDef
    rw [h]
    cases opKey f args (refKey [] md.p) md.s <;> rfl
  have hsig : ∀ c, sigKeys m.defs c cl.sig = [] := by
    intro c
    unfold sigKeys
    split
    · rw [hkey]; rfl
    · rfl
  have hchk : ∀ metas ctxs, checkKeys m.defs metas ctxs = [] := by
    intro metas ctxs
    unfold checkKeys
    rw [List.filterMap_eq_nil_iff]
    intro j _
    unfold checkKey
    split
    · exact hkey _ _ _
    · rfl
  have hk : consumedKeys m cl = [] := by
    unfold consumedKeys
    split
    · exact hchk _ _
    · exact hsig _
  -- with nothing to mark, both branches of the `consumes` test leave `m` alone
  unfold ghostStep
  simp only [hk, markDone, List.foldl_nil, ite_self]

theorem applyE_minv {x : MS} (hi : MInv x) {auth : List AuthTok} {sig : Option (List Meta)} {e : Entry}
    {c' : CState} (h : applyE x.c auth sig e = .ok c')
    (hk : ∀ id, Timelock.ghost c'.tl.log id ≠ .unset → id ∈ x.defs.map Operation.id) : MInv ⟨c', x.defs⟩ := by
  obtain ⟨hself, hac, ops, ho⟩ := applyE_decomp h
  exact ⟨ho ▸ run_inv hi.tl _, hac hi.ac, by show c'.self = 0; rw [hself]; exact hi.self, hk⟩

/-- an accepted call line through `checkCall` -/
theorem accepted_sound (m : Mon) (x : MS) (hi : MInv x) (ha : Agree m x) (cl : CallLine) (e : Entry)
    (auth : List AuthTok) (hr : resolveCall x cl = some (e, auth)) (c' : CState)
    (hx : applyE x.c auth (resolveSig x.defs cl.sig) e = .ok c') :
    (checkCall m cl (modelObs c' x.defs true none)).2 = none ∧
    Agree (checkCall m cl (modelObs c' x.defs true none)).1 ⟨c', x.defs⟩ ∧ MInv ⟨c', x.defs⟩ := by
  have cs := accepted_callSound m x hi ha cl e auth hr c' hx
  have hi' := applyE_minv hi hx cs.known
  unfold checkCall
  cases hp : m.prev with
  | none =>
    simp only
    have hd0 : m.defs = [] := by rw [ha.defs]; exact (ha.first hp).1
    obtain ⟨a, b⟩ := fin_sound cl none m ⟨c', x.defs⟩ true none rfl hi'.tl
      (by show (ghostStep m cl _ none).defs = x.defs; rw [ghostStep_defs]; exact ha.defs)
      (by
        intro id
        show (ghostStep m cl c'.tl.now none).get (some id) = _
        rw [ghostStep_nodefs m hd0 cl _ none x.c.admin]
        exact cs.ghost id)
    exact ⟨a, b, hi'⟩
  | some p =>
    simp only
    obtain ⟨ok0, eq0, rfl⟩ := ha.prev p hp
    obtain ⟨a, b⟩ := fin_sound cl (modelObs x.c x.defs ok0 eq0).admin m ⟨c', x.defs⟩ true _ (cs.verdict ok0 eq0) hi'.tl
      (by show (ghostStep m cl _ _).defs = x.defs; rw [ghostStep_defs]; exact ha.defs)
      (by intro id; exact cs.ghost id)
    exact ⟨a, b, hi'⟩

/-- a call line the model rejects: nothing observable changed -/
theorem rejected_sound (m : Mon) (x : MS) (hi : MInv x) (ha : Agree m x) (cl : CallLine) :
    (checkCall m cl (modelObs x.c x.defs false none)).2 = none ∧
    Agree (checkCall m cl (modelObs x.c x.defs false none)).1 x := by
  unfold checkCall
  cases hp : m.prev with
  | none =>
    simp only
    exact fin_sound cl none m x false none rfl hi.tl ha.defs ha.ghost
  | some p =>
    simp only
    obtain ⟨ok0, eq0, rfl⟩ := ha.prev p hp
    refine fin_sound cl _ m x false _ ?_ hi.tl ha.defs ha.ghost
    unfold verdictCall verdictOk
    have hidle : idle cl.call (modelObs x.c x.defs ok0 eq0) (modelObs x.c x.defs false none) = none := by
      unfold idle
      cases cl.call with
      | advance n =>
        exact idleCheck_none x.defs ok0 false eq0 none rfl rfl rfl rfl rfl rfl (Nat.le_refl _) n
      | _ => rfl
    rw [hidle, undone_none x.defs ok0 false eq0 none (fun _ h => h)]
    rw [if_pos (by simp [modelObs]), rollback_none]
    rfl

theorem def_sound (m : Mon) (x : MS) (hi : MInv x) (ha : Agree m x) (t f : Nat) (args : List Nat)
    (p : Ref) (s : Nat) (pid : Id) (hp : refKey x.defs p = some pid) :
    (checkDef m t f args p s (modelDef x ⟨t, f, args, pid, s⟩).2).2 = none ∧
    Agree (checkDef m t f args p s (modelDef x ⟨t, f, args, pid, s⟩).2).1 (modelDef x ⟨t, f, args, pid, s⟩).1 ∧
    MInv (modelDef x ⟨t, f, args, pid, s⟩).1 := by
  unfold checkDef
  rw [ha.defs, hp]
  simp only
  obtain ⟨a, b⟩ := finDef_sound { m with defs := x.defs ++ [⟨t, f, args, pid, s⟩] }
    ⟨x.c, x.defs ++ [(⟨t, f, args, pid, s⟩ : Operation)]⟩ true (some (sameTuples x.defs ⟨t, f, args, pid, s⟩))
    (firstSome (initBad m (modelDef x ⟨t, f, args, pid, s⟩).2) (verdictDef m ⟨t, f, args, pid, s⟩ (modelDef x ⟨t, f, args, pid, s⟩).2))
    (by
      have hib : initBad m (modelDef x ⟨t, f, args, pid, s⟩).2 = none := by
        unfold initBad
        rw [if_neg]
        rintro ⟨hn, hany⟩
        have hpn : m.prev = none := by cases hm : m.prev <;> simp_all
        have hr := (ha.first hpn).2
        simp only [modelDef, modelObs, modelRadm, List.any_map, List.any_eq_true] at hany
        obtain ⟨r, _, hr'⟩ := hany
        simp [hr r] at hr'
      rw [hib]
      unfold verdictDef
      rw [if_neg (by rw [ha.defs]; simp [modelDef, modelObs])]
      rfl)
    hi.tl rfl (fun id => by rw [get_defs]; exact ha.ghost id)
  refine ⟨a, b, ⟨hi.tl, hi.ac, hi.self, ?_⟩⟩
  intro id hne
  show id ∈ (x.defs ++ [_]).map Operation.id
  rw [List.map_append]
  exact List.mem_append_left _ (hi.known id hne)

end OZ.TimelockController.Mon
