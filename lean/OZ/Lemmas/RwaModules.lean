import OZ.Lemmas.RwaInv
import OZ.Lemmas.RegList
/-
The modular compliance contract: the verdict loop (`consult`) and the module registry (duplicate-free).
-/
namespace OZ.Rwa

theorem consult_true_iff (v : Nat → Bool) (ms : List Nat) :
    (consult v ms).2 = true ↔ ∀ m ∈ ms, v m = true := by
  induction ms with
  | nil => simp [consult]
  | cons x xs ih =>
    unfold consult
    by_cases hx : v x = true
    · rw [if_pos hx]; simp only [List.mem_cons, forall_eq_or_imp]; rw [ih]; exact ⟨fun h => ⟨hx, h⟩, fun h => h.2⟩
    · rw [if_neg hx]; simp only [List.mem_cons, forall_eq_or_imp]
      exact ⟨fun h => (by cases h), fun h => absurd h.1 hx⟩

theorem consult_called_all (v : Nat → Bool) (ms : List Nat) (h : (consult v ms).2 = true) :
    (consult v ms).1 = ms := by
  induction ms with
  | nil => rfl
  | cons x xs ih =>
    unfold consult at h ⊢
    by_cases hx : v x = true
    · rw [if_pos hx] at h ⊢; simp only at h ⊢; rw [ih h]
    · rw [if_neg hx] at h; cases h

theorem consult_called_until_veto (v : Nat → Bool) (ms : List Nat) (h : (consult v ms).2 = false) :
    ∃ pre m post, ms = pre ++ m :: post ∧ (∀ x ∈ pre, v x = true) ∧ v m = false ∧
      (consult v ms).1 = pre ++ [m] := by
  induction ms with
  | nil => simp [consult] at h
  | cons x xs ih =>
    unfold consult at h ⊢
    by_cases hx : v x = true
    · rw [if_pos hx] at h ⊢
      obtain ⟨pre, m, post, e, hp, hm, hc⟩ := ih h
      refine ⟨x :: pre, m, post, by rw [e]; rfl, ?_, hm, by simp only; rw [hc]; rfl⟩
      intro y hy
      cases hy with
      | head => exact hx
      | tail _ hy => exact hp y hy
    · rw [if_neg hx]
      have hv : v x = false := by cases hv : v x <;> simp_all
      exact ⟨[], x, xs, rfl, fun y hy => (by cases hy), hv, rfl⟩

def ModsNodup (s : State) : Prop := ∀ h, (s.mods h).Nodup

theorem Step.modsNodup {s s' : State} {op : Op} {r : Bool} (st : Step s op s' r) (hi : ModsNodup s) : ModsNodup s' := by
  have keep : ∀ {s' : State}, s'.mods = s.mods → ModsNodup s' := by
    intro s' e k; rw [e]; exact hi k
  cases st with
  | transfer p | transferFrom p | mint p | burn p | forced p | recoverMove _ _ _ p => exact keep p.env.mods
  | freeze _ _ p | unfreeze _ _ p => exact keep p.kept.env.mods
  | recoverNone => exact keep rfl
  | quiet hq g q =>
    intro k
    rw [q.mods]
    cases op with
    | addModule hk m o =>
      show (if k = hk then s.mods hk ++ [m] else s.mods k).Nodup
      split
      · exact OZ.Reg.nodup_append_singleton (hi hk) g.1
      · exact hi k
    | removeModule hk m o =>
      show (if k = hk then (s.mods hk).erase m else s.mods k).Nodup
      split
      · exact (hi hk).erase m
      · exact hi k
    | _ => first | exact hi k | cases hq

end OZ.Rwa
