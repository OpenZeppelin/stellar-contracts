import OZ.Lemmas.IdentityMon
import OZ.Props.C15
/-
What the C15 monitor's conditions (`G.confirms`, `G.verifies`) mean in a world the ghost state agrees with; the initial
states agree; what one line of the model driver shows. `confirms_eq` goes through the closed form of `is_claim_valid`,
`issuer_confirms_iff`, a theorem of OZ/Props/C15.lean: hence the import of a property file.
-/
namespace OZ.Identity.Mon
open OZ.Host OZ.Identity OZ.ClaimIssuer

theorem wellFormed_iff (scheme sl : Nat) : wellFormed scheme sl = true ↔ expectedLen scheme = some sl := by
  unfold wellFormed algOf expectedLen ED25519 ED25519_B SECP256R1 SECP256R1_B SECP256K1 SECP256K1_B
  by_cases h1 : scheme = 101 ∨ scheme = 111
  · simp [h1, eq_comm]
  by_cases h2 : scheme = 102 ∨ scheme = 112
  · simp [h1, h2, eq_comm]
  by_cases h3 : scheme = 103 ∨ scheme = 113
  · simp [h1, h2, h3, eq_comm]
  · simp [h1, h2, h3]

theorem notExpired_iff (ts : Nat) (data : List Nat) :
    notExpired ts data = true ↔ ∃ vu, validUntil data = .ok vu ∧ ts < vu := by
  unfold notExpired gValidUntil validUntil beNat
  by_cases h : data.length < 16
  · simp only [if_pos h]
    constructor
    · intro c; cases c
    · rintro ⟨vu, c, _⟩; cases c
  · simp only [if_neg h, decide_eq_true_eq]
    constructor
    · intro c; exact ⟨_, rfl, c⟩
    · rintro ⟨vu, c, hlt⟩; injection c with c; rw [c]; exact hlt

/-! ### the issuer's condition -/

theorem keyAllowed_iff (g : G) (i pk sc t : Nat) :
    g.keyAllowed i pk sc t = true ↔ ∃ r, (i, pk, sc, t, r) ∈ g.keys := by
  unfold G.keyAllowed
  rw [List.any_eq_true]
  constructor
  · rintro ⟨⟨x1, x2, x3, x4, x5⟩, hm, hx⟩
    simp only [Bool.and_eq_true, beq_iff_eq] at hx
    obtain ⟨⟨⟨h1, h2⟩, h3⟩, h4⟩ := hx
    subst h1 h2 h3 h4
    exact ⟨x5, hm⟩
  · rintro ⟨r, hm⟩; exact ⟨_, hm, by simp⟩

theorem confirms_eq {g : G} {W : World SymSig} (h : AgreeW g W) (i d t scheme : Nat) (sd : SigData SymSig)
    (data : List Nat) :
    g.confirms i d t scheme sd data = issuerConfirms symVerify W i d t scheme sd data := by
  unfold issuerConfirms
  cases hs : W.issuers i with
  | none =>
    have hni : ISSUERS.contains i = false := Bool.eq_false_iff.mpr fun hc => by
      have := (h.iss.dom i).mpr (List.contains_iff_mem.mp hc)
      rw [hs] at this; cases this
    simp only [G.confirms, G.confirmsButKey, G.coreOk, hni, Bool.false_and]
  | some s =>
    simp only
    rw [Bool.eq_iff_iff, issuer_confirms_iff]
    have hi : ISSUERS.contains i = true :=
      List.contains_iff_mem.mpr ((h.iss.dom i).mp (by rw [hs]; rfl))
    have hk : g.keyAllowed i sd.pk scheme t = true ↔ isKeyAllowedForTopic s sd.pk scheme t = true := by
      rw [keyAllowed_iff, (h.iss.inv i s hs).link]
      exact exists_congr fun r => issAgree_keys_at h.iss hs _ _ _ r
    unfold G.confirms G.confirmsButKey G.coreOk G.isRevoked symVerify
    rw [hi, issAgree_nonce_at h.iss hs, issAgree_revoked_at h.iss hs, h.net, h.ts]
    simp only [Bool.and_eq_true, Bool.true_and, decide_eq_true_eq, Bool.not_eq_true', beq_iff_eq]
    rw [wellFormed_iff, notExpired_iff, hk]
    constructor
    · rintro ⟨⟨⟨⟨⟨h1, h2⟩, h3⟩, h4⟩, h5⟩, h6⟩
      exact ⟨h1, ⟨h2, h3⟩, h6, h4, h5⟩
    · rintro ⟨h1, ⟨h2, h3⟩, h6, h4, h5⟩
      exact ⟨⟨⟨⟨⟨h1, h2⟩, h3⟩, h4⟩, h5⟩, h6⟩

/-! ### the verifier's condition -/

theorem trustedFor_iff {g : G} {W : World SymSig} (h : AgreeW g W) {ra : Nat} {r : Reg} (hr : W.regs ra = some r)
    (i t : Nat) : g.trustedFor ra i t = true ↔ trustedFor r i t := by
  unfold G.trustedFor trustedFor
  rw [h.reg.trust, hr]
  show (match r.issuerTopics i with | some ts => ts.contains t | none => false) = true ↔ _
  cases r.issuerTopics i with
  | none => simp
  | some ts => simp

theorem claimOk_iff {g : G} {W : World SymSig} (h : AgreeW g W) (d i t : Nat) :
    g.claimOk d i t = true ↔ ∃ st c, W.ids d = some st ∧ st.claim i t = some c ∧ c.topic = t ∧ c.issuer = i ∧
      issuerConfirms symVerify W i d t c.scheme c.sig c.data = true := by
  unfold G.claimOk
  rw [h.ids.claims]
  cases W.ids d with
  | none => simp
  | some st =>
    show (match st.claim i t with
      | some c => c.topic == t && c.issuer == i && g.confirms i d t c.scheme c.sig c.data
      | none => false) = true ↔ _
    cases hc : st.claim i t with
    | none => simp [hc]
    | some c => simp [hc, confirms_eq h, and_assoc]

theorem issuers_sub {i : Nat} (h : i ∈ ISSUERS) : i ∈ ISSUER_CANDS :=
  (by decide : ∀ i ∈ ISSUERS, i ∈ ISSUER_CANDS) i h

theorem topicOk_of_model {g : G} {W : World SymSig} (h : AgreeW g W) {ra : Nat} {r : Reg} (hr : W.regs ra = some r)
    (d t : Nat) (hm : ∃ i, trustedFor r i t ∧ ∃ st, W.ids d = some st ∧ satisfies symVerify W st d t i) :
    g.topicOk ra d t = true := by
  obtain ⟨i, htr, st, hst, c, ⟨_, hc, h1, h2⟩, hconf⟩ := hm
  unfold G.topicOk
  rw [List.any_eq_true]
  have hiss : i ∈ ISSUERS := by
    apply (h.iss.dom i).mp
    unfold issuerConfirms at hconf
    cases hs : W.issuers i with
    | none => rw [hs] at hconf; cases hconf
    | some s => rfl
  refine ⟨i, issuers_sub hiss, ?_⟩
  have hd : IDS.contains d = true := List.contains_iff_mem.mpr ((h.ids.dom d).mp (by rw [hst]; rfl))
  rw [(trustedFor_iff h hr i t).mpr htr, hd, (claimOk_iff h d i t).mpr ⟨st, c, hst, hc, h1, h2, hconf⟩]
  rfl

theorem model_of_topicOk {g : G} {W : World SymSig} (h : AgreeW g W) {ra : Nat} {r : Reg} (hr : W.regs ra = some r)
    (d t : Nat) (ht : ∀ st, W.ids d = some st → Tight st) (hg : g.topicOk ra d t = true) :
    ∃ i, trustedFor r i t ∧ ∃ st, W.ids d = some st ∧ satisfies symVerify W st d t i := by
  unfold G.topicOk at hg
  rw [List.any_eq_true] at hg
  obtain ⟨i, _, hx⟩ := hg
  simp only [Bool.and_eq_true] at hx
  obtain ⟨⟨h1, _⟩, h3⟩ := hx
  obtain ⟨st, c, hst, hc, e1, e2, hconf⟩ := (claimOk_iff h d i t).mp h3
  refine ⟨i, (trustedFor_iff h hr i t).mp h1, st, hst, c, ⟨?_, hc, e1, e2⟩, hconf⟩
  exact (ht st hst).2.2 i t (by rw [hc]; rfl)

theorem verifiesWith_iff {g : G} {W : World SymSig} (h : AgreeW g W) (d ra : Nat) :
    g.verifiesWith d ra = true ↔ ∃ r, W.regs ra = some r ∧ ∀ t ∈ r.topics, g.topicOk ra d t = true := by
  unfold G.verifiesWith
  simp only [Bool.and_eq_true, List.all_eq_true, List.mem_filter, beq_iff_eq]
  constructor
  · rintro ⟨hc, hall⟩
    have hsome := (h.reg.dom ra).mpr (List.contains_iff_mem.mp hc)
    cases hr : W.regs ra with
    | none => rw [hr] at hsome; cases hsome
    | some r =>
      refine ⟨r, rfl, fun t ht => ?_⟩
      exact hall (ra, t) ⟨(h.reg.req ra t).mpr ⟨r, hr, ht⟩, rfl⟩
  · rintro ⟨r, hr, hall⟩
    refine ⟨List.contains_iff_mem.mpr ((h.reg.dom ra).mp (by rw [hr]; rfl)), ?_⟩
    rintro ⟨x, t⟩ ⟨hm, hx⟩
    simp only at hx
    subst hx
    obtain ⟨r', hr', ht⟩ := (h.reg.req x t).mp hm
    cases hr.symm.trans hr'
    exact hall t ht

/-! ### the monitor's first sentence against the model's `verify_identity` -/

/-- the property's "only by valid claims" -/
theorem verifies_of_model {g : G} {W : World SymSig} (h : AgreeW g W) (a : Nat)
    (hok : verifyIdentity symVerify W a = .ok ()) : g.verifies a = true := by
  obtain ⟨hv, d, ra, r, hd, hc, hr, hall⟩ := verify_ok_imp symVerify W h.reg.inv a hok
  unfold G.verifies
  rw [h.virs, hv, h.irs a, hd, h.cti, hc]
  show g.verifiesWith d ra = true
  rw [verifiesWith_iff h]
  exact ⟨r, hr, fun t ht => topicOk_of_model h hr d t (hall t ht)⟩

/-- the topic index of a `loose` identity contract may hold an entry without a claim -/
theorem model_of_verifies {g : G} {W : World SymSig} (h : AgreeW g W) (a : Nat)
    (hg : g.verifies a = true) (hl : g.looseAcct a = false) : verifyIdentity symVerify W a = .ok () := by
  unfold G.verifies at hg
  rw [Bool.and_eq_true] at hg
  obtain ⟨hv, hm⟩ := hg
  unfold G.looseAcct at hl
  cases hd : assocGet g.ident a with
  | none => rw [hd] at hm; cases hm
  | some d =>
    rw [hd] at hm hl
    cases hc : g.cti with
    | none => rw [hc] at hm; cases hm
    | some ra =>
      rw [hc] at hm
      have hm' : g.verifiesWith d ra = true := hm
      obtain ⟨r, hr, hall⟩ := (verifiesWith_iff h d ra).mp hm'
      have hnl : d ∉ g.loose := fun c => by
        simp only [List.contains_iff_mem.mpr c] at hl
        cases hl
      have ht : ∀ st, W.ids d = some st → Tight st := fun st hst => h.ids.tight d st hst hnl
      apply verify_of_cond symVerify W h.reg.inv a (by rw [← h.virs]; exact hv)
        (by rw [← h.irs a]; exact hd) (by rw [← h.cti]; exact hc) hr (fun st hst => (ht st hst).1)
      intro t htt
      exact model_of_topicOk h hr d t ht (hall t htt)

/-! ### the initial states agree -/

theorem constOn_isSome {β : Type} (P : Nat → Prop) [DecidablePred P] (v : β) (x : Nat) :
    (if P x then some v else none).isSome = true ↔ P x := by
  split <;> simp [*]

theorem constOn_eq {β : Type} {P : Nat → Prop} [DecidablePred P] {v w : β} {x : Nat}
    (h : (if P x then some v else none) = some w) : w = v := by
  split at h
  · exact (Option.some.inj h).symm
  · cases h

theorem regAgree_fresh {regs : Nat → Option Reg} (hdom : ∀ r, (regs r).isSome = true ↔ r ∈ REGS)
    (he : ∀ r reg, regs r = some reg → reg = Reg.empty) : RegAgree [] [] regs := by
  refine ⟨hdom, fun r reg hr => he r reg hr ▸ OZ.Identity.inv_empty, fun r t => ⟨fun c => (by cases c), ?_⟩, fun r i => ?_⟩
  · rintro ⟨reg, hr, ht⟩; rw [he r reg hr] at ht; cases ht
  · cases hr : regs r with
    | none => rfl
    | some reg => rw [he r reg hr]; rfl

theorem idsAgree_fresh {ids : Nat → Option (IdStore SymSig)} (hdom : ∀ d, (ids d).isSome = true ↔ d ∈ IDS)
    (he : ∀ d st, ids d = some st → st = IdStore.empty) : IdsAgree [] [] ids := by
  refine ⟨hdom, fun d i t => ?_, fun d st hst _ => he d st hst ▸ tight_empty⟩
  cases hd : ids d with
  | none => rfl
  | some st => rw [he d st hd]; rfl

theorem issAgree_fresh {issuers : Nat → Option Issuer} (hdom : ∀ i, (issuers i).isSome = true ↔ i ∈ ISSUERS)
    (he : ∀ i s, issuers i = some s → s = Issuer.empty) : IssAgree [] [] [] issuers := by
  refine ⟨hdom, fun i s hs => he i s hs ▸ OZ.ClaimIssuer.inv_empty, fun i k sc t r => ⟨fun c => (by cases c), ?_⟩,
    fun i d t => ?_, fun i d t data => ?_⟩
  · rintro ⟨s, hs, ps, hp, _⟩; rw [he i s hs] at hp; cases hp
  · unfold nonceOf
    cases hi : issuers i with
    | none => rfl
    | some s => rw [he i s hi]; rfl
  · unfold revokedOf
    cases hi : issuers i with
    | none => rfl
    | some s => rw [he i s hi]; rfl

theorem agreeW_init : AgreeW G.init initWorld :=
  ⟨rfl, rfl, rfl, rfl,
    regAgree_fresh (fun r => (constOn_isSome (fun a => a = 0 ∨ a = 1) Reg.empty r).trans (by simp [REGS]))
      (fun _ _ => constOn_eq (P := fun a => a = 0 ∨ a = 1)),
    fun _ => rfl,
    idsAgree_fresh (fun d => (constOn_isSome (fun a => a = 8 ∨ a = 9) IdStore.empty d).trans (by simp [IDS]))
      (fun _ _ => constOn_eq (P := fun a => a = 8 ∨ a = 9)),
    issAgree_fresh
      (fun i => (constOn_isSome (fun a => a = 4 ∨ a = 5 ∨ a = 6) Issuer.empty i).trans (by simp [ISSUERS]))
      (fun _ _ => constOn_eq (P := fun a => a = 4 ∨ a = 5 ∨ a = 6))⟩

theorem isOk_iff {ε : Type} (x : Except ε Unit) : isOk x = true ↔ x = .ok () := by
  cases x with
  | ok u => cases u; simp [isOk]
  | error e => simp [isOk]

theorem verify_agrees {g : G} {W : World SymSig} (h : AgreeW g W) (a : Nat) :
    isOk (verifyIdentity symVerify W a) = g.verifies a ∨
      (isOk (verifyIdentity symVerify W a) = false ∧ g.looseAcct a = true) := by
  cases hv : isOk (verifyIdentity symVerify W a) with
  | true => exact .inl (verifies_of_model h a ((isOk_iff _).mp hv)).symm
  | false =>
    cases hg : g.verifies a with
    | false => exact .inl rfl
    | true =>
      cases hl : g.looseAcct a with
      | true => exact .inr ⟨rfl, rfl⟩
      | false => rw [(isOk_iff _).mpr (model_of_verifies h a hg hl)] at hv; cases hv

theorem verEntry_quiet {g1 : G} {W : World SymSig} (h : AgreeW g1 W) (a : Nat) :
    verBad false g1 (a, (if isOk (verifyIdentity symVerify W a) then 1 else 0), (if g1.verifies a then 1 else 0))
      = false := by
  unfold verBad
  rcases verify_agrees h a with e | ⟨e, hl⟩
  · simp [e]
  · simp [e, hl]

theorem verdictVerifyOp_quiet {g : G} {W : World SymSig} (h : AgreeW g W) (a : Nat) :
    verdictVerifyOp false g a (isOk (verifyIdentity symVerify W a)) = none := by
  unfold verdictVerifyOp
  rcases verify_agrees h a with e | ⟨e, hl⟩
  · simp [e]
  · simp [e, hl]

theorem verdict_none {strict : Bool} {g : G} {op : Op SymSig} {o : Obs} (h1 : verdictRollback g op o = none)
    (h2 : verdictLen o = none) (h3 : verdictValid (ghostAfter g op o.ok) op o.ok = none)
    (h4 : verdictVer strict (ghostAfter g op o.ok) o = none)
    (h5 : verdictKind strict g (ghostAfter g op o.ok) op o.ok = none) : verdict strict g op o = none := by
  unfold verdict; rw [h1, h2, h3, h4, h5]; rfl

theorem zip_maps (l : List Nat) (f e : Nat → Nat) :
    l.zip ((l.map f).zip (l.map e)) = l.map (fun a => (a, f a, e a)) := by
  induction l with
  | nil => rfl
  | cons x xs ih => simp only [List.map_cons, List.zip_cons_cons, ih]

theorem ghostAfter_verify (g : G) (a : Nat) (b : Bool) : ghostAfter g (.verify a) b = g := by
  cases b <;> rfl

theorem stepM_valid (m : M) (i d t scheme : Nat) (sd : SigData SymSig) (data : List Nat) :
    (stepM m (.valid i d t scheme sd data)).2 = issuerConfirms symVerify m.w i d t scheme sd data ∧
    (stepM m (.valid i d t scheme sd data)).1.w = m.w := by
  unfold stepM
  simp only [applyOp, unitOk]
  cases issuerConfirms symVerify m.w i d t scheme sd data <;> exact ⟨rfl, rfl⟩

theorem stepM_verify (m : M) (a : Nat) :
    (stepM m (.verify a)).2 = isOk (verifyIdentity symVerify m.w a) ∧ (stepM m (.verify a)).1.w = m.w := by
  unfold stepM
  simp only [applyOp]
  cases hv : verifyIdentity symVerify m.w a with
  | ok u => cases u; exact ⟨rfl, rfl⟩
  | error e => exact ⟨rfl, rfl⟩

end OZ.Identity.Mon
