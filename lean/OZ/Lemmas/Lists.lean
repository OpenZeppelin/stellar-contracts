/-! Facts about plain lists that the lemma modules of several subsystems need, in the form they need them.

A list of entries used as a finite map, the way the monitors' ghost states keep one: an entry is looked up by
`find?` with a test on its key, deleted by filtering its key out, written by deleting and adding. The tests are
spelt differently from monitor to monitor (`decide (key x = a)`, `key x == a`, `!(key x == k)`), so the lemmas take
them as arguments, with what they decide as hypotheses that `simp` discharges.

`foldl_keeps` is core's `List.foldlRecOn` with membership in the list as the kind of item the steps keep the property
for. A list related to another element by element through a partial map is written `l.map f = l'.map some`. A
duplicate-free list is its own `eraseDups`, which is how the monitors test for duplicates.

The monitors print a set of `Nat`s sorted: each model's `sortN` / `sortNat` is `mergeSort` by `≤`. The result is
ascending, so two lists sort to the same list iff one permutes the other (`mergeSort_le_eq_iff_perm`).

The entries of a partial map `f : Nat → Option β` over `0 .. N-1`, each sitting under its own key, listed in ascending
order: `(List.range N).filterMap f`; `KeyTab` is the namespace of the theorems about that expression, not a definition.
Looking a key up in the list, rewriting the entry under one key and deleting it are the same operations on `f`. The
monitors of the smart account's rule store keep such a list. -/

namespace OZ.Lists

/-- a test that only entries kept by the filter can pass does not see the filter -/
theorem find?_filter_of_imp {α : Type} (l : List α) {p q : α → Bool} (h : ∀ e, q e = true → p e = true) :
    (l.filter p).find? q = l.find? q := by
  rw [List.find?_filter]
  refine congrArg (List.find? · l) (funext fun e => ?_)
  cases hq : q e
  · exact decide_eq_false fun c => nomatch c.2
  · exact decide_eq_true ⟨h e hq, rfl⟩

section key
variable {α κ : Type} [DecidableEq κ] (key : α → κ) {p q : α → Bool}

/-- looking up `a` after the entries under `k` were dropped -/
theorem find?_filter_key (l : List α) (k a : κ) (hp : ∀ x, p x = true ↔ key x ≠ k) (hq : ∀ x, q x = true ↔ key x = a) :
    (l.filter p).find? q = if a = k then none else l.find? q := by
  by_cases h : a = k
  · rw [if_pos h]
    exact List.find?_eq_none.2 fun x hx c => (hp x).1 (List.mem_filter.1 hx).2 (((hq x).1 c).trans h)
  · rw [if_neg h]
    exact find?_filter_of_imp l fun x hx => (hp x).2 fun c => h (((hq x).1 hx).symm.trans c)

/-- looking up `a` after `v` was written at the end in place of the entries under its key -/
theorem find?_filter_key_append (l : List α) (v : α) (a : κ) (hp : ∀ x, p x = true ↔ key x ≠ key v)
    (hq : ∀ x, q x = true ↔ key x = a) :
    (l.filter p ++ [v]).find? q = if a = key v then some v else l.find? q := by
  rw [List.find?_append, find?_filter_key key l (key v) a hp hq]
  by_cases h : a = key v
  · rw [if_pos h, if_pos h, Option.none_or, List.find?_cons_of_pos ((hq v).2 h.symm)]
  · rw [if_neg h, if_neg h, List.find?_cons_of_neg (fun c => h ((hq v).1 c).symm)]
    exact Option.or_none

end key

theorem foldl_keeps {σ ι : Type} {f : σ → ι → σ} {P : σ → Prop} {Q : ι → Prop}
    (h : ∀ s x, P s → Q x → P (f s x)) :
    ∀ (xs : List ι) (s : σ), P s → (∀ x ∈ xs, Q x) → P (xs.foldl f s) :=
  fun xs _ hs hq => List.foldlRecOn xs f hs fun s hs x hx => h s x hs (hq x hx)

theorem foldl_inv {σ ι : Type} {f : σ → ι → σ} {P : σ → Prop} (h : ∀ s x, P s → P (f s x))
    (xs : List ι) (s : σ) (hs : P s) : P (xs.foldl f s) :=
  foldl_keeps (Q := fun _ => True) (fun s x hs _ => h s x hs) xs s hs fun _ _ => trivial

theorem filterMap_congr {α β : Type} {f g : α → Option β} : ∀ {l : List α}, (∀ x, x ∈ l → f x = g x) →
    l.filterMap f = l.filterMap g
  | [], _ => rfl
  | a :: t, h => by
    rw [List.filterMap_cons, List.filterMap_cons, h a (List.mem_cons_self ..),
      filterMap_congr fun x hx => h x (List.mem_cons_of_mem _ hx)]

theorem filterMap_range_get {α : Type} {f : Nat → Option α} {l : List α} (h : ∀ j, j < l.length → f j = l[j]?) :
    (List.range l.length).filterMap f = l := by
  induction l generalizing f with
  | nil => rfl
  | cons a t ih =>
    rw [List.length_cons, List.range_succ_eq_map, List.filterMap_cons_some (h 0 (by simp)), List.filterMap_map]
    exact congrArg _ (ih (fun j hj => by simpa using h (j + 1) (by simpa using hj)))

theorem map_some_get {α β : Type} {f : α → Option β} {l : List α} {l' : List β} (h : l.map f = l'.map some)
    (j : Nat) : (l[j]?).bind f = l'[j]? := by
  have := congrArg (·[j]?) h
  simp only [List.getElem?_map] at this
  cases hl : l[j]? <;> cases hl' : l'[j]? <;> simp_all

theorem map_some_length {α β : Type} {f : α → Option β} {l : List α} {l' : List β} (h : l.map f = l'.map some) :
    l.length = l'.length := by
  simpa using congrArg List.length h

theorem map_some_filterMap {α} (l : List (Option α)) (h : ∀ x, x ∈ l → ∃ a, x = some a) :
    (l.filterMap id).map some = l := by
  induction l with
  | nil => rfl
  | cons x xs ih =>
    obtain ⟨a, ha⟩ := h x (List.mem_cons_self ..)
    subst ha
    simp only [List.filterMap_cons, id, List.map_cons]
    rw [ih (fun y hy => h y (List.mem_cons_of_mem _ hy))]

theorem filter_all_false {α} (p : α → Bool) (l : List α) (h : ∀ x ∈ l, p x = false) : l.filter p = [] :=
  List.filter_eq_nil_iff.mpr (fun x hx => by rw [h x hx]; exact Bool.false_ne_true)

theorem all_set {α : Type} {p : α → Bool} {l : List α} (h : l.all p = true) (i : Nat) (c : α) (hc : p c = true) :
    (l.set i c).all p = true := by
  rw [List.all_eq_true] at h ⊢
  intro x hx
  rcases List.mem_or_eq_of_mem_set hx with h' | h'
  · exact h x h'
  · rw [h']; exact hc

theorem all_eraseIdx {α : Type} {p : α → Bool} {l : List α} (h : l.all p = true) (i : Nat) :
    (l.eraseIdx i).all p = true := by
  rw [List.all_eq_true] at h ⊢
  intro x hx
  exact h x ((List.eraseIdx_sublist l i).subset hx)

theorem any_beq_iff_mem {α : Type} [BEq α] [LawfulBEq α] (l : List α) (a : α) : l.any (· == a) = true ↔ a ∈ l := by
  rw [List.any_eq_true]
  exact ⟨fun ⟨x, hx, he⟩ => (beq_iff_eq.1 he) ▸ hx, fun h => ⟨a, h, beq_self_eq_true a⟩⟩

theorem zip_map_any {α β} (l : List α) (f : α → β) (P : α × β → Bool) :
    (l.zip (l.map f)).any P = l.any (fun t => P (t, f t)) := by
  induction l with
  | nil => rfl
  | cons x xs ih => simp [ih]

theorem nodup_bounded_length {l : List Nat} {a n : Nat} (hn : l.Nodup)
    (h : ∀ x ∈ l, a ≤ x ∧ x < a + n) : l.length ≤ n := by
  have := hn.length_le_of_subset (fun x hx => List.mem_range'_1.mpr (h x hx))
  rwa [List.length_range'] at this

theorem getD_replicate_same {α} (n : Nat) (x : α) (a : Nat) : (List.replicate n x).getD a x = x := by
  simp [List.getD_eq_getElem?_getD, List.getElem?_replicate]
  split <;> rfl

theorem filter_ne_of_not_mem {α : Type} [BEq α] [LawfulBEq α] {l : List α} {a : α} (h : a ∉ l) :
    l.filter (fun b => !b == a) = l := by
  rw [List.filter_eq_self]
  intro b hb
  have : b ≠ a := fun e => h (e ▸ hb)
  simpa using this

theorem eraseDups_of_nodup {α : Type} [BEq α] [LawfulBEq α] : ∀ {l : List α}, l.Nodup → l.eraseDups = l
  | [], _ => rfl
  | a :: as, h => by
    rw [List.nodup_cons] at h
    rw [List.eraseDups_cons, filter_ne_of_not_mem h.1, eraseDups_of_nodup h.2]

theorem nodup_eraseDups {α : Type} [BEq α] [LawfulBEq α] : ∀ l : List α, l.eraseDups.Nodup
  | [] => by rw [List.eraseDups_nil]; exact List.nodup_nil
  | a :: as => by
    rw [List.eraseDups_cons, List.nodup_cons]
    exact ⟨fun h => by simpa using (List.mem_filter.1 (List.mem_eraseDups.1 h)).2, nodup_eraseDups _⟩
termination_by l => l.length
decreasing_by exact Nat.lt_succ_of_le (List.length_filter_le _ _)

theorem mergeSort_eq_nil {α : Type} {le : α → α → Bool} {l : List α} : l.mergeSort le = [] ↔ l = [] :=
  ⟨fun h => List.nil_perm.1 (h ▸ List.mergeSort_perm l le), fun h => h ▸ List.mergeSort_nil⟩

theorem pairwise_mergeSort_le (l : List Nat) : (l.mergeSort (fun a b => decide (a ≤ b))).Pairwise (· ≤ ·) :=
  (List.pairwise_mergeSort (le := fun a b : Nat => decide (a ≤ b))
    (fun _ _ _ h1 h2 => decide_eq_true (Nat.le_trans (of_decide_eq_true h1) (of_decide_eq_true h2)))
    (fun a b => by simp only [Bool.or_eq_true, decide_eq_true_eq]; exact Nat.le_total a b) l).imp of_decide_eq_true

theorem mergeSort_le_eq_iff_perm {a b : List Nat} :
    a.mergeSort (fun a b => decide (a ≤ b)) = b.mergeSort (fun a b => decide (a ≤ b)) ↔ a.Perm b :=
  ⟨fun h => (List.mergeSort_perm a _).symm.trans (h ▸ List.mergeSort_perm b _),
   fun h => List.Perm.eq_of_pairwise (fun _ _ _ _ => Nat.le_antisymm) (pairwise_mergeSort_le a) (pairwise_mergeSort_le b)
     (((List.mergeSort_perm a _).trans h).trans (List.mergeSort_perm b _).symm)⟩

theorem eq_of_lt_of_mem {l₁ l₂ : List Nat} (h₁ : l₁.Pairwise (· < ·)) (h₂ : l₂.Pairwise (· < ·))
    (h : ∀ a, a ∈ l₁ ↔ a ∈ l₂) : l₁ = l₂ :=
  List.Perm.eq_of_pairwise (le := (· ≤ ·)) (fun _ _ _ _ a b => Nat.le_antisymm a b)
    (h₁.imp Nat.le_of_lt) (h₂.imp Nat.le_of_lt)
    ((List.perm_ext_iff_of_nodup (h₁.imp Nat.ne_of_lt) (h₂.imp Nat.ne_of_lt)).mpr h)

/-- a table listed key by key and searched by a test that recognises the entry of the one key `k0` -/
theorem find?_filterMap_key {κ β : Type} [DecidableEq κ] (f : κ → Option β) (P : β → Bool) (k0 : κ)
    (hP : ∀ k v, f k = some v → P v = decide (k = k0)) :
    ∀ ks : List κ, (ks.filterMap f).find? P = if k0 ∈ ks then f k0 else none
  | [] => rfl
  | k :: ks => by
    rw [List.filterMap_cons]
    cases hf : f k with
    | none =>
      dsimp only
      rw [find?_filterMap_key f P k0 hP ks]
      by_cases hk : k = k0
      · subst hk; rw [if_pos List.mem_cons_self, hf]; split <;> rfl
      · simp only [List.mem_cons, Ne.symm hk, false_or]
    | some v =>
      dsimp only
      rw [List.find?_cons, hP k v hf]
      by_cases hk : k = k0
      · subst hk; rw [decide_eq_true rfl, if_pos List.mem_cons_self, hf]
      · rw [decide_eq_false hk, find?_filterMap_key f P k0 hP ks]; simp only [List.mem_cons, Ne.symm hk, false_or]

namespace KeyTab

variable {β : Type} {key : β → Nat} {f : Nat → Option β}

theorem sorted (hf : ∀ i x, f i = some x → key x = i) (N : Nat) :
    ((List.range N).filterMap f).Pairwise (fun a b => key a < key b) :=
  List.Pairwise.filterMap (R := (· < ·)) _ (fun a a' h b hb b' hb' => by rw [hf a b hb, hf a' b' hb']; exact h)
    List.pairwise_lt_range

theorem find (hf : ∀ i x, f i = some x → key x = i) (id N : Nat) :
    ((List.range N).filterMap f).find? (fun r => key r == id) = if id < N then f id else none := by
  rw [find?_filterMap_key f _ id fun i x h => by rw [hf i x h]; rfl]
  simp only [List.mem_range]

theorem modify (hf : ∀ i x, f i = some x → key x = i) (id : Nat) (u : β → β) (N : Nat) :
    ((List.range N).filterMap f).map (fun x => if key x == id then u x else x) =
      (List.range N).filterMap (fun i => if i = id then (f id).map u else f i) := by
  rw [List.map_filterMap]
  refine filterMap_congr (fun i _ => ?_)
  by_cases e : i = id
  · subst e; rw [if_pos rfl]
    cases hi : f i with
    | none => rfl
    | some x => simp [hf i x hi]
  · rw [if_neg e]
    cases hi : f i with
    | none => rfl
    | some x => simp [hf i x hi, e]

theorem erase (hf : ∀ i x, f i = some x → key x = i) (id : Nat) {p : β → Bool} (hp : ∀ x, p x = true ↔ key x ≠ id)
    (N : Nat) :
    ((List.range N).filterMap f).filter p = (List.range N).filterMap (fun i => if i = id then none else f i) := by
  rw [List.filter_filterMap]
  refine filterMap_congr (fun i _ => ?_)
  cases hi : f i with
  | none => by_cases e : i = id <;> simp [e]
  | some x =>
    have hx : p x = true ↔ i ≠ id := by rw [hp, hf i x hi]
    by_cases e : i = id
    · rw [if_pos e]; simp [Option.filter, (by simpa [e] using hx : p x = false)]
    · rw [if_neg e]; simp [Option.filter, hx.2 e]

end KeyTab

end OZ.Lists
