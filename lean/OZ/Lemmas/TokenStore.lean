import OZ.Lemmas.FungibleGen
import OZ.Lemmas.Host
import OZ.Lemmas.Comp
import OZ.Lemmas.Sim
/-
The translator prints the fungible token's storage functions once per store record (OZ/Gen/Fungible, FungibleF,
FungibleT, VaultSt; `update` also in OZ/Gen/Rwa): the same text over a record of another name. Here that text stands
ONCE, over an interface (`TokOps`, `AllowOps`), so that each generated function IS the function here at its store, up
to unfolding; the model's `update`, `setAllowance`, `spendAllowance` are refined from the laws of a representation
relation `A` and a range predicate `R` alone (`TokRef`, `AllowRef`, `AllowRange`).

`R`, and `Rv` (what `R` asks of an amount written), are parameters and not the i128 range itself because the stores'
statements differ in what they claim: OZ/Props/C02GenT's `set_allowance_eq` claims no range at all where its
`spend_allowance_eq` and OZ/Props/C01GenRef need one, and OZ/Props/C01Gen puts "the allowances are those of a given
store" into `A`.
-/
namespace OZ.Gen
open OZ.Rs OZ.Host

structure TokOps (σ : Type) where
  bal : σ → Nat → Option Int
  sup : σ → Option Int
  setBal : σ → Nat → Int → σ
  setSup : σ → Int → σ

variable {σ : Type}

def TokOps.balance (B : TokOps σ) (st : σ) (a : Nat) : Comp Int :=
  optCase (B.bal st a) (fun b => Comp.ok b) (Comp.ok 0)

def TokOps.total_supply (B : TokOps σ) (st : σ) : Comp Int := Comp.ok ((B.sup st).getD 0)

def TokOps.credit (B : TokOps σ) (st : σ) (to : Option Nat) (amount : Int) : Comp (Unit × σ) :=
  optCase to
    (fun b => Comp.bind (B.balance st b) fun t => Comp.bind (i128_add t amount) fun t' =>
      Comp.ok ((), B.setBal st b t'))
    (Comp.bind (B.total_supply st) fun t => Comp.bind (i128_sub t amount) fun t' =>
      Comp.ok ((), B.setSup st t'))

def TokOps.update (B : TokOps σ) (st : σ) (frm to : Option Nat) (amount : Int) : Comp (Unit × σ) :=
  if amount < 0 then Comp.panic
  else optCase frm
    (fun a => Comp.bind (B.balance st a) fun t =>
      if t < amount then Comp.panic
      else Comp.bind (i128_sub t amount) fun t' => B.credit (B.setBal st a t') to amount)
    (Comp.bind (B.total_supply st) fun t =>
      optCase (i128_checked_add t amount) (fun n => B.credit (B.setSup st n) to amount) Comp.panic)

theorem TokOps.balance_eq (B : TokOps σ) (st : σ) (a : Nat) : B.balance st a = .ok ((B.bal st a).getD 0) := by
  unfold TokOps.balance
  cases B.bal st a <;> rfl

theorem TokOps.update_keeps (B : TokOps σ) (P : σ → Prop) (hb : ∀ st a v, P st → P (B.setBal st a v))
    (hs : ∀ st v, P st → P (B.setSup st v)) {st st' : σ} {frm to : Option Nat} {amount : Int}
    (h : B.update st frm to amount = .ok ((), st')) (hp : P st) : P st' := by
  have credit : ∀ {st1}, P st1 → B.credit st1 to amount = .ok ((), st') → P st' := by
    intro st1 h1 hc
    unfold TokOps.credit at hc
    cases to with
    | some b =>
      rw [optCase_some] at hc
      obtain ⟨_, _, hc⟩ := Comp.bind_eq_ok hc
      obtain ⟨v, _, hc⟩ := Comp.bind_eq_ok hc
      cases hc; exact hb _ _ _ h1
    | none =>
      rw [optCase_none, TokOps.total_supply, Comp.bind_ok] at hc
      obtain ⟨v, _, hc⟩ := Comp.bind_eq_ok hc
      cases hc; exact hs _ _ h1
  unfold TokOps.update at h
  obtain ⟨_, h⟩ := Comp.guard_eq_ok h
  cases frm with
  | some a =>
    rw [optCase_some] at h
    obtain ⟨_, _, h⟩ := Comp.bind_eq_ok h
    obtain ⟨_, h⟩ := Comp.guard_eq_ok h
    obtain ⟨_, _, h⟩ := Comp.bind_eq_ok h
    exact credit (hb _ _ _ hp) h
  | none =>
    rw [optCase_none, TokOps.total_supply, Comp.bind_ok] at h
    obtain ⟨_, _, h⟩ := optCase_panic_eq_ok h
    exact credit (hs _ _ hp) h

abbrev RefG {ε τ : Type} (A : σ → τ → Prop) (R : σ → Prop) (m : Except ε τ) (g : Comp (Unit × σ)) : Prop :=
  Sim (onStore fun st s => A st s ∧ R st) g m

theorem RefG.weak {ε τ : Type} {A : σ → τ → Prop} {R : σ → Prop} {m : Except ε τ} {g : Comp (Unit × σ)}
    (h : RefG A R m g) {e : ε} (hm : m = .error e) : (g.bind fun _ => Comp.ok ()) = .panic := by
  rw [h.of_error hm]; rfl

structure TokAbs (B : TokOps σ) (A : σ → OZ.Fungible.State → Prop) : Prop where
  bal : ∀ {st s}, A st s → ∀ a, s.bal a = (B.bal st a).getD 0
  sup : ∀ {st s}, A st s → s.supply = (B.sup st).getD 0
  setBal : ∀ {st s}, A st s → ∀ a v, A (B.setBal st a v) { s with bal := upd s.bal a v }
  setSup : ∀ {st s}, A st s → ∀ v, A (B.setSup st v) { s with supply := v }

structure TokRef (B : TokOps σ) (A : σ → OZ.Fungible.State → Prop) (R : σ → Prop) : Prop extends TokAbs B A where
  balR : ∀ {st}, R st → ∀ a, OZ.MulDiv.in128 ((B.bal st a).getD 0)
  rSetBal : ∀ {st}, R st → ∀ a v, OZ.MulDiv.in128 v → R (B.setBal st a v)
  rSetSup : ∀ {st}, R st → ∀ v, OZ.MulDiv.in128 v → R (B.setSup st v)

variable {B : TokOps σ} {A : σ → OZ.Fungible.State → Prop} {R : σ → Prop}

/-- no range needed: the code checks more than the model, never less -/
theorem TokAbs.update_ok (H : TokAbs B A) {st st' : σ} {s : OZ.Fungible.State} (hA : A st s)
    {frm to : Option Nat} {amount : Int} (h : B.update st frm to amount = .ok ((), st')) :
    ∃ s', OZ.Fungible.update s frm to amount = .ok s' ∧ A st' s' := by
  have credit : ∀ {st1 s1}, A st1 s1 → B.credit st1 to amount = .ok ((), st') →
      ∃ s', OZ.Fungible.credit s1 to amount = .ok s' ∧ A st' s' := by
    intro st1 s1 h1 hc
    unfold TokOps.credit at hc
    cases to with
    | some b =>
      rw [optCase_some, TokOps.balance_eq, Comp.bind_ok, ← H.bal h1 b] at hc
      obtain ⟨v, hv, hc⟩ := Comp.bind_eq_ok hc
      obtain ⟨hin, rfl⟩ := i128_add_ok_iff.mp hv
      cases hc
      exact ⟨_, if_pos hin, H.setBal h1 b _⟩
    | none =>
      rw [optCase_none, TokOps.total_supply, Comp.bind_ok, ← H.sup h1] at hc
      obtain ⟨v, hv, hc⟩ := Comp.bind_eq_ok hc
      obtain ⟨hin, rfl⟩ := i128_sub_ok_iff.mp hv
      cases hc
      exact ⟨_, if_pos hin, H.setSup h1 _⟩
  unfold TokOps.update at h
  obtain ⟨hneg, h⟩ := Comp.guard_eq_ok h
  unfold OZ.Fungible.update
  rw [if_neg hneg]
  cases frm with
  | some a =>
    rw [optCase_some, TokOps.balance_eq, Comp.bind_ok, ← H.bal hA a] at h
    obtain ⟨hlt, h⟩ := Comp.guard_eq_ok h
    obtain ⟨v, hv, h⟩ := Comp.bind_eq_ok h
    obtain ⟨_, rfl⟩ := i128_sub_ok_iff.mp hv
    simp only [OZ.Fungible.debit, if_neg hlt]
    exact credit (H.setBal hA a _) h
  | none =>
    rw [optCase_none, TokOps.total_supply, Comp.bind_ok, ← H.sup hA] at h
    obtain ⟨n, hn, h⟩ := optCase_panic_eq_ok h
    unfold i128_checked_add OZ.MulDiv.chk128 at hn
    split at hn
    · next hin =>
      cases hn
      simp only [OZ.Fungible.debit, if_pos (show OZ.Host.in128 _ from hin)]
      exact credit (H.setSup hA _) h
    · cases hn

theorem TokRef.credit (H : TokRef B A R) {st : σ} {s : OZ.Fungible.State} (hA : A st s) (hR : R st)
    (to : Option Nat) (amount : Int) : RefG A R (OZ.Fungible.credit s to amount) (B.credit st to amount) := by
  cases to with
  | some b =>
    simp only [TokOps.credit, optCase_some, TokOps.balance_eq, Comp.bind_ok, OZ.Fungible.credit, ← H.bal hA b]
    by_cases hin : OZ.MulDiv.in128 (s.bal b + amount)
    · rw [i128_add_ok hin, if_pos (show OZ.Host.in128 _ from hin)]
      exact ⟨_, rfl, H.setBal hA b _, H.rSetBal hR b _ hin⟩
    · rw [i128_add_panic hin, if_neg (show ¬ OZ.Host.in128 _ from hin)]; rfl
  | none =>
    simp only [TokOps.credit, optCase_none, TokOps.total_supply, Comp.bind_ok, OZ.Fungible.credit, ← H.sup hA]
    by_cases hin : OZ.MulDiv.in128 (s.supply - amount)
    · rw [i128_sub_ok hin, if_pos (show OZ.Host.in128 _ from hin)]
      exact ⟨_, rfl, H.setSup hA _, H.rSetSup hR _ hin⟩
    · rw [i128_sub_panic hin, if_neg (show ¬ OZ.Host.in128 _ from hin)]; rfl

theorem TokRef.update (H : TokRef B A R) {st : σ} {s : OZ.Fungible.State} (hA : A st s) (hR : R st)
    (frm to : Option Nat) (amount : Int) :
    RefG A R (OZ.Fungible.update s frm to amount) (B.update st frm to amount) := by
  unfold TokOps.update OZ.Fungible.update
  refine Sim.refuse _ Iff.rfl fun _ => ?_
  cases frm with
  | some a =>
    simp only [optCase_some, OZ.Fungible.debit, TokOps.balance_eq, Comp.bind_ok, ← H.bal hA a]
    by_cases hlt : s.bal a < amount
    · rw [if_pos hlt, if_pos hlt]; rfl
    · rw [if_neg hlt, if_neg hlt]
      -- a stored i128 lowered by at most itself is an i128: the checked subtraction cannot refuse
      have hb := H.balR hR a
      rw [← H.bal hA a] at hb
      have hin : OZ.MulDiv.in128 (s.bal a - amount) := by
        unfold OZ.MulDiv.in128 OZ.MulDiv.I128_MIN OZ.MulDiv.I128_MAX at hb ⊢; omega
      rw [i128_sub_ok hin]
      exact H.credit (H.setBal hA a _) (H.rSetBal hR a _ hin) to amount
  | none =>
    simp only [optCase_none, OZ.Fungible.debit, TokOps.total_supply, Comp.bind_ok, ← H.sup hA]
    unfold i128_checked_add OZ.MulDiv.chk128
    by_cases hin : OZ.MulDiv.in128 (s.supply + amount)
    · rw [if_pos hin, if_pos (show OZ.Host.in128 _ from hin)]
      exact H.credit (H.setSup hA _) (H.rSetSup hR _ hin) to amount
    · rw [if_neg hin, if_neg (show ¬ OZ.Host.in128 _ from hin)]; rfl

/-! ### the allowance functions (temporary entries of a record type `δ`) -/

structure AllowOps (σ δ : Type) where
  now : Nat
  cfg : Cfg
  get : σ → Nat → Nat → Option (Temp δ)
  set : σ → Nat → Nat → Temp δ → σ
  mkData : Int → Nat → δ
  amount : δ → Int
  lu : δ → Nat

variable {δ : Type}

def AllowOps.conv (O : AllowOps σ δ) (d : δ) : OZ.Fungible.AllowanceData := ⟨O.amount d, O.lu d⟩

def AllowOps.allowance_data (O : AllowOps σ δ) (st : σ) (o sp : Nat) : Comp δ :=
  Comp.ok (if O.lu (Option.getD (Temp.get? (O.get st o sp) O.now) (O.mkData 0 0)) < O.now then O.mkData 0 0
    else Option.getD (Temp.get? (O.get st o sp) O.now) (O.mkData 0 0))

def AllowOps.set_allowance (O : AllowOps σ δ) (st : σ) (o sp : Nat) (amount : Int) (lu : Nat) : Comp (Unit × σ) :=
  if amount < 0 then Comp.panic
  else if lu > O.cfg.maxLiveUntil O.now ∨ (amount > 0 ∧ lu < O.now) then Comp.panic
  else if amount > 0 then
    Comp.bind (uN_sub 32 lu O.now) fun t1 =>
      tempExtend O.cfg (O.get (O.set st o sp (Temp.set O.cfg (O.get st o sp) O.now (O.mkData amount lu))) o sp)
        O.now t1 t1 fun e2 =>
      Comp.ok ((), O.set (O.set st o sp (Temp.set O.cfg (O.get st o sp) O.now (O.mkData amount lu))) o sp e2)
  else Comp.ok ((), O.set st o sp (Temp.set O.cfg (O.get st o sp) O.now (O.mkData amount lu)))

def AllowOps.spend_allowance (O : AllowOps σ δ) (st : σ) (o sp : Nat) (amount : Int) : Comp (Unit × σ) :=
  if amount < 0 then Comp.panic
  else Comp.bind (O.allowance_data st o sp) fun t1 =>
    if O.amount t1 < amount then Comp.panic
    else if amount > 0 then
      Comp.bind (i128_sub (O.amount t1) amount) fun t2 =>
        Comp.bind (O.set_allowance st o sp t2 (O.lu t1)) fun t3 => Comp.ok ((), t3.2)
    else Comp.ok ((), st)

structure AllowRef (O : AllowOps σ δ) (A : σ → OZ.Fungible.State → Prop) : Prop where
  now : ∀ {st s}, A st s → s.now = O.now
  allow : ∀ {st s}, A st s → ∀ o sp, s.allow o sp = (O.get st o sp).map (mapT O.conv)
  set : ∀ {st s}, A st s → ∀ o sp e, A (O.set st o sp e) { s with allow := upd2 s.allow o sp (some (mapT O.conv e)) }
  get_set : ∀ st o sp e, O.get (O.set st o sp e) o sp = some e
  conv_mkData : ∀ a l, O.conv (O.mkData a l) = ⟨a, l⟩

structure AllowRange (O : AllowOps σ δ) (R : σ → Prop) (Rv : Int → Prop) : Prop where
  set : ∀ {st}, R st → ∀ o sp e, Rv (O.amount e.val) → R (O.set st o sp e)
  get : ∀ {st}, R st → ∀ o sp e, O.get st o sp = some e → OZ.MulDiv.in128 (O.amount e.val)
  rv : ∀ v, OZ.MulDiv.in128 v → Rv v

variable {O : AllowOps σ δ} {Rv : Int → Prop}

theorem AllowRef.allowance_data (H : AllowRef O A) {st : σ} {s : OZ.Fungible.State} (hA : A st s) (o sp : Nat) :
    ∃ d, O.allowance_data st o sp = .ok d ∧ O.conv d = OZ.Fungible.allowanceData s o sp := by
  refine ⟨_, rfl, ?_⟩
  unfold OZ.Fungible.allowanceData
  rw [H.allow hA o sp, H.now hA, get?_mapT]
  have h0 := H.conv_mkData 0 0
  cases Temp.get? (O.get st o sp) O.now with
  | none =>
    simp only [Option.map_none, Option.getD_none]
    rw [apply_ite O.conv, h0]
    show (if (O.conv (O.mkData 0 0)).liveUntilLedger < O.now then _ else _) = _
    rw [h0]
  | some d =>
    simp only [Option.map_some, Option.getD_some]
    rw [apply_ite O.conv, h0]
    rfl

theorem AllowRef.allowance_data_range (H : AllowRef O A) (HR : AllowRange O R Rv) {st : σ} (hR : R st) (o sp : Nat) {d : δ}
    (hd : O.allowance_data st o sp = .ok d) : OZ.MulDiv.in128 (O.amount d) ∨ O.conv d = ⟨0, 0⟩ := by
  injection hd with hd
  subst hd
  split
  · exact .inr (H.conv_mkData 0 0)
  · cases hg : O.get st o sp with
    | none => exact .inr (H.conv_mkData 0 0)
    | some e =>
      simp only [Temp.get?]
      split
      · exact .inl (HR.get hR o sp e hg)
      · exact .inr (H.conv_mkData 0 0)

theorem AllowRef.set_allowance (H : AllowRef O A)
    (hrs : ∀ {st}, R st → ∀ o sp e, Rv (O.amount e.val) → R (O.set st o sp e))
    {st : σ} {s : OZ.Fungible.State} (hA : A st s) (hR : R st)
    (hmin : 1 ≤ O.cfg.minTempTtl) (o sp : Nat) (amount : Int) (lu : Nat) (hamt : Rv amount) :
    RefG A R (OZ.Fungible.setAllowance O.cfg s o sp amount lu) (O.set_allowance st o sp amount lu) := by
  unfold AllowOps.set_allowance OZ.Fungible.setAllowance
  rw [← H.now hA]
  refine Sim.refuse _ Iff.rfl fun _ => Sim.refuse _ Iff.rfl fun hb => ?_
  -- the entry the model writes is the translation of the entry the code writes
  have hset : Temp.set O.cfg (s.allow o sp) s.now ⟨amount, lu⟩ =
      mapT O.conv (Temp.set O.cfg (O.get st o sp) s.now (O.mkData amount lu)) := by
    rw [H.allow hA o sp, ← H.conv_mkData amount lu]; exact set_mapT O.conv O.cfg _ _ _
  have hsv : O.amount (Temp.set O.cfg (O.get st o sp) s.now (O.mkData amount lu)).val = amount := by
    rw [Temp.set_val]; exact congrArg (·.amount) (H.conv_mkData amount lu)
  simp only []
  rw [hset]
  have hA1 := H.set hA o sp (Temp.set O.cfg (O.get st o sp) s.now (O.mkData amount lu))
  have hR1 := hrs hR o sp (Temp.set O.cfg (O.get st o sp) s.now (O.mkData amount lu)) (by rw [hsv]; exact hamt)
  refine Sim.ite Iff.rfl (fun hp => ?_) fun _ => Sim.pure ⟨hA1, hR1⟩
  rw [H.get_set, extend_after_set O.cfg hmin _ (by omega), extend_mapT]
  cases hx : Temp.extend O.cfg (Temp.set O.cfg (O.get st o sp) s.now (O.mkData amount lu)) s.now
      (lu - s.now) (lu - s.now) with
  | none => rfl
  | some e' =>
    have hev : O.amount e'.val = amount := by rw [(Temp.extend_some hx).1, hsv]
    have h2 := H.set hA1 o sp e'
    simp only [upd2_upd2] at h2
    exact ⟨_, rfl, h2, hrs hR1 o sp e' (by rw [hev]; exact hamt)⟩

theorem AllowRef.spend_allowance (H : AllowRef O A) (HR : AllowRange O R Rv) {st : σ} {s : OZ.Fungible.State} (hA : A st s) (hR : R st)
    (hmin : 1 ≤ O.cfg.minTempTtl) (o sp : Nat) (amount : Int) :
    RefG A R (OZ.Fungible.spendAllowance O.cfg s o sp amount) (O.spend_allowance st o sp amount) := by
  obtain ⟨d, hd, hconv⟩ := H.allowance_data hA o sp
  unfold AllowOps.spend_allowance OZ.Fungible.spendAllowance
  refine Sim.refuse _ Iff.rfl fun _ => ?_
  rw [hd, Comp.bind_ok]
  simp only []
  rw [← hconv]
  refine Sim.refuse _ Iff.rfl fun hlt => Sim.ite Iff.rfl (fun hp => ?_) fun _ => Sim.pure ⟨hA, hR⟩
  -- what is read is a stored i128 or 0, and at least `amount > 0`: the difference is an i128
  have hin : OZ.MulDiv.in128 (O.amount d - amount) := by
    rcases H.allowance_data_range HR hR o sp hd with hdr | hz
    · unfold OZ.MulDiv.in128 OZ.MulDiv.I128_MIN OZ.MulDiv.I128_MAX at hdr ⊢; omega
    · have : O.amount d = 0 := congrArg (·.amount) hz
      omega
  rw [i128_sub_ok hin, Comp.bind_ok]
  exact (H.set_allowance HR.set hA hR hmin o sp (O.amount d - amount) (O.lu d) (HR.rv _ hin)).tail

/-- `require_auth` as the translator renders it -/
theorem tok_auth_iff {authorized : Nat → Bool} {auth : List Nat} (hauth : ∀ a, authorized a = decide (a ∈ auth)) (a : Nat) :
    authorized a = true ↔ OZ.Fungible.requireAuth auth a = .ok () := by
  rw [hauth]; unfold OZ.Fungible.requireAuth; by_cases h : a ∈ auth <;> simp [h]

theorem forall_some_set {κ α : Type} [DecidableEq κ] {f : κ → Option α} {P : κ → α → Prop}
    (h : ∀ k v, f k = some v → P k v) (a : κ) (v : α) (hv : P a v) :
    ∀ k w, (if k = a then some v else f k) = some w → P k w := by
  intro k w hw
  by_cases hk : k = a
  · rw [if_pos hk] at hw; cases hw; exact hk ▸ hv
  · rw [if_neg hk] at hw; exact h k w hw

end OZ.Gen
