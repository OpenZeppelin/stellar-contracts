import OZ.Lemmas.Nft
/-
For C11, over the shared `Core`: how the getters read a stored entry, and the vocabulary of the property.
-/
namespace OZ.Nft
open OZ.Host

theorem checkSpender_ok {c : Core} {sp o id : Nat} {u : Unit}
    (h : checkSpenderApproval c sp o id = .ok u) :
    sp = o ∨ getApproved c id = some sp ∨ isApprovedForAll c o sp = true := by
  unfold checkSpenderApproval at h
  split at h
  · cases h
  · rename_i hn
    apply Classical.byContradiction
    intro hc
    apply hn
    refine ⟨fun e => hc (Or.inl e), fun e => hc (Or.inr (Or.inl e)), ?_⟩
    cases hb : isApprovedForAll c o sp
    · rfl
    · exact absurd (Or.inr (Or.inr hb)) hc

theorem getApproved_none_of_entry_none {c : Core} {id : Nat} (h : c.approval id = none) :
    getApproved c id = none := by
  unfold getApproved; rw [h]; rfl

theorem getApproved_of_entry {c : Core} {id : Nat} {e : Temp ApprovalData} (he : c.approval id = some e) :
    getApproved c id =
      if c.now ≤ e.liveUntil ∧ c.now ≤ e.val.liveUntilLedger then some e.val.approved else none := by
  unfold getApproved; rw [he, Temp.get?_some_eq]
  by_cases hl : c.now ≤ e.liveUntil
  · rw [if_pos hl]
    show approvedOf c.now e.val = _
    unfold approvedOf
    by_cases hx : e.val.liveUntilLedger < c.now
    · rw [if_pos hx, if_neg (fun h => Nat.not_le_of_lt hx h.2)]
    · rw [if_neg hx, if_pos ⟨hl, Nat.not_lt.mp hx⟩]
  · rw [if_neg hl, if_neg (fun h => hl h.1)]; rfl

theorem getApproved_some {c : Core} {id a : Nat} (h : getApproved c id = some a) :
    ∃ e, c.approval id = some e ∧ e.val.approved = a ∧ c.now ≤ e.val.liveUntilLedger ∧ c.now ≤ e.liveUntil := by
  cases he : c.approval id with
  | none => rw [getApproved_none_of_entry_none he] at h; cases h
  | some e =>
    rw [getApproved_of_entry he] at h
    split at h
    · rename_i hc; injection h with h; exact ⟨e, rfl, h, hc.2, hc.1⟩
    · cases h

theorem getApproved_expired {c : Core} {id : Nat} {e : Temp ApprovalData}
    (he : c.approval id = some e) (hx : e.val.liveUntilLedger < c.now) : getApproved c id = none := by
  rw [getApproved_of_entry he, if_neg (fun h => Nat.not_le_of_lt hx h.2)]

/-- `hl` is what `approve` guarantees -/
theorem getApproved_entry {c : Core} {id : Nat} {e : Temp ApprovalData} (he : c.approval id = some e)
    (hl : e.val.liveUntilLedger ≤ e.liveUntil) :
    getApproved c id = if c.now ≤ e.val.liveUntilLedger then some e.val.approved else none := by
  rw [getApproved_of_entry he]
  simp only [and_iff_right_of_imp fun h : c.now ≤ e.val.liveUntilLedger => Nat.le_trans h hl]

theorem isApprovedForAll_none {c : Core} {o p : Nat} (he : c.operator o p = none) :
    isApprovedForAll c o p = false := by
  unfold isApprovedForAll; rw [he]; rfl

theorem isApprovedForAll_of_entry {c : Core} {o p : Nat} {e : Temp Nat} (he : c.operator o p = some e) :
    isApprovedForAll c o p = decide (c.now ≤ e.liveUntil ∧ c.now ≤ e.val) := by
  unfold isApprovedForAll; rw [he, Temp.get?_some_eq]
  by_cases hl : c.now ≤ e.liveUntil
  · rw [if_pos hl]
    show decide (e.val ≥ c.now) = _
    exact decide_eq_decide.mpr ⟨fun h => ⟨hl, h⟩, fun h => h.2⟩
  · rw [if_neg hl]
    exact (decide_eq_false fun h => hl h.1).symm

theorem isApprovedForAll_true {c : Core} {o p : Nat} (h : isApprovedForAll c o p = true) :
    ∃ e, c.operator o p = some e ∧ c.now ≤ e.val ∧ c.now ≤ e.liveUntil := by
  cases he : c.operator o p with
  | none => rw [isApprovedForAll_none he] at h; cases h
  | some e =>
    rw [isApprovedForAll_of_entry he] at h
    exact ⟨e, rfl, (of_decide_eq_true h).2, (of_decide_eq_true h).1⟩

theorem isApprovedForAll_expired {c : Core} {o p : Nat} {e : Temp Nat}
    (he : c.operator o p = some e) (hx : e.val < c.now) : isApprovedForAll c o p = false := by
  rw [isApprovedForAll_of_entry he]
  exact decide_eq_false fun h => Nat.not_le_of_lt hx h.2

theorem isApprovedForAll_entry {c : Core} {o p : Nat} {e : Temp Nat} (he : c.operator o p = some e)
    (hl : e.val ≤ e.liveUntil) : isApprovedForAll c o p = decide (c.now ≤ e.val) := by
  rw [isApprovedForAll_of_entry he]
  simp only [and_iff_right_of_imp fun h : c.now ≤ e.val => Nat.le_trans h hl]

def Op.spender : Op → Option Nat
  | .transferFrom sp _ _ _ => some sp
  | .burnFrom sp _ _ => some sp
  | _ => none

/-- what C11 accepts as the reason for token `id` leaving `f` -/
def Justified (c : Core) (auth : List Nat) (f id : Nat) (op : Op) : Prop :=
  match op.spender with
  | none => f ∈ auth
  | some sp => sp ∈ auth ∧ (sp = f ∨ getApproved c id = some sp ∨ isApprovedForAll c f sp = true)

def Op.approves (id : Nat) : Op → Bool
  | .approve _ _ id' _ => id' == id
  | _ => false

end OZ.Nft
