import OZ.Model.IdentityRegistry
import OZ.Lemmas.Host
import OZ.Lemmas.RegTopics
import OZ.Lemmas.Lists
/-
The registry of claim topics and trusted issuers keeps two redundant indices (issuer ↦ topics and
topic ↦ issuers) in step with the two ordered lists: `Reg.Inv`.  `OZ.RegTopics.State` models the same
source file with the three loops written pointwise: `Reg.toT` reads a registry as such a state, the closed forms
of the loops make every accepted operation here that model's, and `Reg.Inv` is that model's `Core`; so the invariant is
kept because it is kept there.
-/
namespace OZ.Identity
open OZ.Host OZ.RegTopics

theorem ofOpt_eq_ok {α : Type} {o : Option α} {a : α} : ofOpt o = .ok a ↔ o = some a := by
  cases o <;> simp [ofOpt]

theorem upd_eq {β} (f : Nat → β) (a : Nat) (v : β) : upd f a v a = v := upd_same f a v

/-! ### closed forms of the loops -/

/-- an accepted `pushIssuer` found an entry for every listed topic -/
theorem pushIssuer_some {i : Nat} : ∀ {ts : List Nat} {ti ti' : Nat → Option (List Nat)},
    pushIssuer i ti ts = .ok ti' → ts.Nodup → ∀ t ∈ ts, (ti t).isSome
  | [], _, _, _, _, t, ht => by cases ht
  | x :: rest, ti, ti', e, hn, t, ht => by
    unfold pushIssuer at e
    split at e
    · cases e
    · rename_i l hl
      cases ht with
      | head => rw [hl]; rfl
      | tail _ h' =>
        -- an iteration creates no entry: it rewrites one that is there
        have := pushIssuer_some e (List.nodup_cons.mp hn).2 t h'
        rwa [isSome_upd_some (by rw [hl]; rfl)] at this

/-- the step all three loops share -/
theorem visit_cons {β : Type} {x : Nat} {rest : List Nat} (hx : x ∉ rest) {F f : Nat → Option β} {g : β → β}
    (hF : ∀ t, F t = if t = x then (f x).map g else f t) (t : Nat) :
    (if t ∈ rest then (F t).map g else F t) = if t ∈ x :: rest then (f t).map g else f t := by
  rw [hF]
  by_cases htx : t = x
  · subst htx
    rw [if_neg hx, if_pos rfl, if_pos (List.mem_cons_self ..)]
  · rw [if_neg htx]
    by_cases htr : t ∈ rest
    · rw [if_pos htr, if_pos (List.mem_cons_of_mem _ htr)]
    · rw [if_neg htr, if_neg (by simp [htx, htr])]

theorem pushIssuer_closed {i : Nat} : ∀ {ts : List Nat} {ti ti' : Nat → Option (List Nat)},
    pushIssuer i ti ts = .ok ti' → ts.Nodup →
    ∀ t, ti' t = if t ∈ ts then (ti t).map (fun l => l ++ [i]) else ti t
  | [], ti, ti', e, _, t => by
    unfold pushIssuer at e
    cases e
    simp
  | x :: rest, ti, ti', e, hn, t => by
    have hx : x ∉ rest := (List.nodup_cons.mp hn).1
    have hr : rest.Nodup := (List.nodup_cons.mp hn).2
    unfold pushIssuer at e
    split at e
    · cases e
    · rename_i l hl
      rw [pushIssuer_closed e hr t]
      exact visit_cons hx (fun t => by rw [upd_apply, hl]; rfl) t

/-- `pushIssuer` is accepted when every listed topic has an entry -/
theorem pushIssuer_ok {i : Nat} : ∀ {ts : List Nat} {ti : Nat → Option (List Nat)},
    (∀ t ∈ ts, (ti t).isSome) → ∃ ti', pushIssuer i ti ts = .ok ti'
  | [], ti, _ => ⟨ti, rfl⟩
  | x :: rest, ti, h => by
    unfold pushIssuer
    have hx := h x (List.mem_cons_self ..)
    split
    · rename_i hn; rw [hn] at hx; cases hx
    · rename_i l hl
      apply pushIssuer_ok
      intro t ht
      by_cases htx : t = x
      · subst htx; rw [upd_eq]; rfl
      · rw [upd_other _ _ _ _ htx]; exact h t (List.mem_cons_of_mem _ ht)

theorem dropStep_apply (i : Nat) (ti : Nat → Option (List Nat)) (x : Nat) (l : List Nat)
    (hl : ti x = some l) (t : Nat) :
    (if l.contains i then upd ti x (some (l.erase i)) else ti) t
      = if t = x then some (l.erase i) else ti t := by
  by_cases hc : l.contains i = true
  · rw [if_pos hc]; rfl
  · rw [if_neg hc]
    have hni : i ∉ l := fun h => hc (List.contains_iff_mem.mpr h)
    by_cases htx : t = x
    · subst htx; rw [if_pos rfl, hl, List.erase_of_not_mem hni]
    · rw [if_neg htx]

theorem dropIssuer_closed {i : Nat} : ∀ {ts : List Nat} {ti ti' : Nat → Option (List Nat)},
    dropIssuer i ti ts = .ok ti' → ts.Nodup →
    ∀ t, ti' t = if t ∈ ts then (ti t).map (fun l => l.erase i) else ti t
  | [], ti, ti', e, _, t => by
    unfold dropIssuer at e
    cases e
    simp
  | x :: rest, ti, ti', e, hn, t => by
    have hx : x ∉ rest := (List.nodup_cons.mp hn).1
    have hr : rest.Nodup := (List.nodup_cons.mp hn).2
    unfold dropIssuer at e
    split at e
    · cases e
    · rename_i l hl
      rw [dropIssuer_closed e hr t]
      exact visit_cons hx (fun t => by rw [dropStep_apply i ti x l hl t, hl]; rfl) t

theorem eraseTopicAt_apply (it : Nat → Option (List Nat)) (t i x : Nat) :
    eraseTopicAt it t i x = if x = i then (it x).map (fun ts => ts.erase t) else it x := by
  unfold eraseTopicAt
  -- on an entry that exists this is the step of `dropIssuer`, with topic and issuer exchanged
  by_cases hxi : x = i
  · subst hxi
    cases hts : it x with
    | some ts => exact (dropStep_apply t it x ts hts x).trans (by rw [if_pos rfl, if_pos rfl]; rfl)
    | none => rw [if_pos rfl]; exact hts
  · rw [if_neg hxi]
    cases hts : it i with
    | some ts => exact (dropStep_apply t it i ts hts x).trans (if_neg hxi)
    | none => rfl

theorem eraseTopicFromIssuers_closed (t : Nat) : ∀ (is : List Nat) (it : Nat → Option (List Nat)),
    is.Nodup →
    ∀ i, eraseTopicFromIssuers t it is i
      = if i ∈ is then (it i).map (fun ts => ts.erase t) else it i
  | [], it, _, i => by simp [eraseTopicFromIssuers]
  | x :: rest, it, hn, i => by
    have hx : x ∉ rest := (List.nodup_cons.mp hn).1
    have hr : rest.Nodup := (List.nodup_cons.mp hn).2
    unfold eraseTopicFromIssuers
    rw [eraseTopicFromIssuers_closed t rest _ hr i]
    refine visit_cons hx (fun j => ?_) i
    rw [eraseTopicAt_apply]
    by_cases hj : j = x
    · rw [if_pos hj, if_pos hj, hj]
    · rw [if_neg hj, if_neg hj]

/-! ### what an accepted operation is -/

theorem validTopicSet_iff (r : Reg) (ts : List Nat) :
    validTopicSet r ts = true ↔
      ts ≠ [] ∧ ts.length ≤ MAX_CLAIM_TOPICS ∧ ts.Nodup ∧ ∀ t ∈ ts, t ∈ r.topics := by
  unfold validTopicSet
  simp only [Bool.and_eq_true, Bool.not_eq_true', decide_eq_true_eq, List.all_eq_true,
    List.contains_iff_mem, List.isEmpty_eq_false_iff, and_assoc]

theorem addTopic_unpack {r r' : Reg} {t : Nat} (e : addTopic r t = .ok r') :
    t ∉ r.topics ∧
    r' = ⟨r.topics ++ [t], r.issuers, r.issuerTopics, upd r.topicIssuers t (some [])⟩ := by
  unfold addTopic at e
  split at e
  · cases e
  · split at e
    · cases e
    · rename_i _ hc
      injection e with e
      exact ⟨fun h => hc (List.contains_iff_mem.mpr h), e.symm⟩

theorem removeTopic_unpack {r r' : Reg} {t : Nat} (e : removeTopic r t = .ok r') :
    t ∈ r.topics ∧
    r' = ⟨r.topics.erase t, r.issuers, eraseTopicFromIssuers t r.issuerTopics r.issuers,
          upd r.topicIssuers t none⟩ := by
  unfold removeTopic at e
  split at e
  · rename_i hc
    injection e with e
    exact ⟨List.contains_iff_mem.mp hc, e.symm⟩
  · cases e

theorem addIssuer_unpack {r r' : Reg} {i : Nat} {ts : List Nat} (e : addIssuer r i ts = .ok r') :
    validTopicSet r ts = true ∧ i ∉ r.issuers ∧
    ∃ ti, pushIssuer i r.topicIssuers ts = .ok ti ∧
      r' = ⟨r.topics, r.issuers ++ [i], upd r.issuerTopics i (some ts), ti⟩ := by
  unfold addIssuer at e
  split at e
  · cases e
  · rename_i hv
    split at e
    · cases e
    · split at e
      · cases e
      · rename_i _ hc
        split at e
        · cases e
        · rename_i ti hti
          injection e with e
          refine ⟨by simpa using hv, fun h => hc (List.contains_iff_mem.mpr h), ti, hti, e.symm⟩

theorem removeIssuer_unpack {r r' : Reg} {i : Nat} (e : removeIssuer r i = .ok r') :
    i ∈ r.issuers ∧
    ∃ ts ti, r.issuerTopics i = some ts ∧ dropIssuer i r.topicIssuers ts = .ok ti ∧
      r' = ⟨r.topics, r.issuers.erase i, upd r.issuerTopics i none, ti⟩ := by
  unfold removeIssuer at e
  split at e
  · rename_i hc
    split at e
    · cases e
    · rename_i ts hts
      split at e
      · cases e
      · rename_i ti hti
        injection e with e
        exact ⟨List.contains_iff_mem.mp hc, ts, ti, hts, hti, e.symm⟩
  · cases e

theorem updateIssuer_unpack {r r' : Reg} {i : Nat} {ts : List Nat}
    (e : updateIssuer r i ts = .ok r') :
    validTopicSet r ts = true ∧ i ∈ r.issuers ∧
    ∃ old ti1 ti2, r.issuerTopics i = some old ∧
      dropIssuer i r.topicIssuers (old.filter (fun t => !ts.contains t)) = .ok ti1 ∧
      pushIssuer i ti1 (ts.filter (fun t => !old.contains t)) = .ok ti2 ∧
      r' = ⟨r.topics, r.issuers, upd r.issuerTopics i (some ts), ti2⟩ := by
  unfold updateIssuer at e
  split at e
  · cases e
  · rename_i hv
    split at e
    · cases e
    · rename_i hc
      split at e
      · cases e
      · rename_i old hold
        split at e
        · cases e
        · rename_i ti1 h1
          split at e
          · cases e
          · rename_i ti2 h2
            injection e with e
            refine ⟨by simpa using hv, ?_, old, ti1, ti2, hold, h1, h2, e.symm⟩
            apply List.contains_iff_mem.mp
            simpa using hc

/-! ### set / map behaviour on `topics`, `issuerTopics` -/

theorem addTopic_spec {r r' : Reg} {t : Nat} (e : addTopic r t = .ok r') :
    t ∉ r.topics ∧ r'.topics = r.topics ++ [t] ∧ r'.issuerTopics = r.issuerTopics ∧
      r'.issuers = r.issuers := by
  obtain ⟨h, rfl⟩ := addTopic_unpack e
  exact ⟨h, rfl, rfl, rfl⟩

theorem addIssuer_spec {r r' : Reg} {i : Nat} {ts : List Nat} (e : addIssuer r i ts = .ok r') :
    i ∉ r.issuers ∧ r'.topics = r.topics ∧ r'.issuers = r.issuers ++ [i] ∧
    r'.issuerTopics = upd r.issuerTopics i (some ts) ∧ ts ≠ [] ∧ ts.Nodup ∧
      ∀ t ∈ ts, t ∈ r.topics := by
  obtain ⟨hv, hi, ti, _, rfl⟩ := addIssuer_unpack e
  obtain ⟨h1, _, h3, h4⟩ := (validTopicSet_iff r ts).mp hv
  exact ⟨hi, rfl, rfl, rfl, h1, h3, h4⟩

theorem removeIssuer_spec {r r' : Reg} {i : Nat} (e : removeIssuer r i = .ok r') :
    i ∈ r.issuers ∧ r'.topics = r.topics ∧ r'.issuers = r.issuers.erase i ∧
    r'.issuerTopics = upd r.issuerTopics i none := by
  obtain ⟨hi, ts, ti, _, _, rfl⟩ := removeIssuer_unpack e
  exact ⟨hi, rfl, rfl, rfl⟩

theorem updateIssuer_spec {r r' : Reg} {i : Nat} {ts : List Nat}
    (e : updateIssuer r i ts = .ok r') :
    i ∈ r.issuers ∧ r'.topics = r.topics ∧ r'.issuers = r.issuers ∧
    r'.issuerTopics = upd r.issuerTopics i (some ts) ∧ ts ≠ [] ∧ ts.Nodup ∧
      ∀ t ∈ ts, t ∈ r.topics := by
  obtain ⟨hv, hi, old, ti1, ti2, _, _, _, rfl⟩ := updateIssuer_unpack e
  obtain ⟨h1, _, h3, h4⟩ := (validTopicSet_iff r ts).mp hv
  exact ⟨hi, rfl, rfl, rfl, h1, h3, h4⟩

/-! ### the invariant -/

structure Reg.Inv (r : Reg) : Prop where
  topicsNodup : r.topics.Nodup
  issuersNodup : r.issuers.Nodup
  topicSome : ∀ t, t ∈ r.topics ↔ (r.topicIssuers t).isSome
  issuerSome : ∀ i, i ∈ r.issuers ↔ (r.issuerTopics i).isSome
  issuerTopicsOk : ∀ i ts, r.issuerTopics i = some ts → ts.Nodup ∧ ∀ t ∈ ts, t ∈ r.topics
  fwd : ∀ t l, r.topicIssuers t = some l →
          l.Nodup ∧ ∀ i, i ∈ l ↔ ∃ ts, r.issuerTopics i = some ts ∧ t ∈ ts

def Reg.toT (r : Reg) : RegTopics.State := ⟨r.topics, r.issuers, r.issuerTopics, r.topicIssuers⟩

theorem inv_iff_core (r : Reg) : r.Inv ↔ Core r.toT := by
  constructor
  · intro h
    refine ⟨h.topicsNodup, h.issuersNodup, fun t => (h.topicSome t).symm, fun i => (h.issuerSome i).symm,
      fun i ts hts => (h.issuerTopicsOk i ts hts).1, fun t l hl => (h.fwd t l hl).1, fun i t => ⟨?_, ?_⟩⟩
    · rintro ⟨ts, hts, ht⟩
      -- a listed topic is registered, so it has an entry
      obtain ⟨l, hl⟩ := Option.isSome_iff_exists.mp ((h.topicSome t).mp ((h.issuerTopicsOk i ts hts).2 t ht))
      exact ⟨l, hl, ((h.fwd t l hl).2 i).mpr ⟨ts, hts, ht⟩⟩
    · rintro ⟨l, hl, hi⟩
      exact ((h.fwd t l hl).2 i).mp hi
  · intro c
    refine ⟨c.tN, c.iN, fun t => (c.tiDom t).symm, fun i => (c.itDom i).symm,
      fun i ts hts => ⟨c.itN i ts hts, fun t ht => c.itSub i t ⟨ts, hts, ht⟩⟩,
      fun t l hl => ⟨c.tiN t l hl, fun i => ?_⟩⟩
    exact Iff.trans ⟨fun hi => ⟨l, hl, hi⟩, fun ⟨l', hl', hi⟩ => Option.some.inj (hl.symm.trans hl') ▸ hi⟩
      (c.twoWay i t).symm

theorem inv_empty : Reg.empty.Inv := (inv_iff_core _).mpr RegTopics.inv_init.core

theorem eraseTopicFromIssuers_inv {r : Reg} (h : r.Inv) (t i : Nat) :
    eraseTopicFromIssuers t r.issuerTopics r.issuers i
      = (r.issuerTopics i).map (fun ts => ts.erase t) :=
  (eraseTopicFromIssuers_closed t r.issuers r.issuerTopics h.issuersNodup i).trans
    (((inv_iff_core r).mp h).dropTopicFromIssuers_eq t i)

theorem removeTopic_spec {r r' : Reg} {t : Nat} (h : r.Inv) (e : removeTopic r t = .ok r') :
    t ∈ r.topics ∧ (∀ x, x ∈ r'.topics ↔ x ∈ r.topics ∧ x ≠ t) ∧ r'.issuers = r.issuers ∧
    ∀ i, r'.issuerTopics i = (r.issuerTopics i).map (fun ts => ts.erase t) := by
  obtain ⟨ht, rfl⟩ := removeTopic_unpack e
  refine ⟨ht, fun x => ?_, rfl, fun i => eraseTopicFromIssuers_inv h t i⟩
  dsimp only
  rw [h.topicsNodup.mem_erase_iff, and_comm]

/-! ### every accepted operation is the pointwise model's -/

theorem toT_addTopic {r r' : Reg} {t : Nat} (e : addTopic r t = .ok r') :
    t ∉ r.topics ∧ r'.toT = addTopic' r.toT t := by
  obtain ⟨ht, rfl⟩ := addTopic_unpack e
  exact ⟨ht, rfl⟩

theorem toT_removeTopic {r r' : Reg} {t : Nat} (hn : r.issuers.Nodup) (e : removeTopic r t = .ok r') :
    r'.toT = removeTopic' r.toT t := by
  obtain ⟨_, rfl⟩ := removeTopic_unpack e
  show RegTopics.State.mk _ _ _ _ = RegTopics.State.mk _ _ _ _
  congr 1
  funext i
  exact eraseTopicFromIssuers_closed t r.issuers r.issuerTopics hn i

theorem toT_addIssuer {r r' : Reg} {i : Nat} {ts : List Nat} (e : addIssuer r i ts = .ok r') :
    (ts.Nodup ∧ ∀ t, t ∈ ts → t ∈ r.topics) ∧ i ∉ r.issuers ∧ r'.toT = addIssuer' r.toT i ts := by
  obtain ⟨hv, hi, ti, hp, rfl⟩ := addIssuer_unpack e
  obtain ⟨_, _, hnd, hsub⟩ := (validTopicSet_iff r ts).mp hv
  refine ⟨⟨hnd, hsub⟩, hi, ?_⟩
  show RegTopics.State.mk _ _ _ _ = RegTopics.State.mk _ _ _ _
  congr 1
  funext t
  exact pushIssuer_closed hp hnd t

theorem toT_removeIssuer {r r' : Reg} {i : Nat} (h : r.Inv) (e : removeIssuer r i = .ok r') :
    ∃ its, r.issuerTopics i = some its ∧ r'.toT = removeIssuer' r.toT i its := by
  obtain ⟨_, its, ti, hits, hd, rfl⟩ := removeIssuer_unpack e
  refine ⟨its, hits, ?_⟩
  show RegTopics.State.mk _ _ _ _ = RegTopics.State.mk _ _ _ _
  congr 1
  funext t
  exact dropIssuer_closed hd (h.issuerTopicsOk i its hits).1 t

theorem toT_updateIssuer {r r' : Reg} {i : Nat} {ts : List Nat} (h : r.Inv) (e : updateIssuer r i ts = .ok r') :
    (ts.Nodup ∧ ∀ t, t ∈ ts → t ∈ r.topics) ∧ i ∈ r.issuers ∧
      ∃ old, r.issuerTopics i = some old ∧ r'.toT = update' r.toT i ts old := by
  obtain ⟨hv, hi, old, ti1, ti2, hold, hd, hp, rfl⟩ := updateIssuer_unpack e
  obtain ⟨_, _, hnd, hsub⟩ := (validTopicSet_iff r ts).mp hv
  refine ⟨⟨hnd, hsub⟩, hi, old, hold, ?_⟩
  show RegTopics.State.mk _ _ _ _ = RegTopics.State.mk _ _ _ _
  congr 1
  funext t
  -- first the drop loop over `old \ ts`, then the push loop over `ts \ old`
  show ti2 t = _
  rw [pushIssuer_closed hp (hnd.filter _) t, dropIssuer_closed hd ((h.issuerTopicsOk i old hold).1.filter _) t]
  rfl

theorem inv_apply {r r' : Reg} (op : RegOp) (h : r.Inv) (e : op.apply r = .ok r') : r'.Inv := by
  have c := (inv_iff_core r).mp h
  rw [inv_iff_core]
  cases op with
  | addTopic t =>
    obtain ⟨ht, e'⟩ := toT_addTopic e
    exact e' ▸ c.addTopic' ht
  | removeTopic t => exact toT_removeTopic h.issuersNodup e ▸ c.removeTopic' t
  | addIssuer i ts =>
    obtain ⟨hv, hi, e'⟩ := toT_addIssuer e
    exact e' ▸ c.addIssuer' hv hi
  | removeIssuer i =>
    obtain ⟨its, hits, e'⟩ := toT_removeIssuer h e
    exact e' ▸ c.removeIssuer' hits
  | updateIssuer i ts =>
    obtain ⟨hv, hi, old, hold, e'⟩ := toT_updateIssuer h e
    exact e' ▸ c.update' hv hi hold

theorem inv_step {r : Reg} (op : RegOp) (h : r.Inv) : (regStep r op).Inv := by
  unfold regStep
  split
  · rename_i r' e; exact inv_apply op h e
  · exact h

theorem inv_replay (ops : List RegOp) : (regReplay ops).Inv :=
  OZ.Lists.foldl_inv (fun _ op h => inv_step op h) ops _ inv_empty

/-! ### the verifier's view -/

theorem collect_eq (ti : Nat → Option (List Nat)) : ∀ (ts : List Nat), (∀ t ∈ ts, (ti t).isSome) →
    collect ti ts = .ok (ts.map fun t => (t, (ti t).getD []))
  | [], _ => rfl
  | x :: rest, h => by
    obtain ⟨l, hl⟩ := Option.isSome_iff_exists.mp (h x (List.mem_cons_self ..))
    simp only [collect, hl, collect_eq ti rest fun t ht => h t (List.mem_cons_of_mem _ ht), List.map_cons, Option.getD_some]

theorem collect_ok {r : Reg} (h : r.Inv) :
    ∃ tis, getClaimTopicsAndIssuers r = .ok tis ∧
      (∀ t l, (t, l) ∈ tis ↔ t ∈ r.topics ∧ r.topicIssuers t = some l) := by
  refine ⟨_, collect_eq _ _ fun t ht => (h.topicSome t).mp ht, fun t l => ?_⟩
  rw [List.mem_map]
  constructor
  · rintro ⟨t', ht, e⟩
    cases e
    obtain ⟨l, hl⟩ := Option.isSome_iff_exists.mp ((h.topicSome t).mp ht)
    exact ⟨ht, by rw [hl]; rfl⟩
  · rintro ⟨ht, hl⟩
    exact ⟨t, ht, by rw [hl]; rfl⟩

/-! ### identity registry storage -/

theorem addIdentity_unpack {s s' : Irs} {a d : Nat} (e : addIdentity s a d = .ok s') :
    s' = { s with identity := upd s.identity a (some d) } := by
  unfold addIdentity at e
  split at e
  · cases e
  · split at e
    · cases e
    · exact (Except.ok.inj e).symm

theorem modifyIdentity_unpack {s s' : Irs} {a d : Nat} (e : modifyIdentity s a d = .ok s') :
    s' = { s with identity := upd s.identity a (some d) } := by
  unfold modifyIdentity at e
  split at e
  · cases e
  · exact (Except.ok.inj e).symm

theorem removeIdentity_unpack {s s' : Irs} {a : Nat} (e : removeIdentity s a = .ok s') :
    s' = { s with identity := upd s.identity a none } := by
  unfold removeIdentity at e
  split at e
  · cases e
  · exact (Except.ok.inj e).symm

theorem recoverIdentity_unpack {s s' : Irs} {a b : Nat} (e : recoverIdentity s a b = .ok s') :
    ∃ d, s.identity a = some d ∧ s.identity b = none ∧
      s' = ⟨upd (upd s.identity b (some d)) a none, upd s.recoveredTo a (some b)⟩ := by
  unfold recoverIdentity at e
  split at e
  · cases e
  · split at e
    · cases e
    · rename_i d hd
      split at e
      · cases e
      · rename_i hb
        exact ⟨d, hd, by simpa using hb, (Except.ok.inj e).symm⟩

end OZ.Identity
