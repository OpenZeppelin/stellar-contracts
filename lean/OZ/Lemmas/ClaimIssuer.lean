import OZ.Model.ClaimIssuer
import OZ.Lemmas.IdentityRegistry
import OZ.Lemmas.RegKeys
/-
Key management of the claim issuer keeps two redundant indices: Topics(topic) ↦ signing keys and
Pairs(key) ↦ (topic, registry) assignments.  `Issuer.Inv` states that they agree (`link`: a key is
allowed for a topic iff some (topic, registry) pair of that key exists) and that the stored vectors
are duplicate-free and never stored empty.  `OZ.RegKeys.State` models the same two storage branches with
"no entry" read as `[]`: `Issuer.toK` reads an issuer as such a state, an accepted `allow_key` / `remove_key` is
that model's, and `Issuer.Inv` is that model's `Reg.TwoWay` plus `NoEmpty`; so the invariant is kept because it is kept there.
-/
namespace OZ.ClaimIssuer
open OZ.Host OZ.Identity OZ.Reg OZ.RegKeys

/-- the pair is in the Pairs branch -/
def authorized (s : Issuer) (pk scheme topic registry : Nat) : Prop :=
  ∃ ps, s.pairs pk scheme = some ps ∧ (topic, registry) ∈ ps

structure Issuer.Inv (s : Issuer) : Prop where
  keysOk : ∀ t ks, s.topicKeys t = some ks → ks.Nodup ∧ ks ≠ []
  pairsOk : ∀ pk sc ps, s.pairs pk sc = some ps → ps.Nodup ∧ ps ≠ []
  link : ∀ pk sc t, isKeyAllowedForTopic s pk sc t = true ↔ ∃ reg, authorized s pk sc t reg

/-- a vector that is removed from storage when it becomes empty reads back (`unwrap_or_default`) as itself -/
theorem optList_getD {α} (l : List α) : (if l.isEmpty then none else some l).getD [] = l := by
  cases l <;> rfl

theorem authorized_iff {s : Issuer} {pk sc t r : Nat} :
    authorized s pk sc t r ↔ (t, r) ∈ (s.pairs pk sc).getD [] := by
  unfold authorized
  cases s.pairs pk sc with
  | none => simp
  | some ps => simp

theorem allowed_iff {s : Issuer} {pk sc t : Nat} :
    isKeyAllowedForTopic s pk sc t = true ↔ (pk, sc) ∈ (s.topicKeys t).getD [] := by
  unfold isKeyAllowedForTopic
  cases s.topicKeys t with
  | none => simp
  | some ks => simp

/-! ### the exact result of the accepted operations -/

theorem allowTopicKey_unpack {s s1 : Issuer} {pk sc t : Nat} (e : allowTopicKey s pk sc t = .ok s1) :
    (isKeyAllowedForTopic s pk sc t = true ∧ s1 = s) ∨
    (¬ isKeyAllowedForTopic s pk sc t = true ∧
      s1 = { s with topicKeys := upd s.topicKeys t (some (((s.topicKeys t).getD []) ++ [(pk, sc)])) }) := by
  unfold allowTopicKey at e
  split at e
  · rename_i h
    injection e with e
    exact .inl ⟨h, e.symm⟩
  · rename_i h
    split at e
    · cases e
    · injection e with e
      exact .inr ⟨h, e.symm⟩

theorem allowPair_unpack {s s' : Issuer} {pk sc t r : Nat} (e : allowPair s pk sc t r = .ok s') :
    (t, r) ∉ (s.pairs pk sc).getD [] ∧
    s' = { s with pairs := upd2 s.pairs pk sc (some (((s.pairs pk sc).getD []) ++ [(t, r)])) } := by
  unfold allowPair at e
  split at e
  · cases e
  · rename_i hc
    split at e
    · cases e
    · injection e with e
      exact ⟨fun hm => hc (List.contains_iff_mem.mpr hm), e.symm⟩

theorem allowKey_unpack {s s' : Issuer} {reg : Option Reg} {self pk registry scheme topic : Nat}
    (e : allowKey s reg self pk registry scheme topic = .ok s') :
    pk ≠ 0 ∧ (∃ r, reg = some r ∧ hasClaimTopic r self topic = .ok true) ∧
    ∃ s1, allowTopicKey s pk scheme topic = .ok s1 ∧ allowPair s1 pk scheme topic registry = .ok s' := by
  unfold allowKey at e
  split at e
  · cases e
  · rename_i hpk
    split at e
    · cases e
    · rename_i r
      split at e
      · cases e
      · cases e
      · rename_i hh
        split at e
        · cases e
        · rename_i s1 h1
          exact ⟨hpk, ⟨r, rfl, hh⟩, s1, h1, e⟩

theorem dropTopicKey_unpack {s s' : Issuer} {pk sc t : Nat} (e : dropTopicKey s pk sc t = .ok s') :
    ∃ ks, s.topicKeys t = some ks ∧ (pk, sc) ∈ ks ∧
      s' = { s with topicKeys := (upd s.topicKeys t
              (if (ks.erase (pk, sc)).isEmpty then none else some (ks.erase (pk, sc)))) } := by
  unfold dropTopicKey at e
  split at e
  · cases e
  · rename_i ks hks
    split at e
    · rename_i hc
      injection e with e
      exact ⟨ks, hks, List.contains_iff_mem.mp hc, e.symm⟩
    · cases e

def pairsErased (s : Issuer) (pk sc t r : Nat) (ps : List (Nat × Nat)) : Nat → Nat → Option (List (Nat × Nat)) :=
  upd2 s.pairs pk sc (if (ps.erase (t, r)).isEmpty then none else some (ps.erase (t, r)))

theorem removeKey_unpack {s s' : Issuer} {pk registry scheme topic : Nat}
    (e : removeKey s pk registry scheme topic = .ok s') :
    ∃ ps, s.pairs pk scheme = some ps ∧ (topic, registry) ∈ ps ∧
      (((ps.erase (topic, registry)).any (fun p => p.1 == topic) = true ∧
          s' = { s with pairs := pairsErased s pk scheme topic registry ps }) ∨
       (¬ (ps.erase (topic, registry)).any (fun p => p.1 == topic) = true ∧
          ∃ ks, s.topicKeys topic = some ks ∧ (pk, scheme) ∈ ks ∧
            s' = { s with pairs := pairsErased s pk scheme topic registry ps,
                          topicKeys := (upd s.topicKeys topic
                            (if (ks.erase (pk, scheme)).isEmpty then none else some (ks.erase (pk, scheme)))) })) := by
  unfold removeKey at e
  split at e
  · cases e
  · rename_i ps hps
    split at e
    · rename_i hc
      refine ⟨ps, hps, List.contains_iff_mem.mp hc, ?_⟩
      split at e
      · rename_i ha
        injection e with e
        exact .inl ⟨ha, e.symm⟩
      · rename_i ha
        obtain ⟨ks, hks, hm, e⟩ := dropTopicKey_unpack e
        exact .inr ⟨ha, ks, hks, hm, e⟩
    · cases e

theorem allowTopicKey_frame {s s1 : Issuer} {pk sc t : Nat} (e : allowTopicKey s pk sc t = .ok s1) :
    s1.pairs = s.pairs ∧ s1.nonce = s.nonce ∧ s1.revoked = s.revoked := by
  rcases allowTopicKey_unpack e with ⟨_, h⟩ | ⟨_, h⟩ <;> subst h <;> exact ⟨rfl, rfl, rfl⟩

/-! ### the key tables read as the `[]`-model's -/

def Issuer.toK (s : Issuer) : RegKeys.State :=
  ⟨fun t => (s.topicKeys t).getD [], fun k => (s.pairs k.1 k.2).getD []⟩

theorem getD_upd {α} (f : Nat → Option (List α)) (a : Nat) (v : Option (List α)) :
    (fun x => (upd f a v x).getD []) = updD (fun x => (f x).getD []) a (v.getD []) := by
  funext x; unfold upd updD; split <;> rfl

theorem getD_upd2 {α} (f : Nat → Nat → Option (List α)) (a b : Nat) (v : Option (List α)) :
    (fun k : Nat × Nat => (upd2 f a b v k.1 k.2).getD []) = updD (fun k => (f k.1 k.2).getD []) (a, b) (v.getD []) := by
  funext k
  unfold upd2 updD
  by_cases h : k = (a, b)
  · subst h; rw [if_pos ⟨rfl, rfl⟩, if_pos rfl]
  · rw [if_neg (fun c => h (Prod.ext c.1 c.2)), if_neg h]

/-- no vector is stored empty (the code removes the entry instead) -/
def Issuer.NoEmpty (s : Issuer) : Prop := (∀ t, s.topicKeys t ≠ some []) ∧ ∀ pk sc, s.pairs pk sc ≠ some []

theorem optList_ne {α} (l : List α) : (if l.isEmpty then none else some l) ≠ some [] := by
  cases l <;> simp

theorem inv_iff_core (s : Issuer) : s.Inv ↔ TwoWay s.toK.topics s.toK.pairs ∧ s.NoEmpty := by
  constructor
  · intro h
    refine ⟨⟨fun k t => (allowed_iff.symm.trans (h.link k.1 k.2 t)).trans (exists_congr fun _ => authorized_iff),
      fun k => ?_, fun t => ?_⟩, fun t c => (h.keysOk t _ c).2 rfl, fun pk sc c => (h.pairsOk pk sc _ c).2 rfl⟩
    · show ((s.pairs k.1 k.2).getD []).Nodup
      cases hp : s.pairs k.1 k.2 with
      | none => exact List.nodup_nil
      | some ps => exact (h.pairsOk _ _ _ hp).1
    · show ((s.topicKeys t).getD []).Nodup
      cases hk : s.topicKeys t with
      | none => exact List.nodup_nil
      | some ks => exact (h.keysOk _ _ hk).1
  · rintro ⟨c, hk, hp⟩
    refine ⟨fun t ks e => ⟨?_, fun c' => hk t (c' ▸ e)⟩, fun pk sc ps e => ⟨?_, fun c' => hp pk sc (c' ▸ e)⟩,
      fun pk sc t => (allowed_iff.trans (c.two_way (pk, sc) t)).trans (exists_congr fun _ => authorized_iff.symm)⟩
    · have := c.nd_topics t; rwa [show s.toK.topics t = (s.topicKeys t).getD [] from rfl, e] at this
    · have := c.nd_pairs (pk, sc); rwa [show s.toK.pairs (pk, sc) = (s.pairs pk sc).getD [] from rfl, e] at this

theorem toK_allowKey {s s' : Issuer} {reg : Option Reg} {self pk registry scheme topic : Nat}
    (e : allowKey s reg self pk registry scheme topic = .ok s') :
    (topic, registry) ∉ s.toK.pairs (pk, scheme) ∧ s'.toK = allowed' s.toK (pk, scheme) registry topic ∧
      (s.NoEmpty → s'.NoEmpty) := by
  obtain ⟨_, _, s1, e1, e2⟩ := allowKey_unpack e
  obtain ⟨hn, rfl⟩ := allowPair_unpack e2
  have hp := (allowTopicKey_frame e1).1
  rw [hp] at hn
  have pairsNE : ∀ pk' sc', s.pairs pk' sc' ≠ some [] → upd2 s1.pairs pk scheme
      (some ((s1.pairs pk scheme).getD [] ++ [(topic, registry)])) pk' sc' ≠ some [] := by
    intro pk' sc' h
    rw [upd2_apply]; split
    · exact fun c => by simp at c
    · rw [hp]; exact h
  rcases allowTopicKey_unpack e1 with ⟨ha, rfl⟩ | ⟨hna, rfl⟩
  · refine ⟨hn, ?_, fun h => ⟨h.1, fun pk' sc' => pairsNE pk' sc' (h.2 pk' sc')⟩⟩
    show RegKeys.State.mk _ _ = _
    have hk : (pk, scheme) ∈ (Issuer.toK _).topics topic := allowed_iff.mp ha
    unfold allowed' listKey
    rw [if_pos hk, getD_upd2]
    rfl
  · refine ⟨hn, ?_, fun h => ⟨fun t => ?_, fun pk' sc' => pairsNE pk' sc' (h.2 pk' sc')⟩⟩
    · show RegKeys.State.mk _ _ = _
      have hk : (pk, scheme) ∉ (Issuer.toK _).topics topic := fun c => hna (allowed_iff.mpr c)
      unfold allowed' listKey
      rw [if_neg hk, getD_upd2, getD_upd]
      rfl
    · show upd s.topicKeys topic _ t ≠ some []
      rw [upd_apply]; split
      · exact fun c => by simp at c
      · exact h.1 t

theorem toK_removeKey {s s' : Issuer} {pk registry scheme topic : Nat}
    (e : removeKey s pk registry scheme topic = .ok s') :
    (topic, registry) ∈ s.toK.pairs (pk, scheme) ∧ s'.toK = removed' s.toK (pk, scheme) registry topic ∧
      (s.NoEmpty → s'.NoEmpty) := by
  obtain ⟨ps, hps, hm, hcase⟩ := removeKey_unpack e
  have hps' : s.toK.pairs (pk, scheme) = ps := by show (s.pairs pk scheme).getD [] = ps; rw [hps]; rfl
  have pairsNE : ∀ pk' sc', s.pairs pk' sc' ≠ some [] → pairsErased s pk scheme topic registry ps pk' sc' ≠ some [] := by
    intro pk' sc' h
    unfold pairsErased
    rw [upd2_apply]; split
    · exact optList_ne _
    · exact h
  refine ⟨hps' ▸ hm, ?_⟩
  rcases hcase with ⟨ha, rfl⟩ | ⟨hna, ks, hks, _, rfl⟩
  · refine ⟨?_, fun h => ⟨h.1, fun pk' sc' => pairsNE pk' sc' (h.2 pk' sc')⟩⟩
    show RegKeys.State.mk _ _ = _
    -- `unlistKey` spells the model's `p.1 == topic` as `decide (p.1 = topic)`
    have ha : (ps.erase (topic, registry)).any (fun p => decide (p.1 = topic)) = true := ha
    unfold removed' unlistKey pairsErased
    rw [hps', if_pos ha, getD_upd2, optList_getD]
    rfl
  · refine ⟨?_, fun h => ⟨fun t => ?_, fun pk' sc' => pairsNE pk' sc' (h.2 pk' sc')⟩⟩
    · show RegKeys.State.mk _ _ = _
      have hna : ¬ (ps.erase (topic, registry)).any (fun p => decide (p.1 = topic)) = true := hna
      unfold removed' unlistKey pairsErased
      rw [hps', if_neg hna, getD_upd2, getD_upd, optList_getD, optList_getD]
      show _ = RegKeys.State.mk (updD _ topic (((s.topicKeys topic).getD []).erase (pk, scheme))) _
      rw [hks]
      rfl
    · show upd s.topicKeys topic _ t ≠ some []
      rw [upd_apply]; split
      · exact optList_ne _
      · exact h.1 t

/-! ### the invariant -/

theorem inv_empty : Issuer.empty.Inv :=
  (inv_iff_core _).mpr ⟨RegKeys.inv_init.toTwoWay, fun _ c => (by cases c), fun _ _ c => (by cases c)⟩

theorem inv_allowKey {s s' : Issuer} {reg : Option Reg} {self pk registry scheme topic : Nat}
    (h : s.Inv) (e : allowKey s reg self pk registry scheme topic = .ok s') : s'.Inv := by
  obtain ⟨c, hne⟩ := (inv_iff_core s).mp h
  obtain ⟨hn, e', hne'⟩ := toK_allowKey e
  exact (inv_iff_core s').mpr ⟨e' ▸ allowed'_twoWay c hn, hne' hne⟩

theorem inv_removeKey {s s' : Issuer} {pk registry scheme topic : Nat} (h : s.Inv)
    (e : removeKey s pk registry scheme topic = .ok s') : s'.Inv := by
  obtain ⟨c, hne⟩ := (inv_iff_core s).mp h
  obtain ⟨_, e', hne'⟩ := toK_removeKey e
  exact (inv_iff_core s').mpr ⟨e' ▸ removed'_twoWay c _ _ _, hne' hne⟩

theorem allowKey_spec {s s' : Issuer} {reg : Option Reg} {self pk registry scheme topic : Nat}
    (e : allowKey s reg self pk registry scheme topic = .ok s') :
    pk ≠ 0 ∧ (∃ r, reg = some r ∧ hasClaimTopic r self topic = .ok true) ∧
    ¬ authorized s pk scheme topic registry ∧
    ∀ pk' sc' t' r', authorized s' pk' sc' t' r' ↔
      authorized s pk' sc' t' r' ∨ (pk' = pk ∧ sc' = scheme ∧ t' = topic ∧ r' = registry) := by
  obtain ⟨hpk, hreg, _⟩ := allowKey_unpack e
  obtain ⟨hn, e', _⟩ := toK_allowKey e
  refine ⟨hpk, hreg, fun c => hn (authorized_iff.mp c), fun pk' sc' t' r' => ?_⟩
  rw [authorized_iff, authorized_iff]
  show (t', r') ∈ s'.toK.pairs (pk', sc') ↔ (t', r') ∈ s.toK.pairs (pk', sc') ∨ _
  rw [e']
  exact (mem_updD_append ..).trans (by simp only [Prod.mk.injEq, and_assoc])

theorem removeKey_spec {s s' : Issuer} {pk registry scheme topic : Nat} (h : s.Inv)
    (e : removeKey s pk registry scheme topic = .ok s') :
    authorized s pk scheme topic registry ∧
    ∀ pk' sc' t' r', authorized s' pk' sc' t' r' ↔
      authorized s pk' sc' t' r' ∧ ¬ (pk' = pk ∧ sc' = scheme ∧ t' = topic ∧ r' = registry) := by
  obtain ⟨hm, e', _⟩ := toK_removeKey e
  refine ⟨authorized_iff.mpr hm, fun pk' sc' t' r' => ?_⟩
  rw [authorized_iff, authorized_iff]
  show (t', r') ∈ s'.toK.pairs (pk', sc') ↔ (t', r') ∈ s.toK.pairs (pk', sc') ∧ _
  rw [e']
  exact (mem_updD_erase _ _ _ (((inv_iff_core s).mp h).1.nd_pairs _) ..).trans
    (by simp only [Prod.mk.injEq, and_assoc])

theorem inv_invalidate {s s' : Issuer} {d t : Nat} (h : s.Inv)
    (e : invalidateClaimSignatures s d t = .ok s') : s'.Inv := by
  unfold invalidateClaimSignatures at e
  split at e
  · cases e
  · injection e with e
    subst e
    exact ⟨h.keysOk, h.pairsOk, h.link⟩

theorem inv_setClaimRevoked {s : Issuer} {d t : Nat} {data : List Nat} {b : Bool} (h : s.Inv) :
    (setClaimRevoked s d t data b).Inv :=
  ⟨h.keysOk, h.pairsOk, h.link⟩

/-! ### frames -/

theorem allowKey_frame {s s' : Issuer} {reg : Option Reg} {self pk registry scheme topic : Nat}
    (e : allowKey s reg self pk registry scheme topic = .ok s') :
    s'.nonce = s.nonce ∧ s'.revoked = s.revoked := by
  obtain ⟨_, _, s1, e1, e2⟩ := allowKey_unpack e
  obtain ⟨_, hn, hr⟩ := allowTopicKey_frame e1
  rw [(allowPair_unpack e2).2]
  exact ⟨hn, hr⟩

theorem removeKey_frame {s s' : Issuer} {pk registry scheme topic : Nat}
    (e : removeKey s pk registry scheme topic = .ok s') :
    s'.nonce = s.nonce ∧ s'.revoked = s.revoked := by
  obtain ⟨ps, _, _, hcase⟩ := removeKey_unpack e
  rcases hcase with ⟨_, h1⟩ | ⟨_, ks, _, _, h1⟩ <;> rw [h1] <;> exact ⟨rfl, rfl⟩

theorem invalidate_frame {s s' : Issuer} {d t : Nat} (e : invalidateClaimSignatures s d t = .ok s') :
    s'.topicKeys = s.topicKeys ∧ s'.pairs = s.pairs ∧ s'.revoked = s.revoked := by
  unfold invalidateClaimSignatures at e
  split at e
  · cases e
  · injection e with e
    subst e
    exact ⟨rfl, rfl, rfl⟩

/-! ### nonces and revocations after their writers -/

theorem invalidate_nonce {s s' : Issuer} {d t : Nat} (e : invalidateClaimSignatures s d t = .ok s') (d' t' : Nat) :
    currentNonce s' d' t' = if d' = d ∧ t' = t then currentNonce s d t + 1 else currentNonce s d' t' := by
  unfold invalidateClaimSignatures at e
  split at e
  · cases e
  · cases e
    show (upd2 s.nonce d t (some (currentNonce s d t + 1)) d' t').getD 0 = _
    unfold upd2; split <;> rfl

theorem setRevoked_apply (s : Issuer) (d t : Nat) (data : List Nat) (b : Bool) (d' t' : Nat) (data' : List Nat) :
    isClaimRevoked (setClaimRevoked s d t data b) d' t' data' =
      if d' = d ∧ t' = t ∧ data' = data then b else isClaimRevoked s d' t' data' := by
  unfold isClaimRevoked setClaimRevoked
  simp only
  split <;> rfl

/-! ### the two guards of `is_claim_valid` that are not plain reads -/

theorem extractOk_iff {σ : Type} (scheme : Nat) (sd : SigData σ) :
    extractOk scheme sd = true ↔ expectedLen scheme = some sd.len := by
  unfold extractOk
  cases expectedLen scheme with
  | none => simp
  | some n => simp only [beq_iff_eq, Option.some.injEq]; exact eq_comm

theorem isClaimExpired_false_iff (env : Env) (data : List Nat) :
    isClaimExpired env data = .ok false ↔ ∃ vu, validUntil data = .ok vu ∧ env.timestamp < vu := by
  unfold isClaimExpired
  cases validUntil data <;> simp

end OZ.ClaimIssuer
