import OZ.Model.VerifiersMon
/-
For the soundness of the C18 monitor: its defect chain as a conjunction, and its two verdict functions on an
outcome that is `ok true` exactly when the monitor finds no defect (for Ed25519: exactly when the oracle bit
is set) and never `ok false`.
-/
namespace OZ.Verifiers.Mon
open OZ.B64 OZ.Verifiers OZ.WebAuthn

/-- the driver reads the model's answer line back as the answer (string level, three literals) -/
theorem ofLine_line (a : Ans) : Ans.ofLine a.line = a := by
  cases a <;> decide

theorem webauthnGet_eq : webauthnGet = WEBAUTHN_GET := by decide

theorem ansOf_accept_iff {ε} (r : Except ε Bool) : ansOf r = .accept ↔ r = .ok true := by
  rcases r with _ | _ | _ <;> simp [ansOf]

theorem ansOf_retFalse_iff {ε} (r : Except ε Bool) : ansOf r = .retFalse ↔ r = .ok false := by
  rcases r with _ | _ | _ <;> simp [ansOf]

theorem flags_get (ad : Bytes) (h : 37 ≤ ad.length) : ad[32]? = some (ad.getD 32 0) := by
  rw [List.getD_eq_getElem?_getD, List.getElem?_eq_getElem (by omega)]
  rfl

theorem ite_some_eq_none {α} {c : Prop} [Decidable c] {a : α} {r : Option α} :
    (if c then some a else r) = none ↔ ¬ c ∧ r = none := by
  by_cases h : c
  · rw [if_pos h]; exact ⟨fun h' => (nomatch h'), fun h' => absurd h h'.1⟩
  · rw [if_neg h]; exact ⟨fun h' => ⟨h, h'⟩, fun h' => h'.2⟩

theorem waDefect_none_iff (w : WaOp) :
    waDefect w = none ↔
      (w.c = .ex → w.xdr = 1 ∧ 65 ≤ w.kl) ∧
      w.cd.length ≤ 1024 ∧
      w.parseOk = true ∧ w.ty = webauthnGet ∧
      w.pl.length = 32 ∧ w.ch = rfc4648 w.pl ∧
      37 ≤ w.ad.length ∧
      flagsOf w.ad % 2 = 1 ∧ flagsOf w.ad / 4 % 2 = 1 ∧
      ¬ (flagsOf w.ad / 8 % 2 = 0 ∧ flagsOf w.ad / 16 % 2 = 1) ∧
      w.sv = 1 := by
  unfold waDefect
  simp only [ite_some_eq_none, and_true, Classical.not_not, Nat.not_lt, gt_iff_lt, not_and, ne_eq]
  constructor
  · rintro ⟨h1, h2, h⟩; exact ⟨fun hc => ⟨h1 hc, h2 hc⟩, h⟩
  · rintro ⟨h12, h⟩; exact ⟨fun hc => (h12 hc).1, fun hc => (h12 hc).2, h⟩

theorem verdictWa_quiet {ε} (w : WaOp) (r : Except ε Bool)
    (hiff : waDefect w = none ↔ r = .ok true) (hnf : r ≠ .ok false) : verdictWa w (ansOf r) = none := by
  unfold verdictWa verdictWaAgainst
  cases r with
  | error e =>
    cases hd : waDefect w with
    | none => exact nomatch hiff.mp hd
    | some why => simp [ansOf]
  | ok b =>
    cases b with
    | false => exact absurd rfl hnf
    | true => rw [hiff.mpr rfl]; simp [ansOf]

theorem verdictEd_quiet {ε} (d : EdOp) (r : Except ε Bool)
    (hiff : d.sv = 1 ↔ r = .ok true) (hnf : r ≠ .ok false) : verdictEd d (ansOf r) = none := by
  unfold verdictEd
  cases r with
  | error e => simp [ansOf, show ¬ d.sv = 1 from fun h => nomatch hiff.mp h]
  | ok b =>
    cases b with
    | false => exact absurd rfl hnf
    | true => simp [ansOf, hiff.mpr rfl]

end OZ.Verifiers.Mon
