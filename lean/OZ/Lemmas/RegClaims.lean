import OZ.Model.RegClaims
import OZ.Lemmas.RegStep
import OZ.Lemmas.AttrIndex
/- The identity-claims registry (C20 g); `valid` is the oracle for the issuer's `is_claim_valid`. -/
namespace OZ.RegClaims
open OZ.Reg OZ.AttrIndex

abbrev Valid := Nat → Nat → Nat → Nat → Nat → Bool

structure Inv (s : State) : Prop where
  nodup : ∀ t, (s.byTopic t).Nodup
  mem : ∀ t id, id ∈ s.byTopic t ↔ ∃ c, s.claim id = some c ∧ c.topic = t
  key : ∀ id c, s.claim id = some c → c.topic = id.2 ∧ c.issuer = id.1

theorem Inv.idx {s : State} (h : Inv s) : Ok s.claim (·.topic) s.byTopic := ⟨h.nodup, h.mem⟩

theorem inv_init : Inv init := by
  constructor <;> intros <;> simp_all [init]

def added (s : State) (c : Claim) : State :=
  if (s.claim (c.issuer, c.topic)).isSome then { s with claim := updD s.claim (c.issuer, c.topic) (some c) }
  else { claim := updD s.claim (c.issuer, c.topic) (some c),
         byTopic := updD s.byTopic c.topic (s.byTopic c.topic ++ [(c.issuer, c.topic)]) }

theorem addClaim_ok_iff (valid : Valid) (s s' : State)
    (topic scheme issuer sig data uri : Nat) :
    addClaim valid s topic scheme issuer sig data uri = .ok s' ↔
      valid issuer topic scheme sig data = true ∧ s' = added s ⟨topic, scheme, issuer, sig, data, uri⟩ := by
  unfold addClaim added
  cases hv : valid issuer topic scheme sig data with
  | false => simp
  | true =>
    simp only [Bool.not_true, Bool.false_eq_true, if_false, true_and]
    split
    · constructor
      · intro h; injection h with h; exact h.symm
      · intro h; rw [h]
    · constructor
      · intro h; injection h with h; exact h.symm
      · intro h; rw [h]; rfl

theorem added_claim (s : State) (c : Claim) : (added s c).claim = updD s.claim (c.issuer, c.topic) (some c) := by
  unfold added; split <;> rfl

theorem key_updD {s : State} (hI : Inv s) (c : Claim) (id : Id) (c' : Claim)
    (h : updD s.claim (c.issuer, c.topic) (some c) id = some c') : c'.topic = id.2 ∧ c'.issuer = id.1 :=
  forall_updD (P := fun id v => v = some c' → c'.topic = id.2 ∧ c'.issuer = id.1)
    (fun h => by cases h; exact ⟨rfl, rfl⟩) (fun id _ => hI.key id c') id h

theorem inv_added {s : State} (hI : Inv s) (c : Claim) : Inv (added s c) := by
  unfold added
  split
  · -- the id is indexed already, under the same topic
    rename_i hsome
    obtain ⟨c0, hc0⟩ := Option.isSome_iff_exists.1 hsome
    have h := hI.idx.replace (c := c) hc0 (hI.key _ _ hc0).1.symm fun _ => rfl
    exact ⟨h.nodup, h.mem, key_updD hI c⟩
  · rename_i hnone
    have h := hI.idx.insert (c := c) (k := (c.issuer, c.topic)) (by simpa using hnone) (fun _ => rfl) fun _ => rfl
    exact ⟨h.nodup, h.mem, key_updD hI c⟩

def removed (s : State) (id : Id) (c : Claim) : State :=
  removeFromIndex { s with claim := updD s.claim id none } c.topic id

theorem removed_claim (s : State) (id : Id) (c : Claim) : (removed s id c).claim = updD s.claim id none := by
  unfold removed removeFromIndex; split <;> rfl

theorem removeClaim_ok_iff (s s' : State) (id : Id) :
    removeClaim s id = .ok s' ↔ ∃ c, s.claim id = some c ∧ s' = removed s id c := by
  unfold removeClaim
  cases h : s.claim id with
  | none => simp
  | some c =>
    constructor
    · intro h'; injection h' with h'; exact ⟨c, rfl, h'.symm⟩
    · rintro ⟨c', hc', rfl⟩; injection hc' with hc'; subst hc'; rfl

theorem inv_removed {s : State} (hI : Inv s) {id : Id} {c : Claim} (hc : s.claim id = some c) :
    Inv (removed s id c) := by
  -- the id is in its topic's index, so `remove_claim_from_topic_index` does erase it
  have hst : removed s id c =
      { claim := updD s.claim id none, byTopic := updD s.byTopic c.topic ((s.byTopic c.topic).erase id) } := by
    unfold removed removeFromIndex
    exact if_pos (List.contains_iff_mem.2 ((hI.mem _ _).2 ⟨c, hc, rfl⟩))
  rw [hst]
  have h := hI.idx.delete hc (fun _ => rfl) (fun _ => rfl) ((hI.nodup _).erase id)
    fun y => (hI.nodup _).mem_erase_iff.trans and_comm
  exact ⟨h.nodup, h.mem, forall_updD (P := fun (id' : Id) v => ∀ c' : Claim, v = some c' → c'.topic = id'.2 ∧ c'.issuer = id'.1)
      (fun _ h => nomatch h) fun id' _ => hI.key id'⟩

theorem inv_next (valid : Valid) {s : State} (hI : Inv s) (o : Op) :
    Inv (next valid s o) := by
  unfold next
  cases hs : step valid s o with
  | error e => exact hI
  | ok s' =>
    cases o with
    | add t sc i sg d u =>
      obtain ⟨_, rfl⟩ := (addClaim_ok_iff valid s s' t sc i sg d u).1 hs
      exact inv_added hI _
    | remove id =>
      obtain ⟨c, hc, rfl⟩ := (removeClaim_ok_iff s s' id).1 hs
      exact inv_removed hI hc

theorem inv_run (valid : Valid) {s : State} (hI : Inv s) (ops : List Op) :
    Inv (run valid s ops) :=
  OZ.Lists.foldl_inv (P := Inv) (fun _ o h => inv_next valid h o) ops s hI

def Reachable (valid : Valid) (s : State) : Prop := ∃ ops, s = run valid init ops

theorem reachable_inv {valid : Valid} {s : State} (h : Reachable valid s) : Inv s := by
  obtain ⟨ops, rfl⟩ := h
  exact inv_run valid inv_init ops

end OZ.RegClaims
