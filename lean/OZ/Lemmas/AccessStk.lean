import OZ.Lemmas.Access
import OZ.Model.AccessStk
/-
For C06, machine `stk`: each role guard of the stacked entry points succeeds exactly when `Guard.Holds`; the entry points
as iffs.
-/
namespace OZ.Access.Stk
open OZ.Access

/-- the condition of one guard: the named account holds (one of) the role(s) and, for the `only_*`
macros, authorized the call -/
def Guard.Holds (s : St) (auth : List Nat) (a b : Nat) (g : Guard) : Prop :=
  (∃ r ∈ g.roles, s.holds (g.who a b) r = true) ∧ (g.needsAuth = true → g.who a b ∈ auth)

theorem bind_ok {ε α β} (a : α) (f : α → Except ε β) : ((Except.ok a : Except ε α) >>= f) = f a := rfl

theorem requireAuth_iff {auth : List Nat} {a : Nat} : requireAuth auth a = .ok () ↔ a ∈ auth :=
  ⟨requireAuth_ok, requireAuth_of_mem⟩

theorem ensureRole_iff {s : St} {r c : Nat} : ensureRole s r c = .ok () ↔ s.holds c r = true := require_iff

theorem ensureAnyRole_iff {s : St} {rs : List Nat} {c : Nat} :
    ensureAnyRole s rs c = .ok () ↔ ∃ r ∈ rs, s.holds c r = true := by
  unfold ensureAnyRole
  rw [require_iff, List.any_eq_true]

theorem guard_iff {s : St} {auth : List Nat} {a b : Nat} {g : Guard} :
    g.run s auth a b = .ok () ↔ g.Holds s auth a b := by
  cases g with
  | has p r =>
    simp only [Guard.run, Guard.Holds, Guard.roles, Guard.needsAuth, Guard.who, Guard.onB]
    rw [ensureRole_iff]
    simp
  | only p r =>
    simp only [Guard.run, Guard.Holds, Guard.roles, Guard.needsAuth, Guard.who, Guard.onB]
    rw [unit_ok_iff, ensureRole_iff, requireAuth_iff]
    simp
  | hasAny p rs =>
    simp only [Guard.run, Guard.Holds, Guard.roles, Guard.needsAuth, Guard.who, Guard.onB]
    rw [ensureAnyRole_iff]
    simp
  | onlyAny p rs =>
    simp only [Guard.run, Guard.Holds, Guard.roles, Guard.needsAuth, Guard.who, Guard.onB]
    rw [unit_ok_iff, ensureAnyRole_iff, requireAuth_iff]
    simp

theorem runGuards_iff {s : St} {auth : List Nat} {a b : Nat} {gs : List Guard} :
    runGuards s auth a b gs = .ok () ↔ ∀ g ∈ gs, g.Holds s auth a b := by
  induction gs with
  | nil => exact ⟨fun _ g hg => (by cases hg), fun _ => rfl⟩
  | cons g gs ih =>
    simp only [runGuards]
    rw [unit_ok_iff, guard_iff, ih]
    simp

theorem bump_iff {s s' : St} :
    s.bump = .ok s' ↔ s.counter + 1 ≤ I32_MAX ∧ s' = { s with counter := s.counter + 1 } := by
  unfold St.bump
  constructor
  · intro h
    split at h
    · cases h
    · injection h with h
      exact ⟨by omega, h.symm⟩
  · rintro ⟨h1, h2⟩
    rw [if_neg (by omega), h2]

theorem callWith_iff {s s' : St} {auth : List Nat} {gs : List Guard} {a b : Nat} :
    s.callWith auth gs a b = .ok s' ↔
      (∀ g ∈ gs, g.Holds s auth a b) ∧ s.counter + 1 ≤ I32_MAX ∧ s' = { s with counter := s.counter + 1 } := by
  unfold St.callWith
  constructor
  · intro h
    obtain ⟨u, hg, hb⟩ := bind_eq_ok h
    exact ⟨runGuards_iff.1 hg, bump_iff.1 hb⟩
  · rintro ⟨h1, h2⟩
    rw [runGuards_iff.2 h1]
    exact bump_iff.2 h2

theorem call_iff {s s' : St} {auth : List Nat} {f : Fn} {a b : Nat} :
    s.call auth f a b = .ok s' ↔
      f.outerGuard.Holds s auth a b ∧ f.innerGuard.Holds s auth a b ∧
      s.counter + 1 ≤ I32_MAX ∧ s' = { s with counter := s.counter + 1 } := by
  unfold St.call
  rw [callWith_iff]
  simp only [Fn.guards, List.mem_cons, List.not_mem_nil, or_false, forall_eq_or_imp, forall_eq]
  constructor
  · rintro ⟨⟨h1, h2⟩, h3⟩; exact ⟨h2, h1, h3⟩
  · rintro ⟨h1, h2, h3⟩; exact ⟨⟨h2, h1⟩, h3⟩

theorem enforceAdminAuth_iff {s : St} {auth : List Nat} {ad : Nat} :
    enforceAdminAuth s auth = .ok ad ↔ s.admin = some ad ∧ ad ∈ auth := by
  unfold enforceAdminAuth
  cases h : s.admin with
  | none => exact ⟨fun h => (by cases h), fun h => (by cases h.1)⟩
  | some x =>
    simp only
    constructor
    · intro h1
      obtain ⟨u, h2, h3⟩ := bind_eq_ok h1
      injection h3 with h3
      subst h3
      exact ⟨rfl, requireAuth_ok h2⟩
    · rintro ⟨h1, h2⟩
      injection h1 with h1
      subst h1
      rw [requireAuth_of_mem h2]
      rfl

theorem knownRole_iff {role : Nat} : knownRole role = .ok () ↔ role < 3 := by
  unfold knownRole
  rw [require_iff]
  simp

theorem setHolds_true_of_holds {h : Nat → Nat → Bool} {a r : Nat} (hh : h a r = true) :
    setHolds h a r true = h := by
  funext x y
  unfold setHolds
  by_cases c : x = a ∧ y = r
  · rw [if_pos c, c.1, c.2, hh]
  · rw [if_neg c]

theorem grant_iff {s s' : St} {auth : List Nat} {acct role : Nat} :
    s.grant auth acct role = .ok s' ↔
      (∃ ad, s.admin = some ad ∧ ad ∈ auth) ∧ role < 3 ∧
      s' = { s with holds := setHolds s.holds acct role true } := by
  unfold St.grant
  constructor
  · intro h
    obtain ⟨ad, h1, h⟩ := bind_eq_ok h
    obtain ⟨u, h2, h⟩ := bind_eq_ok h
    refine ⟨⟨ad, enforceAdminAuth_iff.1 h1⟩, knownRole_iff.1 h2, ?_⟩
    split at h
    · rename_i hh
      injection h with h
      rw [setHolds_true_of_holds hh]
      exact h.symm
    · injection h with h
      exact h.symm
  · rintro ⟨⟨ad, h1⟩, h2, h3⟩
    rw [enforceAdminAuth_iff.2 h1]
    simp only [bind_ok]
    rw [knownRole_iff.2 h2]
    simp only [bind_ok]
    split
    · rename_i hh
      rw [h3, setHolds_true_of_holds hh]
      rfl
    · rw [h3]; rfl

theorem revoke_iff {s s' : St} {auth : List Nat} {acct role : Nat} :
    s.revoke auth acct role = .ok s' ↔
      (∃ ad, s.admin = some ad ∧ ad ∈ auth) ∧ role < 3 ∧ s.holds acct role = true ∧
      s' = { s with holds := setHolds s.holds acct role false } := by
  unfold St.revoke
  constructor
  · intro h
    obtain ⟨ad, h1, h⟩ := bind_eq_ok h
    obtain ⟨u, h2, h⟩ := bind_eq_ok h
    obtain ⟨u', h3, h⟩ := bind_eq_ok h
    injection h with h
    exact ⟨⟨ad, enforceAdminAuth_iff.1 h1⟩, knownRole_iff.1 h2, require_iff.1 h3, h.symm⟩
  · rintro ⟨⟨ad, h1⟩, h2, h3, h4⟩
    rw [enforceAdminAuth_iff.2 h1]
    simp only [bind_ok]
    rw [knownRole_iff.2 h2]
    simp only [bind_ok]
    rw [require_iff.2 h3, h4]
    rfl

theorem step_of_error {s : St} {auth : List Nat} {op : Op} (h : ∀ s', s.apply auth op ≠ .ok s') :
    St.step s (auth, op) = s := by
  unfold St.step
  cases hx : s.apply auth op with
  | error e => rfl
  | ok s' => exact (h s' hx).elim

theorem step_of_ok {s s' : St} {auth : List Nat} {op : Op} (h : s.apply auth op = .ok s') :
    St.step s (auth, op) = s' := by
  unfold St.step
  simp only [h]

theorem apply_keeps {s s' : St} {auth : List Nat} {o : Op} (h : s.apply auth o = .ok s') :
    s'.admin = s.admin := by
  cases o with
  | call f a b => obtain ⟨-, -, -, e⟩ := call_iff.1 h; rw [e]
  | grant a r => obtain ⟨-, -, e⟩ := grant_iff.1 h; rw [e]
  | revoke a r => obtain ⟨-, -, -, e⟩ := revoke_iff.1 h; rw [e]

end OZ.Access.Stk
