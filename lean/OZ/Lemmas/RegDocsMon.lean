import OZ.Lemmas.RegDocs
import OZ.Lemmas.RegMon
import OZ.Model.RegDocsMon
/-
For the soundness of the `docs` monitor of C20 (OZ/Props/C20eMon.lean): the monitor's plain map has the entries of the
flat list the buckets represent (`AgreeL`).
-/
namespace OZ.RegDocs.Mon
open OZ.Reg OZ.RegMon OZ.RegDocs

structure AgreeL (g : Mon) (s : State) (l : List Entry) : Prop where
  rep : Rep s l
  gnames : (names g).Nodup
  mem : ∀ e, e ∈ g.map ↔ e ∈ l

structure Agree (g : Mon) (s : State) (u : Nat) : Prop where
  u : g.u = u
  list : ∃ l, AgreeL g s l

theorem AgreeL.perm {g : Mon} {s : State} {l : List Entry} (h : AgreeL g s l) : g.map.Perm l :=
  perm_of_nodup_mem (entries_nodup h.gnames) (entries_nodup h.rep.names) h.mem

theorem AgreeL.len {g : Mon} {s : State} {l : List Entry} (h : AgreeL g s l) : g.map.length = l.length :=
  h.perm.length_eq

theorem AgreeL.mem_names {g : Mon} {s : State} {l : List Entry} (h : AgreeL g s l) (n : Nat) :
    n ∈ names g ↔ n ∈ l.map (·.1) := (h.perm.map (·.1)).mem_iff

theorem AgreeL.lookup_eq {g : Mon} {s : State} {l : List Entry} (h : AgreeL g s l) (n : Nat) :
    lookup g n = getDocument s n := by
  unfold lookup
  cases hf : g.map.find? (fun e => e.1 == n) with
  | some e =>
    have h1 := List.mem_of_find?_eq_some hf
    have h2 : e.1 = n := by simpa using List.find?_some hf
    have : (n, e.2) ∈ l := by rw [← h2]; exact (h.mem e).1 h1
    exact ((rep_getDocument h.rep n e.2).2 this).symm
  | none =>
    symm
    rw [Option.map_none, rep_getDocument_none h.rep]
    intro hm
    obtain ⟨e, he, hn⟩ := List.mem_map.1 hm
    have := List.find?_eq_none.1 hf e ((h.mem e).2 he)
    simp [hn] at this

theorem AgreeL.lookup_isSome {g : Mon} {s : State} {l : List Entry} (h : AgreeL g s l) (n : Nat) :
    (lookup g n).isSome = true ↔ n ∈ l.map (·.1) := by
  rw [h.lookup_eq]
  cases hg : getDocument s n with
  | none => simp [(rep_getDocument_none h.rep n).1 hg]
  | some d =>
    simp only [Option.isSome_some, true_iff]
    exact List.mem_map.2 ⟨(n, d), (rep_getDocument h.rep n d).1 hg, rfl⟩

theorem mem_replace_key {m : List Entry} {n : Nat} (hm : n ∈ m.map (·.1)) (v : Doc) (x : Nat) (d : Doc) :
    (x, d) ∈ m.map (fun e => if e.1 == n then (n, v) else e) ↔ ((x ≠ n ∧ (x, d) ∈ m) ∨ (x = n ∧ d = v)) := by
  obtain ⟨e0, he0, hn0⟩ := List.mem_map.1 hm
  rw [List.mem_map]
  constructor
  · rintro ⟨e, he, hfe⟩
    by_cases hen : e.1 = n
    · rw [if_pos (beq_iff_eq.2 hen)] at hfe
      exact Or.inr ⟨(Prod.mk.inj hfe).1.symm, (Prod.mk.inj hfe).2.symm⟩
    · rw [if_neg (mt beq_iff_eq.1 hen)] at hfe
      subst hfe; exact Or.inl ⟨hen, he⟩
  · rintro (⟨hx, hm⟩ | ⟨rfl, rfl⟩)
    · exact ⟨(x, d), hm, if_neg (mt beq_iff_eq.1 hx)⟩
    · exact ⟨e0, he0, if_pos (beq_iff_eq.2 hn0)⟩

theorem names_replace (m : List Entry) (n : Nat) (v : Doc) :
    (m.map (fun e => if e.1 == n then (n, v) else e)).map (·.1) = m.map (·.1) := by
  rw [List.map_map]
  refine List.map_congr_left fun e _ => ?_
  by_cases he : e.1 = n <;> simp [he]

/-- `MAX_URI_LEN` and `MAX_DOCUMENTS` are the monitor's numerals 200 and 5000, whence `Iff.rfl` at the two limit checks -/
theorem decides {g : Mon} {s : State} {u : Nat} (ha : Agree g s u) (op : Op) :
    Decides (Agree · · u) (step s op) (plainOne g op) := by
  obtain ⟨l, hl⟩ := ha.list
  have h := hl.rep
  cases op with
  | set n u hsh ts =>
    rw [step, setDocument, plainOne]
    refine .ite Iff.rfl fun _ => ?_
    cases hi : s.index n with
    | some i =>
      obtain ⟨d0, hd0⟩ := (h.index n i).1 hi
      have hin : n ∈ l.map (·.1) := List.mem_map.2 ⟨_, List.mem_of_getElem? hd0, rfl⟩
      obtain ⟨s', hs', hr⟩ := rep_overwrite h hi ⟨u, hsh, ts⟩
      refine .accepted hs' (if_pos ((hl.lookup_isSome n).2 hin)) ⟨ha.u, _, hr, ?_, fun ⟨x, d⟩ => ?_⟩
      · unfold names; rw [names_replace]; exact hl.gnames
      · exact (mem_replace_key ((hl.mem_names n).2 hin) _ x d).trans
          (.trans (by rw [hl.mem]) (mem_set_key h.names hd0 _ x d).symm)
    | none =>
      have hnm := (index_none_iff h n).1 hi
      have hng : n ∉ names g := fun hc => hnm ((hl.mem_names n).1 hc)
      rw [if_neg fun hc => hnm ((hl.lookup_isSome n).1 hc)]
      refine .ite (by rw [hl.len, h.count]; exact Iff.rfl) fun hc => .accepted rfl rfl
        ⟨ha.u, _, rep_append h hnm _ (by rw [← h.count]; exact Nat.lt_of_not_le hc), ?_, fun ⟨x, d⟩ => ?_⟩
      · unfold names; rw [List.map_append]; exact nodup_append_singleton hl.gnames hng
      · exact (mem_append_key hng _ x d).trans (.trans (by rw [hl.mem]) (mem_append_key hnm _ x d).symm)
  | remove n =>
    rw [step, plainOne]
    by_cases hin : n ∈ l.map (·.1)
    · obtain ⟨s', hs⟩ := removeDocument_accepts h hin
      obtain ⟨_, l', hr, hmem⟩ := removeDocument_ok h hs
      refine .accepted hs (if_pos ((hl.lookup_isSome n).2 hin)) ⟨ha.u, l', hr,
        (List.filter_sublist.map _).nodup hl.gnames, fun ⟨x, d⟩ => ?_⟩
      show (x, d) ∈ g.map.filter (fun e => e.1 ≠ n) ↔ _
      rw [List.mem_filter, hmem, hl.mem, decide_eq_true_eq, and_comm]
    · rw [removeDocument, (index_none_iff h n).2 hin, if_neg fun hc => hin ((hl.lookup_isSome n).1 hc)]
      exact .refused

/-- the model side of a command: the accepted ops are committed one by one -/
def mstep (acc : State × Bool) (op : Op) : State × Bool :=
  match step acc.1 op with
  | .ok s2 => (s2, acc.2)
  | .error _ => (acc.1, false)

theorem fold_agree (ops : List Op) : ∀ (g : Mon) (s : State) (u : Nat) (b : Bool) (w : String) (nl : Bool),
    Agree g s u →
    Agree (ops.foldl foldStep (g, b, w, nl)).1 (ops.foldl mstep (s, b)).1 u ∧
    (ops.foldl foldStep (g, b, w, nl)).2.1 = (ops.foldl mstep (s, b)).2 := by
  induction ops with
  | nil => intro g s u b w nl ha; exact ⟨ha, rfl⟩
  | cons op ops ih =>
    intro g s u b w nl ha
    simp only [List.foldl_cons]
    cases hs : step s op with
    | ok s' =>
      obtain ⟨g', hp, ha'⟩ := (decides ha op).ok s' hs
      have e1 : foldStep (g, b, w, nl) op = (g', b, w, nl || (g.map.length = 4999 ∧ g'.map.length = 5000)) := by
        simp only [foldStep, hp]
      have e2 : mstep (s, b) op = (s', b) := by simp only [mstep, hs]
      rw [e1, e2]
      exact ih g' s' u b w _ ha'
    | error e =>
      obtain ⟨w', hp⟩ := (decides ha op).err hs
      have e1 : foldStep (g, b, w, nl) op = (g, false, (if b then w' else w), nl) := by
        simp only [foldStep, hp]
      have e2 : mstep (s, b) op = (s, false) := by simp only [mstep, hs]
      rw [e1, e2]
      exact ih g s u false _ nl ha

/-- the left side is `flat s` of OZ/Props/C20eMon.lean, the buckets the driver concatenates -/
theorem rep_flat {s : State} {l : List Entry} (h : Rep s l) :
    (List.range (nBuckets (getDocumentCount s))).flatMap (getDocuments s) = l := by
  rw [← rep_entries h]
  unfold entries nBuckets getDocumentCount
  split <;> rfl

theorem gpOk_model {g : Mon} {s : State} {l : List Entry} (ha : AgreeL g s l) (n : Nat) :
    gpOk g (n, getDocument s n) = true := by
  unfold gpOk
  simp only [ha.lookup_eq n]
  exact beq_self_eq_true _

theorem atOk_model {g : Mon} {s : State} {l : List Entry} (ha : AgreeL g s l) (i : Nat) :
    atOk g l.length (i, (getDocumentByIndex s i).map (·.1)) = true := by
  unfold atOk
  simp only
  rw [rep_byIndex ha.rep]
  cases hi : l[i]? with
  | none =>
    have : l.length ≤ i := by simpa using hi
    simp; omega
  | some e =>
    have hlt : i < l.length := by rw [List.getElem?_eq_some_iff] at hi; exact hi.1
    have hc : (lookup g e.1).isSome = true :=
      (ha.lookup_isSome e.1).2 (List.mem_map.2 ⟨e, List.mem_of_getElem? hi, rfl⟩)
    simp [hlt, hc]

theorem fullOk_model {g : Mon} {s : State} {l : List Entry} (ha : AgreeL g s l) :
    fullOk g (l.map (fun e => (e.1, some e.2))) = true := by
  unfold fullOk
  have hm : (l.map (fun e => (e.1, some e.2))).map (·.1) = l.map (·.1) := by
    rw [List.map_map]; rfl
  rw [hm]
  simp only [decide_eq_true_eq]
  refine ⟨(nodupB_iff _).2 ha.rep.names, (sameSet_iff _ _).2 (fun x => (ha.mem_names x).symm), ?_⟩
  rw [List.all_eq_true]
  intro x hx
  obtain ⟨e, he, rfl⟩ := List.mem_map.1 hx
  simp only
  rw [ha.lookup_eq, (rep_getDocument ha.rep e.1 e.2).2 he]
  exact beq_self_eq_true _

theorem bk_model {s : State} {l : List Entry} (h : Rep s l) :
    (List.range (nBuckets l.length + 1)).map (fun b => (getDocuments s b).length) = bkWant l.length := by
  unfold bkWant
  refine List.map_congr_left (fun b _ => ?_)
  unfold getDocuments
  rw [h.buckets, length_chunk]
  rfl

end OZ.RegDocs.Mon
