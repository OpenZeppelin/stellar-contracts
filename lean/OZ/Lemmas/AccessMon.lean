import OZ.Lemmas.AccessOps
import OZ.Lemmas.Lists
import OZ.Model.AccessMon
/-
For the soundness of the C06 monitor (OZ/Props/C06Mon.lean): what a state satisfying the storage invariant shows of itself
passes the monitor's checks; `Agree` and `MInv`, in which soundness is stated.
-/
namespace OZ.Access.Mon
open OZ.Host OZ.Access
open OZ.RoleTransfer (Flavor)

theorem firstFail_none {α} {f : α → Option String} {l : List α} (h : ∀ x, x ∈ l → f x = none) :
    firstFail f l = none := by
  induction l with
  | nil => rfl
  | cons x xs ih =>
    unfold firstFail
    rw [h x (List.mem_cons_self ..)]
    exact ih (fun y hy => h y (List.mem_cons_of_mem _ hy))

theorem nodupB_of_nodup {l : List Nat} (h : l.Nodup) : nodupB l = true := by
  unfold nodupB
  rw [Lists.eraseDups_of_nodup h]
  simp

theorem memOf_modelRole (s : State) (r : Nat) : memOf (modelRole s r) = enumOf s r := rfl

theorem idxAt_modelRole (s : State) (r : Nat) {a : Nat} (h : a ∈ accs) :
    idxAt (modelRole s r) a = hasRoleQ s a r := by
  have hlt : a < N := List.mem_range.mp h
  unfold idxAt modelRole accs
  simp only
  rw [List.getElem?_map, List.getElem?_range hlt]
  rfl

theorem showOob_F {s : State} {r : Nat} (hi : RoleInv s r) : showOob s r = "F" := by
  unfold showOob getRoleMember
  rw [hi.beyond (cnt s r) (Nat.le_refl _)]

theorem checkRole_model {s : State} (hi : Inv s) (r : Nat) :
    checkRole (memb s) s.existing (modelRole s r) = none := by
  have hr := hi.role r
  have c1 : (memOf (modelRole s r)).length = (modelRole s r).members.length := by
    rw [memOf_modelRole, enumOf_length hr]; exact (members_length s r).symm
  have c2 : (modelRole s r).members.length = (modelRole s r).count := members_length s r
  have c3 : nodupB (memOf (modelRole s r)) = true := nodupB_of_nodup (enumOf_nodup hr)
  have c4 : (modelRole s r).oob = "F" := showOob_F hr
  have c5 : hasRoleDiffers (memb s) (modelRole s r) = false := by
    unfold hasRoleDiffers
    rw [List.any_eq_false]
    intro a ha
    rw [idxAt_modelRole s r ha]
    simp [memb, modelRole]
  have c6 : membersDiffer (memb s) (modelRole s r) = false := by
    unfold membersDiffer
    rw [Bool.or_eq_false_iff, List.any_eq_false, List.any_eq_false, memOf_modelRole]
    refine ⟨?_, ?_⟩
    · intro a ha
      have := (mem_enumOf hr).mp ha
      simp [modelRole, this]
    · intro a _
      show ¬ (memb s a r && !(enumOf s r).contains a) = true
      cases hm : memb s a r with
      | false => simp
      | true => simp [(mem_enumOf hr).mpr hm]
  have c7 : indexWrong (modelRole s r) = false := by
    unfold indexWrong
    rw [List.any_eq_false]
    intro a ha
    rw [idxAt_modelRole s r ha, memOf_modelRole]
    cases hx : hasRoleQ s a r with
    | none => simp
    | some i => simp [enumOf_getElem? hr hx]
  have c8 : ((s.existing.contains (modelRole s r).role) != decide ((modelRole s r).count > 0)) = false := by
    show ((s.existing.contains r) != decide (cnt s r > 0)) = false
    by_cases h : 0 < cnt s r
    · have := (hi.exIff r).mpr h
      simp [this, h]
    · have : r ∉ s.existing := fun hm => h ((hi.exIff r).mp hm)
      simp [this, h]
  unfold checkRole
  rw [if_neg_not c1, if_neg_not c2, if_neg_not c3, if_neg_not c4, if_neg (Bool.eq_false_iff.mp c5),
    if_neg (Bool.eq_false_iff.mp c6), if_neg (Bool.eq_false_iff.mp c7), if_neg (Bool.eq_false_iff.mp c8)]

theorem existingCheck_model {s : State} (hi : Inv s) (touched accts : List Nat)
    (hacc : ∀ a r, memb s a r = true → a ∈ accts) :
    existingCheck (memb s) touched accts s.existing = none := by
  have c1 : nodupB s.existing = true := nodupB_of_nodup hi.exNodup
  have c2 : ¬ s.existing.length > 256 := by have := hi.exLen; unfold MAX_ROLES at this; omega
  have c3 : existingEmpty (memb s) accts s.existing = false := by
    unfold existingEmpty
    rw [List.any_eq_false]
    intro r hr
    obtain ⟨a, hm⟩ := (hi.role r).cnt_pos_iff.mp ((hi.exIff r).mp hr)
    have : (univ accts).any (fun a => memb s a r) = true := by
      rw [List.any_eq_true]
      exact ⟨a, by unfold univ; exact List.mem_append_right _ (hacc a r hm), hm⟩
    simp [this]
  have c4 : existingMissing (memb s) touched s.existing = false := by
    unfold existingMissing
    rw [List.any_eq_false]
    intro r _
    cases hany : accs.any (fun a => memb s a r) with
    | false => simp
    | true =>
      rw [List.any_eq_true] at hany
      obtain ⟨a, -, ha⟩ := hany
      have : r ∈ s.existing := (hi.exIff r).mpr ((hi.role r).cnt_pos_iff.mpr ⟨a, ha⟩)
      simp [this]
  unfold existingCheck
  rw [if_neg_not c1, if_neg c2, if_neg (Bool.eq_false_iff.mp c3), if_neg (Bool.eq_false_iff.mp c4)]

/-! ### monitor state ↔ model state -/

structure MInv (c : Cfg) (x : GS) : Prop where
  ginv : GInv x
  adm : ∃ g, OZ.RoleTransfer.Inv c ⟨x.s.adm, g⟩
  own : ∃ g, OZ.RoleTransfer.Inv c ⟨x.s.own, g⟩

structure Agree (m : Mon) (x : GS) : Prop where
  g : m.g = x.g
  admin : m.admin = getAdmin x.s
  owner : m.owner = x.s.own.holder
  ra : m.ra = (List.range R).map (getRoleAdmin x.s)
  raG : m.raG = x.s.roleAdmin
  str : m.first = false → m.stateStr = persistStr x.s
  accts : ∀ a r, x.g a r = true → a ∈ m.accts

def accepted (c : Cfg) (s : State) (a : List Nat × Op) : Bool :=
  match apply c s a.1 a.2 with
  | .ok _ => true
  | .error _ => false

theorem initG_minv (c : Cfg) (admin owner : Option Nat) (now : Nat) : MInv c (initG admin owner now) :=
  ⟨initG_ginv admin owner now, ⟨none, OZ.RoleTransfer.init_inv c admin now⟩,
    ⟨none, OZ.RoleTransfer.init_inv c owner now⟩⟩

theorem stepG_minv (c : Cfg) {x : GS} (hx : MInv c x) (a : List Nat × Op) : MInv c (stepG c x a) :=
  ⟨stepG_ginv c hx.ginv a, by rw [stepG_s]; exact (step_sub c .admin hx.adm a).1,
    by rw [stepG_s]; exact (step_sub c .owner hx.own a).1⟩

/-! ### what the monitor knows, in terms of the model state -/

theorem inAuth_some {h : Nat} {auth : List Nat} (hm : h ∈ auth) : inAuth (some h) auth = true := by
  simpa [inAuth] using hm

theorem inAuth_true {p : Option Nat} {auth : List Nat} (h : inAuth p auth = true) :
    ∃ a, p = some a ∧ a ∈ auth := by
  cases p with
  | none => simp [inAuth] at h
  | some a => exact ⟨a, rfl, by simpa [inAuth] using h⟩

theorem roleAdminOf_eq {m : Mon} {x : GS} (ha : Agree m x) (r : Nat) :
    roleAdminOf m r = getRoleAdmin x.s r := by
  unfold roleAdminOf
  rw [ha.ra]
  by_cases h : r < R
  · rw [List.getElem?_map, List.getElem?_range h]; rfl
  · rw [List.getElem?_eq_none (by simp; omega)]
    simp only
    rw [ha.raG]; rfl

theorem mayAdminister_eq {m : Mon} {x : GS} (ha : Agree m x) (hs : memb x.s = x.g) (r k : Nat) :
    mayAdminister m r k = (isAdmin x.s k || isAdminRole x.s r k) := by
  unfold mayAdminister holdsAdminRole isAdmin isAdminRole
  rw [roleAdminOf_eq ha, ha.admin, ha.g, ← hs]
  congr 1
  · cases getAdmin x.s with
    | none => simp
    | some ad =>
      simp only [Option.some.injEq]
      by_cases e : k = ad
      · subst e; simp
      · have : ¬ ad = k := fun e' => e e'.symm
        simp [e, this]

theorem anyOf_eq {m : Mon} {x : GS} (ha : Agree m x) (hs : memb x.s = x.g) (k : Nat) (rs : List Nat) :
    anyOf m k rs = anyRole x.s k rs := by
  unfold anyOf anyRole
  rw [ha.g, ← hs]; rfl

theorem g_eq {m : Mon} {x : GS} (ha : Agree m x) (hs : memb x.s = x.g) (a r : Nat) :
    m.g a r = memb x.s a r := by rw [ha.g, ← hs]

/-! ### the verdict on the model's own calls -/

theorem sub_inAuth {c : Cfg} {f : OZ.RoleTransfer.Flavor} {t t' : RT} {auth : List Nat}
    {rt : OZ.RoleTransfer.Op} {p : Option Nat} (hp : p = t.holder) (h : subOp c f t auth rt = .ok t')
    (hacc : rt ≠ .accept) : inAuth p auth = true := by
  obtain ⟨hap, hna⟩ := subOp_ok h
  obtain ⟨hd, h1, h2⟩ := OZ.RoleTransfer.holder_auth_of_ok hap hacc hna
  rw [hp, h1]
  exact inAuth_some h2

theorem verdictAccepted_model {c : Cfg} {m : Mon} {x : GS} {auth : List Nat} {op : Op} {s' : State}
    (hs : memb x.s = x.g) (ha : Agree m x) (h : apply c x.s auth op = .ok s') (xr : List Nat) :
    verdictAccepted m auth op (modelObs s' xr true) = none := by
  cases op with
  | grant a r k =>
    obtain ⟨hk, hent, -⟩ := grantRole_ok h
    exact (if_neg_not (List.contains_iff_mem.mpr hk)).trans
      (if_neg_not ((mayAdminister_eq ha hs r k).trans hent))
  | revoke a r k =>
    obtain ⟨hk, hent, h2⟩ := revokeRole_ok h
    exact (if_neg_not (List.contains_iff_mem.mpr hk)).trans
      ((if_neg_not ((mayAdminister_eq ha hs r k).trans hent)).trans
        (if_neg_not ((g_eq ha hs a r).trans (revokeRoleNoAuth_ok h2).1)))
  | renounce r k =>
    obtain ⟨hk, h2⟩ := renounceRole_ok h
    exact (if_neg_not (List.contains_iff_mem.mpr hk)).trans
      (if_neg_not ((g_eq ha hs k r).trans (revokeRoleNoAuth_ok h2).1))
  | revokeNoAuth a r k =>
    exact if_neg_not ((g_eq ha hs a r).trans (revokeRoleNoAuth_ok h).1)
  | setRoleAdmin r ar =>
    obtain ⟨⟨a, h1, h2⟩, -⟩ := setRoleAdmin_ok h
    exact if_neg_not (by rw [ha.admin, h1]; exact inAuth_some h2)
  | adm rt =>
    obtain ⟨t, ht, -⟩ := liftRT_ok h
    have hin := sub_inAuth ha.admin ht
    cases rt with
    | accept => rfl
    | advance n => rfl
    | _ => exact if_neg_not (hin (fun e => nomatch e))
  | own rt =>
    obtain ⟨t, ht, -⟩ := liftRT_ok h
    have hin := sub_inAuth ha.owner ht
    cases rt with
    | accept => rfl
    | advance n => rfl
    | _ => exact if_neg_not (hin (fun e => nomatch e))
  | onlyRole k r b =>
    obtain ⟨h1, h2, -⟩ := (onlyRole_iff c x.s auth k r b).mp ⟨s', h⟩
    exact (if_neg_not ((g_eq ha hs k r).trans h1)).trans (if_neg_not (List.contains_iff_mem.mpr h2))
  | hasRole k r ba b =>
    obtain ⟨h1, h2, -⟩ := (hasRole_iff c x.s auth k r ba b).mp ⟨s', h⟩
    exact (if_neg_not ((g_eq ha hs k r).trans h1)).trans
      (if_neg fun e => e.2 (List.contains_iff_mem.mpr (h2 e.1)))
  | hasAnyRole k rs ba =>
    obtain ⟨h1, h2⟩ := (hasAnyRole_iff c x.s auth k rs ba).mp ⟨s', h⟩
    exact (if_neg_not ((anyOf_eq ha hs k rs).trans h1)).trans
      (if_neg fun e => e.2 (List.contains_iff_mem.mpr (h2 e.1)))
  | onlyAnyRole k rs =>
    obtain ⟨h1, h2⟩ := (onlyAnyRole_iff c x.s auth k rs).mp ⟨s', h⟩
    exact (if_neg_not ((anyOf_eq ha hs k rs).trans h1)).trans (if_neg_not (List.contains_iff_mem.mpr h2))
  | ensureAdminOrRole r k =>
    exact if_neg_not ((mayAdminister_eq ha hs r k).trans ((ensure_iff c x.s auth r k).mp ⟨s', h⟩))
  | advance n =>
    injection h with h; subst h
    exact if_neg fun e => e.2 (ha.str (Bool.eq_false_iff.mpr e.1)).symm
  | _ => rfl

theorem verdictRejected_model {c : Cfg} {m : Mon} {x : GS} {auth : List Nat} {op : Op} {e : Err}
    (hs : memb x.s = x.g) (ha : Agree m x) (h : apply c x.s auth op = .error e) (xr : List Nat) :
    verdictRejected m auth op (modelObs x.s xr false) = none := by
  have hno : ¬ ∃ s', apply c x.s auth op = .ok s' := fun ⟨s', h'⟩ => by rw [h] at h'; cases h'
  have orAuth : ∀ {ba : Bool} {k : Nat}, (¬ ba = true ∨ auth.contains k = true) → ba = true → k ∈ auth :=
    fun h2 hb => h2.elim (fun n => absurd hb n) List.contains_iff_mem.mp
  unfold verdictRejected
  rw [if_neg fun e => e.2 (ha.str (Bool.eq_false_iff.mpr e.1)).symm]
  cases op with
  | adm rt =>
    cases rt with
    | guarded =>
      exact if_neg fun hin =>
        let ⟨_, h1, h2⟩ := inAuth_true hin
        hno ((guarded_iff c .admin x.s auth).1.mpr ⟨_, ha.admin.symm.trans h1, h2⟩)
    | _ => rfl
  | own rt =>
    cases rt with
    | guarded =>
      exact if_neg fun hin =>
        let ⟨_, h1, h2⟩ := inAuth_true hin
        hno ((guarded_iff c .owner x.s auth).1.mpr ⟨_, ha.owner.symm.trans h1, h2⟩)
    | _ => rfl
  | onlyRole k r b =>
    exact if_neg fun ⟨h1, h2, h3⟩ =>
      hno ((onlyRole_iff c x.s auth k r b).mpr ⟨(g_eq ha hs k r).symm.trans h1, List.contains_iff_mem.mp h2, h3⟩)
  | hasRole k r ba b =>
    exact if_neg fun ⟨h1, h2, h3⟩ =>
      hno ((hasRole_iff c x.s auth k r ba b).mpr ⟨(g_eq ha hs k r).symm.trans h1, orAuth h2, h3⟩)
  | hasAnyRole k rs ba =>
    exact if_neg fun ⟨h1, h2⟩ =>
      hno ((hasAnyRole_iff c x.s auth k rs ba).mpr ⟨(anyOf_eq ha hs k rs).symm.trans h1, orAuth h2⟩)
  | onlyAnyRole k rs =>
    exact if_neg fun ⟨h1, h2⟩ =>
      hno ((onlyAnyRole_iff c x.s auth k rs).mpr ⟨(anyOf_eq ha hs k rs).symm.trans h1, List.contains_iff_mem.mp h2⟩)
  | ensureAdminOrRole r k =>
    exact if_neg fun h1 => hno ((ensure_iff c x.s auth r k).mpr ((mayAdminister_eq ha hs r k).symm.trans h1))
  | _ => rfl

theorem holderCheck_rejected {m : Mon} {x : GS} (ha : Agree m x) (op : Op) (xr : List Nat) :
    holderCheck m op (modelObs x.s xr false) = none := by
  unfold holderCheck
  rw [if_neg fun e => e.1 ha.admin.symm, if_neg fun e => e.1 ha.owner.symm,
    if_neg fun e => e.2 (ha.admin.symm.trans e.1), if_neg fun e => e.2 (ha.owner.symm.trans e.1)]

theorem holderCheck_accepted {c : Cfg} {m : Mon} {x : GS} {auth : List Nat} {op : Op} {s' : State} (hi : MInv c x)
    (ha : Agree m x) (h : apply c x.s auth op = .ok s') (xr : List Nat) :
    holderCheck m op (modelObs s' xr true) = none := by
  obtain ⟨-, a1, a2⟩ := sub_moves .admin hi.adm h
  obtain ⟨-, o1, o2⟩ := sub_moves .owner hi.own h
  unfold holderCheck
  rw [if_neg, if_neg, if_neg, if_neg]
  · exact fun e => e.2 (o1 (ha.owner.symm.trans e.1))
  · exact fun e => e.2 (a1 (ha.admin.symm.trans e.1))
  · exact fun e => e.2 ⟨rfl, by rcases o2 fun e' => e.1 (e'.trans ha.owner.symm) with e | e <;> rw [e] <;> rfl⟩
  · exact fun e => e.2 ⟨rfl, by rcases a2 fun e' => e.1 (e'.trans ha.admin.symm) with e | e <;> rw [e] <;> rfl⟩

theorem mem_addAcct_self (accts : List Nat) (a : Nat) : a ∈ addAcct accts a := by
  unfold addAcct
  split
  · rename_i h; exact List.contains_iff_mem.mp h
  · exact List.mem_cons_self ..

theorem mem_addAcct_of_mem {accts : List Nat} {a : Nat} (b : Nat) (h : a ∈ accts) : a ∈ addAcct accts b := by
  unfold addAcct
  split
  · exact h
  · exact List.mem_cons_of_mem _ h

theorem accts_step {g : PSet} {accts : List Nat} (h : ∀ a r, g a r = true → a ∈ accts) (op : Op) (ok : Bool) :
    ∀ a r, setStep g op ok a r = true → a ∈ acctStep accts op ok := by
  intro a r hs
  cases ok with
  | false => exact h a r hs
  | true =>
    have add : ∀ a' r', upd2 g a' r' true a r = true → a ∈ addAcct accts a' := by
      intro a' r' hu
      by_cases e : a = a' ∧ r = r'
      · rw [e.1]; exact mem_addAcct_self accts a'
      · rw [upd2_other _ _ _ _ _ _ e] at hu; exact mem_addAcct_of_mem a' (h a r hu)
    have del : ∀ a' r', upd2 g a' r' false a r = true → a ∈ accts := by
      intro a' r' hu
      by_cases e : a = a' ∧ r = r'
      · rw [e.1, e.2, upd2_same] at hu; cases hu
      · rw [upd2_other _ _ _ _ _ _ e] at hu; exact h a r hu
    cases op with
    | grant a' r' k => exact add a' r' hs
    | grantNoAuth a' r' k => exact add a' r' hs
    | revoke a' r' k => exact del a' r' hs
    | revokeNoAuth a' r' k => exact del a' r' hs
    | renounce r' k => exact del k r' hs
    | _ => exact h a r hs

end OZ.Access.Mon
