import OZ.Lemmas.Gates
import OZ.Model.GatesStk
/-
Lemmas of the machine `stk` (C16; OZ/Props/C16Stk.lean, OZ/Props/C16StkMon.lean): each guard of the stacked entry points
succeeds exactly when its condition holds; `Authorized` is the condition of the authorization guard.
-/
namespace OZ.Gates.Stk
open OZ.Host OZ.Fungible OZ.Gates

def Authorized (s : Stk) (auth : List Nat) (caller : Nat) : Who → Prop
  | .owner => ∃ o, s.owner = some o ∧ o ∈ auth
  | .admin => ∃ o, s.admin = some o ∧ o ∈ auth
  | .role => s.isOp caller = true ∧ caller ∈ auth

theorem requireAuth_iff {auth : List Nat} {a : Nat} : requireAuth auth a = .ok () ↔ a ∈ auth :=
  ⟨requireAuth_ok, fun h => if_pos h⟩

theorem enforceAuth_iff {who : Option Nat} {auth : List Nat} :
    enforceAuth who auth = .ok () ↔ ∃ o, who = some o ∧ o ∈ auth := by
  cases who with
  | none => exact ⟨fun h => (by cases h), fun ⟨o, h, _⟩ => (by cases h)⟩
  | some o =>
    show requireAuth auth o = .ok () ↔ _
    rw [requireAuth_iff]
    exact ⟨fun h => ⟨o, rfl, h⟩, fun ⟨o', h, hm⟩ => by injection h with h; subst h; exact hm⟩

theorem ensureRole_iff {s : Stk} {c : Nat} : ensureRole s c = .ok () ↔ s.isOp c = true := by
  unfold ensureRole
  cases h : s.isOp c
  · simp
  · simp

theorem onlyRole_iff {s : Stk} {auth : List Nat} {c : Nat} :
    onlyRole s auth c = .ok () ↔ s.isOp c = true ∧ c ∈ auth := by
  unfold onlyRole
  rw [unit_ok_iff, ensureRole_iff, requireAuth_iff]

theorem authGuard_iff {s : Stk} {auth : List Nat} {c : Nat} {w : Who} :
    authGuard s auth c w = .ok () ↔ Authorized s auth c w := by
  cases w
  · exact enforceAuth_iff
  · exact enforceAuth_iff
  · exact onlyRole_iff

theorem pauseGuard_iff {s : Stk} {np : Bool} : pauseGuard s np = .ok () ↔ s.p.paused = np := by
  unfold pauseGuard whenPaused whenNotPaused
  cases np <;> cases h : s.p.paused <;> simp

/-- in either order of the attributes -/
theorem guards_iff {s : Stk} {auth : List Nat} {c : Nat} {sp : Spec} :
    s.guards auth c sp = .ok () ↔ s.p.paused = sp.needPaused ∧ Authorized s auth c sp.who := by
  unfold Stk.guards
  cases sp.authAbove
  · rw [if_neg (by simp), unit_ok_iff, authGuard_iff, pauseGuard_iff]
    exact And.comm
  · rw [if_pos rfl, unit_ok_iff, authGuard_iff, pauseGuard_iff]

/-- the counter afterwards in the form of the monitor's `Mon.counterF` -/
theorem body_iff {s s' : Stk} {f : Fn} :
    s.body f = .ok s' ↔ (f.isInc = true → s.counter + 1 ≤ I32_MAX) ∧
      s' = { s with counter := if f.isInc then s.counter + 1 else 0 } := by
  unfold Stk.body Stk.bump Stk.clear
  cases f.isInc
  · exact ⟨fun h => ⟨nofun, (Except.ok.inj h).symm⟩, fun h => congrArg Except.ok h.2.symm⟩
  · by_cases hr : s.counter + 1 > I32_MAX
    · rw [if_pos hr]; exact ⟨nofun, fun h => absurd (h.1 rfl) (by omega)⟩
    · rw [if_neg hr]
      exact ⟨fun h => ⟨fun _ => by omega, (Except.ok.inj h).symm⟩, fun h => congrArg Except.ok h.2.symm⟩

/-- an `inc_*` entry point is declared `when_not_paused`, a `reset_*` one `when_paused` -/
theorem needPaused_eq (f : Fn) : f.spec.needPaused = !f.isInc := by
  cases f <;> rfl

theorem call_iff {s s' : Stk} {auth : List Nat} {f : Fn} {c : Nat} :
    s.call auth f c = .ok s' ↔
      s.p.paused = f.spec.needPaused ∧ Authorized s auth c f.spec.who ∧ s.body f = .ok s' := by
  unfold Stk.call
  constructor
  · intro h
    obtain ⟨u, hg, hb⟩ := bind_eq_ok h
    obtain ⟨h1, h2⟩ := guards_iff.1 hg
    exact ⟨h1, h2, hb⟩
  · rintro ⟨h1, h2, hb⟩
    rw [guards_iff.2 ⟨h1, h2⟩]
    exact hb

theorem callerIsTheOwner_iff {s : Stk} {auth : List Nat} {c : Nat} :
    callerIsTheOwner s auth c = .ok () ↔ s.owner = some c ∧ c ∈ auth := by
  unfold callerIsTheOwner
  cases ho : s.owner with
  | none => exact ⟨fun h => (by cases h), fun h => (by cases h.1)⟩
  | some o =>
    simp only
    unfold callerIsOwner
    rw [unit_ok_iff, requireAuth_iff]
    by_cases hoc : o = c
    · subst hoc
      simp
    · rw [if_pos hoc]
      exact ⟨fun h => (by cases h.2), fun h => (by injection h.1 with h; exact (hoc h).elim)⟩

theorem pause_iff {s s' : Stk} {auth : List Nat} {c : Nat} :
    s.apply auth (.pause c) = .ok s' ↔
      s.p.paused = false ∧ s.owner = some c ∧ c ∈ auth ∧
      s' = { s with p := { paused := true, log := s.p.log ++ [.paused] } } := by
  simp only [Stk.apply]
  constructor
  · intro h
    obtain ⟨u, ha, h⟩ := bind_eq_ok h
    obtain ⟨p1, hp1, h⟩ := bind_eq_ok h
    injection h with h
    obtain ⟨e1, e2⟩ := pause_ok hp1
    obtain ⟨h1, h2⟩ := callerIsTheOwner_iff.1 ha
    subst e2
    exact ⟨e1, h1, h2, h.symm⟩
  · rintro ⟨h1, h2, h3, h4⟩
    rw [callerIsTheOwner_iff.2 ⟨h2, h3⟩]
    simp only [bind_ok, pause, whenNotPaused_false h1]
    rw [h4]; rfl

theorem unpause_iff {s s' : Stk} {auth : List Nat} {c : Nat} :
    s.apply auth (.unpause c) = .ok s' ↔
      s.p.paused = true ∧ s.owner = some c ∧ c ∈ auth ∧
      s' = { s with p := { paused := false, log := s.p.log ++ [.unpaused] } } := by
  simp only [Stk.apply]
  constructor
  · intro h
    obtain ⟨u, ha, h⟩ := bind_eq_ok h
    obtain ⟨p1, hp1, h⟩ := bind_eq_ok h
    injection h with h
    obtain ⟨e1, e2⟩ := unpause_ok hp1
    obtain ⟨h1, h2⟩ := callerIsTheOwner_iff.1 ha
    subst e2
    exact ⟨e1, h1, h2, h.symm⟩
  · rintro ⟨h1, h2, h3, h4⟩
    rw [callerIsTheOwner_iff.2 ⟨h2, h3⟩]
    simp only [bind_ok, unpause, whenPaused_true h1]
    rw [h4]; rfl

theorem Stk.step_or (s : Stk) (x : List Nat × Op) : s.step x = s ∨ s.apply x.1 x.2 = .ok (s.step x) := by
  unfold Stk.step
  cases s.apply x.1 x.2
  · exact .inl rfl
  · exact .inr rfl

theorem apply_keeps {s s' : Stk} {auth : List Nat} {o : Op} (h : s.apply auth o = .ok s') :
    s'.owner = s.owner ∧ s'.admin = s.admin ∧ s'.isOp = s.isOp := by
  cases o with
  | call f c => rw [(body_iff.1 (call_iff.1 h).2.2).2]; exact ⟨rfl, rfl, rfl⟩
  | pause c => obtain ⟨-, -, -, e⟩ := pause_iff.1 h; rw [e]; exact ⟨rfl, rfl, rfl⟩
  | unpause c => obtain ⟨-, -, -, e⟩ := unpause_iff.1 h; rw [e]; exact ⟨rfl, rfl, rfl⟩

end OZ.Gates.Stk
