import OZ.Lemmas.RwaMonChecks
/-
The C04 monitor's step reports nothing when each of its 23 checks is silent, and the reachable-state facts `Good`
are preserved. The two cases of a line (rejected, accepted) are assembled in OZ/Props/C04Mon.lean.
-/
namespace OZ.Rwa.Mon
open OZ.Host OZ.Fungible OZ.Rwa

theorem verdict_none {m : Mon} {l : Line} {o : Obs}
    (h1 : vGateTransfer m.reg m.prev l o = none) (h2 : vGateTransferFrom m.reg m.prev l o = none)
    (h3 : vGateMint m.reg m.prev l o = none) (h4 : vFrozenLeBalance o = none)
    (h5 : vForcedUnfreeze m.prev l o = none) (h6 : vBurnUnfreeze m.prev l o = none)
    (h7 : vRecover m.prev l o = none) (h8 : vMove m.prev l o = none)
    (h9 : vFrameFrozen m.prev l o = none) (h10 : vFrameAddrFrozen m.prev l o = none)
    (h11 : vFreezeEffect m.prev l o = none) (h12 : vUnfreezeEffect m.prev l o = none)
    (h13 : vNotify m.prev l o = none) (h14 : vBound m.prev l o = none)
    (h15 : vFanout m.reg m.prev l o = none) (h16 : vConsulted m.reg l o = none)
    (h17 : vRegistry m.reg l o = none) (h18 : vAddModule m.reg l o = none)
    (h19 : vRemoveModule m.reg l o = none) (h20 : vOperator m.admin l o = none)
    (h21 : vSum o = none) (h22 : vRollback m.prev o = none)
    (h23 : vReplay (o.evs.foldl replayBase m.replay) o = none) : (checkCore m l o).2 = none := by
  unfold checkCore verdict
  rw [h1, h2, h3, h4, h5, h6, h7, h8, h9, h10, h11, h12, h13, h14, h15, h16, h17, h18, h19, h20, h21, h22, h23]
  rfl

theorem good_ok {c : Cfg} {s s' : State} {cs : List Comp} {auth : List Nat} {op : Op} {r : Bool}
    (hg : Good s cs) (hU : ∀ a ∈ op.addrs, a < N) (hE : isEnvModule op = false)
    (h : applyRet c s auth op = .ok (s', r)) : Good s' cs := by
  have st := applyRet_step h
  obtain ⟨e1, e2⟩ := (st.post hg.frozen).scripts hE
  refine ⟨(st.inv List.nodup_range hg.inv (fun a ha => List.mem_range.mpr (hU a ha))).1,
    st.frozenInv hg.frozen, st.modsNodup hg.nodup, st.replayOK hg.replay, ?_, hg.len⟩
  unfold CompInv
  rw [e1, e2]
  exact hg.comp

/-- `setAt` has an entry to replace only for `i < cs.length`; beyond it the module keeps the default script -/
theorem getD_setAt_script {P : Comp → Prop} {cs : List Comp} {i m : Nat} {k : Comp} (hk : m = i → P k)
    (hd : P Comp.default) (hm : m ≠ i → P (cs.getD m Comp.default)) : P ((setAt cs i k).getD m Comp.default) := by
  rw [getD_setAt]
  by_cases hmi : m = i
  · by_cases hl : i < cs.length
    · rw [if_pos ⟨hmi, hl⟩]; exact hk hmi
    · rw [if_neg (fun e => hl e.2), getD_beyond _ _ _ (by omega)]; exact hd
  · rw [if_neg (fun e => hmi e.1)]; exact hm hmi

theorem good_envMod {c : Cfg} {s s' : State} {cs : List Comp} {auth : List Nat} {i : Nat} {k : Comp} {r : Bool}
    (hg : Good s cs) (h : applyRet c s auth (.envModule i k.canTransfer k.canCreate) = .ok (s', r)) :
    Good s' (setAt cs i k) := by
  have ha := applyRet_apply h
  have e : s' = _ := apply_ok ha
  subst e
  refine ⟨hg.inv, hg.frozen, hg.nodup, hg.replay, ⟨?_, ?_⟩, by rw [setAt_length]; exact hg.len⟩
  · intro m f t a hmax hv
    refine getD_setAt_script (P := fun k => k.canTransfer f t a = true) (fun e => ?_) (default_canTransfer f t a hmax)
      (fun ne => hg.comp.1 m f t a hmax ?_)
    · subst e; simpa [upd] using hv
    · simpa [upd, ne] using hv
  · intro m t a hmax hv
    refine getD_setAt_script (P := fun k => k.canCreate t a = true) (fun e => ?_) (default_canCreate t a hmax)
      (fun ne => hg.comp.2 m t a hmax ?_)
    · subst e; simpa [upd] using hv
    · simpa [upd, ne] using hv

end OZ.Rwa.Mon
