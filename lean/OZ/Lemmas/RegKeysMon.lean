import OZ.Lemmas.RegKeys
import OZ.Lemmas.RegMon
import OZ.Model.RegKeysMon
/-
For the soundness of the `keys` monitor of C20 (OZ/Props/C20aMon.lean): the monitor's plain relation against the model's
two storage maps (`pairsOf` / `keysOf` are permutations of `Pairs(k)` / `Topics(t)`). This monitor decides by a Boolean
`expect` and continues with `follow`, where the other registries have a `plain` step in `Except`; so `OZ.RegMon.Decides`
is not used here.
-/
namespace OZ.RegKeys.Mon
open OZ.Reg OZ.RegMon OZ.RegKeys

structure Agree (g : Mon) (s : State) (nk nt : Nat) : Prop where
  nk : g.nk = nk
  nt : g.nt = nt
  nodup : g.rel.Nodup
  mem : ∀ k t r, (k, t, r) ∈ g.rel ↔ (t, r) ∈ s.pairs k

theorem mem_keysOf (g : Mon) (t : Nat) (k : Key) : k ∈ keysOf g t ↔ ∃ r, (k, t, r) ∈ g.rel := by
  unfold keysOf
  rw [List.mem_eraseDups]
  simp only [List.mem_map, List.mem_filter, beq_iff_eq]
  constructor
  · rintro ⟨⟨k', t', r⟩, ⟨hm, rfl⟩, rfl⟩; exact ⟨r, hm⟩
  · rintro ⟨r, h⟩; exact ⟨(k, t, r), ⟨h, rfl⟩, rfl⟩

theorem pairsOf_perm {g : Mon} {s : State} {nk nt : Nat} (ha : Agree g s nk nt) (hI : Inv s) (k : Key) :
    (pairsOf g k).Perm (s.pairs k) :=
  perm_of_nodup_mem (nodup_fibre ha.nodup k) (hI.pairsNodup k)
    (fun p => (mem_fibre g.rel k p).trans (ha.mem k p.1 p.2))

theorem keysOf_perm {g : Mon} {s : State} {nk nt : Nat} (ha : Agree g s nk nt) (hI : Inv s) (t : Nat) :
    (keysOf g t).Perm (s.topics t) :=
  perm_of_nodup_mem (OZ.Lists.nodup_eraseDups _) (hI.topicsNodup t) (fun k => by
    rw [mem_keysOf, hI.twoWay]
    exact exists_congr (fun r => ha.mem k t r))

/-- `allowed` is here, and below, the harness's oracle `OZ.RegKeys.Mon.allowed` (OZ/Model/RegKeysMon.lean), not a variable -/
def accepted (s : State) (op : Op) : Bool :=
  match step allowed s op with
  | .ok _ => true
  | .error _ => false

theorem expect_allow_iff {g : Mon} {s : State} {nk nt : Nat} (ha : Agree g s nk nt) (hI : Inv s)
    (k : Key) (r t : Nat) :
    expect g (.allow k r t) = true ↔
      (k.1 ≠ 0 ∧ allowed r t = true ∧ (t, r) ∉ s.pairs k ∧
        (k ∈ s.topics t ∨ (s.topics t).length < MAX_KEYS_PER_TOPIC) ∧
        (s.pairs k).length < MAX_REGISTRIES_PER_KEY) := by
  have hl1 : (keysOf g t).length = (s.topics t).length := (keysOf_perm ha hI t).length_eq
  have hl2 : (pairsOf g k).length = (s.pairs k).length := (pairsOf_perm ha hI k).length_eq
  have hc : (keysOf g t).contains k = true ↔ k ∈ s.topics t := by
    rw [List.contains_iff_mem]; exact (keysOf_perm ha hI t).mem_iff
  have hd : g.rel.contains (k, t, r) = true ↔ (t, r) ∈ s.pairs k := by
    rw [List.contains_iff_mem]; exact ha.mem k t r
  simp only [expect, topicFull]
  rw [hl1, hl2]
  simp only [Bool.and_eq_true, Bool.not_eq_true', decide_eq_true_eq,
    ← Bool.not_eq_true, hc, hd, MAX_KEYS_PER_TOPIC, MAX_REGISTRIES_PER_KEY]
  constructor
  · rintro ⟨⟨⟨⟨h1, h2⟩, h3⟩, h4⟩, h5⟩
    refine ⟨h1, h2, h3, ?_, by omega⟩
    by_cases hk : k ∈ s.topics t
    · exact Or.inl hk
    · exact Or.inr (Nat.lt_of_not_le (fun h => h4 ⟨hk, h⟩))
  · rintro ⟨h1, h2, h3, h4, h5⟩
    refine ⟨⟨⟨⟨h1, h2⟩, h3⟩, ?_⟩, by omega⟩
    rintro ⟨hk, hl⟩
    rcases h4 with h | h
    · exact hk h
    · omega

theorem expect_remove_iff {g : Mon} {s : State} {nk nt : Nat} (ha : Agree g s nk nt)
    (k : Key) (r t : Nat) : expect g (.remove k r t) = true ↔ (t, r) ∈ s.pairs k := by
  show g.rel.contains (k, t, r) = true ↔ _
  rw [List.contains_iff_mem]; exact ha.mem k t r

theorem expect_ok {g : Mon} {s s' : State} {nk nt : Nat} (ha : Agree g s nk nt) (hI : Inv s) {op : Op}
    (hs : step allowed s op = .ok s') : expect g op = true ∧ Agree (applyOp g op) s' nk nt := by
  cases op with
  | allow k r t =>
    obtain ⟨hc, rfl⟩ := (allowKey_ok_iff allowed s s' k r t).1 hs
    refine ⟨(expect_allow_iff ha hI k r t).2 hc, ha.nk, ha.nt, ?_, ?_⟩
    · show (g.rel ++ [(k, t, r)]).Nodup
      exact nodup_append_singleton ha.nodup fun h1 => hc.2.2.1 ((ha.mem k t r).1 h1)
    · intro k' t' r'
      show (k', t', r') ∈ g.rel ++ [(k, t, r)] ↔ (t', r') ∈ updD s.pairs k (s.pairs k ++ [(t, r)]) k'
      rw [mem_updD_append, List.mem_append, List.mem_singleton, ha.mem, Prod.mk.injEq k', Prod.mk.injEq t']
  | remove k r t =>
    obtain ⟨hm, rfl⟩ := (removeKey_ok_iff hI s' k r t).1 hs
    refine ⟨(expect_remove_iff ha k r t).2 hm, ha.nk, ha.nt, ha.nodup.erase _, ?_⟩
    intro k' t' r'
    show (k', t', r') ∈ g.rel.erase (k, t, r) ↔ (t', r') ∈ updD s.pairs k ((s.pairs k).erase (t, r)) k'
    rw [mem_updD_erase _ _ _ (hI.pairsNodup k), ha.nodup.mem_erase_iff, ha.mem, ne_eq, Prod.mk.injEq k', Prod.mk.injEq t',
      and_comm]

theorem expect_err {g : Mon} {s : State} {nk nt : Nat} (ha : Agree g s nk nt) (hI : Inv s) {op : Op} {e : RErr}
    (hs : step allowed s op = .error e) : expect g op = false := by
  rw [← Bool.not_eq_true]
  intro h
  cases op with
  | allow k r t =>
    have : allowKey allowed s k r t = .ok _ :=
      (allowKey_ok_iff allowed s _ k r t).2 ⟨(expect_allow_iff ha hI k r t).1 h, rfl⟩
    rw [show step allowed s (.allow k r t) = allowKey allowed s k r t from rfl, this] at hs; cases hs
  | remove k r t =>
    have : removeKey s k r t = .ok _ :=
      (removeKey_ok_iff hI _ k r t).2 ⟨(expect_remove_iff ha k r t).1 h, rfl⟩
    rw [show step allowed s (.remove k r t) = removeKey s k r t from rfl, this] at hs; cases hs

theorem decision_agrees {g : Mon} {s : State} {nk nt : Nat} (ha : Agree g s nk nt) (hI : Inv s) (op : Op) :
    expect g op = accepted s op ∧ Agree (follow g op (accepted s op)) (next allowed s op) nk nt := by
  unfold accepted next follow
  cases hs : step allowed s op with
  | ok s' =>
    obtain ⟨h1, h2⟩ := expect_ok ha hI hs
    exact ⟨h1, h2⟩
  | error e => exact ⟨expect_err ha hI hs, ha⟩

end OZ.RegKeys.Mon
