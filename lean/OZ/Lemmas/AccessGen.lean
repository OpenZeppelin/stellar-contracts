import OZ.Model.RustSem
/-
`ensure_if_admin_or_admin_role` as `rs2lean.py` renders it, once per mode (`Access`, `AccessF`) over a store of its own:
both renderings unfold to `ensureC` on the fields of that store.
-/
namespace OZ.Access.Gen
open OZ.Rs

def ensureC (admin roleAdmin : Option Nat) (hasRole : Nat → Option Nat) (caller : Nat) : Comp Unit :=
  optCase admin
    (fun ad =>
      optCase roleAdmin
        (fun ar =>
          if (¬ ((decide (caller = ad)) = true)) ∧ (¬ ((Option.isSome (hasRole ar)) = true)) then Comp.panic
          else Comp.ok ())
        (if (¬ ((decide (caller = ad)) = true)) ∧ (¬ (false = true)) then Comp.panic else Comp.ok ()))
    (optCase roleAdmin
      (fun ar =>
        if (¬ (false = true)) ∧ (¬ ((Option.isSome (hasRole ar)) = true)) then Comp.panic else Comp.ok ())
      (if (¬ (false = true)) ∧ (¬ (false = true)) then Comp.panic else Comp.ok ()))

theorem leaf_iff (x y : Bool) :
    (if (¬ (x = true)) ∧ (¬ (y = true)) then Comp.panic else Comp.ok ()) = Comp.ok () ↔ x = true ∨ y = true := by
  cases x <;> cases y <;> decide

theorem ensureC_iff (admin roleAdmin : Option Nat) (hasRole : Nat → Option Nat) (caller : Nat) :
    ensureC admin roleAdmin hasRole caller = Comp.ok () ↔
      (admin = some caller ∨ ∃ ar, roleAdmin = some ar ∧ (hasRole ar).isSome = true) := by
  unfold ensureC
  cases admin <;> cases roleAdmin <;> simp only [optCase, leaf_iff] <;> simp [eq_comm (a := caller)]

end OZ.Access.Gen
