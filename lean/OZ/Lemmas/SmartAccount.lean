import OZ.Model.SmartAccount
import OZ.Lemmas.Except
/-
The specification vocabulary (`Applicable`, `Satisfied`, `Prec`, `Chosen`) in which the C03 theorems are stated, the storage
invariant `Inv`, and `get_valid_context_rules` in closed form (the list `validRules` when every listed id has its `Meta`
entry, which the invariant ensures, and `.contextRuleNotFound` otherwise). `pick` (the first matching rule of the
closed-form candidate list) decides `Chosen`; one context, a batch and the whole check are read off that equivalence.
-/
namespace OZ.SmartAccount

variable {O : Oracle} {s : Store} {now id : Nat} {c : Ctx} {all : List Signer} {r : Rule}

/-! ### specification vocabulary -/

/-- `r` is what `get_context_rule r.id` returns -/
def Stored (s : Store) (r : Rule) : Prop := getContextRule s r.id = .ok r

def Live (now : Nat) (r : Rule) : Prop := ∀ v, r.validUntil = some v → now ≤ v

/-- an existing, unexpired rule of the context's type or of type Default -/
def Applicable (s : Store) (now : Nat) (c : Ctx) (r : Rule) : Prop :=
  Stored s r ∧ (r.ctype = typeOf c ∨ r.ctype = .default) ∧ Live now r

/-- in rule order -/
def counted (r : Rule) (supplied : List Signer) : List Signer := r.signers.filter (fun x => decide (x ∈ supplied))

/-- the rule's requirement is met by the supplied signers: without policies ALL rule signers
were supplied; with policies EVERY policy accepts exactly `rule signers ∩ supplied` -/
def Satisfied (O : Oracle) (c : Ctx) (supplied : List Signer) (r : Rule) : Prop :=
  (r.policies = [] → ∀ x ∈ r.signers, x ∈ supplied) ∧
  (r.policies ≠ [] → ∀ p ∈ r.policies, O.can p c (counted r supplied) r = true)

/-- `r1` is tried before `r2` for context `c`: type-specific before Default; within a type the
newer rule (ids are handed out increasingly) first -/
def Prec (c : Ctx) (r1 r2 : Rule) : Prop :=
  (r1.ctype = typeOf c ∧ r2.ctype = .default) ∨ (r1.ctype = r2.ctype ∧ r2.id < r1.id)

/-- `r` is THE rule that authorizes `c`: applicable, satisfied, and first such in precedence order -/
def Chosen (O : Oracle) (s : Store) (now : Nat) (c : Ctx) (supplied : List Signer) (r : Rule) : Prop :=
  Applicable s now c r ∧ Satisfied O c supplied r ∧
  ∀ r', Applicable s now c r' → Satisfied O c supplied r' → r' = r ∨ Prec c r r'

def callsFor (supplied : List Signer) (c : Ctx) (r : Rule) : List EnfCall :=
  r.policies.map (fun p => { policy := p, ctx := c, signers := counted r supplied, rule := r })

def AllAccepted (O : Oracle) (calls : List EnfCall) : Prop :=
  ∀ pre c post, calls = pre ++ c :: post → O.enf pre c = true

inductive Forall2 {α β : Type} (R : α → β → Prop) : List α → List β → Prop where
  | nil : Forall2 R [] []
  | cons {a : α} {b : β} {as : List α} {bs : List β} : R a b → Forall2 R as bs → Forall2 R (a :: as) (b :: bs)

/-! ### storage invariant -/

structure Inv (s : Store) : Prop where
  /-- per-type id lists are strictly increasing (insertion order = id order), hence duplicate-free -/
  sorted : ∀ t, (s.ids t).Pairwise (· < ·)
  ids_meta : ∀ t id, id ∈ s.ids t ↔ ∃ m, s.metas id = some m ∧ m.ctype = t
  lt_next : ∀ id m, s.metas id = some m → id < s.nextId
  signers_ok : ∀ id l, s.signers id = some l → l.Nodup ∧ l.length ≤ MAX_SIGNERS
  policies_ok : ∀ id l, s.policies id = some l → l.Nodup ∧ l.length ≤ MAX_POLICIES
  nonempty : ∀ id m, s.metas id = some m → ¬ ((s.signers id).getD [] = [] ∧ (s.policies id).getD [] = [])
  count_eq : s.count = ((List.range s.nextId).filter (fun i => (s.metas i).isSome)).length
  count_le : s.count ≤ MAX_CONTEXT_RULES

theorem length_beq_filter_length {α} (p : α → Bool) (l : List α) : (l.length == (l.filter p).length) = l.all p := by
  rw [Bool.eq_iff_iff, beq_iff_eq, List.all_eq_true, eq_comm, List.length_filter_eq_length_iff]

theorem find?_first {α} (R : α → α → Prop) (p : α → Bool) (l : List α) (r : α)
    (hp : l.Pairwise R) (h : l.find? p = some r) :
    r ∈ l ∧ p r = true ∧ ∀ r' ∈ l, p r' = true → r' = r ∨ R r r' := by
  -- `r` splits the list: nothing before it passes `p`, and it stands `R`-before everything after it
  obtain ⟨hr, as, bs, rfl, has⟩ := List.find?_eq_some_iff_append.mp h
  refine ⟨by simp, hr, fun r' hr' hpr' => ?_⟩
  rcases List.mem_append.mp hr' with m | m
  · have := has r' m
    rw [hpr'] at this; cases this
  · rcases List.mem_cons.mp m with e | m
    · exact .inl e
    · exact .inr ((List.pairwise_cons.mp (List.pairwise_append.mp hp).2.1).1 r' m)

theorem find?_congr' {α} (p q : α → Bool) (l : List α) (h : ∀ x ∈ l, p x = q x) : l.find? p = l.find? q := by
  induction l with
  | nil => rfl
  | cons a t ih =>
    have ha := h a (by simp)
    have ht : ∀ x ∈ t, p x = q x := fun x hx => h x (List.mem_cons_of_mem _ hx)
    by_cases hp : p a = true
    · rw [List.find?_cons_of_pos hp, List.find?_cons_of_pos (by rw [← ha]; exact hp)]
    · rw [List.find?_cons_of_neg hp, List.find?_cons_of_neg (by rw [← ha]; exact hp)]; exact ih ht

/-! ### `get_context_rule`, `get_valid_context_rules` in closed form -/

theorem getContextRule_ok_iff (s : Store) (id : Nat) (r : Rule) :
    getContextRule s id = .ok r ↔
      ∃ m, s.metas id = some m ∧
        r = { id := id, ctype := m.ctype, name := m.name, signers := (s.signers id).getD [],
              policies := (s.policies id).getD [], validUntil := m.validUntil } := by
  unfold getContextRule
  cases hm : s.metas id with
  | none => simp
  | some m =>
    simp only [Option.some.injEq, exists_eq_left']
    constructor
    · intro h; injection h with h; exact h.symm
    · intro h; rw [h]

theorem getContextRule_id (h : getContextRule s id = .ok r) : r.id = id := by
  obtain ⟨m, _, hr⟩ := (getContextRule_ok_iff s id r).mp h
  rw [hr]

theorem stored_of_get (h : getContextRule s id = .ok r) : Stored s r := by
  unfold Stored; rw [getContextRule_id h]; exact h

def ruleAt (s : Store) (id : Nat) : Option Rule := (getContextRule s id).toOption

def isLive (now : Nat) (r : Rule) : Bool := !expired now r.validUntil

def liveOf (s : Store) (now : Nat) (ids : List Nat) : List Rule := (ids.filterMap (ruleAt s)).filter (isLive now)

theorem ruleAt_eq_some : ruleAt s id = some r ↔ getContextRule s id = .ok r := by
  unfold ruleAt
  cases getContextRule s id <;> simp [Except.toOption]

theorem getRules_eq (s : Store) (now : Nat) (ids : List Nat) (acc : List Rule) :
    getRules s now ids acc =
      if ids.all (fun id => (s.metas id).isSome) then .ok ((liveOf s now ids).reverse ++ acc)
      else .error .contextRuleNotFound := by
  induction ids generalizing acc with
  | nil => rfl
  | cons id rest ih =>
    have hg : getContextRule s id = match s.metas id with
        | none => .error .contextRuleNotFound
        | some m => .ok ⟨id, m.ctype, m.name, (s.signers id).getD [], (s.policies id).getD [], m.validUntil⟩ := rfl
    rw [getRules, liveOf, List.filterMap_cons, List.all_cons, ruleAt, hg]
    cases s.metas id with
    | none => rfl
    | some m =>
      dsimp only [Except.toOption]
      by_cases he : expired now m.validUntil = true
      · rw [if_pos he, List.filter_cons_of_neg (by simp [isLive, he])]; exact ih acc
      · rw [if_neg he, List.filter_cons_of_pos (by simpa [isLive] using he), ih, Option.isSome_some, Bool.true_and,
          List.reverse_cons, List.append_assoc]; rfl

theorem inv_ids_get (hI : Inv s) (t : RuleType) : ∀ id ∈ s.ids t, ∃ r, getContextRule s id = .ok r := by
  intro id hid
  obtain ⟨m, hm, _⟩ := (hI.ids_meta t id).mp hid
  exact ⟨_, (getContextRule_ok_iff s id _).mpr ⟨m, hm, rfl⟩⟩

def validRules (s : Store) (now : Nat) (key : RuleType) : List Rule :=
  (liveOf s now (s.ids key)).reverse ++ (liveOf s now (s.ids .default)).reverse

theorem getValidContextRules_eq (s : Store) (now : Nat) (key : RuleType) :
    getValidContextRules s now key =
      if (s.ids key ++ s.ids .default).all (fun id => (s.metas id).isSome) then .ok (validRules s now key)
      else .error .contextRuleNotFound := by
  unfold getValidContextRules validRules
  rw [getRules_eq, getRules_eq, List.all_append]
  cases (s.ids key).all (fun id => (s.metas id).isSome) <;>
    cases (s.ids .default).all (fun id => (s.metas id).isSome) <;> simp

theorem getValidContextRules_ok (hI : Inv s) (now : Nat) (key : RuleType) :
    getValidContextRules s now key = .ok (validRules s now key) := by
  rw [getValidContextRules_eq, if_pos]
  rw [List.all_eq_true]
  intro id hid
  rcases List.mem_append.mp hid with h | h <;>
  · obtain ⟨m, hm, -⟩ := (hI.ids_meta _ id).mp h
    rw [hm]; rfl

theorem expired_false_iff (now : Nat) (vu : Option Nat) : expired now vu = false ↔ ∀ v, vu = some v → now ≤ v := by
  cases vu with
  | none => simp [expired]
  | some w => simp [expired]

theorem mem_liveOf {ids : List Nat} :
    r ∈ liveOf s now ids ↔ r.id ∈ ids ∧ Stored s r ∧ Live now r := by
  unfold liveOf isLive Stored Live
  rw [List.mem_filter, List.mem_filterMap, Bool.not_eq_true', expired_false_iff]
  constructor
  · rintro ⟨⟨id, hid, h⟩, hl⟩
    have hg := ruleAt_eq_some.mp h
    obtain rfl := getContextRule_id hg
    exact ⟨hid, hg, hl⟩
  · rintro ⟨hid, hs, hl⟩
    exact ⟨⟨r.id, hid, ruleAt_eq_some.mpr hs⟩, hl⟩

theorem getValidContextRules_mem (s : Store) (now : Nat) (key : RuleType) (l : List Rule)
    (h : getValidContextRules s now key = .ok l) : ∀ r ∈ l, ∃ id, getContextRule s id = .ok r := by
  rw [getValidContextRules_eq] at h
  split at h
  · cases h
    intro r hr
    unfold validRules at hr
    rw [List.mem_append, List.mem_reverse, List.mem_reverse, mem_liveOf, mem_liveOf] at hr
    rcases hr with ⟨-, hs, -⟩ | ⟨-, hs, -⟩ <;> exact ⟨r.id, hs⟩
  · cases h

theorem stored_ctype (hI : Inv s) (hs : Stored s r) (t : RuleType) :
    r.id ∈ s.ids t ↔ r.ctype = t := by
  obtain ⟨m, hm, hr⟩ := (getContextRule_ok_iff s r.id r).mp hs
  rw [hI.ids_meta]
  have hc : r.ctype = m.ctype := by rw [hr]
  constructor
  · rintro ⟨m', hm', ht⟩
    rw [hm] at hm'; injection hm' with hm'; subst hm'; rw [hc]; exact ht
  · intro ht; exact ⟨m, hm, by rw [← hc]; exact ht⟩

theorem mem_validRules (hI : Inv s) :
    r ∈ validRules s now (typeOf c) ↔ Applicable s now c r := by
  unfold validRules Applicable
  rw [List.mem_append, List.mem_reverse, List.mem_reverse, mem_liveOf, mem_liveOf]
  constructor
  · rintro (⟨hid, hs, hl⟩ | ⟨hid, hs, hl⟩)
    · exact ⟨hs, Or.inl ((stored_ctype hI hs _).mp hid), hl⟩
    · exact ⟨hs, Or.inr ((stored_ctype hI hs _).mp hid), hl⟩
  · rintro ⟨hs, (ht | ht), hl⟩
    · exact Or.inl ⟨(stored_ctype hI hs _).mpr ht, hs, hl⟩
    · exact Or.inr ⟨(stored_ctype hI hs _).mpr ht, hs, hl⟩

theorem liveOf_pairwise (s : Store) (now : Nat) (ids : List Nat) (h : ids.Pairwise (· < ·)) :
    (liveOf s now ids).Pairwise (fun a b => a.id < b.id) :=
  (h.filterMap _ fun a a' haa' b hb b' hb' => by
    rw [getContextRule_id (ruleAt_eq_some.mp hb), getContextRule_id (ruleAt_eq_some.mp hb')]; exact haa').filter _

theorem typeOf_ne_default (c : Ctx) : typeOf c ≠ .default := by
  cases c <;> simp [typeOf]

theorem prec_asymm (c : Ctx) (r1 r2 : Rule) (h1 : Prec c r1 r2) (h2 : Prec c r2 r1) : False := by
  have hd := typeOf_ne_default c
  rcases h1 with ⟨a1, b1⟩ | ⟨a1, b1⟩ <;> rcases h2 with ⟨a2, b2⟩ | ⟨a2, b2⟩
  · rw [a2] at b1; exact hd b1
  · rw [a2, a1] at b1; exact hd b1
  · rw [a1, a2] at b2; exact hd b2
  · omega

theorem validRules_pairwise (hI : Inv s) (now : Nat) (c : Ctx) :
    (validRules s now (typeOf c)).Pairwise (Prec c) := by
  -- within one type: newer (larger id) first
  have hty : ∀ t, (liveOf s now (s.ids t)).reverse.Pairwise (Prec c) := by
    intro t
    rw [List.pairwise_reverse]
    refine (liveOf_pairwise s now _ (hI.sorted t)).imp_of_mem ?_
    intro a b ha hb hab
    have ha' := mem_liveOf.mp ha
    have hb' := mem_liveOf.mp hb
    refine Or.inr ⟨?_, hab⟩
    rw [(stored_ctype hI ha'.2.1 _).mp ha'.1, (stored_ctype hI hb'.2.1 _).mp hb'.1]
  unfold validRules
  rw [List.pairwise_append]
  refine ⟨hty _, hty _, ?_⟩
  intro a ha b hb
  rw [List.mem_reverse] at ha hb
  have ha' := mem_liveOf.mp ha
  have hb' := mem_liveOf.mp hb
  exact Or.inl ⟨(stored_ctype hI ha'.2.1 _).mp ha'.1, (stored_ctype hI hb'.2.1 _).mp hb'.1⟩

/-! ### the loop body decides `Satisfied` -/

theorem ruleMatches_iff (O : Oracle) (c : Ctx) (all : List Signer) (r : Rule) :
    ruleMatches O c all r = true ↔ Satisfied O c all r := by
  unfold ruleMatches Satisfied
  by_cases hp : r.policies = []
  · have hemp : r.policies.isEmpty = true := by rw [hp]; rfl
    rw [if_pos hemp]
    unfold getAuthenticatedSigners
    rw [length_beq_filter_length, List.all_eq_true]
    constructor
    · intro h; exact ⟨fun _ x hx => by simpa using h x hx, fun hne => absurd hp hne⟩
    · rintro ⟨h, _⟩ x hx; simpa using h hp x hx
  · have hne : r.policies.isEmpty = false := by
      cases hq : r.policies with
      | nil => exact absurd hq hp
      | cons a t => rfl
    rw [hne]
    simp only [Bool.false_eq_true, if_false]
    unfold canEnforceAllPolicies getAuthenticatedSigners counted
    rw [List.all_eq_true]
    constructor
    · intro h; exact ⟨fun e => absurd e hp, fun _ => h⟩
    · rintro ⟨_, h⟩; exact h hp

theorem ruleMatches_false_iff (O : Oracle) (c : Ctx) (all : List Signer) (r : Rule) :
    ruleMatches O c all r = false ↔ ¬ Satisfied O c all r := by
  rw [← ruleMatches_iff]; cases ruleMatches O c all r <;> simp

/-! ### `get_validated_context` picks THE chosen rule -/

theorem Chosen.unique {r' : Rule} (h : Chosen O s now c all r) (h' : Chosen O s now c all r') : r = r' := by
  obtain ⟨ha, hs, hf⟩ := h
  obtain ⟨ha', hs', hf'⟩ := h'
  cases hf r' ha' hs' with
  | inl e => exact e.symm
  | inr p =>
    cases hf' r ha hs with
    | inl e => exact e
    | inr p' => exact absurd (prec_asymm c r r' p p') id

def pick (O : Oracle) (s : Store) (now : Nat) (all : List Signer) (c : Ctx) : Option Rule :=
  (validRules s now (typeOf c)).find? (ruleMatches O c all)

theorem getValidatedContext_eq (hI : Inv s) :
    getValidatedContext O s now c all = pickRule c all (pick O s now all c) := by
  unfold getValidatedContext; rw [getValidContextRules_ok hI]; rfl

theorem pick_eq_none_iff (hI : Inv s) :
    pick O s now all c = none ↔ ∀ r, Applicable s now c r → ¬ Satisfied O c all r := by
  unfold pick
  rw [List.find?_eq_none]
  exact ⟨fun h r ha hs => h r ((mem_validRules hI).mpr ha) ((ruleMatches_iff O c all r).mpr hs),
    fun h r hm hs => h r ((mem_validRules hI).mp hm) ((ruleMatches_iff O c all r).mp hs)⟩

theorem pick_eq_some_iff (hI : Inv s) : pick O s now all c = some r ↔ Chosen O s now c all r := by
  have fwd : ∀ {r}, pick O s now all c = some r → Chosen O s now c all r := by
    intro r h
    obtain ⟨hm, hp, hall⟩ := find?_first (Prec c) _ _ r (validRules_pairwise hI now c) h
    exact ⟨(mem_validRules hI).mp hm, (ruleMatches_iff O c all r).mp hp,
      fun r' ha' hs' => hall r' ((mem_validRules hI).mpr ha') ((ruleMatches_iff O c all r').mpr hs')⟩
  refine ⟨fwd, fun h => ?_⟩
  cases hp : pick O s now all c with
  | none => exact absurd h.2.1 ((pick_eq_none_iff hI).mp hp r h.1)
  | some r' => rw [(fwd hp).unique h]

theorem getValidatedContext_ok_iff (hI : Inv s) {v : Rule × Ctx × List Signer} :
    getValidatedContext O s now c all = .ok v ↔ ∃ r, Chosen O s now c all r ∧ v = (r, c, counted r all) := by
  rw [getValidatedContext_eq hI]
  simp only [← pick_eq_some_iff hI]
  cases pick O s now all c with
  | none => exact ⟨fun h => (by cases h), fun ⟨_, h, _⟩ => (by cases h)⟩
  | some r => exact ⟨fun h => ⟨r, rfl, (Except.ok.inj h).symm⟩, fun ⟨_, h, hv⟩ => by cases h; rw [hv]; rfl⟩

theorem getValidatedContext_error (hI : Inv s)
    {e : Err} (h : getValidatedContext O s now c all = .error e) :
    ∀ r, Applicable s now c r → ¬ Satisfied O c all r := by
  rw [getValidatedContext_eq hI] at h
  cases hp : pick O s now all c with
  | none => exact (pick_eq_none_iff hI).mp hp
  | some r => rw [hp] at h; cases h

/-! ### authenticate -/

theorem authenticate_eq (O : Oracle) (sigs : List (Signer × Nat)) :
    authenticate O sigs =
      if sigs.all (fun p => sigOk O p.1 p.2) then .ok () else .error .externalVerificationFailed := by
  induction sigs with
  | nil => rfl
  | cons a t ih =>
    rw [authenticate, List.all_cons, ih]
    cases sigOk O a.1 a.2 <;> rfl

theorem authenticate_ok_iff (O : Oracle) (sigs : List (Signer × Nat)) :
    authenticate O sigs = .ok () ↔ ∀ x g, (x, g) ∈ sigs → sigOk O x g = true := by
  rw [authenticate_eq, ite_ok_iff, List.all_eq_true]
  exact ⟨fun h x g hm => h.1 (x, g) hm, fun h => ⟨fun p hp => h p.1 p.2 hp, rfl⟩⟩

theorem authenticate_error (O : Oracle) (sigs : List (Signer × Nat)) (e : Err)
    (h : authenticate O sigs = .error e) : e = .externalVerificationFailed := by
  rw [authenticate_eq] at h
  split at h
  · cases h
  · exact (Except.error.inj h).symm

/-! ### the enforce loop -/

theorem enforceLoop_ok_iff (O : Oracle) (hist calls : List EnfCall) :
    enforceLoop O hist calls = .ok () ↔ ∀ pre c post, calls = pre ++ c :: post → O.enf (hist ++ pre) c = true := by
  induction calls generalizing hist with
  | nil =>
    simp only [enforceLoop, true_iff]
    intro pre c post h
    cases pre <;> simp at h
  | cons a t ih =>
    unfold enforceLoop
    by_cases ha : O.enf hist a = true
    · simp only [ha, if_true]
      rw [ih]
      constructor
      · intro hh pre c post hc
        cases pre with
        | nil =>
          simp only [List.nil_append, List.cons.injEq] at hc
          obtain ⟨e1, _⟩ := hc; subst e1; simpa using ha
        | cons b pre' =>
          simp only [List.cons_append, List.cons.injEq] at hc
          obtain ⟨e1, e2⟩ := hc; subst e1
          have := hh pre' c post e2
          simpa [List.append_assoc] using this
      · intro hh pre c post hc
        have := hh (a :: pre) c post (by rw [hc]; rfl)
        simpa [List.append_assoc] using this
    · simp only [ha]
      constructor
      · intro hh; cases hh
      · intro hh
        have := hh [] a t rfl
        simp at this; exact absurd this ha

/-! ### validateAll -/

def triples (all : List Signer) (ctxs : List Ctx) (chosen : List Rule) : List (Rule × Ctx × List Signer) :=
  (List.zip ctxs chosen).map (fun p => (p.2, p.1, counted p.2 all))

theorem callsOf_triples (all : List Signer) (ctxs : List Ctx) (chosen : List Rule) :
    callsOf (triples all ctxs chosen) = (List.zip ctxs chosen).flatMap (fun p => callsFor all p.1 p.2) :=
  List.flatMap_map ..

theorem validateAll_ok_iff (hI : Inv s) {ctxs : List Ctx} {vs : List (Rule × Ctx × List Signer)} :
    validateAll O s now all ctxs = .ok vs ↔
      ∃ chosen, Forall2 (fun c r => Chosen O s now c all r) ctxs chosen ∧ vs = triples all ctxs chosen := by
  induction ctxs generalizing vs with
  | nil => exact ⟨fun h => ⟨[], .nil, (Except.ok.inj h).symm⟩, fun ⟨_, h, hv⟩ => by cases h; rw [hv]; rfl⟩
  | cons c rest ih =>
    unfold validateAll
    constructor
    · intro h
      split at h
      · cases h
      · next v hv =>
        split at h
        · cases h
        · next vs' hr =>
          obtain ⟨r, hc, rfl⟩ := (getValidatedContext_ok_iff hI).mp hv
          obtain ⟨chosen, hch, rfl⟩ := ih.mp hr
          exact ⟨r :: chosen, .cons hc hch, (Except.ok.inj h).symm⟩
    · rintro ⟨_, hch, rfl⟩
      cases hch with
      | cons hc hr => rw [(getValidatedContext_ok_iff hI).mpr ⟨_, hc, rfl⟩, ih.mpr ⟨_, hr, rfl⟩]; rfl

namespace Mon

/-- what `get_validated_context` returns for context `c` when it picks rule `r` -/
def tripleOf (all : List Signer) (c : Ctx) (r : Rule) : Rule × Ctx × List Signer :=
  (r, c, getAuthenticatedSigners r.signers all)

end Mon

theorem validateAll_eq (hI : Inv s) (O : Oracle) (now : Nat) (all : List Signer) (ctxs : List Ctx) :
    validateAll O s now all ctxs =
      if ctxs.all (fun c => (pick O s now all c).isSome) then
        .ok (ctxs.filterMap (fun c => (pick O s now all c).map (Mon.tripleOf all c)))
      else .error .unvalidatedContext := by
  induction ctxs with
  | nil => rfl
  | cons c rest ih =>
    rw [validateAll, getValidatedContext_eq hI, ih, List.all_cons, List.filterMap_cons]
    cases pick O s now all c with
    | none => rfl
    | some r => cases rest.all (fun c => (pick O s now all c).isSome) <;> rfl

theorem validateAll_error (hI : Inv s) {ctxs : List Ctx} {e : Err} (h : validateAll O s now all ctxs = .error e) :
    ∃ c ∈ ctxs, ∀ r, Applicable s now c r → ¬ Satisfied O c all r := by
  rw [validateAll_eq hI] at h
  split at h
  · cases h
  · next hn =>
    obtain ⟨c, hc, hp⟩ := List.all_eq_false.mp ((Bool.not_eq_true _).mp hn)
    exact ⟨c, hc, (pick_eq_none_iff hI).mp (Option.not_isSome_iff_eq_none.mp hp)⟩

theorem doCheckAuth_ok_iff {sigs : List (Signer × Nat)} {ctxs : List Ctx}
    {calls : List EnfCall} :
    doCheckAuth O s now sigs ctxs = .ok calls ↔
      authenticate O sigs = .ok () ∧ ∃ vs, validateAll O s now (sigs.map Prod.fst) ctxs = .ok vs ∧
        enforceLoop O [] (callsOf vs) = .ok () ∧ callsOf vs = calls := by
  unfold doCheckAuth
  cases authenticate O sigs with
  | error e => exact ⟨fun h => (by cases h), fun h => (by cases h.1)⟩
  | ok u =>
    cases validateAll O s now (sigs.map Prod.fst) ctxs with
    | error e => exact ⟨fun h => (by cases h), fun ⟨_, _, h, _⟩ => (by cases h)⟩
    | ok vs =>
      dsimp only [finishCheck]
      constructor
      · intro h
        cases he : enforceLoop O [] (callsOf vs) with
        | error e => rw [he] at h; cases h
        | ok u2 => rw [he] at h; injection h with h; exact ⟨rfl, vs, rfl, he, h⟩
      · rintro ⟨-, vs', h, he, rfl⟩
        injection h with h; subst h
        rw [he]

/-- acceptance of `do_check_auth`, completely: every signature verifies, every context has its
chosen rule, the enforce calls are those of the chosen rules and each was let through -/
theorem doCheckAuth_ok_iff_chosen {sigs : List (Signer × Nat)} {ctxs : List Ctx} {calls : List EnfCall}
    (hI : Inv s) :
    doCheckAuth O s now sigs ctxs = .ok calls ↔
      (∀ x g, (x, g) ∈ sigs → sigOk O x g = true) ∧
      ∃ chosen : List Rule,
        Forall2 (fun c r => Chosen O s now c (sigs.map Prod.fst) r) ctxs chosen ∧
        calls = (List.zip ctxs chosen).flatMap (fun p => callsFor (sigs.map Prod.fst) p.1 p.2) ∧
        AllAccepted O calls := by
  have hacc : ∀ l, enforceLoop O [] l = .ok () ↔ AllAccepted O l := fun l => by
    rw [enforceLoop_ok_iff]; simp only [List.nil_append]; rfl
  rw [doCheckAuth_ok_iff, authenticate_ok_iff]
  refine and_congr_right fun _ => ⟨?_, ?_⟩
  · rintro ⟨vs, hv, he, rfl⟩
    obtain ⟨chosen, hch, rfl⟩ := (validateAll_ok_iff hI).mp hv
    exact ⟨chosen, hch, callsOf_triples .., (hacc _).mp he⟩
  · rintro ⟨chosen, hch, rfl, he⟩
    rw [← callsOf_triples] at he ⊢
    exact ⟨_, (validateAll_ok_iff hI).mpr ⟨chosen, hch, rfl⟩, (hacc _).mpr he, rfl⟩

/-! ### only the rule's own signers matter -/

theorem getAuthenticatedSigners_congr (rs A B : List Signer) (h : ∀ x ∈ rs, (x ∈ A ↔ x ∈ B)) :
    getAuthenticatedSigners rs A = getAuthenticatedSigners rs B := by
  unfold getAuthenticatedSigners
  apply List.filter_congr
  intro x hx
  have := h x hx
  by_cases ha : x ∈ A
  · simp [ha, this.mp ha]
  · have hb : x ∉ B := fun hb => ha (this.mpr hb)
    simp [ha, hb]

theorem ruleMatches_congr (O : Oracle) (c : Ctx) (A B : List Signer) (r : Rule)
    (h : ∀ x ∈ r.signers, (x ∈ A ↔ x ∈ B)) : ruleMatches O c A r = ruleMatches O c B r := by
  unfold ruleMatches
  rw [getAuthenticatedSigners_congr r.signers A B h]

theorem getValidatedContext_congr (O : Oracle) (s : Store) (now : Nat) (c : Ctx) (A B : List Signer)
    (h : ∀ id r, getContextRule s id = .ok r → ∀ x ∈ r.signers, (x ∈ A ↔ x ∈ B)) :
    getValidatedContext O s now c A = getValidatedContext O s now c B := by
  unfold getValidatedContext
  cases hv : getValidContextRules s now (typeOf c) with
  | error e => rfl
  | ok rules =>
    dsimp only
    have hmem := getValidContextRules_mem s now _ rules hv
    have hf : rules.find? (ruleMatches O c A) = rules.find? (ruleMatches O c B) := by
      apply find?_congr'
      intro r hr
      obtain ⟨id, hid⟩ := hmem r hr
      exact ruleMatches_congr O c A B r (h id r hid)
    rw [hf]
    cases hq : rules.find? (ruleMatches O c B) with
    | none => rfl
    | some r =>
      obtain ⟨id, hid⟩ := hmem r (List.mem_of_find?_eq_some hq)
      simp only [pickRule]
      rw [getAuthenticatedSigners_congr r.signers A B (h id r hid)]

theorem validateAll_congr (O : Oracle) (s : Store) (now : Nat) (A B : List Signer) (ctxs : List Ctx)
    (h : ∀ id r, getContextRule s id = .ok r → ∀ x ∈ r.signers, (x ∈ A ↔ x ∈ B)) :
    validateAll O s now A ctxs = validateAll O s now B ctxs := by
  induction ctxs with
  | nil => rfl
  | cons c t ih =>
    unfold validateAll
    rw [getValidatedContext_congr O s now c A B h, ih]

end OZ.SmartAccount
