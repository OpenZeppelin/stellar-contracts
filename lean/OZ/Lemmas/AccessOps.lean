import OZ.Lemmas.Access
import OZ.Lemmas.Lists
import OZ.Model.AccessMon
/-
What each accepted call of the access-control model does to the membership relation `memb` (the stored index map read
as the plain set of granted-not-revoked pairs), to the invariant, to the role admins and to the admin / owner hand-over
machines; when each guard passes, on any state.
-/
namespace OZ.Access
open OZ.Host OZ.NftEnum
open OZ.RoleTransfer (Flavor Step)

/-- membership as the getter `has_role` reports it -/
def memb (s : State) : PSet := fun a r => (hasRoleQ s a r).isSome

theorem memb_def (s : State) (a r : Nat) : memb s a r = (s.hasRole a r).isSome := rfl

theorem RoleInv.cnt_pos_iff {s : State} {r : Nat} (hi : RoleInv s r) :
    0 < cnt s r ↔ ∃ a, memb s a r = true := by
  constructor
  · intro h
    obtain ⟨a, -, ha⟩ := hi.fwd 0 h
    exact ⟨a, by show (s.hasRole a r).isSome = true; rw [ha]; rfl⟩
  · rintro ⟨a, ha⟩
    obtain ⟨i, hi'⟩ := Option.isSome_iff_exists.mp ha
    exact Nat.lt_of_le_of_lt (Nat.zero_le i) (hi.back a i hi').1

theorem grantRoleNoAuth_ok {s s' : State} {a r k : Nat} (h : grantRoleNoAuth s a r k = .ok s') :
    ((s.hasRole a r).isSome ∧ s' = s) ∨
    (s.hasRole a r = none ∧ ∃ s1, addToRoleEnumeration s a r = .ok s1 ∧
      s' = emit s1 (.roleGranted r a k)) := by
  unfold grantRoleNoAuth at h
  split at h
  · rename_i hs
    injection h with h
    exact Or.inl ⟨hs, h.symm⟩
  · rename_i hs
    obtain ⟨s1, h1, h2⟩ := bind_eq_ok h
    injection h2 with h2
    refine Or.inr ⟨?_, s1, h1, h2.symm⟩
    simp only [hasRoleQ] at hs
    cases hx : s.hasRole a r with
    | none => rfl
    | some i => rw [hx] at hs; simp at hs

theorem grantRoleNoAuth_rest {s s' : State} {a r k : Nat} (h : grantRoleNoAuth s a r k = .ok s') :
    SameRest s s' := by
  rcases grantRoleNoAuth_ok h with ⟨-, he⟩ | ⟨-, s1, h1, he⟩
  · subst he; exact ⟨rfl, rfl, rfl⟩
  · subst he; exact (addToRoleEnumeration_ok h1).rest

theorem grantRoleNoAuth_effect {s s' : State} {a r k : Nat} (hi : Inv s)
    (h : grantRoleNoAuth s a r k = .ok s') :
    Inv s' ∧ memb s' = upd2 (memb s) a r true ∧ SameRest s s' := by
  have hr := grantRoleNoAuth_rest h
  rcases grantRoleNoAuth_ok h with ⟨hs, he⟩ | ⟨hn, s1, h1, he⟩
  · subst he
    refine ⟨hi, ?_, hr⟩
    funext b q
    simp only [upd2]
    split
    · rename_i hbq; rw [hbq.1, hbq.2, memb_def]; exact hs
    · rfl
  · subst he
    have w := addToRoleEnumeration_ok h1
    refine ⟨(add_inv hi hn h1).congr rfl rfl (fun _ => rfl) rfl, ?_, hr⟩
    funext b q
    simp only [memb, hasRoleQ, emit, w.hasRole, upd2]
    split <;> rfl

theorem grantRole_ok {s s' : State} {auth : List Nat} {a r k : Nat}
    (h : grantRole s auth a r k = .ok s') :
    k ∈ auth ∧ (isAdmin s k || isAdminRole s r k) = true ∧ grantRoleNoAuth s a r k = .ok s' := by
  unfold grantRole at h
  obtain ⟨_, h1, h⟩ := bind_eq_ok h
  obtain ⟨_, h2, h⟩ := bind_eq_ok h
  exact ⟨requireAuth_ok h1, require_iff.mp h2, h⟩

theorem revokeRoleNoAuth_ok {s s' : State} {a r k : Nat} (h : revokeRoleNoAuth s a r k = .ok s') :
    (s.hasRole a r).isSome ∧ ∃ s1, removeFromRoleEnumeration s a r = .ok s1 ∧
      s' = emit (clearHasRole s1 a r) (.roleRevoked r a k) := by
  unfold revokeRoleNoAuth at h
  split at h
  · cases h
  · rename_i hs
    obtain ⟨s1, h1, h2⟩ := bind_eq_ok h
    injection h2 with h2
    refine ⟨?_, s1, h1, h2.symm⟩
    simp only [hasRoleQ] at hs
    cases hx : s.hasRole a r with
    | none => rw [hx] at hs; simp at hs
    | some i => rfl

theorem revokeRoleNoAuth_rest {s s' : State} {a r k : Nat} (h : revokeRoleNoAuth s a r k = .ok s') :
    SameRest s s' := by
  obtain ⟨-, s1, h1, he⟩ := revokeRoleNoAuth_ok h
  subst he
  obtain ⟨-, _, _, w⟩ := removeFromRoleEnumeration_ok h1
  exact w.rest

theorem revokeRoleNoAuth_effect {s s' : State} {a r k : Nat} (hi : Inv s)
    (h : revokeRoleNoAuth s a r k = .ok s') :
    Inv s' ∧ memb s' = upd2 (memb s) a r false ∧ memb s a r = true ∧ SameRest s s' := by
  have hr := revokeRoleNoAuth_rest h
  obtain ⟨hs, s1, h1, he⟩ := revokeRoleNoAuth_ok h
  subst he
  obtain ⟨-, idx, la, w⟩ := removeFromRoleEnumeration_ok h1
  -- the second removal of the `HasRole` key finds it gone
  have hclear : (clearHasRole s1 a r).hasRole = s1.hasRole := by
    simp only [clearHasRole, w.hasRole, upd2_upd2]
  refine ⟨(remove_inv hi h1).congr rfl hclear (fun _ => rfl) rfl, ?_, hs, hr⟩
  have hl := ((hi.role r).last_account w).2
  funext b q
  show ((clearHasRole s1 a r).hasRole b q).isSome = _
  rw [hclear, w.hasRole]
  -- the last account `la` is re-indexed, the pair `(a, r)` dropped: only the removed pair changes its membership,
  -- `la` being a member before and after
  simp only [upd2, memb, hasRoleQ]
  split
  · rfl
  · split
    · rename_i hbq; rw [hbq.1, hbq.2, hl]; rfl
    · rfl

theorem revokeRole_ok {s s' : State} {auth : List Nat} {a r k : Nat}
    (h : revokeRole s auth a r k = .ok s') :
    k ∈ auth ∧ (isAdmin s k || isAdminRole s r k) = true ∧ revokeRoleNoAuth s a r k = .ok s' := by
  unfold revokeRole at h
  obtain ⟨_, h1, h⟩ := bind_eq_ok h
  obtain ⟨_, h2, h⟩ := bind_eq_ok h
  exact ⟨requireAuth_ok h1, require_iff.mp h2, h⟩

theorem renounceRole_ok {s s' : State} {auth : List Nat} {r k : Nat}
    (h : renounceRole s auth r k = .ok s') : k ∈ auth ∧ revokeRoleNoAuth s k r k = .ok s' := by
  unfold renounceRole at h
  obtain ⟨_, h1, h⟩ := bind_eq_ok h
  exact ⟨requireAuth_ok h1, h⟩

theorem enforceAdminAuth_iff (s : State) (auth : List Nat) :
    (∃ a, enforceAdminAuth s auth = .ok a) ↔ ∃ a, getAdmin s = some a ∧ a ∈ auth := by
  rw [show getAdmin s = s.adm.holder from rfl, ← OZ.RoleTransfer.enforceHolderAuth_iff s.adm auth]
  unfold enforceAdminAuth
  constructor
  · rintro ⟨a, h⟩
    split at h
    · rename_i a' ha; exact ⟨a', ha⟩
    · cases h
  · rintro ⟨a, h⟩
    exact ⟨a, by rw [h]⟩

theorem setRoleAdmin_ok {s s' : State} {auth : List Nat} {r ar : Nat}
    (h : setRoleAdmin s auth r ar = .ok s') :
    (∃ a, getAdmin s = some a ∧ a ∈ auth) ∧ s' = setRoleAdminNoAuth s r ar := by
  unfold setRoleAdmin at h
  obtain ⟨a, h1, h2⟩ := bind_eq_ok h
  injection h2 with h2
  exact ⟨(enforceAdminAuth_iff s auth).mp ⟨a, h1⟩, h2.symm⟩

theorem removeRoleAdminNoAuth_ok {s s' : State} {r : Nat} (h : removeRoleAdminNoAuth s r = .ok s') :
    s' = { s with roleAdmin := upd s.roleAdmin r none } := by
  unfold removeRoleAdminNoAuth at h
  split at h
  · injection h with h; exact h.symm
  · cases h

theorem removeCount_ok {s s' : State} {r : Nat} (h : removeRoleAccountsCountNoAuth s r = .ok s') :
    s.count r = some 0 ∧ s' = { s with count := upd s.count r none } := by
  unfold removeRoleAccountsCountNoAuth at h
  split at h
  · rename_i c hc
    split at h
    · rename_i h0; subst h0
      injection h with h; exact ⟨hc, h.symm⟩
    · cases h
  · cases h

theorem liftRT_ok {r : Except OZ.RoleTransfer.Err RT} {k : RT → State} {s' : State}
    (h : liftRT r k = .ok s') : ∃ t, r = .ok t ∧ s' = k t := by
  unfold liftRT at h
  split at h
  · rename_i t; injection h with h; exact ⟨t, rfl, h.symm⟩
  · cases h

theorem keep_ok {s s' : State} {r : Except Err Unit} (h : keep s r = .ok s') : s' = s ∧ r = .ok () := by
  cases r with
  | error e => cases h
  | ok u =>
    simp only [keep] at h
    injection h with h
    exact ⟨h.symm, rfl⟩

theorem apply_effect {c : Cfg} {s s' : State} {auth : List Nat} {op : Op} (hi : Inv s)
    (h : apply c s auth op = .ok s') : Inv s' ∧ memb s' = setStep (memb s) op true := by
  cases op with
  | grant a r k =>
    obtain ⟨-, -, h⟩ := grantRole_ok h
    obtain ⟨h1, h2, -⟩ := grantRoleNoAuth_effect hi h
    exact ⟨h1, h2⟩
  | grantNoAuth a r k =>
    obtain ⟨h1, h2, -⟩ := grantRoleNoAuth_effect hi h
    exact ⟨h1, h2⟩
  | revoke a r k =>
    obtain ⟨-, -, h⟩ := revokeRole_ok h
    obtain ⟨h1, h2, -⟩ := revokeRoleNoAuth_effect hi h
    exact ⟨h1, h2⟩
  | revokeNoAuth a r k =>
    obtain ⟨h1, h2, -⟩ := revokeRoleNoAuth_effect hi h
    exact ⟨h1, h2⟩
  | renounce r k =>
    obtain ⟨-, h⟩ := renounceRole_ok h
    obtain ⟨h1, h2, -⟩ := revokeRoleNoAuth_effect hi h
    exact ⟨h1, h2⟩
  | setRoleAdmin r ar =>
    obtain ⟨-, he⟩ := setRoleAdmin_ok h; subst he
    exact ⟨hi.congr rfl rfl (fun _ => rfl) rfl, rfl⟩
  | setRoleAdminNoAuth r ar =>
    simp only [apply] at h; injection h with h; subst h
    exact ⟨hi.congr rfl rfl (fun _ => rfl) rfl, rfl⟩
  | removeRoleAdminNoAuth r =>
    have he := removeRoleAdminNoAuth_ok h; subst he
    exact ⟨hi.congr rfl rfl (fun _ => rfl) rfl, rfl⟩
  | removeCountNoAuth r =>
    obtain ⟨hc, he⟩ := removeCount_ok h; subst he
    refine ⟨hi.congr rfl rfl ?_ rfl, rfl⟩
    intro q
    unfold cnt
    by_cases hq : q = r
    · subst hq; simp only [upd_same, hc]; rfl
    · simp only [upd_other _ _ _ _ hq]
  | adm o =>
    obtain ⟨t, -, he⟩ := liftRT_ok h; subst he
    exact ⟨hi.congr rfl rfl (fun _ => rfl) rfl, rfl⟩
  | own o =>
    obtain ⟨t, -, he⟩ := liftRT_ok h; subst he
    exact ⟨hi.congr rfl rfl (fun _ => rfl) rfl, rfl⟩
  | advance n =>
    injection h with h; subst h
    exact ⟨hi.congr rfl rfl (fun _ => rfl) rfl, rfl⟩
  -- the guard-only entry points return the state as it is
  | _ => obtain ⟨he, -⟩ := keep_ok h; subst he; exact ⟨hi, rfl⟩

/-! ### invariant of the ghosted run -/

structure GInv (x : GS) : Prop where
  inv : Inv x.s
  set : memb x.s = x.g

theorem initG_ginv (admin owner : Option Nat) (now : Nat) : GInv (initG admin owner now) :=
  ⟨init_inv admin owner now, rfl⟩

theorem stepG_ginv (c : Cfg) {x : GS} (hx : GInv x) (a : List Nat × Op) : GInv (stepG c x a) := by
  unfold stepG
  cases h : apply c x.s a.1 a.2 with
  | error e => exact ⟨hx.inv, by simpa [setStep] using hx.set⟩
  | ok s' =>
    obtain ⟨h1, h2⟩ := apply_effect hx.inv h
    exact ⟨h1, by simp only; rw [h2, hx.set]⟩

theorem runG_ginv (c : Cfg) {x : GS} (hx : GInv x) (ops : List (List Nat × Op)) :
    GInv (runG c x ops) :=
  OZ.Lists.foldl_inv (P := GInv) (fun _ a h => stepG_ginv c h a) ops x hx

theorem reachable_ginv (c : Cfg) (admin owner : Option Nat) (now : Nat)
    (ops : List (List Nat × Op)) : GInv (runG c (initG admin owner now) ops) :=
  runG_ginv c (initG_ginv admin owner now) ops

theorem stepG_s (c : Cfg) (x : GS) (a : List Nat × Op) : (stepG c x a).s = step c x.s a := by
  unfold stepG step
  cases apply c x.s a.1 a.2 <;> rfl

theorem runG_s (c : Cfg) (x : GS) (ops : List (List Nat × Op)) :
    (runG c x ops).s = run c x.s ops := by
  induction ops generalizing x with
  | nil => rfl
  | cons a as ih =>
    simp only [runG, run, List.foldl_cons] at *
    rw [ih, stepG_s]

/-- every state reached from an initial one satisfies the storage invariant -/
theorem reachable_inv (c : Cfg) (admin owner : Option Nat) (now : Nat) (ops : List (List Nat × Op)) :
    Inv (run c (init admin owner now) ops) := by
  have := (reachable_ginv c admin owner now ops).inv
  rwa [runG_s] at this

/-! ### the admin / owner sub-machines evolve on their own -/

theorem subOp_ok {c : Cfg} {f : OZ.RoleTransfer.Flavor} {t t' : RT} {auth : List Nat}
    {o : OZ.RoleTransfer.Op} (h : subOp c f t auth o = .ok t') :
    OZ.RoleTransfer.apply c f t auth o = .ok t' ∧ ∀ n, o ≠ .advance n := by
  cases o with
  | advance n => simp [subOp] at h
  | offer new lu => exact ⟨h, fun n => by simp⟩
  | accept => exact ⟨h, fun n => by simp⟩
  | renounce => exact ⟨h, fun n => by simp⟩
  | guarded => exact ⟨h, fun n => by simp⟩

def sub : Flavor → State → RT
  | .admin, s => s.adm
  | .owner, s => s.own

def Op.sub : Flavor → OZ.RoleTransfer.Op → Op
  | .admin => .adm
  | .owner => .own

theorem SameRest.sub {s s' : State} (h : SameRest s s') (f : Flavor) : sub f s' = sub f s := by
  cases f
  · exact h.2.2
  · exact h.2.1

theorem apply_rest {c : Cfg} {s s' : State} {auth : List Nat} {op : Op} (h : apply c s auth op = .ok s') :
    s'.roleAdmin = Mon.raStep s.roleAdmin op true ∧
    ∀ f, sub f s' = sub f s ∨
      ∃ o, Step c f (sub f s) auth o (sub f s') ∧ (o.isHandover = true → op = Op.sub f o) := by
  have rest : ∀ {s'}, SameRest s s' → s'.roleAdmin = s.roleAdmin ∧ ∀ f, sub f s' = sub f s ∨
      ∃ o, Step c f (sub f s) auth o (sub f s') ∧ (o.isHandover = true → op = Op.sub f o) :=
    fun hr => ⟨hr.1, fun f => .inl (hr.sub f)⟩
  cases op with
  | grant a r k => obtain ⟨-, -, h⟩ := grantRole_ok h; exact rest (grantRoleNoAuth_rest h)
  | grantNoAuth a r k => exact rest (grantRoleNoAuth_rest h)
  | revoke a r k => obtain ⟨-, -, h⟩ := revokeRole_ok h; exact rest (revokeRoleNoAuth_rest h)
  | revokeNoAuth a r k => exact rest (revokeRoleNoAuth_rest h)
  | renounce r k => obtain ⟨-, h⟩ := renounceRole_ok h; exact rest (revokeRoleNoAuth_rest h)
  | setRoleAdmin r ar => obtain ⟨-, rfl⟩ := setRoleAdmin_ok h; exact ⟨rfl, fun f => .inl (by cases f <;> rfl)⟩
  | setRoleAdminNoAuth r ar => cases h; exact ⟨rfl, fun f => .inl (by cases f <;> rfl)⟩
  | removeRoleAdminNoAuth r => cases removeRoleAdminNoAuth_ok h; exact ⟨rfl, fun f => .inl (by cases f <;> rfl)⟩
  | removeCountNoAuth r => obtain ⟨-, rfl⟩ := removeCount_ok h; exact rest ⟨rfl, rfl, rfl⟩
  | adm o =>
    obtain ⟨t, ht, rfl⟩ := liftRT_ok h
    refine ⟨rfl, fun f => ?_⟩
    cases f
    · exact .inl rfl
    · exact .inr ⟨o, OZ.RoleTransfer.step_of_ok (subOp_ok ht).1, fun _ => rfl⟩
  | own o =>
    obtain ⟨t, ht, rfl⟩ := liftRT_ok h
    refine ⟨rfl, fun f => ?_⟩
    cases f
    · exact .inr ⟨o, OZ.RoleTransfer.step_of_ok (subOp_ok ht).1, fun _ => rfl⟩
    · exact .inl rfl
  | advance n => cases h; exact ⟨rfl, fun f => .inr ⟨.advance n, by cases f <;> exact .advance n, nofun⟩⟩
  | _ => obtain ⟨rfl, -⟩ := keep_ok h; exact rest ⟨rfl, rfl, rfl⟩

theorem sub_moves {c : Cfg} {s s' : State} {auth : List Nat} {op : Op} (f : Flavor)
    (hi : ∃ g, OZ.RoleTransfer.Inv c ⟨sub f s, g⟩) (h : apply c s auth op = .ok s') :
    (∃ g, OZ.RoleTransfer.Inv c ⟨sub f s', g⟩) ∧ ((sub f s).holder = none → (sub f s').holder = none) ∧
    ((sub f s').holder ≠ (sub f s).holder → op = Op.sub f .accept ∨ op = Op.sub f .renounce) := by
  rcases (apply_rest h).2 f with e | ⟨o, hs, ho⟩
  · rw [e]; exact ⟨hi, id, fun hne => absurd rfl hne⟩
  · refine ⟨(hs.keeps hi).1, (hs.keeps hi).2, fun hne => ?_⟩
    rcases hs.handover hne with rfl | rfl
    · exact .inl (ho rfl)
    · exact .inr (ho rfl)

theorem step_sub (c : Cfg) (f : Flavor) {s : State} (hi : ∃ g, OZ.RoleTransfer.Inv c ⟨sub f s, g⟩) (a : List Nat × Op) :
    (∃ g, OZ.RoleTransfer.Inv c ⟨sub f (step c s a), g⟩) ∧
      ((sub f s).holder = none → (sub f (step c s a)).holder = none) := by
  unfold step
  cases h : apply c s a.1 a.2 with
  | error e => exact ⟨hi, id⟩
  | ok s' => exact ⟨(sub_moves f hi h).1, (sub_moves f hi h).2.1⟩

theorem run_sub (c : Cfg) (f : Flavor) (ops : List (List Nat × Op)) {s : State}
    (hi : ∃ g, OZ.RoleTransfer.Inv c ⟨sub f s, g⟩) :
    (∃ g, OZ.RoleTransfer.Inv c ⟨sub f (run c s ops), g⟩) ∧
      ((sub f s).holder = none → (sub f (run c s ops)).holder = none) :=
  OZ.Lists.foldl_inv (P := fun s' => (∃ g, OZ.RoleTransfer.Inv c ⟨sub f s', g⟩) ∧
      ((sub f s).holder = none → (sub f s').holder = none))
    (fun _ a h => ⟨(step_sub c f h.1 a).1, fun hn => (step_sub c f h.1 a).2 (h.2 hn)⟩) ops s ⟨hi, id⟩

theorem renounced_final (c : Cfg) (f : Flavor) (admin owner : Option Nat) (now : Nat) (ops rest : List (List Nat × Op))
    (hn : (sub f (run c (init admin owner now) ops)).holder = none) :
    (sub f (run c (init admin owner now) (ops ++ rest))).holder = none := by
  have h0 : ∃ g, OZ.RoleTransfer.Inv c ⟨sub f (init admin owner now), g⟩ := by
    cases f <;> exact ⟨none, OZ.RoleTransfer.init_inv c _ now⟩
  rw [run, List.foldl_append]
  exact (run_sub c f rest (run_sub c f ops h0).1).2 hn

theorem keep_iff (s : State) (r : Except Err Unit) : (∃ s', keep s r = .ok s') ↔ r = .ok () := by
  constructor
  · rintro ⟨s', h⟩; exact (keep_ok h).2
  · intro h; rw [h]; exact ⟨s, rfl⟩

theorem require_isOk (b : Bool) (e : Err) : (require b e).isOk = b := by cases b <;> rfl

theorem anyRole_iff (s : State) (k : Nat) (rs : List Nat) :
    anyRole s k rs = true ↔ ∃ r, r ∈ rs ∧ memb s k r = true := by
  unfold anyRole
  rw [List.any_eq_true]
  rfl

theorem isAdmin_iff (s : State) (k : Nat) : isAdmin s k = true ↔ getAdmin s = some k := by
  unfold isAdmin
  cases getAdmin s with
  | none => exact ⟨fun h => (nomatch h), fun h => (nomatch h)⟩
  | some ad => exact ⟨fun h => congrArg some (beq_iff_eq.mp h).symm, fun h => beq_iff_eq.mpr (Option.some.inj h).symm⟩

theorem isAdminRole_iff (s : State) (r k : Nat) :
    isAdminRole s r k = true ↔ ∃ ar, getRoleAdmin s r = some ar ∧ memb s k ar = true := by
  unfold isAdminRole
  cases getRoleAdmin s r with
  | none => exact ⟨fun h => (nomatch h), fun ⟨_, h, _⟩ => (nomatch h)⟩
  | some ar => exact ⟨fun h => ⟨ar, rfl, h⟩, fun ⟨_, h1, h2⟩ => Option.some.inj h1 ▸ h2⟩

theorem mayAdminister_iff (s : State) (r k : Nat) :
    (isAdmin s k || isAdminRole s r k) = true ↔
      getAdmin s = some k ∨ ∃ ar, getRoleAdmin s r = some ar ∧ memb s k ar = true := by
  rw [Bool.or_eq_true, isAdmin_iff, isAdminRole_iff]

/-! ### guards, on any state -/

theorem onlyRole_iff (c : Cfg) (s : State) (auth : List Nat) (k r : Nat) (b : Bool) :
    (∃ s', apply c s auth (.onlyRole k r b) = .ok s') ↔ memb s k r = true ∧ k ∈ auth ∧ b = true := by
  simp only [apply, keep_iff, onlyRole, ensureRole, requireAuth, unit_ok_iff, require_iff]
  rw [List.contains_iff_mem]; rfl

theorem hasRole_iff (c : Cfg) (s : State) (auth : List Nat) (k r : Nat) (ba b : Bool) :
    (∃ s', apply c s auth (.hasRole k r ba b) = .ok s') ↔
      memb s k r = true ∧ (ba = true → k ∈ auth) ∧ b = true := by
  simp only [apply, keep_iff, hasRoleGuard, body, ensureRole, unit_ok_iff, require_iff]
  cases ba <;> simp [memb]

theorem hasAnyRole_iff (c : Cfg) (s : State) (auth : List Nat) (k : Nat) (rs : List Nat) (ba : Bool) :
    (∃ s', apply c s auth (.hasAnyRole k rs ba) = .ok s') ↔
      anyRole s k rs = true ∧ (ba = true → k ∈ auth) := by
  simp only [apply, keep_iff, hasAnyRoleGuard, body, unit_ok_iff, require_iff]
  cases ba <;> simp

theorem onlyAnyRole_iff (c : Cfg) (s : State) (auth : List Nat) (k : Nat) (rs : List Nat) :
    (∃ s', apply c s auth (.onlyAnyRole k rs) = .ok s') ↔ anyRole s k rs = true ∧ k ∈ auth := by
  simp only [apply, keep_iff, onlyAnyRoleGuard, requireAuth, unit_ok_iff, require_iff]
  rw [List.contains_iff_mem]

theorem ensure_iff (c : Cfg) (s : State) (auth : List Nat) (r k : Nat) :
    (∃ s', apply c s auth (.ensureAdminOrRole r k) = .ok s') ↔
      (isAdmin s k || isAdminRole s r k) = true := by
  simp only [apply, keep_iff, ensureIfAdminOrAdminRole, require_iff]

/-- `#[only_admin]` / `#[only_owner]` -/
theorem guarded_iff (c : Cfg) (f : Flavor) (s : State) (auth : List Nat) :
    ((∃ s', apply c s auth (Op.sub f .guarded) = .ok s') ↔ ∃ a, (sub f s).holder = some a ∧ a ∈ auth) ∧
    (∀ s', apply c s auth (Op.sub f .guarded) = .ok s' → s' = s) := by
  have ok : ∀ s', apply c s auth (Op.sub f .guarded) = .ok s' →
      s' = s ∧ ∃ a, (sub f s).holder = some a ∧ a ∈ auth := fun s' h => by
    cases f <;>
    · obtain ⟨t, ht, he⟩ := liftRT_ok h
      cases OZ.RoleTransfer.step_of_ok (subOp_ok ht).1 with
      | guarded hd hh ha => exact ⟨he, hd, hh, ha⟩
  refine ⟨⟨fun ⟨s', h⟩ => (ok s' h).2, fun ⟨a, h1, h2⟩ => ⟨s, ?_⟩⟩, fun s' h => (ok s' h).1⟩
  have e := OZ.RoleTransfer.ok_of_step (c := c) (f := f) (.guarded a h1 h2)
  cases f <;>
  · simp only [sub] at e
    simp only [Op.sub, apply, subOp, e]
    rfl

/-! ### the enumeration of a role as a list -/

namespace Mon

theorem toOption_getRoleMember (s : State) (r i : Nat) :
    (getRoleMember s r i).toOption = s.accounts r i := by
  unfold getRoleMember
  cases s.accounts r i <;> rfl

theorem members_eq (s : State) (r : Nat) :
    members s r = (List.range (cnt s r)).map (s.accounts r) := by
  unfold members
  apply List.map_congr_left
  intro i _
  exact toOption_getRoleMember s r i

theorem members_all_some {s : State} {r : Nat} (hi : RoleInv s r) :
    ∀ x, x ∈ members s r → ∃ a, x = some a := by
  intro x hx
  rw [members_eq, List.mem_map] at hx
  obtain ⟨i, hi', rfl⟩ := hx
  obtain ⟨a, ha, -⟩ := hi.fwd i (List.mem_range.mp hi')
  exact ⟨a, ha⟩

def enumOf (s : State) (r : Nat) : List Nat := (members s r).filterMap id

theorem enumOf_some {s : State} {r : Nat} (hi : RoleInv s r) : (enumOf s r).map some = members s r :=
  OZ.Lists.map_some_filterMap _ (members_all_some hi)

theorem members_length (s : State) (r : Nat) : (members s r).length = cnt s r := by
  simp [members]

theorem enumOf_eq_listOf (s : State) (r : Nat) : enumOf s r = listOf (s.accounts r) (cnt s r) := by
  unfold enumOf listOf
  rw [members_eq, List.filterMap_map]
  rfl

theorem enumOf_length {s : State} {r : Nat} (hi : RoleInv s r) : (enumOf s r).length = cnt s r :=
  enumOf_eq_listOf s r ▸ (LOK_list hi.lokd).1

theorem enumOf_nodup {s : State} {r : Nat} (hi : RoleInv s r) : (enumOf s r).Nodup :=
  enumOf_eq_listOf s r ▸ (LOK_list hi.lokd).2.1

theorem mem_enumOf {s : State} {r a : Nat} (hi : RoleInv s r) : a ∈ enumOf s r ↔ memb s a r = true :=
  enumOf_eq_listOf s r ▸ (LOK_list hi.lokd).2.2 a

theorem enumOf_getElem? {s : State} {r i a : Nat} (hi : RoleInv s r) (h : s.hasRole a r = some i) :
    (enumOf s r)[i]? = some a := by
  obtain ⟨hlt, hacc⟩ := hi.back a i h
  have h1 := OZ.Lists.map_some_get ((members_eq s r).symm.trans (enumOf_some hi).symm) i
  rw [List.getElem?_range hlt] at h1
  exact h1.symm.trans hacc

end Mon

end OZ.Access
