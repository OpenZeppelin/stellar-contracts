import OZ.Model.IdentityMon
import OZ.Lemmas.Lists
import OZ.Lemmas.IdentityHist
/-
The agreement between the C15 monitor's ghost state and the model's world, component by component (registries, identity
registry storage, identity stores, claim issuers), preserved by every accepted operation.
-/
namespace OZ.Identity.Mon
open OZ.Host OZ.Identity OZ.ClaimIssuer

/-! ### association lists -/

section assoc
variable {κ ν : Type} [BEq κ] [LawfulBEq κ] [DecidableEq κ]

theorem assocGet_cons (p : κ × ν) (l : List (κ × ν)) (k : κ) :
    assocGet (p :: l) k = if p.1 = k then some p.2 else assocGet l k := by
  unfold assocGet
  rw [List.find?_cons]
  by_cases h : p.1 = k
  · rw [if_pos h]
    have : (p.1 == k) = true := by simpa using h
    rw [this]; rfl
  · rw [if_neg h]
    have : (p.1 == k) = false := by simpa using h
    rw [this]

theorem assocGet_filter (l : List (κ × ν)) (k k' : κ) :
    assocGet (l.filter (fun p => !(p.1 == k))) k' = if k' = k then none else assocGet l k' := by
  unfold assocGet
  rw [OZ.Lists.find?_filter_key (·.1) l k k' (by simp) (by simp), apply_ite (Option.map _)]
  rfl

theorem assocGet_set (l : List (κ × ν)) (k : κ) (v : ν) (k' : κ) :
    assocGet (assocSet l k v) k' = if k' = k then some v else assocGet l k' := by
  unfold assocSet
  rw [assocGet_cons, assocGet_filter]
  by_cases hk : k' = k
  · simp only [if_pos hk, if_pos hk.symm]
  · have hk' : ¬ k = k' := fun c => hk c.symm
    simp only [if_neg hk, if_neg hk']

theorem assocGet_del (l : List (κ × ν)) (k k' : κ) :
    assocGet (assocDel l k) k' = if k' = k then none else assocGet l k' := assocGet_filter l k k'

theorem assocGet_mapVal (l : List (κ × ν)) (G : κ → ν → ν) (k : κ) :
    assocGet (l.map (fun p => (p.1, G p.1 p.2))) k = (assocGet l k).map (G k) := by
  induction l with
  | nil => rfl
  | cons p l ih =>
    rw [List.map_cons, assocGet_cons, assocGet_cons, ih]
    by_cases h : p.1 = k
    · rw [if_pos h, if_pos h, h]; rfl
    · rw [if_neg h, if_neg h]

end assoc

theorem fst_ne {α β : Type} {x r : α} (h : x ≠ r) (a b : β) : (x, a) ≠ (r, b) :=
  fun c => h (congrArg Prod.fst c)

theorem mem_filter_ne {α : Type} [BEq α] [LawfulBEq α] {l : List α} {a x : α} :
    x ∈ l.filter (fun y => !(y == a)) ↔ x ∈ l ∧ x ≠ a := by
  rw [List.mem_filter, Bool.not_eq_true', beq_eq_false_iff_ne]

/-! ### registries -/

structure RegAgree (req : List (Nat × Nat)) (trust : List ((Nat × Nat) × List Nat))
    (regs : Nat → Option Reg) : Prop where
  dom : ∀ r, (regs r).isSome = true ↔ r ∈ REGS
  inv : ∀ r reg, regs r = some reg → reg.Inv
  req : ∀ r t, (r, t) ∈ req ↔ ∃ reg, regs r = some reg ∧ t ∈ reg.topics
  trust : ∀ r i, assocGet trust (r, i) = (regs r).bind (fun reg => reg.issuerTopics i)

theorem regAgree_at {req : List (Nat × Nat)} {trust : List ((Nat × Nat) × List Nat)} {regs : Nat → Option Reg}
    {r : Nat} {reg : Reg} (h : RegAgree req trust regs) (hr : regs r = some reg) :
    (∀ t, (r, t) ∈ req ↔ t ∈ reg.topics) ∧ ∀ i, assocGet trust (r, i) = reg.issuerTopics i := by
  refine ⟨fun t => ?_, fun i => ?_⟩
  · rw [h.req, hr]; exact ⟨fun ⟨_, e, ht⟩ => Option.some.inj e ▸ ht, fun ht => ⟨reg, rfl, ht⟩⟩
  · rw [h.trust, hr]; rfl

theorem regAgree_set {req req' : List (Nat × Nat)} {trust trust' : List ((Nat × Nat) × List Nat)}
    {regs : Nat → Option Reg} {r : Nat} {reg reg' : Reg}
    (h : RegAgree req trust regs) (hr : regs r = some reg) (hinv : reg'.Inv)
    (hq : ∀ t, (r, t) ∈ req' ↔ t ∈ reg'.topics) (hq' : ∀ x t, x ≠ r → ((x, t) ∈ req' ↔ (x, t) ∈ req))
    (ht : ∀ i, assocGet trust' (r, i) = reg'.issuerTopics i)
    (ht' : ∀ x i, x ≠ r → assocGet trust' (x, i) = assocGet trust (x, i)) :
    RegAgree req' trust' (upd regs r (some reg')) := by
  refine ⟨fun x => ?_, forall_upd_some (P := fun _ (reg : Reg) => reg.Inv) h.inv hinv, fun x t => ?_, fun x i => ?_⟩
  · rw [isSome_upd_some (by rw [hr]; rfl)]; exact h.dom x
  · by_cases hx : x = r
    · rw [hx, hq, upd_eq]; exact ⟨fun ht => ⟨reg', rfl, ht⟩, fun ⟨_, e, ht⟩ => Option.some.inj e ▸ ht⟩
    · rw [hq' x t hx, upd_other _ _ _ _ hx]; exact h.req x t
  · by_cases hx : x = r
    · rw [hx, ht, upd_eq]; rfl
    · rw [ht' x i hx, upd_other _ _ _ _ hx]; exact h.trust x i

theorem erase_eq_filter_ne {l : List Nat} (h : l.Nodup) (t : Nat) :
    l.erase t = l.filter (fun x => decide (x ≠ t)) := by
  rw [h.erase_eq_filter]
  congr 1
  funext x
  by_cases hx : x = t <;> simp [hx]

theorem trust_removeTopic (trust : List ((Nat × Nat) × List Nat)) (r t x i : Nat) :
    assocGet (trust.map (fun p => if p.1.1 = r then (p.1, p.2.filter (· ≠ t)) else p)) (x, i) =
      if x = r then (assocGet trust (x, i)).map (fun ts => ts.filter (· ≠ t)) else assocGet trust (x, i) := by
  have hF : (fun p : (Nat × Nat) × List Nat => if p.1.1 = r then (p.1, p.2.filter (· ≠ t)) else p) =
      fun p => (p.1, (fun k ts => if k.1 = r then ts.filter (· ≠ t) else ts) p.1 p.2) := by
    funext p; by_cases hp : p.1.1 = r <;> simp [hp]
  rw [hF, assocGet_mapVal trust (fun k ts => if k.1 = r then ts.filter (· ≠ t) else ts)]
  by_cases hx : x = r <;> simp [hx]

theorem regAgree_step {g : G} {regs : Nat → Option Reg} {r : Nat} {reg reg' : Reg} (rop : RegOp)
    (h : RegAgree g.req g.trust regs) (hr : regs r = some reg) (e : rop.apply reg = .ok reg') :
    RegAgree (updateReg g r rop).req (updateReg g r rop).trust (upd regs r (some reg')) := by
  have hinv := h.inv r reg hr
  have hinv' := inv_apply rop hinv e
  obtain ⟨hreq, htrust⟩ := regAgree_at h hr
  have issuer : ∀ {trust' : List ((Nat × Nat) × List Nat)} (i : Nat) (v : Option (List Nat)),
      reg'.topics = reg.topics → reg'.issuerTopics = upd reg.issuerTopics i v →
      (∀ k, assocGet trust' k = if k = (r, i) then v else assocGet g.trust k) →
      RegAgree g.req trust' (upd regs r (some reg')) := by
    intro trust' i v htop hit hg
    refine regAgree_set h hr hinv' (fun y => by rw [htop]; exact hreq y) (fun _ _ _ => Iff.rfl)
      (fun j => ?_) (fun x j hx => by rw [hg, if_neg (fst_ne hx _ _)])
    rw [hg, hit, upd_apply, htrust]; simp only [Prod.mk.injEq, true_and]
  cases rop with
  | addTopic t =>
    obtain ⟨_, htop, hit, _⟩ := addTopic_spec e
    refine regAgree_set h hr hinv' (fun y => ?_) (fun x y hx => ?_) (fun i => by rw [hit]; exact htrust i)
      (fun _ _ _ => rfl)
    · show (r, y) ∈ (r, t) :: g.req ↔ _
      rw [htop, List.mem_append, List.mem_singleton, ← hreq, List.mem_cons, or_comm, Prod.mk.injEq, and_iff_right rfl]
    · show (x, y) ∈ (r, t) :: g.req ↔ _
      rw [List.mem_cons]; exact or_iff_right (fst_ne hx _ _)
  | removeTopic t =>
    obtain ⟨_, htop, _, hit⟩ := removeTopic_spec hinv e
    refine regAgree_set h hr hinv' (fun y => ?_) (fun x y hx => ?_) (fun i => ?_) (fun x i hx => ?_)
    · show (r, y) ∈ g.req.filter _ ↔ _
      rw [htop, ← hreq, mem_filter_ne, ne_eq, Prod.mk.injEq, and_iff_right rfl]
    · show (x, y) ∈ g.req.filter _ ↔ _
      rw [mem_filter_ne]; exact and_iff_left (fst_ne hx _ _)
    · show assocGet (g.trust.map _) (r, i) = _
      rw [trust_removeTopic, if_pos rfl, htrust, hit]
      cases hts : reg.issuerTopics i with
      | none => rfl
      | some ts => exact congrArg some (erase_eq_filter_ne (hinv.issuerTopicsOk i ts hts).1 t).symm
    · show assocGet (g.trust.map _) (x, i) = _
      rw [trust_removeTopic, if_neg hx]
  | addIssuer i ts =>
    obtain ⟨_, htop, _, hit, _⟩ := addIssuer_spec e
    exact issuer i (some ts) htop hit (assocGet_set _ _ _)
  | updateIssuer i ts =>
    obtain ⟨_, htop, _, hit, _⟩ := updateIssuer_spec e
    exact issuer i (some ts) htop hit (assocGet_set _ _ _)
  | removeIssuer i =>
    obtain ⟨_, htop, _, hit⟩ := removeIssuer_spec e
    exact issuer i none htop hit (assocGet_del _ _)

/-! ### identity registry storage -/

def IrsAgree (ident : List (Nat × Nat)) (irs : Irs) : Prop := ∀ a, assocGet ident a = irs.identity a

theorem irsAgree_set {ident : List (Nat × Nat)} {irs s' : Irs} {a d : Nat} (h : IrsAgree ident irs)
    (hs : s'.identity = upd irs.identity a (some d)) : IrsAgree (assocSet ident a d) s' := by
  intro x; rw [assocGet_set, hs, upd_apply, h x]

theorem irsAgree_del {ident : List (Nat × Nat)} {irs s' : Irs} {a : Nat} (h : IrsAgree ident irs)
    (hs : s'.identity = upd irs.identity a none) : IrsAgree (assocDel ident a) s' := by
  intro x; rw [assocGet_del, hs, upd_apply, h x]

theorem irsAgree_recover {g : G} {irs s' : Irs} {a b : Nat} (h : IrsAgree g.ident irs)
    (e : recoverIdentity irs a b = .ok s') : IrsAgree (updateRecover g a b).ident s' := by
  obtain ⟨d, hd, hb, rfl⟩ := recoverIdentity_unpack e
  have hab : a ≠ b := fun c => by rw [c, hb] at hd; cases hd
  unfold updateRecover
  rw [h a, hd]
  intro x
  show assocGet (assocSet (assocDel g.ident a) b d) x = upd (upd irs.identity b (some d)) a none x
  rw [assocGet_set, assocGet_del, upd_apply, upd_apply, h x]
  -- the ghost deletes `a` and then sets `b`, the code sets `b` and then deletes `a`
  by_cases hxa : x = a
  · rw [if_pos hxa, if_pos hxa, if_neg (hxa ▸ hab)]
  · rw [if_neg hxa, if_neg hxa]

/-! ### identity stores -/

def Tight {σ : Type} (st : IdStore σ) : Prop :=
  st.WF ∧ st.IdxNodup ∧ ∀ i t, (st.claim i t).isSome = true → (i, t) ∈ st.byTopic t

structure IdsAgree (claims : List ((Nat × Nat × Nat) × Claim SymSig)) (loose : List Nat)
    (ids : Nat → Option (IdStore SymSig)) : Prop where
  dom : ∀ d, (ids d).isSome = true ↔ d ∈ IDS
  claims : ∀ d i t, assocGet claims (d, i, t) = (ids d).bind (fun st => st.claim i t)
  tight : ∀ d st, ids d = some st → d ∉ loose → Tight st

theorem idsAgree_set {claims claims' : List ((Nat × Nat × Nat) × Claim SymSig)} {loose loose' : List Nat}
    {ids : Nat → Option (IdStore SymSig)} {d ci ct : Nat} {o : Option (Claim SymSig)} {st st' : IdStore SymSig}
    (h : IdsAgree claims loose ids) (hst : ids d = some st)
    (hcl : st'.claim = upd2 st.claim ci ct o)
    (hc : ∀ k, assocGet claims' k = if k = (d, ci, ct) then o else assocGet claims k)
    (hl : ∀ x, x ∈ loose → x ∈ loose')
    (ht : d ∉ loose' → Tight st → Tight st') : IdsAgree claims' loose' (upd ids d (some st')) := by
  refine ⟨fun x => ?_, fun x i t => ?_, fun x sx hx hnl => ?_⟩
  · rw [isSome_upd_some (by rw [hst]; rfl)]; exact h.dom x
  · rw [hc]
    by_cases hx : x = d
    · rw [hx, upd_eq, h.claims, hst]
      show _ = st'.claim i t
      rw [hcl, upd2_apply]; simp only [Prod.mk.injEq, true_and]; rfl
    · rw [if_neg (fst_ne hx _ _), upd_other _ _ _ _ hx]; exact h.claims x i t
  · by_cases hxd : x = d
    · rw [hxd, upd_eq] at hx; cases hx
      exact ht (hxd ▸ hnl) (h.tight d st hst (fun c => hnl (hxd ▸ hl d c)))
    · rw [upd_other _ _ _ _ hxd] at hx
      exact h.tight x sx hx (fun c => hnl (hl x c))

theorem tight_empty {σ : Type} : Tight (IdStore.empty : IdStore σ) :=
  ⟨wf_empty, idxNodup_empty, fun i t h => by cases h⟩

/-- `hwn` is what `wf_storeClaim` / `wf_rawPutSt` give -/
theorem tight_putClaim {σ : Type} {st : IdStore σ} {ci ct : Nat} {c : Claim σ} {b : Bool} (h : Tight st)
    (hwn : (putClaim st ci ct c b).WF ∧ (putClaim st ci ct c b).IdxNodup) (hb : b = true → (ci, ct) ∈ st.byTopic ct) :
    Tight (putClaim st ci ct c b) := by
  refine ⟨hwn.1, hwn.2, fun i t hs => ?_⟩
  rw [putClaim_claim, upd2_apply] at hs
  rw [mem_putClaim]
  split at hs
  · rename_i e
    obtain ⟨rfl, rfl⟩ := e
    cases b
    · exact .inr ⟨rfl, rfl, rfl⟩
    · exact .inl (hb rfl)
  · exact .inl (h.2.2 i t hs)

theorem tight_storeClaim {σ : Type} {st : IdStore σ} (c : Claim σ) (h : Tight st) : Tight (storeClaim st c) :=
  tight_putClaim h (wf_storeClaim c ⟨h.1, h.2.1⟩) (h.2.2 _ _)

theorem tight_rawPut {σ : Type} {st : IdStore σ} (ci ct : Nat) (c : Claim σ) (h : Tight st) :
    Tight (rawPutSt st ci ct c) :=
  tight_putClaim h (wf_rawPutSt ci ct c ⟨h.1, h.2.1⟩) List.contains_iff_mem.mp

theorem indexed_dropClaim {σ : Type} {st : IdStore σ} {ci ct topic : Nat} (hn : st.IdxNodup)
    (hx : ∀ i t, (st.claim i t).isSome = true → (i, t) ∈ st.byTopic t) (i t : Nat)
    (hs : ((dropClaim st ci ct topic).claim i t).isSome = true) : (i, t) ∈ (dropClaim st ci ct topic).byTopic t := by
  rw [dropClaim_claim, upd2_apply] at hs
  split at hs
  · cases hs
  · rename_i e
    exact (mem_dropClaim hn).mpr ⟨hx i t hs, fun c => e (Prod.mk.inj c.2)⟩

theorem tight_dropClaim {σ : Type} {st : IdStore σ} (ci ct : Nat) (h : Tight st) : Tight (dropClaim st ci ct ct) :=
  ⟨(wf_dropClaim ci ct ⟨h.1, h.2.1⟩).1, (wf_dropClaim ci ct ⟨h.1, h.2.1⟩).2, indexed_dropClaim h.2.1 h.2.2⟩

theorem tight_removeClaim {σ : Type} {st st' : IdStore σ} {ci ct : Nat} (h : Tight st)
    (htop : ∀ c, st.claim ci ct = some c → c.topic = ct)
    (e : removeClaimSt st ci ct = .ok st') : Tight st' := by
  obtain ⟨c, hc, rfl⟩ := removeClaimSt_unpack e
  rw [htop c hc]
  exact tight_dropClaim ci ct h

/-! ### claim issuers -/

def nonceOf (issuers : Nat → Option Issuer) (i d t : Nat) : Nat :=
  match issuers i with
  | some s => currentNonce s d t
  | none => 0

def revokedOf (issuers : Nat → Option Issuer) (i d t : Nat) (data : List Nat) : Bool :=
  match issuers i with
  | some s => isClaimRevoked s d t data
  | none => false

structure IssAgree (keys : List (Nat × Nat × Nat × Nat × Nat)) (nonce : List ((Nat × Nat × Nat) × Nat))
    (revoked : List ((Nat × Nat × Nat × List Nat) × Bool)) (issuers : Nat → Option Issuer) : Prop where
  dom : ∀ i, (issuers i).isSome = true ↔ i ∈ ISSUERS
  inv : ∀ i s, issuers i = some s → s.Inv
  keys : ∀ i k sc t r, (i, k, sc, t, r) ∈ keys ↔ ∃ s, issuers i = some s ∧ authorized s k sc t r
  nonce : ∀ i d t, (assocGet nonce (i, d, t)).getD 0 = nonceOf issuers i d t
  revoked : ∀ i d t data, (assocGet revoked (i, d, t, data)).getD false = revokedOf issuers i d t data

section issAgree
variable {keys keys' : List (Nat × Nat × Nat × Nat × Nat)} {nonce nonce' : List ((Nat × Nat × Nat) × Nat)}
  {revoked revoked' : List ((Nat × Nat × Nat × List Nat) × Bool)} {issuers : Nat → Option Issuer}
  {i : Nat} {s s' : Issuer}

theorem issAgree_keys_at (h : IssAgree keys nonce revoked issuers) (hs : issuers i = some s) (k sc t r : Nat) :
    (i, k, sc, t, r) ∈ keys ↔ authorized s k sc t r := by
  rw [h.keys, hs]
  exact ⟨fun ⟨_, e0, ha⟩ => Option.some.inj e0 ▸ ha, fun ha => ⟨s, rfl, ha⟩⟩

theorem issAgree_nonce_at (h : IssAgree keys nonce revoked issuers) (hs : issuers i = some s) (d t : Nat) :
    (assocGet nonce (i, d, t)).getD 0 = currentNonce s d t := by
  rw [h.nonce]; unfold nonceOf; rw [hs]

theorem issAgree_revoked_at (h : IssAgree keys nonce revoked issuers) (hs : issuers i = some s) (d t : Nat)
    (data : List Nat) : (assocGet revoked (i, d, t, data)).getD false = isClaimRevoked s d t data := by
  rw [h.revoked]; unfold revokedOf; rw [hs]

theorem issAgree_set (h : IssAgree keys nonce revoked issuers) (hs : issuers i = some s) (hinv : s'.Inv)
    (hk : ∀ k sc t r, (i, k, sc, t, r) ∈ keys' ↔ authorized s' k sc t r)
    (hk' : ∀ x k sc t r, x ≠ i → ((x, k, sc, t, r) ∈ keys' ↔ (x, k, sc, t, r) ∈ keys))
    (hn : ∀ d t, (assocGet nonce' (i, d, t)).getD 0 = currentNonce s' d t)
    (hn' : ∀ x d t, x ≠ i → assocGet nonce' (x, d, t) = assocGet nonce (x, d, t))
    (hr : ∀ d t data, (assocGet revoked' (i, d, t, data)).getD false = isClaimRevoked s' d t data)
    (hr' : ∀ x d t data, x ≠ i → assocGet revoked' (x, d, t, data) = assocGet revoked (x, d, t, data)) :
    IssAgree keys' nonce' revoked' (upd issuers i (some s')) := by
  refine ⟨fun x => ?_, forall_upd_some (P := fun _ (s : Issuer) => s.Inv) h.inv hinv, fun x k sc t r => ?_,
    fun x d t => ?_, fun x d t data => ?_⟩
  · rw [isSome_upd_some (by rw [hs]; rfl)]; exact h.dom x
  · by_cases hx : x = i
    · rw [hx, hk, upd_eq]; exact ⟨fun ha => ⟨s', rfl, ha⟩, fun ⟨_, e0, ha⟩ => Option.some.inj e0 ▸ ha⟩
    · rw [hk' x k sc t r hx, upd_other _ _ _ _ hx]; exact h.keys x k sc t r
  · unfold nonceOf
    by_cases hx : x = i
    · rw [hx, hn, upd_eq]
    · rw [hn' x d t hx, upd_other _ _ _ _ hx]; exact h.nonce x d t
  · unfold revokedOf
    by_cases hx : x = i
    · rw [hx, hr, upd_eq]
    · rw [hr' x d t data hx, upd_other _ _ _ _ hx]; exact h.revoked x d t data

theorem keys_frame (h : IssAgree keys nonce revoked issuers) (hs : issuers i = some s) (hp : s'.pairs = s.pairs)
    (k sc t r : Nat) : (i, k, sc, t, r) ∈ keys ↔ authorized s' k sc t r := by
  rw [issAgree_keys_at h hs]; unfold authorized; rw [hp]

theorem nonce_frame (h : IssAgree keys nonce revoked issuers) (hs : issuers i = some s) (hn : s'.nonce = s.nonce)
    (d t : Nat) : (assocGet nonce (i, d, t)).getD 0 = currentNonce s' d t := by
  rw [issAgree_nonce_at h hs]; unfold currentNonce; rw [hn]

theorem revoked_frame (h : IssAgree keys nonce revoked issuers) (hs : issuers i = some s)
    (hr : s'.revoked = s.revoked) (d t : Nat) (data : List Nat) :
    (assocGet revoked (i, d, t, data)).getD false = isClaimRevoked s' d t data := by
  rw [issAgree_revoked_at h hs]; unfold isClaimRevoked; rw [hr]

end issAgree

/-! ### the whole ghost state -/

structure AgreeW (g : G) (W : World SymSig) : Prop where
  ts : g.ts = W.env.timestamp
  net : W.env.network = 0
  cti : g.cti = W.vCti
  virs : g.virs = W.vIrs
  reg : RegAgree g.req g.trust W.regs
  irs : IrsAgree g.ident W.irs
  ids : IdsAgree g.claims g.loose W.ids
  iss : IssAgree g.keys g.nonce g.revoked W.issuers

section frames
variable {g : G} {W : World SymSig}

theorem AgreeW.setReg (h : AgreeW g W) {q : List (Nat × Nat)} {t : List ((Nat × Nat) × List Nat)}
    {R : Nat → Option Reg} (hr : RegAgree q t R) : AgreeW { g with req := q, trust := t } { W with regs := R } :=
  { h with reg := hr }

theorem AgreeW.setIrs (h : AgreeW g W) {l : List (Nat × Nat)} {s : Irs} (hr : IrsAgree l s) :
    AgreeW { g with ident := l } { W with irs := s } :=
  { h with irs := hr }

theorem AgreeW.setIds (h : AgreeW g W) {c : List ((Nat × Nat × Nat) × Claim SymSig)} {l : List Nat}
    {I : Nat → Option (IdStore SymSig)} (hr : IdsAgree c l I) :
    AgreeW { g with claims := c, loose := l } { W with ids := I } :=
  { h with ids := hr }

theorem AgreeW.setIss (h : AgreeW g W) {k : List (Nat × Nat × Nat × Nat × Nat)} {rm : List (Nat × Nat × Nat × Nat)}
    {n : List ((Nat × Nat × Nat) × Nat)} {rv : List ((Nat × Nat × Nat × List Nat) × Bool)}
    {I : Nat → Option Issuer} (hr : IssAgree k n rv I) :
    AgreeW { g with keys := k, removed := rm, nonce := n, revoked := rv } { W with issuers := I } :=
  { h with iss := hr }

theorem agreeW_prev (h : AgreeW g W) (p : String) : AgreeW { g with prev := p } W :=
  ⟨h.ts, h.net, h.cti, h.virs, h.reg, h.irs, h.ids, h.iss⟩

end frames

theorem updateRecover_eq (g : G) (a b : Nat) : updateRecover g a b = { g with ident := (updateRecover g a b).ident } := by
  unfold updateRecover; split <;> rfl

theorem agree_update {g : G} {W W' : World SymSig} (op : Op SymSig) (h : AgreeW g W)
    (e : applyOp symVerify W op = .ok W') : AgreeW (update g op) W' := by
  cases op <;> simp only [applyOp] at e
  case reg ra rop =>
    obtain ⟨r, r', hr, hf, rfl⟩ := onReg_unpack e
    have hreg := regAgree_step rop h.reg hr hf
    cases rop <;> exact h.setReg hreg
  case irsAdd a d =>
    obtain ⟨s, hf, rfl⟩ := onIrs_unpack e
    exact h.setIrs (irsAgree_set h.irs (addIdentity_unpack hf ▸ rfl))
  case irsModify a d =>
    obtain ⟨s, hf, rfl⟩ := onIrs_unpack e
    exact h.setIrs (irsAgree_set h.irs (modifyIdentity_unpack hf ▸ rfl))
  case irsRemove a =>
    obtain ⟨s, hf, rfl⟩ := onIrs_unpack e
    exact h.setIrs (irsAgree_del h.irs (removeIdentity_unpack hf ▸ rfl))
  case irsRecover a b =>
    obtain ⟨s, hf, rfl⟩ := onIrs_unpack e
    show AgreeW (updateRecover g a b) _
    rw [updateRecover_eq]
    exact h.setIrs (irsAgree_recover h.irs hf)
  case addClaim d c =>
    obtain ⟨st, hst, _, rfl⟩ := addClaim_unpack e
    exact h.setIds (idsAgree_set h.ids hst (by rw [storeClaim_eq, putClaim_claim]) (assocGet_set _ _ _) (fun _ hx => hx)
        (fun _ => tight_storeClaim c))
  case rawPut d ci ct c =>
    obtain ⟨st, st', hst, hf, rfl⟩ := onId_unpack e
    cases hf
    exact h.setIds (idsAgree_set h.ids hst (by rw [rawPutSt_eq, putClaim_claim]) (assocGet_set _ _ _) (fun _ hx => hx)
        (fun _ => tight_rawPut ci ct c))
  case removeClaim d ci ct =>
    obtain ⟨st, st', hst, hf, rfl⟩ := onId_unpack e
    obtain ⟨c, hc, hst'⟩ := removeClaimSt_unpack hf
    have hgc : assocGet g.claims (d, ci, ct) = some c := by rw [h.ids.claims, hst]; exact hc
    refine h.setIds (idsAgree_set h.ids hst (by rw [hst', dropClaim_claim]) (assocGet_del _ _) (fun x hx => ?_)
      (fun hnl ht => ?_))
    · split <;> simp [hx]
    · -- the identity is not marked loose: the ghost saw that the claim carries the topic of its id
      have htop : c.topic = ct := by
        refine Decidable.byContradiction fun hne => hnl ?_
        have hl : removesLoosely g d ci ct = true := by
          unfold removesLoosely; rw [hgc]; exact decide_eq_true hne
        rw [hl, if_pos rfl]; exact List.mem_cons_self ..
      exact tight_removeClaim ht (fun c' hc' => by rw [hc] at hc'; cases hc'; exact htop) hf
  case rawDel d ci ct =>
    obtain ⟨st, st', hst, hf, rfl⟩ := onId_unpack e
    cases hf
    exact h.setIds (idsAgree_set h.ids hst (by rw [rawDelSt_eq, dropClaim_claim]) (assocGet_del _ _) (fun _ hx => hx)
        (fun _ => tight_dropClaim ci ct))
  case allowKey i k sc ra t =>
    obtain ⟨s, s', hs, hf, rfl⟩ := onIssuer_unpack e
    obtain ⟨_, _, _, hauth⟩ := allowKey_spec hf
    obtain ⟨hn, hr⟩ := allowKey_frame hf
    refine h.setIss (issAgree_set h.iss hs (inv_allowKey (h.iss.inv i s hs) hf) (fun k' sc' t' r' => ?_)
      (fun x k' sc' t' r' hx => ?_) (nonce_frame h.iss hs hn) (fun _ _ _ _ => rfl) (revoked_frame h.iss hs hr)
      (fun _ _ _ _ _ => rfl))
    · rw [hauth, ← issAgree_keys_at h.iss hs, List.mem_cons, or_comm]
      simp only [Prod.mk.injEq, true_and]
    · rw [List.mem_cons]; exact or_iff_right (fst_ne hx _ _)
  case removeKey i k sc ra t =>
    obtain ⟨s, s', hs, hf, rfl⟩ := onIssuer_unpack e
    obtain ⟨_, hauth⟩ := removeKey_spec (h.iss.inv i s hs) hf
    obtain ⟨hn, hr⟩ := removeKey_frame hf
    refine h.setIss (issAgree_set h.iss hs (inv_removeKey (h.iss.inv i s hs) hf) (fun k' sc' t' r' => ?_)
      (fun x k' sc' t' r' hx => ?_) (nonce_frame h.iss hs hn) (fun _ _ _ _ => rfl) (revoked_frame h.iss hs hr)
      (fun _ _ _ _ _ => rfl))
    · show (i, k', sc', t', r') ∈ g.keys.filter _ ↔ _
      rw [hauth, ← issAgree_keys_at h.iss hs, mem_filter_ne]
      simp only [ne_eq, Prod.mk.injEq, true_and]
    · show (x, k', sc', t', r') ∈ g.keys.filter _ ↔ _
      rw [mem_filter_ne]; exact and_iff_left (fst_ne hx _ _)
  case invalidate i d t =>
    obtain ⟨s, s', hs, hf, rfl⟩ := onIssuer_unpack e
    obtain ⟨_, hp, hr⟩ := invalidate_frame hf
    refine h.setIss (issAgree_set h.iss hs (inv_invalidate (h.iss.inv i s hs) hf) (keys_frame h.iss hs hp)
      (fun _ _ _ _ _ _ => Iff.rfl) (fun d' t' => ?_) (fun x d' t' hx => ?_) (revoked_frame h.iss hs hr)
      (fun _ _ _ _ _ => rfl))
    · rw [invalidate_nonce hf, ← issAgree_nonce_at h.iss hs, ← issAgree_nonce_at h.iss hs d' t']
      simp only [assocGet_set, Prod.mk.injEq, true_and]
      split <;> rfl
    · exact (assocGet_set ..).trans (if_neg (fst_ne hx _ _))
  case revoke i d t data v =>
    obtain ⟨s, s', hs, hf, rfl⟩ := onIssuer_unpack e
    cases hf
    refine h.setIss (issAgree_set h.iss hs (inv_setClaimRevoked (h.iss.inv i s hs)) (keys_frame h.iss hs rfl)
      (fun _ _ _ _ _ _ => Iff.rfl) (nonce_frame h.iss hs rfl) (fun _ _ _ _ => rfl) (fun d' t' data' => ?_)
      (fun x d' t' data' hx => ?_))
    · rw [setRevoked_apply, ← issAgree_revoked_at h.iss hs d' t' data']
      simp only [assocGet_set, Prod.mk.injEq, true_and]
      split <;> rfl
    · exact (assocGet_set ..).trans (if_neg (fst_ne hx _ _))
  case setCti ra =>
    cases e
    exact { h with cti := rfl }
  case setIrs =>
    cases e
    exact { h with virs := rfl }
  case time ts =>
    cases e
    exact { h with ts := rfl }
  case valid _ _ _ _ _ _ | verify _ =>
    rw [query_unpack e]; exact h

end OZ.Identity.Mon
