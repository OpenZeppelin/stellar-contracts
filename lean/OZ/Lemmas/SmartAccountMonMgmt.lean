import OZ.Lemmas.SmartAccountStep
/-
Every accepted rule-management operation changes the ghost list `allRules` as the monitor's `ghostApply` does
(`Step.ghost`); the getters agree with the ghost list; the constructor succeeds exactly when `ctorOk` says so.
-/
namespace OZ.SmartAccount.Mon
open OZ.SmartAccount OZ.Lists

variable {s s' : Store} {id : Nat} {r : Rule}

theorem rulesOfType_eq (hI : Inv s) (t : RuleType) :
    rulesOfType s t = byIdAsc ((allRules s).filter (fun g => g.ty == t)) ∧ typeFails s t = false := by
  obtain ⟨rs, hrs, hmap⟩ := getContextRules_toG s (s.ids t) (inv_ids_get hI t)
  unfold rulesOfType typeFails
  rw [hrs]
  refine ⟨?_, rfl⟩
  dsimp only
  rw [byIdAsc_of_sorted _ ((allRules_sorted s).sublist List.filter_sublist), allRules_filter_ty hI, hmap]

theorem storeRules_eq (hI : Inv s) :
    typeUniverse.flatMap (rulesOfType s) = expectRules (allRules s) := by
  unfold expectRules
  congr 1
  funext t
  exact (rulesOfType_eq hI t).1

theorem storeFlag_eq (hI : Inv s) : typeUniverse.any (typeFails s) = false := by
  rw [List.any_eq_false]
  intro t _
  rw [(rulesOfType_eq hI t).2]; simp

theorem idTyOf_eq (s : Store) (id : Nat) : idTyOf s id = (gAt s id).map (fun g => (g.id, g.ty)) := by
  unfold idTyOf gAt
  cases h : getContextRule s id with
  | error e => rfl
  | ok r => simp [toG, getContextRule_id h]

theorem storeIds_eq (hI : Inv s) :
    (List.range (s.nextId + 2)).filterMap (idTyOf s) = expectIds (allRules s) := by
  unfold expectIds
  rw [byIdAsc_of_sorted _ (allRules_sorted s)]
  unfold allRules
  rw [List.map_filterMap]
  have hr : List.range (s.nextId + 2) = List.range s.nextId ++ [s.nextId, s.nextId + 1] := by
    rw [List.range_succ, List.range_succ]; simp
  rw [hr, List.filterMap_append]
  have h1 : idTyOf s s.nextId = none := by rw [idTyOf_eq, gAt_none_of_ge hI (Nat.le_refl _)]; rfl
  have h2 : idTyOf s (s.nextId + 1) = none := by rw [idTyOf_eq, gAt_none_of_ge hI (Nat.le_succ _)]; rfl
  rw [List.filterMap_cons_none h1, List.filterMap_cons_none h2, List.filterMap_nil, List.append_nil]
  apply filterMap_congr
  intro id _
  exact idTyOf_eq s id

theorem overLimit_false (hI : Inv s) {g : GRule} (hg : g ∈ allRules s) : overLimit g = false := by
  obtain ⟨r, hr, rfl⟩ := (mem_allRules hI).mp hg
  obtain ⟨-, hs, -, hp, hne⟩ := hI.rule_ok hr
  unfold MAX_SIGNERS at hs
  unfold MAX_POLICIES at hp
  show decide (r.signers.length > 15 ∨ r.policies.length > 5 ∨ (r.signers.isEmpty && r.policies.isEmpty) = true) = false
  rw [decide_eq_false_iff_not]
  rintro (h | h | h)
  · omega
  · omega
  · apply hne
    simp only [Bool.and_eq_true, List.isEmpty_iff] at h
    exact h

theorem getterCheck_quiet {st : St} (hI : Inv st.s) (r : MRes) :
    getterCheck (allRules st.s) (modelObs st r) = none := by
  unfold getterCheck
  rw [if_neg (by simp [modelObs, storeFlag_eq hI])]
  rw [if_neg (by simp [modelObs, storeRules_eq hI])]
  rw [if_neg (by simp [modelObs, storeIds_eq hI])]
  rw [if_neg (by simp [modelObs, allRules_length hI])]
  rw [if_neg]
  rintro (h | h)
  · rw [allRules_length hI] at h
    have := hI.count_le
    unfold MAX_CONTEXT_RULES at this
    omega
  · rw [List.any_eq_true] at h
    obtain ⟨g, hg, ho⟩ := h
    rw [overLimit_false hI hg] at ho; cases ho

def gOf (s : Store) (j : Nat) : Option GRule :=
  (s.metas j).map (fun m => ⟨j, m.ctype, m.validUntil, (s.signers j).getD [], (s.policies j).getD []⟩)

theorem gAt_eq (s : Store) (j : Nat) : gAt s j = gOf s j := by
  unfold gAt gOf getContextRule
  cases s.metas j <;> rfl

theorem gAt_of_get (h : getContextRule s id = .ok r) : gAt s id = some (toG r) :=
  gAt_some.mpr ⟨r, h, rfl⟩

theorem gAt_setSigners (hg : getContextRule s id = .ok r) (L : List Signer) (j : Nat) :
    gAt (setSigners s id L) j = if j = id then some { toG r with signers := L } else gAt s j := by
  obtain ⟨m, hm, rfl⟩ := (getContextRule_ok_iff s id r).mp hg
  rw [gAt_eq, gAt_eq]
  unfold gOf setSigners
  by_cases e : j = id
  · subst e; simp [updN, hm, toG]
  · simp [updN, e]

theorem gAt_setPolicies (hg : getContextRule s id = .ok r) (L : List Nat) (j : Nat) :
    gAt (setPolicies s id L) j = if j = id then some { toG r with policies := L } else gAt s j := by
  obtain ⟨m, hm, rfl⟩ := (getContextRule_ok_iff s id r).mp hg
  rw [gAt_eq, gAt_eq]
  unfold gOf setPolicies
  by_cases e : j = id
  · subst e; simp [updN, hm, toG]
  · simp [updN, e]

/-- the name is not shown by the getters -/
theorem gAt_setMeta (hg : getContextRule s id = .ok r) (m' : Meta)
    (hc : m'.ctype = r.ctype) (j : Nat) :
    gAt { s with metas := updN s.metas id (some m') } j
      = if j = id then some { toG r with vu := m'.validUntil } else gAt s j := by
  obtain ⟨m, hm, rfl⟩ := (getContextRule_ok_iff s id r).mp hg
  rw [gAt_eq, gAt_eq]
  unfold gOf
  by_cases e : j = id
  · subst e; simp [updN, toG, hc]
  · simp [updN, e]

theorem gAt_dropRule (s : Store) (id : Nat) (t : RuleType) (j : Nat) :
    gAt (dropRule s id t) j = if j = id then none else gAt s j := by
  rw [gAt_eq, gAt_eq]
  unfold gOf dropRule
  by_cases e : j = id
  · subst e; simp [updN]
  · simp [updN, e]

theorem gAt_storeRule (s : Store) (id : Nat) (t : RuleType) (name : Nat) (vu : Option Nat) (sg : List Signer)
    (pv : List Nat) (j : Nat) :
    gAt (storeRule s id t name vu sg pv) j = if j = id then some ⟨id, t, vu, sg, pv⟩ else gAt s j := by
  rw [gAt_eq, gAt_eq]
  unfold gOf storeRule
  by_cases e : j = id
  · subst e; simp [updN]
  · simp [updN, e]

theorem allRules_modify (hn : s'.nextId = s.nextId) {g0 : GRule} (h0 : gAt s id = some g0)
    (f : GRule → GRule) (h : ∀ j, gAt s' j = if j = id then some (f g0) else gAt s j) :
    allRules s' = modify (allRules s) id f := by
  unfold allRules modify
  rw [hn, KeyTab.modify (fun _ _ h => gAt_id h)]
  exact filterMap_congr fun j _ => by rw [h j, h0]; rfl

theorem allRules_remove (hn : s'.nextId = s.nextId) (id : Nat)
    (h : ∀ j, gAt s' j = if j = id then none else gAt s j) :
    allRules s' = (allRules s).filter (fun r => r.id != id) := by
  unfold allRules
  rw [hn, KeyTab.erase (fun _ _ h => gAt_id h) id (fun x => bne_iff_ne)]
  exact filterMap_congr fun j _ => h j

variable {g : List GRule → List GRule}

theorem Step.ghost (h : Step s g s') : allRules s' = g (allRules s) := by
  cases h with
  | add t name vu =>
    show List.filterMap (gAt (storeRule _ s.nextId t name vu _ _)) (List.range (s.nextId + 1)) = _
    rw [List.range_succ, List.filterMap_append]
    congr 1
    · exact filterMap_congr fun j hj => by
        rw [gAt_storeRule, if_neg (Nat.ne_of_lt (List.mem_range.mp hj))]; rfl
    · rw [List.filterMap_cons, List.filterMap_nil, gAt_storeRule, if_pos rfl]
  | @remove id r hg => exact allRules_remove (s := s) (by rfl) id (gAt_dropRule { s with fps := _ } id r.ctype)
  | setMeta hg m' hc f hf => exact allRules_modify (s := s) (by rfl) (gAt_of_get hg) f (hf ▸ gAt_setMeta hg m' hc)
  | signers hg _ _ f hf =>
    exact allRules_modify (s := s) (by rfl) (gAt_of_get hg) f (hf ▸ gAt_setSigners (s := reprint ..) hg _)
  | policies hg _ _ f hf =>
    exact allRules_modify (s := s) (by rfl) (gAt_of_get hg) f (hf ▸ gAt_setPolicies (s := reprint ..) hg _)

/-- `ctorOk` is the acceptance condition of `add_context_rule` on the empty store with hooks that never refuse -/
theorem ctor_result (start : Nat) (s0 : List Signer) (p0 : List Nat) :
    (ctorOk s0 p0 = true →
      ∃ s' r, addContextRule Store.empty start .default 0 none s0 p0 (fun _ => true) = .ok (s', r) ∧ r.id = 0) ∧
    (ctorOk s0 p0 = false →
      ∃ e, addContextRule Store.empty start .default 0 none s0 p0 (fun _ => true) = .error e) := by
  have hacc : ctorOk s0 p0 = true ↔ hasDup s0 = false ∧ validateSignersAndPolicies s0 (mapKeys p0) = .ok () := by
    unfold ctorOk
    rw [sortDedup_eq, validateSignersAndPolicies_ok_iff]
    simp [MAX_SIGNERS, MAX_POLICIES, and_assoc, Decidable.imp_iff_not_or]
  constructor
  · intro hc
    obtain ⟨hd, hv⟩ := hacc.mp hc
    exact ⟨_, _, addContextRule_ok_iff.mpr ⟨⟨by decide, hd, rfl, hv, rfl, by simp, by decide⟩, rfl, rfl⟩, rfl⟩
  · intro hc
    cases hq : addContextRule Store.empty start .default 0 none s0 p0 (fun _ => true) with
    | error e => exact ⟨e, rfl⟩
    | ok p =>
      obtain ⟨⟨-, hd, -, hv, -⟩, -⟩ := addContextRule_ok_iff.mp hq
      rw [hacc.mpr ⟨hd, hv⟩] at hc; cases hc

theorem allRules_empty : allRules Store.empty = [] := rfl

end OZ.SmartAccount.Mon
