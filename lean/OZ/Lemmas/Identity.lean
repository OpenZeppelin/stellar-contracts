import OZ.Model.Identity
import OZ.Lemmas.IdentityRegistry
/-
The notions C15 speaks about (`trustedFor`, `holds`, `satisfies`), the verifier's loops in closed form, and the invariant
`WorldInv` of every world reachable (`Reach`, under the side condition `Op.safe`) from a fresh deployment.
`putClaim` / `dropClaim`: what `add_claim` and the harness's `raw_put`, resp. `remove_claim` and `raw_del`, share.
-/
namespace OZ.Identity
open OZ.Host OZ.ClaimIssuer

variable {σ : Type}

/-- what `has_claim_topic` answers -/
def trustedFor (r : Reg) (i t : Nat) : Prop := ∃ ts, r.issuerTopics i = some ts ∧ t ∈ ts

def holds (st : IdStore σ) (i t : Nat) (c : Claim σ) : Prop :=
  (i, t) ∈ st.byTopic t ∧ st.claim i t = some c ∧ c.topic = t ∧ c.issuer = i

/-- issuer `i` settles topic `t` for identity `d` -/
def satisfies (V : Verifier σ) (W : World σ) (st : IdStore σ) (d t i : Nat) : Prop :=
  ∃ c, holds st i t c ∧ issuerConfirms V W i d t c.scheme c.sig c.data = true

def IdStore.WF (st : IdStore σ) : Prop :=
  ∀ t id, id ∈ st.byTopic t → id.2 = t ∧ (st.claim id.1 id.2).isSome

/-- holds of identity stores built by the library alone -/
def IdStore.Lib (st : IdStore σ) : Prop :=
  ∀ i t c, st.claim i t = some c → c.topic = t ∧ c.issuer = i

theorem isSome_upd2_some {β} {f : Nat → Nat → Option β} {x y : Nat} (h : (f x y).isSome = true) (a b : Nat) (v : β) :
    (upd2 f a b (some v) x y).isSome = true := by
  rw [upd2_apply]; split
  · rfl
  · exact h

theorem validateClaim_iff (V : Verifier σ) (W : World σ) (c : Claim σ) (t i d : Nat) :
    validateClaim V W c t i d = true ↔
      (c.topic = t ∧ c.issuer = i) ∧ issuerConfirms V W i d t c.scheme c.sig c.data = true := by
  unfold validateClaim
  by_cases h : c.topic = t ∧ c.issuer = i
  · rw [if_pos h]; exact ⟨fun x => ⟨h, x⟩, fun x => x.2⟩
  · rw [if_neg h]; exact ⟨fun x => (by cases x), fun x => absurd x.1 h⟩

theorem forAllOk_iff {α : Type} (f : α → Except Err Unit) :
    ∀ l : List α, forAllOk f l = .ok () ↔ ∀ a ∈ l, f a = .ok ()
  | [] => by simp [forAllOk]
  | a :: rest => by
    rw [List.forall_mem_cons, ← forAllOk_iff f rest]
    show (match f a with | .ok () => forAllOk f rest | .error e => .error e) = .ok () ↔ _
    cases f a with
    | error e => exact ⟨fun h => (by cases h), fun h => (by cases h.1)⟩
    | ok u => exact ⟨fun h => ⟨rfl, h⟩, fun h => h.2⟩

def okB {ε α : Type} : Except ε α → Bool
  | .ok _ => true
  | .error _ => false

/-! ### the issuer loop -/

theorem issuerLoop_cons (V : Verifier σ) (W : World σ) (st : IdStore σ) (d t i : Nat) (rest : List Nat) :
    issuerLoop V W st d t (i :: rest) = .ok () ↔
      satisfies V W st d t i ∨
        (((i, t) ∈ st.byTopic t → (st.claim i t).isSome) ∧ rest ≠ [] ∧ issuerLoop V W st d t rest = .ok ()) := by
  rw [issuerLoop]
  -- the end of an iteration that did not `break`: `is_last` panics, otherwise the loop goes on
  have tail : (if rest = [] then (.error .fail : Except Err Unit) else issuerLoop V W st d t rest) = .ok () ↔
      rest ≠ [] ∧ issuerLoop V W st d t rest = .ok () := by cases rest <;> simp
  -- per iteration: is the id indexed (if not: `tail`)? is there a claim under it (if not, `get_claim` panics and neither
  -- disjunct holds)? is the claim valid (if so the loop ends, if not: `tail`)?
  by_cases hm : (i, t) ∈ st.byTopic t <;> cases hc : st.claim i t <;>
    simp [satisfies, holds, hm, hc, tail, validateClaim_iff, Classical.or_iff_not_imp_left]

theorem issuerLoop_imp (V : Verifier σ) (W : World σ) (st : IdStore σ) (d t : Nat) :
    ∀ l : List Nat, l ≠ [] → issuerLoop V W st d t l = .ok () → ∃ i ∈ l, satisfies V W st d t i
  | [], h, _ => absurd rfl h
  | i :: rest, _, hl => by
    rcases (issuerLoop_cons V W st d t i rest).mp hl with hs | ⟨_, hne, hr⟩
    · exact ⟨i, List.mem_cons_self, hs⟩
    · obtain ⟨j, hj, hs⟩ := issuerLoop_imp V W st d t rest hne hr
      exact ⟨j, List.mem_cons_of_mem _ hj, hs⟩

/-- the converse needs every indexed id to have a claim: otherwise `get_claim` panics on the way -/
theorem issuerLoop_of (V : Verifier σ) (W : World σ) (st : IdStore σ) (d t : Nat)
    (hwf : ∀ i, (i, t) ∈ st.byTopic t → (st.claim i t).isSome) :
    ∀ l : List Nat, (∃ i ∈ l, satisfies V W st d t i) → issuerLoop V W st d t l = .ok ()
  | [], ⟨_, hi, _⟩ => nomatch hi
  | i :: rest, ⟨j, hj, hs⟩ => by
    refine (issuerLoop_cons V W st d t i rest).mpr ?_
    rcases List.mem_cons.mp hj with rfl | hj'
    · exact Or.inl hs
    · -- a later issuer settles the topic: this one is not the last
      exact Or.inr ⟨hwf i, List.ne_nil_of_mem hj', issuerLoop_of V W st d t hwf rest ⟨j, hj', hs⟩⟩

theorem issuerLoop_iff (V : Verifier σ) (W : World σ) (st : IdStore σ) (d t : Nat)
    (hwf : ∀ i, (i, t) ∈ st.byTopic t → (st.claim i t).isSome) (l : List Nat) (hl : l ≠ []) :
    issuerLoop V W st d t l = .ok () ↔ ∃ i ∈ l, satisfies V W st d t i :=
  ⟨issuerLoop_imp V W st d t l hl, issuerLoop_of V W st d t hwf l⟩

/-- why `verifyTopicLegacy` (no emptiness guard before the loop) accepts a topic without issuers -/
theorem issuerLoop_nil (V : Verifier σ) (W : World σ) (st : IdStore σ) (d t : Nat) :
    issuerLoop V W st d t [] = .ok () := rfl

theorem verifyTopicLegacy_iff (V : Verifier σ) (W : World σ) (d t : Nat) (l : List Nat) :
    verifyTopicLegacy V W d (t, l) = .ok () ↔
      ∃ st, W.ids d = some st ∧ issuerLoop V W st d t l = .ok () := by
  unfold verifyTopicLegacy
  cases W.ids d <;> simp

theorem verifyTopic_iff (V : Verifier σ) (W : World σ) (d t : Nat) (l : List Nat) :
    verifyTopic V W d (t, l) = .ok () ↔
      l ≠ [] ∧ ∃ st, W.ids d = some st ∧ issuerLoop V W st d t l = .ok () := by
  rw [← verifyTopicLegacy_iff]
  unfold verifyTopic verifyTopicLegacy
  cases l <;> simp

theorem verifyWith_iff (body : World σ → Nat → Nat × List Nat → Except Err Unit) (W : World σ) (a : Nat) :
    verifyWith body W a = .ok () ↔
      W.vIrs = true ∧ ∃ d ra r tis, W.irs.identity a = some d ∧ W.vCti = some ra ∧ W.regs ra = some r ∧
        getClaimTopicsAndIssuers r = .ok tis ∧ ∀ ti ∈ tis, body W d ti = .ok () := by
  constructor
  · intro h
    unfold verifyWith at h
    split at h
    · cases h
    · rename_i hv
      split at h
      · cases h
      · rename_i d hd
        split at h
        · cases h
        · rename_i ra hc
          split at h
          · cases h
          · rename_i r hr
            split at h
            · cases h
            · rename_i tis hg
              exact ⟨by simpa using hv, d, ra, r, tis, ofOpt_eq_ok.mp hd, hc, hr, hg, (forAllOk_iff _ _).mp h⟩
  · rintro ⟨hv, d, ra, r, tis, hd, hc, hr, hg, hb⟩
    unfold verifyWith storedIdentity
    simp only [hv, hd, hc, hr, hg, ofOpt, Bool.not_true, Bool.false_eq_true, if_false]
    exact (forAllOk_iff _ _).mpr hb

theorem verify_ok_imp (V : Verifier σ) (W : World σ) (hreg : ∀ ra r, W.regs ra = some r → r.Inv) (a : Nat)
    (hok : verifyIdentity V W a = .ok ()) :
    W.vIrs = true ∧ ∃ d ra r, W.irs.identity a = some d ∧ W.vCti = some ra ∧ W.regs ra = some r ∧
      ∀ t ∈ r.topics, ∃ i, trustedFor r i t ∧ ∃ st, W.ids d = some st ∧ satisfies V W st d t i := by
  obtain ⟨hv, d, ra, r, tis, hd, hc, hr, hg, hb⟩ := (verifyWith_iff _ W a).mp hok
  refine ⟨hv, d, ra, r, hd, hc, hr, ?_⟩
  have hinv := hreg ra r hr
  obtain ⟨tis', hg', hm⟩ := collect_ok hinv
  rw [hg] at hg'; cases hg'
  intro t ht
  obtain ⟨l, hl⟩ := Option.isSome_iff_exists.mp ((hinv.topicSome t).mp ht)
  obtain ⟨hne, st, hst, hloop⟩ := (verifyTopic_iff V W d t l).mp (hb (t, l) ((hm t l).mpr ⟨ht, hl⟩))
  obtain ⟨i, hi, hsat⟩ := issuerLoop_imp V W st d t l hne hloop
  exact ⟨i, ((hinv.fwd t l hl).2 i).mp hi, st, hst, hsat⟩

theorem verify_of_cond (V : Verifier σ) (W : World σ) (hreg : ∀ ra r, W.regs ra = some r → r.Inv) (a : Nat)
    (hv : W.vIrs = true) {d ra : Nat} {r : Reg} (hd : W.irs.identity a = some d) (hc : W.vCti = some ra)
    (hr : W.regs ra = some r) (hwf : ∀ st, W.ids d = some st → st.WF)
    (hall : ∀ t ∈ r.topics, ∃ i, trustedFor r i t ∧ ∃ st, W.ids d = some st ∧ satisfies V W st d t i) :
    verifyIdentity V W a = .ok () := by
  have hinv := hreg ra r hr
  obtain ⟨tis, hg, hm⟩ := collect_ok hinv
  refine (verifyWith_iff _ W a).mpr ⟨hv, d, ra, r, tis, hd, hc, hr, hg, ?_⟩
  rintro ⟨t, l⟩ hmem
  obtain ⟨ht, hl⟩ := (hm t l).mp hmem
  obtain ⟨i, htr, st, hst, hsat⟩ := hall t ht
  have hi : i ∈ l := ((hinv.fwd t l hl).2 i).mpr htr
  exact (verifyTopic_iff V W d t l).mpr ⟨List.ne_nil_of_mem hi, st, hst,
    issuerLoop_of V W st d t (fun i hi => (hwf st hst t (i, t) hi).2) l ⟨i, hi, hsat⟩⟩

/-! ### identity stores -/

/-- needed for removal to remove the only occurrence -/
def IdStore.IdxNodup (st : IdStore σ) : Prop := ∀ t, (st.byTopic t).Nodup

theorem wf_empty : (IdStore.empty : IdStore σ).WF := by
  intro t id h; cases h

theorem lib_empty : (IdStore.empty : IdStore σ).Lib := by
  intro i t c h; cases h

theorem idxNodup_empty : (IdStore.empty : IdStore σ).IdxNodup := fun _ => List.nodup_nil

theorem mem_indexAdd {st : IdStore σ} {topic : Nat} {id0 id : Nat × Nat} {t : Nat} :
    id ∈ (indexAdd st topic id0).byTopic t ↔ id ∈ st.byTopic t ∨ (t = topic ∧ id = id0) := by
  show id ∈ upd st.byTopic topic (st.byTopic topic ++ [id0]) t ↔ _
  by_cases ht : t = topic
  · subst ht; rw [upd_eq, List.mem_append, List.mem_singleton]; simp
  · rw [upd_other _ _ _ _ ht]; simp [ht]

/-- `add_claim` (after the issuer's consent) and the harness's `raw_put` both write the claim under its id and
differ only in the test that decides whether the id is already indexed -/
def putClaim (st : IdStore σ) (ci ct : Nat) (c : Claim σ) (indexed : Bool) : IdStore σ :=
  if indexed then { st with claim := upd2 st.claim ci ct (some c) }
  else indexAdd { st with claim := upd2 st.claim ci ct (some c) } ct (ci, ct)

theorem storeClaim_eq (st : IdStore σ) (c : Claim σ) :
    storeClaim st c = putClaim st c.issuer c.topic c (st.claim c.issuer c.topic).isSome := rfl

theorem rawPutSt_eq (st : IdStore σ) (ci ct : Nat) (c : Claim σ) :
    rawPutSt st ci ct c = putClaim st ci ct c ((st.byTopic ct).contains (ci, ct)) := rfl

theorem putClaim_claim (st : IdStore σ) (ci ct : Nat) (c : Claim σ) (b : Bool) :
    (putClaim st ci ct c b).claim = upd2 st.claim ci ct (some c) := by
  cases b <;> rfl

theorem mem_putClaim {st : IdStore σ} {ci ct : Nat} {c : Claim σ} {b : Bool} {id : Nat × Nat} {t : Nat} :
    id ∈ (putClaim st ci ct c b).byTopic t ↔ id ∈ st.byTopic t ∨ (b = false ∧ t = ct ∧ id = (ci, ct)) := by
  cases b
  · exact mem_indexAdd.trans (by simp)
  · simp [putClaim]

theorem wf_putClaim {st : IdStore σ} (ci ct : Nat) (c : Claim σ) {b : Bool} (h : st.WF ∧ st.IdxNodup)
    (hb : b = false → (ci, ct) ∉ st.byTopic ct) : (putClaim st ci ct c b).WF ∧ (putClaim st ci ct c b).IdxNodup := by
  refine ⟨fun t id hid => ?_, fun t => ?_⟩
  · rw [putClaim_claim]
    rcases mem_putClaim.mp hid with hid | ⟨_, rfl, rfl⟩
    · exact ⟨(h.1 t id hid).1, isSome_upd2_some (h.1 t id hid).2 ..⟩
    · exact ⟨rfl, by rw [upd2_same]; rfl⟩
  · cases b
    · show (upd st.byTopic ct (st.byTopic ct ++ [(ci, ct)]) t).Nodup
      rw [upd_apply]; split
      · exact OZ.Reg.nodup_append_singleton (h.2 ct) (hb rfl)
      · exact h.2 t
    · exact h.2 t

/-- `add_claim` takes an id for indexed when it has a claim: in a well-formed store an indexed id has one -/
theorem wf_storeClaim {st : IdStore σ} (c : Claim σ) (h : st.WF ∧ st.IdxNodup) :
    (storeClaim st c).WF ∧ (storeClaim st c).IdxNodup :=
  wf_putClaim _ _ c h fun hb hm => by rw [(h.1 _ _ hm).2] at hb; cases hb

theorem wf_rawPutSt {st : IdStore σ} (ci ct : Nat) (c : Claim σ) (h : st.WF ∧ st.IdxNodup) :
    (rawPutSt st ci ct c).WF ∧ (rawPutSt st ci ct c).IdxNodup :=
  wf_putClaim ci ct c h fun hb hm => by rw [List.contains_iff_mem.mpr hm] at hb; cases hb

theorem lib_storeClaim {st : IdStore σ} (c : Claim σ) (h : st.Lib) : (storeClaim st c).Lib := by
  intro i t c' hc
  rw [storeClaim_eq, putClaim_claim, upd2_apply] at hc
  split at hc
  · rename_i e; cases hc; exact ⟨e.2.symm, e.1.symm⟩
  · exact h i t c' hc

theorem indexRemove_claim (st : IdStore σ) (topic : Nat) (id0 : Nat × Nat) :
    (indexRemove st topic id0).claim = st.claim := by
  unfold indexRemove; split <;> rfl

theorem indexRemove_byTopic (st : IdStore σ) (topic : Nat) (id0 : Nat × Nat) (t : Nat) :
    (indexRemove st topic id0).byTopic t = if t = topic then (st.byTopic topic).erase id0 else st.byTopic t := by
  unfold indexRemove
  split
  · rfl
  · rename_i hc
    split
    · rename_i ht
      rw [ht, List.erase_of_not_mem (fun hm => hc (List.contains_iff_mem.mpr hm))]
    · rfl

/-- `topic`: the stored claim's topic for `remove_claim`, `ct` itself for the harness's `raw_del` -/
def dropClaim (st : IdStore σ) (ci ct topic : Nat) : IdStore σ :=
  indexRemove { st with claim := upd2 st.claim ci ct none } topic (ci, ct)

theorem rawDelSt_eq (st : IdStore σ) (ci ct : Nat) : rawDelSt st ci ct = dropClaim st ci ct ct := rfl

theorem removeClaimSt_unpack {st st' : IdStore σ} {ci ct : Nat} (e : removeClaimSt st ci ct = .ok st') :
    ∃ c, st.claim ci ct = some c ∧ st' = dropClaim st ci ct c.topic := by
  unfold removeClaimSt at e
  split at e
  · cases e
  · rename_i c hc; exact ⟨c, hc, (Except.ok.inj e).symm⟩

theorem dropClaim_claim (st : IdStore σ) (ci ct topic : Nat) :
    (dropClaim st ci ct topic).claim = upd2 st.claim ci ct none := indexRemove_claim ..

theorem mem_dropClaim {st : IdStore σ} {ci ct topic t : Nat} {id : Nat × Nat} (hn : st.IdxNodup) :
    id ∈ (dropClaim st ci ct topic).byTopic t ↔ id ∈ st.byTopic t ∧ ¬ (t = topic ∧ id = (ci, ct)) := by
  show id ∈ (indexRemove _ topic (ci, ct)).byTopic t ↔ _
  rw [indexRemove_byTopic]
  split
  · rename_i ht
    subst ht
    exact (hn t).mem_erase_iff.trans ⟨fun ⟨a, b⟩ => ⟨b, fun c => a c.2⟩, fun ⟨b, a⟩ => ⟨fun c => a ⟨rfl, c⟩, b⟩⟩
  · rename_i ht
    exact ⟨fun h => ⟨h, fun c => ht c.1⟩, fun h => h.1⟩

theorem idxNodup_dropClaim {st : IdStore σ} (ci ct topic : Nat) (h : st.IdxNodup) :
    (dropClaim st ci ct topic).IdxNodup := by
  intro t
  show ((indexRemove _ topic (ci, ct)).byTopic t).Nodup
  rw [indexRemove_byTopic]
  split
  · exact (h topic).erase _
  · exact h t

/-- the only index entry that loses its claim is the one that is removed -/
theorem wf_dropClaim {st : IdStore σ} (ci ct : Nat) (h : st.WF ∧ st.IdxNodup) :
    (dropClaim st ci ct ct).WF ∧ (dropClaim st ci ct ct).IdxNodup := by
  refine ⟨fun t id hid => ?_, idxNodup_dropClaim ci ct ct h.2⟩
  obtain ⟨hm, hne⟩ := (mem_dropClaim h.2).mp hid
  obtain ⟨h1, h2⟩ := h.1 t id hm
  rw [dropClaim_claim, upd2_other _ _ _ _ _ _ fun c => hne ⟨h1.symm.trans c.2, Prod.ext c.1 c.2⟩]
  exact ⟨h1, h2⟩

theorem wf_removeClaim {st st' : IdStore σ} {ci ct : Nat} (h : st.WF ∧ st.IdxNodup)
    (htop : ∀ c, st.claim ci ct = some c → c.topic = ct)
    (e : removeClaimSt st ci ct = .ok st') : st'.WF ∧ st'.IdxNodup := by
  obtain ⟨c, hc, rfl⟩ := removeClaimSt_unpack e
  rw [htop c hc]
  exact wf_dropClaim ci ct h

theorem lib_removeClaim {st st' : IdStore σ} {ci ct : Nat} (hl : st.Lib)
    (e : removeClaimSt st ci ct = .ok st') : st'.Lib := by
  obtain ⟨c, _, rfl⟩ := removeClaimSt_unpack e
  intro i t c' hc'
  rw [dropClaim_claim, upd2_apply] at hc'
  split at hc'
  · cases hc'
  · exact hl i t c' hc'

/-! ### the whole stack -/

structure WorldInv (W : World σ) : Prop where
  regs : ∀ ra r, W.regs ra = some r → r.Inv
  ids : ∀ d st, W.ids d = some st → st.WF ∧ st.IdxNodup

/-- side condition on histories: the library's `remove_claim` is only used on claims that carry the
topic of the id they are stored under (all claims stored by `add_claim` do; the condition only
restricts identity contracts that also write claims by other means) -/
def Op.safe (W : World σ) : Op σ → Prop
  | .removeClaim d ci ct => ∀ st c, W.ids d = some st → st.claim ci ct = some c → c.topic = ct
  | _ => True

theorem onReg_unpack {W W' : World σ} {ra : Nat} {f : Reg → Except Err Reg} (e : onReg W ra f = .ok W') :
    ∃ r r', W.regs ra = some r ∧ f r = .ok r' ∧ W' = { W with regs := upd W.regs ra (some r') } := by
  unfold onReg at e
  cases hr : W.regs ra with
  | none => rw [hr] at e; cases e
  | some r =>
    rw [hr] at e; simp only at e
    cases hf : f r with
    | error x => rw [hf] at e; cases e
    | ok r' => rw [hf] at e; injection e with e; exact ⟨r, r', rfl, hf, e.symm⟩

theorem onIrs_unpack {W W' : World σ} {f : Irs → Except Err Irs} (e : onIrs W f = .ok W') :
    ∃ s, f W.irs = .ok s ∧ W' = { W with irs := s } := by
  unfold onIrs at e
  cases hf : f W.irs with
  | error x => rw [hf] at e; cases e
  | ok s => rw [hf] at e; injection e with e; exact ⟨s, rfl, e.symm⟩

theorem onId_unpack {W W' : World σ} {d : Nat} {f : IdStore σ → Except Err (IdStore σ)}
    (e : onId W d f = .ok W') :
    ∃ st st', W.ids d = some st ∧ f st = .ok st' ∧ W' = { W with ids := upd W.ids d (some st') } := by
  unfold onId at e
  cases hr : W.ids d with
  | none => rw [hr] at e; cases e
  | some st =>
    rw [hr] at e; simp only at e
    cases hf : f st with
    | error x => rw [hf] at e; cases e
    | ok st' => rw [hf] at e; injection e with e; exact ⟨st, st', rfl, hf, e.symm⟩

theorem onIssuer_unpack {W W' : World σ} {i : Nat} {f : Issuer → Except Err Issuer}
    (e : onIssuer W i f = .ok W') :
    ∃ s s', W.issuers i = some s ∧ f s = .ok s' ∧ W' = { W with issuers := upd W.issuers i (some s') } := by
  unfold onIssuer at e
  cases hr : W.issuers i with
  | none => rw [hr] at e; cases e
  | some s =>
    rw [hr] at e; simp only at e
    cases hf : f s with
    | error x => rw [hf] at e; cases e
    | ok s' => rw [hf] at e; injection e with e; exact ⟨s, s', rfl, hf, e.symm⟩

theorem worldInv_setId {W : World σ} {d : Nat} {st' : IdStore σ} (h : WorldInv W)
    (h' : st'.WF ∧ st'.IdxNodup) : WorldInv { W with ids := upd W.ids d (some st') } :=
  ⟨h.regs, forall_upd_some (P := fun _ (st : IdStore σ) => st.WF ∧ st.IdxNodup) h.ids h'⟩

theorem addClaim_unpack {V : Verifier σ} {W W' : World σ} {d : Nat} {c : Claim σ}
    (e : addClaim V W d c = .ok W') :
    ∃ st, W.ids d = some st ∧ issuerConfirms V W c.issuer d c.topic c.scheme c.sig c.data = true ∧
      W' = { W with ids := upd W.ids d (some (storeClaim st c)) } := by
  unfold addClaim at e
  split at e
  · cases e
  · rename_i st hst
    split at e
    · rename_i hc; exact ⟨st, hst, hc, (Except.ok.inj e).symm⟩
    · cases e

theorem query_unpack {W W' : World σ} {x : Except Err Unit}
    (e : (match x with | .ok () => .ok W | .error e => .error e : Except Err (World σ)) = .ok W') : W' = W := by
  cases x with
  | error _ => cases e
  | ok _ => exact (Except.ok.inj e).symm

theorem worldInv_applyOp (V : Verifier σ) {W W' : World σ} (op : Op σ) (h : WorldInv W) (hs : op.safe W)
    (e : applyOp V W op = .ok W') : WorldInv W' := by
  cases op <;> simp only [applyOp] at e
  case reg ra rop =>
    obtain ⟨r, r', hr, hf, rfl⟩ := onReg_unpack e
    exact ⟨forall_upd_some (P := fun _ (r : Reg) => r.Inv) h.regs (inv_apply rop (h.regs _ _ hr) hf), h.ids⟩
  case irsAdd _ _ | irsModify _ _ | irsRemove _ | irsRecover _ _ =>
    obtain ⟨s, _, rfl⟩ := onIrs_unpack e
    exact ⟨h.regs, h.ids⟩
  case addClaim d c =>
    obtain ⟨st, hst, _, rfl⟩ := addClaim_unpack e
    exact worldInv_setId h (wf_storeClaim c (h.ids d st hst))
  case removeClaim d ci ct =>
    obtain ⟨st, st', hst, hf, rfl⟩ := onId_unpack e
    exact worldInv_setId h (wf_removeClaim (h.ids d st hst) (fun c hc => hs st c hst hc) hf)
  case rawPut d ci ct c =>
    obtain ⟨st, st', hst, hf, rfl⟩ := onId_unpack e
    cases hf
    exact worldInv_setId h (wf_rawPutSt ci ct c (h.ids d st hst))
  case rawDel d ci ct =>
    obtain ⟨st, st', hst, hf, rfl⟩ := onId_unpack e
    cases hf
    exact worldInv_setId h (wf_dropClaim ci ct (h.ids d st hst))
  case allowKey _ _ _ _ _ | removeKey _ _ _ _ _ | invalidate _ _ _ | revoke _ _ _ _ _ =>
    obtain ⟨s, s', _, _, rfl⟩ := onIssuer_unpack e
    exact ⟨h.regs, h.ids⟩
  case setCti _ | setIrs | time _ =>
    cases e
    exact ⟨h.regs, h.ids⟩
  case valid _ _ _ _ _ _ | verify _ =>
    rw [query_unpack e]; exact h

/-- rejected operations are rolled back by the host and leave no trace -/
inductive Reach (V : Verifier σ) (W0 : World σ) : World σ → Prop where
  | init : Reach V W0 W0
  | step {W W' : World σ} (op : Op σ) : Reach V W0 W → op.safe W → applyOp V W op = .ok W' → Reach V W0 W'

theorem reach_inv (V : Verifier σ) {W0 W : World σ} (h0 : WorldInv W0) (hr : Reach V W0 W) : WorldInv W := by
  induction hr with
  | init => exact h0
  | step op _ hs e ih => exact worldInv_applyOp V op ih hs e

def World.Fresh (W : World σ) : Prop :=
  (∀ ra r, W.regs ra = some r → r = Reg.empty) ∧ (∀ d st, W.ids d = some st → st = IdStore.empty)

theorem worldInv_fresh {W : World σ} (h : W.Fresh) : WorldInv W := by
  refine ⟨fun ra r hr => ?_, fun d st hst => ?_⟩
  · rw [h.1 ra r hr]; exact inv_empty
  · rw [h.2 d st hst]; exact ⟨wf_empty, idxNodup_empty⟩

end OZ.Identity
