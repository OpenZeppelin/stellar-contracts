import OZ.Model.RegUtil
import OZ.Lemmas.Except
/-
Shared by the C20 registry lemmas (core Lean only): a map rewritten at one key (`updD`), duplicate-free lists
(`nodup_append_singleton`, `nodup_index_inj`: an element of one stands at one index) and `eraseLast`, the shape of a
getter that fails on an empty vector (`ite_nil_*`), a result that is never `.ok` is an `.error` (`err_of_not_ok`), and
`bind_eq_ok_iff` of OZ/Lemmas/Except.lean in the spelling `.bind` of the registry models where the other models write
`do` (`bind_ok_iff`, for the rules registry).
-/
namespace OZ.Reg

variable {α : Type}

theorem updD_same {κ β : Type} [DecidableEq κ] (f : κ → β) (a : κ) (v : β) : updD f a v a = v := by
  simp [updD]

theorem updD_other {κ β : Type} [DecidableEq κ] (f : κ → β) (a b : κ) (v : β) (h : b ≠ a) :
    updD f a v b = f b := by
  simp [updD, h]

theorem eq_ite_self {κ β : Type} [DecidableEq κ] (f : κ → β) (a i : κ) : f i = if i = a then f a else f i := by
  split
  · rename_i h; rw [h]
  · rfl

theorem updD_self {κ β : Type} [DecidableEq κ] (f : κ → β) (a : κ) : updD f a (f a) = f :=
  funext fun i => (eq_ite_self f a i).symm

theorem nodup_reverse {l : List α} : l.reverse.Nodup ↔ l.Nodup :=
  (List.reverse_perm l).nodup_iff

theorem nodup_filter (p : α → Bool) {l : List α} (h : l.Nodup) : (l.filter p).Nodup :=
  List.filter_sublist.nodup h

theorem nodup_append_singleton {l : List α} {a : α} (h : l.Nodup) (hn : a ∉ l) : (l ++ [a]).Nodup := by
  rw [List.nodup_append]
  refine ⟨h, by simp, ?_⟩
  intro x hx y hy; simp at hy; subst hy; intro hxy; subst hxy; exact hn hx

section
variable [BEq α] [LawfulBEq α]

theorem mem_eraseLast {l : List α} (hnd : l.Nodup) (a x : α) : x ∈ eraseLast l a ↔ x ∈ l ∧ x ≠ a := by
  unfold eraseLast
  rw [List.mem_reverse, (nodup_reverse.2 hnd).mem_erase_iff, List.mem_reverse]
  exact And.comm

theorem nodup_eraseLast {l : List α} (hnd : l.Nodup) (a : α) : (eraseLast l a).Nodup := by
  unfold eraseLast
  exact nodup_reverse.2 ((nodup_reverse.2 hnd).erase a)

theorem eraseLast_eq_erase {l : List α} (h : l.Nodup) (a : α) : eraseLast l a = l.erase a := by
  unfold eraseLast
  rw [(nodup_reverse.2 h).erase_eq_filter, h.erase_eq_filter, List.filter_reverse, List.reverse_reverse]

omit [LawfulBEq α] in
theorem eraseLast_sublist (l : List α) (a : α) : (eraseLast l a).Sublist l := by
  unfold eraseLast
  have := (List.erase_sublist (a := a) (l := l.reverse)).reverse
  rwa [List.reverse_reverse] at this

omit [LawfulBEq α] in
theorem length_eraseLast_le (l : List α) (a : α) : (eraseLast l a).length ≤ l.length :=
  (eraseLast_sublist l a).length_le

theorem length_eraseLast_of_mem {l : List α} {a : α} (h : a ∈ l) : (eraseLast l a).length = l.length - 1 := by
  unfold eraseLast
  rw [List.length_reverse, List.length_erase_of_mem (List.mem_reverse.2 h), List.length_reverse]

end

theorem nodup_index_inj (l : List α) (hnd : l.Nodup) (i j : Nat) (p : α)
    (hi : l[i]? = some p) (hj : l[j]? = some p) : i = j := by
  rw [List.getElem?_eq_some_iff] at hi hj
  obtain ⟨hi', hi⟩ := hi
  obtain ⟨hj', hj⟩ := hj
  rw [List.Nodup, List.pairwise_iff_getElem] at hnd
  rcases Nat.lt_trichotomy i j with h | h | h
  · exact absurd (hi.trans hj.symm) (hnd i j hi' hj' h)
  · exact h
  · exact absurd (hj.trans hi.symm) (hnd j i hj' hi' h)

theorem ite_nil_eq_none {α β : Type} {l : List α} {v : β} : (if l = [] then none else some v) = none ↔ l = [] := by
  split <;> simp [*]

theorem ite_nil_eq_some {α β : Type} {l : List α} {v w : β} :
    (if l = [] then none else some v) = some w ↔ l ≠ [] ∧ v = w := by
  split <;> simp [*]

theorem bind_ok_iff {ε α β : Type} {x : Except ε α} {f : α → Except ε β} {v : β} :
    x.bind f = .ok v ↔ ∃ a, x = .ok a ∧ f a = .ok v :=
  bind_eq_ok_iff

theorem err_of_not_ok {ε σ : Type} {r : Except ε σ} (h : ∀ s', r ≠ .ok s') : ∃ e, r = .error e := by
  cases r with
  | error e => exact ⟨e, rfl⟩
  | ok s' => exact absurd rfl (h s')

end OZ.Reg
