import OZ.Model.RegDocs
import OZ.Lemmas.RegChunk
import OZ.Lemmas.Lists
/-
The document manager's buckets + index map represent a flat list of (name, document) entries with pairwise different
names, i.e. a finite map name -> document with an enumeration (C20): `Rep s l` says the storage holds the entry list `l`,
`Inv` that it holds some list.
-/
namespace OZ.RegDocs
open OZ.Reg

theorem bpos : 0 < BUCKET_SIZE := by decide

structure Rep (s : State) (l : List Entry) : Prop where
  names : (l.map (·.1)).Nodup
  count : s.count = l.length
  buckets : s.buckets = chunk BUCKET_SIZE l
  index : ∀ n i, s.index n = some i ↔ ∃ d, l[i]? = some (n, d)
  le : l.length ≤ MAX_DOCUMENTS

def Inv (s : State) : Prop := ∃ l, Rep s l

theorem rep_init : Rep init [] := by
  refine ⟨by simp, rfl, ?_, ?_, by simp⟩
  · funext b; simp [init, chunk]
  · intro n i; simp [init]

theorem inv_init : Inv init := ⟨[], rep_init⟩

theorem getElem?_names {l : List Entry} {i n : Nat} : (∃ d, l[i]? = some (n, d)) ↔ (l.map (·.1))[i]? = some n := by
  rw [List.getElem?_map, Option.map_eq_some_iff]
  exact ⟨fun ⟨d, h⟩ => ⟨_, h, rfl⟩, fun ⟨a, h, e⟩ => ⟨a.2, by rw [h, ← e]⟩⟩

theorem name_index_unique {l : List Entry} (hn : (l.map (·.1)).Nodup) {i j : Nat} {n : Nat} {d1 d2 : Doc}
    (hi : l[i]? = some (n, d1)) (hj : l[j]? = some (n, d2)) : i = j :=
  nodup_index_inj _ hn i j n (getElem?_names.1 ⟨d1, hi⟩) (getElem?_names.1 ⟨d2, hj⟩)

theorem entries_nodup {l : List Entry} (hn : (l.map (·.1)).Nodup) : l.Nodup :=
  List.Pairwise.of_map (·.1) (fun _ _ h e => h (congrArg (·.1) e)) hn

theorem same_name_eq {l : List Entry} (hn : (l.map (·.1)).Nodup) {n : Nat} {d1 d2 : Doc}
    (h1 : (n, d1) ∈ l) (h2 : (n, d2) ∈ l) : d1 = d2 := by
  obtain ⟨i, hi⟩ := List.mem_iff_getElem?.1 h1
  obtain ⟨j, hj⟩ := List.mem_iff_getElem?.1 h2
  have := name_index_unique hn hi hj
  subst this
  rw [hi] at hj
  injection hj with hj; injection hj

theorem mem_append_key {l : List Entry} {n : Nat} (hnm : n ∉ l.map (·.1)) (v : Doc) (x : Nat) (d : Doc) :
    (x, d) ∈ l ++ [(n, v)] ↔ ((x ≠ n ∧ (x, d) ∈ l) ∨ (x = n ∧ d = v)) := by
  rw [List.mem_append, List.mem_singleton, Prod.mk.injEq]
  exact or_congr_left ⟨fun hm => ⟨fun hx => hnm (List.mem_map.2 ⟨_, hx ▸ hm, rfl⟩), hm⟩, And.right⟩

theorem mem_swapPop_key {l : List Entry} (hn : (l.map (·.1)).Nodup) {n idx : Nat} {d0 : Doc}
    (hget : l[idx]? = some (n, d0)) (x : Nat) (d : Doc) :
    (x, d) ∈ swapPop l idx ↔ x ≠ n ∧ (x, d) ∈ l := by
  rw [mem_swapPop l (entries_nodup hn) idx (n, d0) hget, and_comm]
  refine and_congr_left fun hm => ⟨fun hne hx => hne ?_, fun hx he => hx (Prod.mk.inj he).1⟩
  subst hx
  rw [same_name_eq hn hm (List.mem_of_getElem? hget)]

theorem mem_set_key {l : List Entry} (hn : (l.map (·.1)).Nodup) {n i : Nat} {d0 : Doc} (hget : l[i]? = some (n, d0))
    (v : Doc) (x : Nat) (d : Doc) :
    (x, d) ∈ l.set i (n, v) ↔ ((x ≠ n ∧ (x, d) ∈ l) ∨ (x = n ∧ d = v)) := by
  have hi := (List.getElem?_eq_some_iff.1 hget).1
  -- overwriting a slot keeps what swap-and-pop of the slot keeps
  rw [(set_perm_cons_eraseIdx _ l i hi).mem_iff, List.mem_cons, Prod.mk.injEq, or_comm, ← (swapPop_perm l hi).mem_iff,
    mem_swapPop_key hn hget]

theorem not_mem_names_iff {l : List Entry} {n : Nat} : n ∉ l.map (·.1) ↔ ∀ d, (n, d) ∉ l := by
  rw [List.mem_map]
  exact ⟨fun h d hm => h ⟨_, hm, rfl⟩, fun h ⟨p, hm, e⟩ => h p.2 (e ▸ hm)⟩

theorem map_fst_set {l : List Entry} {i : Nat} {n : Nat} {d d' : Doc} (hi : l[i]? = some (n, d)) :
    (l.set i (n, d')).map (·.1) = l.map (·.1) := by
  obtain ⟨_, e⟩ := List.getElem?_eq_some_iff.1 (getElem?_names.1 ⟨d, hi⟩)
  rw [List.map_set]
  show (l.map (·.1)).set i n = _
  rw [← e, List.set_getElem_self]

theorem rep_byIndex {s : State} {l : List Entry} (h : Rep s l) (i : Nat) :
    getDocumentByIndex s i = l[i]? := by
  unfold getDocumentByIndex
  rw [h.count, h.buckets]
  split
  · rename_i hi; exact (List.getElem?_eq_none_iff.2 hi).symm
  · exact getElem?_chunk_div BUCKET_SIZE bpos l i

theorem rep_entries {s : State} {l : List Entry} (h : Rep s l) : entries s = l := by
  unfold entries
  rw [h.count, h.buckets]
  split
  · rename_i h0; exact (List.length_eq_zero_iff.1 h0).symm
  · exact flatMap_chunk BUCKET_SIZE bpos l

theorem rep_getDocument {s : State} {l : List Entry} (h : Rep s l) (n : Nat) (d : Doc) :
    getDocument s n = some d ↔ (n, d) ∈ l := by
  unfold getDocument
  constructor
  · intro hg
    cases hi : s.index n with
    | none => rw [hi] at hg; cases hg
    | some i =>
      rw [hi] at hg
      simp only [Option.bind_some, rep_byIndex h] at hg
      obtain ⟨d', hd'⟩ := (h.index n i).1 hi
      rw [hd'] at hg; simp at hg; subst hg
      exact List.mem_iff_getElem?.2 ⟨i, hd'⟩
  · intro hm
    obtain ⟨i, hi⟩ := List.mem_iff_getElem?.1 hm
    have := (h.index n i).2 ⟨d, hi⟩
    rw [this]
    simp only [Option.bind_some, rep_byIndex h, hi]; rfl

theorem rep_getDocument_none {s : State} {l : List Entry} (h : Rep s l) (n : Nat) :
    getDocument s n = none ↔ n ∉ l.map (·.1) := by
  rw [Option.eq_none_iff_forall_ne_some, not_mem_names_iff]
  exact forall_congr' fun d => not_congr (rep_getDocument h n d)

theorem index_none_iff {s : State} {l : List Entry} (h : Rep s l) (n : Nat) :
    s.index n = none ↔ n ∉ l.map (·.1) := by
  rw [Option.eq_none_iff_forall_ne_some, not_mem_names_iff]
  simp only [ne_eq, h.index, List.mem_iff_getElem?, not_exists]
  exact ⟨fun h' d i hi => h' i d hi, fun h' i d hi => h' d i hi⟩

/-! ### the index map

The names being pairwise different, a map is the inverse of the name list as soon as it sends a name only to a slot that
holds it (sound) and every listed name to some slot (total): the writers that change the list are followed in one
direction only. -/

theorem Rep.index_names {s : State} {l : List Entry} (h : Rep s l) (n i : Nat) :
    s.index n = some i ↔ (l.map (·.1))[i]? = some n :=
  (h.index n i).trans getElem?_names

section
variable {ix : Nat → Option Nat} {ns : List Nat}

theorem index_exact (hn : ns.Nodup)
    (sound : ∀ x i, ix x = some i → ns[i]? = some x) (total : ∀ x, x ∈ ns → (ix x).isSome = true) (x i : Nat) :
    ix x = some i ↔ ns[i]? = some x := by
  refine ⟨sound x i, fun h => ?_⟩
  obtain ⟨j, hj⟩ := Option.isSome_iff_exists.1 (total x (List.mem_of_getElem? h))
  rw [hj, nodup_index_inj ns hn j i x (sound x j hj) h]

theorem index_total (hix : ∀ n i, ix n = some i ↔ ns[i]? = some n) {x : Nat} (h : x ∈ ns) : (ix x).isSome = true := by
  obtain ⟨i, hi⟩ := List.mem_iff_getElem?.1 h
  rw [(hix x i).2 hi]; rfl

theorem index_append (hix : ∀ n i, ix n = some i ↔ ns[i]? = some n) {n : Nat} (hn : (ns ++ [n]).Nodup) (x i : Nat) :
    updD ix n (some ns.length) x = some i ↔ (ns ++ [n])[i]? = some x := by
  refine index_exact hn (fun x i h => ?_) (fun x h => ?_) x i
  · by_cases hx : x = n
    · rw [hx, updD_same] at h
      rw [← Option.some.inj h, hx, List.getElem?_concat_length]
    · rw [updD_other _ _ _ _ hx, hix] at h
      rw [List.getElem?_append_left (List.getElem?_eq_some_iff.1 h).1, h]
  · by_cases hx : x = n
    · rw [hx, updD_same]; rfl
    · rw [updD_other _ _ _ _ hx]
      exact index_total hix ((List.mem_append.1 h).resolve_right fun h' => hx (List.mem_singleton.1 h'))

/-- when `idx` is the last slot, `m` is `n` itself and the first update is overwritten -/
theorem index_swapPop (hn : ns.Nodup) (hix : ∀ n i, ix n = some i ↔ ns[i]? = some n) {n m idx : Nat}
    (hd0 : ns[idx]? = some n) (he : ns[ns.length - 1]? = some m) (x i : Nat) :
    updD (updD ix m (some idx)) n none x = some i ↔ (swapPop ns idx)[i]? = some x := by
  have hidx := (List.getElem?_eq_some_iff.1 hd0).1
  refine index_exact (nodup_swapPop ns hn idx hidx) (fun x i h => ?_) (fun x h => ?_) x i
  · rw [getElem?_swapPop ns idx hidx]
    by_cases hx : x = n
    · rw [hx, updD_same] at h; cases h
    · rw [updD_other _ _ _ _ hx] at h
      by_cases hxm : x = m
      · rw [hxm, updD_same] at h
        have hlast : idx ≠ ns.length - 1 := fun e => hx (hxm.trans (Option.some.inj (he.symm.trans (e ▸ hd0))))
        rw [← Option.some.inj h, if_pos (by omega), if_pos rfl, he, hxm]
      · rw [updD_other _ _ _ _ hxm, hix] at h
        have hil := (List.getElem?_eq_some_iff.1 h).1
        have h1 : i ≠ ns.length - 1 := fun e => hxm (Option.some.inj (h.symm.trans (e ▸ he)))
        have h2 : i ≠ idx := fun e => hx (Option.some.inj (h.symm.trans (e ▸ hd0)))
        rw [if_pos (by omega), if_neg h2, h]
  · obtain ⟨hm, hx⟩ := (mem_swapPop ns hn idx n hd0 x).1 h
    rw [updD_other _ _ _ _ hx]
    by_cases hxm : x = m
    · rw [hxm, updD_same]; rfl
    · rw [updD_other _ _ _ _ hxm]; exact index_total hix hm

end

theorem rep_overwrite {s : State} {l : List Entry} (h : Rep s l) {n i : Nat} (hi : s.index n = some i) (d' : Doc) :
    ∃ s', overwriteAt s i (n, d') = .ok s' ∧ Rep s' (l.set i (n, d')) := by
  obtain ⟨d, hd⟩ := (h.index n i).1 hi
  have hlt : i < l.length := by rw [List.getElem?_eq_some_iff] at hd; exact hd.1
  have hlen : i % BUCKET_SIZE < (s.buckets (i / BUCKET_SIZE)).length := by
    rw [h.buckets]; exact mod_lt_length_chunk BUCKET_SIZE bpos l hlt
  have hne : s.buckets (i / BUCKET_SIZE) ≠ [] := by
    rw [h.buckets]; exact chunk_div_ne_nil BUCKET_SIZE bpos l hlt
  unfold overwriteAt
  rw [if_neg hne, if_neg (Nat.not_le.2 hlen)]
  refine ⟨_, rfl, ?_⟩
  refine ⟨by rw [map_fst_set hd]; exact h.names, by simp [h.count], ?_, ?_, by simp; exact h.le⟩
  · show updD s.buckets (i / BUCKET_SIZE) _ = _
    rw [chunk_set BUCKET_SIZE bpos, h.buckets]
  · intro n' j
    rw [getElem?_names, map_fst_set hd]
    exact h.index_names n' j

theorem rep_append {s : State} {l : List Entry} (h : Rep s l) {n : Nat} (hnm : n ∉ l.map (·.1)) (d : Doc)
    (hl : l.length < MAX_DOCUMENTS) :
    Rep { index := updD s.index n (some s.count),
          buckets := updD s.buckets (s.count / BUCKET_SIZE) (s.buckets (s.count / BUCKET_SIZE) ++ [(n, d)]),
          count := s.count + 1 } (l ++ [(n, d)]) := by
  refine ⟨?_, by simp [h.count], ?_, ?_, by simp; omega⟩
  · rw [List.map_append]; exact nodup_append_singleton h.names hnm
  · show updD s.buckets (s.count / BUCKET_SIZE) _ = _
    rw [chunk_append BUCKET_SIZE bpos, h.count, h.buckets]
  · intro n' j
    show updD s.index n (some s.count) n' = some j ↔ _
    rw [getElem?_names, h.count, ← List.length_map (·.1), List.map_append]
    exact index_append h.index_names (nodup_append_singleton h.names hnm) n' j

theorem setDocument_ok {s s' : State} {l : List Entry} (h : Rep s l) {n uri hash ts : Nat}
    (hs : setDocument s n uri hash ts = .ok s') :
    (uri ≤ MAX_URI_LEN ∧ (n ∈ l.map (·.1) ∨ l.length < MAX_DOCUMENTS)) ∧ ∃ l', Rep s' l' ∧
      (∀ x d, (x, d) ∈ l' ↔ ((x ≠ n ∧ (x, d) ∈ l) ∨ (x = n ∧ d = ⟨uri, hash, ts⟩))) ∧
      l'.length = if n ∈ l.map (·.1) then l.length else l.length + 1 := by
  unfold setDocument at hs
  obtain ⟨hu, hs⟩ := ite_error_eq_ok_iff.1 hs
  cases hi : s.index n with
  | some i =>
    simp only [hi] at hs
    obtain ⟨s'', hs'', hr⟩ := rep_overwrite h hi ⟨uri, hash, ts⟩
    rw [hs] at hs''; cases hs''
    obtain ⟨d0, hd0⟩ := (h.index n i).1 hi
    have hmemn : n ∈ l.map (·.1) := List.mem_map.2 ⟨(n, d0), List.mem_of_getElem? hd0, rfl⟩
    exact ⟨⟨Nat.le_of_not_lt hu, Or.inl hmemn⟩, _, hr, mem_set_key h.names hd0 _, by simp [hmemn]⟩
  | none =>
    simp only [hi] at hs
    have hnm : n ∉ l.map (·.1) := (index_none_iff h n).1 hi
    unfold appendNew at hs
    obtain ⟨hc, hs⟩ := ite_error_eq_ok_iff.1 hs
    cases hs
    have hl : l.length < MAX_DOCUMENTS := by rw [h.count] at hc; exact Nat.lt_of_not_le hc
    exact ⟨⟨Nat.le_of_not_lt hu, Or.inr hl⟩, _, rep_append h hnm _ hl, mem_append_key hnm _, by simp [hnm]⟩

theorem setDocument_accepts {s : State} {l : List Entry} (h : Rep s l) {n uri : Nat} (hash ts : Nat)
    (hu : uri ≤ MAX_URI_LEN) (hroom : n ∈ l.map (·.1) ∨ l.length < MAX_DOCUMENTS) :
    ∃ s', setDocument s n uri hash ts = .ok s' := by
  unfold setDocument
  rw [if_neg (Nat.not_lt.2 hu)]
  cases hi : s.index n with
  | some i => exact (rep_overwrite h hi ⟨uri, hash, ts⟩).imp fun _ => And.left
  | none =>
    have hl := hroom.resolve_left ((index_none_iff h n).1 hi)
    exact ⟨_, by show appendNew s _ = _; unfold appendNew; rw [h.count, if_neg (Nat.not_le.2 hl)]⟩

def movedSt (s : State) (idx : Nat) (e : Entry) : State :=
  { s with index := updD s.index e.1 (some idx),
           buckets := updD s.buckets (idx / BUCKET_SIZE)
                        ((s.buckets (idx / BUCKET_SIZE)).set (idx % BUCKET_SIZE) e) }

theorem popLast_ok (s : State) (name last : Nat) (hne : s.buckets (last / BUCKET_SIZE) ≠ []) :
    popLast s name last = .ok { index := updD s.index name none,
                                buckets := updD s.buckets (last / BUCKET_SIZE) ((s.buckets (last / BUCKET_SIZE)).dropLast),
                                count := last } := by
  unfold popLast; rw [if_neg hne]

theorem rep_remove {s : State} {l : List Entry} (h : Rep s l) {n idx : Nat} (hi : s.index n = some idx) :
    ∃ s', removeAt s n idx = .ok s' ∧ Rep s' (swapPop l idx) := by
  obtain ⟨d0, hd0⟩ := (h.index n idx).1 hi
  have hidx : idx < l.length := (List.getElem?_eq_some_iff.1 hd0).1
  have hne : l ≠ [] := List.ne_nil_of_length_pos (Nat.zero_lt_of_lt hidx)
  have hcnt : s.count ≠ 0 := by rw [h.count]; omega
  obtain ⟨e, he⟩ : ∃ e, l[l.length - 1]? = some e := ⟨_, List.getElem?_eq_getElem (by omega)⟩
  have rep' : ∀ s' : State, s'.index = updD (updD s.index e.1 (some idx)) n none →
      s'.buckets = chunk BUCKET_SIZE (swapPop l idx) → s'.count = l.length - 1 → Rep s' (swapPop l idx) := by
    intro s' hix hb hc
    refine ⟨?_, by rw [hc, length_swapPop], hb, fun x i => ?_, ?_⟩
    · rw [map_swapPop _ l idx hidx]
      exact nodup_swapPop _ h.names idx (by simpa using hidx)
    · rw [hix, getElem?_names, map_swapPop _ l idx hidx]
      exact index_swapPop h.names h.index_names (getElem?_names.1 ⟨d0, hd0⟩)
        (by rw [List.length_map, List.getElem?_map, he]; rfl) x i
    · rw [length_swapPop]; exact Nat.le_trans (Nat.sub_le _ _) h.le
  unfold removeAt
  rw [if_neg hcnt, h.count]
  by_cases hlast : idx ≠ l.length - 1
  · rw [if_pos hlast, h.buckets, getElem?_chunk_div BUCKET_SIZE bpos, he]
    have hmove : moveLast s idx e = .ok (movedSt s idx e) := by
      unfold moveLast movedSt
      rw [h.buckets, if_neg (chunk_div_ne_nil BUCKET_SIZE bpos l hidx),
        if_neg (Nat.not_le.2 (mod_lt_length_chunk BUCKET_SIZE bpos l hidx))]
    have hb1 : (movedSt s idx e).buckets = chunk BUCKET_SIZE (l.set idx e) := by
      rw [chunk_set BUCKET_SIZE bpos, ← h.buckets]; rfl
    have hne2 : (movedSt s idx e).buckets ((l.length - 1) / BUCKET_SIZE) ≠ [] := by
      rw [hb1, ← List.length_set (as := l) (i := idx) (a := e)]
      exact chunk_div_ne_nil BUCKET_SIZE bpos _ (by rw [List.length_set]; omega)
    show ∃ s', (moveLast s idx e).bind _ = .ok s' ∧ _
    rw [hmove]
    refine ⟨_, popLast_ok _ n _ hne2, rep' _ rfl ?_ rfl⟩
    rw [chunk_swapPop_of_ne BUCKET_SIZE bpos l hlast he, ← h.buckets]
    rfl
  · have hlast' : idx = l.length - 1 := Classical.not_not.1 hlast
    have hen : e = (n, d0) := by rw [hlast', he] at hd0; injection hd0
    have hne2 : s.buckets ((l.length - 1) / BUCKET_SIZE) ≠ [] := by
      rw [h.buckets]; exact chunk_div_ne_nil BUCKET_SIZE bpos l (by omega)
    rw [if_neg hlast]
    refine ⟨_, popLast_ok _ n _ hne2, rep' _ ?_ ?_ rfl⟩
    · funext x
      show updD s.index n none x = _
      rw [hen]; unfold updD; split <;> rfl
    · rw [hlast', swapPop_last, chunk_dropLast BUCKET_SIZE bpos l hne, ← h.buckets]

theorem removeDocument_ok {s s' : State} {l : List Entry} (h : Rep s l) {n : Nat}
    (hs : removeDocument s n = .ok s') :
    n ∈ l.map (·.1) ∧ ∃ l', Rep s' l' ∧ ∀ x d, (x, d) ∈ l' ↔ x ≠ n ∧ (x, d) ∈ l := by
  unfold removeDocument at hs
  cases hi : s.index n with
  | none => rw [hi] at hs; cases hs
  | some idx =>
    rw [hi] at hs
    obtain ⟨d, hd⟩ := (h.index n idx).1 hi
    obtain ⟨s'', hs'', hr⟩ := rep_remove h hi
    rw [show removeAt s n idx = .ok s' from hs] at hs''; cases hs''
    exact ⟨List.mem_map.2 ⟨_, List.mem_of_getElem? hd, rfl⟩, _, hr, mem_swapPop_key h.names hd⟩

theorem removeDocument_accepts {s : State} {l : List Entry} (h : Rep s l) {n : Nat} (hm : n ∈ l.map (·.1)) :
    ∃ s', removeDocument s n = .ok s' := by
  unfold removeDocument
  cases hi : s.index n with
  | none => exact absurd hm ((index_none_iff h n).1 hi)
  | some idx => exact (rep_remove h hi).imp fun _ => And.left

theorem inv_next {s : State} (hI : Inv s) (o : Op) : Inv (next s o) := by
  obtain ⟨l, h⟩ := hI
  unfold next
  cases hs : step s o with
  | error e => exact ⟨l, h⟩
  | ok s' =>
    cases o with
    | set n u hsh ts => obtain ⟨_, l', hr, _⟩ := setDocument_ok h hs; exact ⟨l', hr⟩
    | remove n => obtain ⟨_, _, hr, _⟩ := removeDocument_ok h hs; exact ⟨_, hr⟩

theorem inv_run {s : State} (hI : Inv s) (ops : List Op) : Inv (run s ops) :=
  OZ.Lists.foldl_inv (P := Inv) (f := next) (fun _ o h => inv_next h o) ops s hI

def Reachable (s : State) : Prop := ∃ ops, s = run init ops

theorem reachable_inv {s : State} (h : Reachable s) : Inv s := by
  obtain ⟨ops, rfl⟩ := h
  exact inv_run inv_init ops

end OZ.RegDocs
