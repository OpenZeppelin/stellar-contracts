import OZ.Model.RegTopics
import OZ.Lemmas.RegStep
/-
The claim-topics-and-issuers registry (C20 b). `Core`, the invariant without the bounds, is symmetric in topics and
issuers (`Core.swap`), so adding / removing a topic is adding / removing an issuer of the swapped registry.
-/
namespace OZ.RegTopics
open OZ.Reg

def memO (o : Option (List Nat)) (x : Nat) : Prop := ∃ l, o = some l ∧ x ∈ l
def nodupO (o : Option (List Nat)) : Prop := ∀ l, o = some l → l.Nodup

theorem memO_none (x : Nat) : ¬ memO none x := fun ⟨_, h, _⟩ => nomatch h

theorem memO_some (l : List Nat) (x : Nat) : memO (some l) x ↔ x ∈ l := by simp [memO]

theorem memO_iff_getD (o : Option (List Nat)) (x : Nat) : memO o x ↔ x ∈ o.getD [] := by
  cases o <;> simp [memO]

theorem nodupO_none : nodupO none := fun _ h => nomatch h

theorem nodupO_some (l : List Nat) : nodupO (some l) ↔ l.Nodup :=
  ⟨fun h => h l rfl, fun h _ e => Option.some.inj e ▸ h⟩

theorem memO_isSome {o : Option (List Nat)} {x : Nat} (h : memO o x) : o.isSome = true := by
  obtain ⟨l, rfl, _⟩ := h; rfl

theorem memO_map_append (o : Option (List Nat)) (i x : Nat) :
    memO (o.map (· ++ [i])) x ↔ memO o x ∨ (o.isSome = true ∧ x = i) := by
  cases o with
  | none => simp [memO]
  | some l => simp [memO_some]

theorem memO_map_erase {o : Option (List Nat)} (h : nodupO o) (i x : Nat) :
    memO (o.map (·.erase i)) x ↔ memO o x ∧ x ≠ i := by
  cases o with
  | none => simp [memO]
  | some l =>
    simp only [Option.map_some, memO_some]
    rw [(h l rfl).mem_erase_iff]; exact And.comm

theorem nodupO_map_erase {o : Option (List Nat)} (h : nodupO o) (i : Nat) : nodupO (o.map (·.erase i)) := by
  cases o with
  | none => exact nodupO_none
  | some l => exact (nodupO_some _).2 ((h l rfl).erase i)

theorem nodupO_map_append {o : Option (List Nat)} (h : nodupO o) (i : Nat) (hn : ¬ memO o i) :
    nodupO (o.map (· ++ [i])) := by
  cases o with
  | none => exact nodupO_none
  | some l => exact (nodupO_some _).2 (nodup_append_singleton (h l rfl) fun ha => hn ⟨l, rfl, ha⟩)

theorem mem_filter_not_contains (a b : List Nat) (t : Nat) :
    t ∈ a.filter (fun t => !b.contains t) ↔ t ∈ a ∧ t ∉ b := by
  rw [List.mem_filter, Bool.not_eq_true', ← Bool.not_eq_true, List.contains_iff_mem]

theorem memO_updD (f : Nat → Option (List Nat)) (a : Nat) (o : Option (List Nat)) (x y : Nat) :
    memO (updD f a o x) y ↔ (x = a ∧ memO o y) ∨ (x ≠ a ∧ memO (f x) y) := by
  by_cases h : x = a
  · simp [h, updD_same]
  · simp [h, updD_other _ _ _ _ h]

theorem memO_updD_none (f : Nat → Option (List Nat)) (a x y : Nat) :
    memO (updD f a none x) y ↔ x ≠ a ∧ memO (f x) y :=
  (memO_updD f a none x y).trans (or_iff_right fun h => memO_none y h.2)

theorem isSome_updD_some {f : Nat → Option (List Nat)} {l : List Nat} (h : ∀ x, (f x).isSome = true ↔ x ∈ l)
    (a : Nat) (v : List Nat) (x : Nat) : (updD f a (some v) x).isSome = true ↔ x ∈ l ++ [a] := by
  by_cases hx : x = a
  · simp [hx, updD_same]
  · simp [hx, updD_other _ _ _ _ hx, h]

theorem isSome_updD_none {f : Nat → Option (List Nat)} {l : List Nat} (hN : l.Nodup)
    (h : ∀ x, (f x).isSome = true ↔ x ∈ l) (a x : Nat) : (updD f a none x).isSome = true ↔ x ∈ l.erase a := by
  by_cases hx : x = a
  · simp [hx, updD_same, hN.mem_erase_iff]
  · simp [hx, updD_other _ _ _ _ hx, h, hN.mem_erase_iff]

theorem isSome_pushIssuer (ti : Nat → Option (List Nat)) (ts : List Nat) (i t : Nat) :
    (pushIssuer ti ts i t).isSome = (ti t).isSome := by
  unfold pushIssuer; split
  · rw [Option.isSome_map]
  · rfl

theorem memO_pushIssuer (ti : Nat → Option (List Nat)) (ts : List Nat) (i t x : Nat) :
    memO (pushIssuer ti ts i t) x ↔ memO (ti t) x ∨ (t ∈ ts ∧ (ti t).isSome = true ∧ x = i) := by
  unfold pushIssuer; split
  · rename_i h; rw [memO_map_append]; exact or_congr_right (and_iff_right h).symm
  · rename_i h; exact (or_iff_left fun h' => h h'.1).symm

theorem nodupO_pushIssuer {ti : Nat → Option (List Nat)} {t : Nat} (hN : nodupO (ti t)) (ts : List Nat) (i : Nat)
    (hn : t ∈ ts → ¬ memO (ti t) i) : nodupO (pushIssuer ti ts i t) := by
  unfold pushIssuer; split
  · rename_i h; exact nodupO_map_append hN i (hn h)
  · exact hN

theorem isSome_dropIssuer (ti : Nat → Option (List Nat)) (ts : List Nat) (i t : Nat) :
    (dropIssuer ti ts i t).isSome = (ti t).isSome := by
  unfold dropIssuer; split
  · rw [Option.isSome_map]
  · rfl

theorem memO_dropIssuer {ti : Nat → Option (List Nat)} {t : Nat} (hN : nodupO (ti t)) (ts : List Nat) (i x : Nat) :
    memO (dropIssuer ti ts i t) x ↔ memO (ti t) x ∧ ¬ (t ∈ ts ∧ x = i) := by
  unfold dropIssuer; split
  · rename_i h; rw [memO_map_erase hN]
    exact and_congr_right fun _ => (not_congr (and_iff_right h)).symm
  · rename_i h; exact (and_iff_left fun h' => h h'.1).symm

theorem nodupO_dropIssuer {ti : Nat → Option (List Nat)} {t : Nat} (hN : nodupO (ti t)) (ts : List Nat) (i : Nat) :
    nodupO (dropIssuer ti ts i t) := by
  unfold dropIssuer; split
  · exact nodupO_map_erase hN i
  · exact hN

theorem ofOpt_bind_eq_ok {α σ : Type} (e : RErr) (o : Option α) (f : α → Except RErr σ) (v : σ) :
    (ofOpt e o).bind f = .ok v ↔ ∃ a, o = some a ∧ f a = .ok v := by
  cases o with
  | none => exact ⟨fun h => (nomatch h), fun ⟨_, h, _⟩ => (nomatch h)⟩
  | some a => exact ⟨fun h => ⟨a, rfl, h⟩, fun ⟨_, h, hf⟩ => Option.some.inj h ▸ hf⟩

structure Core (s : State) : Prop where
  tN : s.topics.Nodup
  iN : s.issuers.Nodup
  tiDom : ∀ t, (s.topicIssuers t).isSome = true ↔ t ∈ s.topics
  itDom : ∀ i, (s.issuerTopics i).isSome = true ↔ i ∈ s.issuers
  itN : ∀ i, nodupO (s.issuerTopics i)
  tiN : ∀ t, nodupO (s.topicIssuers t)
  twoWay : ∀ i t, memO (s.issuerTopics i) t ↔ memO (s.topicIssuers t) i

def State.swap (s : State) : State := ⟨s.issuers, s.topics, s.topicIssuers, s.issuerTopics⟩

theorem Core.swap {s : State} (c : Core s) : Core s.swap :=
  ⟨c.iN, c.tN, c.itDom, c.tiDom, c.tiN, c.itN, fun t i => (c.twoWay i t).symm⟩

theorem Core.tiSub {s : State} (hI : Core s) {t i : Nat} (h : memO (s.topicIssuers t) i) : i ∈ s.issuers :=
  (hI.itDom i).1 (memO_isSome ((hI.twoWay i t).2 h))

theorem Core.itSub {s : State} (hI : Core s) (i t : Nat) (h : memO (s.issuerTopics i) t) : t ∈ s.topics :=
  hI.swap.tiSub h

structure Inv (s : State) : Prop where
  tN : s.topics.Nodup
  iN : s.issuers.Nodup
  tiDom : ∀ t, (s.topicIssuers t).isSome = true ↔ t ∈ s.topics
  itDom : ∀ i, (s.issuerTopics i).isSome = true ↔ i ∈ s.issuers
  itN : ∀ i, nodupO (s.issuerTopics i)
  tiN : ∀ t, nodupO (s.topicIssuers t)
  itSub : ∀ i t, memO (s.issuerTopics i) t → t ∈ s.topics
  twoWay : ∀ i t, memO (s.issuerTopics i) t ↔ memO (s.topicIssuers t) i
  tLe : s.topics.length ≤ MAX_CLAIM_TOPICS
  iLe : s.issuers.length ≤ MAX_ISSUERS

theorem Inv.core {s : State} (h : Inv s) : Core s :=
  ⟨h.tN, h.iN, h.tiDom, h.itDom, h.itN, h.tiN, h.twoWay⟩

theorem Core.inv {s : State} (c : Core s) (ht : s.topics.length ≤ MAX_CLAIM_TOPICS)
    (hi : s.issuers.length ≤ MAX_ISSUERS) : Inv s :=
  ⟨c.tN, c.iN, c.tiDom, c.itDom, c.itN, c.tiN, c.itSub, c.twoWay, ht, hi⟩

theorem inv_init : Inv init := by
  constructor <;> intros <;> simp_all [init, memO, nodupO]

theorem Core.it_none {s : State} (hI : Core s) {i : Nat} (h : i ∉ s.issuers) : s.issuerTopics i = none :=
  Option.not_isSome_iff_eq_none.1 fun h' => h ((hI.itDom i).1 h')

/-- the loop of `remove_claim_topic` only meets issuers with an entry, so it is `erase` on every entry -/
theorem Core.dropTopicFromIssuers_eq {s : State} (hI : Core s) (t i : Nat) :
    dropTopicFromIssuers s t i = (s.issuerTopics i).map (·.erase t) := by
  unfold dropTopicFromIssuers; split
  · rfl
  · rename_i h; rw [hI.it_none h]; rfl

theorem Core.memO_dropTopicFromIssuers {s : State} (hI : Core s) (t i x : Nat) :
    memO (dropTopicFromIssuers s t i) x ↔ memO (s.issuerTopics i) x ∧ x ≠ t := by
  rw [hI.dropTopicFromIssuers_eq]; exact memO_map_erase (hI.itN i) t x

def addTopic' (s : State) (t : Nat) : State :=
  { s with topics := s.topics ++ [t], topicIssuers := updD s.topicIssuers t (some []) }

theorem addClaimTopic_ok_iff (s s' : State) (t : Nat) :
    addClaimTopic s t = .ok s' ↔ (s.topics.length < MAX_CLAIM_TOPICS ∧ t ∉ s.topics) ∧ s' = addTopic' s t := by
  unfold addClaimTopic
  rw [ite_error_eq_ok_iff, ite_error_eq_ok_iff, Nat.not_le, List.contains_iff_mem, ← and_assoc, Except.ok.injEq]
  exact and_congr_right' eq_comm

def removeTopic' (s : State) (t : Nat) : State :=
  { s with topics := s.topics.erase t, issuerTopics := dropTopicFromIssuers s t,
           topicIssuers := updD s.topicIssuers t none }

theorem removeClaimTopic_ok_iff (s s' : State) (t : Nat) :
    removeClaimTopic s t = .ok s' ↔ t ∈ s.topics ∧ s' = removeTopic' s t := by
  unfold removeClaimTopic
  rw [ite_error_eq_ok_iff, Bool.not_eq_true', Bool.not_eq_false, List.contains_iff_mem, Except.ok.injEq]
  exact and_congr_right' eq_comm

theorem validateTopics_ok_iff (s : State) (ts : List Nat) :
    validateTopics s ts = .ok () ↔
      ts ≠ [] ∧ ts.length ≤ MAX_CLAIM_TOPICS ∧ ts.Nodup ∧ ∀ t, t ∈ ts → t ∈ s.topics := by
  unfold validateTopics
  rw [ite_error_eq_ok_iff, ite_error_eq_ok_iff, ite_error_eq_ok_iff, ite_error_eq_ok_iff, Nat.not_lt, Classical.not_not,
    Bool.not_eq_true', Bool.not_eq_false, List.all_eq_true, and_iff_left rfl]
  simp only [List.contains_iff_mem, ne_eq]

theorem allPresent_of_sub {s : State} (hI : Inv s) {ts : List Nat} (h : ∀ t, t ∈ ts → t ∈ s.topics) :
    allPresent s.topicIssuers ts = true := by
  unfold allPresent; rw [List.all_eq_true]
  intro t ht; exact (hI.tiDom t).2 (h t ht)

def addIssuer' (s : State) (i : Nat) (ts : List Nat) : State :=
  { s with issuers := s.issuers ++ [i], issuerTopics := updD s.issuerTopics i (some ts),
           topicIssuers := pushIssuer s.topicIssuers ts i }

theorem addTrustedIssuer_ok_iff {s : State} (hI : Inv s) (s' : State) (i : Nat) (ts : List Nat) :
    addTrustedIssuer s i ts = .ok s' ↔
      ((ts ≠ [] ∧ ts.length ≤ MAX_CLAIM_TOPICS ∧ ts.Nodup ∧ ∀ t, t ∈ ts → t ∈ s.topics) ∧
        s.issuers.length < MAX_ISSUERS ∧ i ∉ s.issuers) ∧ s' = addIssuer' s i ts := by
  unfold addTrustedIssuer
  rw [unit_bind_eq_ok, validateTopics_ok_iff, ite_error_eq_ok_iff, ite_error_eq_ok_iff, ite_error_eq_ok_iff, Nat.not_le,
    List.contains_iff_mem, Bool.not_eq_true', Bool.not_eq_false, Except.ok.injEq]
  -- the listed topics all have an entry, so the loop's lookups cannot fail
  exact ⟨fun ⟨hv, hl, hn, _, h⟩ => ⟨⟨hv, hl, hn⟩, h.symm⟩,
    fun ⟨⟨hv, hl, hn⟩, h⟩ => ⟨hv, hl, hn, allPresent_of_sub hI hv.2.2.2, h.symm⟩⟩

theorem Core.addIssuer' {s : State} (hI : Core s) {i : Nat} {ts : List Nat}
    (hval : ts.Nodup ∧ ∀ t, t ∈ ts → t ∈ s.topics) (hi : i ∉ s.issuers) : Core (addIssuer' s i ts) :=
  { hI with
    iN := nodup_append_singleton hI.iN hi
    tiDom := fun t => by
      dsimp only [RegTopics.addIssuer']
      rw [isSome_pushIssuer]
      exact hI.tiDom t
    itDom := isSome_updD_some hI.itDom i ts
    itN := forall_updD (P := fun _ o => nodupO o) ((nodupO_some ts).2 hval.1) fun x _ => hI.itN x
    tiN := fun t => nodupO_pushIssuer (hI.tiN t) ts i fun _ h => hi (hI.tiSub h)
    twoWay := fun i' t => by
      dsimp only [RegTopics.addIssuer']
      rw [memO_updD, memO_some, memO_pushIssuer, hI.twoWay]
      exact ⟨fun h => h.elim (fun h => Or.inr ⟨h.2, (hI.tiDom t).2 (hval.2 t h.2), h.1⟩) (fun h => Or.inl h.2),
        fun h => h.elim (fun h => Or.inr ⟨fun e => hi (hI.tiSub (e ▸ h)), h⟩) (fun h => Or.inl ⟨h.2.2, h.1⟩)⟩ }

theorem Core.addTopic' {s : State} (hI : Core s) {t : Nat} (hc : t ∉ s.topics) : Core (RegTopics.addTopic' s t) :=
  -- typechecks because `(addIssuer' s.swap t []).swap` unfolds to `addTopic' s t`: `pushIssuer _ [] t` is the identity,
  -- `t' ∈ []` being decided by evaluation
  (hI.swap.addIssuer' (i := t) (ts := []) ⟨List.nodup_nil, nofun⟩ hc).swap

def removeIssuer' (s : State) (i : Nat) (its : List Nat) : State :=
  { s with issuers := s.issuers.erase i, issuerTopics := updD s.issuerTopics i none,
           topicIssuers := dropIssuer s.topicIssuers its i }

theorem removeTrustedIssuer_ok_iff {s : State} (hI : Inv s) (s' : State) (i : Nat) :
    removeTrustedIssuer s i = .ok s' ↔
      i ∈ s.issuers ∧ ∃ its, s.issuerTopics i = some its ∧ s' = removeIssuer' s i its := by
  unfold removeTrustedIssuer
  rw [ite_error_eq_ok_iff, Bool.not_eq_true', Bool.not_eq_false, List.contains_iff_mem, ofOpt_bind_eq_ok]
  refine and_congr_right fun _ => exists_congr fun its => and_congr_right fun hits => ?_
  unfold removeTrustedIssuerWith
  rw [ite_error_eq_ok_iff, Bool.not_eq_true', Bool.not_eq_false, Except.ok.injEq]
  exact ⟨fun h => h.2.symm, fun h => ⟨allPresent_of_sub hI fun t ht => hI.itSub i t ⟨its, hits, ht⟩, h.symm⟩⟩

theorem Core.removeIssuer_of {s : State} (hI : Core s) {i : Nat} {its : List Nat}
    (hits : ∀ t, memO (s.topicIssuers t) i → t ∈ its) : Core (removeIssuer' s i its) :=
  { hI with
    iN := hI.iN.erase i
    tiDom := fun t => by
      dsimp only [RegTopics.removeIssuer']
      rw [isSome_dropIssuer]
      exact hI.tiDom t
    itDom := isSome_updD_none hI.iN hI.itDom i
    itN := forall_updD (P := fun _ o => nodupO o) nodupO_none fun x _ => hI.itN x
    tiN := fun t => nodupO_dropIssuer (hI.tiN t) its i
    twoWay := fun i' t => by
      dsimp only [RegTopics.removeIssuer']
      rw [memO_updD_none, memO_dropIssuer (hI.tiN t), hI.twoWay]
      exact ⟨fun h => ⟨h.2, fun h' => h.1 h'.2⟩, fun h => ⟨fun e => h.2 ⟨hits t (e ▸ h.1), e⟩, h.1⟩⟩ }

theorem Core.removeIssuer' {s : State} (hI : Core s) {i : Nat} {its : List Nat}
    (hits : s.issuerTopics i = some its) : Core (RegTopics.removeIssuer' s i its) :=
  hI.removeIssuer_of fun t h => (memO_some its t).1 (hits ▸ (hI.twoWay i t).2 h)

theorem Core.removeTopic' {s : State} (hI : Core s) (t : Nat) : Core (RegTopics.removeTopic' s t) :=
  -- typechecks because `(removeIssuer' s.swap t s.issuers).swap` unfolds to `removeTopic' s t`:
  -- `dropTopicFromIssuers s t` unfolds to `dropIssuer s.issuerTopics s.issuers t`
  (hI.swap.removeIssuer_of (i := t) (its := s.issuers) fun x h => (hI.itDom x).1 (memO_isSome h)).swap

def update' (s : State) (i : Nat) (ts old : List Nat) : State :=
  { s with issuerTopics := updD s.issuerTopics i (some ts),
           topicIssuers :=
             pushIssuer (dropIssuer s.topicIssuers (old.filter (fun t => !ts.contains t)) i)
               (ts.filter (fun t => !old.contains t)) i }

theorem update_ok_iff {s : State} (hI : Inv s) (s' : State) (i : Nat) (ts : List Nat) :
    updateIssuerClaimTopics s i ts = .ok s' ↔
      ((ts ≠ [] ∧ ts.length ≤ MAX_CLAIM_TOPICS ∧ ts.Nodup ∧ ∀ t, t ∈ ts → t ∈ s.topics) ∧ i ∈ s.issuers) ∧
        ∃ old, s.issuerTopics i = some old ∧ s' = update' s i ts old := by
  unfold updateIssuerClaimTopics isTrustedIssuer
  rw [unit_bind_eq_ok, validateTopics_ok_iff, ite_error_eq_ok_iff, Bool.not_eq_true', Bool.not_eq_false,
    List.contains_iff_mem, ofOpt_bind_eq_ok]
  refine Iff.trans (and_congr_right fun hv => and_congr_right fun _ => exists_congr fun old =>
    and_congr_right fun hold => ?_) and_assoc.symm
  unfold updateWith
  rw [ite_error_eq_ok_iff, ite_error_eq_ok_iff, Bool.not_eq_true', Bool.not_eq_false, Bool.not_eq_true', Bool.not_eq_false,
    Except.ok.injEq]
  exact ⟨fun h => h.2.2.symm, fun h =>
    ⟨allPresent_of_sub hI fun t ht => hI.itSub i t ⟨old, hold, (List.mem_filter.1 ht).1⟩,
      allPresent_of_sub hI fun t ht => hv.2.2.2 t (List.mem_filter.1 ht).1, h.symm⟩⟩

theorem Core.update' {s : State} (hI : Core s) {i : Nat} {ts old : List Nat}
    (hval : ts.Nodup ∧ ∀ t, t ∈ ts → t ∈ s.topics) (hi : i ∈ s.issuers)
    (hold : s.issuerTopics i = some old) : Core (RegTopics.update' s i ts old) :=
  have hOld : ∀ t, memO (s.topicIssuers t) i ↔ t ∈ old := fun t => by
    rw [← hI.twoWay, hold, memO_some]
  { hI with
    tiDom := fun t => by
      dsimp only [RegTopics.update']
      rw [isSome_pushIssuer, isSome_dropIssuer]
      exact hI.tiDom t
    itDom := forall_updD (P := fun i' (o : Option (List Nat)) => o.isSome = true ↔ i' ∈ s.issuers)
      ⟨fun _ => hi, fun _ => rfl⟩ fun x _ => hI.itDom x
    itN := forall_updD (P := fun _ o => nodupO o) ((nodupO_some ts).2 hval.1) fun x _ => hI.itN x
    -- `i` is pushed only onto entries of topics not in `old`, which do not name it
    tiN := fun t => nodupO_pushIssuer (nodupO_dropIssuer (hI.tiN t) _ i) _ i fun hA h =>
      ((mem_filter_not_contains ts old t).1 hA).2 ((hOld t).1 ((memO_dropIssuer (hI.tiN t) _ i i).1 h).1)
    twoWay := fun i' t => by
      dsimp only [RegTopics.update']
      rw [memO_updD, memO_some, memO_pushIssuer, memO_dropIssuer (hI.tiN t), isSome_dropIssuer,
        mem_filter_not_contains, mem_filter_not_contains, hI.twoWay]
      by_cases e : i' = i
      · -- `i` itself is dropped from `old \ ts` and pushed onto `ts \ old`, so it is named exactly under `ts`
        subst e
        rw [hOld]
        by_cases ho : t ∈ old
        · simp [ho]
        · simpa [ho] using fun ht => (hI.tiDom t).2 (hval.2 t ht)
      · simp [e] }

theorem inv_next {s : State} (hI : Inv s) (o : Op) : Inv (next s o) := by
  unfold next
  cases h : step s o with
  | error e => exact hI
  | ok s' =>
    cases o with
    | addTopic t =>
      obtain ⟨hc, rfl⟩ := (addClaimTopic_ok_iff s s' t).1 h
      exact (hI.core.addTopic' hc.2).inv (Nat.le_trans (Nat.le_of_eq List.length_append) hc.1) hI.iLe
    | removeTopic t =>
      obtain ⟨_, rfl⟩ := (removeClaimTopic_ok_iff s s' t).1 h
      exact (hI.core.removeTopic' t).inv (Nat.le_trans List.erase_sublist.length_le hI.tLe) hI.iLe
    | addIssuer i ts =>
      obtain ⟨hc, rfl⟩ := (addTrustedIssuer_ok_iff hI s' i ts).1 h
      exact (hI.core.addIssuer' hc.1.2.2 hc.2.2).inv hI.tLe (Nat.le_trans (Nat.le_of_eq List.length_append) hc.2.1)
    | removeIssuer i =>
      obtain ⟨_, its, hits, rfl⟩ := (removeTrustedIssuer_ok_iff hI s' i).1 h
      exact (hI.core.removeIssuer' hits).inv hI.tLe (Nat.le_trans List.erase_sublist.length_le hI.iLe)
    | update i ts =>
      obtain ⟨hc, old, hold, rfl⟩ := (update_ok_iff hI s' i ts).1 h
      exact (hI.core.update' hc.1.2.2 hc.2 hold).inv hI.tLe hI.iLe

theorem inv_run {s : State} (hI : Inv s) (ops : List Op) : Inv (run s ops) :=
  OZ.Lists.foldl_inv (P := Inv) (fun _ o h => inv_next h o) ops s hI

def Reachable (s : State) : Prop := ∃ ops, s = run init ops

theorem reachable_inv {s : State} (h : Reachable s) : Inv s := by
  obtain ⟨ops, rfl⟩ := h
  exact inv_run inv_init ops

theorem rel_iff (s : State) (i t : Nat) : rel s i t ↔ memO (s.issuerTopics i) t := Iff.rfl

theorem mapM_graph (l : List Nat) (f : Nat → Option (List Nat)) (h : ∀ t, t ∈ l → (f t).isSome = true) :
    l.mapM (fun t => (f t).map (fun v => (t, v))) = some (l.map (fun t => (t, (f t).getD []))) := by
  induction l with
  | nil => rfl
  | cons a l ih =>
    rw [List.mapM_cons, ih (fun t ht => h t (List.mem_cons_of_mem _ ht))]
    obtain ⟨v, hv⟩ := Option.isSome_iff_exists.1 (h a (List.mem_cons_self ..))
    rw [hv]; simp [hv]

theorem getClaimTopicsAndIssuers_eq {s : State} (hI : Inv s) :
    getClaimTopicsAndIssuers s = some (s.topics.map (fun t => (t, (s.topicIssuers t).getD []))) :=
  mapM_graph s.topics s.topicIssuers fun t ht => (hI.tiDom t).2 ht

end OZ.RegTopics
