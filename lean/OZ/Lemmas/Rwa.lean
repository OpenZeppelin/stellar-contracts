import OZ.Lemmas.Fungible
import OZ.Model.Rwa
/-
What a successful call of each library function of the RWA model implies: its guards on the pre-state, its
post-state field by field.
-/
namespace OZ.Rwa
open OZ.Host OZ.Fungible

theorem upd_apply {β} (f : Nat → β) (a x : Nat) (v : β) : upd f a v x = if x = a then v else f x := rfl

theorem check_ok {c : Prop} [Decidable c] {e : Err} {u : Unit} (h : check c e = .ok u) : c :=
  (ite_ok_iff.mp h).1

theorem chk_ok {x v : Int} (h : chk x = .ok v) : v = x ∧ in128 x :=
  (ite_ok_iff.mp h).symm

theorem check_pure_ok {α} {c : Prop} [Decidable c] {e : Err} {x y : α}
    (h : (do check c e; pure x : Except Err α) = .ok y) : c ∧ y = x := by
  obtain ⟨_, h1, h⟩ := bind_eq_ok h
  exact ⟨check_ok h1, (Except.ok.inj h).symm⟩

theorem chk_in {x : Int} (h : in128 x) : chk x = .ok x := by unfold chk; rw [if_pos h]

theorem replay_snoc (evs : List Ev) (ev : Ev) : replay (evs ++ [ev]) = replayEv (replay evs) ev := by
  simp [replay, List.foldl_append]

theorem callsTo_filter (ms : List Nat) (c : ModCall) (m : Nat) (hn : ms.Nodup) :
    (callsTo ms c).filter (fun x => x.1 = m) = if m ∈ ms then [(m, c)] else [] := by
  induction ms with
  | nil => rfl
  | cons x xs ih =>
    have hx : x ∉ xs := (List.nodup_cons.mp hn).1
    have hxs : xs.Nodup := (List.nodup_cons.mp hn).2
    have ih := ih hxs
    unfold callsTo at ih ⊢
    simp only [List.map_cons, List.filter_cons]
    by_cases hxm : x = m
    · subst hxm
      simp only [decide_true, if_true, List.mem_cons, true_or]
      rw [ih, if_neg hx]
    · have : decide (x = m) = false := by simp [hxm]
      simp only [this, Bool.false_eq_true, if_false, List.mem_cons]
      rw [ih]
      have : (m = x ∨ m ∈ xs) ↔ m ∈ xs := ⟨fun h => h.elim (fun e => absurd e.symm hxm) id, Or.inr⟩
      simp only [this]

theorem update_move {b b' : Fungible.State} {f t : Nat} {amt : Int}
    (h : Fungible.update b (some f) (some t) amt = .ok b') :
    0 ≤ amt ∧ amt ≤ b.bal f ∧ b'.supply = b.supply ∧ b'.allow = b.allow ∧ b'.now = b.now ∧
    (∀ x, b'.bal x = (if x = t then (if t = f then b.bal f - amt else b.bal t) + amt
                      else if x = f then b.bal f - amt else b.bal x)) := by
  obtain ⟨h0, hc, rfl⟩ := update_eq h
  exact ⟨h0, hc, rfl, rfl, rfl, fun x => by simp only [updateSt, creditSt, debitSt, upd_apply]⟩

theorem moved_apart {b b' : Nat → Int} {f t : Nat} {amt : Int}
    (h : ∀ x, b' x = (if x = t then (if t = f then b f - amt else b t) + amt
                      else if x = f then b f - amt else b x)) :
    (f ≠ t → b' f = b f - amt ∧ b' t = b t + amt) ∧ (∀ x, x ≠ f → x ≠ t → b' x = b x) := by
  refine ⟨fun hft => ⟨?_, ?_⟩, fun x hxf hxt => ?_⟩
  · rw [h f, if_neg hft, if_pos rfl]
  · rw [h t, if_pos rfl, if_neg (Ne.symm hft)]
  · rw [h x, if_neg hxt, if_neg hxf]

theorem moved_ge {b b' : Nat → Int} {f t : Nat} {amt : Int} (h0 : 0 ≤ amt)
    (h : ∀ x, b' x = (if x = t then (if t = f then b f - amt else b t) + amt
                      else if x = f then b f - amt else b x)) (x : Nat) :
    (if x = f then b f - amt else b x) ≤ b' x := by
  rw [h x]
  by_cases hxt : x = t
  · subst hxt; rw [if_pos rfl]; omega
  · rw [if_neg hxt]; exact Int.le_refl _

theorem update_mint {b b' : Fungible.State} {t : Nat} {amt : Int}
    (h : Fungible.update b none (some t) amt = .ok b') :
    0 ≤ amt ∧ b'.supply = b.supply + amt ∧ b'.allow = b.allow ∧ b'.now = b.now ∧
    (∀ x, b'.bal x = if x = t then b.bal t + amt else b.bal x) := by
  obtain ⟨h0, -, rfl⟩ := update_eq h
  exact ⟨h0, rfl, rfl, rfl, fun x => by simp only [updateSt, creditSt, debitSt, upd_apply]⟩

theorem update_burn {b b' : Fungible.State} {f : Nat} {amt : Int}
    (h : Fungible.update b (some f) none amt = .ok b') :
    0 ≤ amt ∧ amt ≤ b.bal f ∧ b'.supply = b.supply - amt ∧ b'.allow = b.allow ∧ b'.now = b.now ∧
    (∀ x, b'.bal x = if x = f then b.bal f - amt else b.bal x) := by
  obtain ⟨h0, hc, rfl⟩ := update_eq h
  exact ⟨h0, hc, rfl, rfl, rfl, fun x => by simp only [updateSt, creditSt, debitSt, upd_apply]⟩

theorem onBase_ok {x : Except Err Fungible.State} {s s' : State}
    (h : (match x with | .ok b => .ok { s with base := b } | .error e => .error e : Except Err State) = .ok s') :
    ∃ b, x = .ok b ∧ s' = { s with base := b } := by
  cases x with
  | ok b => exact ⟨b, rfl, (Except.ok.inj h).symm⟩
  | error e => cases h

theorem baseUpdate_ok {s s' : State} {f t : Option Nat} {amt : Int}
    (h : baseUpdate s f t amt = .ok s') :
    ∃ b, Fungible.update s.base f t amt = .ok b ∧ s' = { s with base := b } :=
  onBase_ok h

theorem baseSpend_ok {c : Cfg} {s s' : State} {o sp : Nat} {amt : Int}
    (h : baseSpend c s o sp amt = .ok s') :
    ∃ b, Fungible.spendAllowance c s.base o sp amt = .ok b ∧ s' = { s with base := b } :=
  onBase_ok h

theorem baseSetAllowance_ok {c : Cfg} {s s' : State} {o sp : Nat} {amt : Int} {lu : Nat}
    (h : baseSetAllowance c s o sp amt lu = .ok s') :
    ∃ b, Fungible.setAllowance c s.base o sp amt lu = .ok b ∧ s' = { s with base := b } :=
  onBase_ok h

theorem verifyIdentity_ok {s s' : State} {a : Nat} (h : verifyIdentity s a = .ok s') :
    s.idOk a = true ∧ s' = logId s (.verify a) :=
  ite_ok_iff.mp h

theorem queryCanTransfer_ok {s s' : State} {f t : Nat} {amt : Int}
    (h : queryCanTransfer s f t amt = .ok s') :
    (compCanTransfer s f t amt).2 = true ∧
    s' = { s with compQueries := s.compQueries ++ [.canTransfer f t amt],
                  modCalls := s.modCalls ++ callsTo (compCanTransfer s f t amt).1 (.canTransfer f t amt) } :=
  ite_ok_iff.mp h

theorem queryCanCreate_ok {s s' : State} {t : Nat} {amt : Int}
    (h : queryCanCreate s t amt = .ok s') :
    (compCanCreate s t amt).2 = true ∧
    s' = { s with compQueries := s.compQueries ++ [.canCreate t amt],
                  modCalls := s.modCalls ++ callsTo (compCanCreate s t amt).1 (.canCreate t amt) } :=
  ite_ok_iff.mp h

theorem hook_ok {s s' : State} {h : Hook} {c : ModCall} (hh : hook s h c = .ok s') :
    s.bound = true ∧ s' = logMods s (s.mods h) c :=
  ite_ok_iff.mp hh

theorem checkTarget_ok {s s' : State} {old new : Nat} (h : checkTarget s old new = .ok s') :
    s.recTarget old = some new ∧ s' = logId s (.target old) :=
  ite_ok_iff.mp h

theorem opAuth_ok {s : State} {auth : List Nat} {op : Nat} {u : Unit} (h : opAuth s auth op = .ok u) :
    op ∈ auth ∧ op = s.admin := by
  unfold opAuth at h
  obtain ⟨_, h1, h2⟩ := bind_eq_ok h
  exact ⟨requireAuth_ok h1, check_ok h2⟩

/-- the gates of `validate_transfer` -/
structure Gates (s : State) (f t : Nat) (amt : Int) : Prop where
  notPaused : s.paused = false
  fromNotFrozen : s.addrFrozen f = false
  toNotFrozen : s.addrFrozen t = false
  free : amt ≤ s.base.bal f - s.frozen f
  fromVerified : s.idOk f = true
  toVerified : s.idOk t = true
  compliant : (compCanTransfer s f t amt).2 = true

theorem validateTransfer_ok {s s' : State} {f t : Nat} {amt : Int}
    (h : validateTransfer s f t amt = .ok s') :
    Gates s f t amt ∧
    s' = { s with idCalls := s.idCalls ++ [.verify f] ++ [.verify t],
                  compQueries := s.compQueries ++ [.canTransfer f t amt],
                  modCalls := s.modCalls ++ callsTo (compCanTransfer s f t amt).1 (.canTransfer f t amt) } := by
  unfold validateTransfer at h
  obtain ⟨_, h1, h⟩ := bind_eq_ok h
  obtain ⟨_, h2, h⟩ := bind_eq_ok h
  obtain ⟨free, h3, h⟩ := bind_eq_ok h
  obtain ⟨_, h4, h⟩ := bind_eq_ok h
  obtain ⟨s1, h5, h⟩ := bind_eq_ok h
  obtain ⟨s2, h6, h⟩ := bind_eq_ok h
  have g1 := check_ok h1
  have g2 := check_ok h2
  obtain ⟨e3, -⟩ := chk_ok h3
  have g4 := check_ok h4
  obtain ⟨g5, e5⟩ := verifyIdentity_ok h5
  subst e5
  obtain ⟨g6, e6⟩ := verifyIdentity_ok h6
  subst e6
  obtain ⟨g7, e7⟩ := queryCanTransfer_ok h
  subst e7
  subst e3
  exact ⟨⟨g1, g2.1, g2.2, by omega, g5, g6, g7⟩, rfl⟩

namespace Mon

def EvExt (s s' : State) : Prop := ∃ evs, s'.events = s.events ++ evs

theorem EvExt.of_eq {s s' : State} (h : s'.events = s.events) : EvExt s s' := ⟨[], by rw [h, List.append_nil]⟩

theorem EvExt.refl (s : State) : EvExt s s := EvExt.of_eq rfl

theorem EvExt.trans {a b c : State} (h1 : EvExt a b) (h2 : EvExt b c) : EvExt a c := by
  obtain ⟨e1, h1⟩ := h1
  obtain ⟨e2, h2⟩ := h2
  exact ⟨e1 ++ e2, by rw [h2, h1, List.append_assoc]⟩

theorem EvExt.emit {s s' : State} (h : EvExt s s') (ev : Ev) : EvExt s (emit s' ev) := by
  obtain ⟨e1, h1⟩ := h
  exact ⟨e1 ++ [ev], by simp only [Rwa.emit]; rw [h1, List.append_assoc]⟩

end Mon
open Mon (EvExt)

/-! A post-state is given as ONE record update of the pre-state or field by field, not as nested
`emit (notify (logMods ..))` terms: to decide `X.fld = s.fld` for a record update `X` nested `n` deep the unifier
takes about `16 ^ n` steps, one factor per field of `State`. -/

structure SameEnv (s s' : State) : Prop where
  admin : s'.admin = s.admin
  idOk : s'.idOk = s.idOk
  recTarget : s'.recTarget = s.recTarget
  bound : s'.bound = s.bound
  mods : s'.mods = s.mods
  modCanTransfer : s'.modCanTransfer = s.modCanTransfer
  modCanCreate : s'.modCanCreate = s.modCanCreate

theorem SameEnv.refl (s : State) : SameEnv s s := ⟨rfl, rfl, rfl, rfl, rfl, rfl, rfl⟩
theorem SameEnv.trans {a b c : State} (h1 : SameEnv a b) (h2 : SameEnv b c) : SameEnv a c :=
  ⟨h2.admin.trans h1.admin, h2.idOk.trans h1.idOk, h2.recTarget.trans h1.recTarget,
   h2.bound.trans h1.bound, h2.mods.trans h1.mods,
   h2.modCanTransfer.trans h1.modCanTransfer, h2.modCanCreate.trans h1.modCanCreate⟩

structure Kept (s s' : State) : Prop where
  base : s'.base = s.base := by rfl
  paused : s'.paused = s.paused := by rfl
  notes : s'.notes = s.notes := by rfl
  modCalls : s'.modCalls = s.modCalls := by rfl
  env : SameEnv s s' := by exact ⟨rfl, rfl, rfl, rfl, rfl, rfl, rfl⟩
  events : EvExt s s'
  replay : replay s'.events = replay s.events := by rfl

theorem Kept.refl (s : State) : Kept s s := { env := .refl s, events := .refl s }

theorem Kept.trans {a b c : State} (h1 : Kept a b) (h2 : Kept b c) : Kept a c :=
  ⟨h2.base.trans h1.base, h2.paused.trans h1.paused, h2.notes.trans h1.notes, h2.modCalls.trans h1.modCalls,
   h1.env.trans h2.env, h1.events.trans h2.events, h2.replay.trans h1.replay⟩

structure FreezePost (s s' : State) (x : Nat) (v : Int) : Prop where
  kept : Kept s s'
  addrFrozen : s'.addrFrozen = s.addrFrozen
  frozen : ∀ y, s'.frozen y = if y = x then v else s.frozen y

/-- the frozen amount `unfreezeFor` / `forced_transfer` / `burn` leave on the account -/
def frozenAfter (s : State) (a : Nat) (amt : Int) : Int :=
  if s.base.bal a - s.frozen a < amt then s.base.bal a - amt else s.frozen a

theorem frozenAfter_eq_min (s : State) (a : Nat) (amt : Int) :
    frozenAfter s a amt = min (s.frozen a) (s.base.bal a - amt) := by
  unfold frozenAfter; split <;> omega

theorem unfreezeFor_kept {s s' : State} {a : Nat} {amt : Int} (h : unfreezeFor s a amt = .ok s') :
    FreezePost s s' a (frozenAfter s a amt) := by
  unfold unfreezeFor at h
  obtain ⟨free, h1, h⟩ := bind_eq_ok h
  obtain ⟨e1, -⟩ := chk_ok h1
  subst e1
  split at h
  · rename_i hlt
    obtain ⟨tu, h2, h⟩ := bind_eq_ok h
    obtain ⟨nf, h3, h⟩ := bind_eq_ok h
    obtain ⟨e2, -⟩ := chk_ok h2
    obtain ⟨e3, -⟩ := chk_ok h3
    injection h with h; subst h
    refine ⟨{ events := ⟨[_], rfl⟩, replay := replay_snoc _ _ }, rfl, fun x => ?_⟩
    simp only [emit, upd_apply, frozenAfter]
    rw [if_pos hlt]
    split
    · omega
    · rfl
  · rename_i hge
    injection h with h; subst h
    refine ⟨.refl _, rfl, fun x => ?_⟩
    simp only [frozenAfter]
    rw [if_neg hge]
    split
    · rename_i hx; rw [hx]
    · rfl

theorem moveTail_ok {s s' : State} {frm to : Option Nat} {amt : Int} {hk : Hook} {mc : ModCall}
    {n : Note} {ev : Ev}
    (h : (do let s ← baseUpdate s frm to amt
             let s ← hook s hk mc
             pure (emit (notify s n) ev)) = Except.ok s') :
    s.bound = true ∧ ∃ b, Fungible.update s.base frm to amt = .ok b ∧
      s' = { s with base := b, modCalls := s.modCalls ++ callsTo (s.mods hk) mc,
                    notes := s.notes ++ [n], events := s.events ++ [ev] } := by
  obtain ⟨s1, h1, h⟩ := bind_eq_ok h
  obtain ⟨s2, h2, h⟩ := bind_eq_ok h
  obtain ⟨b, hb, e1⟩ := baseUpdate_ok h1
  subst e1
  obtain ⟨g, e2⟩ := hook_ok h2
  subst e2
  injection h with h
  exact ⟨g, b, hb, h.symm⟩

theorem unfreezeMove_ok {s s' : State} {a : Nat} {to : Option Nat} {amt : Int} {hk : Hook} {mc : ModCall}
    {n : Note} {e : Fungible.Event}
    (h : (do let s ← unfreezeFor s a amt
             let s ← baseUpdate s (some a) to amt
             let s ← hook s hk mc
             pure (emit (notify s n) (.base e))) = Except.ok s') :
    Fungible.update s.base (some a) to amt = .ok s'.base ∧
    (∀ x, s'.frozen x = if x = a then frozenAfter s a amt else s.frozen x) ∧
    s'.addrFrozen = s.addrFrozen ∧ s'.paused = s.paused ∧ s'.notes = s.notes ++ [n] ∧ SameEnv s s' ∧
    (EvExt s s' ∧ replay s'.events = Fungible.replayEvent (replay s.events) e) ∧ s.bound = true ∧
    s'.modCalls = s.modCalls ++ callsTo (s.mods hk) mc := by
  obtain ⟨s1, h1, h⟩ := bind_eq_ok h
  obtain ⟨k, ea, ef⟩ := unfreezeFor_kept h1
  obtain ⟨g, b, hb, e'⟩ := moveTail_ok h
  subst e'
  rw [k.base] at hb
  refine ⟨hb, ef, ea, k.paused, ?_, k.env.trans ⟨rfl, rfl, rfl, rfl, rfl, rfl, rfl⟩, ⟨k.events.trans ⟨[_], rfl⟩, ?_⟩, ?_, ?_⟩
  · rw [← k.notes]
  · rw [← k.replay]; exact replay_snoc _ _
  · rw [← k.env.bound]; exact g
  · rw [← k.modCalls, ← k.env.mods]

structure ForcedPost (s s' : State) (f t : Nat) (amt : Int) : Prop where
  enough : amt ≤ s.base.bal f
  nonneg : 0 ≤ amt
  update : Fungible.update s.base (some f) (some t) amt = .ok s'.base
  frozen : ∀ x, s'.frozen x = if x = f then frozenAfter s f amt else s.frozen x
  addrFrozen : s'.addrFrozen = s.addrFrozen
  paused : s'.paused = s.paused
  notes : s'.notes = s.notes ++ [.transferred f t amt]
  env : SameEnv s s'
  replay : replay s'.events = Fungible.replayEvent (replay s.events) (.transfer f t amt)
  bound : s.bound = true
  modCalls : s'.modCalls = s.modCalls ++ callsTo (s.mods .transferred) (.onTransfer f t amt)

theorem forcedTransfer_ok {s s' : State} {f t : Nat} {amt : Int}
    (h : forcedTransfer s f t amt = .ok s') : ForcedPost s s' f t amt ∧ EvExt s s' := by
  unfold forcedTransfer at h
  obtain ⟨_, h1, h⟩ := bind_eq_ok h
  have g1 := check_ok h1
  obtain ⟨hu, hf, ha, hp, hn, he, ⟨hev, hr⟩, hb, hm⟩ := unfreezeMove_ok h
  exact ⟨⟨by omega, (update_move hu).1, hu, hf, ha, hp, hn, he, hr, hb, hm⟩, hev⟩

structure BurnPost (s s' : State) (a : Nat) (amt : Int) : Prop where
  enough : amt ≤ s.base.bal a
  nonneg : 0 ≤ amt
  update : Fungible.update s.base (some a) none amt = .ok s'.base
  frozen : ∀ x, s'.frozen x = if x = a then frozenAfter s a amt else s.frozen x
  addrFrozen : s'.addrFrozen = s.addrFrozen
  paused : s'.paused = s.paused
  notes : s'.notes = s.notes ++ [.destroyed a amt]
  env : SameEnv s s'
  replay : replay s'.events = Fungible.replayEvent (replay s.events) (.burn a amt)
  bound : s.bound = true
  modCalls : s'.modCalls = s.modCalls ++ callsTo (s.mods .destroyed) (.onDestroyed a amt)

theorem burn_ok {s s' : State} {a : Nat} {amt : Int} (h : burn s a amt = .ok s') :
    BurnPost s s' a amt ∧ EvExt s s' := by
  unfold burn at h
  obtain ⟨_, h1, h⟩ := bind_eq_ok h
  have g1 := check_ok h1
  obtain ⟨hu, hf, ha, hp, hn, he, ⟨hev, hr⟩, hb, hm⟩ := unfreezeMove_ok h
  exact ⟨⟨by omega, (update_burn hu).1, hu, hf, ha, hp, hn, he, hr, hb, hm⟩, hev⟩

structure MintPost (s s' : State) (t : Nat) (amt : Int) : Prop where
  verified : s.idOk t = true
  compliant : (compCanCreate s t amt).2 = true
  update : Fungible.update s.base none (some t) amt = .ok s'.base
  frozen : s'.frozen = s.frozen
  addrFrozen : s'.addrFrozen = s.addrFrozen
  paused : s'.paused = s.paused
  notes : s'.notes = s.notes ++ [.created t amt]
  env : SameEnv s s'
  replay : replay s'.events = Fungible.replayEvent (replay s.events) (.mint t amt)
  bound : s.bound = true
  modCalls : s'.modCalls = s.modCalls ++ (callsTo (compCanCreate s t amt).1 (.canCreate t amt) ++
    callsTo (s.mods .created) (.onCreated t amt))

theorem mint_ok {s s' : State} {t : Nat} {amt : Int} (h : mint s t amt = .ok s') :
    MintPost s s' t amt ∧ EvExt s s' := by
  unfold mint at h
  obtain ⟨s1, h1, h⟩ := bind_eq_ok h
  obtain ⟨s2, h2, h⟩ := bind_eq_ok h
  obtain ⟨g1, e1⟩ := verifyIdentity_ok h1
  subst e1
  obtain ⟨g2, e2⟩ := queryCanCreate_ok h2
  subst e2
  obtain ⟨g, b, hb, e⟩ := moveTail_ok h
  subst e
  exact ⟨⟨g1, g2, hb, rfl, rfl, rfl, rfl, ⟨rfl, rfl, rfl, rfl, rfl, rfl, rfl⟩, replay_snoc _ _, g,
    List.append_assoc _ _ _⟩, [_], rfl⟩

structure MovePost (s s' : State) (f t : Nat) (amt : Int) : Prop where
  gates : Gates s f t amt
  update : ∃ b1, b1.supply = s.base.supply ∧ b1.bal = s.base.bal ∧
    Fungible.update b1 (some f) (some t) amt = .ok s'.base
  bal : ∀ x, s'.base.bal x = (if x = t then (if t = f then s.base.bal f - amt else s.base.bal t) + amt
                              else if x = f then s.base.bal f - amt else s.base.bal x)
  nonneg : 0 ≤ amt
  supply : s'.base.supply = s.base.supply
  now : s'.base.now = s.base.now
  frozen : s'.frozen = s.frozen
  addrFrozen : s'.addrFrozen = s.addrFrozen
  paused : s'.paused = s.paused
  notes : s'.notes = s.notes ++ [.transferred f t amt]
  env : SameEnv s s'
  replay : replay s'.events = Fungible.replayEvent (replay s.events) (.transfer f t amt)
  bound : s.bound = true
  modCalls : s'.modCalls = s.modCalls ++ (callsTo (compCanTransfer s f t amt).1 (.canTransfer f t amt) ++
    callsTo (s.mods .transferred) (.onTransfer f t amt))

/-- `b1`: `transfer_from` spends the allowance between validation and movement -/
theorem holderMove_ok {s s1 s2 s' : State} {f t : Nat} {amt : Int} {b1 : Fungible.State}
    (h1 : validateTransfer s f t amt = .ok s1) (e2 : s2 = { s1 with base := b1 })
    (hs : b1.supply = s1.base.supply) (hb : b1.bal = s1.base.bal) (hn : b1.now = s1.base.now)
    (h : (do let s ← baseUpdate s2 (some f) (some t) amt
             let s ← hook s .transferred (.onTransfer f t amt)
             pure (emit (notify s (.transferred f t amt)) (.base (.transfer f t amt)))) = Except.ok s') :
    MovePost s s' f t amt ∧ EvExt s s' := by
  obtain ⟨g, e1⟩ := validateTransfer_ok h1
  subst e1
  subst e2
  obtain ⟨gb, b, hu, e⟩ := moveTail_ok h
  subst e
  obtain ⟨u0, -, u2, -, u4, u5⟩ := update_move hu
  exact ⟨⟨g, ⟨b1, hs, hb, hu⟩, fun x => (u5 x).trans (by rw [hb]), u0, u2.trans hs, u4.trans hn, rfl, rfl, rfl,
    rfl, ⟨rfl, rfl, rfl, rfl, rfl, rfl, rfl⟩, replay_snoc _ _, gb, List.append_assoc _ _ _⟩, [_], rfl⟩

theorem transfer_ok {s s' : State} {auth : List Nat} {f t : Nat} {amt : Int}
    (h : transfer s auth f t amt = .ok s') : f ∈ auth ∧ MovePost s s' f t amt ∧ EvExt s s' := by
  unfold transfer at h
  obtain ⟨_, h0, h⟩ := bind_eq_ok h
  obtain ⟨s1, h1, h⟩ := bind_eq_ok h
  exact ⟨requireAuth_ok h0, holderMove_ok h1 rfl rfl rfl rfl h⟩

theorem transferFrom_ok {c : Cfg} {s s' : State} {auth : List Nat} {sp f t : Nat} {amt : Int}
    (h : transferFrom c s auth sp f t amt = .ok s') :
    sp ∈ auth ∧ amt ≤ Fungible.allowance s.base f sp ∧ MovePost s s' f t amt ∧ EvExt s s' := by
  unfold transferFrom at h
  obtain ⟨_, h0, h⟩ := bind_eq_ok h
  obtain ⟨s1, h1, h⟩ := bind_eq_ok h
  obtain ⟨s2, h2, h⟩ := bind_eq_ok h
  obtain ⟨b1, hb1, e2⟩ := baseSpend_ok h2
  obtain ⟨a1, a2, a3, -, -⟩ := spendAllowance_ok hb1
  have hal : amt ≤ Fungible.allowance s1.base f sp := (spendAllowance_cases hb1).2.1
  rw [(validateTransfer_ok h1).2] at hal
  exact ⟨requireAuth_ok h0, hal, holderMove_ok h1 e2 a1 a2 a3 h⟩

theorem freezePartial_kept {s s' : State} {a : Nat} {amt : Int} (h : freezePartial s a amt = .ok s') :
    0 ≤ amt ∧ s.frozen a + amt ≤ s.base.bal a ∧ FreezePost s s' a (s.frozen a + amt) := by
  unfold freezePartial at h
  obtain ⟨_, h1, h⟩ := bind_eq_ok h
  obtain ⟨nf, h2, h⟩ := bind_eq_ok h
  obtain ⟨_, h3, h⟩ := bind_eq_ok h
  have g1 := check_ok h1
  obtain ⟨e2, -⟩ := chk_ok h2
  subst e2
  have g3 := check_ok h3
  injection h with h; subst h
  exact ⟨by omega, by omega, { events := ⟨[_], rfl⟩, replay := replay_snoc _ _ }, rfl,
    fun x => by simp only [emit, upd_apply]⟩

theorem unfreezePartial_kept {s s' : State} {a : Nat} {amt : Int} (h : unfreezePartial s a amt = .ok s') :
    0 ≤ amt ∧ amt ≤ s.frozen a ∧ FreezePost s s' a (s.frozen a - amt) := by
  unfold unfreezePartial at h
  obtain ⟨_, h1, h⟩ := bind_eq_ok h
  obtain ⟨_, h2, h⟩ := bind_eq_ok h
  obtain ⟨nf, h3, h⟩ := bind_eq_ok h
  have g1 := check_ok h1
  have g2 := check_ok h2
  obtain ⟨e3, -⟩ := chk_ok h3
  subst e3
  injection h with h; subst h
  exact ⟨by omega, by omega, { events := ⟨[_], rfl⟩, replay := replay_snoc _ _ }, rfl,
    fun x => by simp only [emit, upd_apply]⟩

theorem approve_ok {c : Cfg} {s s' : State} {auth : List Nat} {o sp : Nat} {amt : Int} {lu : Nat}
    (h : approve c s auth o sp amt lu = .ok s') :
    o ∈ auth ∧ ∃ b, Fungible.setAllowance c s.base o sp amt lu = .ok b ∧
      s' = emit { s with base := b } (.base (.approve o sp amt lu)) := by
  unfold approve at h
  obtain ⟨_, h0, h⟩ := bind_eq_ok h
  obtain ⟨s1, h1, h⟩ := bind_eq_ok h
  obtain ⟨b, hb, e1⟩ := baseSetAllowance_ok h1
  subst e1
  injection h with h
  exact ⟨requireAuth_ok h0, b, hb, h.symm⟩

theorem pause_ok {s s' : State} (h : pause s = .ok s') :
    s.paused = false ∧ s' = emit { s with paused := true } .paused :=
  check_pure_ok h

theorem unpause_ok {s s' : State} (h : unpause s = .ok s') :
    s.paused = true ∧ s' = emit { s with paused := false } .unpaused :=
  check_pure_ok h

theorem refreeze_kept {s s' : State} {new : Nat} {ft : Int} (h : refreeze s new ft = .ok s') :
    Kept s s' ∧ s'.addrFrozen = s.addrFrozen ∧
    (∀ x, s'.frozen x = if ft > 0 then (if x = new then s.frozen new + ft else s.frozen x) else s.frozen x) := by
  unfold refreeze at h
  split at h
  · rename_i hpos
    obtain ⟨-, -, k, ea, ef⟩ := freezePartial_kept h
    exact ⟨k, ea, fun x => by rw [if_pos hpos]; exact ef x⟩
  · rename_i hneg
    injection h with h; subst h
    exact ⟨.refl _, rfl, fun x => by rw [if_neg hneg]⟩

theorem refreezeAddr_kept (s : State) (new : Nat) (b : Bool) :
    Kept s (refreezeAddr s new b) ∧ (refreezeAddr s new b).frozen = s.frozen ∧
    (∀ x, (refreezeAddr s new b).addrFrozen x = if x = new then (s.addrFrozen new || b) else s.addrFrozen x) := by
  cases b
  · refine ⟨.refl _, rfl, fun x => ?_⟩
    show s.addrFrozen x = _
    rw [Bool.or_false]
    split
    · rename_i hx; rw [hx]
    · rfl
  · refine ⟨{ events := ⟨[_], rfl⟩, replay := replay_snoc _ _ }, rfl, fun x => ?_⟩
    rw [Bool.or_true]
    exact upd_apply _ _ _ _

structure RecoverPost (s s' : State) (old new : Nat) : Prop where
  update : Fungible.update s.base (some old) (some new) (s.base.bal old) = .ok s'.base
  frozen : ∀ x, s'.frozen x =
    if s.frozen old > 0 then
      (if x = new then (if new = old then frozenAfter s old (s.base.bal old) else s.frozen new) + s.frozen old
       else if x = old then frozenAfter s old (s.base.bal old) else s.frozen x)
    else (if x = old then frozenAfter s old (s.base.bal old) else s.frozen x)
  addrFrozen : ∀ x, s'.addrFrozen x = if x = new then (s.addrFrozen new || s.addrFrozen old) else s.addrFrozen x
  paused : s'.paused = s.paused
  notes : s'.notes = s.notes ++ [.transferred old new (s.base.bal old)]
  env : SameEnv s s'
  replay : replay s'.events = Fungible.replayEvent (replay s.events) (.transfer old new (s.base.bal old))
  bound : s.bound = true
  modCalls : s'.modCalls = s.modCalls ++ callsTo (s.mods .transferred) (.onTransfer old new (s.base.bal old))

theorem recoverMove_ok {s s' : State} {old new : Nat} (h : recoverMove s old new = .ok s') :
    RecoverPost s s' old new ∧ EvExt s s' := by
  unfold recoverMove at h
  obtain ⟨s1, h1, h⟩ := bind_eq_ok h
  obtain ⟨s2, h2, h⟩ := bind_eq_ok h
  injection h with h; subst h
  obtain ⟨fp, fev⟩ := forcedTransfer_ok h1
  obtain ⟨k2, a2, f2⟩ := refreeze_kept h2
  obtain ⟨k3, f3, a3⟩ := refreezeAddr_kept s2 new (s.addrFrozen old)
  have k := k2.trans k3
  refine ⟨?_, (fev.trans k.events).emit _⟩
  refine ⟨?_, ?_, ?_, k.paused.trans fp.paused, k.notes.trans fp.notes,
    (fp.env.trans k.env).trans ⟨rfl, rfl, rfl, rfl, rfl, rfl, rfl⟩,
    (replay_snoc _ _).trans (k.replay.trans fp.replay), fp.bound, k.modCalls.trans fp.modCalls⟩
  · show Fungible.update _ _ _ _ = .ok (refreezeAddr s2 new (s.addrFrozen old)).base
    rw [k.base]; exact fp.update
  · intro x
    show (refreezeAddr s2 new (s.addrFrozen old)).frozen x = _
    rw [f3, f2 x]
    by_cases hpos : s.frozen old > 0
    · rw [if_pos hpos, if_pos hpos, fp.frozen new, fp.frozen x]
    · rw [if_neg hpos, if_neg hpos, fp.frozen x]
  · intro x
    show (refreezeAddr s2 new (s.addrFrozen old)).addrFrozen x = _
    rw [a3 x, a2, fp.addrFrozen]

theorem recoverBalance_ok {s s' : State} {old new : Nat} {r : Bool}
    (h : recoverBalance s old new = .ok (s', r)) :
    s.idOk new = true ∧ s.recTarget old = some new ∧
    ((r = false ∧ s.base.bal old = 0 ∧ s' = logId (logId s (.verify new)) (.target old)) ∨
     (r = true ∧ s.base.bal old ≠ 0 ∧ RecoverPost s s' old new)) ∧ EvExt s s' := by
  unfold recoverBalance at h
  obtain ⟨s1, h1, h⟩ := bind_eq_ok h
  obtain ⟨s2, h2, h⟩ := bind_eq_ok h
  obtain ⟨g1, e1⟩ := verifyIdentity_ok h1
  subst e1
  obtain ⟨g2, e2⟩ := checkTarget_ok h2
  subst e2
  refine ⟨g1, g2, ?_⟩
  unfold recoverRest at h
  split at h
  · rename_i hz
    injection h with h
    injection h with ha hb
    subst ha; exact ⟨Or.inl ⟨hb.symm, hz, rfl⟩, .of_eq rfl⟩
  · rename_i hnz
    split at h
    · rename_i s3 h3
      injection h with h
      injection h with ha hb
      subst ha
      obtain ⟨p, pev⟩ := recoverMove_ok h3
      -- the pre-state of `p` is `logId (logId s ..) ..`, not `s`: only field by field is it, by unfolding, the post of `s`
      exact ⟨Or.inr ⟨hb.symm, hnz, ⟨p.update, p.frozen, p.addrFrozen, p.paused, p.notes,
        ⟨p.env.admin, p.env.idOk, p.env.recTarget, p.env.bound, p.env.mods, p.env.modCanTransfer, p.env.modCanCreate⟩, p.replay,
        p.bound, p.modCalls⟩⟩, (EvExt.of_eq rfl : EvExt s (logId (logId s (.verify new)) (.target old))).trans pev⟩
    · cases h

theorem addModule_ok {s s' : State} {h : Hook} {m : Nat} (hh : addModule s h m = .ok s') :
    m ∉ s.mods h ∧ (s.mods h).length < MAX_MODULES ∧
    s' = emit { s with mods := fun k => if k = h then s.mods h ++ [m] else s.mods k } (.moduleAdded h m) := by
  obtain ⟨_, h1, hh⟩ := bind_eq_ok hh
  obtain ⟨g2, e⟩ := check_pure_ok hh
  exact ⟨check_ok h1, by omega, e⟩

theorem removeModule_ok {s s' : State} {h : Hook} {m : Nat} (hh : removeModule s h m = .ok s') :
    m ∈ s.mods h ∧
    s' = emit { s with mods := fun k => if k = h then (s.mods h).erase m else s.mods k } (.moduleRemoved h m) :=
  check_pure_ok hh

theorem bindToken_ok {s s' : State} (h : bindToken s = .ok s') :
    s.bound = false ∧ s' = { s with bound := true } :=
  check_pure_ok h

theorem unbindToken_ok {s s' : State} (h : unbindToken s = .ok s') :
    s.bound = true ∧ s' = { s with bound := false } :=
  check_pure_ok h

theorem apply_eq_ok {c : Cfg} {s s' : State} {auth : List Nat} {op : Op} (h : apply c s auth op = .ok s') :
    ∃ r, applyRet c s auth op = .ok (s', r) := by
  unfold apply at h
  split at h
  · rename_i r hr; injection h with h; subst h; exact ⟨r.2, hr⟩
  · cases h

theorem applyRet_apply {c : Cfg} {s s' : State} {auth : List Nat} {op : Op} {r : Bool}
    (h : applyRet c s auth op = .ok (s', r)) : apply c s auth op = .ok s' := by
  unfold apply; rw [h]

theorem guarded_ok {s s' : State} {auth : List Nat} {op : Nat} {body : Except Err State} {r : Bool}
    (h : (do opAuth s auth op; let s ← body; pure (s, true) : Except Err (State × Bool)) = .ok (s', r)) :
    (op ∈ auth ∧ op = s.admin) ∧ body = .ok s' ∧ r = true := by
  obtain ⟨_, h0, h⟩ := bind_eq_ok h
  obtain ⟨s1, h1, h⟩ := bind_eq_ok h
  injection h with h
  injection h with ha hb
  subst ha
  exact ⟨opAuth_ok h0, h1, hb.symm⟩

theorem plain_ok {s' : State} {body : Except Err State} {r : Bool}
    (h : (do let s ← body; pure (s, true) : Except Err (State × Bool)) = .ok (s', r)) : body = .ok s' ∧ r = true := by
  obtain ⟨s1, h1, h⟩ := bind_eq_ok h
  injection h with h
  injection h with ha hb
  subst ha
  exact ⟨h1, hb.symm⟩

/-- Split on the operation BEFORE calling it: a `cases op` with `apply_ok h` already in the context has to
generalise the whole `match`. `(generalizing := false)`: otherwise `h`, whose type mentions `op`, becomes a second
discriminant of the matcher. -/
theorem apply_ok {c : Cfg} {s s' : State} {auth : List Nat} {op : Op} (h : apply c s auth op = .ok s') :
    match (generalizing := false) op with
    | .transfer f t a => transfer s auth f t a = .ok s'
    | .transferFrom sp f t a => transferFrom c s auth sp f t a = .ok s'
    | .approve o sp a lu => approve c s auth o sp a lu = .ok s'
    | .mint t a o => (o ∈ auth ∧ o = s.admin) ∧ mint s t a = .ok s'
    | .burn x a o => (o ∈ auth ∧ o = s.admin) ∧ burn s x a = .ok s'
    | .forcedTransfer f t a o => (o ∈ auth ∧ o = s.admin) ∧ forcedTransfer s f t a = .ok s'
    | .recover old new o => (o ∈ auth ∧ o = s.admin) ∧ ∃ r, recoverBalance s old new = .ok (s', r)
    | .freezePartial x a o => (o ∈ auth ∧ o = s.admin) ∧ freezePartial s x a = .ok s'
    | .unfreezePartial x a o => (o ∈ auth ∧ o = s.admin) ∧ unfreezePartial s x a = .ok s'
    | .setAddressFrozen x b o => (o ∈ auth ∧ o = s.admin) ∧ s' = setAddressFrozen s x b
    | .pause o => (o ∈ auth ∧ o = s.admin) ∧ pause s = .ok s'
    | .unpause o => (o ∈ auth ∧ o = s.admin) ∧ unpause s = .ok s'
    | .advance n => s' = { s with base := { s.base with now := s.base.now + n } }
    | .envIdOk a ok => s' = { s with idOk := upd s.idOk a ok }
    | .envRecTarget a t => s' = { s with recTarget := upd s.recTarget a t }
    | .envModule m ct cc =>
      s' = { s with modCanTransfer := upd s.modCanTransfer m ct, modCanCreate := upd s.modCanCreate m cc }
    | .addModule hk m o => (o ∈ auth ∧ o = s.admin) ∧ addModule s hk m = .ok s'
    | .removeModule hk m o => (o ∈ auth ∧ o = s.admin) ∧ removeModule s hk m = .ok s'
    | .bindToken o => (o ∈ auth ∧ o = s.admin) ∧ bindToken s = .ok s'
    | .unbindToken o => (o ∈ auth ∧ o = s.admin) ∧ unbindToken s = .ok s' := by
  obtain ⟨r, h⟩ := apply_eq_ok h
  cases op with
  | transfer | transferFrom | approve => exact (plain_ok h).1
  | advance | envIdOk | envRecTarget | envModule => injection h with h; injection h with ha hb; exact ha.symm
  | setAddressFrozen =>
    obtain ⟨_, h0, h⟩ := bind_eq_ok h
    injection h with h; injection h with ha hb
    exact ⟨opAuth_ok h0, ha.symm⟩
  | recover => obtain ⟨_, h0, h⟩ := bind_eq_ok h; exact ⟨opAuth_ok h0, r, h⟩
  | _ => exact ⟨(guarded_ok h).1, (guarded_ok h).2.1⟩

/-! ### the operations that neither move nor freeze tokens -/

def Op.quiet : Op → Bool
  | .transfer .. | .transferFrom .. | .mint .. | .burn .. | .forcedTransfer .. | .recover ..
  | .freezePartial .. | .unfreezePartial .. => false
  | _ => true

namespace Mon

def afAfter (s : State) : Op → (Nat → Bool)
  | .recover old new _ =>
    if s.base.bal old = 0 then s.addrFrozen else upd s.addrFrozen new (s.addrFrozen new || s.addrFrozen old)
  | .setAddressFrozen x b _ => upd s.addrFrozen x b
  | _ => s.addrFrozen

def modsAfter (s : State) : Op → (Hook → List Nat)
  | .addModule h m _ => fun k => if k = h then s.mods h ++ [m] else s.mods k
  | .removeModule h m _ => fun k => if k = h then (s.mods h).erase m else s.mods k
  | _ => s.mods

def isEnvModule : Op → Bool
  | .envModule _ _ _ => true
  | _ => false

end Mon

structure Quiet (s s' : State) (op : Op) : Prop where
  events : EvExt s s'
  replay : replay s'.events = replay s.events := by rfl
  bal : s'.base.bal = s.base.bal := by rfl
  supply : s'.base.supply = s.base.supply := by rfl
  frozen : s'.frozen = s.frozen := by rfl
  notes : s'.notes = s.notes := by rfl
  modCalls : s'.modCalls = s.modCalls := by rfl
  admin : s'.admin = s.admin := by rfl
  addrFrozen : s'.addrFrozen = Mon.afAfter s op := by rfl
  mods : s'.mods = Mon.modsAfter s op := by rfl
  scripts : Mon.isEnvModule op = false → s'.modCanTransfer = s.modCanTransfer ∧ s'.modCanCreate = s.modCanCreate := by
    exact fun _ => ⟨rfl, rfl⟩

end OZ.Rwa
