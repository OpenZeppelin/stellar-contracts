import OZ.Lemmas.NftMon
/-
For the soundness of the C11 monitor (`OZ.NftMon.Auth`, OZ/Model/NftMon.lean): the relation `Agree` between the
monitor's ghost state and a model state, kept by every accepted call, under which the observation checks are silent.
-/
namespace OZ.NftMon.Auth
open OZ.Host OZ.Nft

/-- monitor state and model state describe the same point of a history; in the consecutive
flavour the point overrides lie below the id counter so that a new batch is not shadowed -/
structure Agree (m : Mon) (ms : MState) (spec : Nat → Option Nat) : Prop where
  good : Good ms spec
  owner : ∀ id, ghostOwner m id = spec id
  appr : ∀ id e, ms.core.approval id = some e →
    m.appr.find? (fun p => p.1 = id) = some (id, e.val.approved, e.val.liveUntilLedger)
  oper : ∀ o p e, ms.core.operator o p = some e →
    m.oper.find? (fun x => x.1 = o ∧ x.2.1 = p) = some (o, p, e.val)
  over : ms.isCons = true → ∀ p ∈ m.over, p.1 < ms.core.nextId

theorem liveAppr_of_getApproved {m : Mon} {ms : MState} {spec : Nat → Option Nat} (ha : Agree m ms spec)
    {id a : Nat} (h : getApproved ms.core id = some a) : liveAppr m ms.core.now id = some a := by
  obtain ⟨e, he, hv, hlu, _⟩ := getApproved_some h
  unfold liveAppr
  rw [ha.appr id e he]
  simp only
  rw [if_pos hlu, hv]

theorem liveOper_of_isApprovedForAll {m : Mon} {ms : MState} {spec : Nat → Option Nat} (ha : Agree m ms spec)
    {o p : Nat} (h : isApprovedForAll ms.core o p = true) : liveOper m ms.core.now o p = true := by
  obtain ⟨e, he, hlu, _⟩ := isApprovedForAll_true h
  unfold liveOper
  rw [ha.oper o p e he]
  simp only
  exact decide_eq_true hlu

/-- the ghost approvals are left alone, as the code leaves the entries alone -/
theorem agree_mint {m : Mon} {ms ms' : MState} {spec : Nat → Option Nat} {id to : Nat} (ha : Agree m ms spec)
    (hg : Good ms' (upd spec id (some to))) (hcore : MintStep ms.core ms'.core to 1)
    (hc : ms'.isCons = false) (next : Nat) :
    Agree { setOwnerMint m id to with next := next } ms' (upd spec id (some to)) := by
  refine ⟨hg, plainOwner_setOver_eq ha.owner id (some to), ?_, ?_, ?_⟩
  · intro x e he; rw [hcore.2.1] at he; exact ha.appr x e he
  · intro o p e he; rw [hcore.2.2.1] at he; exact ha.oper o p e he
  · intro h; rw [hc] at h; cases h

theorem agree_move {m : Mon} {ms ms' : MState} {spec : Nat → Option Nat} {f id : Nat} {o : Option Nat}
    (ha : Agree m ms spec) (hg : Good ms' (upd spec id o)) (hcore : MoveStep ms.core ms'.core f o id)
    (hlt : ms.isCons = true → id < ms.core.nextId) (hk : Same ms ms') :
    Agree (setOwner m id o) ms' (upd spec id o) := by
  refine ⟨hg, plainOwner_setOver_eq ha.owner id o, ?_, ?_, ?_⟩
  · intro x e he
    rw [hcore.2.1] at he
    have hne : x ≠ id := by
      intro e'; subst e'; rw [upd_same] at he; cases he
    rw [upd_other _ _ _ _ hne] at he
    show (m.appr.filter (fun p => decide (p.1 ≠ id))).find? (fun p => decide (p.1 = x)) = _
    rw [find_filter_ne m.appr (fun p => p.1) id x hne]
    exact ha.appr x e he
  · intro o' p e he; rw [hcore.2.2.1] at he; exact ha.oper o' p e he
  · intro h
    rw [hk.cons] at h
    exact setOver_lt o (ha.over h) (hlt h) (Nat.le_of_eq hk.nextId.symm)

theorem agree_batch {m : Mon} {ms ms' : MState} {spec : Nat → Option Nat} {to n last : Nat} (ha : Agree m ms spec)
    (hlast : last + 1 = ms.core.nextId + n)
    (hg : Good ms' (fun id => if ms.core.nextId ≤ id ∧ id < ms.core.nextId + n then some to else spec id))
    (hcore : MintStep ms.core ms'.core to n)
    (hc : ms.isCons = true) (hnx : ms'.core.nextId = ms.core.nextId + n) (next : Nat) :
    Agree { m with batches := (ms.core.nextId, last, to) :: m.batches, next := next } ms'
      (fun id => if ms.core.nextId ≤ id ∧ id < ms.core.nextId + n then some to else spec id) := by
  refine ⟨hg, plainOwner_block ha.owner (ha.over hc) hlast to, ?_, ?_, ?_⟩
  · intro x e he; rw [hcore.2.1] at he; exact ha.appr x e he
  · intro o p e he; rw [hcore.2.2.1] at he; exact ha.oper o p e he
  · intro _ p hp
    rw [hnx]; exact Nat.lt_of_lt_of_le (ha.over hc p hp) (Nat.le_add_right _ n)

theorem apprStep_eq (m : Mon) (l : Line) : apprStep m l = { m with appr := (apprStep m l).appr } := by
  unfold apprStep; split <;> rfl

theorem agree_approve {cfg : Cfg} {m : Mon} {ms ms' : MState} {spec : Nat → Option Nat} {l : Line}
    {ow ap a id lu : Nat} (ha : Agree m ms spec) (hg : Good ms' spec)
    (hc : approveForOwner cfg ms.core ow ap a id lu = .ok ms'.core) (hid : l.id = id) (hlu : l.lu = lu)
    (harg : l.arg 1 = a) (hcons : ms'.isCons = ms.isCons) : Agree (apprStep m l) ms' spec := by
  obtain ⟨_, _, hc'⟩ := approveForOwner_eq_ok_iff.mp hc
  rw [apprStep_eq]
  refine ⟨hg, ha.owner, ?_, ?_, ?_⟩
  · intro x e he
    rw [hc'] at he
    replace he : upd ms.core.approval id (liveEntry cfg (ms.core.approval id) ms.core.now lu ⟨a, lu⟩) x = some e := he
    show (apprStep m l).appr.find? (fun p => p.1 = x) = _
    unfold apprStep
    rw [hid, harg, hlu]
    by_cases hx : x = id
    · subst hx
      rw [upd_same] at he
      obtain ⟨h0, hv, _⟩ := liveEntry_eq_some he
      rw [if_neg h0]
      simp [hv]
    · -- another token: its entry is the old one, and the ghost list is searched past what was written for `id`
      rw [upd_other _ _ _ _ hx] at he
      have hfind := (find_filter_ne m.appr (fun p => p.1) id x hx).trans (ha.appr x e he)
      split
      · exact hfind
      · rw [List.find?_cons, show decide ((id, a, lu).1 = x) = false from decide_eq_false fun h => hx h.symm]
        exact hfind
  · intro o p e he; rw [hc'] at he; exact ha.oper o p e he
  · intro h; rw [hcons] at h; rw [hc']; exact ha.over h

theorem find_pair_filter_ne (l : List (Nat × Nat × Nat)) (o p o' p' : Nat) (hne : ¬ (o' = o ∧ p' = p)) :
    (l.filter (fun x => decide (¬ (x.1 = o ∧ x.2.1 = p)))).find? (fun x => decide (x.1 = o' ∧ x.2.1 = p'))
      = l.find? (fun x => decide (x.1 = o' ∧ x.2.1 = p')) :=
  OZ.Lists.find?_filter_of_imp l fun x hx => by
    obtain ⟨rfl, rfl⟩ := of_decide_eq_true hx
    exact decide_eq_true hne

theorem operStep_eq (m : Mon) (l : Line) : operStep m l = { m with oper := (operStep m l).oper } := by
  unfold operStep; split <;> rfl

theorem agree_grant {cfg : Cfg} {m : Mon} {ms ms' : MState} {spec : Nat → Option Nat} {l : Line}
    {auth : List Nat} {o p lu : Nat} (ha : Agree m ms spec) (hg : Good ms' spec)
    (hc : approveForAll cfg ms.core auth o p lu = .ok ms'.core) (h0 : l.arg 0 = o) (h1 : l.arg 1 = p)
    (hlu : l.lu = lu) (hcons : ms'.isCons = ms.isCons) : Agree (operStep m l) ms' spec := by
  obtain ⟨_, _, hc'⟩ := approveForAll_eq_ok_iff.mp hc
  rw [operStep_eq]
  refine ⟨hg, ha.owner, ?_, ?_, ?_⟩
  · intro x e he; rw [hc'] at he; exact ha.appr x e he
  · intro o' p' e he
    rw [hc'] at he
    replace he : upd2 ms.core.operator o p (liveEntry cfg (ms.core.operator o p) ms.core.now lu lu) o' p' = some e := he
    show (operStep m l).oper.find? (fun x => x.1 = o' ∧ x.2.1 = p') = _
    unfold operStep
    rw [h0, h1, hlu]
    by_cases hx : o' = o ∧ p' = p
    · obtain ⟨rfl, rfl⟩ := hx
      rw [upd2_same] at he
      obtain ⟨hz, hv, _⟩ := liveEntry_eq_some he
      rw [if_neg hz]
      simp [hv]
    · rw [upd2_other _ _ _ _ _ _ hx] at he
      have hfind := (find_pair_filter_ne m.oper o p o' p' hx).trans (ha.oper o' p' e he)
      split
      · exact hfind
      · rw [List.find?_cons, show decide ((o, p, lu).1 = o' ∧ (o, p, lu).2.1 = p') = false from
          decide_eq_false fun h => hx ⟨h.1.symm, h.2.symm⟩]
        exact hfind
  · intro h; rw [hcons] at h; rw [hc']; exact ha.over h

theorem agree_same {m : Mon} {ms ms' : MState} {spec : Nat → Option Nat} (ha : Agree m ms spec)
    (hg : Good ms' spec) (happr : ms'.core.approval = ms.core.approval)
    (hoper : ms'.core.operator = ms.core.operator) (hk : Same ms ms') : Agree m ms' spec := by
  refine ⟨hg, ha.owner, ?_, ?_, ?_⟩
  · intro x e he; rw [happr] at he; exact ha.appr x e he
  · intro o p e he; rw [hoper] at he; exact ha.oper o p e he
  · intro h p hp; rw [hk.cons] at h; rw [hk.nextId]; exact ha.over h p hp

theorem inAuth_of_mem {l : Line} {x : Nat} (h : x ∈ l.auth) : inAuth l x = true := by
  unfold inAuth; exact List.contains_iff_mem.mpr h

theorem trackDirect_ok {m : Mon} {ms : MState} {spec : Nat → Option Nat} (ha : Agree m ms spec) {l : Line}
    {f id : Nat} (hid : l.id = id) (hs : spec id = some f) (hin : f ∈ l.auth) (to : Option Nat) :
    trackDirect m l f to = (setOwner m id to, none) := by
  unfold trackDirect
  rw [hid, if_neg (by rw [ha.owner, hs]; simp), if_neg (by simp [inAuth_of_mem hin])]

theorem trackSpend_ok {m : Mon} {ms : MState} {spec : Nat → Option Nat} (ha : Agree m ms spec) {l : Line}
    {sp f id : Nat} (hid : l.id = id) (hs : spec id = some f)
    (hj : sp ∈ l.auth ∧ (sp = f ∨ getApproved ms.core id = some sp ∨ isApprovedForAll ms.core f sp = true))
    (to : Option Nat) : trackSpend m l ms.core.now sp f to = (setOwner m id to, none) := by
  unfold trackSpend
  rw [hid, if_neg (by rw [ha.owner, hs]; simp), if_neg (by simp [inAuth_of_mem hj.1]), if_neg]
  exact fun hn => hn (hj.2.imp_right (Or.imp (liveAppr_of_getApproved ha) (liveOper_of_isApprovedForAll ha)))

theorem track_accepted {cfg : Cfg} {m : Mon} {ms ms' : MState} {spec : Nat → Option Nat} {l : Line} {op : Op}
    {r : Option Nat} (ha : Agree m ms spec) (hl : l.op = some op)
    (h : ms.apply cfg l.auth op = .ok (ms', r)) (o : Obs) (hok : o.ok = true) (hret : o.ret = r)
    (hnow : o.now = ms'.core.now) :
    (track m l o).2 = none ∧ Agree (track m l o).1 ms' (mspecStep spec ms.core.nextId op r) := by
  have hf := mstate_step cfg ha.good h
  have hd := Line.op_inv hl
  have htr : track m l o = trackAccepted m l o := by
    unfold track; rw [if_neg (by simp [hok])]
  rw [htr]
  have hgood := hf.good
  have hcore := hf.core
  -- with the line taken apart and its fields replaced by what `op` says they are, `trackAccepted` computes to the
  -- tracking function of the kind, applied to the arguments of `op`
  obtain ⟨kind, a, id, n, lu, auth, q, qa⟩ := l
  cases op with
  | mintSeq to =>
    obtain ⟨rfl, rfl⟩ := hd
    obtain ⟨rfl, hnx, hc⟩ := hf.seq to rfl
    show (trackMint m _ o).2 = none ∧ Agree (trackMint m _ o).1 ms' _
    unfold trackMint; rw [hret]
    exact ⟨rfl, agree_mint ha hgood hcore (hf.cons.trans hc) _⟩
  | mint to id' =>
    obtain ⟨rfl, rfl, rfl⟩ := hd
    exact ⟨rfl, agree_mint ha hgood hcore (hf.cons.trans (hf.expl to id rfl)) m.next⟩
  | batchMint to n' =>
    dsimp only [Line.Denotes] at hd
    obtain ⟨rfl, rfl, rfl⟩ := hd
    obtain ⟨h1, rfl, hnx, hc⟩ := hf.batch to n rfl
    have hlast : ms.core.nextId + n - 1 + 1 = ms.core.nextId + n :=
      Nat.sub_add_cancel (Nat.le_trans h1 (Nat.le_add_left n _))
    show (trackBatch m _ o).2 = none ∧ Agree (trackBatch m _ o).1 ms' _
    unfold trackBatch; rw [hret]
    dsimp only
    rw [hlast, Nat.add_sub_cancel]
    exact ⟨rfl, agree_batch ha hlast hgood hcore hc hnx _⟩
  | transfer f t id' | burn f id' =>
    obtain ⟨rfl, rfl, rfl⟩ := hd
    obtain ⟨hs, hj, hlt⟩ := hf.moves f id rfl
    show (trackDirect m _ f _).2 = none ∧ Agree (trackDirect m _ f _).1 ms' _
    rw [trackDirect_ok ha rfl hs hj]
    exact ⟨rfl, agree_move ha hgood hcore hlt (hf.same rfl)⟩
  | transferFrom sp f t id' | burnFrom sp f id' =>
    obtain ⟨rfl, rfl, rfl⟩ := hd
    obtain ⟨hs, hj, hlt⟩ := hf.moves f id rfl
    have hm : MoveStep ms.core ms'.core f _ id := hcore
    show (trackSpend m _ o.now sp f _).2 = none ∧ Agree (trackSpend m _ o.now sp f _).1 ms' _
    rw [hnow, hm.2.2.2, trackSpend_ok ha rfl hs hj]
    exact ⟨rfl, agree_move ha hgood hm hlt (hf.same rfl)⟩
  | approve ap a' id' lu' =>
    obtain ⟨rfl, rfl, rfl, rfl⟩ := hd
    obtain ⟨hin, ow, hs, hjust⟩ := hf.approve ap a' id lu rfl
    obtain ⟨ow', hs', hc⟩ : ∃ o, spec id = some o ∧ approveForOwner cfg ms.core o ap a' id lu = .ok ms'.core := hcore
    show (trackApprove m _ o.now).2 = none ∧ Agree (trackApprove m _ o.now).1 ms' _
    unfold trackApprove
    rw [ha.owner, hs, hnow, show ms'.core.now = ms.core.now by rw [(approveForOwner_eq_ok_iff.mp hc).2.2]]
    simp only
    rw [if_neg (fun hn => hn (inAuth_of_mem hin)), if_neg (fun hn => hn (hjust.imp_right (liveOper_of_isApprovedForAll ha)))]
    exact ⟨rfl, agree_approve ha hgood hc rfl rfl rfl hf.cons⟩
  | approveForAll ow p lu' =>
    obtain ⟨rfl, rfl, rfl⟩ := hd
    show (trackApproveForAll m _).2 = none ∧ Agree (trackApproveForAll m _).1 ms' _
    unfold trackApproveForAll
    rw [if_neg (fun hn => hn (inAuth_of_mem (hf.grant ow p lu rfl)))]
    exact ⟨rfl, agree_grant ha hgood hcore rfl rfl rfl hf.cons⟩
  | advance k =>
    obtain ⟨rfl, rfl⟩ := hd
    have hc : ms'.core = ms.core.advance n := hcore
    exact ⟨rfl, agree_same ha hgood (by rw [hc]; rfl) (by rw [hc]; rfl) (hf.same rfl)⟩

theorem mem_apprList {c : Core} {qa : List Nat} {p : Nat × Nat} (h : p ∈ apprList c qa) :
    getApproved c p.1 = some p.2 := by
  unfold apprList at h
  obtain ⟨id, _, hid⟩ := List.mem_filterMap.mp h
  cases hg : getApproved c id with
  | none => rw [hg] at hid; cases hid
  | some a => rw [hg] at hid; injection hid with hid; subst hid; exact hg

theorem mem_oprList {c : Core} {p : Nat × Nat} (h : p ∈ oprList c) : isApprovedForAll c p.1 p.2 = true := by
  unfold oprList at h
  obtain ⟨o, _, h⟩ := List.mem_flatMap.mp h
  obtain ⟨q, _, hq⟩ := List.mem_filterMap.mp h
  split at hq
  · rename_i hc; injection hq with hq; subst hq; exact hc
  · cases hq

theorem vStaleAppr_none {m : Mon} {ms : MState} {spec : Nat → Option Nat} (ha : Agree m ms spec) {o : Obs}
    {qa : List Nat} (happr : o.appr = apprList ms.core qa) (hnow : o.now = ms.core.now) : vStaleAppr m o = none := by
  unfold vStaleAppr
  have : o.appr.find? (fun (x : Nat × Nat) => decide (liveAppr m o.now x.1 ≠ some x.2)) = none := by
    rw [List.find?_eq_none]
    intro p hp
    rw [happr] at hp
    have := liveAppr_of_getApproved ha (mem_apprList hp)
    rw [hnow]
    simp [this]
  have e : (fun (x : Nat × Nat) => match x with | (id, ap) => decide (liveAppr m o.now id ≠ some ap))
      = (fun (x : Nat × Nat) => decide (liveAppr m o.now x.1 ≠ some x.2)) := by
    funext x; rfl
  rw [e, this]

theorem vStaleOper_none {m : Mon} {ms : MState} {spec : Nat → Option Nat} (ha : Agree m ms spec) {o : Obs}
    (hopr : o.opr = oprList ms.core) (hnow : o.now = ms.core.now) : vStaleOper m o = none := by
  unfold vStaleOper
  have : o.opr.find? (fun (x : Nat × Nat) => decide (¬ liveOper m o.now x.1 x.2 = true)) = none := by
    rw [List.find?_eq_none]
    intro p hp
    rw [hopr] at hp
    have := liveOper_of_isApprovedForAll ha (mem_oprList hp)
    rw [hnow]
    simp [this]
  have e : (fun (x : Nat × Nat) => match x with | (ow, p) => decide (¬ liveOper m o.now ow p = true))
      = (fun (x : Nat × Nat) => decide (¬ liveOper m o.now x.1 x.2 = true)) := by
    funext x; rfl
  rw [e, this]

theorem answers_none {m : Mon} {ms : MState} {spec : Nat → Option Nat} (ha : Agree m ms spec) (l : Line) (o : Obs)
    (happr : o.appr = apprList ms.core l.qa) (hopr : o.opr = oprList ms.core) (hnow : o.now = ms.core.now)
    (hmoved : moved l o = true → l.id ∈ l.qa ∧ getApproved ms.core l.id = none) : answers m l o = none := by
  unfold answers
  rw [if_neg, if_neg, vStaleAppr_none ha happr hnow]
  · exact vStaleOper_none ha hopr hnow
  · rintro ⟨hm, hany⟩
    obtain ⟨p, hp, hpe⟩ := List.any_eq_true.mp hany
    rw [happr] at hp
    have h1 := mem_apprList hp
    have h2 : p.1 = l.id := by simpa using hpe
    rw [h2, (hmoved hm).2] at h1
    cases h1
  · rintro ⟨hm, hnc⟩
    exact hnc (List.contains_iff_mem.mpr (hmoved hm).1)

theorem moved_cleared {cfg : Cfg} {ms ms' : MState} {spec : Nat → Option Nat} {l : Line} {op : Op}
    {r : Option Nat} (hg : Good ms spec) (hl : l.op = some op) (h : ms.apply cfg l.auth op = .ok (ms', r))
    (o : Obs) (hm : moved l o = true) :
    (∃ f, op.moves = some (f, l.id)) ∧ ms'.core.approval l.id = none := by
  have hd := Line.op_inv hl
  have hmv : ∃ f, op.moves = some (f, l.id) := by
    unfold moved at hm
    cases op with
    | transfer f t id | transferFrom sp f t id | burn f id | burnFrom sp f id =>
      obtain ⟨_, _, hid⟩ := hd
      exact ⟨f, by rw [hid]; rfl⟩
    | _ => obtain ⟨hk, _⟩ := hd; simp [hk] at hm
  obtain ⟨f, hmv⟩ := hmv
  exact ⟨⟨f, hmv⟩, ((mstate_step cfg hg h).core.clears hmv).1⟩

end OZ.NftMon.Auth
