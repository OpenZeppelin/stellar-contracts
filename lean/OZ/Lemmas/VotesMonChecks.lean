import OZ.Lemmas.VotesMon
/-
Soundness of the C13 monitor (OZ/Props/C13Mon.lean), monitor side: the structured observation of a model
state (`obsOf` / `modelObs`), the relation between the monitor's ghost state and the model state (`Agree`),
and one lemma per check of the monitor: on the model's own observation the check reports nothing.
-/
namespace OZ.Votes.Mon
open OZ.Host OZ.Votes

theorem delegatedSum_map (l : List Nat) (dg : Nat → Option Nat) (b : Nat → Int) (a : Nat) :
    delegatedSum (l.map dg) (l.map b) a = (l.map (fun i => if dg i = some a then b i else 0)).sum := by
  unfold delegatedSum
  induction l with
  | nil => rfl
  | cons x xs ih =>
    simp only [List.map_cons, List.zip_cons_cons, List.filterMap_cons, List.sum_cons]
    by_cases h : dg x = some a
    · simp only [h, if_true, List.sum_cons]; rw [ih]
    · simp only [h, if_false]; rw [ih]; omega

theorem sumN_cast (l : List Nat) (f : Nat → Nat) :
    ((sumN l f : Nat) : Int) = (l.map (fun i => (f i : Int))).sum := by
  unfold sumN
  induction l with
  | nil => rfl
  | cons x xs ih => simp only [List.map_cons, List.sum_cons]; rw [← ih]; omega

/-! ### the model's observation as structured data

`obsOf w q ok` is what the driver's `parseObs` reads back from the line the driver's
`stepLine` / `showState` prints for the model state with view `w`, the query list `q=` of the op
line and the outcome tag: field by field the same getters over the same accounts `0 .. N-1`
(`now`, `bal`, `units` / `ncp` only for the contracts that expose them, `del`, `votes`, `ts`,
the `fut` flag, one `hist` row per queried ledger), a getter that fails being printed `E`
(dropped by the integer-list parser, `failed` set). The print / parse round trip of numerals is
the trusted part. -/

def resInt? (x : Except Err Nat) : Option Int :=
  match x with
  | .ok v => some (v : Int)
  | .error _ => none

def obsOf (w : View) (q : List Nat) (ok : Bool) : Obs :=
  { ok := ok
    now := w.v.now
    bal := (List.range N).map w.bal
    units := if w.kind = .ex then none else some ((List.range N).map (getVotingUnits w.v))
    del := (List.range N).map (getDelegate w.v)
    votes := (List.range N).filterMap (fun i => resInt? (getVotes w.v i))
    ncp := if w.kind = .ex then none else some ((List.range N).map (numCheckpoints w.v))
    ts := (resInt? (getTotalSupply w.v)).getD 0
    fut := if futOk w.v then "acc" else "rej"
    hist := q.map (fun l => (l, histRow w.v l))
    failed := !((List.range N).all (fun i => isOk (getVotes w.v i)) && isOk (getTotalSupply w.v)) }

def modelObs (m : M) (q : List Nat) (ok : Bool) : Obs := obsOf (viewOf m) q ok

def balL (w : View) : List Int := (List.range N).map w.bal
def votesL (v : State) : List Int := (List.range N).map (fun i => (votesOf v i : Int))
def delL (v : State) : List (Option Nat) := (List.range N).map v.delegatee
def tsI (v : State) : Int := (latestVotes v.total : Int)
def unitsL (w : View) : Option (List Nat) :=
  if w.kind = .ex then none else some ((List.range N).map w.v.units)
def ncpL (w : View) : Option (List Nat) :=
  if w.kind = .ex then none else some ((List.range N).map (fun a => (w.v.tl a).num))

structure IsObs (w : View) (q : List Nat) (o : Obs) : Prop where
  now : o.now = w.v.now
  bal : o.bal = balL w
  units : o.units = unitsL w
  del : o.del = delL w.v
  votes : o.votes = votesL w.v
  ncp : o.ncp = ncpL w
  ts : o.ts = tsI w.v
  fut : w.v.now ≤ U32_MAX → o.fut = "rej"
  hist : o.hist = q.map (fun l => (l, histRow w.v l))
  failed : o.failed = false

theorem futOk_false (v : State) (h : v.now ≤ U32_MAX) : futOk v = false := by
  have e1 : ∀ a l, l ≥ v.now → isOk (getVotesAtCheckpoint v a l) = false := by
    intro a l hl; unfold getVotesAtCheckpoint; rw [if_pos hl]; rfl
  have e2 : ∀ l, l ≥ v.now → isOk (getTotalSupplyAtCheckpoint v l) = false := by
    intro l hl; unfold getTotalSupplyAtCheckpoint; rw [if_pos hl]; rfl
  unfold futOk
  simp only [List.zipIdx_cons, List.zipIdx_nil, List.any_cons, List.any_nil]
  rw [e1 _ _ (Nat.le_refl _), e1 _ _ (Nat.le_succ _), e1 _ _ h,
    e2 _ (Nat.le_refl _), e2 _ (Nat.le_succ _), e2 _ h]
  rfl

theorem obsOf_isObs {w : View} (hw : WFAll w.v) (q : List Nat) (ok : Bool) : IsObs w q (obsOf w q ok) := by
  have ev : ∀ i, getVotes w.v i = .ok (votesOf w.v i) := fun i => latest_present (hw.1 i)
  have et : getTotalSupply w.v = .ok (latestVotes w.v.total) := latest_present hw.2
  refine ⟨rfl, rfl, rfl, rfl, ?_, rfl, ?_, ?_, rfl, ?_⟩
  · show (List.range N).filterMap (fun i => resInt? (getVotes w.v i)) = votesL w.v
    have : (fun i => resInt? (getVotes w.v i)) = some ∘ (fun i => (votesOf w.v i : Int)) := by
      funext i; rw [ev i]; rfl
    rw [this, List.filterMap_eq_map]; rfl
  · show (resInt? (getTotalSupply w.v)).getD 0 = tsI w.v
    rw [et]; rfl
  · intro h
    show (if futOk w.v then "acc" else "rej") = "rej"
    rw [futOk_false _ h]; rfl
  · show (!((List.range N).all (fun i => isOk (getVotes w.v i)) && isOk (getTotalSupply w.v))) = false
    have : (List.range N).all (fun i => isOk (getVotes w.v i)) = true := by
      rw [List.all_eq_true]; intro i _; rw [ev i]; rfl
    rw [this, et]; rfl

/-! ### history rows -/

theorem histRow_future (v : State) (l : Nat) (h : l ≥ v.now) : (histRow v l).any (· ≠ "E") = false := by
  have e1 : ∀ i, showRes (getVotesAtCheckpoint v i l) = "E" := by
    intro i; unfold getVotesAtCheckpoint; rw [if_pos h]; rfl
  have e2 : showRes (getTotalSupplyAtCheckpoint v l) = "E" := by
    unfold getTotalSupplyAtCheckpoint; rw [if_pos h]; rfl
  unfold histRow
  rw [List.any_eq_false]
  intro x hx
  rw [List.mem_append] at hx
  have : x = "E" := by
    rcases hx with hx | hx
    · obtain ⟨i, _, rfl⟩ := List.mem_map.mp hx; exact e1 i
    · rw [List.mem_singleton] at hx; rw [hx, e2]
  simp [this]

def pastRow (v : State) (q : Nat) : List String :=
  (List.range N).map (fun i => toString (valueAt (v.tl i) q)) ++ [toString (valueAt v.total q)]

theorem histRow_past {v : State} (hw : WFAll v) {q : Nat} (h : q < v.now) : histRow v q = pastRow v q := by
  unfold histRow pastRow
  simp only [getVotesAt_past hw _ h, getTotalAt_past hw h, showRes]

theorem pastRow_samePast {v v' : State} (h : SamePast v v') {q : Nat} (hq : q < v.now) :
    pastRow v' q = pastRow v q := by
  have e1 := fun x => h.2.1 x q hq
  have e2 := h.2.2 q hq
  unfold pastRow
  simp only [e1, e2]

theorem histRow_samePast {v v' : State} (hw : WFAll v) (hw' : WFAll v') (h : SamePast v v') {q : Nat}
    (hq : q < v.now) : histRow v' q = histRow v q := by
  rw [histRow_past hw hq, histRow_past hw' (Nat.lt_of_lt_of_le hq h.1), pastRow_samePast h hq]

theorem histRow_before_start {start : Nat} {w : View} (hi : VInv start w) {q : Nat} (hq : q < start) :
    histRow w.v q = List.replicate (N + 1) "0" := by
  rw [histRow_past hi.inv.wfAll (Nat.lt_of_lt_of_le hq hi.past.1), pastRow_samePast hi.past hq]
  unfold pastRow
  simp only [init, valueAt, Timeline.empty, scan]
  rw [List.map_const', List.length_range, List.replicate_succ']
  rfl

/-! ### the ghost table -/

/-- every recorded interval is over and carries the row the model answers for its ledgers -/
def TableOK (table : List (Nat × Nat × List String)) (v : State) : Prop :=
  ∀ e ∈ table, e.2.1 ≤ v.now ∧ ∀ q, e.1 ≤ q → q < e.2.1 → histRow v q = e.2.2

theorem expected_sound {start : Nat} {w : View} (hi : VInv start w)
    {table : List (Nat × Nat × List String)} (ht : TableOK table w.v) {q : Nat}
    {r : List String} (he : expected start table q = some r) : r = histRow w.v q := by
  unfold expected at he
  split at he
  · rename_i hlt
    injection he with he
    rw [← he, histRow_before_start hi hlt]
  · rw [Option.map_eq_some_iff] at he
    obtain ⟨e, hf, hr⟩ := he
    have hmem := List.mem_of_find?_eq_some hf
    have hp := List.find?_some hf
    obtain ⟨lo, hi', r'⟩ := e
    simp only [decide_eq_true_eq] at hp
    simp only at hr
    subst hr
    exact ((ht _ hmem).2 q hp.1 hp.2).symm

/-! ### one model call, as the checks need it -/

theorem delTarget_advance {p : Parsed} (h : p.op = "advance") : delTarget p = none := by
  unfold delTarget
  split <;> simp_all

/-- what any call, accepted or rejected, does to the view: `Trans`, with the delegates as the
monitor's ghost follows them (only an accepted `delegate` moves them) -/
structure Did (w w' : View) (p : Parsed) (ok : Bool) : Prop where
  kind : w'.kind = w.kind
  past : SamePast w.v w'.v
  tl : ∀ x, TlStep w.v.now (w.v.tl x) (w'.v.tl x)
  now : w'.v.now = w.v.now + (if p.op = "advance" then p.n else 0)
  idle : p.op = "advance" → w'.v.tl = w.v.tl ∧ w'.v.total = w.v.total ∧ w'.v.units = w.v.units ∧ w'.bal = w.bal ∧
    w'.v.delegatee = w.v.delegatee
  del : delL w'.v = delStep (delL w.v) p ok

theorem Step.did {start : Nat} {w w' : View} {p : Parsed} {ok : Bool} (st : Step start w w' p ok) :
    Did w w' p ok := by
  cases ok with
  | false =>
    have hna : ¬ p.op = "advance" := fun h => nomatch st.adv h
    rw [st.rej rfl]
    exact ⟨rfl, SamePast.refl _, fun _ => .inl rfl, by rw [if_neg hna]; rfl, fun h => absurd h hna,
      by unfold delStep; cases delTarget p <;> rfl⟩
  | true =>
    have t := st.acc rfl
    refine ⟨t.kind, t.past, t.tl, t.now, fun h => ?_, ?_⟩
    · obtain ⟨a, b, c, d⟩ := t.idle h
      exact ⟨a, b, c, d, by rw [t.del, delTarget_advance h]; rfl⟩
    · unfold delStep delL
      rw [t.del]
      cases delTarget p with
      | none => rfl
      | some x => simp only [delUpd, if_true]; rw [map_range_set]

theorem Did.nowOrTl {w w' : View} {p : Parsed} {ok : Bool} (d : Did w w' p ok) (x : Nat) :
    w'.v.now = w.v.now ∨ w'.v.tl x = w.v.tl x := by
  by_cases h : p.op = "advance"
  · right; rw [(d.idle h).1]
  · left; have := d.now; rw [if_neg h] at this; exact this

/-! ### monitor state ↔ model state -/

structure Agree (start : Nat) (m : Mon) (w : View) : Prop where
  start : m.start = start
  now : m.prev.now = w.v.now
  bal : m.prev.bal = balL w
  votes : m.prev.votes = votesL w.v
  del : m.prev.del = delL w.v
  ts : m.prev.ts = tsI w.v
  units : m.prev.units = none ∨ m.prev.units = unitsL w
  ncp : m.prev.ncp = ncpL w ∨ (m.prev.ncp = none ∧ ∀ a, a < N → (w.v.tl a).num = 0)
  gdel : m.del = delL w.v
  table : TableOK m.table w.v
  lastCp : w.kind ≠ .ex → m.lastCp = (List.range N).map (fun a => lastLedger (w.v.tl a))

theorem Agree.prevCount {start : Nat} {m : Mon} {w : View} (hA : Agree start m w) (hk : w.kind ≠ .ex)
    {a : Nat} (ha : a < N) : (m.prev.ncp.getD (List.replicate N 0)).getD a 0 = (w.v.tl a).num := by
  rcases hA.ncp with h | ⟨h, hz⟩
  · rw [h]; unfold ncpL; rw [if_neg hk]
    simp only [Option.getD]
    exact getD_map_range _ 0 ha
  · rw [h]; simp only [Option.getD]
    rw [OZ.Lists.getD_replicate_same, hz a ha]

/-! ### the checks, one by one -/

theorem chkIdle_quiet {start : Nat} {m : Mon} {w w' : View} {p : Parsed} {ok : Bool} {q : List Nat} {o : Obs}
    (hA : Agree start m w) (st : Step start w w' p ok) (ho : IsObs w' q o) : chkIdle m p o = none := by
  unfold chkIdle
  rw [if_neg]
  rintro ⟨hadv, hbad⟩
  obtain ⟨e1, e2, e3, e4, e5⟩ := st.did.idle hadv
  have hnow := st.did.now; rw [if_pos hadv] at hnow
  have hk := st.did.kind
  rcases hbad with h | h | h | h | h | h | h
  · exact h (by rw [ho.now, hA.now, hnow])
  · exact h (by rw [ho.votes, hA.votes]; unfold votesL votesOf; rw [e1])
  · exact h (by rw [ho.ts, hA.ts]; unfold tsI; rw [e2])
  · exact h (by rw [ho.bal, hA.bal]; unfold balL; rw [e4])
  · exact h (by rw [ho.del, hA.del]; unfold delL; rw [e5])
  · obtain ⟨h1, h2⟩ := h
    rcases hA.units with hu | hu
    · rw [hu] at h1; cases h1
    · exact h2 (by rw [ho.units, hu]; unfold unitsL; rw [hk, e3])
  · obtain ⟨h1, h2⟩ := h
    rcases hA.ncp with hu | ⟨hu, _⟩
    · exact h2 (by rw [ho.ncp, hu]; unfold ncpL; rw [hk, e1])
    · rw [hu] at h1; cases h1

theorem chkFuture_quiet {w : View} {q : List Nat} {o : Obs} (ho : IsObs w q o) : chkFuture o = none := by
  unfold chkFuture
  rw [if_neg]
  rintro ⟨h1, h2⟩
  exact h1 (ho.fut (by rw [← ho.now]; exact h2))

theorem delegatedSum_model {start : Nat} {w : View} (hi : VInv start w) (a : Nat) :
    delegatedSum (delL w.v) (balL w) a = (delegatedTo (List.range N) w.v a : Int) := by
  unfold delL balL
  rw [delegatedSum_map]
  unfold delegatedTo
  rw [sumN_cast]
  congr 1
  apply List.map_congr_left
  intro i _
  rw [← hi.bal i]
  split <;> rfl

theorem chkVotes_quiet {start : Nat} {w : View} {q : List Nat} {o : Obs} (hi : VInv start w)
    (ho : IsObs w q o) : chkVotes (delL w.v) o = none := by
  unfold chkVotes
  have : badVotes (delL w.v) o = none := by
    unfold badVotes
    rw [List.find?_eq_none]
    intro a ha
    have ha' : a < N := List.mem_range.mp ha
    rw [ho.votes, ho.bal, delegatedSum_model hi a]
    unfold votesL
    rw [getD_map_range _ 0 ha', hi.inv.votes a]
    simp
  rw [this]

theorem chkTotal_quiet {start : Nat} {w : View} {q : List Nat} {o : Obs} (hi : VInv start w)
    (ho : IsObs w q o) : chkTotal o = none := by
  unfold chkTotal
  rw [if_neg]
  intro h
  apply h
  rw [ho.ts, ho.bal]
  unfold tsI balL
  rw [hi.inv.total, sumN_cast]
  congr 1
  apply List.map_congr_left
  intro i _
  exact hi.bal i

theorem chkUnits_quiet {start : Nat} {w : View} {q : List Nat} {o : Obs} (hi : VInv start w)
    (ho : IsObs w q o) : chkUnits o = none := by
  unfold chkUnits
  rw [if_neg]
  rintro ⟨h1, h2⟩
  apply h2
  rw [ho.units, ho.bal]
  rw [ho.units] at h1
  unfold unitsL at h1 ⊢
  by_cases hk : w.kind = .ex
  · rw [if_pos hk] at h1; cases h1
  · rw [if_neg hk]
    simp only [Option.getD, List.map_map]
    unfold balL
    apply List.map_congr_left
    intro i _
    exact hi.bal i

theorem chkDelegate_quiet {w : View} {q : List Nat} {o : Obs} (ho : IsObs w q o) :
    chkDelegate (delL w.v) o = none := by
  unfold chkDelegate
  rw [if_neg]
  intro h; exact h ho.del

theorem chkHistory_quiet {start : Nat} {w : View} {q : List Nat} {o : Obs}
    {table : List (Nat × Nat × List String)} (hi : VInv start w) (ho : IsObs w q o)
    (ht : TableOK table w.v) : chkHistory start table o = none := by
  unfold chkHistory
  have : o.hist.find? (histBad start table o) = none := by
    rw [List.find?_eq_none]
    intro x hx
    rw [ho.hist] at hx
    obtain ⟨l, _, rfl⟩ := List.mem_map.mp hx
    unfold histBad
    simp only
    by_cases hl : l ≥ o.now
    · rw [if_pos hl, histRow_future _ _ (by rw [← ho.now]; exact hl)]; simp
    · rw [if_neg hl]
      cases he : expected start table l with
      | none => simp
      | some r =>
        have := expected_sound hi ht he
        simp [this]
  rw [this]

theorem chkRollback_quiet {start : Nat} {m : Mon} {w w' : View} {p : Parsed} {ok : Bool} {q : List Nat} {o : Obs}
    (hA : Agree start m w) (st : Step start w w' p ok) (ho : IsObs w' q o) (hok : o.ok = ok) :
    chkRollback m o = none := by
  unfold chkRollback
  rw [if_neg]
  rintro ⟨hno, hbad⟩
  have hf : ok = false := by
    cases ok with
    | false => rfl
    | true => exact absurd hok hno
  have hw := st.rej hf
  subst hw
  rcases hbad with h | h | h | h | h | h
  · exact h (by rw [ho.bal, hA.bal])
  · exact h (by rw [ho.votes, hA.votes])
  · exact h (by rw [ho.del, hA.del])
  · exact h (by rw [ho.ts, hA.ts])
  · obtain ⟨h1, h2⟩ := h
    rcases hA.ncp with hu | ⟨hu, _⟩
    · exact h2 (by rw [ho.ncp, hu])
    · rw [hu] at h1; cases h1
  · exact h (by rw [ho.now, hA.now])

theorem chkNegative_quiet {start : Nat} {w : View} {q : List Nat} {o : Obs} (hi : VInv start w)
    (ho : IsObs w q o) : chkNegative o = none := by
  unfold chkNegative
  rw [if_neg]
  intro h
  rw [List.any_eq_true] at h
  obtain ⟨x, hx, hneg⟩ := h
  rw [ho.bal] at hx
  obtain ⟨i, _, rfl⟩ := List.mem_map.mp hx
  rw [← hi.bal i] at hneg
  simp at hneg
  omega

theorem cpCheck_quiet {m : Mon} {o : Obs} {a now now' : Nat} {t t' : Timeline}
    (hs : TlStep now t t') (hn : now' = now ∨ t' = t) (hl : m.lastCp.getD a none = lastLedger t)
    (hon : o.now = now') (hv : o.votes.getD a 0 = (latestVotes t' : Int))
    (hpv : m.prev.votes.getD a 0 = (latestVotes t : Int)) : cpCheck m o a t'.num t.num = none := by
  unfold cpCheck
  rcases hs.facts hn with ⟨h1, h2, h3⟩ | ⟨h1, h2, h3⟩
  · rw [h1, if_neg (Nat.lt_irrefl _), if_neg (Nat.not_lt_of_le (Nat.le_succ _)),
      if_neg (fun h => Nat.succ_ne_self _ h.1.symm), if_neg]
    rintro ⟨_, hv', hl'⟩
    exact hl' (by rw [hl, hon, h3 (fun e => hv' (by rw [hv, hpv, e]))])
  · rw [h1, if_neg (Nat.not_lt_of_le (Nat.le_succ _)), if_neg (Nat.lt_irrefl _), if_neg,
      if_neg (fun h => Nat.succ_ne_self _ h.1)]
    rintro ⟨_, hl'⟩
    exact h2 (by rw [← hl, hl', hon])

theorem lastCp_one {now now' : Nat} {t t' : Timeline} (hs : TlStep now t t') (hn : now' = now ∨ t' = t) :
    (if t'.num > t.num then some now' else lastLedger t) = lastLedger t' := by
  rcases hs.facts hn with ⟨h1, h2, _⟩ | ⟨h1, _, h3⟩
  · rw [h1, if_neg (Nat.lt_irrefl _), h2]
  · rw [h1, if_pos (Nat.lt_succ_self _), h3]

theorem cpFail_quiet {start : Nat} {m : Mon} {w w' : View} {p : Parsed} {ok : Bool} {q : List Nat} {o : Obs}
    (hA : Agree start m w) (st : Step start w w' p ok) (ho : IsObs w' q o) : cpFail m o = none := by
  unfold cpFail
  have hk := st.did.kind
  rw [ho.ncp]
  by_cases hex : w.kind = .ex
  · unfold ncpL; rw [hk, if_pos hex]
  · rcases hA.ncp with hp | ⟨hp, _⟩
    · rw [hp]
      unfold ncpL
      rw [hk, if_neg hex, if_neg hex]
      simp only
      rw [List.findSome?_eq_none_iff]
      intro a ha
      have ha' : a < N := List.mem_range.mp ha
      rw [getD_map_range _ 0 ha', getD_map_range _ 0 ha']
      refine cpCheck_quiet (now := w.v.now) (now' := w'.v.now) (st.did.tl a) (st.did.nowOrTl a) ?_ ho.now ?_ ?_
      · rw [hA.lastCp hex]; exact getD_map_range _ none ha'
      · rw [ho.votes]; exact getD_map_range _ 0 ha'
      · rw [hA.votes]; exact getD_map_range _ 0 ha'
    · rw [hp]
      cases ncpL w' <;> rfl

theorem lastCpStep_agree {start : Nat} {m : Mon} {w w' : View} {p : Parsed} {ok : Bool} {q : List Nat} {o : Obs}
    (hA : Agree start m w) (st : Step start w w' p ok) (ho : IsObs w' q o) (hex : w'.kind ≠ .ex) :
    lastCpStep m o = (List.range N).map (fun a => lastLedger (w'.v.tl a)) := by
  have hk := st.did.kind
  have hex' : w.kind ≠ .ex := by rw [← hk]; exact hex
  unfold lastCpStep
  rw [ho.ncp]
  unfold ncpL
  rw [if_neg hex]
  simp only
  apply List.map_congr_left
  intro a ha
  have ha' : a < N := List.mem_range.mp ha
  rw [getD_map_range _ 0 ha', hA.prevCount hex' ha', hA.lastCp hex', getD_map_range _ none ha',
    ho.now]
  exact lastCp_one (st.did.tl a) (st.did.nowOrTl a)

theorem tableStep_ok {start : Nat} {m : Mon} {w w' : View} {p : Parsed} {ok : Bool} {o : Obs}
    (hi : VInv start w) (hA : Agree start m w) (st : Step start w w' p ok) :
    TableOK (tableStep m p o) w'.v := by
  have hsp := st.did.past
  have hold : TableOK m.table w'.v := by
    intro e he
    obtain ⟨h1, h2⟩ := hA.table e he
    refine ⟨Nat.le_trans h1 hsp.1, fun q' hq1 hq2 => ?_⟩
    rw [histRow_samePast hi.inv.wfAll st.inv'.inv.wfAll hsp (by omega)]
    exact h2 q' hq1 hq2
  unfold tableStep
  split
  · rename_i hc
    obtain ⟨hadv, _, _⟩ := hc
    obtain ⟨e1, e2, _, _, _⟩ := st.did.idle hadv
    have hnow := st.did.now; rw [if_pos hadv] at hnow
    intro e he
    rcases List.mem_cons.mp he with he | he
    · subst he
      simp only
      rw [hA.now]
      refine ⟨by omega, fun q' hq1 hq2 => ?_⟩
      rw [histRow_past st.inv'.inv.wfAll (by omega)]
      unfold pastRow rowOf
      rw [e1, e2, valueAt_recent hi.inv.wfT hq1, hA.votes, hA.ts]
      have : ∀ i, valueAt (w.v.tl i) q' = votesOf w.v i := fun i => valueAt_recent (hi.inv.wf i) hq1
      simp only [this]
      unfold votesL tsI
      rw [List.map_map]
      rfl
    · exact hold e he
  · exact hold

/-- the monitor's initial state (`minit`) describes the model's initial state (`init`) -/
theorem init_agree (k : Kind) (c : Cfg) (start : Nat) :
    Agree start (monInit start) (viewOf (M.init k c start)) := by
  rw [viewOf_init]
  exact ⟨rfl, rfl, rfl, rfl, rfl, rfl, .inl rfl, .inr ⟨rfl, fun _ _ => rfl⟩, rfl,
    (fun e he => by cases he), fun _ => rfl⟩

end OZ.Votes.Mon
