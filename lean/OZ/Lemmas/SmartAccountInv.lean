import OZ.Lemmas.SmartAccount
import OZ.Lemmas.RegList
import OZ.Lemmas.AttrIndex
/-
What each accepted rule-management operation returns (`*_ok`) and `Inv` through each kind of store update.
`RuleOk`: what the operations test of the two lists they write, hence what holds of every stored rule.
-/
namespace OZ.SmartAccount
open OZ.AttrIndex

variable {s s' : Store} {now id : Nat} {r : Rule}

theorem hasDup_false_iff {α : Type} [DecidableEq α] (l : List α) : hasDup l = false ↔ l.Nodup := by
  induction l with
  | nil => simp [hasDup]
  | cons a t ih =>
    simp only [hasDup, Bool.or_eq_false_iff, decide_eq_false_iff_not, List.nodup_cons, ih]

theorem eraseLast_eq {α : Type} [DecidableEq α] (x : α) (l : List α) : eraseLast x l = OZ.Reg.eraseLast l x := by
  unfold OZ.Reg.eraseLast
  induction l with
  | nil => rfl
  | cons y ys ih =>
    unfold eraseLast
    rw [List.reverse_cons, List.erase_append]
    by_cases h1 : x ∈ ys
    · rw [if_pos h1, if_pos (List.mem_reverse.2 h1), List.reverse_append, ih]; rfl
    · rw [if_neg h1, if_neg (fun h => h1 (List.mem_reverse.1 h)), List.reverse_append, List.reverse_reverse]
      by_cases h2 : y = x
      · rw [if_pos h2, h2, List.erase_cons_head]; rfl
      · rw [if_neg h2, List.erase_cons_tail (by simpa using h2)]; rfl

theorem eraseLast_sublist {α : Type} [DecidableEq α] (x : α) (l : List α) : (eraseLast x l).Sublist l :=
  eraseLast_eq x l ▸ OZ.Reg.eraseLast_sublist l x

theorem filter_ne_eq_eraseLast {α : Type} [DecidableEq α] (x : α) (l : List α) (hn : l.Nodup) :
    l.filter (· != x) = eraseLast x l := by
  rw [eraseLast_eq, OZ.Reg.eraseLast_eq_erase hn, hn.erase_eq_filter]

theorem mem_eraseLast {α : Type} [DecidableEq α] (x z : α) (l : List α) (hn : l.Nodup) :
    z ∈ eraseLast x l ↔ z ∈ l ∧ z ≠ x := by
  rw [eraseLast_eq]; exact OZ.Reg.mem_eraseLast hn x z

theorem mem_insertKey (x z : Nat) (l : List Nat) : z ∈ insertKey x l ↔ z = x ∨ z ∈ l := by
  induction l with
  | nil => simp [insertKey]
  | cons y ys ih =>
    unfold insertKey
    by_cases h1 : x < y
    · rw [if_pos h1]; simp
    · rw [if_neg h1]
      by_cases h2 : x = y
      · rw [if_pos h2]; subst h2; simp
      · rw [if_neg h2, List.mem_cons, ih, List.mem_cons]
        constructor
        · rintro (e | e | m)
          · exact Or.inr (Or.inl e)
          · exact Or.inl e
          · exact Or.inr (Or.inr m)
        · rintro (e | e | m)
          · exact Or.inr (Or.inl e)
          · exact Or.inl e
          · exact Or.inr (Or.inr m)

theorem insertKey_pairwise (x : Nat) (l : List Nat) (h : l.Pairwise (· < ·)) : (insertKey x l).Pairwise (· < ·) := by
  induction l with
  | nil => simp [insertKey]
  | cons y ys ih =>
    rw [List.pairwise_cons] at h
    unfold insertKey
    by_cases h1 : x < y
    · rw [if_pos h1, List.pairwise_cons]
      refine ⟨?_, List.pairwise_cons.mpr h⟩
      intro b hb
      cases List.mem_cons.mp hb with
      | inl e => rw [e]; exact h1
      | inr m => exact Nat.lt_trans h1 (h.1 b m)
    · rw [if_neg h1]
      by_cases h2 : x = y
      · rw [if_pos h2]; exact List.pairwise_cons.mpr h
      · rw [if_neg h2, List.pairwise_cons]
        refine ⟨?_, ih h.2⟩
        intro b hb
        cases (mem_insertKey x b ys).mp hb with
        | inl e => rw [e]; omega
        | inr m => exact h.1 b m

theorem mapKeys_pairwise (l : List Nat) : (mapKeys l).Pairwise (· < ·) := by
  induction l with
  | nil => simp [mapKeys]
  | cons x xs ih => exact insertKey_pairwise x _ ih

theorem nodup_of_lt {l : List Nat} (h : l.Pairwise (· < ·)) : l.Nodup :=
  h.imp (fun hab => Nat.ne_of_lt hab)

theorem mapKeys_nodup (l : List Nat) : (mapKeys l).Nodup := nodup_of_lt (mapKeys_pairwise l)

theorem filter_clear_one (l : List Nat) (p q : Nat → Bool) (id : Nat) (hn : l.Nodup) (hid : id ∈ l)
    (hp : p id = true) (hq : q id = false) (hpq : ∀ i, i ≠ id → q i = p i) :
    (l.filter q).length + 1 = (l.filter p).length := by
  induction l with
  | nil => cases hid
  | cons a t ih =>
    rw [List.nodup_cons] at hn
    by_cases ha : a = id
    · subst ha
      have : t.filter q = t.filter p := List.filter_congr (fun i hi => hpq i (fun e => hn.1 (e ▸ hi)))
      rw [List.filter_cons_of_neg (by simp [hq]), List.filter_cons_of_pos hp, this, List.length_cons]
    · have hid' : id ∈ t := by
        cases List.mem_cons.mp hid with
        | inl e => exact absurd e.symm ha
        | inr m => exact m
      have ih' := ih hn.2 hid'
      have hqa : q a = p a := hpq a ha
      by_cases hpa : p a = true
      · rw [List.filter_cons_of_pos hpa, List.filter_cons_of_pos (by rw [hqa]; exact hpa), List.length_cons,
          List.length_cons]; omega
      · rw [List.filter_cons_of_neg hpa, List.filter_cons_of_neg (by rw [hqa]; exact hpa)]; exact ih'

theorem computeFingerprint_ok {t : RuleType} {sg : List Signer} {ps : List Nat} {fp : Fp}
    (h : computeFingerprint t sg ps = .ok fp) : fp = ⟨t, sg, ps⟩ ∧ sg.Nodup ∧ ps.Nodup := by
  unfold computeFingerprint at h
  split at h
  · cases h
  · next h1 =>
    split at h
    · cases h
    · next h2 =>
      exact ⟨(Except.ok.inj h).symm, (hasDup_false_iff sg).mp (by simpa using h1), (hasDup_false_iff ps).mp (by simpa using h2)⟩

theorem validateAndSetFingerprint_ok {s1 : Store} {t : RuleType} {sg : List Signer} {ps : List Nat}
    (h : validateAndSetFingerprint s t sg ps = .ok s1) :
    s1 = { s with fps := ⟨t, sg, ps⟩ :: s.fps } ∧ s.fps.any (fpEq ⟨t, sg, ps⟩) = false ∧ sg.Nodup ∧ ps.Nodup := by
  unfold validateAndSetFingerprint at h
  split at h
  · cases h
  · next fp hc =>
    obtain ⟨rfl, n1, n2⟩ := computeFingerprint_ok hc
    split at h
    · cases h
    · next ha => exact ⟨(Except.ok.inj h).symm, by simpa using ha, n1, n2⟩

theorem removeFingerprint_ok {s1 : Store} {t : RuleType} {sg : List Signer} {ps : List Nat}
    (h : removeFingerprint s t sg ps = .ok s1) :
    s1 = { s with fps := s.fps.filter (fun x => !(fpEq ⟨t, sg, ps⟩ x)) } := by
  unfold removeFingerprint at h
  split at h
  · cases h
  · next fp hc =>
    obtain ⟨rfl, -, -⟩ := computeFingerprint_ok hc
    exact (Except.ok.inj h).symm

theorem validateSignersAndPolicies_ok_iff {sg : List Signer} {ps : List Nat} :
    validateSignersAndPolicies sg ps = .ok () ↔
      sg.length ≤ MAX_SIGNERS ∧ ps.length ≤ MAX_POLICIES ∧ ¬ (sg = [] ∧ ps = []) := by
  unfold validateSignersAndPolicies
  by_cases h1 : sg.length > MAX_SIGNERS
  · rw [if_pos h1]; exact ⟨fun h => (by cases h), fun h => absurd h.1 (Nat.not_le.mpr h1)⟩
  by_cases h2 : ps.length > MAX_POLICIES
  · rw [if_neg h1, if_pos h2]; exact ⟨fun h => (by cases h), fun h => absurd h.2.1 (Nat.not_le.mpr h2)⟩
  have h3 : (sg.isEmpty && ps.isEmpty) = true ↔ sg = [] ∧ ps = [] := by
    rw [Bool.and_eq_true, List.isEmpty_iff, List.isEmpty_iff]
  rw [if_neg h1, if_neg h2]
  by_cases h4 : sg = [] ∧ ps = []
  · rw [if_pos (h3.mpr h4)]; exact ⟨fun h => (by cases h), fun h => absurd h4 h.2.2⟩
  · rw [if_neg (fun h => h4 (h3.mp h))]; exact ⟨fun _ => ⟨Nat.not_lt.mp h1, Nat.not_lt.mp h2, h4⟩, fun _ => rfl⟩

structure RuleOk (sg : List Signer) (ps : List Nat) : Prop where
  sgNodup : sg.Nodup
  sgLen : sg.length ≤ MAX_SIGNERS
  psNodup : ps.Nodup
  psLen : ps.length ≤ MAX_POLICIES
  ne : ¬ (sg = [] ∧ ps = [])

def reprint (s : Store) (r : Rule) (sg : List Signer) (ps : List Nat) : Store :=
  { s with fps := ((⟨r.ctype, sg, ps⟩ : Fp) :: s.fps).filter (fun x => !(fpEq ⟨r.ctype, r.signers, r.policies⟩ x)) }

theorem refingerprint_ok {s2 : Store} {sg : List Signer} {ps : List Nat}
    (h : refingerprint s r sg ps = .ok s2) :
    s2 = reprint s r sg ps ∧ s.fps.any (fpEq ⟨r.ctype, sg, ps⟩) = false ∧ RuleOk sg ps := by
  unfold refingerprint at h
  split at h
  · cases h
  · next hv =>
    split at h
    · cases h
    · next s1 h1 =>
      obtain ⟨rfl, hn, n1, n2⟩ := validateAndSetFingerprint_ok h1
      obtain ⟨l1, l2, ne⟩ := validateSignersAndPolicies_ok_iff.mp hv
      exact ⟨removeFingerprint_ok h, hn, n1, l1, n2, l2, ne⟩

theorem getContextRule_fields (h : getContextRule s id = .ok r) :
    ∃ m, s.metas id = some m ∧ r.ctype = m.ctype ∧ r.name = m.name ∧ r.validUntil = m.validUntil ∧
      r.signers = (s.signers id).getD [] ∧ r.policies = (s.policies id).getD [] := by
  obtain ⟨m, hm, hr⟩ := (getContextRule_ok_iff s id r).mp h
  exact ⟨m, hm, by rw [hr], by rw [hr], by rw [hr], by rw [hr], by rw [hr]⟩

theorem Inv.rule_ok (hI : Inv s) (h : getContextRule s id = .ok r) : RuleOk r.signers r.policies := by
  obtain ⟨m, hm, _, _, _, hsg, hpl⟩ := getContextRule_fields h
  have hs : r.signers.Nodup ∧ r.signers.length ≤ MAX_SIGNERS := by
    rw [hsg]
    cases hq : s.signers id with
    | none => exact ⟨List.nodup_nil, Nat.zero_le _⟩
    | some l => exact hI.signers_ok id l hq
  have hp : r.policies.Nodup ∧ r.policies.length ≤ MAX_POLICIES := by
    rw [hpl]
    cases hq : s.policies id with
    | none => exact ⟨List.nodup_nil, Nat.zero_le _⟩
    | some l => exact hI.policies_ok id l hq
  refine ⟨hs.1, hs.2, hp.1, hp.2, ?_⟩
  rw [hsg, hpl]; exact hI.nonempty id m hm

theorem updateName_ok {name : Nat} (h : updateName s id name = .ok s') :
    ∃ r, getContextRule s id = .ok r ∧
      s' = { s with metas := updN s.metas id (some { name := name, ctype := r.ctype, validUntil := r.validUntil }) } := by
  unfold updateName at h
  split at h
  · cases h
  · next r hg => exact ⟨r, hg, (Except.ok.inj h).symm⟩

theorem updateValidUntil_ok {vu : Option Nat}
    (h : updateValidUntil s now id vu = .ok s') :
    ∃ r, getContextRule s id = .ok r ∧ expired now vu = false ∧
      s' = { s with metas := updN s.metas id (some { name := r.name, ctype := r.ctype, validUntil := vu }) } := by
  unfold updateValidUntil checkValidUntil at h
  split at h
  · cases h
  · next r hg =>
    by_cases he : expired now vu = true
    · rw [if_pos he] at h; cases h
    · rw [if_neg he] at h; exact ⟨r, hg, by simpa using he, (Except.ok.inj h).symm⟩

theorem addSigner_ok {x : Signer} (h : addSigner s id x = .ok s') :
    ∃ r s2, getContextRule s id = .ok r ∧ x ∉ r.signers ∧
      refingerprint s r (r.signers ++ [x]) r.policies = .ok s2 ∧ s' = setSigners s2 id (r.signers ++ [x]) := by
  unfold addSigner addSignerTo at h
  split at h
  · cases h
  · next r hg =>
    split at h
    · cases h
    · next hx =>
      split at h
      · cases h
      · next s2 hr => exact ⟨r, s2, hg, hx, hr, (Except.ok.inj h).symm⟩

theorem removeSigner_ok {x : Signer} (h : removeSigner s id x = .ok s') :
    ∃ r s2, getContextRule s id = .ok r ∧ x ∈ r.signers ∧
      refingerprint s r (eraseLast x r.signers) r.policies = .ok s2 ∧ s' = setSigners s2 id (eraseLast x r.signers) := by
  unfold removeSigner removeSignerFrom at h
  split at h
  · cases h
  · next r hg =>
    split at h
    · next hx =>
      split at h
      · cases h
      · next s2 hr => exact ⟨r, s2, hg, hx, hr, (Except.ok.inj h).symm⟩
    · cases h

theorem addPolicy_ok {p : Nat} {io : Bool} (h : addPolicy s id p io = .ok s') :
    ∃ r s2, getContextRule s id = .ok r ∧ p ∉ r.policies ∧ io = true ∧
      refingerprint s r r.signers (r.policies ++ [p]) = .ok s2 ∧ s' = setPolicies s2 id (r.policies ++ [p]) := by
  unfold addPolicy addPolicyTo at h
  split at h
  · cases h
  · next r hg =>
    split at h
    · cases h
    · next hx =>
      split at h
      · cases h
      · next hio =>
        split at h
        · cases h
        · next s2 hr => exact ⟨r, s2, hg, hx, by simpa using hio, hr, (Except.ok.inj h).symm⟩

theorem removePolicy_ok {p : Nat} (h : removePolicy s id p = .ok s') :
    ∃ r s2, getContextRule s id = .ok r ∧ p ∈ r.policies ∧
      refingerprint s r r.signers (eraseLast p r.policies) = .ok s2 ∧ s' = setPolicies s2 id (eraseLast p r.policies) := by
  unfold removePolicy removePolicyFrom at h
  split at h
  · cases h
  · next r hg =>
    split at h
    · next hx =>
      split at h
      · cases h
      · next s2 hr => exact ⟨r, s2, hg, hx, hr, (Except.ok.inj h).symm⟩
    · cases h

theorem removeContextRule_ok (h : removeContextRule s id = .ok s') :
    ∃ r, getContextRule s id = .ok r ∧ s.count ≠ 0 ∧
      s' = { dropRule { s with fps := s.fps.filter (fun x => !(fpEq ⟨r.ctype, r.signers, r.policies⟩ x)) } id r.ctype with
             count := s.count - 1 } := by
  unfold removeContextRule decCount at h
  split at h
  · cases h
  · next r hg =>
    split at h
    · cases h
    · next s1 h1 =>
      obtain rfl := removeFingerprint_ok h1
      split at h
      · cases h
      · next h0 => exact ⟨r, hg, h0, (Except.ok.inj h).symm⟩

theorem addContextRule_ok_iff {t : RuleType} {name : Nat} {vu : Option Nat}
    {sg : List Signer} {pm : List Nat} {io : Nat → Bool} :
    addContextRule s now t name vu sg pm io = .ok (s', r) ↔
      (s.count < MAX_CONTEXT_RULES ∧ hasDup sg = false ∧ expired now vu = false ∧
        validateSignersAndPolicies sg (mapKeys pm) = .ok () ∧ s.fps.any (fpEq ⟨t, sg, mapKeys pm⟩) = false ∧
        (mapKeys pm).all io = true ∧ s.nextId + 1 ≤ U32_MAX) ∧
      s' = { storeRule { s with fps := ⟨t, sg, mapKeys pm⟩ :: s.fps } s.nextId t name vu sg (mapKeys pm) with
             nextId := s.nextId + 1, count := s.count + 1 } ∧
      r = { id := s.nextId, ctype := t, name := name, signers := sg, policies := mapKeys pm, validUntil := vu } := by
  have hpk : hasDup (mapKeys pm) = false := (hasDup_false_iff _).mpr (mapKeys_nodup pm)
  unfold addContextRule checkValidUntil validateAndSetFingerprint computeFingerprint installAll bumpCounters
  by_cases h1 : s.count ≥ MAX_CONTEXT_RULES
  · rw [if_pos h1]; exact ⟨fun h => (by cases h), fun h => absurd h1 (Nat.not_le.mpr h.1.1)⟩
  by_cases h2 : hasDup sg = true
  · rw [if_neg h1, if_pos h2]; exact ⟨fun h => (by cases h), fun h => by rw [h.1.2.1] at h2; cases h2⟩
  by_cases h3 : expired now vu = true
  · rw [if_neg h1, if_neg h2, if_pos h3]; exact ⟨fun h => (by cases h), fun h => by rw [h.1.2.2.1] at h3; cases h3⟩
  rw [if_neg h1, if_neg h2, if_neg h3]
  cases h4 : validateSignersAndPolicies sg (mapKeys pm) with
  | error e => exact ⟨fun h => (by cases h), fun h => by cases h.1.2.2.2.1⟩
  | ok u =>
    simp only [if_neg h2, hpk, Bool.false_eq_true, if_false]
    by_cases h5 : s.fps.any (fpEq ⟨t, sg, mapKeys pm⟩) = true
    · rw [if_pos h5]; exact ⟨fun h => (by cases h), fun h => by rw [h.1.2.2.2.2.1] at h5; cases h5⟩
    by_cases h6 : (mapKeys pm).all io = true
    · rw [if_neg h5, if_pos h6]
      dsimp only
      by_cases h7 : s.nextId + 1 > U32_MAX
      · rw [if_pos h7]
        exact ⟨fun h => (by cases h), fun h => absurd h.1.2.2.2.2.2.2 (Nat.not_le.mpr h7)⟩
      · rw [if_neg h7]
        constructor
        · intro h
          injection h with h
          injection h with ha hb
          exact ⟨⟨Nat.not_le.mp h1, by simpa using h2, by simpa using h3, trivial, by simpa using h5, h6, Nat.not_lt.mp h7⟩,
            ha.symm, hb.symm⟩
        · rintro ⟨-, rfl, rfl⟩; rfl
    · rw [if_neg h5, if_neg h6]; exact ⟨fun h => (by cases h), fun h => absurd h.1.2.2.2.2.2.1 h6⟩

theorem addContextRule_ok {t : RuleType} {name : Nat} {vu : Option Nat}
    {sg : List Signer} {pm : List Nat} {io : Nat → Bool}
    (h : addContextRule s now t name vu sg pm io = .ok (s', r)) :
    s' = { storeRule { s with fps := ⟨t, sg, mapKeys pm⟩ :: s.fps } s.nextId t name vu sg (mapKeys pm) with
           nextId := s.nextId + 1, count := s.count + 1 } ∧
    r = { id := s.nextId, ctype := t, name := name, signers := sg, policies := mapKeys pm, validUntil := vu } ∧
    s.fps.any (fpEq ⟨t, sg, mapKeys pm⟩) = false ∧ s.count < MAX_CONTEXT_RULES ∧ RuleOk sg (mapKeys pm) := by
  obtain ⟨⟨hc, hd, -, hv, hf, -, -⟩, hs, hr⟩ := addContextRule_ok_iff.mp h
  obtain ⟨l1, l2, ne⟩ := validateSignersAndPolicies_ok_iff.mp hv
  exact ⟨hs, hr, hf, hc, (hasDup_false_iff sg).mp hd, l1, mapKeys_nodup pm, l2, ne⟩

theorem updN_same {β} (f : Nat → β) (a : Nat) (v : β) : updN f a v a = v := by simp [updN]
theorem updN_other {β} (f : Nat → β) (a x : Nat) (v : β) (h : x ≠ a) : updN f a v x = f x := by simp [updN, h]
theorem updT_same {β} (f : RuleType → β) (a : RuleType) (v : β) : updT f a v a = v := by simp [updT]
theorem updT_other {β} (f : RuleType → β) (a x : RuleType) (v : β) (h : x ≠ a) : updT f a v x = f x := by
  simp [updT, h]

theorem inv_fps (h : Inv s) (f : List Fp) : Inv { s with fps := f } :=
  ⟨h.sorted, h.ids_meta, h.lt_next, h.signers_ok, h.policies_ok, h.nonempty, h.count_eq, h.count_le⟩

theorem inv_reprint (h : Inv s) (r : Rule) (sg : List Signer) (ps : List Nat) : Inv (reprint s r sg ps) := inv_fps h _

/-- the clauses about one rule at a time carry over for every other id, so they are owed at `id` alone; those about the
id lists and the counters in full -/
theorem Inv.update (hI : Inv s) (id : Nat)
    (hm : ∀ j, j ≠ id → s'.metas j = s.metas j) (hs : ∀ j, j ≠ id → s'.signers j = s.signers j)
    (hp : ∀ j, j ≠ id → s'.policies j = s.policies j) (hnext : s.nextId ≤ s'.nextId)
    (hsorted : ∀ t, (s'.ids t).Pairwise (· < ·))
    (hids : ∀ t j, j ∈ s'.ids t ↔ ∃ m, s'.metas j = some m ∧ m.ctype = t)
    (hlt : ∀ m, s'.metas id = some m → id < s'.nextId)
    (hsg : ∀ l, s'.signers id = some l → l.Nodup ∧ l.length ≤ MAX_SIGNERS)
    (hpl : ∀ l, s'.policies id = some l → l.Nodup ∧ l.length ≤ MAX_POLICIES)
    (hne : ∀ m, s'.metas id = some m → ¬ ((s'.signers id).getD [] = [] ∧ (s'.policies id).getD [] = []))
    (hcount : s'.count = ((List.range s'.nextId).filter (fun i => (s'.metas i).isSome)).length)
    (hle : s'.count ≤ MAX_CONTEXT_RULES) : Inv s' := by
  refine ⟨hsorted, hids, ?_, ?_, ?_, ?_, hcount, hle⟩
  · intro j m h
    by_cases e : j = id
    · subst e; exact hlt m h
    · rw [hm j e] at h; exact Nat.lt_of_lt_of_le (hI.lt_next j m h) hnext
  · intro j l h
    by_cases e : j = id
    · subst e; exact hsg l h
    · rw [hs j e] at h; exact hI.signers_ok j l h
  · intro j l h
    by_cases e : j = id
    · subst e; exact hpl l h
    · rw [hp j e] at h; exact hI.policies_ok j l h
  · intro j m h
    by_cases e : j = id
    · subst e; exact hne m h
    · rw [hm j e] at h; rw [hs j e, hp j e]; exact hI.nonempty j m h

theorem inv_setSigners (hI : Inv s) (hg : getContextRule s id = .ok r) {L : List Signer} (ok : RuleOk L r.policies) :
    Inv (setSigners s id L) := by
  obtain ⟨m, -, -, -, -, -, hp⟩ := getContextRule_fields hg
  refine hI.update id (fun _ _ => rfl) (fun j hj => updN_other _ _ _ _ hj) (fun _ _ => rfl) (Nat.le_refl _)
    hI.sorted hI.ids_meta (hI.lt_next id) ?_ (hI.policies_ok id) (fun _ _ => ?_) hI.count_eq hI.count_le
  · intro l' h
    simp only [setSigners, updN_same] at h
    injection h with h; subst h; exact ⟨ok.sgNodup, ok.sgLen⟩
  · simp only [setSigners, updN_same, Option.getD_some]; exact hp ▸ ok.ne

theorem inv_setPolicies (hI : Inv s) (hg : getContextRule s id = .ok r) {L : List Nat} (ok : RuleOk r.signers L) :
    Inv (setPolicies s id L) := by
  obtain ⟨m, -, -, -, -, hsg, -⟩ := getContextRule_fields hg
  refine hI.update id (fun _ _ => rfl) (fun _ _ => rfl) (fun j hj => updN_other _ _ _ _ hj) (Nat.le_refl _)
    hI.sorted hI.ids_meta (hI.lt_next id) (hI.signers_ok id) ?_ (fun _ _ => ?_) hI.count_eq hI.count_le
  · intro l' h
    simp only [setPolicies, updN_same] at h
    injection h with h; subst h; exact ⟨ok.psNodup, ok.psLen⟩
  · simp only [setPolicies, updN_same, Option.getD_some]; exact hsg ▸ ok.ne

theorem Inv.idx (h : Inv s) : Ok s.metas (·.ctype) s.ids := ⟨fun t => nodup_of_lt (h.sorted t), h.ids_meta⟩

theorem inv_setMeta (hI : Inv s) (hg : getContextRule s id = .ok r) (m' : Meta) (hc : m'.ctype = r.ctype) :
    Inv { s with metas := updN s.metas id (some m') } := by
  obtain ⟨m, hm, hct, -⟩ := getContextRule_fields hg
  rw [hct] at hc
  have hsome : ∀ i, (updN s.metas id (some m') i).isSome = (s.metas i).isSome := by
    intro i
    by_cases e : i = id
    · subst e; rw [updN_same, hm]; rfl
    · rw [updN_other _ _ _ _ e]
  refine hI.update id (fun j hj => updN_other _ _ _ _ hj) (fun _ _ => rfl) (fun _ _ => rfl) (Nat.le_refl _)
    hI.sorted (hI.idx.replace hm hc fun _ => rfl).mem (fun _ _ => hI.lt_next id m hm) (hI.signers_ok id) (hI.policies_ok id)
    (fun _ _ => hI.nonempty id m hm) ?_ hI.count_le
  show s.count = _
  rw [hI.count_eq]
  congr 1
  exact List.filter_congr (fun i _ => (hsome i).symm)

theorem inv_storeRule (hI : Inv s) (t : RuleType) (name : Nat) (vu : Option Nat)
    {sg : List Signer} {pv : List Nat} (ok : RuleOk sg pv) (hc : s.count < MAX_CONTEXT_RULES) :
    Inv { storeRule s s.nextId t name vu sg pv with nextId := s.nextId + 1, count := s.count + 1 } := by
  have hfresh : s.metas s.nextId = none := by
    cases hm : s.metas s.nextId with
    | none => rfl
    | some m => exact absurd (hI.lt_next _ m hm) (Nat.lt_irrefl _)
  refine hI.update s.nextId (fun j hj => updN_other _ _ _ _ hj) (fun j hj => updN_other _ _ _ _ hj)
    (fun j hj => updN_other _ _ _ _ hj) (Nat.le_succ _) ?_
    (hI.idx.insert (c := ⟨name, t, vu⟩) hfresh (fun _ => rfl) fun _ => rfl).mem
    (fun _ _ => Nat.lt_succ_self _) ?_ ?_ (fun _ _ => ?_) ?_ hc
  · intro t'
    by_cases e : t' = t
    · subst e
      simp only [storeRule, updT_same]
      rw [List.pairwise_append]
      refine ⟨hI.sorted _, by simp, ?_⟩
      intro a ha b hb
      rw [List.mem_singleton] at hb; subst hb
      obtain ⟨m, hm, _⟩ := (hI.ids_meta _ a).mp ha
      exact hI.lt_next a m hm
    · simp only [storeRule, updT_other _ _ _ _ e]; exact hI.sorted t'
  · intro l h
    simp only [storeRule, updN_same] at h
    injection h with h; subst h; exact ⟨ok.sgNodup, ok.sgLen⟩
  · intro l h
    simp only [storeRule, updN_same] at h
    injection h with h; subst h; exact ⟨ok.psNodup, ok.psLen⟩
  · simp only [storeRule, updN_same, Option.getD_some]; exact ok.ne
  · show s.count + 1 = _
    simp only [storeRule]
    rw [List.range_succ, List.filter_append, List.length_append, hI.count_eq]
    have h1 : (List.range s.nextId).filter (fun i => (updN s.metas s.nextId (some { name := name, ctype := t, validUntil := vu }) i).isSome)
        = (List.range s.nextId).filter (fun i => (s.metas i).isSome) := by
      apply List.filter_congr
      intro i hi
      have : i ≠ s.nextId := Nat.ne_of_lt (List.mem_range.mp hi)
      rw [updN_other _ _ _ _ this]
    rw [h1]
    simp [updN_same]

theorem inv_dropRule (hI : Inv s) (hg : getContextRule s id = .ok r) :
    Inv { dropRule s id r.ctype with count := s.count - 1 } := by
  obtain ⟨m, hm, hct, -⟩ := getContextRule_fields hg
  rw [hct]
  have hsub := (hI.sorted m.ctype).sublist (eraseLast_sublist id _)
  have hgone : ∀ {β : Type} (f : Nat → Option β) (v : β), updN f id none id = some v → False := by
    intro β f v h; rw [updN_same] at h; cases h
  refine hI.update id (fun j hj => updN_other _ _ _ _ hj) (fun j hj => updN_other _ _ _ _ hj)
    (fun j hj => updN_other _ _ _ _ hj) (Nat.le_refl _) ?_
    (hI.idx.delete hm (fun _ => rfl) (fun _ => rfl) (nodup_of_lt hsub) fun y => mem_eraseLast _ _ _ (hI.idx.nodup _)).mem
    (fun _ h => (hgone _ _ h).elim)
    (fun _ h => (hgone _ _ h).elim) (fun _ h => (hgone _ _ h).elim) (fun _ h => (hgone _ _ h).elim) ?_ ?_
  · intro t'
    by_cases e : t' = m.ctype
    · subst e
      simp only [dropRule, updT_same]
      exact hsub
    · simp only [dropRule, updT_other _ _ _ _ e]; exact hI.sorted t'
  · show s.count - 1 = _
    simp only [dropRule]
    have := filter_clear_one (List.range s.nextId) (fun i => (s.metas i).isSome)
      (fun i => (updN s.metas id none i).isSome) id List.nodup_range (List.mem_range.mpr (hI.lt_next id m hm))
      (by simp [hm]) (by simp [updN_same]) (fun i hi => by simp [updN_other _ _ _ _ hi])
    rw [hI.count_eq]; omega
  · show s.count - 1 ≤ MAX_CONTEXT_RULES
    have := hI.count_le; omega

theorem inv_empty : Inv Store.empty := by
  refine ⟨?_, ?_, ?_, ?_, ?_, ?_, ?_, ?_⟩
  · intro t; exact List.Pairwise.nil
  · intro t id; simp [Store.empty]
  · intro id m h; simp [Store.empty] at h
  · intro id l h; simp [Store.empty] at h
  · intro id l h; simp [Store.empty] at h
  · intro id m h; simp [Store.empty] at h
  · simp [Store.empty]
  · simp [Store.empty, MAX_CONTEXT_RULES]

end OZ.SmartAccount
