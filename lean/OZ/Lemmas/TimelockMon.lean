import OZ.Lemmas.Timelock
import OZ.Model.TimelockMon
/-
For the soundness proof of the C08 monitor (OZ/Props/C08Mon.lean): the MODEL side of the driver OZ/Drv/C08.lean on
parsed lines (`MS`, `modelObs`, `modelStep`), the structured content of exactly what `stepLine` / `showState` print;
`Agree`; and the three kinds of line, each ending in `fin_sound`. The four ledger-writing calls go through
`write_sound`, over the relation `Write` of OZ/Lemmas/Timelock.lean.
-/
namespace OZ.Timelock.Mon
open OZ.Host OZ.Timelock

/-! ### the model driver on parsed lines (mirror of `OZ.Drv.C08.stepLine`) -/

/-- the model driver's state (`OZ.Drv.C08.M`) -/
structure MS where
  s : State
  defs : List Operation

def initMS (start : Nat) : MS := ⟨init start, []⟩

def b2s (b : Bool) : String := if b then "1" else "0"

def codeOf : OpState → String
  | .unset => "U" | .waiting => "W" | .ready => "R" | .done => "D"

/-- `showId`: state letter, `get_operation_ledger`, the four predicates -/
def idObs (s : State) (id : Id) : IdObs :=
  { code := codeOf (getOperationState s id), ledger := getOperationLedger s id,
    flags := b2s (operationExists s id) ++ b2s (isOperationPending s id) ++
             b2s (isOperationReady s id) ++ b2s (isOperationDone s id) }

def callObsOf (cs : List Call) : CallObs :=
  match cs with
  | [] => ⟨0, none, none⟩
  | (_, f, a) :: _ => ⟨cs.length, some f, some (a.headD 0)⟩

/-- `showCalls`: the calls of target `t`: how many, function and first argument of the last -/
def callObs (s : State) (t : Nat) : CallObs := callObsOf (s.calls.filter (fun c => c.1 = t))

def modelCalls (s : State) : List CallObs := [callObs s 0, callObs s 1]

def modelSt (x : MS) : List IdObs := (idUniverse x.defs).map (idObs x.s)

/-- `showState` (with the `ok`/`err` tag and the `eq=` field of a definition line) -/
def modelObs (x : MS) (ok : Bool) (eq : Option (List Nat)) : Obs :=
  { ok := ok, eq := eq, now := x.s.now, min := x.s.minDelay, st := modelSt x, calls := modelCalls x.s }

/-- `parseOp`: the model call a call line denotes (`none`: the driver prints `bad-op`) -/
def resolveCall (defs : List Operation) : CallLine → Option Op
  | .min d => d.map Op.setMinDelay
  | .sched k d => (defs[k]?).map (fun op => Op.schedule op d)
  | .setexec k => (defs[k]?).map Op.setExecute
  | .exec k ok => (defs[k]?).map (fun op => Op.execute op (ok = 1))
  | .cancel r => (refKey defs r).map Op.cancel
  | .advance n => some (.advance n)
  | .other _ _ => none

def outside (s : State) : Op → Bool
  | .advance n => decide (s.now + n > HORIZON)
  | _ => false

def modelCall (x : MS) (op : Op) : MS × Obs :=
  if outside x.s op then (x, modelObs x false none)
  else
    match apply x.s op with
    | .ok s' => (⟨s', x.defs⟩, modelObs ⟨s', x.defs⟩ true none)
    | .error _ => (x, modelObs x false none)

def modelDef (x : MS) (op : Operation) : MS × Obs :=
  (⟨x.s, x.defs ++ [op]⟩, modelObs ⟨x.s, x.defs ++ [op]⟩ true (some (sameTuples x.defs op)))

/-- one line through the model driver: new state and the observation it prints
(`none`: it prints `bad-op`, there is no observation) -/
def modelStep (x : MS) : Line → Option (MS × Obs)
  | .badDef => none
  | .defn t f args p s => (refKey x.defs p).map (fun pid => modelDef x ⟨t, f, args, pid, s⟩)
  | .call c => (resolveCall x.defs c).map (modelCall x)

/-! ### agreement, and the monitor's table -/

def toG : Ghost → G
  | .unset => .unset
  | .pending l d _ => .pending l d
  | .done => .done

/-- monitor state and model-driver state describe the same point of a history -/
structure Agree (m : Mon) (x : MS) : Prop where
  defs : m.defs = x.defs
  ghost : ∀ id, m.get (some id) = toG (ghost x.s.log id)
  now : prevNow m = x.s.now
  min : prevMin m = x.s.minDelay
  calls : prevCalls m = modelCalls x.s
  st : ∀ p, m.prev = some p → p.st = modelSt x

theorem get_set (m : Mon) (k k' : Key) (g : G) :
    (m.set k g).get k' = if k = k' then g else m.get k' := by
  unfold Mon.get Mon.set
  by_cases h : k = k'
  · simp [h]
  · simp [h]

theorem get_set_log {m : Mon} {log : List Ev} (hm : ∀ id, m.get (some id) = toG (Timelock.ghost log id))
    (e : Ev) {g : G} (hg : toG (Timelock.ghost [e] e.id) = g) (id : Id) :
    (m.set (some e.id) g).get (some id) = toG (Timelock.ghost (e :: log) id) := by
  rw [get_set, ghost_cons]
  by_cases h : e.id = id
  · subst h; rw [if_pos rfl, if_pos rfl, hg]
  · rw [if_neg (fun h' => h (Option.some.inj h')), if_neg h]; exact hm id

theorem get_prev (m : Mon) (p : Option Obs) (k : Key) : ({ m with prev := p } : Mon).get k = m.get k := rfl

theorem get_defs (m : Mon) (d : List Operation) (k : Key) : ({ m with defs := d } : Mon).get k = m.get k := rfl

/-! ### the reported triple of an id -/

def mkObs (st : OpState) (v : Nat) : IdObs :=
  { code := codeOf st, ledger := v,
    flags := b2s (st != .unset) ++ b2s (st == .waiting || st == .ready) ++ b2s (st == .ready) ++ b2s (st == .done) }

theorem idObs_eq (s : State) (id : Id) : idObs s id = mkObs (stateOf (s.ledger id) s.now) (s.ledger id) := rfl

theorem satU32_eq (a b : Nat) : satU32 a b = satAdd a b := rfl

theorem expected_pending (l d now : Nat) :
    expected (.pending l d) now =
      if l + d ≤ now ∨ (l + d > 4294967295 ∧ now = 4294967295) then ⟨"R", satU32 l d, "1110"⟩
      else ⟨"W", satU32 l d, "1100"⟩ := rfl

theorem expected_toG {s : State} (hi : Inv s) (id : Id) :
    expected (toG (Timelock.ghost s.log id)) s.now = idObs s id := by
  have hl := (hi.coh id).ledger_eq
  rw [idObs_eq, (hi.coh id).stateOf_eq hi.nowHi, hl]
  cases Timelock.ghost s.log id with
  | unset => rfl
  | done => rfl
  | pending l d mn =>
    show expected (.pending l d) s.now = mkObs (if elapsed l d s.now then .ready else .waiting) (satAdd l d)
    rw [expected_pending]
    by_cases he : elapsed l d s.now
    · rw [if_pos he]; exact (if_pos he).trans rfl
    · rw [if_neg he]; exact (if_neg he).trans rfl

/-! ### the state check -/

theorem zip_filter_nil (m : Mon) (now : Nat) (f : Id → IdObs) (l : List Id)
    (h : ∀ id, expected (m.get (some id)) now = f id) :
    ((l.map some).zip (l.map f)).filter (isBad m now) = [] := by
  induction l with
  | nil => rfl
  | cons a t ih =>
    simp only [List.map_cons, List.zip_cons_cons]
    rw [List.filter_cons, if_neg (by simp [isBad, h]), ih]

theorem checkStates_quiet (m : Mon) (o : Obs) (f : Id → IdObs)
    (h : ∀ id, expected (m.get (some id)) o.now = f id) (hst : o.st = (idUniverse m.defs).map f) :
    checkStates m o = none := by
  unfold checkStates universeKeys
  rw [hst, if_neg (by simp), zip_filter_nil m o.now f _ h]

/-! ### an idle gap -/

theorem idObs_advance (s : State) (n : Nat) (id : Id) :
    idObs { s with now := s.now + n } id = idObs s id ∨
      ((idObs s id).code = "W" ∧ (idObs { s with now := s.now + n } id).code = "R" ∧
        (idObs s id).ledger = (idObs { s with now := s.now + n } id).ledger ∧
        (idObs { s with now := s.now + n } id).ledger ≤ s.now + n) := by
  rw [idObs_eq, idObs_eq]
  show mkObs (stateOf (s.ledger id) (s.now + n)) (s.ledger id) = _ ∨ _
  rcases stateOf_advance (s.ledger id) (Nat.le_add_right s.now n) with e | ⟨hw, hr, hle⟩
  · left; rw [e]
  · right
    show (mkObs (stateOf (s.ledger id) s.now) _).code = "W" ∧
      (mkObs (stateOf (s.ledger id) (s.now + n)) _).code = "R" ∧ _
    rw [hw, hr]
    exact ⟨rfl, rfl, rfl, hle⟩

theorem lost_nil_of_prev_none (m : Mon) (n : Nat) (o : Obs) (h : m.prev = none) : lost m n o = [] := by
  unfold lost prevSt
  rw [h]; rfl

theorem lost_nil (m : Mon) (n : Nat) (o : Obs) (l : List Id) (f g : Id → IdObs)
    (hp : prevSt m = l.map f) (ho : o.st = l.map g)
    (h : ∀ id, g id = f id ∨ ((f id).code = "W" ∧ (g id).code = "R" ∧ (f id).ledger = (g id).ledger ∧
      (g id).ledger ≤ o.now)) : lost m n o = [] := by
  unfold lost
  rw [List.filterMap_eq_nil_iff]
  intro i _
  unfold lostAt
  rw [hp, ho]
  simp only [List.getElem?_map]
  cases l[i]? with
  | none => rfl
  | some id =>
    simp only [Option.map_some]
    rcases h id with e | ⟨e1, e2, e3, e4⟩
    · rw [if_pos e.symm]
    · by_cases hab : f id = g id
      · rw [if_pos hab]
      · rw [if_neg hab, if_pos ⟨e1, e2, e3, e4⟩]

/-! ### the targets' call counters -/

theorem callObs_push_same (s : State) (c : Call) (t : Nat) (h : c.1 = t) :
    callObs { s with calls := c :: s.calls } t = ⟨(callObs s t).cnt + 1, some c.2.1, some (c.2.2.headD 0)⟩ := by
  unfold callObs
  show callObsOf ((c :: s.calls).filter (fun c => c.1 = t)) = _
  rw [List.filter_cons, if_pos (by simpa using h)]
  obtain ⟨t', f, a⟩ := c
  cases hcs : s.calls.filter (fun c => decide (c.1 = t)) with
  | nil => rfl
  | cons x xs => obtain ⟨_, _, _⟩ := x; rfl

theorem callObs_push_other (s : State) (c : Call) (t : Nat) (h : c.1 ≠ t) :
    callObs { s with calls := c :: s.calls } t = callObs s t := by
  unfold callObs
  show callObsOf ((c :: s.calls).filter (fun c => c.1 = t)) = _
  rw [List.filter_cons, if_neg (by simpa using h)]

theorem expectedCalls_model (s : State) (t fn : Nat) (args : List Nat) :
    (modelCalls { s with calls := (t, fn, args) :: s.calls }).map some =
      expectedCalls (modelCalls s) t fn (args.headD 0) := by
  have hr : List.range 2 = [0, 1] := rfl
  unfold expectedCalls modelCalls
  rw [hr]
  simp only [List.map_cons, List.map_nil]
  congr 1
  · by_cases h : 0 = t
    · rw [if_pos h, callObs_push_same s _ 0 h.symm]; rfl
    · rw [if_neg h, callObs_push_other s _ 0 (fun e => h e.symm)]; rfl
  · congr 1
    by_cases h : 1 = t
    · rw [if_pos h, callObs_push_same s _ 1 h.symm]; rfl
    · rw [if_neg h, callObs_push_other s _ 1 (fun e => h e.symm)]; rfl

/-! ### `fin`, rejected calls and definition lines -/

theorem prevNow_some (m : Mon) (p : Obs) (h : m.prev = some p) : prevNow m = p.now := by
  unfold prevNow; rw [h]
theorem prevMin_some (m : Mon) (p : Obs) (h : m.prev = some p) : prevMin m = p.min := by
  unfold prevMin; rw [h]
theorem prevCalls_some (m : Mon) (p : Obs) (h : m.prev = some p) : prevCalls m = p.calls := by
  unfold prevCalls; rw [h]
theorem prevSt_some (m : Mon) (p : Obs) (h : m.prev = some p) : prevSt m = p.st := by
  unfold prevSt; rw [h]

theorem fin_sound (m' : Mon) (x' : MS) (ok : Bool) (eq : Option (List Nat)) (f : Option String)
    (hf : f = none) (hi' : Inv x'.s) (hd : m'.defs = x'.defs)
    (hg : ∀ id, m'.get (some id) = toG (Timelock.ghost x'.s.log id)) :
    (fin (modelObs x' ok eq) m' f).2 = none ∧ Agree (fin (modelObs x' ok eq) m' f).1 x' := by
  subst hf
  constructor
  · show checkStates { m' with prev := some (modelObs x' ok eq) } (modelObs x' ok eq) = none
    apply checkStates_quiet _ _ (idObs x'.s)
    · intro id
      rw [get_prev, hg]
      exact expected_toG hi' id
    · show modelSt x' = _
      unfold modelSt
      rw [← hd]
  · exact ⟨hd, fun id => by rw [← hg id]; rfl, rfl, rfl, rfl,
      fun p hp => by injection hp with hp; subst hp; rfl⟩

theorem changed_false (m : Mon) (x : MS) (ha : Agree m x) (eq : Option (List Nat)) :
    changed m (modelObs x false eq) = false := by
  unfold changed
  cases hp : m.prev with
  | none => rfl
  | some p =>
    have h1 : p.st = modelSt x := ha.st p hp
    have h2 : p.min = x.s.minDelay := by rw [← prevMin_some m p hp]; exact ha.min
    have h3 : p.calls = modelCalls x.s := by rw [← prevCalls_some m p hp]; exact ha.calls
    have h4 : p.now = x.s.now := by rw [← prevNow_some m p hp]; exact ha.now
    simp [modelObs, h1, h2, h3, h4]

theorem rejected_sound (m : Mon) (x : MS) (hi : Inv x.s) (ha : Agree m x) :
    (fin (modelObs x false none) m (verdictRejected m (modelObs x false none))).2 = none ∧
    Agree (fin (modelObs x false none) m (verdictRejected m (modelObs x false none))).1 x := by
  apply fin_sound m x false none _ _ hi ha.defs ha.ghost
  unfold verdictRejected
  rw [changed_false m x ha]
  rfl

theorem modelDef_fst (x : MS) (op : Operation) : (modelDef x op).1 = ⟨x.s, x.defs ++ [op]⟩ := rfl

theorem modelDef_snd (x : MS) (op : Operation) :
    (modelDef x op).2 = modelObs ⟨x.s, x.defs ++ [op]⟩ true (some (sameTuples x.defs op)) := rfl

theorem checkDef_some (m : Mon) (t f : Nat) (args : List Nat) (p : Ref) (s : Nat) (o : Obs) (pid : Id)
    (hp : refKey m.defs p = some pid) :
    checkDef m t f args p s o =
      fin o { m with defs := m.defs ++ [⟨t, f, args, pid, s⟩] } (verdictDef m ⟨t, f, args, pid, s⟩ o) := by
  unfold checkDef
  rw [hp]

theorem verdictDef_none (m : Mon) (op : Operation) (o : Obs) (h : o.eq = some (sameTuples m.defs op)) :
    verdictDef m op o = none := by
  unfold verdictDef
  rw [if_neg (fun h' => h' h)]

theorem def_sound (m : Mon) (x : MS) (hi : Inv x.s) (ha : Agree m x) (t f : Nat) (args : List Nat)
    (p : Ref) (s : Nat) (pid : Id) (hp : refKey x.defs p = some pid) :
    (checkDef m t f args p s (modelDef x ⟨t, f, args, pid, s⟩).2).2 = none ∧
    Agree (checkDef m t f args p s (modelDef x ⟨t, f, args, pid, s⟩).2).1 (modelDef x ⟨t, f, args, pid, s⟩).1 := by
  rw [modelDef_snd, modelDef_fst, checkDef_some m t f args p s _ pid (by rw [ha.defs]; exact hp)]
  refine fin_sound { m with defs := m.defs ++ [(⟨t, f, args, pid, s⟩ : Operation)] } _ true _ _
    (verdictDef_none m _ _ ?_) hi ?_ ha.ghost
  · rw [ha.defs]; rfl
  · show m.defs ++ _ = x.defs ++ _
    rw [ha.defs]

/-! ### accepted calls -/

theorem stable_none (m : Mon) (kind : String) (o : Obs) (h1 : o.now = prevNow m) (h2 : o.min = prevMin m) :
    stable m kind o = none := by
  unfold stable
  rw [if_neg (fun h => h h1), if_neg (fun h => h.2 h2)]

theorem callsSame_none (m : Mon) (kind : String) (o : Obs) (h : o.calls = prevCalls m) :
    callsSame m kind o = none := by
  unfold callsSame
  rw [if_neg (fun h' => h' h)]

theorem tupleOf_some (defs : List Operation) (k : Nat) (opn : Operation) (hk : defs[k]? = some opn) :
    tupleOf defs k = (opn.target, opn.fn, opn.args.headD 0) := by
  unfold tupleOf; rw [hk]

theorem keyOf_some {m : Mon} {x : MS} (ha : Agree m x) {k : Nat} {opn : Operation} (hk : x.defs[k]? = some opn) :
    keyOf m k = some opn.id ∧ predOf m k = some opn.pred := by
  unfold keyOf predOf; rw [ha.defs, hk]; exact ⟨rfl, rfl⟩

/-- the monitor binds the id to what the logged record says; `cond` is its condition on the ghost log, `tail` its
check of the targets' counters -/
theorem write_sound {m : Mon} {x : MS} (hi : Inv x.s) (ha : Agree m x) {op : Op} {id : Id} {v : Nat} {e : Ev}
    (w : Write x.s op id v e) {key : Key} (hkey : key = some id) {g : G} (hg : toG (Timelock.ghost [e] e.id) = g)
    {kind : String} {cond tail : Option String} (hcond : cond = none) (htail : tail = none) :
    let s' : State := { x.s with ledger := updId x.s.ledger id v, log := e :: x.s.log, calls := called op ++ x.s.calls }
    (fin (modelObs ⟨s', x.defs⟩ true none) (m.set key g)
      (firstSome cond (firstSome (stable m kind (modelObs ⟨s', x.defs⟩ true none)) tail))).2 = none ∧
    Agree (fin (modelObs ⟨s', x.defs⟩ true none) (m.set key g)
      (firstSome cond (firstSome (stable m kind (modelObs ⟨s', x.defs⟩ true none)) tail))).1 ⟨s', x.defs⟩ := by
  intro s'
  subst hkey
  refine fin_sound _ ⟨s', x.defs⟩ true none _ ?_ ((Step.write w).inv hi) ha.defs ?_
  · rw [hcond, htail, stable_none m kind _ ha.now.symm ha.min.symm]; rfl
  · rw [← w.id_eq]; exact get_set_log ha.ghost e hg

theorem execCond_none {m : Mon} {x : MS} (hi : Inv x.s) (ha : Agree m x) {k : Nat} {opn : Operation}
    (hk : x.defs[k]? = some opn) (h2 : 2 ≤ x.s.ledger opn.id) (hn : x.s.ledger opn.id ≤ x.s.now)
    (hp : opn.pred = Id.zero ∨ x.s.ledger opn.pred = 1) :
    execCond m (keyOf m k) (predOf m k) x.s.now = none := by
  obtain ⟨l, d, mn, hg, hel⟩ := ghostState_ready.mp ((hi.state_eq opn.id).symm.trans (state_ready.mpr ⟨h2, hn⟩))
  unfold execCond
  rw [(keyOf_some ha hk).1, (keyOf_some ha hk).2, ha.ghost, hg]
  show (if _ then _ else if _ then _ else _) = none
  rw [if_neg (fun h => h hel)]
  rcases hp with hz | hd
  · rw [if_neg (fun h => h.1 (by rw [hz]))]
  · rw [if_neg (fun h => h.2 (by rw [ha.ghost, (hi.coh opn.pred).of_one hi.nowHi hd]; rfl))]

/-- every call the model accepts passes the monitor -/
theorem accepted_sound (m : Mon) (x : MS) (hi : Inv x.s) (ha : Agree m x) (c : CallLine) (op : Op)
    (hr : resolveCall x.defs c = some op) (s' : State) (hx : apply x.s op = .ok s') :
    (checkAccepted m c (modelObs ⟨s', x.defs⟩ true none)).2 = none ∧
    Agree (checkAccepted m c (modelObs ⟨s', x.defs⟩ true none)).1 ⟨s', x.defs⟩ := by
  have hcalls := callsSame_none m
  cases c <;> simp only [resolveCall, Option.map_eq_some_iff, Option.some.injEq, reduceCtorEq] at hr
  case min d =>
    obtain ⟨d', rfl, rfl⟩ := hr
    cases hx
    refine fin_sound m ⟨setMinDelay x.s d', x.defs⟩ true none _ ?_ (apply_inv hi (x := .setMinDelay d') rfl) ha.defs ha.ghost
    unfold verdictMin
    rw [if_neg (fun h => h rfl)]
    unfold stable
    rw [if_neg (fun h => h ha.now.symm), if_neg (fun h => h.1 rfl)]
    exact hcalls _ _ ha.calls.symm
  case advance n =>
    subst hr
    have hi' := apply_inv hi hx
    obtain ⟨hn, rfl⟩ := advance_iff.mp hx
    refine fin_sound m ⟨_, x.defs⟩ true none _ ?_ hi' ha.defs ha.ghost
    unfold verdictAdvance
    rw [if_neg (fun h => h (by rw [ha.now]; rfl)), if_neg (fun h => h ha.min.symm)]
    have hl : lost m n (modelObs ⟨{ x.s with now := x.s.now + n }, x.defs⟩ true none) = [] := by
      cases hp : m.prev with
      | none => exact lost_nil_of_prev_none m n _ hp
      | some p =>
        refine lost_nil m n _ (idUniverse x.defs) (idObs x.s) (idObs { x.s with now := x.s.now + n }) ?_ rfl
          (idObs_advance x.s n)
        rw [prevSt_some m p hp, ha.st p hp]; rfl
    rw [hl]
    exact hcalls _ _ ha.calls.symm
  case sched k d =>
    obtain ⟨opn, hk, rfl⟩ := hr
    obtain ⟨mn, hm, hmd, h0, rfl⟩ := schedule_iff.mp hx
    refine write_sound hi ha (.schedule hm hmd h0) (keyOf_some ha hk).1
      (ha.now ▸ congrArg toG (ghost_sched_same _ _ _ _ _)) ?_ (hcalls _ _ ha.calls.symm)
    unfold schedCond
    rw [(keyOf_some ha hk).1, ha.ghost, (hi.coh opn.id).of_zero h0, ha.min, hm]
    exact if_neg (by omega)
  case cancel r =>
    obtain ⟨id0, hk, rfl⟩ := hr
    obtain ⟨h2, rfl⟩ := cancel_iff.mp hx
    obtain ⟨l, d, mn, hg, _⟩ := (hi.coh id0).ledger_ge_two h2
    refine write_sound hi ha (.cancel h2) (ha.defs ▸ hk) (congrArg toG (ghost_cancel_same _ _ _)) ?_
      (hcalls _ _ ha.calls.symm)
    unfold cancelCond
    rw [ha.defs, hk, ha.ghost, hg]; rfl
  case setexec k =>
    obtain ⟨opn, hk, rfl⟩ := hr
    obtain ⟨⟨h2, hn, hp⟩, rfl⟩ := setExecute_iff.mp hx
    exact write_sound hi ha (.setExecute h2 hn hp) (keyOf_some ha hk).1 (congrArg toG (ghost_exec_same _ _ _))
      (execCond_none hi ha hk h2 hn hp) (hcalls _ _ ha.calls.symm)
  case exec k callok =>
    obtain ⟨opn, hk, rfl⟩ := hr
    generalize decide (callok = 1) = b at hx
    obtain ⟨s1, h1, rfl, rfl⟩ := execute_iff.mp hx
    obtain ⟨⟨h2, hn, hp⟩, rfl⟩ := setExecute_iff.mp h1
    refine write_sound hi ha (.execute h2 hn hp) (keyOf_some ha hk).1 (congrArg toG (ghost_exec_same _ _ _))
      (execCond_none hi ha hk h2 hn hp) ?_
    unfold execCalls
    rw [ha.defs, tupleOf_some _ _ _ hk, ha.calls]
    exact if_neg (fun h => h (expectedCalls_model _ opn.target opn.fn opn.args))

theorem checkCore_call (m : Mon) (c : CallLine) (o : Obs) (h2 : 2 ≤ o.now) :
    checkCore m (.call c) o =
      if ¬ o.ok then fin o m (verdictRejected m o) else checkAccepted m c o := by
  unfold checkCore
  rw [if_neg (by omega)]

theorem checkCore_defn (m : Mon) (t f : Nat) (args : List Nat) (p : Ref) (s : Nat) (o : Obs) (h2 : 2 ≤ o.now) :
    checkCore m (.defn t f args p s) o = checkDef m t f args p s o := by
  unfold checkCore
  rw [if_neg (by omega)]

end OZ.Timelock.Mon
