import OZ.Model.TimelockController
import OZ.Lemmas.Timelock
import OZ.Lemmas.AccessOps
/-
The timelock controller: the accepted loop of `__check_auth` in closed form (`checkPairs_run`), and every accepted
entry point as a run of timelock calls on the timelock part (`applyE_decomp`), so that what Lemmas/Timelock proves of
`run` holds of the controller. `SameGov` is the part of the state whose change C09 asks a cause for.
-/
namespace OZ.TimelockController
open OZ.Host OZ.Timelock

/-- The property's notion of consumption, for one authorized call `(fn, args)` on the controller
and its descriptor `m`: the operation `(self, fn, args, m.pred, m.salt)` is Ready in `c` and Done
in `c'`, its predecessor is zero or Done, and — if executors are configured in `c` — the named
executor holds the role and authorized the tuple ("execute_op", self, fn, args, pred, salt). -/
def Consumed (c c' : CState) (auth : List AuthTok) (fn : Nat) (args : List Nat) (m : Meta) : Prop :=
  getOperationState c.tl (opOf c.self fn args m).id = .ready ∧
  getOperationState c'.tl (opOf c.self fn args m).id = .done ∧
  (m.pred = Id.zero ∨ getOperationState c'.tl m.pred = .done) ∧
  (c.executorCount ≠ 0 →
    ∃ ex, m.executor = some ex ∧ c.hasRole EXECUTOR ex = true ∧
      AuthTok.exec ex c.self fn args m.pred m.salt ∈ auth)

/-- what `__check_auth` may change: operation ledgers (only Ready → Done), the ghost log; nothing else -/
structure Frame (c c' : CState) : Prop where
  self : c'.self = c.self
  ac : c'.ac = c.ac
  cfg : c'.cfg = c.cfg
  now : c'.tl.now = c.tl.now
  minDelay : c'.tl.minDelay = c.tl.minDelay
  calls : c'.tl.calls = c.tl.calls
  one : ∀ id, c.tl.ledger id = 1 → c'.tl.ledger id = 1
  change : ∀ id, c'.tl.ledger id = c.tl.ledger id ∨
    (getOperationState c.tl id = .ready ∧ c'.tl.ledger id = 1)

theorem Frame.refl (c : CState) : Frame c c :=
  ⟨rfl, rfl, rfl, rfl, rfl, rfl, fun _ h => h, fun _ => Or.inl rfl⟩

theorem liftTl_ok {c c' : CState} {r : Except Timelock.Err Timelock.State} (h : liftTl c r = .ok c') :
    ∃ tl', r = .ok tl' ∧ c' = { c with tl := tl' } := by
  unfold liftTl at h
  cases r with
  | error e => cases h
  | ok tl' => injection h with h; exact ⟨tl', rfl, h.symm⟩

theorem seq_ok {r : Except CErr CState} {k : CState → Except CErr CState} {c' : CState}
    (h : (match r with | .error e => (.error e : Except CErr CState) | .ok a => k a) = .ok c') :
    ∃ c1, r = .ok c1 ∧ k c1 = .ok c' := by
  cases r with
  | error e => cases h
  | ok a => exact ⟨a, rfl, h⟩

theorem execGate_ok {c : CState} {auth : List AuthTok} {fn : Nat} {args : List Nat} {m : Meta}
    (h : execGate c auth fn args m = .ok ()) :
    c.executorCount ≠ 0 →
      ∃ ex, m.executor = some ex ∧ c.hasRole EXECUTOR ex = true ∧
        AuthTok.exec ex c.self fn args m.pred m.salt ∈ auth := by
  intro hne
  unfold execGate at h
  rw [if_neg hne] at h
  cases hex : m.executor with
  | none => rw [hex] at h; cases h
  | some ex =>
    rw [hex] at h
    simp only at h
    split at h
    · cases h
    · rename_i hr
      split at h
      · rename_i hin
        exact ⟨ex, rfl, by simpa using hr, hin⟩
      · cases h

theorem checkOne_ok {c c' : CState} {auth : List AuthTok} {ctx : Context} {m : Meta}
    (h : checkOne c auth ctx m = .ok c') :
    ∃ fn args tl', ctx = .contract c.self fn args ∧ execGate c auth fn args m = .ok () ∧
      setExecute c.tl (opOf c.self fn args m) = .ok tl' ∧ c' = { c with tl := tl' } := by
  unfold checkOne at h
  cases ctx with
  | createContract => cases h
  | contract addr fn args =>
    simp only at h
    split at h
    · cases h
    · rename_i haddr
      have haddr' : addr = c.self := by
        by_cases e : addr = c.self
        · exact e
        · exact absurd e haddr
      subst haddr'
      cases hg : execGate c auth fn args m with
      | error e => rw [hg] at h; cases h
      | ok u =>
        rw [hg] at h
        simp only at h
        obtain ⟨tl', hs, hc⟩ := liftTl_ok h
        exact ⟨fn, args, tl', rfl, by cases u; exact hg, hs, hc⟩

def pairOp (self : Nat) (p : Context × Meta) : Option Operation :=
  match p.1 with
  | .contract _ fn args => some (opOf self fn args p.2)
  | .createContract => none

def doneAll (l : Id → Nat) (ops : List Operation) : Id → Nat :=
  fun id => if id ∈ ops.map Operation.id then 1 else l id

theorem doneAll_cons (l : Id → Nat) (o : Operation) (ops : List Operation) :
    doneAll (updId l o.id DONE_LEDGER) ops = doneAll l (o :: ops) := by
  funext id
  unfold doneAll
  simp only [List.map_cons, List.mem_cons]
  by_cases e1 : id ∈ ops.map Operation.id
  · rw [if_pos e1, if_pos (Or.inr e1)]
  · rw [if_neg e1]
    by_cases e2 : id = o.id
    · rw [if_pos (Or.inl e2), e2, updId_same]; rfl
    · rw [if_neg (by simp [e1, e2]), updId_other _ _ _ _ e2]

/-- The accepted loop in closed form: executor gates and readiness are those of the state the loop started in,
predecessors are zero or Done at the end; distinct pairs denote distinct operations. -/
theorem checkPairs_run {c c' : CState} {auth : List AuthTok} {pairs : List (Context × Meta)}
    (h : checkPairs c auth pairs = .ok c') :
    ∃ ops : List Operation,
      pairs.map (pairOp c.self) = ops.map some ∧
      (∀ p ∈ pairs, ∃ fn args, p.1 = .contract c.self fn args ∧ execGate c auth fn args p.2 = .ok ()) ∧
      (∀ o ∈ ops, getOperationState c.tl o.id = .ready) ∧
      (∀ o ∈ ops, o.pred = Id.zero ∨ c'.tl.ledger o.pred = 1) ∧
      (ops.map Operation.id).Nodup ∧
      c' = { c with tl := { c.tl with ledger := doneAll c.tl.ledger ops,
                                      log := (ops.map (fun o => Ev.exec o.id c.tl.now)).reverse ++ c.tl.log } } := by
  induction pairs generalizing c with
  | nil =>
    injection h with h; subst h
    exact ⟨[], rfl, fun p hp => (by cases hp), fun o ho => (by cases ho), fun o ho => (by cases ho),
      List.nodup_nil, rfl⟩
  | cons hd rest ih =>
    obtain ⟨ctx, m⟩ := hd
    obtain ⟨c1, h1, h⟩ := seq_ok h
    obtain ⟨fn, args, tl', hctx, hg, hse, hc1⟩ := checkOne_ok h1
    obtain ⟨⟨h2, hn, hp0⟩, htl⟩ := setExecute_iff.mp hse
    subst hc1; subst htl
    obtain ⟨ops, hmap, hall, hready, hpred, hnd, hfin⟩ := ih h
    -- the later operations are Ready after the first was marked done, so they differ from it
    have hne : ∀ o ∈ ops, o.id ≠ (opOf c.self fn args m).id := by
      intro o ho e
      have hr : 2 ≤ updId c.tl.ledger _ DONE_LEDGER o.id := (state_ready.mp (hready o ho)).1
      rw [e, updId_same] at hr
      exact absurd hr (by decide)
    refine ⟨opOf c.self fn args m :: ops, ?_, ?_, ?_, ?_, ?_, ?_⟩
    · simp only [List.map_cons]
      rw [← hmap, hctx]; rfl
    · intro p hp
      cases hp with
      | head => exact ⟨fn, args, hctx, hg⟩
      | tail _ hp' => exact hall p hp'
    · intro o ho
      cases ho with
      | head => exact stateOf_ready.mpr ⟨h2, hn⟩
      | tail _ ho' =>
        have hr : 2 ≤ updId c.tl.ledger _ DONE_LEDGER o.id ∧ updId c.tl.ledger _ DONE_LEDGER o.id ≤ c.tl.now :=
          state_ready.mp (hready o ho')
        rw [updId_other _ _ _ _ (hne o ho')] at hr
        exact state_ready.mpr hr
    · intro o ho
      cases ho with
      | head =>
        refine hp0.imp_right (fun h1 => ?_)
        rw [hfin]
        show doneAll _ ops _ = 1
        rw [doneAll_cons]
        unfold doneAll
        split
        · rfl
        · exact h1
      | tail _ ho' => exact hpred o ho'
    · simp only [List.map_cons]
      exact List.nodup_cons.mpr ⟨fun hin => by
        obtain ⟨o, ho, e⟩ := List.mem_map.mp hin
        exact hne o ho e, hnd⟩
    · rw [hfin]
      show CState.mk (Timelock.State.mk (doneAll (updId c.tl.ledger _ DONE_LEDGER) ops) _ _ _ _) _ _ _ = _
      rw [doneAll_cons]
      simp

theorem checkPairs_ok {c c' : CState} {auth : List AuthTok} {pairs : List (Context × Meta)}
    (h : checkPairs c auth pairs = .ok c') :
    Frame c c' ∧ ∀ p ∈ pairs, ∃ fn args, p.1 = .contract c.self fn args ∧ Consumed c c' auth fn args p.2 := by
  obtain ⟨ops, hmap, hall, hready, hpred, _, rfl⟩ := checkPairs_run h
  have hdone : ∀ o ∈ ops, doneAll c.tl.ledger ops o.id = 1 := fun o ho =>
    if_pos (List.mem_map.mpr ⟨o, ho, rfl⟩)
  refine ⟨⟨rfl, rfl, rfl, rfl, rfl, rfl, fun id h1 => ?_, fun id => ?_⟩, fun p hp => ?_⟩
  · show doneAll c.tl.ledger ops id = 1
    unfold doneAll; split
    · rfl
    · exact h1
  · show doneAll c.tl.ledger ops id = _ ∨ _ ∧ doneAll c.tl.ledger ops id = 1
    by_cases hin : id ∈ ops.map Operation.id
    · obtain ⟨o, ho, rfl⟩ := List.mem_map.mp hin
      exact Or.inr ⟨hready o ho, hdone o ho⟩
    · exact Or.inl (if_neg hin)
  · obtain ⟨fn, args, hctx, hg⟩ := hall p hp
    have ho : opOf c.self fn args p.2 ∈ ops := by
      have : some (opOf c.self fn args p.2) ∈ ops.map some := by
        rw [← hmap]; exact List.mem_map.mpr ⟨p, hp, by unfold pairOp; rw [hctx]⟩
      simpa using this
    exact ⟨fn, args, hctx, hready _ ho, stateOf_done.mpr (hdone _ ho),
      (hpred _ ho).imp_right stateOf_done.mpr, execGate_ok hg⟩

theorem checkPairs_tl {c c' : CState} {auth : List AuthTok} {pairs : List (Context × Meta)}
    (h : checkPairs c auth pairs = .ok c') : ∃ ops : List Operation, c'.tl = run c.tl (ops.map .setExecute) := by
  induction pairs generalizing c with
  | nil => cases h; exact ⟨[], rfl⟩
  | cons hd rest ih =>
    obtain ⟨c1, h1, h⟩ := seq_ok h
    obtain ⟨fn, args, tl', _, _, hs, rfl⟩ := checkOne_ok h1
    obtain ⟨ops, ho⟩ := ih h
    exact ⟨opOf c.self fn args hd.2 :: ops, by rw [ho]; exact congrArg (run · _) (step_ok (x := .setExecute _) hs).symm⟩

theorem checkAuth_ok {c c' : CState} {auth : List AuthTok} {metas : List Meta} {ctxs : List Context}
    (h : checkAuth c auth metas ctxs = .ok c') :
    metas.length = ctxs.length ∧ checkPairs c auth (ctxs.zip metas) = .ok c' := by
  unfold checkAuth at h
  split at h
  · cases h
  · rename_i hl
    exact ⟨by omega, h⟩

/-! ### `require_auth`, and access control on top of C06's model -/

theorem requireAuth_ok {c c' : CState} {auth : List AuthTok} {sig : Option (List Meta)} {who fn : Nat}
    {args : List Nat} (h : requireAuth checkAuth c auth sig who fn args = .ok c') :
    (who = c.self ∧ ∃ metas, sig = some metas ∧ checkAuth c auth metas [.contract c.self fn args] = .ok c') ∨
    (who ≠ c.self ∧ AuthTok.call who ∈ auth ∧ c' = c) := by
  unfold requireAuth at h
  split at h
  · rename_i hw
    left
    cases sig with
    | none => cases h
    | some metas => exact ⟨hw, metas, rfl, h⟩
  · rename_i hw
    right
    split at h
    · rename_i hin; injection h with h; exact ⟨hw, hin, h.symm⟩
    · cases h

theorem requireAuthPlain_ok {c : CState} {auth : List AuthTok} {who : Nat}
    (h : requireAuthPlain c auth who = .ok ()) : who ≠ c.self ∧ AuthTok.call who ∈ auth := by
  unfold requireAuthPlain at h
  split at h
  · cases h
  · rename_i hw
    split at h
    · rename_i hin; exact ⟨hw, hin⟩
    · cases h

theorem self_auth_consumes {c c1 : CState} {auth : List AuthTok} {metas : List Meta} {fn : Nat}
    {args : List Nat} (h : checkAuth c auth metas [.contract c.self fn args] = .ok c1) :
    Frame c c1 ∧ ∃ m, metas = [m] ∧ Consumed c c1 auth fn args m := by
  obtain ⟨hl, hp⟩ := checkAuth_ok h
  match metas, hl with
  | [m], _ =>
    obtain ⟨fr, hall⟩ := checkPairs_ok hp
    obtain ⟨fn', args', hc, hcons⟩ := hall (.contract c.self fn args, m) (by simp)
    simp only [Context.contract.injEq, true_and] at hc
    obtain ⟨rfl, rfl⟩ := hc
    exact ⟨fr, m, rfl, hcons⟩

theorem Consumed.mono {c c1 c' : CState} {auth : List AuthTok} {fn : Nat} {args : List Nat} {m : Meta}
    (h : Consumed c c1 auth fn args m) (h1 : ∀ id, c1.tl.ledger id = 1 → c'.tl.ledger id = 1) :
    Consumed c c' auth fn args m :=
  have hd : ∀ id, getOperationState c1.tl id = .done → getOperationState c'.tl id = .done := fun id hd =>
    state_done.mpr (h1 id (state_done.mp hd))
  ⟨h.1, hd _ h.2.1, h.2.2.1.imp_right (hd _), h.2.2.2⟩

theorem withAc_ok {c c' : CState} {r : Except OZ.Access.Err AC} (h : withAc c r = .ok c') :
    ∃ a, r = .ok a ∧ c' = { c with ac := a } := by
  unfold withAc at h
  cases r with
  | error e => cases h
  | ok a => injection h with h; exact ⟨a, rfl, h.symm⟩

theorem withAdm_ok {c c' : CState} {r : Except OZ.RoleTransfer.Err RT} (h : withAdm c r = .ok c') :
    ∃ t, r = .ok t ∧ c' = { c with ac := { c.ac with adm := t } } := by
  unfold withAdm at h
  cases r with
  | error e => cases h
  | ok t => injection h with h; exact ⟨t, rfl, h.symm⟩

theorem auth_step {c c1 : CState} {auth : List AuthTok} {sig : Option (List Meta)} {who fn : Nat}
    {args : List Nat} (h : requireAuth checkAuth c auth sig who fn args = .ok c1) :
    Frame c c1 ∧
    ((who = c.self ∧ ∃ m, sig = some [m] ∧ Consumed c c1 auth fn args m) ∨
     (who ≠ c.self ∧ AuthTok.call who ∈ auth ∧ c1 = c)) := by
  rcases requireAuth_ok h with ⟨hw, metas, hs, hc⟩ | ⟨hne, hin, rfl⟩
  · obtain ⟨fr, m, hm, hcons⟩ := self_auth_consumes hc
    exact ⟨fr, Or.inl ⟨hw, m, by rw [hs, hm], hcons⟩⟩
  · exact ⟨Frame.refl _, Or.inr ⟨hne, hin, rfl⟩⟩

theorem admin_step {c c1 : CState} {auth : List AuthTok} {sig : Option (List Meta)} {fn : Nat}
    {args : List Nat} (h : enforceAdminAuth checkAuth c auth sig fn args = .ok c1) :
    ∃ a, c.admin = some a ∧ requireAuth checkAuth c auth sig a fn args = .ok c1 := by
  unfold enforceAdminAuth at h
  cases ha : c.admin with
  | none => rw [ha] at h; cases h
  | some a => rw [ha] at h; exact ⟨a, rfl, h⟩

theorem mem_plainAuth {c : CState} {auth : List AuthTok} {p : Nat} :
    p ∈ plainAuth c auth ↔ p ≠ c.self ∧ AuthTok.call p ∈ auth := by
  unfold plainAuth
  rw [List.mem_filterMap]
  constructor
  · rintro ⟨t, ht, hp⟩
    cases t with
    | call a =>
      simp only at hp
      split at hp
      · cases hp
      · rename_i hne; injection hp with hp; subst hp; exact ⟨hne, ht⟩
    | exec a tg f ar pr sa => simp at hp
  · rintro ⟨hne, hin⟩
    exact ⟨.call p, hin, by simp [hne]⟩

theorem requireAuth_tl {c c1 : CState} {auth : List AuthTok} {sig : Option (List Meta)} {who fn : Nat}
    {args : List Nat} (h : requireAuth checkAuth c auth sig who fn args = .ok c1) :
    ∃ ops : List Operation, c1.tl = run c.tl (ops.map .setExecute) := by
  rcases requireAuth_ok h with ⟨_, metas, _, hc⟩ | ⟨_, _, rfl⟩
  · exact checkPairs_tl (checkAuth_ok hc).2
  · exact ⟨[], rfl⟩

/-! ### exact descriptions of the accepted entry points -/

theorem executorGate_ok {c : CState} {auth : List AuthTok} {ex : Option Nat} (h : executorGate c auth ex = .ok ()) :
    c.executorCount ≠ 0 → ∃ e, ex = some e ∧ c.hasRole EXECUTOR e = true ∧ AuthTok.call e ∈ auth := by
  intro hne
  unfold executorGate at h
  rw [if_neg hne] at h
  cases ex with
  | none => cases h
  | some e =>
    simp only at h
    split at h
    · cases h
    · rename_i hr
      exact ⟨e, rfl, by simpa using hr, (requireAuthPlain_ok h).2⟩

/-- The entry points that are not guarded by a `require_auth` which `__check_auth` may serve, by entry point. At a
concrete entry point the `match` reduces; split on the entry point before calling it. -/
theorem applyE_ok {c c' : CState} {auth : List AuthTok} {sig : Option (List Meta)} {x : Entry}
    (h : applyE c auth sig x = .ok c') :
    match (generalizing := false) x with
    | .scheduleOp op d p => c.hasRole PROPOSER p = true ∧ AuthTok.call p ∈ auth ∧
        ∃ tl', schedule c.tl op d = .ok tl' ∧ c' = { c with tl := tl' }
    | .cancelOp id k => c.hasRole CANCELLER k = true ∧ AuthTok.call k ∈ auth ∧
        ∃ tl', cancel c.tl id = .ok tl' ∧ c' = { c with tl := tl' }
    | .executeOp op ex ok =>
        (c.executorCount ≠ 0 → ∃ e, ex = some e ∧ c.hasRole EXECUTOR e = true ∧ AuthTok.call e ∈ auth) ∧
        ∃ tl', execute c.tl op ok = .ok tl' ∧ c' = { c with tl := tl' }
    | .acceptAdmin => ∃ t p, Temp.get? c.ac.adm.pending c.ac.adm.now = some p ∧ t.holder = some p ∧ p ≠ c.self ∧
        AuthTok.call p ∈ auth ∧ c' = { c with ac := { c.ac with adm := t } }
    | .advance n => ∃ tl', advance c.tl n = .ok tl' ∧ c' = { c with tl := tl', ac := tickAc c.ac n }
    | .checkAuth metas ctxs => checkAuth c auth metas ctxs = .ok c'
    | _ => True := by
  have plain : ∀ {r p : Nat} {t : Except Timelock.Err Timelock.State},
      (if !c.hasRole r p then .error .unauthorized
        else match requireAuthPlain c auth p with
          | .error e => .error e
          | .ok _ => liftTl c t : Except CErr CState) = .ok c' →
      c.hasRole r p = true ∧ AuthTok.call p ∈ auth ∧ ∃ tl', t = .ok tl' ∧ c' = { c with tl := tl' } := by
    intro r p t h
    split at h
    · cases h
    · rename_i hr
      cases h1 : requireAuthPlain c auth p with
      | error e => rw [h1] at h; cases h
      | ok u => rw [h1] at h; exact ⟨by simpa using hr, (requireAuthPlain_ok h1).2, liftTl_ok h⟩
  cases x with
  | scheduleOp op d p => exact plain h
  | cancelOp id k => exact plain h
  | executeOp op ex ok =>
    simp only [applyE, applyW, executeOp] at h
    cases h1 : executorGate c auth ex with
    | error e => rw [h1] at h; cases h
    | ok u => rw [h1] at h; exact ⟨executorGate_ok h1, liftTl_ok h⟩
  | acceptAdmin =>
    obtain ⟨t, ht, hc⟩ := withAdm_ok h
    obtain ⟨p, hp, hin, hh, _, _, _⟩ := OZ.RoleTransfer.accept_ok (f := .admin) ht
    exact ⟨t, p, hp, hh, (mem_plainAuth.mp hin).1, (mem_plainAuth.mp hin).2, hc⟩
  | advance n =>
    simp only [applyE, applyW, advanceC] at h
    cases h1 : advance c.tl n with
    | error e => rw [h1] at h; cases h
    | ok tl' => rw [h1] at h; exact ⟨tl', h1, (Except.ok.inj h).symm⟩
  | checkAuth metas ctxs => exact h
  | _ => trivial

/-- what the body of an entry point guarded by `require_auth` of the admin or of a named caller does to the state
`c1` which that authorization left -/
inductive Body (c1 : CState) : Entry → CState → Prop
  | updateDelay (d : Nat) : Body c1 (.updateDelay d) { c1 with tl := setMinDelay c1.tl d }
  | setRoleAdmin (r ar : Nat) :
      Body c1 (.setRoleAdmin r ar) { c1 with ac := OZ.Access.setRoleAdminNoAuth c1.ac r ar }
  | transferAdmin (new lu : Nat) {t : RT} (ht : t.holder = c1.ac.adm.holder) :
      Body c1 (.transferAdmin new lu) { c1 with ac := { c1.ac with adm := t } }
  | renounceAdmin {t : RT} (ht : t.holder = none) : Body c1 .renounceAdmin { c1 with ac := { c1.ac with adm := t } }
  | grantRole {a r k : Nat} {a' : AC}
      (hp : OZ.Access.isAdmin c1.ac k = true ∨ OZ.Access.isAdminRole c1.ac r k = true)
      (hg : OZ.Access.grantRoleNoAuth c1.ac a r k = .ok a') : Body c1 (.grantRole a r k) { c1 with ac := a' }
  | revokeRole {a r k : Nat} {a' : AC}
      (hp : OZ.Access.isAdmin c1.ac k = true ∨ OZ.Access.isAdminRole c1.ac r k = true)
      (hg : OZ.Access.revokeRoleNoAuth c1.ac a r k = .ok a') : Body c1 (.revokeRole a r k) { c1 with ac := a' }
  | renounceRole {r k : Nat} {a' : AC} (hg : OZ.Access.revokeRoleNoAuth c1.ac k r k = .ok a') :
      Body c1 (.renounceRole r k) { c1 with ac := a' }

theorem admin_ok {c c' : CState} {auth : List AuthTok} {sig : Option (List Meta)} {x : Entry} {fn : Nat}
    {args : List Nat} (hx : x.adminCall = some (fn, args)) (h : applyE c auth sig x = .ok c') :
    ∃ a c1, c.admin = some a ∧ requireAuth checkAuth c auth sig a fn args = .ok c1 ∧ Body c1 x c' := by
  have byAdmin : ∀ {k : CState → Except CErr CState},
      (match enforceAdminAuth checkAuth c auth sig fn args with
        | .error e => .error e
        | .ok c1 => k c1 : Except CErr CState) = .ok c' →
      ∃ a c1, c.admin = some a ∧ requireAuth checkAuth c auth sig a fn args = .ok c1 ∧ k c1 = .ok c' := by
    intro k h
    obtain ⟨c1, h1, h⟩ := seq_ok h
    obtain ⟨a, ha, h2⟩ := admin_step h1
    exact ⟨a, c1, ha, h2, h⟩
  cases x <;> cases hx
  case updateDelay d =>
    obtain ⟨a, c1, ha, h1, h⟩ := byAdmin h
    cases h; exact ⟨a, c1, ha, h1, .updateDelay d⟩
  case setRoleAdmin r ar =>
    obtain ⟨a, c1, ha, h1, h⟩ := byAdmin h
    cases h; exact ⟨a, c1, ha, h1, .setRoleAdmin r ar⟩
  case transferAdmin new lu =>
    simp only [applyE, applyW, transferAdminW] at h
    obtain ⟨a, c1, ha, h1, h⟩ := byAdmin h
    obtain ⟨t, ht, rfl⟩ := withAdm_ok h
    refine ⟨a, c1, ha, h1, .transferAdmin new lu ?_⟩
    obtain ⟨t0, h3, rfl⟩ := map_eq_ok ht
    exact (OZ.RoleTransfer.transferRole_frame h3).1
  case renounceAdmin =>
    simp only [applyE, applyW, renounceAdminW, dropAdmin] at h
    obtain ⟨a, c1, ha, h1, h⟩ := byAdmin h
    split at h
    · cases h
    · cases h; exact ⟨a, c1, ha, h1, .renounceAdmin rfl⟩

theorem Entry.callerCall_cases {x : Entry} {k fn : Nat} {args : List Nat} (h : x.callerCall = some (k, fn, args)) :
    (∃ a r, x = .grantRole a r k ∨ x = .revokeRole a r k) ∨ ∃ r, x = .renounceRole r k := by
  cases x <;> cases h
  · exact .inl ⟨_, _, .inl rfl⟩
  · exact .inl ⟨_, _, .inr rfl⟩
  · exact .inr ⟨_, rfl⟩

theorem caller_ok {c c' : CState} {auth : List AuthTok} {sig : Option (List Meta)} {x : Entry} {k fn : Nat}
    {args : List Nat} (hx : x.callerCall = some (k, fn, args)) (h : applyE c auth sig x = .ok c') :
    ∃ c1, requireAuth checkAuth c auth sig k fn args = .ok c1 ∧ c1.ac = c.ac ∧ Body c1 x c' := by
  cases x <;> cases hx <;> obtain ⟨c1, h1, h⟩ := seq_ok h <;>
    refine ⟨c1, h1, (auth_step h1).1.ac, ?_⟩
  case grantRole a r | revokeRole a r =>
    simp only [guardedRoleChange] at h
    split at h
    · cases h
    · rename_i u h2
      obtain ⟨a', ha', rfl⟩ := withAc_ok h
      constructor
      · simpa [OZ.Access.ensureIfAdminOrAdminRole] using OZ.Access.require_iff.mp h2
      · exact ha'
  case renounceRole r =>
    obtain ⟨a', ha', rfl⟩ := withAc_ok h
    exact .renounceRole ha'

theorem Body.tl {c1 c' : CState} {x : Entry} (hb : Body c1 x c') (hx : x.callerCall.isSome) : c'.tl = c1.tl := by
  cases hb <;> first | rfl | cases hx

/-- the timelock call an entry point boils down to, on the state its authorization left -/
def Entry.tlCall : Entry → Option Timelock.Op
  | .scheduleOp op d _ => some (.schedule op d)
  | .cancelOp id _ => some (.cancel id)
  | .executeOp op _ ok => some (.execute op ok)
  | .advance n => some (.advance n)
  | .updateDelay d => some (.setMinDelay d)
  | _ => none

theorem Body.move {c1 c' : CState} {x : Entry} (hb : Body c1 x c') :
    c'.self = c1.self ∧ (OZ.Access.Inv c1.ac → OZ.Access.Inv c'.ac) ∧ c'.tl = run c1.tl x.tlCall.toList := by
  cases hb with
  | updateDelay d => exact ⟨rfl, id, rfl⟩
  | setRoleAdmin r ar => exact ⟨rfl, fun hi => hi.congr rfl rfl (fun _ => rfl) rfl, rfl⟩
  | transferAdmin _ _ _ | renounceAdmin _ => exact ⟨rfl, fun hi => hi.congr rfl rfl (fun _ => rfl) rfl, rfl⟩
  | grantRole _ hg => exact ⟨rfl, fun hi => (OZ.Access.grantRoleNoAuth_effect hi hg).1, rfl⟩
  | revokeRole _ hg | renounceRole hg => exact ⟨rfl, fun hi => (OZ.Access.revokeRoleNoAuth_effect hi hg).1, rfl⟩

theorem Body.consumed {c c1 c' : CState} {x : Entry} (hb : Body c1 x c') {auth : List AuthTok} {fn : Nat}
    {args : List Nat} {m : Meta} (h : Consumed c c1 auth fn args m) : Consumed c c' auth fn args m :=
  h.mono fun _ h1 => hb.move.2.2 ▸ run_ledger_one h1 _

/-- Every accepted invocation moves the timelock part by timelock calls only: the operations `__check_auth` marked
done, then the call the entry point is (`update_delay` is `set_min_delay`). The controller's address stays and the
access-control invariant is kept. -/
theorem applyE_decomp {c c' : CState} {auth : List AuthTok} {sig : Option (List Meta)} {x : Entry}
    (h : applyE c auth sig x = .ok c') :
    c'.self = c.self ∧ (OZ.Access.Inv c.ac → OZ.Access.Inv c'.ac) ∧
    ∃ ops : List Operation, c'.tl = run c.tl (ops.map .setExecute ++ x.tlCall.toList) := by
  have own : (∃ c1 who fn args, requireAuth checkAuth c auth sig who fn args = .ok c1 ∧ Body c1 x c') ∨
      (x.adminCall = none ∧ x.callerCall = none) := by
    cases hx : x.adminCall with
    | some fa => obtain ⟨a, c1, _, h1, hb⟩ := admin_ok hx h; exact .inl ⟨c1, a, _, _, h1, hb⟩
    | none =>
      cases hy : x.callerCall with
      | some kfa => obtain ⟨c1, h1, _, hb⟩ := caller_ok hy h; exact .inl ⟨c1, _, _, _, h1, hb⟩
      | none => exact .inr ⟨rfl, rfl⟩
  rcases own with ⟨c1, who, fn, args, h1, hb⟩ | ⟨hx, hy⟩
  · obtain ⟨ops, ho⟩ := requireAuth_tl h1
    obtain ⟨hs, hac, htl⟩ := hb.move
    exact ⟨hs.trans (auth_step h1).1.self, fun hi => hac ((auth_step h1).1.ac ▸ hi), ops, by rw [run_append, ← ho]; exact htl⟩
  · cases x with
    | updateDelay | setRoleAdmin | transferAdmin | renounceAdmin => cases hx
    | grantRole | revokeRole | renounceRole => cases hy
    | scheduleOp op d p =>
      obtain ⟨_, _, tl', hs, rfl⟩ := applyE_ok h
      exact ⟨rfl, id, [], (step_ok (x := .schedule op d) hs).symm⟩
    | cancelOp i k =>
      obtain ⟨_, _, tl', hs, rfl⟩ := applyE_ok h
      exact ⟨rfl, id, [], (step_ok (x := .cancel i) hs).symm⟩
    | executeOp op ex ok =>
      obtain ⟨_, tl', hs, rfl⟩ := applyE_ok h
      exact ⟨rfl, id, [], (step_ok (x := .execute op ok) hs).symm⟩
    | advance n =>
      obtain ⟨tl', hs, rfl⟩ := applyE_ok h
      exact ⟨rfl, fun hi => hi.congr rfl rfl (fun _ => rfl) rfl, [], (step_ok (x := .advance n) hs).symm⟩
    | acceptAdmin =>
      obtain ⟨t, _, _, _, _, _, rfl⟩ := applyE_ok h
      exact ⟨rfl, fun hi => hi.congr rfl rfl (fun _ => rfl) rfl, [], rfl⟩
    | checkAuth metas ctxs =>
      obtain ⟨ops, ho⟩ := checkPairs_tl (checkAuth_ok h).2
      exact ⟨(checkPairs_ok (checkAuth_ok h).2).1.self, fun hi => (checkPairs_ok (checkAuth_ok h).2).1.ac ▸ hi, ops,
        by rw [ho]; exact (List.append_nil _).symm ▸ rfl⟩

theorem applyE_ledger_one {c c' : CState} {auth : List AuthTok} {sig : Option (List Meta)} {e : Entry}
    (h : applyE c auth sig e = .ok c') {id : Id} (h1 : c.tl.ledger id = 1) : c'.tl.ledger id = 1 := by
  obtain ⟨_, _, ops, ho⟩ := applyE_decomp h
  rw [ho]; exact run_ledger_one h1 _

/-- the governance-relevant part of the state is unchanged: minimum delay, role membership, role
admins, admin, pending admin -/
def SameGov (c c' : CState) : Prop :=
  c'.tl.minDelay = c.tl.minDelay ∧ c'.ac.hasRole = c.ac.hasRole ∧ c'.ac.roleAdmin = c.ac.roleAdmin ∧
  c'.ac.adm.holder = c.ac.adm.holder ∧ c'.ac.adm.pending = c.ac.adm.pending

theorem Frame.sameGov {c c' : CState} (f : Frame c c') : SameGov c c' :=
  ⟨f.minDelay, by rw [f.ac], by rw [f.ac], by rw [f.ac], by rw [f.ac]⟩

end OZ.TimelockController
