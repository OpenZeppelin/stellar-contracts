import OZ.Lemmas.Gates
/-
Lemmas for the monitor soundness of C16 (OZ/Props/C16Mon.lean). What a call must satisfy for a group of checks to stay
silent is a `*Facts` structure in the monitor's terms; each check is set against its structure once (`v*_none`), and an
accepted call of each group of machines is the step of the monitor's ghost state (`*_quiet`).
-/
namespace OZ.Gates.Mon
open OZ.Host OZ.Fungible OZ.Gates
open OZ.FungibleMon (Kind orElse)

/-! ### the op line of a model operation

What `OZ.Drv.C16.parseLine` reads from the harness's rendering of an operation
(`fungible <kind> a=<addrs> .. auth=<signers>`, `fungible advance n=<k>`,
`gate <name> a=<addrs> d=.. auth=<signers>`) — the same words `parseOp` / `parseGate` build the
model's `GOp` from. A list change is rendered `allow` / `disallow` or (wording `w = true`)
`block` / `unblock`; `parseGate` reads both wordings as the same `setList`. -/

def kindOf : Fungible.Op → Kind
  | .mint _ _ => .mint
  | .transfer _ _ _ => .transfer
  | .transferFrom _ _ _ _ => .transferFrom
  | .approve _ _ _ _ => .approve
  | .burn _ _ => .burn
  | .burnFrom _ _ _ => .burnFrom
  | .advance _ => .advance

def advOf : Fungible.Op → Nat
  | .advance n => n
  | _ => 0

def setName (on w : Bool) : GName :=
  match on, w with
  | true, false => .allow
  | true, true => .block
  | false, false => .disallow
  | false, true => .unblock

def lineOf (w : Bool) (auth : List Nat) : GOp → Line
  | .tok o => ⟨.fungible (kindOf o), o.addrs, auth, advOf o⟩
  | .pause c => ⟨.gate .pause, [c], auth, 0⟩
  | .unpause c => ⟨.gate .unpause, [c], auth, 0⟩
  | .increment => ⟨.gate .increment, [], auth, 0⟩
  | .reset => ⟨.gate .reset, [], auth, 0⟩
  | .setList u on none => ⟨.gate (setName on w), [u], auth, 0⟩
  | .setList u on (some o) => ⟨.gate (setName on w), [u, o], auth, 0⟩
  | .enable => ⟨.gate .enable, [], auth, 0⟩
  | .ensure => ⟨.gate .ensure, [], auth, 0⟩
  | .complete => ⟨.gate .complete, [], auth, 0⟩
  | .migrate _ o => ⟨.gate .migrate, [o], auth, 0⟩
  | .upgrade o => ⟨.gate .upgrade, [o], auth, 0⟩
  | .setCap _ => ⟨.gate .setcap, [], auth, 0⟩

theorem isPausable_tok (o : Fungible.Op) : isPausable (.fungible (kindOf o)) = pausableOp o := by
  cases o <;> rfl

theorem vetted_tok (o : Fungible.Op) : vettedOfCall (.fungible (kindOf o)) o.addrs = vetted o := by
  cases o <;> rfl

theorem lineOf_setList (w : Bool) (auth : List Nat) (u : Nat) (on : Bool) (x : Option Nat) :
    lineOf w auth (.setList u on x) = ⟨.gate (setName on w), u :: x.toList, auth, 0⟩ := by
  cases x <;> rfl

theorem okSt_some {α : Type} {f : α → St} {r : Except Err α} {st' : St} (h : okSt f r = some st') :
    ∃ a, r = .ok a ∧ st' = f a := by
  cases r with
  | error e => cases h
  | ok a => injection h with h; exact ⟨a, rfl, h.symm⟩

theorem stepM_some {cfg : Cfg} {x : MSt} {auth : List Nat} {op : GOp} {st' : St}
    (h : applyModel cfg x.st auth op = some st') : stepM cfg x auth op = (⟨st', nowStep x.now op⟩, true) := by
  unfold stepM; rw [h]

theorem stepM_none {cfg : Cfg} {x : MSt} {auth : List Nat} {op : GOp}
    (h : applyModel cfg x.st auth op = none) : stepM cfg x auth op = (x, false) := by
  unfold stepM; rw [h]

theorem orElse_none {a : Option String} {b : Unit → Option String} (h : a = none) : orElse a b = b () := by
  subst h; rfl

/-- every check that judges one kind of machine is silent -/
def Silent (m : Mon) (l : Line) (o : Obs) : Prop :=
  vPause m l o = none ∧ vList m l o = none ∧ vListEv m l o = none ∧ vCap m l o = none ∧ vMig m l o = none

theorem verdict_none {m : Mon} {l : Line} {o : Obs} (h0 : vRollback m o = none) (q : Silent m l o)
    (h5 : vUnpause m l o = none) : verdict m l o = none := by
  unfold verdict
  rw [orElse_none h0, orElse_none q.1, orElse_none q.2.1, orElse_none q.2.2.1, orElse_none q.2.2.2.1,
    orElse_none q.2.2.2.2, h5]

theorem vRollback_none {m : Mon} {o : Obs} (h : o.ok = false → m.prev = none ∨ m.prev = some o.st) :
    vRollback m o = none := by
  unfold vRollback
  rw [if_neg]
  rintro ⟨h1, h2, h3⟩
  rcases h (by simpa using h1) with hp | hp
  · rw [hp] at h2; cases h2
  · exact h3 hp

theorem vPause_off {m : Mon} {l : Line} {o : Obs} (h : m.kind.hasPause = false) : vPause m l o = none := by
  unfold vPause
  rw [if_pos (by simp [h])]

theorem vList_off {m : Mon} {l : Line} {o : Obs} (h : m.kind.isList = false) : vList m l o = none := by
  unfold vList
  rw [if_pos (by simp [h])]

theorem vListEv_off {m : Mon} {l : Line} {o : Obs} (h : m.kind.isList = false) : vListEv m l o = none := by
  unfold vListEv
  rw [if_pos (by simp [h])]

theorem vListEv_rejected {m : Mon} {l : Line} {o : Obs} (h : o.ok = false) : vListEv m l o = none := by
  unfold vListEv
  by_cases hk : ¬ m.kind.isList
  · rw [if_pos hk]
  · rw [if_neg hk, if_neg (by simp [h]), if_neg (by simp [h])]

theorem vCap_off {m : Mon} {l : Line} {o : Obs} (h : m.kind ≠ .cap) : vCap m l o = none := by
  unfold vCap
  rw [if_pos h]

theorem vMig_off {m : Mon} {l : Line} {o : Obs} (h : m.kind ≠ .mig) : vMig m l o = none := by
  unfold vMig
  rw [if_pos h]

theorem vCap_none {m : Mon} {l : Line} {o : Obs} (h0 : ¬ (o.ok ∧ l.call = .gate .setcap)) (h1 : o.st.cap = some m.cap)
    (h2 : ¬ (m.sup < o.st.sup ∧ o.st.sup > m.cap)) : vCap m l o = none := by
  unfold vCap
  by_cases hk : m.kind ≠ .cap
  · rw [if_pos hk]
  · rw [if_neg hk, if_neg (fun h => h0 ⟨h.1, h.2.1⟩), if_neg h0, if_neg (fun h => h.2 h1), if_neg (fun h => h h1), if_neg h2]

theorem vCap_setcap {m : Mon} {l : Line} {o : Obs} (hok : o.ok = true) (hl : l.call = .gate .setcap) (c : Int)
    (hc : o.st.cap = some c) (h0 : 0 ≤ c) : vCap m l o = none := by
  unfold vCap
  by_cases hk : m.kind ≠ .cap
  · rw [if_pos hk]
  · rw [if_neg hk, if_neg (by rw [hc]; simp; omega), if_pos ⟨hok, hl⟩]

theorem ghostStep_false (m : Mon) (l : Line) : ghostStep m l false = m.ghost := rfl

theorem creditStep_false (m : Mon) (l : Line) : creditStep m l false = m.credit := rfl

theorem pausedStep_false (m : Mon) (l : Line) : pausedStep m l false = m.paused := rfl

theorem ghostStep_true {m : Mon} (l : Line) (h : m.kind.isList = true) : ghostStep m l true = listStep m.ghost l := by
  unfold ghostStep
  rw [if_pos (by simp [h])]

theorem creditStep_true (m : Mon) (l : Line) : creditStep m l true = creditF m.credit l := rfl

theorem pausedStep_true {m : Mon} (l : Line) (h : m.kind.hasPause = true) : pausedStep m l true = pausedF m.paused l := by
  unfold pausedStep
  rw [if_pos (by simp [h])]

theorem listStep_fungible (g : Nat → Bool) (k : Kind) (a auth : List Nat) (n : Nat) :
    listStep g ⟨.fungible k, a, auth, n⟩ = g := by
  unfold listStep
  split <;> first | rfl | (rename_i h _; cases h)

theorem listStep_set (g : Nat → Bool) (on w : Bool) (u : Nat) (rest auth : List Nat) (n : Nat) :
    listStep g ⟨.gate (setName on w), u :: rest, auth, n⟩ = upd g u on := by
  cases on <;> cases w <;> rfl

theorem pausedF_other (p : Bool) (l : Line) (h1 : l.call ≠ .gate .pause) (h2 : l.call ≠ .gate .unpause) :
    pausedF p l = p := by
  unfold pausedF
  rw [if_neg h1, if_neg h2]

theorem creditF_other (c : Bool) (l : Line) (h1 : l.call ≠ .gate .enable) (h2 : l.call ≠ .gate .upgrade)
    (h3 : l.call ≠ .gate .migrate) (h4 : l.call ≠ .gate .complete) : creditF c l = c := by
  unfold creditF
  rw [if_neg (fun h => h.elim h1 h2), if_neg (fun h => h.elim h3 h4)]

/-! ### the facts per group of checks -/

structure PauseFacts (paused : Bool) (owner : Nat) (l : Line) (paused' : Bool) : Prop where
  bypass : paused = true → isPausable l.call = false
  reset : l.call = .gate .reset → paused = true
  pause : l.call = .gate .pause → paused = false ∧ l.a.head? = some owner ∧ owner ∈ l.auth
  unpause : l.call = .gate .unpause → paused = true ∧ l.a.head? = some owner ∧ owner ∈ l.auth
  step : paused' = pausedF paused l

theorem vPause_none {m : Mon} {l : Line} {o : Obs}
    (F : o.ok = true → PauseFacts m.paused m.owner l (pausedF m.paused l))
    (h : o.st.paused = pausedStep m l o.ok) : vPause m l o = none := by
  unfold vPause
  cases hk : m.kind.hasPause
  · rw [if_pos (by simp)]
  -- the five bare `if_neg` leave their conditions as side goals, the last check of the chain first
  · rw [if_neg (by simp), if_neg, if_neg, if_neg, if_neg, if_neg, if_neg (fun c => c.2 h), if_neg (fun c => c h)]
    · rintro ⟨hok, hq, hp⟩
      have : l.a.head? = some m.owner ∧ m.owner ∈ l.auth := by
        rcases hq with hq | hq
        · exact ((F hok).pause hq).2
        · exact ((F hok).unpause hq).2
      rcases hp with hp | hp
      · exact hp this.1
      · exact hp (by simpa using this.2)
    · rintro ⟨hok, hq, hp⟩
      exact hp ((F hok).unpause hq).1
    · rintro ⟨hok, hq, hp⟩
      rw [((F hok).pause hq).1] at hp; cases hp
    · rintro ⟨hok, hp, hq⟩
      exact hp ((F hok).reset hq)
    · rintro ⟨hok, hp, hq⟩
      rw [(F hok).bypass hp] at hq; cases hq

theorem pause_accepted {m : Mon} {l : Line} {o : Obs} {paused' : Bool} (hk : m.kind.hasPause = true)
    (hok : o.ok = true) (hobs : o.st.paused = paused') (F : PauseFacts m.paused m.owner l paused') :
    vPause m l o = none ∧ pausedStep m l o.ok = paused' := by
  have hs : pausedStep m l o.ok = paused' := by rw [hok, pausedStep_true l hk, F.step]
  exact ⟨vPause_none (fun _ => F.step ▸ F) (hobs.trans hs.symm), hs⟩

theorem pause_rejected {m : Mon} {l : Line} {o : Obs} (hok : o.ok = false) (hobs : o.st.paused = m.paused) :
    vPause m l o = none :=
  vPause_none (fun h => by rw [hok] at h; cases h) (by rw [hok]; exact hobs)

/-- `ak`: allow list; `ex`: an example contract, whose list changes need the manager -/
structure ListFacts (ak ex : Bool) (mgr : Nat) (listed : Nat → Bool) (l : Line) (listed' : Nat → Bool) : Prop where
  vetted : ∀ p ∈ vettedOfCall l.call l.a, listed p = ak
  role : ex = true → l.call.isGate = true → l.a.getD 1 99 = mgr ∧ mgr ∈ l.auth
  step : listed' = listStep listed l

theorem vList_none {m : Mon} {l : Line} {o : Obs}
    (F : o.ok = true → ListFacts m.kind.allowKind m.kind.isEx m.mgr m.ghost l (listStep m.ghost l))
    (h : o.st.list = statusList (ghostStep m l o.ok)) : vList m l o = none := by
  unfold vList
  cases hk : m.kind.isList
  · rw [if_pos (by simp)]
  · rw [if_neg (by simp), if_neg (fun c => c.2 h), if_neg (fun c => c h), if_neg, if_neg]
    · rintro ⟨hok, hg, he, c⟩
      obtain ⟨h1, h2⟩ := (F hok).role he hg
      rcases c with c | c
      · exact c h1
      · exact c (by simpa using h2)
    · rintro ⟨hok, c⟩
      rw [List.any_eq_true] at c
      obtain ⟨p, hp, hne⟩ := c
      rw [(F hok).vetted p hp] at hne
      simp at hne

theorem list_accepted {m : Mon} {l : Line} {o : Obs} {listed' : Nat → Bool} (hk : m.kind.isList = true)
    (hok : o.ok = true) (hobs : o.st.list = statusList listed')
    (F : ListFacts m.kind.allowKind m.kind.isEx m.mgr m.ghost l listed') :
    vList m l o = none ∧ ghostStep m l o.ok = listed' := by
  have hs : ghostStep m l o.ok = listed' := by rw [hok, ghostStep_true l hk, F.step]
  exact ⟨vList_none (fun _ => F.step ▸ F) (by rw [hs, hobs]), hs⟩

theorem list_rejected {m : Mon} {l : Line} {o : Obs} (hok : o.ok = false) (hobs : o.st.list = statusList m.ghost) :
    vList m l o = none :=
  vList_none (fun h => by rw [hok] at h; cases h) (by rw [hok]; exact hobs)

structure MigFacts (credit : Bool) (owner : Nat) (l : Line) (credit' : Bool) : Prop where
  need : l.call = .gate .migrate ∨ l.call = .gate .ensure → credit = true
  owner : l.call = .gate .migrate ∨ l.call = .gate .upgrade → l.a.head? = some owner ∧ owner ∈ l.auth
  step : credit' = creditF credit l

theorem vMig_none {m : Mon} {l : Line} {o : Obs}
    (F : o.ok = true → MigFacts m.credit m.owner l (creditF m.credit l))
    (h : o.st.migrating = creditStep m l o.ok) : vMig m l o = none := by
  unfold vMig
  by_cases hk : m.kind ≠ .mig
  · rw [if_pos hk]
  · rw [if_neg hk, if_neg, if_neg (fun c => c.2 h), if_neg (fun c => c h), if_neg]
    · rintro ⟨hok, hq, c⟩
      obtain ⟨h1, h2⟩ := (F hok).owner hq
      rcases c with c | c
      · exact c h1
      · exact c (by simpa using h2)
    · rintro ⟨hok, hq, hc⟩
      exact hc ((F hok).need hq)

theorem mig_accepted {m : Mon} {l : Line} {o : Obs} {credit' : Bool} (hok : o.ok = true)
    (hobs : o.st.migrating = credit') (F : MigFacts m.credit m.owner l credit') :
    vMig m l o = none ∧ creditStep m l o.ok = credit' := by
  have hs : creditStep m l o.ok = credit' := by rw [hok, creditStep_true, F.step]
  exact ⟨vMig_none (fun _ => F.step ▸ F) (by rw [hs, hobs]), hs⟩

theorem mig_rejected {m : Mon} {l : Line} {o : Obs} (hok : o.ok = false) (hobs : o.st.migrating = m.credit) :
    vMig m l o = none :=
  vMig_none (fun h => by rw [hok] at h; cases h) (by rw [hok]; exact hobs)

/-! ### the event check of a list machine (`vListEv`) -/

theorem isListEv_evOf (ak on : Bool) (u : Nat) : isListEv (evOf ak on u) = true := by
  cases ak <;> cases on <;> rfl

theorem setOf_setName (on w : Bool) : setOf (.gate (setName on w)) = some on := by
  cases on <;> cases w <;> rfl

theorem expected_noop {ak : Bool} {g : Nat → Bool} {l : Line} (h : noopF g l = true) : expectedEvF ak g l = [] := by
  unfold noopF at h
  unfold expectedEvF
  split
  · rename_i on u h1 h2
    rw [h1, h2] at h
    rw [if_pos (by simpa using h)]
  · rfl

/-- `lev`: the list events the call emitted; `unchanged`: it left the whole state as it was -/
structure ListEvFacts (ak : Bool) (listed : Nat → Bool) (l : Line) (lev : List GEvent) (unchanged : Prop) : Prop where
  events : lev = expectedEvF ak listed l
  noop : noopF listed l = true → unchanged

theorem listEv_accepted {m : Mon} {l : Line} {o : Obs} {unchanged : Prop}
    (F : ListEvFacts m.kind.allowKind m.ghost l o.lev unchanged)
    (hu : unchanged → m.prev = none ∨ m.prev = some o.st) : vListEv m l o = none := by
  unfold vListEv
  by_cases hk : ¬ m.kind.isList
  · rw [if_pos hk]
  · rw [if_neg hk, if_neg, if_neg]
    · rintro ⟨-, h⟩
      exact h F.events
    · rintro ⟨-, hn, h⟩
      rcases h with h | ⟨h1, h2⟩
      · exact h (by rw [F.events]; exact expected_noop hn)
      · rcases hu (F.noop hn) with hp | hp
        · rw [hp] at h1; cases h1
        · exact h2 hp

theorem listEv_set (ak on w : Bool) (g : Nat → Bool) (u : Nat) (rest auth : List Nat) (n : Nat)
    (log log' : List GEvent) (unchanged : Prop)
    (hlog : log' = if g u = on then log else log ++ [evOf ak on u]) (hun : g u = on → unchanged) :
    ListEvFacts ak g ⟨.gate (setName on w), u :: rest, auth, n⟩ ((log'.drop log.length).filter isListEv) unchanged := by
  refine ⟨?_, ?_⟩
  · simp only [expectedEvF, setOf_setName, List.head?_cons]
    rw [hlog]
    by_cases h : g u = on
    · rw [if_pos h, if_pos h, List.drop_length]; rfl
    · rw [if_neg h, if_neg h, List.drop_left]
      simp [isListEv_evOf]
  · intro h
    simp only [noopF, setOf_setName, List.head?_cons] at h
    exact hun (by simpa using h)

theorem tok_listFacts {ak ex : Bool} {mgr : Nat} {g : Nat → Bool} (w : Bool) (auth : List Nat) {o : Fungible.Op}
    (log : List GEvent) (unchanged : Prop) (hv : ∀ p ∈ vetted o, g p = ak) :
    ListFacts ak ex mgr g (lineOf w auth (.tok o)) g ∧
      ListEvFacts ak g (lineOf w auth (.tok o)) ((log.drop log.length).filter isListEv) unchanged :=
  ⟨⟨fun p hp => hv p (vetted_tok o ▸ hp), fun _ hg => (by cases hg), (listStep_fungible _ _ _ _ _).symm⟩,
    ⟨by rw [List.drop_length]; rfl, fun h => by simp [noopF, setOf, lineOf] at h⟩⟩

/-- `x`: the operator named on the line, if any -/
theorem set_listFacts {ak ex : Bool} {mgr : Nat} (w : Bool) (auth : List Nat) (s : LTok) (u : Nat) (on : Bool)
    (x : Option Nat) (unchanged : Prop) (hrole : ex = true → x = some mgr ∧ mgr ∈ auth)
    (hun : s.listed u = on → unchanged) :
    ListFacts ak ex mgr s.listed (lineOf w auth (.setList u on x)) (setFn ak on s u).listed ∧
      ListEvFacts ak s.listed (lineOf w auth (.setList u on x))
        (((setFn ak on s u).log.drop s.log.length).filter isListEv) unchanged := by
  rw [lineOf_setList]
  refine ⟨⟨nofun, fun he _ => ?_, (setFn_listed ak on s u).trans (listStep_set _ _ _ _ _ _ _).symm⟩,
    listEv_set _ _ _ _ _ _ _ _ _ _ _ (setFn_log ak on s u) hun⟩
  obtain ⟨rfl, h2⟩ := hrole he
  exact ⟨rfl, h2⟩

/-! ### each machine is judged by its own checks only -/

theorem pause_silent {m : Mon} {l : Line} {o : Obs} (hk : m.kind = .ptok ∨ m.kind = .pcnt)
    (q : vPause m l o = none) : Silent m l o := by
  rcases hk with hk | hk <;>
    exact ⟨q, vList_off (by rw [hk]; rfl), vListEv_off (by rw [hk]; rfl), vCap_off (by rw [hk]; decide),
      vMig_off (by rw [hk]; decide)⟩

theorem list_silent {m : Mon} {l : Line} {o : Obs}
    (hk : m.kind = .alib ∨ m.kind = .blib ∨ m.kind = .aex ∨ m.kind = .bex)
    (q : vList m l o = none) (q' : vListEv m l o = none) : Silent m l o := by
  rcases hk with hk | hk | hk | hk <;>
    exact ⟨vPause_off (by rw [hk]; rfl), q, q', vCap_off (by rw [hk]; decide), vMig_off (by rw [hk]; decide)⟩

theorem cap_silent {m : Mon} {l : Line} {o : Obs} (hk : m.kind = .cap) (q : vCap m l o = none) : Silent m l o :=
  ⟨vPause_off (by rw [hk]; rfl), vList_off (by rw [hk]; rfl), vListEv_off (by rw [hk]; rfl), q,
    vMig_off (by rw [hk]; decide)⟩

theorem mig_silent {m : Mon} {l : Line} {o : Obs} (hk : m.kind = .mig) (q : vMig m l o = none) : Silent m l o :=
  ⟨vPause_off (by rw [hk]; rfl), vList_off (by rw [hk]; rfl), vListEv_off (by rw [hk]; rfl),
    vCap_off (by rw [hk]; decide), q⟩

/-! ### an accepted call, per group of machines

`ha` is what `AgreeSt` (OZ/Props/C16Mon.lean) says of a machine of kind `k` before the call (for the capped token: its
first and last part), the conclusion what it says after it: both are used at each machine by unfolding. `cap_quiet` is
for any call but an accepted `set_cap`, rejected ones too. -/

theorem pause_quiet {m : Mon} {l : Line} {o : Obs} {k : MKind} {paused paused' : Bool} {owner owner' : Nat}
    (hk : k = .ptok ∨ k = .pcnt) (ha : m.kind = k ∧ m.paused = paused ∧ m.owner = owner) (ho : owner' = owner)
    (F : PauseFacts paused owner l paused') (hok : o.ok = true) (hobs : o.st.paused = paused') :
    Silent m l o ∧ m.kind = k ∧ pausedStep m l o.ok = paused' ∧ m.owner = owner' := by
  obtain ⟨rfl, rfl, rfl⟩ := ha
  obtain ⟨q, hs⟩ := pause_accepted (by rcases hk with h | h <;> rw [h] <;> rfl) hok hobs F
  exact ⟨pause_silent hk q, rfl, hs, ho.symm⟩

theorem list_quiet {m : Mon} {l : Line} {o : Obs} {k : MKind} {listed listed' : Nat → Bool} {unchanged : Prop}
    (hk : k = .alib ∨ k = .blib ∨ k = .aex ∨ k = .bex) (ha : m.kind = k ∧ m.ghost = listed)
    (F : ListFacts k.allowKind k.isEx m.mgr listed l listed') (E : ListEvFacts k.allowKind listed l o.lev unchanged)
    (hok : o.ok = true) (hobs : o.st.list = statusList listed')
    (hu : unchanged → m.prev = none ∨ m.prev = some o.st) :
    Silent m l o ∧ m.kind = k ∧ ghostStep m l o.ok = listed' := by
  obtain ⟨rfl, rfl⟩ := ha
  obtain ⟨q, hs⟩ := list_accepted (by rcases hk with h | h | h | h <;> rw [h] <;> rfl) hok hobs F
  exact ⟨list_silent hk q (listEv_accepted E hu), rfl, hs⟩

theorem mig_quiet {m : Mon} {l : Line} {o : Obs} {credit credit' : Bool} {owner owner' : Nat}
    (ha : m.kind = .mig ∧ m.credit = credit ∧ m.owner = owner) (ho : owner' = owner)
    (F : MigFacts credit owner l credit') (hok : o.ok = true) (hobs : o.st.migrating = credit') :
    Silent m l o ∧ m.kind = .mig ∧ creditStep m l o.ok = credit' ∧ m.owner = owner' := by
  obtain ⟨hk, rfl, rfl⟩ := ha
  obtain ⟨q, hs⟩ := mig_accepted hok hobs F
  exact ⟨mig_silent hk q, hk, hs, ho.symm⟩

theorem cap_quiet {m : Mon} {l : Line} {o : Obs} {cap' : Option Int} {sup sup' : Int}
    (ha : m.kind = .cap ∧ m.sup = sup) (hcall : ¬ (o.ok ∧ l.call = .gate .setcap)) (hc : cap' = some m.cap)
    (hs : sup' = sup ∨ sup' ≤ m.cap) (hobs : o.st.cap = cap') (hobs' : o.st.sup = sup') :
    Silent m l o ∧ m.kind = .cap ∧ cap' = some (capStep m l o) ∧ o.st.sup = sup' := by
  obtain ⟨hk, rfl⟩ := ha
  subst hobs hobs'
  refine ⟨cap_silent hk (vCap_none hcall hc ?_), hk, hc.trans (congrArg some (if_neg hcall).symm), rfl⟩
  rintro ⟨h1, h2⟩
  rcases hs with h | h
  · exact Int.lt_irrefl _ (h ▸ h1)
  · exact Int.lt_irrefl _ (Int.lt_of_lt_of_le h2 h)

end OZ.Gates.Mon
