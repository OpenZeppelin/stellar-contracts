import OZ.Lemmas.TempMap
import OZ.Model.Nft
import OZ.Lemmas.Sim
/-
Each `*_shape` statement gives the body of a generated approval function with the store cell as a VARIABLE `x` (what
`st.Approval id` / `st.ApprovalForAll o p` holds) and says which model function it computes once the model's entry is
`x` (translated, `mapT`). `NftT.Store` and `NftF.Store` have the same five functions over different records; their
theorems are instances, found by unification after unfolding the generated function.
-/
namespace OZ.Gen
open OZ.Rs OZ.Host

variable {α β : Type}

/-- `storeOperator` and `storeApproval` go through this one eliminator, so that one rule covers both -/
def extended (x : Option (Temp α)) (k : Temp α → OZ.Nft.Core) : Except OZ.Nft.Err OZ.Nft.Core :=
  match x with
  | none => .error .hostError
  | some e => .ok (k e)

theorem storeOperator_eq (cfg : Cfg) (c : OZ.Nft.Core) (o p lu : Nat) :
    OZ.Nft.storeOperator cfg c o p lu =
      extended (Temp.extend cfg (Temp.set cfg (c.operator o p) c.now lu) c.now (lu - c.now) (lu - c.now))
        fun e => { c with operator := upd2 c.operator o p (some e) } := by
  unfold OZ.Nft.storeOperator extended
  cases Temp.extend cfg (Temp.set cfg (c.operator o p) c.now lu) c.now (lu - c.now) (lu - c.now) <;> rfl

theorem storeApproval_mapT (f : α → OZ.Nft.ApprovalData) (cfg : Cfg) (c : OZ.Nft.Core) (id : Nat)
    {x : Option (Temp α)} (hx : c.approval id = x.map (mapT f)) (v : α) (d : OZ.Nft.ApprovalData) (hv : f v = d) :
    OZ.Nft.storeApproval cfg c id d =
      extended (Temp.extend cfg (Temp.set cfg x c.now v) c.now (d.liveUntilLedger - c.now) (d.liveUntilLedger - c.now))
        fun e => { c with approval := upd c.approval id (some (mapT f e)) } := by
  unfold OZ.Nft.storeApproval extended
  rw [hx, ← hv, set_mapT, extend_mapT]
  cases Temp.extend cfg (Temp.set cfg x c.now v) c.now ((f v).liveUntilLedger - c.now) ((f v).liveUntilLedger - c.now) <;> rfl

variable {σ τ ε : Type}

theorem auth_iff {authorized : Nat → Bool} {auth : List Nat} (hauth : ∀ a, authorized a = decide (a ∈ auth)) (a : Nat) :
    authorized a = true ↔ OZ.Nft.requireAuth auth a = .ok () := by
  rw [hauth]; unfold OZ.Nft.requireAuth; by_cases h : a ∈ auth <;> simp [h]

theorem passes_ofExcept {γ : Type} (x : Except ε γ) (passes : Comp γ → Bool)
    (hok : ∀ a, passes (.ok a) = true) (hp : passes .panic = false) : passes (Comp.ofExcept x) = x.isOk := by
  cases x with
  | ok a => exact hok a
  | error e => exact hp

section shapes
open OZ.Nft
variable {D : Type}

theorem getApproved_shape (conv : D → ApprovalData) {c : Core} {id now : Nat} {x : Option (Temp D)}
    (hx : c.approval id = x.map (mapT conv)) (hnow : c.now = now) :
    optCase (Temp.get? x now)
      (fun d => if (conv d).liveUntilLedger < now then Comp.ok none else Comp.ok (some (conv d).approved))
      (Comp.ok none) = .ok (getApproved c id) := by
  unfold getApproved
  rw [hx, hnow, get?_mapT]
  cases Temp.get? x now with
  | none => rfl
  | some d =>
    simp only [optCase_some, Option.map_some, Option.bind_some, approvedOf]
    split <;> rfl

theorem isApprovedForAll_shape {c : Core} {o p now : Nat} {x : Option (Temp Nat)}
    (hx : c.operator o p = x) (hnow : c.now = now) :
    optCase (Temp.get? x now) (fun lu => if lu ≥ now then Comp.ok true else Comp.ok false) (Comp.ok false)
      = .ok (isApprovedForAll c o p) := by
  unfold isApprovedForAll
  rw [hx, hnow]
  cases Temp.get? x now with
  | none => rfl
  | some lu =>
    simp only [optCase_some]
    by_cases h : lu ≥ now
    · rw [if_pos h, decide_eq_true h]
    · rw [if_neg h, decide_eq_false h]

theorem checkSpender_shape {c : Core} {sp o id : Nat} {q1 : Comp (Option Nat)} {q2 : Comp Bool}
    (h1 : q1 = .ok (getApproved c id)) (h2 : q2 = .ok (isApprovedForAll c o sp)) :
    (q1.bind fun t1 => q2.bind fun t4 =>
      if ((¬ decide (sp = o) = true) ∧ ¬ decide (t1 = some sp) = true) ∧ ¬ t4 = true then Comp.panic else Comp.ok ())
      = Comp.ofExcept (checkSpenderApproval c sp o id) := by
  rw [h1, h2]
  unfold checkSpenderApproval
  simp only [Comp.bind_ok, decide_eq_true_eq, Bool.not_eq_true, and_assoc, ne_eq]
  split <;> rfl

/-- what `Abs` of OZ/Props/C11GenT.lean and `AbsC` of OZ/Props/C11GenRef.lean unfold to -/
def AbsCells (convT : Temp D → Temp ApprovalData) (now : Nat) (A : Nat → Option (Temp D))
    (F : Nat → Nat → Option (Temp Nat)) (c : Core) : Prop :=
  c.now = now ∧ (∀ id, c.approval id = (A id).map convT) ∧ (∀ o p, c.operator o p = F o p)

section
variable {convT : Temp D → Temp ApprovalData} {now : Nat} {A : Nat → Option (Temp D)}
  {F : Nat → Nat → Option (Temp Nat)} {c : Core}

theorem AbsCells.approval (h : AbsCells convT now A F c) (id : Nat) (v : Option (Temp D)) :
    AbsCells convT now (fun i => if i = id then v else A i) F { c with approval := upd c.approval id (v.map convT) } := by
  refine ⟨h.1, fun i => ?_, h.2.2⟩
  show (if i = id then _ else _) = Option.map convT (if i = id then v else A i)
  by_cases hi : i = id
  · rw [if_pos hi, if_pos hi]
  · rw [if_neg hi, if_neg hi]; exact h.2.1 i

theorem AbsCells.operator (h : AbsCells convT now A F c) (o p : Nat) (v : Option (Temp Nat)) :
    AbsCells convT now A (fun x y => if x = o ∧ y = p then v else F x y) { c with operator := upd2 c.operator o p v } := by
  refine ⟨h.1, h.2.1, fun x y => ?_⟩
  show (if x = o ∧ y = p then _ else _) = (if x = o ∧ y = p then v else F x y)
  by_cases hh : x = o ∧ y = p
  · rw [if_pos hh, if_pos hh]
  · rw [if_neg hh, if_neg hh]; exact h.2.2 x y

end

/-- `cell` is what the store holds under the key after the `set` -/
theorem writeOrClear_sim {R : τ → Core → Prop} (cfg : Cfg) (hmin : 1 ≤ cfg.minTempTtl)
    (x : Option (Temp α)) (now lu : Nat) (v : α) {cell : Option (Temp α)} (hcell : cell = some (Temp.set cfg x now v))
    {Dl : τ} {W : Temp α → τ} {cD : Core} {cW : Temp α → Core} (hD : R Dl cD) (hW : ∀ e, R (W e) (cW e)) :
    Sim (onStore R)
      (if lu = 0 then Comp.ok ((), Dl) else if lu < now then Comp.panic
       else Comp.bind (uN_sub 32 lu now) fun t => tempExtend cfg cell now t t fun e => Comp.ok ((), W e))
      (if lu = 0 then .ok cD else if lu < now then .error .invalidLiveUntil
       else extended (Temp.extend cfg (Temp.set cfg x now v) now (lu - now) (lu - now)) cW) := by
  refine Sim.ite Iff.rfl (fun _ => Sim.pure hD) fun _ => Sim.refuse _ Iff.rfl fun hlt => ?_
  rw [hcell, extend_after_set cfg hmin _ hlt]
  cases Temp.extend cfg (Temp.set cfg x now v) now (lu - now) (lu - now) with
  | none => rfl
  | some e => exact Sim.pure (hW e)

/-- the translation repeats the continuation `g` in both arms -/
theorem approverGate_sim {Q : β → σ → Prop} {c : Core} {owner approver : Nat} {q : Comp Bool}
    (hq : q = .ok (isApprovedForAll c owner approver)) {m : Except Err σ} {g : Comp β} (h : Sim Q g m) :
    Sim Q (if approver ≠ owner then q.bind fun t => if t = true then g else Comp.panic else g)
      (if approver ≠ owner ∧ isApprovedForAll c owner approver = false then .error .invalidApprover else m) := by
  rw [hq]
  by_cases hne : approver ≠ owner
  · rw [if_pos hne, Comp.bind_ok]
    cases isApprovedForAll c owner approver with
    | false => rw [if_neg Bool.false_ne_true, if_pos ⟨hne, rfl⟩]; rfl
    | true => rw [if_pos rfl, if_neg (fun h => Bool.noConfusion h.2)]; exact h
  · rw [if_neg hne, if_neg (fun h => hne h.1)]; exact h

end shapes

end OZ.Gen
