import OZ.Lemmas.Policies
import OZ.Model.PoliciesMon
/-
Soundness of the C14 monitor (OZ/Props/C14Mon.lean), model side: the structured observation of a model state
(`modelObs`), what the monitor's look-ups in it return, and the monitor's reading of a reported weight map.
-/
namespace OZ.Policies.Mon
open OZ.Host OZ.Policies

theorem nsum_eq_sum (l : List Nat) : nsum l = l.sum := List.sum_eq_foldl.symm

theorem isum_eq_sum (l : List Int) : isum l = l.sum := List.sum_eq_foldl.symm

theorem sortedNat_of_pairwise : ∀ l : List Nat, l.Pairwise (· ≤ ·) → sortedNat l = true
  | [], _ => rfl
  | [_], _ => rfl
  | a :: b :: rest, h => by
    unfold sortedNat
    have h1 : a ≤ b := List.rel_of_pairwise_cons h (by simp)
    have h2 := sortedNat_of_pairwise (b :: rest) (List.Pairwise.of_cons h)
    simp [h1, h2]

theorem nodup_of_nodupNat : ∀ l : List Nat, nodupNat l = true → l.Nodup
  | [], _ => List.nodup_nil
  | a :: rest, h => by
    unfold nodupNat at h
    simp only [Bool.and_eq_true, Bool.not_eq_true', List.contains_eq_mem, decide_eq_false_iff_not] at h
    exact List.nodup_cons.mpr ⟨h.1, nodup_of_nodupNat rest h.2⟩

/-! ### the structured observation of a model state -/

def toS (k : Nat × Nat) (t : Nat) : Nat × Nat × Nat := (k.1, k.2, t)
def toW (k : Nat × Nat) (p : Weighted.Params) : WObs := ⟨k.1, k.2, p.threshold, p.weights⟩
def toL (k : Nat × Nat) (d : Spend.Data) : LObs :=
  ⟨k.1, k.2, d.limit, d.period, d.cached, d.history.map (fun e => (e.amount, e.ledger))⟩

/-- `obsS`, `obsW`, `obsL`: the getters over the universe, as `showS` / `showW` / `showL` print them and `parseS` /
`parseW` / `parseL` read them back -/
def obsS (s : Simple.State) : List (Nat × Nat × Nat) := keys.filterMap (fun k => (s.thr k.1 k.2).map (toS k))
def obsW (s : Weighted.State) : List WObs := keys.filterMap (fun k => (s.par k.1 k.2).map (toW k))
def obsL (s : Spend.State) : List LObs := keys.filterMap (fun k => (s.store k.1 k.2).map (toL k))

/-- the observation line the model driver prints for state `m` and the model's answer `out`
(OZ/Drv/C14.lean `line`: `<tag> r=<res> S=.. W=.. L=.. now=.. ev=.. dem=..`), as `parseObs` reads it -/
def modelObs (m : M) (out : Out) : Obs :=
  { ok := out.tag == "ok", res := out.res, S := obsS m.s, W := obsW m.w, L := obsL m.l, now := m.l.now,
    ev := out.ev, dem := out.dem, stateStr := stateStr m }

theorem keys_eq : keys = [(0, 0), (0, 1), (1, 0), (1, 1)] := by decide

theorem mem_keys {a r : Nat} (ha : a < NA) (hr : r < NR) : (a, r) ∈ keys :=
  List.mem_flatMap.mpr ⟨a, List.mem_range.mpr ha, List.mem_map.mpr ⟨r, List.mem_range.mpr hr, rfl⟩⟩

theorem find_obsS (s : Simple.State) {a r : Nat} (ha : a < NA) (hr : r < NR) :
    ((obsS s).find? (fun x => x.1 = a ∧ x.2.1 = r)).map (·.2.2) = s.thr a r := by
  unfold obsS
  rw [OZ.Lists.find?_filterMap_key (fun k => (s.thr k.1 k.2).map (toS k)) (fun x => decide (x.1 = a ∧ x.2.1 = r)) (a, r)
    (fun k v h => by
      obtain ⟨w, -, rfl⟩ := Option.map_eq_some_iff.mp h
      exact decide_eq_decide.mpr (by simp [toS, Prod.ext_iff])), if_pos (mem_keys ha hr)]
  cases s.thr a r <;> rfl

theorem find_obsW (s : Weighted.State) {a r : Nat} (ha : a < NA) (hr : r < NR) :
    (obsW s).find? (fun w => w.a = a ∧ w.r = r) = (s.par a r).map (toW (a, r)) := by
  unfold obsW
  rw [OZ.Lists.find?_filterMap_key (fun k => (s.par k.1 k.2).map (toW k)) (fun w => decide (w.a = a ∧ w.r = r)) (a, r)
    (fun k v h => by
      obtain ⟨w, -, rfl⟩ := Option.map_eq_some_iff.mp h
      exact decide_eq_decide.mpr (by simp [toW, Prod.ext_iff])), if_pos (mem_keys ha hr)]

theorem find_obsL (s : Spend.State) {a r : Nat} (ha : a < NA) (hr : r < NR) :
    (obsL s).find? (fun d => d.a = a ∧ d.r = r) = (s.store a r).map (toL (a, r)) := by
  unfold obsL
  rw [OZ.Lists.find?_filterMap_key (fun k => (s.store k.1 k.2).map (toL k)) (fun d => decide (d.a = a ∧ d.r = r)) (a, r)
    (fun k v h => by
      obtain ⟨w, -, rfl⟩ := Option.map_eq_some_iff.mp h
      exact decide_eq_decide.mpr (by simp [toL, Prod.ext_iff])), if_pos (mem_keys ha hr)]

theorem mem_filterMap_key {α β : Type} {f : Nat × Nat → Option α} {g : Nat × Nat → α → β} {ks : List (Nat × Nat)}
    {x : β} (h : x ∈ ks.filterMap (fun k => (f k).map (g k))) : ∃ k v, f k = some v ∧ g k v = x := by
  obtain ⟨k, _, hk⟩ := List.mem_filterMap.mp h
  cases hv : f k with
  | none => rw [hv] at hk; cases hk
  | some v => rw [hv] at hk; injection hk with hk; exact ⟨k, v, hv, hk⟩

theorem mem_obsS {s : Simple.State} {x : Nat × Nat × Nat} (h : x ∈ obsS s) : s.thr x.1 x.2.1 = some x.2.2 := by
  obtain ⟨k, t, ht, rfl⟩ := mem_filterMap_key h
  exact ht

theorem mem_obsW {s : Weighted.State} {x : WObs} (h : x ∈ obsW s) :
    ∃ p, s.par x.a x.r = some p ∧ x.thr = p.threshold ∧ x.ws = p.weights := by
  obtain ⟨k, p, hp, rfl⟩ := mem_filterMap_key h
  exact ⟨p, hp, rfl, rfl⟩

theorem mem_obsL {s : Spend.State} {x : LObs} (h : x ∈ obsL s) :
    ∃ d, s.store x.a x.r = some d ∧ x = toL (x.a, x.r) d := by
  obtain ⟨k, d, hd, rfl⟩ := mem_filterMap_key h
  exact ⟨d, hd, rfl⟩

/-! ### the monitor's reading of a reported weight map -/

theorem find_eq_lookup (ws : Weighted.WMap) (k : Nat) :
    (ws.find? (fun q => q.1 = k)).map (·.2) = Weighted.lookup ws k := by
  induction ws with
  | nil => rfl
  | cons q r ih =>
    obtain ⟨a, w⟩ := q
    rw [List.find?_cons]
    unfold Weighted.lookup
    by_cases h : a = k
    · simp [h]
    · simp only [h, decide_false, if_false]
      exact ih

theorem wOfCfg_eq (c : WObs) (k : Nat) : wOfCfg (some c) k = Weighted.wOf c.ws k := by
  unfold wOfCfg Weighted.wOf
  simp only
  rw [find_eq_lookup]

theorem wSumOf_eq (c : WObs) (sg : List Nat) : wSumOf (some c) sg = Weighted.wsum c.ws sg := by
  unfold wSumOf Weighted.wsum
  rw [nsum_eq_sum]
  congr 1
  apply List.map_congr_left
  intro k _
  exact wOfCfg_eq c k

theorem nsum_weights (ws : Weighted.WMap) : nsum (ws.map (·.2)) = Weighted.total ws := by
  rw [nsum_eq_sum]; rfl

/-! ### total weight of the installed map = Σ of the last-wins pairs -/

def look (m : List (Nat × Nat)) (k : Nat) : Nat := ((m.find? (fun q => q.1 = k)).map (·.2)).getD 0

theorem look_nil (k : Nat) : look [] k = 0 := rfl

def KeyNodup (m : List (Nat × Nat)) : Prop := m.Pairwise (fun x y => x.1 ≠ y.1)

def lwStep (m : List (Nat × Nat)) (p : Nat × Nat) : List (Nat × Nat) := (m.filter (fun q => q.1 ≠ p.1)) ++ [p]

theorem lookup_mset (m : Weighted.WMap) (k v k' : Nat) :
    Weighted.lookup (Weighted.mset m k v) k' = if k = k' then some v else Weighted.lookup m k' := by
  induction m with
  | nil => simp [Weighted.mset, Weighted.lookup]
  | cons q r ih =>
    obtain ⟨a, w⟩ := q
    unfold Weighted.mset
    by_cases h1 : k < a
    · rw [if_pos h1]; rfl
    · rw [if_neg h1]
      by_cases h2 : k = a
      · rw [if_pos h2]
        subst h2
        by_cases h3 : k = k'
        · simp [Weighted.lookup, h3]
        · simp [Weighted.lookup, h3]
      · rw [if_neg h2]
        show (if a = k' then some w else Weighted.lookup (Weighted.mset r k v) k') = _
        rw [ih]
        by_cases h3 : a = k'
        · have : ¬ k = k' := fun e => h2 (e.trans h3.symm)
          simp [Weighted.lookup, h3, this]
        · simp [Weighted.lookup, h3]

theorem wOf_mset (m : Weighted.WMap) (k v k' : Nat) :
    Weighted.wOf (Weighted.mset m k v) k' = if k = k' then v else Weighted.wOf m k' := by
  unfold Weighted.wOf
  rw [lookup_mset]
  split <;> rfl

/-- in a map sorted by key, `Map::set` replaces the entry of its key and keeps every other entry -/
theorem mem_mset_iff {m : Weighted.WMap} (hs : m.Pairwise (fun x y => x.1 < y.1)) (k v : Nat) (q : Nat × Nat) :
    q ∈ Weighted.mset m k v ↔ q = (k, v) ∨ (q ∈ m ∧ q.1 ≠ k) := by
  induction m with
  | nil => exact List.mem_singleton.trans ⟨.inl, fun h => h.elim id fun h => nomatch h.1⟩
  | cons p r ih =>
    obtain ⟨a, w⟩ := p
    have hgt : ∀ x ∈ r, a < x.1 := fun x hx => List.rel_of_pairwise_cons hs hx
    unfold Weighted.mset
    split
    · rename_i h1
      refine List.mem_cons.trans (or_congr_right ⟨fun h => ⟨h, ?_⟩, fun h => h.1⟩)
      rcases List.mem_cons.mp h with rfl | h
      · exact Nat.ne_of_gt h1
      · exact Nat.ne_of_gt (Nat.lt_trans h1 (hgt q h))
    · split
      · rename_i h2
        subst h2
        refine List.mem_cons.trans (or_congr_right
          ⟨fun h => ⟨List.mem_cons_of_mem _ h, Nat.ne_of_gt (hgt q h)⟩, fun ⟨h, hne⟩ => ?_⟩)
        rcases List.mem_cons.mp h with rfl | h
        · exact absurd rfl hne
        · exact h
      · rename_i h2
        have hak : a ≠ k := fun e => h2 e.symm
        simp only [List.mem_cons, ih (List.Pairwise.of_cons hs)]
        constructor
        · rintro (rfl | rfl | ⟨h, hne⟩)
          · exact .inr ⟨.inl rfl, hak⟩
          · exact .inl rfl
          · exact .inr ⟨.inr h, hne⟩
        · rintro (rfl | ⟨rfl | h, hne⟩)
          · exact .inr (.inl rfl)
          · exact .inl rfl
          · exact .inr (.inr ⟨h, hne⟩)

theorem sorted_mset {m : Weighted.WMap} (hs : m.Pairwise (fun x y => x.1 < y.1)) (k v : Nat) :
    (Weighted.mset m k v).Pairwise (fun x y => x.1 < y.1) := by
  induction m with
  | nil => exact List.pairwise_singleton _ _
  | cons p r ih =>
    obtain ⟨a, w⟩ := p
    have hr := List.Pairwise.of_cons hs
    have hgt : ∀ q ∈ r, a < q.1 := fun q hq => List.rel_of_pairwise_cons hs hq
    unfold Weighted.mset
    split
    · rename_i h1
      refine List.Pairwise.cons ?_ hs
      intro q hq
      rcases List.mem_cons.mp hq with rfl | hq
      · exact h1
      · exact Nat.lt_trans h1 (hgt q hq)
    · split
      · rename_i h2
        subst h2
        exact List.Pairwise.cons hgt hr
      · rename_i h1 h2
        refine List.Pairwise.cons ?_ (ih hr)
        intro q hq
        rcases (mem_mset_iff hr k v q).mp hq with rfl | ⟨hq, _⟩
        · show a < k; omega
        · exact hgt q hq

theorem mem_lwStep_iff (m : List (Nat × Nat)) (p q : Nat × Nat) :
    q ∈ lwStep m p ↔ q = p ∨ (q ∈ m ∧ q.1 ≠ p.1) := by
  unfold lwStep
  simp only [List.mem_append, List.mem_filter, List.mem_singleton, decide_eq_true_eq]
  exact Or.comm

theorem keyNodup_lwStep (m : List (Nat × Nat)) (hn : KeyNodup m) (p : Nat × Nat) : KeyNodup (lwStep m p) := by
  unfold lwStep KeyNodup
  rw [List.pairwise_append]
  refine ⟨List.Pairwise.filter _ hn, by simp, ?_⟩
  intro a ha b hb
  simp only [List.mem_singleton] at hb
  subst hb
  have := (List.mem_filter.mp ha).2
  simpa using this

theorem fold_same (ps : List (Nat × Nat)) : ∀ (m1 : Weighted.WMap) (m2 : List (Nat × Nat)),
    m1.Pairwise (fun x y => x.1 < y.1) → KeyNodup m2 → (∀ q, q ∈ m1 ↔ q ∈ m2) →
    (ps.foldl (fun m p => Weighted.mset m p.1 p.2) m1).Pairwise (fun x y => x.1 < y.1) ∧
      KeyNodup (ps.foldl lwStep m2) ∧
      ∀ q, q ∈ ps.foldl (fun m p => Weighted.mset m p.1 p.2) m1 ↔ q ∈ ps.foldl lwStep m2 := by
  induction ps with
  | nil => intro m1 m2 h1 h2 h3; exact ⟨h1, h2, h3⟩
  | cons p ps ih =>
    intro m1 m2 h1 h2 h3
    refine ih _ _ (sorted_mset h1 p.1 p.2) (keyNodup_lwStep m2 h2 p) fun q => ?_
    rw [mem_mset_iff h1, mem_lwStep_iff, h3]

theorem nodup_of_keyNodup {m : List (Nat × Nat)} (h : KeyNodup m) : m.Nodup :=
  List.Pairwise.imp (fun hne e => hne (congrArg Prod.fst e)) h

/-- both hold the same pairs, each once -/
theorem mkMap_perm_lastWins (ps : List (Nat × Nat)) : (Weighted.mkMap ps).Perm (lastWins ps) := by
  obtain ⟨h1, h2, h3⟩ := fold_same ps [] [] List.Pairwise.nil List.Pairwise.nil (fun _ => Iff.rfl)
  exact (List.perm_ext_iff_of_nodup (nodup_of_keyNodup (h1.imp fun h => Nat.ne_of_lt h)) (nodup_of_keyNodup h2)).mpr h3

theorem total_mkMap (ps : List (Nat × Nat)) :
    nsum ((lastWins ps).map (·.2)) = Weighted.total (Weighted.mkMap ps) := by
  rw [nsum_eq_sum]
  exact (((mkMap_perm_lastWins ps).map Prod.snd).sum_nat).symm

end OZ.Policies.Mon
