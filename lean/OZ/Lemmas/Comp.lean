import OZ.Model.RustSem
/-
The generated functions are chains of `Comp.bind`, `Comp.unwrap`, checked arithmetic and panicking `if`s. An accepted
call is taken apart link by link with the `*_eq_ok` lemmas, each application touching only the head of the term
(`guard` in a name is the generated `if c then panic else x`, `require` is `if c then x else panic`); `uN_*_ok` go the
other way. A `for` loop of the source is a recursive function of the list it runs over (`Comp.forEach_*`).
The computation rules, by `rfl`, stand beside the definitions in OZ/Model/RustSem.lean; checked `i128` arithmetic is in
OZ/Lemmas/FungibleGen.lean.
-/
namespace OZ.Rs

theorem Comp.bind_eq_ok {α β : Type} {x : Comp α} {f : α → Comp β} {v : β}
    (h : Comp.bind x f = .ok v) : ∃ a, x = .ok a ∧ f a = .ok v := by
  cases x with
  | panic => cases h
  | ok a => exact ⟨a, rfl, h⟩

theorem Comp.bind_ret {α : Type} (c : Comp α) : (Comp.bind c fun t => Comp.ok t) = c := by
  cases c <;> rfl

theorem unit_cases (c : Comp Unit) : c = Comp.ok () ∨ c = Comp.panic := by
  cases c with
  | ok u => exact Or.inl rfl
  | panic => exact Or.inr rfl

theorem Comp.unwrap_eq_ok {α β : Type} {o : Option α} {k : α → Comp β} {v : β}
    (h : Comp.unwrap o k = .ok v) : ∃ a, o = some a ∧ k a = .ok v := by
  cases o with
  | none => cases h
  | some a => exact ⟨a, rfl, h⟩

theorem Comp.guard_eq_ok {α : Type} {c : Prop} [Decidable c] {x : Comp α} {v : α}
    (h : (if c then Comp.panic else x) = .ok v) : ¬ c ∧ x = .ok v := by
  by_cases hc : c
  · rw [if_pos hc] at h; cases h
  · rw [if_neg hc] at h; exact ⟨hc, h⟩

theorem Comp.require_eq_ok {α : Type} {c : Prop} [Decidable c] {x : Comp α} {v : α}
    (h : (if c then x else .panic) = .ok v) : c ∧ x = .ok v := by
  by_cases hc : c
  · rw [if_pos hc] at h; exact ⟨hc, h⟩
  · rw [if_neg hc] at h; cases h

/-- `match o { Some(i) => .., None => panic }` -/
theorem optCase_panic_eq_ok {α β : Type} {o : Option α} {f : α → Comp β} {v : β}
    (h : optCase o f Comp.panic = .ok v) : ∃ a, o = some a ∧ f a = .ok v :=
  Comp.unwrap_eq_ok (o := o) (k := f) (by cases o <;> exact h)

/-- `if let Some(v) = o { if c(v) { panic } }` in front of a continuation that does not read `v`: the translator prints
the continuation once per branch -/
theorem optCase_guard_eq_ok {α β : Type} {o : Option α} {c : α → Prop} [∀ a, Decidable (c a)] {K : Comp β} {r : β}
    (h : optCase o (fun a => if c a then Comp.panic else K) K = .ok r) : K = .ok r := by
  cases o with
  | none => exact h
  | some a => exact (Comp.guard_eq_ok h).2

theorem snd_ok {α : Type} {c : Comp (Unit × α)} {st' : α}
    (h : (Comp.bind c fun t => Comp.ok ((), t.2)) = .ok ((), st')) : c = .ok ((), st') := by
  cases c with
  | panic => cases h
  | ok r => exact h

theorem uN_add_eq_ok {bits a b v : Nat} (h : uN_add bits a b = .ok v) : v = a + b := by
  unfold uN_add at h
  split at h
  · exact (Comp.ok.inj h).symm
  · cases h

theorem uN_sub_eq_ok {bits a b v : Nat} (h : uN_sub bits a b = .ok v) : v = a - b := by
  unfold uN_sub at h
  split at h
  · exact (Comp.ok.inj h).symm
  · cases h

theorem uN_add_ok {bits a b : Nat} (h : a + b < 2 ^ bits) : uN_add bits a b = .ok (a + b) := if_pos h
theorem uN_sub_ok {bits a b : Nat} (h : b ≤ a) : uN_sub bits a b = .ok (a - b) := if_pos h
theorem uN_mul_ok {bits a b : Nat} (h : a * b < 2 ^ bits) : uN_mul bits a b = .ok (a * b) := if_pos h
-- a divisor that is a non-zero literal has its `NeZero` by instance search
theorem uN_div_ok {bits a b : Nat} [NeZero b] : uN_div bits a b = .ok (a / b) := if_neg (NeZero.ne b)
theorem uN_rem_ok {bits a b : Nat} [NeZero b] : uN_rem bits a b = .ok (a % b) := if_neg (NeZero.ne b)

/-- `1 << k` on `u32` for `k < 32`: no bit is lost -/
theorem uN_shl_one {k : Nat} (hk : k < 32) : uN_shl 32 1 k = .ok (2 ^ k) := by
  unfold uN_shl
  rw [if_pos hk, Nat.shiftLeft_eq, Nat.one_mul, Nat.mod_eq_of_lt (Nat.pow_lt_pow_right (by decide) hk)]

theorem Comp.refuse_or {α : Type} {c d : Prop} [Decidable c] [Decidable d] (x : Comp α) :
    (if c ∨ d then .panic else x) = if c then .panic else if d then .panic else x := by
  by_cases hc : c
  · rw [if_pos hc, if_pos (Or.inl hc)]
  · rw [if_neg hc, ite_congr (propext (or_iff_right hc)) (fun _ => rfl) (fun _ => rfl)]

/-- the generated refusals `if r then panic else ..`, read as checks -/
theorem Comp.refuse_else {β : Type} {r : Prop} [Decidable r] (K : Comp β) :
    (if r then Comp.panic else K) = if ¬ r then K else Comp.panic :=
  (ite_not r K Comp.panic).symm

theorem optCase_refuse {α β : Type} (o : Option α) (x : Comp β) :
    optCase o (fun _ => .panic) x = if o.isSome then .panic else x := by
  cases o <;> rfl

theorem Comp.bind_require {α β : Type} {c : Prop} [Decidable c] (s : α) (k : α → Comp β) :
    Comp.bind (if c then .ok s else .panic) k = if c then k s else .panic :=
  apply_ite (Comp.bind · k) c _ _

theorem Comp.bind_unwrap {α β : Type} (o : Option α) (k : α → Comp β) :
    Comp.bind (Comp.unwrap o .ok) k = Comp.unwrap o k := by
  cases o <;> rfl

/-- `for x in xs { call(x) }` as the translator prints it, a recursive function of the list that carries the state: it
returns the state it was given when every call returns, and traps otherwise. A loop that only emits events is the
instance whose calls all return (`h1` is then `rfl`). -/
theorem Comp.forEach_eq {α σ : Type} {call : α → Comp Unit} {f : List α → σ → Comp σ} (h0 : ∀ s, f [] s = .ok s)
    (h1 : ∀ x rest s, f (x :: rest) s = Comp.bind (call x) fun _ => f rest s) :
    ∀ xs s, f xs s = if ∀ x ∈ xs, call x = .ok () then .ok s else .panic
  | [], s => (h0 s).trans (if_pos fun _ h => nomatch h).symm
  | x :: rest, s => by
    rw [h1, Comp.forEach_eq h0 h1 rest s]
    cases hc : call x with
    | panic => exact (if_neg fun h => nomatch (h x List.mem_cons_self).symm.trans hc).symm
    | ok u =>
      have e : (∀ y ∈ x :: rest, call y = .ok ()) ↔ ∀ y ∈ rest, call y = .ok () :=
        List.forall_mem_cons.trans (and_iff_right hc)
      exact (ite_congr (propext e) (fun _ => rfl) (fun _ => rfl)).symm

theorem Comp.forEach_ok_iff {α : Type} {call : α → Comp Unit} {F : List α → Comp Unit} (h0 : F [] = .ok ())
    (h1 : ∀ x rest, F (x :: rest) = Comp.bind (call x) fun _ => F rest) (xs : List α) :
    F xs = .ok () ↔ ∀ x ∈ xs, call x = .ok () := by
  rw [Comp.forEach_eq (f := fun xs _ => F xs) (fun _ => h0) (fun x rest _ => h1 x rest) xs ()]
  exact ⟨fun h => (Comp.require_eq_ok h).1, fun h => if_pos h⟩

theorem Comp.forEach_skip {α σ : Type} {f : List α → σ → Comp σ} (h0 : ∀ s, f [] s = .ok s)
    (h1 : ∀ x rest s, f (x :: rest) s = f rest s) (xs : List α) (s : σ) : f xs s = .ok s :=
  (Comp.forEach_eq (call := fun _ => .ok ()) h0 h1 xs s).trans (if_pos fun _ _ => rfl)

end OZ.Rs
