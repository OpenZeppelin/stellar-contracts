import OZ.Model.RegBinder
import OZ.Lemmas.RegChunk
import OZ.Lemmas.RegStep
/-
The token binder's buckets represent a duplicate-free flat list (C20): `Rep s l` says the storage holds the list `l`,
`Inv` that it holds some list.
-/
namespace OZ.RegBinder
open OZ.Reg

theorem bpos : 0 < BUCKET_SIZE := by decide

structure Rep (s : State) (l : List Nat) : Prop where
  nodup : l.Nodup
  count : s.count = l.length
  buckets : s.buckets = chunk BUCKET_SIZE l
  le : l.length ≤ MAX_TOKENS

def Inv (s : State) : Prop := ∃ l, Rep s l

theorem rep_init : Rep init [] := by
  refine ⟨by simp, rfl, ?_, by simp⟩
  funext b; simp [init, chunk]

theorem inv_init : Inv init := ⟨[], rep_init⟩

theorem rep_linkedTokens {s : State} {l : List Nat} (h : Rep s l) : linkedTokens s = l := by
  unfold linkedTokens bucketRange
  rw [h.count, h.buckets]
  split
  · rename_i h0; exact (List.length_eq_zero_iff.1 h0).symm
  · exact flatMap_chunk BUCKET_SIZE bpos l

theorem rep_isTokenBound {s : State} {l : List Nat} (h : Rep s l) (t : Nat) :
    isTokenBound s t = true ↔ t ∈ l := by
  unfold isTokenBound bucketRange
  rw [h.count, h.buckets]
  split
  · rename_i h0
    rw [List.length_eq_zero_iff.1 h0]; simp
  · rw [List.any_eq_true, ← mem_chunk_iff BUCKET_SIZE bpos l t]
    constructor
    · rintro ⟨b, hb, hc⟩; exact ⟨b, hb, by simpa using hc⟩
    · rintro ⟨b, hb, hc⟩; exact ⟨b, hb, by simpa using hc⟩

theorem rep_getTokenByIndex {s : State} {l : List Nat} (h : Rep s l) (i : Nat) :
    getTokenByIndex s i = l[i]? := by
  unfold getTokenByIndex
  rw [h.count, h.buckets]
  split
  · rename_i hi; exact (List.getElem?_eq_none_iff.2 hi).symm
  · exact getElem?_chunk_div BUCKET_SIZE bpos l i

theorem scan_eq (s : State) (t : Nat) (bs : List Nat) :
    scan s t bs = (bs.find? fun b => (s.buckets b).contains t).map fun b => b * BUCKET_SIZE + (s.buckets b).idxOf t := by
  induction bs with
  | nil => rfl
  | cons b bs ih =>
    rw [scan, List.find?_cons, ih]
    cases (s.buckets b).contains t <;> rfl

theorem rep_getTokenIndex_some {s : State} {l : List Nat} (h : Rep s l) (t i : Nat)
    (hs : getTokenIndex s t = some i) : l[i]? = some t := by
  unfold getTokenIndex at hs
  split at hs
  · cases hs
  · rw [scan_eq, Option.map_eq_some_iff] at hs
    obtain ⟨b, hb, rfl⟩ := hs
    have hm : t ∈ chunk BUCKET_SIZE l b := by simpa [h.buckets] using List.find?_some hb
    have hlt := List.idxOf_lt_length_iff.2 hm
    have hget : (chunk BUCKET_SIZE l b)[(chunk BUCKET_SIZE l b).idxOf t]? = some t := by
      rw [List.getElem?_eq_getElem hlt, List.getElem_idxOf hlt]
    rw [getElem?_chunk, if_pos (by rw [length_chunk] at hlt; omega)] at hget
    rw [h.buckets, Nat.mul_comm]; exact hget

theorem rep_getTokenIndex_none {s : State} {l : List Nat} (h : Rep s l) (t : Nat) :
    getTokenIndex s t = none ↔ t ∉ l := by
  unfold getTokenIndex bucketRange
  split
  · rename_i h0
    rw [h.count] at h0
    rw [List.length_eq_zero_iff.1 h0]; simp
  · rw [scan_eq, Option.map_eq_none_iff, List.find?_eq_none, h.count, h.buckets, ← mem_chunk_iff BUCKET_SIZE bpos l t]
    simp only [List.contains_iff_mem, not_exists, not_and]

theorem rep_push {s : State} {l : List Nat} (h : Rep s l) {t : Nat} (hn : t ∉ l)
    (hl : l.length < MAX_TOKENS) : Rep (push s t) (l ++ [t]) := by
  refine ⟨?_, ?_, ?_, ?_⟩
  · exact nodup_append_singleton h.nodup hn
  · simp [push, h.count]
  · show updD s.buckets (s.count / BUCKET_SIZE) (s.buckets (s.count / BUCKET_SIZE) ++ [t]) = _
    rw [chunk_append BUCKET_SIZE bpos, h.count, h.buckets]
  · simp; omega

theorem bindToken_ok_iff {s : State} {l : List Nat} (h : Rep s l) (s' : State) (t : Nat) :
    bindToken s t = .ok s' ↔ (t ∉ l ∧ l.length < MAX_TOKENS) ∧ s' = push s t := by
  unfold bindToken
  rw [ite_error_eq_ok_iff, ite_error_eq_ok_iff, rep_isTokenBound h, h.count, Nat.not_le, ← and_assoc, ok_eq_ok_iff]

theorem pushAll_eq (bound : List Nat) (s : State) (ts : List Nat) :
    pushAll bound s ts = if ts.any bound.contains then .error .dup else .ok (ts.foldl push s) := by
  induction ts generalizing s with
  | nil => rfl
  | cons t ts ih =>
    rw [pushAll, ih, List.any_cons, List.foldl_cons]
    cases bound.contains t <;> rfl

theorem rep_foldl_push {s : State} {l : List Nat} (h : Rep s l) (ts : List Nat) (hnd : ts.Nodup)
    (hdis : ∀ t, t ∈ ts → t ∉ l) (hl : l.length + ts.length ≤ MAX_TOKENS) :
    Rep (ts.foldl push s) (l ++ ts) := by
  induction ts generalizing s l with
  | nil => simpa using h
  | cons t ts ih =>
    rw [List.nodup_cons] at hnd
    simp only [List.foldl_cons]
    have h1 : Rep (push s t) (l ++ [t]) :=
      rep_push h (hdis t (List.mem_cons_self ..)) (by simp at hl; omega)
    have := ih h1 hnd.2 (by
      intro x hx hm
      rw [List.mem_append] at hm
      cases hm with
      | inl hm => exact hdis x (List.mem_cons_of_mem _ hx) hm
      | inr hm => simp at hm; subst hm; exact hnd.1 hx) (by simp at hl ⊢; omega)
    simpa using this

theorem bindTokens_ok_iff {s : State} {l : List Nat} (h : Rep s l) (s' : State) (ts : List Nat) :
    bindTokens s ts = .ok s' ↔
      (ts.length ≤ BUCKET_SIZE * 2 ∧ l.length + ts.length ≤ MAX_TOKENS ∧ ts.Nodup ∧ ∀ t, t ∈ ts → t ∉ l) ∧
        s' = ts.foldl push s := by
  unfold bindTokens
  rw [pushAll_eq, ite_error_eq_ok_iff, ite_error_eq_ok_iff, ite_error_eq_ok_iff, ite_error_eq_ok_iff, rep_linkedTokens h,
    h.count, Nat.not_lt, Nat.not_lt, Classical.not_not, Except.ok.injEq]
  simp only [List.any_eq_true, List.contains_iff_mem, not_exists, not_and]
  exact ⟨fun ⟨h1, h2, h3, h4, h5⟩ => ⟨⟨h1, h2, h3, h4⟩, h5.symm⟩, fun ⟨⟨h1, h2, h3, h4⟩, h5⟩ => ⟨h1, h2, h3, h4, h5.symm⟩⟩

/-- `unbind_token` with a known index: never hits its `expect`s, and performs swap-and-pop -/
theorem rep_unbindAt {s : State} {l : List Nat} (h : Rep s l) (idx : Nat) (hidx : idx < l.length) :
    ∃ s', unbindAt s idx = .ok s' ∧ s'.buckets = chunk BUCKET_SIZE (swapPop l idx) ∧
      s'.count = l.length - 1 := by
  have hne : l ≠ [] := List.ne_nil_of_length_pos (Nat.zero_lt_of_lt hidx)
  unfold unbindAt
  rw [h.count]
  by_cases hlast : idx ≠ l.length - 1
  · have hget : l[l.length - 1]? = some (l[l.length - 1]'(by omega)) := List.getElem?_eq_getElem (by omega)
    rw [if_pos hlast, rep_getTokenByIndex h, hget]
    refine ⟨_, rfl, ?_, rfl⟩
    rw [chunk_swapPop_of_ne BUCKET_SIZE bpos l hlast hget, ← h.buckets]
    rfl
  · rw [if_neg hlast, Classical.not_not.1 hlast, swapPop_last, chunk_dropLast BUCKET_SIZE bpos l hne, ← h.buckets]
    exact ⟨_, rfl, rfl, rfl⟩

theorem unbindToken_ok {s s' : State} {l : List Nat} (h : Rep s l) {t : Nat} (hs : unbindToken s t = .ok s') :
    t ∈ l ∧ ∃ l', Rep s' l' ∧ ∀ x, x ∈ l' ↔ x ∈ l ∧ x ≠ t := by
  unfold unbindToken at hs
  cases hi : getTokenIndex s t with
  | none => rw [hi] at hs; cases hs
  | some idx =>
    rw [hi] at hs
    have hget := rep_getTokenIndex_some h t idx hi
    have hidx : idx < l.length := (List.getElem?_eq_some_iff.1 hget).1
    obtain ⟨s'', hs'', hb, hc⟩ := rep_unbindAt h idx hidx
    rw [show unbindAt s idx = .ok s' from hs] at hs''; cases hs''
    exact ⟨List.mem_of_getElem? hget, _, ⟨nodup_swapPop l h.nodup idx hidx, by rw [hc, length_swapPop], hb,
      by rw [length_swapPop]; exact Nat.le_trans (Nat.sub_le _ _) h.le⟩, mem_swapPop l h.nodup idx t hget⟩

theorem unbindToken_accepts {s : State} {l : List Nat} (h : Rep s l) {t : Nat} (ht : t ∈ l) :
    ∃ s', unbindToken s t = .ok s' := by
  unfold unbindToken
  cases hi : getTokenIndex s t with
  | none => exact absurd ht ((rep_getTokenIndex_none h t).1 hi)
  | some idx =>
    have hidx := (List.getElem?_eq_some_iff.1 (rep_getTokenIndex_some h t idx hi)).1
    exact (rep_unbindAt h idx hidx).imp fun _ => And.left

theorem inv_next {s : State} (hI : Inv s) (o : Op) : Inv (next s o) := by
  obtain ⟨l, h⟩ := hI
  unfold next
  cases hs : step s o with
  | error e => exact ⟨l, h⟩
  | ok s' =>
    cases o with
    | bind t =>
      obtain ⟨⟨hn, hl⟩, rfl⟩ := (bindToken_ok_iff h s' t).1 hs
      exact ⟨_, rep_push h hn hl⟩
    | bindMany ts =>
      obtain ⟨⟨_, hl, hnd, hdis⟩, rfl⟩ := (bindTokens_ok_iff h s' ts).1 hs
      exact ⟨_, rep_foldl_push h ts hnd hdis hl⟩
    | unbind t => obtain ⟨_, _, hr, _⟩ := unbindToken_ok h hs; exact ⟨_, hr⟩

theorem inv_run {s : State} (hI : Inv s) (ops : List Op) : Inv (run s ops) :=
  OZ.Lists.foldl_inv (P := Inv) (f := next) (fun _ o h => inv_next h o) ops s hI

def Reachable (s : State) : Prop := ∃ ops, s = run init ops

theorem reachable_inv {s : State} (h : Reachable s) : Inv s := by
  obtain ⟨ops, rfl⟩ := h
  exact inv_run inv_init ops

def bound (s : State) (t : Nat) : Prop := isTokenBound s t = true

theorem mem_foldl_push {s : State} {l : List Nat} (h : Rep s l) (ts : List Nat) (hnd : ts.Nodup)
    (hdis : ∀ t, t ∈ ts → t ∉ l) (hl : l.length + ts.length ≤ MAX_TOKENS) (x : Nat) :
    bound (ts.foldl push s) x ↔ (bound s x ∨ x ∈ ts) := by
  unfold bound
  rw [rep_isTokenBound (rep_foldl_push h ts hnd hdis hl), rep_isTokenBound h, List.mem_append]

end OZ.RegBinder
