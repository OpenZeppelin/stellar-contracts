import OZ.Lemmas.TimelockControllerMon
/-
Soundness of the C09 monitor, the pieces: the checks every call line passes through (idle gap, Done stays Done,
rollback, effects need a cause) and the consumption check `consumed`, each shown silent on model observations; an
accepted loop of `__check_auth` against `consumed` and the ghost log, once for every way the loop is reached
(`loop_sound`); and the authorization phase, which is that loop over the one context of the invocation, or a
signature (`PhaseSound`). `AuthPhase` stands by itself: the proofs below go through `requireAuth_ok` and `loop_sound`.
-/
namespace OZ.TimelockController.Mon
open OZ.Host OZ.Timelock OZ.TimelockController OZ.Lists

/-! ### displayed roles -/

theorem hasRole_memb (c : CState) (r a : Nat) : c.hasRole r a = OZ.Access.memb c.ac a r := rfl

theorem heldBy_lt (c : CState) (r : Nat) : List.Pairwise (· < ·) (heldBy c r) :=
  List.Pairwise.filter _ List.pairwise_lt_range

theorem heldBy_nodup (c : CState) (r : Nat) : (heldBy c r).Nodup :=
  (heldBy_lt c r).imp (fun h => Nat.ne_of_lt h)

theorem sortNat_of_lt {l : List Nat} (h : List.Pairwise (· < ·) l) : sortNat l = l := by
  unfold sortNat
  apply List.mergeSort_of_pairwise
  exact h.imp (fun h => by simpa using Nat.le_of_lt h)

theorem sortNat_heldBy (c : CState) (r : Nat) : sortNat (heldBy c r) = heldBy c r :=
  sortNat_of_lt (heldBy_lt c r)

theorem mem_heldBy {c : CState} {r a : Nat} : a ∈ heldBy c r ↔ a ≤ NACC ∧ c.hasRole r a = true := by
  unfold heldBy
  rw [List.mem_filter, List.mem_range]
  constructor
  · rintro ⟨h1, h2⟩; exact ⟨by omega, h2⟩
  · rintro ⟨h1, h2⟩; exact ⟨by omega, h2⟩

theorem modelRoles_length (c : CState) : (modelRoles c).length = NROLES := by
  unfold modelRoles; simp

theorem modelRoles_get (c : CState) (r : Nat) :
    (modelRoles c)[r]? = if r < NROLES then some (heldBy c r) else none := by
  unfold modelRoles
  rw [List.getElem?_map]
  by_cases h : r < NROLES
  · rw [if_pos h, List.getElem?_range h]; simp [sortNat_heldBy]
  · rw [if_neg h, List.getElem?_eq_none (by simpa using h)]; rfl

theorem members_model (c : CState) (defs : List Operation) (ok : Bool) (eq : Option (List Nat)) (r : Nat) :
    members (modelObs c defs ok eq) r = if r < NROLES then heldBy c r else [] := by
  unfold members
  show ((modelRoles c)[r]?).getD [] = _
  rw [modelRoles_get]
  by_cases h : r < NROLES
  · rw [if_pos h, if_pos h]; rfl
  · rw [if_neg h, if_neg h]; rfl

theorem members_contains (c : CState) (defs : List Operation) (ok : Bool) (eq : Option (List Nat)) {r a : Nat}
    (hr : r < NROLES) (ha : a ≤ NACC) :
    (members (modelObs c defs ok eq) r).contains a = c.hasRole r a := by
  rw [members_model, if_pos hr]
  cases h : c.hasRole r a with
  | true => simpa using mem_heldBy.mpr ⟨ha, h⟩
  | false =>
    simp only [List.contains_eq_mem, decide_eq_false_iff_not]
    intro hm
    rw [(mem_heldBy.mp hm).2] at h; cases h

theorem members_sub (c : CState) (defs : List Operation) (ok : Bool) (eq : Option (List Nat)) {r a : Nat}
    (h : a ∈ members (modelObs c defs ok eq) r) : c.hasRole r a = true := by
  rw [members_model] at h
  by_cases hr : r < NROLES
  · rw [if_pos hr] at h; exact (mem_heldBy.mp h).2
  · rw [if_neg hr] at h; cases h

theorem modelRadm_get (c : CState) (r : Nat) :
    ((modelRadm c)[r]?).join = if r < NROLES then OZ.Access.getRoleAdmin c.ac r else none := by
  unfold modelRadm
  rw [List.getElem?_map]
  by_cases h : r < NROLES
  · rw [if_pos h, List.getElem?_range h]; rfl
  · rw [if_neg h, List.getElem?_eq_none (by simpa using h)]; rfl

theorem modelRoles_of_ac {c c' : CState} (h : c'.ac.hasRole = c.ac.hasRole) : modelRoles c' = modelRoles c := by
  unfold modelRoles heldBy CState.hasRole OZ.Access.hasRoleQ
  rw [h]

theorem modelRadm_of_ac {c c' : CState} (h : c'.ac.roleAdmin = c.ac.roleAdmin) : modelRadm c' = modelRadm c := by
  unfold modelRadm OZ.Access.getRoleAdmin
  rw [h]

/-! ### the exact membership effect -/

theorem prev_roles_length (c : CState) (defs : List Operation) (ok : Bool) (eq : Option (List Nat)) :
    (modelObs c defs ok eq).roles.length = NROLES := modelRoles_length c

theorem sortNat_lt {l : List Nat} (h : l.Nodup) : (sortNat l).Pairwise (· < ·) :=
  ((OZ.Lists.pairwise_mergeSort_le l).and ((List.mergeSort_perm l _).nodup_iff.mpr h)).imp
    fun h => Nat.lt_of_le_of_ne h.1 h.2

theorem heldBy_eq {c : CState} {r : Nat} {l : List Nat} (hl : l.Pairwise (· < ·))
    (h : ∀ a, a ∈ l ↔ a ≤ NACC ∧ c.hasRole r a = true) : heldBy c r = l :=
  eq_of_lt_of_mem (heldBy_lt c r) hl (fun a => by rw [mem_heldBy, h])

/-- the exact membership effect of grant (`v = true`) / revoke and renounce_role (`v = false`) on the displayed lists -/
theorem expdRoles_upd {c c' : CState} (defs : List Operation) (ok : Bool) (eq : Option (List Nat)) (cl : Call)
    (acct role : Nat) (v : Bool) (hv : ∀ r, expdMembers (modelObs c defs ok eq) cl acct r =
      if v then (if (members (modelObs c defs ok eq) r).contains acct || !inU acct then members (modelObs c defs ok eq) r
        else sortNat (acct :: members (modelObs c defs ok eq) r))
      else (members (modelObs c defs ok eq) r).erase acct)
    (hm : OZ.Access.memb c'.ac = upd2 (OZ.Access.memb c.ac) acct role v) :
    modelRoles c' = expdRoles (modelObs c defs ok eq) cl acct role := by
  unfold expdRoles
  rw [prev_roles_length]
  unfold modelRoles
  apply List.map_congr_left
  intro r hr
  rw [List.mem_range] at hr
  have hp : ∀ a, c'.hasRole r a = if a = acct ∧ r = role then v else c.hasRole r a := by
    intro a; rw [hasRole_memb, hm, hasRole_memb]; rfl
  rw [sortNat_heldBy]
  by_cases hrr : r = role
  · subst hrr
    rw [if_neg (fun h => h rfl), hv, members_model, if_pos hr]
    cases v with
    | false =>
      simp only [Bool.false_eq_true, if_false]
      refine heldBy_eq ((heldBy_lt c r).sublist List.erase_sublist) (fun a => ?_)
      rw [(heldBy_nodup c r).mem_erase_iff, mem_heldBy, hp]
      by_cases e : a = acct <;> simp [e]
    | true =>
      simp only [if_true]
      split
      · rename_i hin
        refine heldBy_eq (heldBy_lt c r) (fun a => ?_)
        rw [mem_heldBy, hp]
        by_cases e : a = acct
        · subst e
          simp only [Bool.or_eq_true, List.contains_eq_mem, decide_eq_true_eq, mem_heldBy, inU,
            Bool.not_eq_eq_eq_not, Bool.not_true, decide_eq_false_iff_not] at hin
          rcases hin with h | h <;> simp [h]
        · simp [e]
      · rename_i hin
        simp only [Bool.or_eq_true, List.contains_eq_mem, decide_eq_true_eq, inU, Bool.not_eq_eq_eq_not,
          Bool.not_true, decide_eq_false_iff_not, not_or, Decidable.not_not] at hin
        refine heldBy_eq (sortNat_lt (List.nodup_cons.mpr ⟨hin.1, heldBy_nodup c r⟩)) (fun a => ?_)
        unfold sortNat
        rw [List.mem_mergeSort, List.mem_cons, mem_heldBy, hp]
        by_cases e : a = acct
        · subst e; simp [hin.2]
        · simp [e]
  · rw [if_pos hrr, members_model, if_pos hr]
    exact heldBy_eq (heldBy_lt c r) (fun a => by rw [mem_heldBy, hp, if_neg (fun h => hrr h.2)])

/-! ### the authorization phase of the entry points guarded by `require_auth` -/

/-- `who.require_auth()` inside the invocation `(fn, args)`: either the controller itself — exactly
one descriptor `m`, the executor gate passed and `set_execute_operation` of the operation
(self, fn, args, m.pred, m.salt) accepted — or an ordinary account that signed; nothing else moves -/
def AuthPhase (c : CState) (auth : List AuthTok) (sig : Option (List Meta)) (who fn : Nat) (args : List Nat)
    (c1 : CState) : Prop :=
  (who = c.self ∧ ∃ m tl', sig = some [m] ∧ execGate c auth fn args m = .ok () ∧
      setExecute c.tl (opOf c.self fn args m) = .ok tl' ∧ c1 = { c with tl := tl' }) ∨
  (who ≠ c.self ∧ AuthTok.call who ∈ auth ∧ c1 = c)

theorem requireAuth_phase {c c1 : CState} {auth : List AuthTok} {sig : Option (List Meta)} {who fn : Nat}
    {args : List Nat} (h : requireAuth checkAuth c auth sig who fn args = .ok c1) :
    AuthPhase c auth sig who fn args c1 := by
  rcases requireAuth_ok h with ⟨hw, metas, hs, hc⟩ | ⟨hne, hin, rfl⟩
  · left
    refine ⟨hw, ?_⟩
    obtain ⟨hl, hp⟩ := checkAuth_ok hc
    match metas, hl with
    | [m], _ =>
      simp only [List.zip_cons_cons, List.zip_nil_right] at hp
      unfold checkPairs at hp
      cases h1 : checkOne c auth (.contract c.self fn args) m with
      | error e => rw [h1] at hp; cases hp
      | ok c2 =>
        rw [h1] at hp
        simp only [checkPairs] at hp
        injection hp with hp
        subst hp
        obtain ⟨fn', args', tl', hctx, hg, hse, hc2⟩ := checkOne_ok h1
        simp only [Context.contract.injEq, true_and] at hctx
        obtain ⟨rfl, rfl⟩ := hctx
        exact ⟨m, tl', hs, hg, hse, hc2⟩
  · exact Or.inr ⟨hne, hin, rfl⟩

/-- what the authorization phase does to the timelock part: nothing, or one `set_execute_operation` -/
theorem AuthPhase.tl {c c1 : CState} {auth : List AuthTok} {sig : Option (List Meta)} {who fn : Nat}
    {args : List Nat} (h : AuthPhase c auth sig who fn args c1) :
    c1.tl = c.tl ∨ ∃ op, setExecute c.tl op = .ok c1.tl := by
  rcases h with ⟨_, m, tl', _, _, hs, rfl⟩ | ⟨_, _, rfl⟩
  · exact Or.inr ⟨_, hs⟩
  · exact Or.inl rfl

theorem ghost_exec_prefix (ids : List Id) (now : Nat) (log : List Ev) (id : Id) :
    ghost ((ids.map (fun i => Ev.exec i now)).reverse ++ log) id = if id ∈ ids then .done else ghost log id := by
  induction ids generalizing log with
  | nil => simp
  | cons a t ih =>
    simp only [List.map_cons, List.reverse_cons, List.append_assoc, List.singleton_append]
    rw [ih]
    by_cases h1 : id ∈ t
    · rw [if_pos h1, if_pos (List.mem_cons_of_mem _ h1)]
    · rw [if_neg h1]
      by_cases h2 : a = id
      · subst h2
        rw [ghost_exec_same]; simp
      · rw [ghost_other _ _ _ (by simpa [Ev.id] using h2)]
        rw [if_neg (by simp [h1]; exact fun e => h2 e.symm)]

/-! ### state letters of the model's observation -/

theorem stCode_D {c : CState} {defs : List Operation} {ok : Bool} {eq : Option (List Nat)} {k : Nat} :
    stCode (modelObs c defs ok eq) k = "D" ↔ ∃ d, defs[k]? = some d ∧ c.tl.ledger d.id = 1 := by
  rw [stCode_model]
  cases h : defs[k]? with
  | none => simp
  | some d =>
    simp only [Option.some.injEq, exists_eq_left']
    rw [codeOf_D]
    exact stateOf_done

theorem stCode_R {c : CState} {defs : List Operation} {ok : Bool} {eq : Option (List Nat)} {k : Nat} :
    stCode (modelObs c defs ok eq) k = "R" ↔ ∃ d, defs[k]? = some d ∧ getOperationState c.tl d.id = .ready := by
  rw [stCode_model]
  cases h : defs[k]? with
  | none => simp
  | some d =>
    simp only [Option.some.injEq, exists_eq_left']
    exact codeOf_R

/-! ### Done stays Done -/

theorem undone_none {c c' : CState} (defs : List Operation) (ok ok' : Bool) (eq eq' : Option (List Nat))
    (h : ∀ id, c.tl.ledger id = 1 → c'.tl.ledger id = 1) :
    undoneCheck (modelObs c defs ok eq) (modelObs c' defs ok' eq') = none := by
  unfold undoneCheck
  have : (List.range (modelObs c defs ok eq).st.length).find?
      (fun k => decide (stCode (modelObs c defs ok eq) k = "D" ∧ stCode (modelObs c' defs ok' eq') k ≠ "D")) = none := by
    rw [List.find?_eq_none]
    intro k _
    simp only [decide_eq_true_eq, not_and, Decidable.not_not]
    intro hd
    obtain ⟨d, hk, h1⟩ := stCode_D.mp hd
    exact stCode_D.mpr ⟨d, hk, h _ h1⟩
  rw [this]

theorem newlyDone_false {c c' : CState} (defs : List Operation) (ok ok' : Bool) (eq eq' : Option (List Nat))
    (h : ∀ id, c'.tl.ledger id = 1 → c.tl.ledger id = 1) :
    newlyDone (modelObs c defs ok eq) (modelObs c' defs ok' eq') = false := by
  unfold newlyDone
  have : (List.range (modelObs c' defs ok' eq').st.length).find?
      (fun k => decide (stCode (modelObs c defs ok eq) k ≠ "D" ∧ stCode (modelObs c' defs ok' eq') k = "D")) = none := by
    rw [List.find?_eq_none]
    intro k _
    simp only [decide_eq_true_eq, not_and]
    intro hn hd
    obtain ⟨d, hk, h1⟩ := stCode_D.mp hd
    exact hn (stCode_D.mpr ⟨d, hk, h _ h1⟩)
  rw [this]; rfl

theorem rollback_none (c : CState) (defs : List Operation) (ok ok' : Bool) (eq eq' : Option (List Nat)) :
    rollback (modelObs c defs ok eq) (modelObs c defs ok' eq') = none := by
  unfold rollback
  rw [if_neg]
  simp [modelObs]

/-! ### an idle gap -/

theorem idleAt_none {c c' : CState} (defs : List Operation) (ok ok' : Bool) (eq eq' : Option (List Nat))
    (hl : c'.tl.ledger = c.tl.ledger) (hn : c.tl.now ≤ c'.tl.now) (n k : Nat) :
    idleAt (modelObs c defs ok eq) (modelObs c' defs ok' eq') n k = none := by
  unfold idleAt
  show (match (modelSt c defs)[k]?, (modelSt c' defs)[k]? with
    | some (a, la), some (b, lb) => _
    | _, _ => none) = none
  rw [modelSt_get, modelSt_get]
  cases defs[k]? with
  | none => rfl
  | some d =>
    simp only [Option.map_some]
    unfold getOperationState getOperationLedger
    rw [hl]
    show (if codeOf (stateOf (c.tl.ledger d.id) c.tl.now) = codeOf (stateOf (c.tl.ledger d.id) c'.tl.now) ∧
        c.tl.ledger d.id = c.tl.ledger d.id then none
      else if codeOf (stateOf (c.tl.ledger d.id) c.tl.now) = "W" ∧
          codeOf (stateOf (c.tl.ledger d.id) c'.tl.now) = "R" ∧ c.tl.ledger d.id = c.tl.ledger d.id ∧
          c.tl.ledger d.id ≤ c'.tl.now then none else _) = none
    rcases stateOf_advance (c.tl.ledger d.id) hn with e | ⟨hw, hr, hle⟩
    · rw [if_pos ⟨by rw [e], rfl⟩]
    · rw [hw, hr, if_neg (fun h => absurd h.1 (by decide)), if_pos ⟨rfl, rfl, rfl, hle⟩]

theorem idleCheck_none {c c' : CState} (defs : List Operation) (ok ok' : Bool) (eq eq' : Option (List Nat))
    (hmin : c'.tl.minDelay = c.tl.minDelay) (hadm : c'.admin = c.admin)
    (hrole : c'.ac.hasRole = c.ac.hasRole) (hradm : c'.ac.roleAdmin = c.ac.roleAdmin)
    (hcalls : c'.tl.calls = c.tl.calls)
    (hl : c'.tl.ledger = c.tl.ledger) (hn : c.tl.now ≤ c'.tl.now) (n : Nat) :
    idleCheck (modelObs c defs ok eq) (modelObs c' defs ok' eq') n = none := by
  unfold idleCheck
  rw [if_neg (by simp [modelObs, hmin]), if_neg (by simp [modelObs, hadm]),
    if_neg (by simp [modelObs, modelRoles_of_ac hrole]), if_neg (by simp [modelObs, modelRadm_of_ac hradm]),
    if_neg (by simp [modelObs, showCalls, hcalls])]
  have : (List.range (modelObs c defs ok eq).st.length).filterMap
      (idleAt (modelObs c defs ok eq) (modelObs c' defs ok' eq') n) = [] := by
    rw [List.filterMap_eq_nil_iff]
    intro k _
    exact idleAt_none defs ok ok' eq eq' hl hn n k
  rw [this]; rfl

theorem idle_none_of_not_advance (c : Call) (prev o : Obs) (h : ∀ n, c ≠ .advance n) : idle c prev o = none := by
  unfold idle
  cases c with
  | advance n => exact absurd rfl (h n)
  | _ => rfl

theorem effect_none (cl : Call) (prev o : Obs)
    (h1 : isUpdateK cl = false → o.min = prev.min)
    (h2 : isCallerK cl = false → o.roles = prev.roles)
    (h3 : isSetradmK cl = false → o.radm = prev.radm)
    (h4 : isAcceptK cl = false → isRenounceK cl = false → o.admin = prev.admin)
    (h5 : isAdminK cl = false → isCallerK cl = false → isCheckK cl = false → isExecK cl = false →
      newlyDone prev o = false) :
    effect cl prev o = none := by
  unfold effect
  rw [if_neg, if_neg, if_neg, if_neg, if_neg]
  · rintro ⟨a, b, c, d, e⟩
    rw [h5 (by simpa using b) (by simpa using c) (by simpa using d) (by simpa using e)] at a
    cases a
  · rintro ⟨a, b, c⟩
    exact a (h4 (by simpa using b) (by simpa using c))
  · rintro ⟨a, b⟩
    exact a (h3 (by simpa using b))
  · rintro ⟨a, b⟩
    exact a (h2 (by simpa using b))
  · rintro ⟨a, b⟩
    exact a (h1 (by simpa using b))

/-! ### the consumption check -/

theorem executorCount_pos {c : CState} (hi : OZ.Access.Inv c.ac) {a : Nat} (h : c.hasRole EXECUTOR a = true) :
    c.executorCount ≠ 0 := by
  unfold CState.hasRole OZ.Access.hasRoleQ at h
  cases hh : c.ac.hasRole a EXECUTOR with
  | none => rw [hh] at h; cases h
  | some i =>
    have := ((hi.role EXECUTOR).back a i hh).1
    unfold CState.executorCount
    omega

theorem executorCount_of_members {c : CState} (defs : List Operation) (ok : Bool) (eq : Option (List Nat))
    (hi : OZ.Access.Inv c.ac) (h : ¬ (members (modelObs c defs ok eq) 1).isEmpty = true) :
    c.executorCount ≠ 0 := by
  cases hl : members (modelObs c defs ok eq) 1 with
  | nil => rw [hl] at h; exact absurd rfl h
  | cons a t =>
    have ha : a ∈ members (modelObs c defs ok eq) 1 := by rw [hl]; exact List.mem_cons_self
    exact executorCount_pos hi (members_sub c defs ok eq ha)

theorem execCheck_none (c : CState) (defs : List Operation) (ok : Bool) (eq : Option (List Nat))
    (hi : OZ.Access.Inv c.ac) (e : Option Nat) (j : Nat) (auth : List AuthM)
    (h : c.executorCount ≠ 0 → ∃ ex, e = some ex ∧ c.hasRole EXECUTOR ex = true ∧ AuthM.exec ex j ∈ auth) :
    execCheck (modelObs c defs ok eq) e j auth = none := by
  unfold execCheck
  by_cases hem : (members (modelObs c defs ok eq) 1).isEmpty
  · rw [if_pos hem]
  · rw [if_neg hem]
    have hne := executorCount_of_members defs ok eq hi hem
    obtain ⟨ex, rfl, hr, hin⟩ := h hne
    simp only
    rw [if_neg, if_neg]
    · simpa using hin
    · rintro ⟨hu, hc⟩
      apply hc
      rw [members_contains c defs ok eq (by decide) (by simpa [inU] using hu)]
      exact hr

theorem ready_known {x : MS} (hi : MInv x) {id : Id} (h : getOperationState x.c.tl id = .ready) :
    id ∈ x.defs.map Operation.id := by
  obtain ⟨l, d, mn, hg, _⟩ := ghostState_ready.mp ((hi.tl.state_eq _).symm.trans h)
  exact hi.known _ (by rw [hg]; simp)

/-- the monitor's `consumed` is silent: the operation is a defined one, pending with its delay elapsed in the
monitor's ghost log, reported Ready before and Done after -/
theorem consumed_none (m : Mon) (x : MS) (hi : MInv x) (ha : Agree m x) (c' : CState)
    (ok0 : Bool) (eq0 : Option (List Nat)) (fn : Nat) (args : List Nat) (md : MetaM) (pred : Id)
    (hres : refKey x.defs md.p = some pred) (j : Nat) (auth : List AuthM)
    (hready : getOperationState x.c.tl (Id.op 0 fn args pred md.s) = .ready)
    (hdone : c'.tl.ledger (Id.op 0 fn args pred md.s) = 1)
    (hexec : x.c.executorCount ≠ 0 →
      ∃ ex, md.e = some ex ∧ x.c.hasRole EXECUTOR ex = true ∧ AuthM.exec ex j ∈ auth)
    (chk : Bool) (hpd : chk = true → pred = Id.zero ∨ x.c.tl.ledger pred = 1) :
    consumed m (modelObs x.c x.defs ok0 eq0) (modelObs c' x.defs true none) fn args md j auth chk = none ∧
    keyOf x.defs fn args md = some (Id.op 0 fn args pred md.s) := by
  obtain ⟨l, d, mn, hg, hel⟩ := ghostState_ready.mp ((hi.tl.state_eq _).symm.trans hready)
  obtain ⟨k, hk⟩ := findDef_of_mem (ready_known hi hready)
  have hkd := findDef_some hk
  have hkey : opKey fn args (refKey x.defs md.p) md.s = some (Id.op 0 fn args pred md.s) := by
    rw [hres]; rfl
  refine ⟨?_, ?_⟩
  · unfold consumed
    rw [ha.defs, hkey, hk]
    simp only
    unfold consumedAt
    have hget : m.get (keyAt m.defs k) = .pending l d := by
      unfold keyAt
      rw [ha.defs, hkd, ha.ghost, hg]; rfl
    have hearly : early (m.get (keyAt m.defs k)) k (modelObs x.c x.defs ok0 eq0).now = none := by
      rw [hget]
      unfold early
      simp only
      exact if_pos ((elapsedM_iff l d x.c.tl.now).mpr hel)
    rw [hearly]
    simp only
    obtain ⟨dd, hdd, hdi⟩ : ∃ dd, x.defs[k]? = some dd ∧ dd.id = Id.op 0 fn args pred md.s := by
      cases hx : x.defs[k]? with
      | none => rw [hx] at hkd; cases hkd
      | some dd => rw [hx] at hkd; injection hkd with hkd; exact ⟨dd, rfl, hkd⟩
    have hddp : dd.pred = pred := by
      unfold Operation.id at hdi
      injection hdi
    rw [if_neg (by
      rintro ⟨hc, hpp⟩
      unfold predPending at hpp
      rw [ha.defs, hdd] at hpp
      simp only [Bool.and_eq_true, decide_eq_true_eq] at hpp
      obtain ⟨hnz, hnd⟩ := hpp
      rw [hddp] at hnz hnd
      rcases hpd hc with hz | hl1
      · exact hnz hz
      · apply hnd
        rw [ha.ghost, (hi.tl.coh pred).of_one hi.tl.nowHi hl1]; rfl)]
    rw [if_neg (by
      intro hne; apply hne
      exact stCode_R.mpr ⟨dd, hdd, by rw [hdi]; exact hready⟩)]
    rw [if_neg (by
      intro hne; apply hne
      exact stCode_D.mpr ⟨dd, hdd, by rw [hdi]; exact hdone⟩)]
    exact execCheck_none x.c x.defs ok0 eq0 hi.ac md.e j auth hexec
  · unfold keyOf
    rw [hkey, hk]
    exact hkd

/-! ### an accepted call line -/

theorem ghostStep_defs (m : Mon) (cl : CallLine) (now : Nat) (pa : Option Nat) :
    (ghostStep m cl now pa).defs = m.defs := by
  unfold ghostStep
  cases cl.call with
  | sched k d p =>
    simp only
    cases m.defs[k]? <;> rfl
  | cancel r p => rfl
  | exec k ex ok =>
    simp only
    cases m.defs[k]? <;> rfl
  | _ =>
    simp only
    split
    · exact markDone_defs _ _
    · rfl

/-- what has to be shown for a call line the model accepts with new controller state `c'` -/
structure CallSound (m : Mon) (x : MS) (cl : CallLine) (c' : CState) : Prop where
  verdict : ∀ ok0 eq0, verdictCall m (modelObs x.c x.defs ok0 eq0) (modelObs c' x.defs true none) cl = none
  ghost : ∀ id, (ghostStep m cl c'.tl.now x.c.admin).get (some id) = toG (Timelock.ghost c'.tl.log id)
  known : ∀ id, Timelock.ghost c'.tl.log id ≠ .unset → id ∈ x.defs.map Operation.id

theorem verdictCall_none {m : Mon} {prev o : Obs} {cl : CallLine}
    (hidle : idle cl.call prev o = none) (hund : undoneCheck prev o = none) (hok : o.ok = true)
    (heff : effect cl.call prev o = none) (hacc : verdictAccepted m prev o cl = none) :
    verdictCall m prev o cl = none := by
  unfold verdictCall verdictOk
  rw [hidle, hund, if_neg (by simp [hok]), heff, hacc]
  rfl

/-! ### an accepted loop of `__check_auth` -/

/-- the first pair of an accepted loop: its operation's predecessor is none or Done in the state the loop started in -/
theorem checkPairs_head_pred {c c' : CState} {auth : List AuthTok} {pairs : List (Context × Meta)} {ctx : Context} {mt : Meta}
    (h : checkPairs c auth pairs = .ok c') (h0 : pairs[0]? = some (ctx, mt)) :
    mt.pred = Id.zero ∨ c.tl.ledger mt.pred = 1 := by
  cases pairs with
  | nil => cases h0
  | cons hd rest =>
    cases h0
    unfold checkPairs at h
    cases h1 : checkOne c auth ctx mt with
    | error e => rw [h1] at h; cases h
    | ok c1 =>
      obtain ⟨fn, args, tl', _, _, hse, _⟩ := checkOne_ok h1
      exact (setExecute_iff.mp hse).1.2.2

/-- **an accepted loop of `__check_auth`**, over descriptors and contexts as the model driver resolved them and the
tokens of the line, seen from the monitor: the operations `ids` it marked done are defined ones, and for the pair
at every index the monitor's consumption check is silent, whichever readable descriptor of the line resolved to it -/
theorem loop_sound (m : Mon) (x : MS) (hi : MInv x) (ha : Agree m x) (auth : List AuthM) {metas : List Meta}
    {ctxs : List Context} {c1 : CState}
    (hp : checkPairs x.c (resolveToks metas ctxs auth) (ctxs.zip metas) = .ok c1) :
    ∃ ids : List Id, ids.length = (ctxs.zip metas).length ∧
      c1 = { x.c with tl := { x.c.tl with ledger := fun id => if id ∈ ids then 1 else x.c.tl.ledger id,
                                          log := (ids.map (fun i => Ev.exec i x.c.tl.now)).reverse ++ x.c.tl.log } } ∧
      (∀ id, (markDone m ids).get (some id) = toG (Timelock.ghost c1.tl.log id)) ∧
      (∀ id, Timelock.ghost c1.tl.log id ≠ .unset → id ∈ x.defs.map Operation.id) ∧
      ∀ j ctx mt, ctxs[j]? = some ctx → metas[j]? = some mt →
        ∃ fn args, ctx = .contract 0 fn args ∧ ids[j]? = some (Id.op 0 fn args mt.pred mt.salt) ∧
          ∀ md, resolveMeta x.defs md = some mt →
            keyOf x.defs fn args md = some (Id.op 0 fn args mt.pred mt.salt) ∧
            ∀ c' ok0 eq0, c'.tl.ledger = c1.tl.ledger →
              consumed m (modelObs x.c x.defs ok0 eq0) (modelObs c' x.defs true none) fn args md j auth
                (decide (ctxs.length = 1)) = none := by
  obtain ⟨ops, hmap, hall, hready, _, hnd, hc1⟩ := checkPairs_run hp
  have pairAt : ∀ (j : Nat) (ctx : Context) (mt : Meta), ctxs[j]? = some ctx → metas[j]? = some mt →
      ∃ fn args, ctx = Context.contract 0 fn args ∧ ops[j]? = some (⟨0, fn, args, mt.pred, mt.salt⟩ : Operation) ∧
        execGate x.c (resolveToks metas ctxs auth) fn args mt = .ok () := by
    intro j ctx mt hctx hmt
    have hpair : (ctxs.zip metas)[j]? = some (ctx, mt) := List.getElem?_zip_eq_some.mpr ⟨hctx, hmt⟩
    obtain ⟨fn, args, hc, hgate⟩ := hall _ (List.mem_of_getElem? hpair)
    have ho := map_some_get hmap j
    rw [hpair] at ho
    simp only at hc
    subst hc
    rw [hi.self] at ho
    exact ⟨fn, args, by rw [hi.self], ho.symm, hgate⟩
  have hlog : c1.tl.log = ((ops.map Operation.id).map (fun i => Ev.exec i x.c.tl.now)).reverse ++ x.c.tl.log := by
    rw [hc1, List.map_map]; rfl
  refine ⟨ops.map Operation.id, by rw [List.length_map, ← map_some_length hmap], by rw [hc1, List.map_map]; rfl,
    fun id => ?_, fun id hne => ?_, fun j ctx mt hctx hmt => ?_⟩
  · rw [hlog, get_markDone, ghost_exec_prefix]
    split
    · rfl
    · exact ha.ghost id
  · rw [hlog, ghost_exec_prefix] at hne
    split at hne
    · obtain ⟨o, ho, rfl⟩ := List.mem_map.mp ‹_›
      exact ready_known hi (hready o ho)
    · exact hi.known id hne
  · obtain ⟨fn, args, rfl, hop, hgate⟩ := pairAt j ctx mt hctx hmt
    refine ⟨fn, args, rfl, by rw [List.getElem?_map, hop]; rfl, fun md hmd => ?_⟩
    obtain ⟨pred, hres, rfl⟩ : ∃ pred, refKey x.defs md.p = some pred ∧ mt = ⟨pred, md.s, md.e⟩ := by
      unfold resolveMeta at hmd
      cases hr : refKey x.defs md.p with
      | none => rw [hr] at hmd; cases hmd
      | some p => rw [hr] at hmd; exact ⟨p, rfl, (Option.some.inj hmd).symm⟩
    have hmem : (⟨0, fn, args, pred, md.s⟩ : Operation) ∈ ops := List.mem_of_getElem? hop
    have hexec : x.c.executorCount ≠ 0 →
        ∃ ex, md.e = some ex ∧ x.c.hasRole EXECUTOR ex = true ∧ AuthM.exec ex j ∈ auth := by
      intro hne
      obtain ⟨ex, he, hrole, hin⟩ := execGate_ok hgate hne
      refine ⟨ex, he, hrole, ?_⟩
      rw [hi.self] at hin
      obtain ⟨j', mt', hj', hc', hm', hp', hs'⟩ := mem_resolveToks_exec hin
      obtain ⟨fn', args', hcc, hop', _⟩ := pairAt j' _ mt' hc' hm'
      cases hcc
      -- both indices denote the same operation: they coincide
      have : (ops.map Operation.id)[j']? = (ops.map Operation.id)[j]? := by
        rw [List.getElem?_map, List.getElem?_map, hop, hop', hp', hs']
      have hlt : j' < (ops.map Operation.id).length := by
        rw [List.length_map]; exact (List.getElem?_eq_some_iff.mp hop').1
      rw [← (List.getElem?_inj hlt hnd).mp this]; exact hj'
    have hpd : decide (ctxs.length = 1) = true → pred = Id.zero ∨ x.c.tl.ledger pred = 1 := by
      intro hc
      have hj0 : j = 0 := by
        have := (List.getElem?_eq_some_iff.mp hctx).1
        have := of_decide_eq_true hc
        omega
      subst hj0
      exact checkPairs_head_pred hp (List.getElem?_zip_eq_some.mpr ⟨hctx, hmt⟩)
    have hcons := fun c' (hl : c'.tl.ledger = c1.tl.ledger) ok0 eq0 =>
      consumed_none m x hi ha c' ok0 eq0 fn args md pred hres j auth (hready _ hmem)
        (by rw [hl, hc1]; exact if_pos (List.mem_map.mpr ⟨_, hmem, rfl⟩)) hexec _ hpd
    exact ⟨(hcons c1 rfl true none).2, fun c' ok0 eq0 hl => (hcons c' hl ok0 eq0).1⟩

/-- the authorization phase of an accepted call on one of the controller's own entry points -/
structure PhaseSound (m : Mon) (x : MS) (cl : CallLine) (who : Nat) (c1 : CState) : Prop where
  /-- the monitor's check of who authorized (`who` named as caller, or `who` the admin) is silent against the
  observation of any later state in which the operation ledgers are those of `c1` -/
  auth : ∀ c' ok0 eq0, c'.tl.ledger = c1.tl.ledger →
    callerAuth m (modelObs x.c x.defs ok0 eq0) (modelObs c' x.defs true none) cl who = none ∧
    (x.c.admin = some who → adminAuth m (modelObs x.c x.defs ok0 eq0) (modelObs c' x.defs true none) cl = none)
  ghost : ∀ now id, (ghostStep m cl now x.c.admin).get (some id) = toG (Timelock.ghost c1.tl.log id)
  known : ∀ id, Timelock.ghost c1.tl.log id ≠ .unset → id ∈ x.defs.map Operation.id
  min : c1.tl.minDelay = x.c.tl.minDelay
  ac : c1.ac = x.c.ac

theorem phase_sound (m : Mon) (x : MS) (hi : MInv x) (ha : Agree m x) (cl : CallLine) (who : Nat)
    (hstep : ∀ now, ghostStep m cl now x.c.admin = if who = 0 then markDone m (sigKeys m.defs cl.call cl.sig) else m)
    (c1 : CState)
    (hph : requireAuth checkAuth x.c (ownToks x cl) (resolveSig x.defs cl.sig) who (fnOf cl.call) (argsOf cl.call) = .ok c1) :
    PhaseSound m x cl who c1 := by
  rcases requireAuth_ok hph with ⟨hself, mts, hsig, hc⟩ | ⟨hne, hin, rfl⟩
  · -- the controller itself: a run of `__check_auth` over the one context of this invocation
    have hw0 : who = 0 := by rw [hself, hi.self]
    obtain ⟨hlen, hp⟩ := checkAuth_ok hc
    obtain ⟨l, hl, hms⟩ : ∃ l, cl.sig = some l ∧ resolveMetas x.defs l = some mts := by
      cases hs : cl.sig with
      | none => rw [hs] at hsig; cases hsig
      | some l => rw [hs] at hsig; exact ⟨l, rfl, hsig⟩
    have hmap := resolveMetas_map hms
    obtain ⟨mt, rfl⟩ := List.length_eq_one_iff.mp hlen
    obtain ⟨md, rfl⟩ := List.length_eq_one_iff.mp ((map_some_length hmap).trans hlen)
    have hmd : resolveMeta x.defs md = some mt := by simpa using hmap
    have htok : ownToks x cl = resolveToks [mt] [.contract x.c.self (fnOf cl.call) (argsOf cl.call)] cl.auth := by
      unfold ownToks ownCtx; rw [hsig]; rfl
    rw [htok] at hp
    obtain ⟨ids, hidl, hc1, hgh, hkn, hat⟩ := loop_sound m x hi ha cl.auth hp
    obtain ⟨fn, args, hctx, hid, hmon⟩ := hat 0 _ mt rfl rfl
    rw [hi.self] at hctx
    cases hctx
    obtain ⟨hkey, hsil⟩ := hmon md hmd
    obtain ⟨i, rfl⟩ := List.length_eq_one_iff.mp hidl
    cases hid
    have hsil' : ∀ c' ok0 eq0, c'.tl.ledger = c1.tl.ledger → consumed m (modelObs x.c x.defs ok0 eq0)
        (modelObs c' x.defs true none) (fnOf cl.call) (argsOf cl.call) md 0 cl.auth true = none := hsil
    refine ⟨fun c' ok0 eq0 h => ⟨?_, fun hadm => ?_⟩, fun now id => ?_, hkn, by rw [hc1], by rw [hc1]⟩
    · unfold callerAuth selfAuth
      rw [if_pos hw0, hl]
      simp only
      rw [hsil' c' ok0 eq0 h]
      rfl
    · unfold adminAuth adminSelf
      show (match x.c.admin with | none => _ | some ad => _) = none
      rw [hadm]
      simp only
      rw [if_pos hw0, hl]
      simp only
      rw [hsil' c' ok0 eq0 h]
      rfl
    · rw [hstep now, if_pos hw0, hl]
      unfold sigKeys
      simp only
      rw [ha.defs, hkey]
      exact hgh id
  · -- an ordinary account
    have hw0 : who ≠ 0 := by rw [← hi.self]; exact hne
    have hc : ¬ ¬ cl.auth.contains (.call who) = true := by simpa using mem_resolveToks_call.mp hin
    refine ⟨fun c' ok0 eq0 _ => ⟨?_, fun hadm => ?_⟩, ?_, hi.known, rfl, rfl⟩
    · unfold callerAuth
      rw [if_neg hw0, if_neg hc]
    · unfold adminAuth
      show (match x.c.admin with | none => _ | some ad => _) = none
      rw [hadm]
      simp only
      rw [if_neg hw0, if_neg hc]
    · intro now id
      rw [hstep now, if_neg hw0]
      exact ha.ghost id

end OZ.TimelockController.Mon
