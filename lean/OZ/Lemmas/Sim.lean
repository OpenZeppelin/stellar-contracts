import OZ.Lemmas.Comp
/-
The simulation relation between generated code and hand model. A generated function is a `Comp β` (a value or a panic),
the hand model's an `Except ε γ`. `Sim Q g m`: they are accepted together, with results related by `Q`, and refused
together (error kinds are not part of the generated code). For an entry point in store-passing form `Q` is `onStore A`,
`A` the abstraction relation of the file; for a read-only call or a check it is equality, `q = Comp.ofExcept x`.

A rule peels one construct of the generated code and the matching one of the model: a call of another function (`bind`;
`mapL`, `mapR`, `tail`, `map` when a result is repacked), a read-only call or check (`read`, `readMap`), a lookup
(`unwrap`, `lookup`), a test: `test` / `reject` when the model BINDS a unit check such as `requireAuth` (the generated
code going on resp. panicking on the condition), `require` / `refuse` when the model has an `if` that refuses, `ite` /
`ite_not` when both branches are live. Sequential writes are nested `Store.set_*` terms in the generated code, not
`bind`s: a fragment that recurs is stated with its continuation as a variable.

A `match` compiles to a matcher constant of the definition it stands in: a refinement file whose results are stated by
a `match` on the model's outcome has a relation neither `Iff.rfl` nor unifiable with this one, and bridges it once
(`sim_iff`, by `cases m`); likewise the step of a history is read off by cases on the model's outcome (`of_ok`,
`of_error`).
-/
namespace OZ.Rs

variable {β β' γ γ' δ δ' τ σ ε : Type}

def Comp.ofExcept (x : Except ε γ) : Comp γ :=
  match x with
  | .ok a => .ok a
  | .error _ => .panic

/-- `o.unwrap_or_else(|| panic!(..))` as a value-or-panic -/
def Comp.ofOption (o : Option γ) : Comp γ := Comp.unwrap o .ok

def Sim (Q : β → γ → Prop) (g : Comp β) (m : Except ε γ) : Prop :=
  match m with
  | .ok r => ∃ b, g = .ok b ∧ Q b r
  | .error _ => g = .panic

abbrev onStore (A : τ → σ → Prop) : Unit × τ → σ → Prop := fun b s => A b.2 s

namespace Sim
variable {Q : β → γ → Prop} {Q' : β' → γ' → Prop}

theorem pure {b : β} {r : γ} (h : Q b r) : Sim Q (.ok b) (.ok r : Except ε γ) := ⟨b, rfl, h⟩

theorem panic (e : ε) : Sim Q .panic (.error e : Except ε γ) := rfl

theorem of_ok {g : Comp β} {m : Except ε γ} {r : γ} (h : Sim Q g m) (hm : m = .ok r) : ∃ b, g = .ok b ∧ Q b r := by
  subst hm; exact h

theorem of_error {g : Comp β} {m : Except ε γ} {e : ε} (h : Sim Q g m) (hm : m = .error e) : g = .panic := by
  subst hm; exact h

theorem store_ok_iff {A : τ → σ → Prop} {g : Comp (Unit × τ)} {s' : σ} :
    Sim (onStore A) g (.ok s' : Except ε σ) ↔ ∃ st', g = .ok ((), st') ∧ A st' s' :=
  ⟨fun ⟨b, h1, h2⟩ => ⟨b.2, h1, h2⟩, fun ⟨_, h1, h2⟩ => ⟨_, h1, h2⟩⟩

theorem of_ok_store {A : τ → σ → Prop} {g : Comp (Unit × τ)} {m : Except ε σ} {s' : σ} (h : Sim (onStore A) g m)
    (hm : m = .ok s') : ∃ st', g = .ok ((), st') ∧ A st' s' :=
  store_ok_iff.1 (hm ▸ h)

theorem eq_iff {q : Comp γ} {x : Except ε γ} : Sim Eq q x ↔ q = Comp.ofExcept x := by
  cases x with
  | ok a => exact ⟨fun ⟨_, h1, h2⟩ => h2 ▸ h1, fun h => ⟨a, h, rfl⟩⟩
  | error e => exact Iff.rfl

theorem bind {g : Comp β} {m : Except ε γ} {h : β → Comp β'} {k : γ → Except ε γ'}
    (hg : Sim Q g m) (hk : ∀ b r, Q b r → Sim Q' (h b) (k r)) : Sim Q' (g.bind h) (m >>= k) := by
  cases m with
  | ok r => obtain ⟨b, h1, h2⟩ := hg; subst h1; exact hk b r h2
  | error e => have hg : g = .panic := hg; subst hg; rfl

/-- the generated code repacks the result: `(t.1, t.2)`, a store written once more, a value dropped -/
theorem mapL {g : Comp β} {m : Except ε γ} {Q' : β' → γ → Prop} (hg : Sim Q g m) (f : β → β')
    (hf : ∀ b r, Q b r → Q' (f b) r) : Sim Q' (g.bind fun t => .ok (f t)) m := by
  cases m with
  | ok r => obtain ⟨b, h1, h2⟩ := hg; subst h1; exact ⟨f b, rfl, hf b r h2⟩
  | error e => have hg : g = .panic := hg; subst hg; rfl

theorem mapR {g : Comp β} {m : Except ε γ} {Q' : β → γ' → Prop} (hg : Sim Q g m) (φ : γ → γ')
    (hf : ∀ b r, Q b r → Q' b (φ r)) : Sim Q' g (m >>= fun r => Pure.pure (φ r)) := by
  cases m with
  | ok r => obtain ⟨b, h1, h2⟩ := hg; exact ⟨b, h1, hf b r h2⟩
  | error e => exact hg

theorem tail {A : τ → σ → Prop} {g : Comp (Unit × τ)} {m : Except ε σ} (hg : Sim (onStore A) g m) :
    Sim (onStore A) (g.bind fun t => .ok ((), t.2)) m :=
  hg.mapL _ fun _ _ h => h

theorem map {g : Comp β} {m : Except ε γ} (hg : Sim Q g m) (f : β → β') (φ : γ → γ')
    (hf : ∀ b r, Q b r → Q' (f b) (φ r)) : Sim Q' (g.bind fun t => .ok (f t)) (m >>= fun r => Pure.pure (φ r)) :=
  hg.bind fun _ _ h => pure (hf _ _ h)

theorem read {q : Comp δ} {x : Except ε δ} {h : δ → Comp β} {k : δ → Except ε γ}
    (hq : q = Comp.ofExcept x) (hk : ∀ a, x = .ok a → Sim Q (h a) (k a)) : Sim Q (q.bind h) (x >>= k) := by
  subst hq
  cases x with
  | ok a => exact hk a rfl
  | error e => rfl

theorem readMap {q : Comp δ} {x : Except ε δ'} {f : δ' → δ} {h : δ → Comp β} {k : δ' → Except ε γ}
    (hq : q = Comp.ofExcept (x >>= fun a => Pure.pure (f a))) (hk : ∀ a, x = .ok a → Sim Q (h (f a)) (k a)) :
    Sim Q (q.bind h) (x >>= k) := by
  subst hq
  cases x with
  | ok a => exact hk a rfl
  | error e => rfl

theorem unwrap {o : Option δ} {x : Except ε δ'} {f : δ → δ'} {h : δ → Comp β} {k : δ' → Except ε γ}
    (hx : Comp.ofExcept x = Comp.ofOption (o.map f)) (hk : ∀ v, o = some v → Sim Q (h v) (k (f v))) :
    Sim Q (Comp.unwrap o h) (x >>= k) := by
  cases o with
  | none => cases x with
    | ok a => cases hx
    | error e => rfl
  | some v => cases x with
    | ok a => cases hx; exact hk v rfl
    | error e => cases hx

/-- `unwrap` through a getter that unwraps the entry (`get_x(..) = o.unwrap_or_else(..)`, by `rfl`) -/
theorem lookup {q : Comp δ} {o : Option δ} {x : Except ε δ'} {f : δ → δ'} {h : δ → Comp β} {k : δ' → Except ε γ}
    (hq : q = Comp.ofOption o) (hx : Comp.ofExcept x = Comp.ofOption (o.map f))
    (hk : ∀ v, o = some v → Sim Q (h v) (k (f v))) : Sim Q (q.bind h) (x >>= k) := by
  rw [hq, Comp.ofOption, Comp.bind_unwrap]; exact unwrap hx hk

theorem test {c : Prop} [Decidable c] {x : Except ε Unit} {g : Comp β} {m : Except ε γ}
    (hc : c ↔ x = .ok ()) (hg : c → Sim Q g m) : Sim Q (if c then g else .panic) (x >>= fun _ => m) := by
  by_cases h : c
  · rw [if_pos h, hc.1 h]; exact hg h
  · rw [if_neg h]
    cases x with
    | ok u => exact absurd (hc.2 rfl) h
    | error e => rfl

theorem reject {c : Prop} [Decidable c] {x : Except ε Unit} {g : Comp β} {m : Except ε γ}
    (hc : ¬ c ↔ x = .ok ()) (hg : ¬ c → Sim Q g m) : Sim Q (if c then .panic else g) (x >>= fun _ => m) := by
  by_cases h : c
  · rw [if_pos h]
    cases x with
    | ok u => exact absurd h (hc.2 rfl)
    | error e => rfl
  · rw [if_neg h, hc.1 h]; exact hg h

theorem ite {c c' : Prop} [Decidable c] [Decidable c'] {g₁ g₂ : Comp β} {m₁ m₂ : Except ε γ} (hc : c ↔ c')
    (h₁ : c → Sim Q g₁ m₁) (h₂ : ¬ c → Sim Q g₂ m₂) : Sim Q (if c then g₁ else g₂) (if c' then m₁ else m₂) := by
  by_cases h : c
  · rw [if_pos h, if_pos (hc.1 h)]; exact h₁ h
  · rw [if_neg h, if_neg (fun h' => h (hc.2 h'))]; exact h₂ h

theorem ite_not {c c' : Prop} [Decidable c] [Decidable c'] {g₁ g₂ : Comp β} {m₁ m₂ : Except ε γ} (hc : c ↔ ¬ c')
    (h₁ : c → Sim Q g₁ m₁) (h₂ : ¬ c → Sim Q g₂ m₂) : Sim Q (if c then g₁ else g₂) (if c' then m₂ else m₁) := by
  by_cases h : c
  · rw [if_pos h, if_neg (hc.1 h)]; exact h₁ h
  · rw [if_neg h, if_pos (Classical.not_not.1 fun h' => h (hc.2 h'))]; exact h₂ h

theorem require {c c' : Prop} [Decidable c] [Decidable c'] (e : ε) {g : Comp β} {m : Except ε γ}
    (hc : c ↔ c') (hg : c → Sim Q g m) : Sim Q (if c then g else .panic) (if c' then m else .error e) :=
  ite hc hg fun _ => panic e

theorem refuse {c c' : Prop} [Decidable c] [Decidable c'] (e : ε) {g : Comp β} {m : Except ε γ}
    (hc : c ↔ c') (hg : ¬ c → Sim Q g m) : Sim Q (if c then .panic else g) (if c' then .error e else m) :=
  ite hc (fun _ => panic e) hg

end Sim

end OZ.Rs
