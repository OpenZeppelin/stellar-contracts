import OZ.Lemmas.RegIrs
import OZ.Lemmas.RegMon
import OZ.Lemmas.Lists
import OZ.Model.RegIrsMon
/-
For the soundness of the `irs` monitor of C20 (OZ/Props/C20fMon.lean): the monitor's plain maps as lookup functions
(`find`, `rlook`) set against the record `recOf` the model state holds for an account.
-/
namespace OZ.RegIrs.Mon
open OZ.Reg OZ.RegMon OZ.RegIrs

def recOf (s : State) (a : Nat) : Option Rec :=
  match s.identity a, s.profile a with
  | some i, some p => some ⟨a, i, p.ty, p.countries⟩
  | _, _ => none

def rlook (g : Mon) (a : Nat) : Option Nat := (g.recovered.find? (fun p => p.1 == a)).map (·.2)

structure Agree (g : Mon) (s : State) (na : Nat) : Prop where
  na : g.na = na
  look : ∀ a, find g a = recOf s a
  rto : ∀ a, rlook g a = s.recoveredTo a

theorem recOf_none_of_identity {s : State} {a : Nat} (hi : s.identity a = none) : recOf s a = none := by
  unfold recOf; rw [hi]

theorem recOf_congr {s s' : State} {a : Nat} (hi : s'.identity a = s.identity a) (hp : s'.profile a = s.profile a) :
    recOf s' a = recOf s a := by
  unfold recOf; rw [hi, hp]

theorem recOf_eq_some_iff {s : State} {a : Nat} {r : Rec} :
    recOf s a = some r ↔ r.acct = a ∧ s.identity a = some r.ident ∧ s.profile a = some ⟨r.ty, r.cs⟩ := by
  unfold recOf
  constructor
  · intro h
    split at h
    · rename_i i p hi hp; cases h; exact ⟨rfl, hi, hp⟩
    · cases h
  · rintro ⟨rfl, hi, hp⟩; rw [hi, hp]

theorem recOf_maps {s : State} (hI : Inv s) (a : Nat) :
    (recOf s a).map (·.ident) = s.identity a ∧ (recOf s a).map (fun r => (⟨r.ty, r.cs⟩ : Profile)) = s.profile a := by
  unfold recOf
  cases hi : s.identity a with
  | none => rw [hI.profile_none hi]; exact ⟨rfl, rfl⟩
  | some i => obtain ⟨p, hp⟩ := hI.profile_some (by rw [hi]; rfl); rw [hp]; exact ⟨rfl, rfl⟩

theorem recOf_move (s : State) {old new : Nat} (h : old ≠ new) (ident : Nat) (p : Profile) (x : Nat) :
    recOf (moveIdentity s old new ident p) x =
      if x = new then some ⟨new, ident, p.ty, p.countries⟩ else if x = old then none else recOf s x := by
  simp only [recOf, moveIdentity, updD]
  by_cases h1 : x = new
  · subst h1; rw [if_pos rfl, if_neg (Ne.symm h), if_neg (Ne.symm h), if_pos rfl, if_pos rfl]
  · rw [if_neg h1, if_neg h1, if_neg h1]
    by_cases h2 : x = old
    · rw [if_pos h2, if_pos h2, if_pos h2]
    · rw [if_neg h2, if_neg h2, if_neg h2]

theorem find_put (g : Mon) (r : Rec) (a : Nat) :
    find (put g r) a = if a = r.acct then some r else find g a :=
  OZ.Lists.find?_filter_key_append Rec.acct g.recs r a (by simp) (by simp)

theorem find_del (g : Mon) (k a : Nat) :
    find (del g k) a = if a = k then none else find g a :=
  OZ.Lists.find?_filter_key Rec.acct g.recs k a (by simp) (by simp)

theorem rlook_eq_none (g : Mon) (a : Nat) :
    rlook g a = none ↔ ¬ (g.recovered.find? (fun p => p.1 == a)).isSome = true := by
  unfold rlook; rw [Option.map_eq_none_iff, Option.not_isSome_iff_eq_none]

theorem rlook_append (g : Mon) (o n a : Nat) (h : rlook g o = none) :
    ((g.recovered ++ [(o, n)]).find? (fun p => p.1 == a)).map (·.2) = if a = o then some n else rlook g a := by
  rw [List.find?_append]
  by_cases hao : a = o
  · rw [if_pos hao, hao, Option.map_eq_none_iff.1 h]; simp
  · rw [if_neg hao, List.find?_cons_of_neg (by simpa using Ne.symm hao)]; exact congrArg _ Option.or_none

theorem rto_isSome {g : Mon} {s : State} {na : Nat} (ha : Agree g s na) (a : Nat) :
    (g.recovered.find? (fun p => p.1 == a)).isSome = true ↔ (s.recoveredTo a).isSome = true := by
  rw [← ha.rto, rlook, Option.isSome_map]

theorem recOf_of_find {g : Mon} {s : State} {na : Nat} (ha : Agree g s na) {a : Nat} {r : Rec}
    (hf : find g a = some r) : r.acct = a ∧ s.identity a = some r.ident ∧ s.profile a = some ⟨r.ty, r.cs⟩ :=
  recOf_eq_some_iff.1 (by rw [← ha.look, hf])

theorem ident_of_agree {g : Mon} {s : State} {na : Nat} (ha : Agree g s na) (hI : Inv s) (a : Nat) :
    (find g a).map (·.ident) = s.identity a := by
  rw [ha.look]; exact (recOf_maps hI a).1

theorem prof_of_agree {g : Mon} {s : State} {na : Nat} (ha : Agree g s na) (hI : Inv s) (a : Nat) :
    (find g a).map (fun r => (⟨r.ty, r.cs⟩ : Profile)) = s.profile a := by
  rw [ha.look]; exact (recOf_maps hI a).2

theorem profile_none_of_find {g : Mon} {s : State} {na : Nat} (ha : Agree g s na) (hI : Inv s) {a : Nat}
    (hf : find g a = none) : s.profile a = none := by
  rw [← prof_of_agree ha hI, hf]; rfl

theorem cs_of_agree {g : Mon} {s : State} {na : Nat} (ha : Agree g s na) (hI : Inv s) (a : Nat) :
    ((find g a).map (·.cs)).getD [] = getCountryDataEntries s a := by
  unfold getCountryDataEntries
  rw [← prof_of_agree ha hI]
  cases find g a <;> rfl

theorem agree_write {g g' : Mon} {s s' : State} {na : Nat} (ha : Agree g s na) {k : Nat} {o : Option Rec}
    (hg : g'.na = g.na ∧ g'.recovered = g.recovered) (hf : ∀ a, find g' a = if a = k then o else find g a)
    (hr : s'.recoveredTo = s.recoveredTo) (h1 : recOf s' k = o)
    (h2 : ∀ a', a' ≠ k → recOf s' a' = recOf s a') : Agree g' s' na := by
  refine ⟨hg.1.trans ha.na, fun a' => ?_, fun a' => ?_⟩
  · rw [hf]
    by_cases h : a' = k
    · rw [if_pos h, h, h1]
    · rw [if_neg h, h2 a' h]; exact ha.look a'
  · rw [hr, ← ha.rto]; unfold rlook; rw [hg.2]

theorem agree_setCs {g : Mon} {s : State} {na : Nat} (ha : Agree g s na) {a : Nat} {r : Rec} (hf : find g a = some r)
    (l : List CD) :
    Agree (put g { r with cs := l }) { s with profile := updD s.profile a (some ⟨r.ty, l⟩) } na := by
  obtain ⟨rfl, hi, _⟩ := recOf_of_find ha hf
  exact agree_write ha ⟨rfl, rfl⟩ (find_put g _) rfl (recOf_eq_some_iff.2 ⟨rfl, hi, updD_same _ _ _⟩)
    fun a' h => recOf_congr rfl (updD_other _ _ _ _ h)

theorem okCD_eq (c : CD) : okCD c = validCD c := rfl

theorem plain_add_ok_iff (g g' : Mon) (a i ty : Nat) (cs : List CD) :
    plain g (.add a i ty cs) = .ok g' ↔
      rlook g a = none ∧ cs ≠ [] ∧ cs.length ≤ 15 ∧ cs.all okCD = true ∧ find g a = none ∧
      g' = put g ⟨a, i, ty, cs⟩ := by
  rw [plain, ite_error_eq_ok_iff, ite_error_eq_ok_iff, ite_error_eq_ok_iff, ite_error_eq_ok_iff, ite_error_eq_ok_iff, ok_eq_ok_iff,
    ← rlook_eq_none, Nat.not_lt, Bool.not_eq_true', Bool.not_eq_false, Option.not_isSome_iff_eq_none]

theorem plain_modify_ok_iff (g g' : Mon) (a i : Nat) :
    plain g (.modify a i) = .ok g' ↔ ∃ r, find g a = some r ∧ g' = put g { r with ident := i } := by
  rw [plain]
  cases find g a with
  | none => simp
  | some r => simp only [Option.some.injEq, exists_eq_left', ok_eq_ok_iff]

theorem plain_remove_ok_iff (g g' : Mon) (a : Nat) :
    plain g (.remove a) = .ok g' ↔ (find g a).isSome = true ∧ g' = del g a := by
  rw [plain]
  by_cases h : (find g a).isSome = true
  · rw [if_pos h, ok_eq_ok_iff, and_iff_right h]
  · rw [if_neg h]; exact ⟨nofun, fun h' => absurd h'.1 h⟩

theorem plain_recover_ok_iff (g g' : Mon) (o n : Nat) :
    plain g (.recover o n) = .ok g' ↔
      ∃ r, find g o = some r ∧ rlook g n = none ∧ find g n = none ∧
        g' = { (put (del g o) { r with acct := n }) with recovered := g.recovered ++ [(o, n)] } := by
  rw [plain]
  cases find g o with
  | none => exact iff_of_false (fun h => nomatch (ite_error_eq_ok_iff.1 h).2) fun ⟨_, h, _⟩ => nomatch h
  | some r =>
    simp only [Option.some.injEq, exists_eq_left']
    rw [ite_error_eq_ok_iff, ite_error_eq_ok_iff, ok_eq_ok_iff, ← rlook_eq_none, Option.not_isSome_iff_eq_none]

theorem plain_addCountries_ok_iff (g g' : Mon) (a : Nat) (cs : List CD) :
    plain g (.addCountries a cs) = .ok g' ↔
      ∃ r, find g a = some r ∧ cs ≠ [] ∧ cs.all okCD = true ∧ (r.cs ++ cs).length ≤ 15 ∧
        g' = put g { r with cs := r.cs ++ cs } := by
  rw [plain]
  cases find g a with
  | none => exact iff_of_false (fun h => nomatch (ite_error_eq_ok_iff.1 (ite_error_eq_ok_iff.1 h).2).2) fun ⟨_, h, _⟩ => nomatch h
  | some r =>
    simp only [Option.some.injEq, exists_eq_left']
    rw [ite_error_eq_ok_iff, ite_error_eq_ok_iff, ite_error_eq_ok_iff, ok_eq_ok_iff, Nat.not_lt, Bool.not_eq_true', Bool.not_eq_false]

theorem plain_modifyCountry_ok_iff (g g' : Mon) (a i : Nat) (c : CD) :
    plain g (.modifyCountry a i c) = .ok g' ↔
      ∃ r, find g a = some r ∧ okCD c = true ∧ i < r.cs.length ∧ g' = put g { r with cs := r.cs.set i c } := by
  rw [plain]
  cases find g a with
  | none => simp [ite_error_eq_ok_iff]
  | some r =>
    simp only [Option.some.injEq, exists_eq_left']
    rw [ite_error_eq_ok_iff, ite_error_eq_ok_iff, ok_eq_ok_iff, Nat.not_le, Bool.not_eq_true', Bool.not_eq_false]

theorem plain_deleteCountry_ok_iff (g g' : Mon) (a i : Nat) :
    plain g (.deleteCountry a i) = .ok g' ↔
      ∃ r, find g a = some r ∧ r.cs.length ≠ 1 ∧ i < r.cs.length ∧ g' = put g { r with cs := r.cs.eraseIdx i } := by
  rw [plain]
  cases find g a with
  | none => simp
  | some r =>
    simp only [Option.some.injEq, exists_eq_left']
    rw [ite_error_eq_ok_iff, ite_error_eq_ok_iff, ok_eq_ok_iff, Nat.not_le]

/-- the plain maps run the model's checks in the model's order. A check that does not look at the state is the model's up
to unfolding (`okCD_eq`; `MAX_COUNTRY_ENTRIES` is the numeral 15): `.ite .rfl` -/
theorem decides {g : Mon} {s : State} {na : Nat} (ha : Agree g s na) (hI : Inv s) (op : Op) :
    Decides (Agree · · na) (step s op) (plain g op) := by
  cases op with
  | add a ident ty cs =>
    rw [step, addIdentity, plain, ← ident_of_agree ha hI a]
    refine .ite (rto_isSome ha a) fun _ => .ite .rfl fun _ => .ite .rfl fun _ => .ite .rfl fun _ => ?_
    cases find g a with
    | some r => exact .refused
    | none =>
      exact .accepted rfl rfl (agree_write ha ⟨rfl, rfl⟩ (find_put g _) rfl
        (recOf_eq_some_iff.2 ⟨rfl, updD_same _ _ _, updD_same _ _ _⟩)
        fun a' h => recOf_congr (updD_other _ _ _ _ h) (updD_other _ _ _ _ h))
  | modify a ident =>
    rw [step, modifyIdentity, plain, ← ident_of_agree ha hI a]
    cases hf : find g a with
    | none => exact .refused
    | some r =>
      obtain ⟨rfl, _, hp⟩ := recOf_of_find ha hf
      exact .accepted rfl rfl (agree_write ha ⟨rfl, rfl⟩ (find_put g _) rfl
        (recOf_eq_some_iff.2 ⟨rfl, updD_same _ _ _, hp⟩) fun a' h => recOf_congr (updD_other _ _ _ _ h) rfl)
  | remove a =>
    rw [step, removeIdentity, plain, ← ident_of_agree ha hI a, ← prof_of_agree ha hI a]
    cases find g a with
    | none => exact .refused
    | some r =>
      exact .accepted rfl rfl (agree_write ha ⟨rfl, rfl⟩ (find_del g a) rfl (recOf_none_of_identity (updD_same _ _ _))
        fun a' h => recOf_congr (updD_other _ _ _ _ h) (updD_other _ _ _ _ h))
  | recover old new =>
    rw [step, recoverIdentity, plain, ← ident_of_agree ha hI old, ← ident_of_agree ha hI new, ← prof_of_agree ha hI old]
    refine .ite (rto_isSome ha new) fun _ => ?_
    cases hf : find g old with
    | none => exact .refused
    | some r =>
      cases hn : find g new with
      | some _ => exact .refused
      | none =>
        obtain ⟨rfl, hi, _⟩ := recOf_of_find ha hf
        refine .accepted rfl rfl ⟨ha.na, fun x => ?_, fun x => ?_⟩
        · -- the identity moves to `new`, which is another account since it has no identity
          have hon : r.acct ≠ new := fun h => by rw [h, ← ident_of_agree ha hI, hn] at hi; cases hi
          show find (put (del g r.acct) { r with acct := new }) x = _
          rw [find_put, find_del, recOf_move s hon, ha.look]
        · -- `old` holds an identity, so it was not marked recovered before
          have hro : rlook g r.acct = none := by
            rw [ha.rto]
            exact Option.not_isSome_iff_eq_none.1 fun h => by rw [hI.recNone _ h] at hi; cases hi
          show ((g.recovered ++ [(r.acct, new)]).find? (fun p => p.1 == x)).map (·.2) = updD s.recoveredTo r.acct (some new) x
          rw [rlook_append g _ _ _ hro, ha.rto]; rfl
  | addCountries a cs =>
    rw [step, addCountryDataEntries, plain, ← prof_of_agree ha hI a]
    refine .ite .rfl fun _ => .ite .rfl fun _ => ?_
    cases hf : find g a with
    | none => exact .refused
    | some r => exact .ite .rfl fun _ => .accepted rfl rfl (agree_setCs ha hf _)
  | modifyCountry a i c =>
    rw [step, modifyCountryData, plain, ← prof_of_agree ha hI a]
    refine .ite .rfl fun _ => ?_
    cases hf : find g a with
    | none => exact .refused
    | some r => exact .ite .rfl fun _ => .accepted rfl rfl (agree_setCs ha hf _)
  | deleteCountry a i =>
    rw [step, deleteCountryData, plain, ← prof_of_agree ha hI a]
    cases hf : find g a with
    | none => exact .refused
    | some r => exact .ite .rfl fun _ => .ite .rfl fun _ => .accepted rfl rfl (agree_setCs ha hf _)

theorem word_congr {g : Mon} {na : Nat} (hn : g.na = na) {f f' : Nat → String} (h : ∀ a, f a = f' a) :
    sepBy "," ((List.range na).map f) = sepBy "," ((List.range g.na).map f') := by
  rw [hn, funext h]

theorem getCountryData_eq (s : State) (a i : Nat) : getCountryData s a i = (getCountryDataEntries s a)[i]? :=
  getCountryData_eq_getElem s a i

theorem cd_by_index (l : List CD) :
    (List.range (l.length + 1)).map (fun i => match l[i]? with | some c => showCD c | none => "x") =
      l.map showCD ++ ["x"] := by
  rw [List.range_succ, List.map_append]
  congr 1
  · apply List.ext_getElem (by simp)
    intro i h1 h2
    have hi : i < l.length := by simpa using h1
    simp [hi]
  · simp

theorem recovered_quiet {s : State} (hI : Inv s) (na : Nat) :
    recoveredOk ((List.range na).map (fun a => [toString a, showOpt (getRecoveredTo s a)]))
      ((List.range na).map (fun a => [toString a, showOpt (storedIdentity s a)])) = true := by
  unfold recoveredOk
  rw [List.all_eq_true]
  intro e he
  obtain ⟨a, ha, rfl⟩ := List.mem_map.1 he
  show decide (showOpt (s.recoveredTo a) = "x" ∨ (List.contains _ [toString a, "x"]) = true) = true
  rw [decide_eq_true_eq]
  cases hr : s.recoveredTo a with
  | none => left; rfl
  | some b =>
    right
    rw [List.contains_iff_mem]
    refine List.mem_map.2 ⟨a, ha, ?_⟩
    show [toString a, showOpt (s.identity a)] = _
    rw [hI.recNone a (by rw [hr]; rfl)]; rfl

end OZ.RegIrs.Mon
