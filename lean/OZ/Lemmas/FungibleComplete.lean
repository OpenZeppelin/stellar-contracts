import OZ.Lemmas.FungibleAuth
/-
For the completeness theorems of the fungible token (OZ/Props/C01Complete.lean): the entry points as iffs, and the
reachable-state fact `AllowLuOk` (every stored `live_until_ledger` is within the host's maximum), by which the
re-write of the remaining allowance is never refused.
-/
namespace OZ.Fungible
open OZ.Host

def mintResult (s : State) (t : Nat) (a : Int) : State :=
  emit (updateSt s none (some t) a) (.mint t a)
def transferResult (s : State) (f t : Nat) (a : Int) : State :=
  emit (updateSt s (some f) (some t) a) (.transfer f t a)
def burnResult (s : State) (f : Nat) (a : Int) : State :=
  emit (updateSt s (some f) none a) (.burn f a)

/-- under the supply invariant the unchecked additions never get in the way (`credit_succeeds`) -/
theorem update_succeeds_iff {U : List Nat} (hn : U.Nodup) {s : State} (hi : Inv U s)
    (f t : Option Nat) (a : Int) (s' : State) :
    update s f t a = .ok s' ↔ (0 ≤ a ∧ debitCond s f a) ∧ s' = updateSt s f t a := by
  rw [update_eq_ok_iff, updateCond_iff_of_inv hn hi]

theorem mint_eq_ok_iff {s s' : State} {t : Nat} {a : Int} :
    mint s t a = .ok s' ↔ updateCond s none (some t) a ∧ s' = mintResult s t a :=
  update_emit_eq_ok_iff

theorem transfer_eq_ok_iff {s s' : State} {auth : List Nat} {f t : Nat} {a : Int} :
    transfer s auth f t a = .ok s' ↔
      f ∈ auth ∧ updateCond s (some f) (some t) a ∧ s' = transferResult s f t a := by
  unfold transfer
  rw [requireAuth_bind_ok_iff, update_emit_eq_ok_iff]; rfl

theorem transferFrom_eq_ok_iff {c : Cfg} {s s' : State} {auth : List Nat} {sp f t : Nat} {a : Int} :
    transferFrom c s auth sp f t a = .ok s' ↔
      sp ∈ auth ∧ updateCond s (some f) (some t) a ∧ ∃ s0, spendAllowance c s f sp a = .ok s0 ∧
        s' = { transferResult s f t a with allow := s0.allow } := by
  unfold transferFrom
  rw [requireAuth_bind_ok_iff, spend_update_eq_ok_iff]; rfl

theorem burnFrom_eq_ok_iff {c : Cfg} {s s' : State} {auth : List Nat} {sp f : Nat} {a : Int} :
    burnFrom c s auth sp f a = .ok s' ↔
      sp ∈ auth ∧ updateCond s (some f) none a ∧ ∃ s0, spendAllowance c s f sp a = .ok s0 ∧
        s' = { burnResult s f a with allow := s0.allow } := by
  unfold burnFrom
  rw [requireAuth_bind_ok_iff, spend_update_eq_ok_iff]; rfl

/-- every stored `live_until_ledger` is one `set_allowance` accepts at the current ledger: it was checked when
written and the ledger only moves forward -/
def AllowLuOk (c : Cfg) (s : State) : Prop :=
  ∀ o sp e, s.allow o sp = some e → e.val.liveUntilLedger ≤ c.maxLiveUntil s.now

theorem allowLuOk_init (c : Cfg) (now : Nat) : AllowLuOk c (init now) := by
  intro o sp e he
  simp [init] at he

theorem AllowLuOk.congr {c : Cfg} {s s' : State} (h : AllowLuOk c s) (ha : s'.allow = s.allow)
    (hn : s.now ≤ s'.now) : AllowLuOk c s' := by
  intro o sp e he
  rw [ha] at he
  have := h o sp e he
  unfold Cfg.maxLiveUntil at *
  omega

theorem allowLuOk_setAllowance {c : Cfg} {s s0 : State} {o sp : Nat} {amt : Int} {lu : Nat}
    (h : AllowLuOk c s) (hs : setAllowance c s o sp amt lu = .ok s0) : AllowLuOk c s0 := by
  obtain ⟨_, hmax, _, e', he', hv', _, _⟩ := setAllowance_entry hs
  obtain ⟨_, _, en, _, hother⟩ := setAllowance_ok hs
  intro x y e he
  by_cases hxy : x = o ∧ y = sp
  · obtain ⟨rfl, rfl⟩ := hxy
    rw [he'] at he; injection he with he; subst he
    rw [hv', en]; exact hmax
  · rw [hother x y hxy] at he
    rw [en]; exact h x y e he

theorem allowLuOk_spend {c : Cfg} {s s0 : State} {o sp : Nat} {amt : Int}
    (h : AllowLuOk c s) (hs : spendAllowance c s o sp amt = .ok s0) : AllowLuOk c s0 := by
  obtain ⟨_, _, hc⟩ := spendAllowance_cases hs
  rcases hc with ⟨_, hset⟩ | ⟨_, rfl⟩
  · exact allowLuOk_setAllowance h hset
  · exact h

theorem allowLuOk_apply {c : Cfg} {s s' : State} {auth : List Nat} {op : Op}
    (h : AllowLuOk c s) (hok : apply c s auth op = .ok s') : AllowLuOk c s' := by
  rcases op_trichotomy op with ⟨o, sp, amt, lu, rfl⟩ | ⟨f, sp, amt, hs⟩ | ⟨hs, hap⟩
  · obtain ⟨_, s0, h0, ha, hnow, _⟩ := apply_approve hok
    obtain ⟨_, _, en, _, _⟩ := setAllowance_ok h0
    exact (allowLuOk_setAllowance h h0).congr ha (by rw [hnow, en]; exact Nat.le_refl _)
  · obtain ⟨_, s0, h0, ha, hnow, _⟩ := apply_spend hok hs
    obtain ⟨_, _, en, _, _⟩ := spendAllowance_ok h0
    exact (allowLuOk_spend h h0).congr ha (by rw [hnow, en]; exact Nat.le_refl _)
  · obtain ⟨ha, hle, _, _⟩ := apply_other hok hs hap
    exact h.congr ha hle

theorem allowLuOk_run (c : Cfg) (s : State) (ops : List (List Nat × Op)) (h : AllowLuOk c s) :
    AllowLuOk c (run c s ops) :=
  run_keeps (AllowLuOk c) ops (fun _ _ _ _ hs hok => allowLuOk_apply hs hok) h

theorem spendAllowance_succeeds_iff (c : Cfg) (s : State) (o sp : Nat) (amt : Int) :
    (∃ s', spendAllowance c s o sp amt = .ok s') ↔
      0 ≤ amt ∧ amt ≤ allowance s o sp ∧
      (0 < amt → (allowanceData s o sp).liveUntilLedger ≤ c.maxLiveUntil s.now) := by
  simp only [spendAllowance_eq_ok_iff, exists_and_left]
  refine and_congr_right fun h0 => and_congr_right fun hle => ?_
  split
  · next hp =>
    -- a positive amount is covered by an entry that has not expired, so only the upper bound can refuse the re-write
    obtain ⟨e, -, -, hx, hd⟩ := allowance_ne_zero_unexpired (s := s) (o := o) (sp := sp) (by unfold allowance; omega)
    rw [setAllowance_succeeds_iff, hd]
    exact ⟨fun h _ => h.2.1, fun h => ⟨by rw [← hd]; omega, h hp, fun _ => hx⟩⟩
  · next hp => exact ⟨fun _ h => absurd h hp, fun _ => ⟨s, rfl⟩⟩

theorem spendAllowance_succeeds {c : Cfg} {s : State} (hlu : AllowLuOk c s) (o sp : Nat) (amt : Int)
    (h0 : 0 ≤ amt) (hle : amt ≤ allowance s o sp) : ∃ s0, spendAllowance c s o sp amt = .ok s0 :=
  (spendAllowance_succeeds_iff c s o sp amt).2 ⟨h0, hle, fun hp => by
    obtain ⟨e, he, -, -, hd⟩ := allowance_ne_zero_unexpired (show allowance s o sp ≠ 0 by omega)
    rw [hd]; exact hlu o sp e he⟩

/-- the body of `transfer_from` and of `burn_from` behind the authorization -/
theorem spend_update_succeeds_iff {U : List Nat} (hn : U.Nodup) {c : Cfg} {s : State} (hi : Inv U s)
    (hlu : AllowLuOk c s) (sp f : Nat) (t : Option Nat) (a : Int) (ev : Event) :
    (∃ s', (spendAllowance c s f sp a >>= fun s0 =>
        update s0 (some f) t a >>= fun s1 => pure (emit s1 ev)) = .ok s') ↔
      0 ≤ a ∧ a ≤ allowance s f sp ∧ a ≤ s.bal f := by
  constructor
  · rintro ⟨s', h⟩
    obtain ⟨hc, s0, hs, -⟩ := spend_update_eq_ok_iff.1 h
    exact ⟨hc.1, (spendAllowance_cases hs).2.1, hc.2.1⟩
  · rintro ⟨h0, hle, hb⟩
    obtain ⟨s0, hs⟩ := spendAllowance_succeeds hlu f sp a h0 hle
    exact ⟨_, spend_update_eq_ok_iff.2 ⟨(updateCond_iff_of_inv hn hi _ _ _).2 ⟨h0, hb⟩, s0, hs, rfl⟩⟩

theorem transferFrom_succeeds_iff {U : List Nat} (hn : U.Nodup) {c : Cfg} {s : State}
    (hi : Inv U s) (auth : List Nat) (sp f t : Nat) (a : Int) :
    (∃ s', transferFrom c s auth sp f t a = .ok s') ↔
      sp ∈ auth ∧ (0 ≤ a ∧ a ≤ allowance s f sp ∧
        (0 < a → (allowanceData s f sp).liveUntilLedger ≤ c.maxLiveUntil s.now)) ∧ a ≤ s.bal f := by
  rw [← spendAllowance_succeeds_iff]
  constructor
  · rintro ⟨s', h⟩
    obtain ⟨hu, hc, s0, hs, -⟩ := transferFrom_eq_ok_iff.1 h
    exact ⟨hu, ⟨s0, hs⟩, hc.2.1⟩
  · rintro ⟨hu, ⟨s0, hs⟩, hb⟩
    exact ⟨_, transferFrom_eq_ok_iff.2
      ⟨hu, (updateCond_iff_of_inv hn hi _ _ _).2 ⟨(spendAllowance_cases hs).1, hb⟩, s0, hs, rfl⟩⟩

end OZ.Fungible
