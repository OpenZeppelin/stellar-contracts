import OZ.Lemmas.FungibleAuth
import OZ.Model.FungibleMon
import OZ.Lemmas.Lists
/-
For the monitor-soundness theorems of C01 and C02 (OZ/Props/C01Mon.lean, OZ/Props/C02Mon.lean): what the driver
prints of the model (op line, balance and allowance lists, events) against the model's maps, and for each monitor
(namespaces `Supply`, `Auth`) the condition under which each piece of its verdict is silent.
-/
namespace OZ.FungibleMon
open OZ.Host OZ.Fungible

/-! ### the op line of a model operation

What `FungibleIO.parseLine` reads from the harness's rendering
`fungible <kind> a=<addrs> amt=<amount> lu=<lu> auth=<signers>` / `fungible advance n=<k>` of an
operation — the same fields `FungibleIO.parseOp` builds the model's `Op` from. (`lu` is read by
the monitors for `approve` only.) -/

def kindOf : Op → Kind
  | .mint _ _ => .mint
  | .transfer _ _ _ => .transfer
  | .transferFrom _ _ _ _ => .transferFrom
  | .approve _ _ _ _ => .approve
  | .burn _ _ => .burn
  | .burnFrom _ _ _ => .burnFrom
  | .advance _ => .advance

def amtOf : Op → Int
  | .mint _ a => a
  | .transfer _ _ a => a
  | .transferFrom _ _ _ a => a
  | .approve _ _ a _ => a
  | .burn _ a => a
  | .burnFrom _ _ a => a
  | .advance _ => 0

def luOf : Op → Nat
  | .approve _ _ _ lu => lu
  | _ => 0

def lineOf (auth : List Nat) (op : Op) : Line :=
  { kind := kindOf op, a := op.addrs, auth := auth, amt := amtOf op, lu := luOf op }

theorem orElse_none {a : Option String} {b : Unit → Option String} (h : a = none) : orElse a b = b () := by
  subst h; rfl

/-- applied as a term (`exact orElse_both h1 <| orElse_both h2 …`) it unifies with each check up to unfolding,
where `rw [orElse_none h]` needs it written out -/
theorem orElse_both {a b : Option String} (ha : a = none) (hb : b = none) : orElse a (fun _ => b) = none :=
  (orElse_none ha).trans hb

theorem firstSome_none {α} (l : List α) (f : α → Option String) (h : ∀ x ∈ l, f x = none) :
    firstSome l f = none := by
  unfold firstSome
  induction l with
  | nil => rfl
  | cons x xs ih =>
    rw [List.foldl_cons]
    show List.foldl _ (f x) xs = none
    rw [h x (List.mem_cons_self)]
    exact ih (fun y hy => h y (List.mem_cons_of_mem _ hy))

theorem mem_pairs {n : Nat} {p : Nat × Nat} (h : p ∈ Auth.pairs n) : p.1 < n ∧ p.2 < n := by
  unfold Auth.pairs at h
  rw [List.mem_flatMap] at h
  obtain ⟨o, ho, h⟩ := h
  rw [List.mem_map] at h
  obtain ⟨sp, hsp, rfl⟩ := h
  exact ⟨List.mem_range.mp ho, List.mem_range.mp hsp⟩

/-! ### the model's invocation as the driver runs it -/

theorem guarded_ok {c : Cfg} {s s' : State} {auth : List Nat} {op : Op} {g : Option Nat}
    (h : guarded c s auth op g = .ok s') : apply c s auth op = .ok s' := by
  unfold guarded at h
  cases g with
  | none => exact h
  | some g =>
    simp only at h
    split at h
    · exact h
    · cases h

/-- the mint guard of the example contracts applies to mints only -/
theorem applyG_not_mint {c : Cfg} {s : State} {auth : List Nat} {op : Op} (mauth : Option Nat)
    (h : ∀ t a, op ≠ .mint t a) : applyG c s auth op mauth = apply c s auth op := by
  cases op with
  | mint t a => exact absurd rfl (h t a)
  | _ => rfl

theorem stepObs_cases (c : Cfg) (n : Nat) (s : State) (auth : List Nat) (op : Op) (mauth : Option Nat) :
    stepObs c n s auth op mauth = (s, obsErr n s) ∨
    ∃ s', apply c s auth op = .ok s' ∧ stepObs c n s auth op mauth = (s', obsOk n s s' op mauth) := by
  unfold stepObs
  cases hx : applyG c s auth op mauth with
  | error e => exact .inl rfl
  | ok s' => exact .inr ⟨s', guarded_ok hx, rfl⟩

theorem newEvents_of_append {s s' : State} {evs : List Event} (h : s'.events = s.events ++ evs) :
    newEvents s s' = evs := by
  unfold newEvents
  rw [h, List.drop_left]

theorem balList_length (n : Nat) (s : State) : (balList n s).length = n := by
  simp [balList]

theorem balAt_balList {n i : Nat} (s : State) (h : i < n) : Auth.balAt (balList n s) i = s.bal i := by
  simp [Auth.balAt, balList, h]

theorem balList_sum (n : Nat) (s : State) : (balList n s).sum = total (List.range n) s.bal := rfl

theorem balList_congr {n : Nat} {s s' : State} (h : s'.bal = s.bal) : balList n s' = balList n s := by
  unfold balList; rw [h]

theorem balList_init (n now : Nat) : balList n (init now) = List.replicate n 0 := by
  simp only [balList, init, List.map_const', List.length_range]

theorem balList_nonneg {n : Nat} {s : State} (h : ∀ a, 0 ≤ s.bal a) :
    (balList n s).any (· < 0) = false := by
  simp only [balList, List.any_eq_false, List.mem_map, decide_eq_true_eq]
  rintro x ⟨a, _, rfl⟩
  have := h a
  omega

theorem mem_allowList {n : Nat} {s : State} {e : Nat × Nat × Int} :
    e ∈ allowList n s ↔
      e.1 < n ∧ e.2.1 < n ∧ allowance s e.1 e.2.1 ≠ 0 ∧ e.2.2 = allowance s e.1 e.2.1 := by
  unfold allowList
  rw [List.mem_flatMap]
  constructor
  · rintro ⟨o, ho, h⟩
    rw [List.mem_filterMap] at h
    obtain ⟨sp, hsp, h⟩ := h
    split at h
    · cases h
    · rename_i hne
      injection h with h; subst h
      exact ⟨List.mem_range.mp ho, List.mem_range.mp hsp, hne, rfl⟩
  · rintro ⟨h1, h2, h3, h4⟩
    refine ⟨e.1, List.mem_range.mpr h1, ?_⟩
    rw [List.mem_filterMap]
    refine ⟨e.2.1, List.mem_range.mpr h2, ?_⟩
    rw [if_neg h3, ← h4]

/-- the `match` is the body of `Obs.allowOf` and of the vault monitor's `allowOf` -/
theorem lookup_allowList {n : Nat} {s : State} {l : List (Nat × Nat × Int)} (hl : l = allowList n s) {x y : Nat}
    (hx : x < n) (hy : y < n) :
    (match l.find? (fun e => e.1 = x ∧ e.2.1 = y) with
      | some e => e.2.2
      | none => 0) = allowance s x y := by
  subst hl
  cases hf : (allowList n s).find? (fun e => decide (e.1 = x ∧ e.2.1 = y)) with
  | none =>
    simp only
    rw [List.find?_eq_none] at hf
    by_cases h0 : allowance s x y = 0
    · exact h0.symm
    · exact absurd (by simp) (hf (x, y, allowance s x y) (mem_allowList.mpr ⟨hx, hy, h0, rfl⟩))
  | some e =>
    simp only
    have hp := List.find?_some hf
    have hm := List.mem_of_find?_eq_some hf
    obtain ⟨_, _, _, h4⟩ := mem_allowList.mp hm
    simp only [decide_eq_true_eq] at hp
    rw [h4, hp.1, hp.2]

theorem allowOf_allowList {n : Nat} {s : State} {o : Obs} (ho : o.allow = allowList n s) {x y : Nat}
    (hx : x < n) (hy : y < n) : o.allowOf x y = allowance s x y :=
  lookup_allowList ho hx hy

theorem allowList_congr {n : Nat} {s s' : State} (h1 : s'.allow = s.allow) (h2 : s'.now = s.now) :
    allowList n s' = allowList n s := by
  unfold allowList
  simp only [allowance_congr h1 h2]

theorem allowList_init (n now : Nat) : allowList n (init now) = [] := by
  have h : ∀ o sp, allowance (init now) o sp = 0 := fun o sp => allowance_none rfl
  simp [allowList, h]

/-! ### event replay on lists against the model's on functions -/

theorem addAt_map (n : Nat) (b : Nat → Int) (i : Nat) (d : Int) :
    Supply.addAt ((List.range n).map b) i d = (List.range n).map (upd b i (b i + d)) :=
  mapIdx_map_range n b i (· + d)

theorem replayEv_map (n : Nat) (b : Nat → Int) (ev : Event) :
    Supply.replayEv ((List.range n).map b) ev = (List.range n).map (replayEvent b ev) := by
  cases ev with
  | mint t a => simp only [Supply.replayEv, replayEvent, addAt_map]
  | burn f a => simp only [Supply.replayEv, replayEvent, addAt_map, Int.sub_eq_add_neg]
  | transfer f t a =>
    simp only [Supply.replayEv, replayEvent, addAt_map, Int.sub_eq_add_neg]
  | approve _ _ _ _ => rfl

theorem foldl_replayEv_map (n : Nat) (evs : List Event) (b : Nat → Int) :
    evs.foldl Supply.replayEv ((List.range n).map b) = (List.range n).map (evs.foldl replayEvent b) := by
  induction evs generalizing b with
  | nil => rfl
  | cons e es ih => simp only [List.foldl_cons]; rw [replayEv_map, ih]

theorem replay_step {c : Cfg} {s s' : State} {auth : List Nat} {op : Op}
    (h : apply c s auth op = .ok s') : (newEvents s s').foldl replayEvent s.bal = s'.bal := by
  obtain ⟨-, evs, ee, eb⟩ := apply_accounting h
  rw [newEvents_of_append ee, eb]

/-! ### the association-list ghost of the C02 monitor -/

theorem gOf_gSet_same (g : List (Nat × Nat × Auth.G)) (o sp : Nat) (v : Auth.G) :
    Auth.gOf (Auth.gSet g o sp v) o sp = v := by
  simp [Auth.gOf, Auth.gSet]

theorem gOf_gSet_other (g : List (Nat × Nat × Auth.G)) (o sp x y : Nat) (v : Auth.G)
    (h : ¬ (x = o ∧ y = sp)) : Auth.gOf (Auth.gSet g o sp v) x y = Auth.gOf g x y := by
  unfold Auth.gOf Auth.gSet
  have h1 : (decide (o = x ∧ sp = y)) = false := by
    simp only [decide_eq_false_iff_not]; intro ⟨a, b⟩; exact h ⟨a.symm, b.symm⟩
  simp only [List.find?_cons, h1]
  rw [OZ.Lists.find?_filter_of_imp]
  intro e he
  simp only [decide_eq_true_eq] at he ⊢
  intro ⟨a, b⟩
  exact h ⟨he.1.symm.trans a, he.2.symm.trans b⟩

/-- the monitor's ghost as a ghost function of Lemmas/FungibleAuth (remainder as `approved`, nothing spent) -/
def toGhost (g : List (Nat × Nat × Auth.G)) : Nat → Nat → Ghost :=
  fun o sp => ⟨(Auth.gOf g o sp).rem, 0, (Auth.gOf g o sp).lu⟩

theorem toGhost_gSet (g : List (Nat × Nat × Auth.G)) (o sp : Nat) (v : Auth.G) :
    toGhost (Auth.gSet g o sp v) = upd2 (toGhost g) o sp ⟨v.rem, 0, v.lu⟩ := by
  funext x y
  by_cases h : x = o ∧ y = sp
  · obtain ⟨rfl, rfl⟩ := h
    rw [upd2_same]; unfold toGhost; rw [gOf_gSet_same]
  · rw [upd2_other _ _ _ _ _ _ h]; unfold toGhost; rw [gOf_gSet_other _ _ _ _ _ _ h]

theorem toGhost_rem (g : List (Nat × Nat × Auth.G)) (x y : Nat) : (toGhost g x y).rem = (Auth.gOf g x y).rem := by
  simp [toGhost, Ghost.rem]

theorem toGhost_lu (g : List (Nat × Nat × Auth.G)) (x y : Nat) : (toGhost g x y).lu = (Auth.gOf g x y).lu := rfl

/-! ### the pieces of the C01 verdict -/
namespace Supply

theorem vSum_none {o : Obs} (h : o.bal.sum = o.sup) : vSum o = none := by
  unfold vSum; rw [if_neg (by rw [h]; exact fun hne => hne rfl)]

theorem vNegative_none {o : Obs} (h : o.bal.any (· < 0) = false) : vNegative o = none := by
  unfold vNegative; rw [if_neg (by rw [h]; exact Bool.false_ne_true)]

theorem vRollback_none {prev o : Obs}
    (h : o.ok = false → o.sup = prev.sup ∧ o.bal = prev.bal ∧ o.allow = prev.allow) :
    vRollback prev o = none := by
  unfold vRollback
  rw [if_neg]
  rintro ⟨h1, h2⟩
  obtain ⟨a, b, c⟩ := h (by simpa using h1)
  rcases h2 with h2 | h2 | h2
  · exact h2 a
  · exact h2 b
  · exact h2 c

theorem vMint_none {k : Kind} {amt : Int} {prev o : Obs}
    (h : o.ok = true → k = .mint → o.sup = prev.sup + amt) : vMint k amt prev o = none := by
  unfold vMint
  rw [if_neg]
  rintro ⟨h1, h2, h3⟩
  exact h3 (h h1 h2)

theorem vBurn_none {k : Kind} {amt : Int} {prev o : Obs}
    (h : o.ok = true → (k = .burn ∨ k = .burnFrom) → o.sup = prev.sup - amt) : vBurn k amt prev o = none := by
  unfold vBurn
  rw [if_neg]
  rintro ⟨h1, h2, h3⟩
  exact h3 (h h1 h2)

theorem vSame_none {k : Kind} {prev o : Obs}
    (h : o.ok = true → (k = .transfer ∨ k = .transferFrom ∨ k = .approve ∨ k = .advance) → o.sup = prev.sup) :
    vSame k prev o = none := by
  unfold vSame
  rw [if_neg]
  rintro ⟨h1, h2, h3⟩
  exact h3 (h h1 h2)

theorem vReplay_none {r : List Int} {o : Obs} (h : r = o.bal) : vReplay r o = none := by
  unfold vReplay; rw [if_neg (by rw [h]; exact fun hne => hne rfl)]

theorem verdict_none {prev : Obs} {l : Line} {r : List Int} {o : Obs}
    (h1 : vSum o = none) (h2 : vNegative o = none) (h3 : vRollback prev o = none)
    (h4 : vMint l.kind l.amt prev o = none) (h5 : vBurn l.kind l.amt prev o = none)
    (h6 : vSame l.kind prev o = none) (h7 : vReplay r o = none) : verdict prev l r o = none := by
  unfold verdict
  rw [orElse_none h1, orElse_none h2, orElse_none h3, orElse_none h4, orElse_none h5, orElse_none h6]
  exact h7

end Supply

/-! ### the pieces of the C02 verdict -/
namespace Auth

theorem vRollback_none {prev o : Obs} (h : o.ok = false → o.bal = prev.bal ∧ o.allow = prev.allow) :
    vRollback prev o = none := by
  unfold vRollback
  rw [if_neg]
  rintro ⟨h1, h2⟩
  obtain ⟨a, b⟩ := h (by simpa using h1)
  rcases h2 with h2 | h2
  · exact h2 a
  · exact h2 b

theorem mustReject_iff (mx : Nat) (auth : List Nat) (owner : Nat) (amt : Int) (lu now : Nat) :
    mustReject mx auth owner amt lu now = true ↔
      (owner ∉ auth ∨ amt < 0 ∨ lu > now + mx - 1 ∨ (0 < amt ∧ lu < now)) := by
  simp [mustReject, or_assoc]

theorem vApprove_none {mx : Nat} {auth : List Nat} {owner : Nat} {amt : Int} {lu : Nat} {o : Obs}
    (h : o.ok = false ↔ (owner ∉ auth ∨ amt < 0 ∨ lu > o.now + mx - 1 ∨ (0 < amt ∧ lu < o.now))) :
    vApprove mx auth owner amt lu o = none := by
  unfold vApprove
  cases hok : o.ok with
  | false =>
    have hm := (mustReject_iff mx auth owner amt lu o.now).mpr (h.mp hok)
    rw [if_neg (by simp), if_neg (by simp), if_neg (by simp [hm])]
  | true =>
    have hnot : ¬ (owner ∉ auth ∨ amt < 0 ∨ lu > o.now + mx - 1 ∨ (0 < amt ∧ lu < o.now)) := by
      intro hc; have := h.mpr hc; rw [hok] at this; cases this
    have hm : mustReject mx auth owner amt lu o.now = false := by
      cases hmr : mustReject mx auth owner amt lu o.now with
      | false => rfl
      | true => exact absurd ((mustReject_iff mx auth owner amt lu o.now).mp hmr) hnot
    have hin : owner ∈ auth := by
      apply Classical.byContradiction; intro hni; exact hnot (.inl hni)
    rw [if_neg (by simp [hin]), if_neg (by simp [hm]), if_neg (by simp)]

theorem vBounds_none {mx : Nat} {l : Line} {o : Obs}
    (h : l.kind = .approve → vApprove mx l.auth (l.a.head?.getD 0) l.amt l.lu o = none) :
    vBounds mx l o = none := by
  unfold vBounds
  split
  · rename_i hk; exact h hk
  · rfl

theorem vDebitDirect_none {k : Kind} {h : Nat} {a auth : List Nat} (h1 : a.head? = some h) (h2 : h ∈ auth) :
    vDebitDirect k h a auth = none := by
  unfold vDebitDirect
  rw [if_neg (by rw [h1]; exact fun hne => hne rfl), if_neg (by simp [h2])]

theorem vDebitSpend_none {prev o : Obs} {g : List (Nat × Nat × G)} {k : Kind} {h sp : Nat} {rest auth : List Nat}
    {amt : Int} (h2 : sp ∈ auth) (h3 : o.now ≤ (gOf g h sp).lu) (h4 : amt ≤ prev.allowOf h sp)
    (h5 : o.allowOf h sp = prev.allowOf h sp - amt) :
    vDebitSpend prev o g k h (sp :: h :: rest) auth amt = none := by
  unfold vDebitSpend
  simp only
  rw [if_neg (fun hne => hne rfl), if_neg (by simp [h2]), if_neg (by omega), if_neg (by omega),
    if_neg (by rw [h5]; exact fun hne => hne rfl)]

theorem vDebit_none_of_ge {prev o : Obs} {g : List (Nat × Nat × G)} {k : Kind} {a auth : List Nat} {amt : Int}
    {h : Nat} (hge : ¬ balAt o.bal h < balAt prev.bal h) : vDebit prev o g k a auth amt h = none := by
  unfold vDebit; rw [if_neg hge]

theorem vRaise_none_of_le {prev o : Obs} {k : Kind} {a auth : List Nat} {amt : Int} {p : Nat × Nat}
    (hle : ¬ o.allowOf p.1 p.2 > prev.allowOf p.1 p.2) : vRaise prev o k a auth amt p = none := by
  unfold vRaise; rw [if_neg hle]

theorem vRaise_none_of_approve {prev o : Obs} {auth : List Nat} {amt : Int} {p : Nat × Nat}
    (hok : o.ok = true) (h2 : p.1 ∈ auth) (h3 : o.allowOf p.1 p.2 = amt) :
    vRaise prev o .approve [p.1, p.2] auth amt p = none := by
  unfold vRaise
  by_cases hgt : o.allowOf p.1 p.2 > prev.allowOf p.1 p.2
  · rw [if_pos hgt, if_neg (fun h => h hok), if_neg (by intro h; rcases h with h | h <;> exact h rfl),
      if_neg (fun h => h h2), if_neg (fun h => h h3)]
  · rw [if_neg hgt]

theorem vGhost_none {o : Obs} {g : List (Nat × Nat × G)} {p : Nat × Nat}
    (h0 : 0 ≤ (gOf g p.1 p.2).rem)
    (h : o.allowOf p.1 p.2 = if o.now ≤ (gOf g p.1 p.2).lu then (gOf g p.1 p.2).rem else 0) :
    vGhost o g p = none := by
  unfold vGhost
  by_cases hn : o.now ≤ (gOf g p.1 p.2).lu
  · rw [if_pos hn] at h
    rw [if_neg (by omega), if_neg (by omega), if_neg (by omega), if_neg (by omega)]
  · rw [if_neg hn] at h
    rw [if_neg (by omega), if_neg (by omega), if_neg (by omega), if_neg (by omega)]

theorem verdict_none {m : Mon} {l : Line} {o : Obs}
    (h1 : vRollback (prevOf m o.now) o = none) (h2 : vBounds m.maxTtl l o = none)
    (h3 : o.ok = true → checkDebits m.n (prevOf m o.now) o m.g l.kind l.a l.auth l.amt = none)
    (h4 : checkRaises m.n (prevOf m o.now) o l.kind l.a l.auth l.amt = none)
    (h5 : checkGhost m.n o (ghostStep m.g o.ok l) = none) : verdict m l o = none := by
  unfold verdict
  rw [orElse_none h1, orElse_none h2, orElse_none (by split; exact h3 ‹_›; rfl), orElse_none h4]
  exact h5

theorem ghostStep_rejected (g : List (Nat × Nat × G)) (l : Line) : ghostStep g false l = g := by
  simp [ghostStep]

theorem ghostStep_lu_irrelevant (g : List (Nat × Nat × G)) (ok : Bool) (l : Line) (lu : Nat)
    (hk : l.kind ≠ .approve) : ghostStep g ok { l with lu := lu } = ghostStep g ok l := by
  obtain ⟨k, a, auth, amt, lu0⟩ := l
  -- only the `.approve` branch of `ghostStep` reads `l.lu`
  cases k <;> first | exact absurd rfl hk | rfl | (cases ok <;> rcases a with _ | ⟨x, _ | ⟨y, r⟩⟩ <;> rfl)

/-- for the reasons the model's `ghostOp` keeps it (`ginv_apply`) -/
theorem ginv_ghostStep {c : Cfg} {s s' : State} {g : List (Nat × Nat × G)} {auth : List Nat} {op : Op}
    (hi : GInv s (toGhost g)) (h : apply c s auth op = .ok s') :
    GInv s' (toGhost (ghostStep g true (lineOf auth op))) := by
  rcases op_trichotomy op with ⟨o, sp, amt, lu, rfl⟩ | ⟨f, sp, amt, hs⟩ | ⟨hs, hap⟩
  · obtain ⟨_, s0, h0, ha, _, _⟩ := apply_approve h
    show GInv s' (toGhost (gSet g o sp ⟨amt, lu⟩))
    rw [toGhost_gSet]
    exact (ginv_setAllowance hi h0 amt 0 (by omega)).congr ha
  · obtain ⟨_, s0, h0, ha, _, _⟩ := apply_spend h hs
    have hg : GInv s' (toGhost (gSet g f sp ⟨(gOf g f sp).rem - amt, (gOf g f sp).lu⟩)) := by
      rw [toGhost_gSet]
      exact (ginv_spend hi h0 _ 0 (by simp only [toGhost, Ghost.rem]; omega)).congr ha
    rcases spend?_eq hs with ⟨t, rfl⟩ | rfl <;> exact hg
  · obtain ⟨ha, _, _, _⟩ := apply_other h hs hap
    have hg : ghostStep g true (lineOf auth op) = g := by
      cases op with
      | approve o sp amt lu => exact absurd rfl (hap o sp amt lu)
      | transferFrom _ _ _ _ => cases hs
      | burnFrom _ _ _ => cases hs
      | _ => rfl
    rw [hg]; exact hi.congr ha

theorem checkGhost_none {n : Nat} {s : State} {o : Obs} {g : List (Nat × Nat × G)}
    (hi : GInv s (toGhost g)) (ha : o.allow = allowList n s) (hn : o.now = s.now) :
    checkGhost n o g = none := by
  unfold checkGhost
  apply firstSome_none
  intro p hp
  obtain ⟨h1, h2⟩ := mem_pairs hp
  have hrel := hi p.1 p.2
  apply vGhost_none
  · rw [← toGhost_rem]; exact hrel.1
  · rw [allowOf_allowList ha h1 h2, allowance_of_grel hrel, hn, toGhost_rem, toGhost_lu]

end Auth

end OZ.FungibleMon
