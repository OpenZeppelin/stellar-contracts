import OZ.Lemmas.Rwa
/-
What one accepted invocation of the RWA state machine can be: a relation with one constructor per way
`applyRet` can succeed, each carrying the description of the post-state that the library function's `_ok`
lemma gives. The per-operation tables, the invariants and the monitor's `Post` are each one `cases` on it.
Who authorized the call is not in it: see `apply_ok`.
-/
namespace OZ.Rwa
open OZ.Host OZ.Fungible
open Mon (EvExt)

/-- the guard of the two registry operations (`add_module_to`, `remove_module_from`) -/
def Op.regGuard (s : State) : Op → Prop
  | .addModule h m _ => m ∉ s.mods h ∧ (s.mods h).length < MAX_MODULES
  | .removeModule h m _ => m ∈ s.mods h
  | _ => True

inductive Step (s : State) : Op → State → Bool → Prop
  | transfer {f t a s'} (p : MovePost s s' f t a) (ev : EvExt s s') : Step s (.transfer f t a) s' true
  | transferFrom {sp f t a s'} (p : MovePost s s' f t a) (ev : EvExt s s') : Step s (.transferFrom sp f t a) s' true
  | mint {t a o s'} (p : MintPost s s' t a) (ev : EvExt s s') : Step s (.mint t a o) s' true
  | burn {x a o s'} (p : BurnPost s s' x a) (ev : EvExt s s') : Step s (.burn x a o) s' true
  | forced {f t a o s'} (p : ForcedPost s s' f t a) (ev : EvExt s s') : Step s (.forcedTransfer f t a o) s' true
  | recoverNone {old new o} (hid : s.idOk new = true) (htg : s.recTarget old = some new)
      (hz : s.base.bal old = 0) : Step s (.recover old new o) (logId (logId s (.verify new)) (.target old)) false
  | recoverMove {old new o s'} (hid : s.idOk new = true) (htg : s.recTarget old = some new)
      (hnz : s.base.bal old ≠ 0) (p : RecoverPost s s' old new) (ev : EvExt s s') : Step s (.recover old new o) s' true
  | freeze {x a o s'} (h0 : 0 ≤ a) (hle : s.frozen x + a ≤ s.base.bal x) (p : FreezePost s s' x (s.frozen x + a)) :
      Step s (.freezePartial x a o) s' true
  | unfreeze {x a o s'} (h0 : 0 ≤ a) (hle : a ≤ s.frozen x) (p : FreezePost s s' x (s.frozen x - a)) :
      Step s (.unfreezePartial x a o) s' true
  | quiet {op s'} (hq : op.quiet = true) (g : op.regGuard s) (q : Quiet s s' op) : Step s op s' true

theorem applyRet_quiet {c : Cfg} {s s' : State} {auth : List Nat} {op : Op} {r : Bool} (hq : op.quiet = true)
    (h : applyRet c s auth op = .ok (s', r)) : r = true ∧ op.regGuard s ∧ Quiet s s' op := by
  cases op with
  | transfer | transferFrom | mint | burn | forcedTransfer | recover | freezePartial | unfreezePartial => cases hq
  | approve o sp a lu =>
    obtain ⟨h1, rfl⟩ := plain_ok h
    obtain ⟨-, b, hb, e⟩ := approve_ok h1
    obtain ⟨a1, a2, -⟩ := setAllowance_ok hb
    subst e; exact ⟨rfl, trivial, { events := ⟨[_], rfl⟩, replay := replay_snoc _ _, bal := a2, supply := a1 }⟩
  | setAddressFrozen x b op =>
    obtain ⟨_, -, h⟩ := bind_eq_ok h
    injection h with h; injection h with ha hb
    subst ha; exact ⟨hb.symm, trivial, { events := ⟨[_], rfl⟩, replay := replay_snoc _ _ }⟩
  | pause op =>
    obtain ⟨-, hp, rfl⟩ := guarded_ok h
    obtain ⟨-, e⟩ := pause_ok hp
    subst e; exact ⟨rfl, trivial, { events := ⟨[_], rfl⟩, replay := replay_snoc _ _ }⟩
  | unpause op =>
    obtain ⟨-, hp, rfl⟩ := guarded_ok h
    obtain ⟨-, e⟩ := unpause_ok hp
    subst e; exact ⟨rfl, trivial, { events := ⟨[_], rfl⟩, replay := replay_snoc _ _ }⟩
  | addModule hk m op =>
    obtain ⟨-, hp, rfl⟩ := guarded_ok h
    obtain ⟨g1, g2, e⟩ := addModule_ok hp
    subst e; exact ⟨rfl, ⟨g1, g2⟩, { events := ⟨[_], rfl⟩, replay := replay_snoc _ _ }⟩
  | removeModule hk m op =>
    obtain ⟨-, hp, rfl⟩ := guarded_ok h
    obtain ⟨g, e⟩ := removeModule_ok hp
    subst e; exact ⟨rfl, g, { events := ⟨[_], rfl⟩, replay := replay_snoc _ _ }⟩
  | envModule m ct cc =>
    injection h with h; injection h with ha hb
    subst ha; exact ⟨hb.symm, trivial, { events := .of_eq rfl, scripts := fun hc => by cases hc }⟩
  | advance | envIdOk | envRecTarget =>
    injection h with h; injection h with ha hb
    subst ha; exact ⟨hb.symm, trivial, { events := .of_eq rfl }⟩
  | bindToken op =>
    obtain ⟨-, hp, rfl⟩ := guarded_ok h
    obtain ⟨-, e⟩ := bindToken_ok hp
    subst e; exact ⟨rfl, trivial, { events := .of_eq rfl }⟩
  | unbindToken op =>
    obtain ⟨-, hp, rfl⟩ := guarded_ok h
    obtain ⟨-, e⟩ := unbindToken_ok hp
    subst e; exact ⟨rfl, trivial, { events := .of_eq rfl }⟩

theorem applyRet_step {c : Cfg} {s s' : State} {auth : List Nat} {op : Op} {r : Bool}
    (h : applyRet c s auth op = .ok (s', r)) : Step s op s' r := by
  cases op with
  | transfer f t a =>
    obtain ⟨h1, rfl⟩ := plain_ok h; obtain ⟨-, p, ev⟩ := transfer_ok h1; exact .transfer p ev
  | transferFrom sp f t a =>
    obtain ⟨h1, rfl⟩ := plain_ok h; obtain ⟨-, -, p, ev⟩ := transferFrom_ok h1; exact .transferFrom p ev
  | mint t a o => obtain ⟨-, hm, rfl⟩ := guarded_ok h; obtain ⟨p, ev⟩ := mint_ok hm; exact .mint p ev
  | burn x a o => obtain ⟨-, hm, rfl⟩ := guarded_ok h; obtain ⟨p, ev⟩ := burn_ok hm; exact .burn p ev
  | forcedTransfer f t a o =>
    obtain ⟨-, hm, rfl⟩ := guarded_ok h; obtain ⟨p, ev⟩ := forcedTransfer_ok hm; exact .forced p ev
  | recover old new o =>
    obtain ⟨_, -, hrec⟩ := bind_eq_ok h
    obtain ⟨hid, htg, hcase, ev⟩ := recoverBalance_ok hrec
    rcases hcase with ⟨rfl, hz, rfl⟩ | ⟨rfl, hnz, p⟩
    · exact .recoverNone hid htg hz
    · exact .recoverMove hid htg hnz p ev
  | freezePartial x a o =>
    obtain ⟨-, hm, rfl⟩ := guarded_ok h; obtain ⟨h0, hle, p⟩ := freezePartial_kept hm; exact .freeze h0 hle p
  | unfreezePartial x a o =>
    obtain ⟨-, hm, rfl⟩ := guarded_ok h; obtain ⟨h0, hle, p⟩ := unfreezePartial_kept hm; exact .unfreeze h0 hle p
  | _ => obtain ⟨rfl, g, q⟩ := applyRet_quiet rfl h; exact .quiet rfl g q

theorem apply_step {c : Cfg} {s s' : State} {auth : List Nat} {op : Op} (h : apply c s auth op = .ok s') :
    ∃ r, Step s op s' r := by
  obtain ⟨r, h⟩ := apply_eq_ok h; exact ⟨r, applyRet_step h⟩

theorem Step.events {s s' : State} {op : Op} {r : Bool} (st : Step s op s' r) : EvExt s s' := by
  cases st with
  | transfer _ ev | transferFrom _ ev | mint _ ev | burn _ ev | forced _ ev | recoverMove _ _ _ _ ev => exact ev
  | recoverNone => exact .of_eq rfl
  | freeze _ _ p | unfreeze _ _ p => exact p.kept.events
  | quiet _ _ q => exact q.events

end OZ.Rwa
