import OZ.Model.RegKeys
import OZ.Lemmas.RegTwoWay
/-
The claim-issuer signing-key registry (C20 a); the oracle is the variable `allowed`.
-/
namespace OZ.RegKeys
open OZ.Reg

structure Inv (s : State) : Prop where
  pairsNodup : ∀ k, (s.pairs k).Nodup
  topicsNodup : ∀ t, (s.topics t).Nodup
  twoWay : ∀ k t, k ∈ s.topics t ↔ ∃ r, (t, r) ∈ s.pairs k
  pairsLe : ∀ k, (s.pairs k).length ≤ MAX_REGISTRIES_PER_KEY
  topicsLe : ∀ t, (s.topics t).length ≤ MAX_KEYS_PER_TOPIC

theorem inv_init : Inv init := by
  constructor <;> intros <;> simp [init]

theorem Inv.toTwoWay {s : State} (h : Inv s) : TwoWay s.topics s.pairs := ⟨h.twoWay, h.pairsNodup, h.topicsNodup⟩

theorem Inv.of_twoWay {s : State} (c : TwoWay s.topics s.pairs) (hp : ∀ k, (s.pairs k).length ≤ MAX_REGISTRIES_PER_KEY)
    (ht : ∀ t, (s.topics t).length ≤ MAX_KEYS_PER_TOPIC) : Inv s :=
  ⟨c.nd_pairs, c.nd_topics, c.two_way, hp, ht⟩

def allowed' (s : State) (k : Key) (r t : Nat) : State :=
  { topics := listKey s.topics k t, pairs := updD s.pairs k (s.pairs k ++ [(t, r)]) }

theorem addTopicKey_ok_iff {s s1 : State} {k : Key} {t : Nat} :
    addTopicKey s k t = .ok s1 ↔ (k ∈ s.topics t ∨ (s.topics t).length < MAX_KEYS_PER_TOPIC) ∧
      s1 = { s with topics := listKey s.topics k t } := by
  unfold addTopicKey isKeyAllowedForTopic listKey
  by_cases hk : k ∈ s.topics t
  · rw [if_pos (List.contains_iff_mem.2 hk), if_pos hk, Except.ok.injEq]
    exact ⟨fun h => ⟨Or.inl hk, h.symm⟩, fun h => h.2.symm⟩
  · rw [if_neg (mt List.contains_iff_mem.1 hk), if_neg hk, ite_error_eq_ok_iff, Nat.not_le, Except.ok.injEq, or_iff_right hk]
    exact and_congr_right' eq_comm

theorem addPair_ok_iff {s s' : State} {k : Key} {t r : Nat} :
    addPair s k t r = .ok s' ↔ ((t, r) ∉ s.pairs k ∧ (s.pairs k).length < MAX_REGISTRIES_PER_KEY) ∧
      s' = { s with pairs := updD s.pairs k (s.pairs k ++ [(t, r)]) } := by
  unfold addPair
  rw [ite_error_eq_ok_iff, ite_error_eq_ok_iff, List.contains_iff_mem, List.length_append, Nat.not_lt, ← and_assoc,
    Except.ok.injEq]
  exact and_congr_right' eq_comm

theorem allowKey_ok_iff (allowed : Nat → Nat → Bool) (s s' : State) (k : Key) (r t : Nat) :
    allowKey allowed s k r t = .ok s' ↔
      (k.1 ≠ 0 ∧ allowed r t = true ∧ (t, r) ∉ s.pairs k ∧
        (k ∈ s.topics t ∨ (s.topics t).length < MAX_KEYS_PER_TOPIC) ∧
        (s.pairs k).length < MAX_REGISTRIES_PER_KEY) ∧ s' = allowed' s k r t := by
  unfold allowKey
  rw [ite_error_eq_ok_iff, ite_error_eq_ok_iff, Bool.not_eq_true', Bool.not_eq_false]
  simp only [bind_ok_iff, addTopicKey_ok_iff, addPair_ok_iff]
  constructor
  · rintro ⟨hk, ha, _, ⟨ht, rfl⟩, ⟨hn, hl⟩, rfl⟩; exact ⟨⟨hk, ha, hn, ht, hl⟩, rfl⟩
  · rintro ⟨⟨hk, ha, hn, ht, hl⟩, rfl⟩; exact ⟨hk, ha, _, ⟨ht, rfl⟩, ⟨hn, hl⟩, rfl⟩

theorem allowed'_twoWay {s : State} (h : TwoWay s.topics s.pairs) {k : Key} {r t : Nat} (hn : (t, r) ∉ s.pairs k) :
    TwoWay (allowed' s k r t).topics (allowed' s k r t).pairs :=
  h.allow hn

def removed' (s : State) (k : Key) (r t : Nat) : State :=
  { topics := unlistKey s.topics ((s.pairs k).erase (t, r)) k t, pairs := updD s.pairs k ((s.pairs k).erase (t, r)) }

theorem removed'_twoWay {s : State} (h : TwoWay s.topics s.pairs) (k : Key) (r t : Nat) :
    TwoWay (removed' s k r t).topics (removed' s k r t).pairs :=
  h.remove k t r

/-- under the invariant the two `expect`s of `remove_key` (`dropTopicKey`) are unreachable -/
theorem removeKey_ok_iff {s : State} (hI : Inv s) (s' : State) (k : Key) (r t : Nat) :
    removeKey s k r t = .ok s' ↔ (t, r) ∈ s.pairs k ∧ s' = removed' s k r t := by
  have drop : (t, r) ∈ s.pairs k →
      dropTopicKey { s with pairs := updD s.pairs k ((s.pairs k).erase (t, r)) } k t = .ok (removed' s k r t) := by
    intro hm
    have hk : k ∈ s.topics t := (hI.twoWay k t).2 ⟨r, hm⟩
    unfold dropTopicKey removed' unlistKey
    simp only [updD_same]
    by_cases h : (((s.pairs k).erase (t, r)).any fun p => p.1 == t) = true
    · rw [if_pos h]; exact congrArg _ (congrArg (State.mk · _) (if_pos h).symm)
    · rw [if_neg h, if_neg (List.ne_nil_of_mem hk),
        if_neg (by rw [Bool.not_eq_true', Bool.not_eq_false]; exact List.contains_iff_mem.2 hk)]
      exact congrArg _ (congrArg (State.mk · _) (if_neg h).symm)
  unfold removeKey
  rw [ite_error_eq_ok_iff, ite_error_eq_ok_iff, Bool.not_eq_true', Bool.not_eq_false, List.contains_iff_mem]
  exact ⟨fun ⟨_, hm, h⟩ => ⟨hm, Except.ok.inj (h.symm.trans (drop hm))⟩,
    fun ⟨hm, h⟩ => ⟨List.ne_nil_of_mem hm, hm, h ▸ drop hm⟩⟩

theorem inv_next (allowed : Nat → Nat → Bool) {s : State} (hI : Inv s) (o : Op) : Inv (next allowed s o) := by
  unfold next
  cases h : step allowed s o with
  | error e => exact hI
  | ok s' =>
    cases o with
    | allow k r t =>
      obtain ⟨⟨_, _, hn, ht, hl⟩, rfl⟩ := (allowKey_ok_iff allowed s s' k r t).1 h
      exact .of_twoWay (allowed'_twoWay hI.toTwoWay hn) (le_updD hI.pairsLe k (by rw [List.length_append]; exact hl))
        (le_listKey hI.topicsLe ht)
    | remove k r t =>
      obtain ⟨_, rfl⟩ := (removeKey_ok_iff hI s' k r t).1 h
      exact .of_twoWay (removed'_twoWay hI.toTwoWay k r t)
        (le_updD hI.pairsLe k (Nat.le_trans List.length_erase_le (hI.pairsLe k))) (le_unlistKey hI.topicsLe _ k t)

theorem inv_run (allowed : Nat → Nat → Bool) {s : State} (hI : Inv s) (ops : List Op) :
    Inv (run allowed s ops) :=
  OZ.Lists.foldl_inv (P := Inv) (fun _ o h => inv_next allowed h o) ops s hI

def Reachable (allowed : Nat → Nat → Bool) (s : State) : Prop := ∃ ops, s = run allowed init ops

theorem reachable_inv {allowed : Nat → Nat → Bool} {s : State} (h : Reachable allowed s) : Inv s := by
  obtain ⟨ops, rfl⟩ := h
  exact inv_run allowed inv_init ops

end OZ.RegKeys
