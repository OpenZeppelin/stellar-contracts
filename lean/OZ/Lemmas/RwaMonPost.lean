import OZ.Lemmas.RwaModules
import OZ.Lemmas.RwaMon
/-
For the C04 monitor: what an accepted invocation does, as total functions of the pre-state and the operation
(`Post`), and which of its guards the monitor checks again (`Pre`).
-/
namespace OZ.Rwa.Mon
open OZ.Host OZ.Fungible OZ.Rwa

theorem obsOk_replay {s s' : State} {r : Bool} {op : Op} {cs' : List Comp} {rep : List Int}
    (hrep : rep = (List.range N).map s.base.bal) (hr : ReplayOK s) (hr' : ReplayOK s') (he : EvExt s s') :
    (obsOk s s' r op cs').evs.foldl replayBase rep = (List.range N).map s'.base.bal := by
  obtain ⟨evs, he⟩ := he
  unfold ReplayOK at hr hr'
  show ((s'.events.drop s.events.length).filterMap baseOf).foldl replayBase rep = _
  rw [hrep, foldl_replayBase_map, he, List.drop_left, ← foldl_replayEv_baseOf, ← hr', he, ← hr]
  simp [Rwa.replay, List.foldl_append]

def balAfter (s : State) : Op → (Nat → Int)
  | .transfer f t a => movedBal s.base.bal f t a
  | .transferFrom _ f t a => movedBal s.base.bal f t a
  | .forcedTransfer f t a _ => movedBal s.base.bal f t a
  | .mint t a _ => upd s.base.bal t (s.base.bal t + a)
  | .burn x a _ => upd s.base.bal x (s.base.bal x + -a)
  | .recover old new _ => if s.base.bal old = 0 then s.base.bal else movedBal s.base.bal old new (s.base.bal old)
  | _ => s.base.bal

def frozenAfterOp (s : State) : Op → (Nat → Int)
  | .forcedTransfer f _ a _ => upd s.frozen f (frozenAfter s f a)
  | .burn x a _ => upd s.frozen x (frozenAfter s x a)
  | .recover old new _ =>
    if s.base.bal old = 0 then s.frozen
    else if old = new then s.frozen
    else upd (upd s.frozen old 0) new (upd s.frozen old 0 new + s.frozen old)
  | .freezePartial x a _ => upd s.frozen x (s.frozen x + a)
  | .unfreezePartial x a _ => upd s.frozen x (s.frozen x + -a)
  | _ => s.frozen

def retSpec (s : State) : Op → Bool
  | .recover old _ _ => decide (s.base.bal old ≠ 0)
  | _ => true

structure Post (s s' : State) (op : Op) (r : Bool) : Prop where
  bal : s'.base.bal = balAfter s op
  frozen : s'.frozen = frozenAfterOp s op
  addrFrozen : s'.addrFrozen = afAfter s op
  mods : s'.mods = modsAfter s op
  admin : s'.admin = s.admin
  ret : r = retSpec s op
  scripts : isEnvModule op = false → s'.modCanTransfer = s.modCanTransfer ∧ s'.modCanCreate = s.modCanCreate

theorem movedBal_of {b b' : Nat → Int} {f t : Nat} {amt : Int}
    (h : ∀ x, b' x = (if x = t then (if t = f then b f - amt else b t) + amt
                      else if x = f then b f - amt else b x)) : b' = movedBal b f t amt := by
  funext x
  rw [h x]
  simp only [movedBal, upd, Int.sub_eq_add_neg]

theorem _root_.OZ.Rwa.Step.post {s s' : State} {op : Op} {r : Bool} (st : Step s op s' r) (hi : FrozenInv s) : Post s s' op r := by
  have env : ∀ {s'}, SameEnv s s' → s'.mods = s.mods ∧ s'.admin = s.admin ∧
      (isEnvModule op = false → s'.modCanTransfer = s.modCanTransfer ∧ s'.modCanCreate = s.modCanCreate) :=
    fun e => ⟨e.mods, e.admin, fun _ => ⟨e.modCanTransfer, e.modCanCreate⟩⟩
  cases st with
  | transfer p | transferFrom p =>
    obtain ⟨e1, e2, e3⟩ := env p.env
    exact ⟨movedBal_of p.bal, p.frozen, p.addrFrozen, e1, e2, rfl, e3⟩
  | mint p =>
    obtain ⟨e1, e2, e3⟩ := env p.env
    obtain ⟨-, -, -, -, hb⟩ := update_mint p.update
    exact ⟨funext fun x => (hb x).trans rfl, p.frozen, p.addrFrozen, e1, e2, rfl, e3⟩
  | burn p =>
    obtain ⟨e1, e2, e3⟩ := env p.env
    obtain ⟨-, -, -, -, -, hb⟩ := update_burn p.update
    refine ⟨?_, funext fun y => (p.frozen y).trans rfl, p.addrFrozen, e1, e2, rfl, e3⟩
    funext y; rw [hb y]; simp only [balAfter, upd, Int.sub_eq_add_neg]
  | forced p =>
    obtain ⟨e1, e2, e3⟩ := env p.env
    obtain ⟨-, -, -, -, -, hb⟩ := update_move p.update
    exact ⟨movedBal_of hb, funext fun y => (p.frozen y).trans rfl, p.addrFrozen, e1, e2, rfl, e3⟩
  | recoverNone _ _ hz =>
    refine ⟨?_, ?_, ?_, rfl, rfl, ?_, fun _ => ⟨rfl, rfl⟩⟩
    · simp only [balAfter]; rw [if_pos hz]; rfl
    · simp only [frozenAfterOp]; rw [if_pos hz]; rfl
    · simp only [afAfter]; rw [if_pos hz]; rfl
    · simp [retSpec, hz]
  | @recoverMove old new _ _ _ _ hnz p =>
    obtain ⟨e1, e2, e3⟩ := env p.env
    obtain ⟨-, -, -, -, -, hb⟩ := update_move p.update
    refine ⟨?_, ?_, ?_, e1, e2, ?_, e3⟩
    · simp only [balAfter]; rw [if_neg hnz]; exact movedBal_of hb
    · simp only [frozenAfterOp]; rw [if_neg hnz]
      funext x
      rw [p.frozen_moved (hi old).1 x, Int.sub_self]
      by_cases hon : old = new
      · subst hon
        rw [if_pos rfl, if_pos rfl, Int.zero_add]
        split
        · rename_i hx; rw [hx]
        · rfl
      · rw [if_neg hon]; rfl
    · simp only [afAfter]; rw [if_neg hnz]
      funext x; rw [p.addrFrozen x]; rfl
    · simp [retSpec, hnz]
  | freeze _ _ p =>
    obtain ⟨e1, e2, e3⟩ := env p.kept.env
    exact ⟨by rw [p.kept.base]; rfl, funext fun y => (p.frozen y).trans rfl, p.addrFrozen, e1, e2, rfl, e3⟩
  | unfreeze _ _ p =>
    obtain ⟨e1, e2, e3⟩ := env p.kept.env
    refine ⟨by rw [p.kept.base]; rfl, ?_, p.addrFrozen, e1, e2, rfl, e3⟩
    funext y; rw [p.frozen y]; simp only [frozenAfterOp, upd, Int.sub_eq_add_neg]
  | quiet hq _ q =>
    refine ⟨q.bal.trans ?_, q.frozen.trans ?_, q.addrFrozen, q.mods, q.admin, ?_, q.scripts⟩ <;>
      cases op <;> first | rfl | cases hq

def Pre (s : State) : Op → Prop
  | .transfer f t a | .transferFrom _ f t a => Gates s f t a
  | .mint t a _ => s.idOk t = true ∧ (compCanCreate s t a).2 = true
  | .recover old new _ => s.idOk new = true ∧ s.recTarget old = some new
  | .freezePartial _ a _ | .unfreezePartial _ a _ => 0 ≤ a
  | op => op.regGuard s

theorem _root_.OZ.Rwa.Step.pre {s s' : State} {op : Op} {r : Bool} (st : Step s op s' r) : Pre s op := by
  cases st with
  | transfer p | transferFrom p => exact p.gates
  | mint p => exact ⟨p.verified, p.compliant⟩
  | recoverNone hid htg | recoverMove hid htg => exact ⟨hid, htg⟩
  | freeze h0 | unfreeze h0 => exact h0
  | burn | forced => trivial
  | quiet hq g => cases op <;> first | exact g | cases hq

end OZ.Rwa.Mon
