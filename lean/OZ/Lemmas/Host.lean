import OZ.Model.Host
/-
The definitions of OZ/Model/Host.lean by their cases: point updates `upd` / `upd2` of total maps with `Nat` keys, also
as read off a generated store that keeps optional entries (`upd_getD`, `upd2_map_key`); the host's temporary entries;
a total map listed over `0 .. n-1`, as a monitor is shown it; a debit and a credit in a row, pointwise (`OZ.Vault.moved`;
the vault and the fee forwarder state their transfers with it).
-/
namespace OZ.Host

theorem upd_apply {β} (f : Nat → β) (a : Nat) (v : β) (x : Nat) :
    upd f a v x = if x = a then v else f x := rfl

theorem upd_same {β} (f : Nat → β) (a : Nat) (v : β) : upd f a v a = v := if_pos rfl

theorem upd_other {β} (f : Nat → β) (a x : Nat) (v : β) (h : x ≠ a) : upd f a v x = f x := if_neg h

theorem upd_self {β} (f : Nat → β) (a : Nat) : upd f a (f a) = f := by
  funext x
  by_cases hx : x = a
  · rw [hx, upd_same]
  · rw [upd_other _ _ _ _ hx]

theorem upd_upd {β} (f : Nat → β) (a : Nat) (v w : β) : upd (upd f a v) a w = upd f a w := by
  funext x
  unfold upd
  split <;> rfl

theorem upd2_apply {β} (f : Nat → Nat → β) (a b : Nat) (v : β) (x y : Nat) :
    upd2 f a b v x y = if x = a ∧ y = b then v else f x y := rfl

theorem upd2_same {β} (f : Nat → Nat → β) (a b : Nat) (v : β) : upd2 f a b v a b = v := if_pos ⟨rfl, rfl⟩

theorem upd2_other {β} (f : Nat → Nat → β) (a b x y : Nat) (v : β) (h : ¬ (x = a ∧ y = b)) :
    upd2 f a b v x y = f x y := if_neg h

theorem upd2_upd2 {β} (f : Nat → Nat → β) (a b : Nat) (v w : β) :
    upd2 (upd2 f a b v) a b w = upd2 f a b w := by
  funext x y
  unfold upd2
  split <;> rfl

theorem upd2_self {β : Type} (f : Nat → Nat → β) (a b : Nat) : upd2 f a b (f a b) = f := by
  funext x y
  by_cases hk : x = a ∧ y = b
  · rw [hk.1, hk.2, upd2_same]
  · rw [upd2_other _ _ _ _ _ _ hk]

theorem upd2_forall {β : Type} {Q : Nat → Nat → β → Prop} {f : Nat → Nat → β} {a b : Nat} {v : β}
    (hf : ∀ x y, ¬ (x = a ∧ y = b) → Q x y (f x y)) (hv : Q a b v) : ∀ x y, Q x y (upd2 f a b v x y) := by
  intro x y
  by_cases hk : x = a ∧ y = b
  · rw [hk.1, hk.2, upd2_same]; exact hv
  · rw [upd2_other _ _ _ _ _ _ hk]; exact hf x y hk

theorem upd2_row {β} (f : Nat → Nat → β) (a b : Nat) (v : β) (y : Nat) : upd2 f a b v a y = upd (f a) b v y := by
  simp [upd2, upd]

theorem upd2_col {β} (f : Nat → Nat → β) (a b : Nat) (v : β) (x : Nat) :
    upd2 f a b v x b = upd (fun x => f x b) a v x := by
  simp [upd2, upd]

theorem upd_eq_some_iff (own : Nat → Option Nat) (id : Nat) (v : Option Nat) (t a : Nat) :
    upd own id v t = some a ↔ (t = id ∧ v = some a) ∨ (t ≠ id ∧ own t = some a) := by
  by_cases ht : t = id
  · subst ht; rw [upd_same]; exact ⟨fun e => Or.inl ⟨rfl, e⟩, fun e => e.elim (·.2) (absurd rfl ·.1)⟩
  · rw [upd_other _ _ _ _ ht]; exact ⟨fun e => Or.inr ⟨ht, e⟩, fun e => e.elim (absurd ·.1 ht) (·.2)⟩

theorem isSome_upd_some {β} {f : Nat → Option β} {a : Nat} (h : (f a).isSome = true) (v : β) (x : Nat) :
    (upd f a (some v) x).isSome = (f x).isSome := by
  by_cases hx : x = a
  · rw [hx, upd_same, h]; rfl
  · rw [upd_other _ _ _ _ hx]

theorem forall_upd_some {β} {f : Nat → Option β} {P : Nat → β → Prop} {a : Nat} {v : β}
    (h : ∀ x w, f x = some w → P x w) (hv : P a v) : ∀ x w, upd f a (some v) x = some w → P x w := by
  intro x w hw
  by_cases hx : x = a
  · rw [hx, upd_same] at hw; rw [hx]; exact Option.some.inj hw ▸ hv
  · rw [upd_other _ _ _ _ hx] at hw; exact h x w hw

/-- a map kept as optional entries (absent = `d`), after the point write a generated setter makes -/
theorem upd_getD {β} {f : Nat → Option β} {b : Nat → β} {d : β} (h : ∀ x, b x = (f x).getD d) (a : Nat) (v : β) (x : Nat) :
    upd b a v x = (if x = a then some v else f x).getD d := by
  unfold upd
  split
  · rfl
  · exact h x

/-- a two-key map kept under a key record `key o sp` and read through a translation `g` of the value, after the point
write a generated setter makes -/
theorem upd2_map_key {κ α β : Type} [DecidableEq κ] {key : Nat → Nat → κ}
    (hkey : ∀ {o sp o' sp'}, key o' sp' = key o sp → o' = o ∧ sp' = sp) {f : κ → Option α} {g : α → β}
    {m : Nat → Nat → Option β} (h : ∀ o sp, m o sp = (f (key o sp)).map g) (o sp : Nat) (e : α) (o' sp' : Nat) :
    upd2 m o sp (some (g e)) o' sp' = (if key o' sp' = key o sp then some e else f (key o' sp')).map g := by
  unfold upd2
  by_cases hk : o' = o ∧ sp' = sp
  · rw [if_pos hk, if_pos (by rw [hk.1, hk.2])]; rfl
  · rw [if_neg hk, if_neg fun e => hk (hkey e)]; exact h o' sp'

namespace Temp
variable {α : Type}

theorem get?_none (now : Nat) : get? (none : Option (Temp α)) now = none := rfl

theorem get?_some_eq (e : Temp α) (now : Nat) :
    get? (some e) now = if now ≤ e.liveUntil then some e.val else none := rfl

theorem get?_live {e : Temp α} {now : Nat} (h : now ≤ e.liveUntil) : get? (some e) now = some e.val := if_pos h

theorem get?_dead {e : Temp α} {now : Nat} (h : ¬ now ≤ e.liveUntil) : get? (some e) now = none := if_neg h

theorem get?_eq_some {t : Option (Temp α)} {now : Nat} {v : α} (h : get? t now = some v) :
    ∃ e, t = some e ∧ e.val = v ∧ now ≤ e.liveUntil := by
  cases t with
  | none => cases h
  | some e =>
    by_cases hl : now ≤ e.liveUntil
    · rw [get?_live hl] at h; exact ⟨e, rfl, Option.some.inj h, hl⟩
    · rw [get?_dead hl] at h; cases h

theorem set_val (c : Cfg) (t : Option (Temp α)) (now : Nat) (v : α) : (set c t now v).val = v := by
  unfold set
  cases t with
  | none => rfl
  | some e => simp only; split <;> rfl

theorem set_live (c : Cfg) {e : Temp α} {now : Nat} (v : α) (h : now ≤ e.liveUntil) :
    (set c (some e) now v).liveUntil = e.liveUntil := by
  simp only [set]; rw [if_pos h]

/-- an entry just written is live: a fresh one gets `minTempTtl ≥ 1` ledgers, a live one keeps its lifetime -/
theorem live_of_set (c : Cfg) (hmin : 1 ≤ c.minTempTtl) (t : Option (Temp α)) (now : Nat) (v : α) :
    now ≤ (set c t now v).liveUntil := by
  cases t with
  | none => simp only [set]; omega
  | some e =>
    simp only [set]
    split
    · assumption
    · show now ≤ now + c.minTempTtl - 1; omega

/-- a successful `extend_ttl` keeps the value, never shortens the lifetime, and with `threshold = extend_to`
the entry lives at least until `now + extend_to` -/
theorem extend_some {c : Cfg} {e e' : Temp α} {now thr ext : Nat} (h : extend c e now thr ext = some e') :
    e'.val = e.val ∧ e.liveUntil ≤ e'.liveUntil ∧ (thr = ext → now + ext ≤ e'.liveUntil) := by
  unfold extend at h
  split at h
  · cases h
  · dsimp only at h
    split at h
    · cases h
    · split at h
      · injection h with h; subst h
        exact ⟨rfl, by simp only; omega, fun _ => by simp only; omega⟩
      · injection h with h; subst h
        refine ⟨rfl, Nat.le_refl _, fun ht => ?_⟩
        subst ht
        omega

/-- `extend_ttl(key, n, n)` exactly: it succeeds iff `now + n` is within the host's maximum, and then the entry
lives until `now + n` unless it already lives longer -/
theorem extend_eq_some_iff (c : Cfg) (e e' : Temp α) (now n : Nat) :
    extend c e now n n = some e' ↔
      now + n ≤ c.maxLiveUntil now ∧ e' = { e with liveUntil := max e.liveUntil (now + n) } := by
  unfold extend
  rw [if_neg (Nat.lt_irrefl n)]
  dsimp only
  by_cases h : now + n ≤ c.maxLiveUntil now
  · rw [if_neg (by omega)]
    split
    · rw [Nat.max_eq_right (by omega)]
      exact ⟨fun he => ⟨h, (Option.some.inj he).symm⟩, fun he => by rw [he.2]⟩
    · rw [Nat.max_eq_left (by omega)]
      exact ⟨fun he => ⟨h, (Option.some.inj he).symm⟩, fun he => by rw [he.2]⟩
  · rw [if_pos (by omega)]
    exact ⟨nofun, fun he => absurd he.1 h⟩

end Temp

/-! ### a total map listed over the universe `0 .. n-1`

What a monitor is shown of a map `f : Nat → α` is `(List.range n).map f`; a ghost that updates one position of
that list keeps the list of the updated map. -/

theorem getElem?_map_range {α : Type} (f : Nat → α) {n i : Nat} (h : i < n) :
    ((List.range n).map f)[i]? = some (f i) := by
  rw [List.getElem?_map, List.getElem?_range h]; rfl

theorem getD_map_range {α : Type} (f : Nat → α) (d : α) {n i : Nat} (h : i < n) :
    ((List.range n).map f).getD i d = f i := by
  rw [List.getD_eq_getElem?_getD, getElem?_map_range f h]; rfl

theorem mapIdx_map_range {α : Type} (n : Nat) (f : Nat → α) (i : Nat) (g : α → α) :
    ((List.range n).map f).mapIdx (fun j x => if j = i then g x else x) = (List.range n).map (upd f i (g (f i))) := by
  refine List.ext_getElem (by simp) fun j h1 h2 => ?_
  simp only [List.getElem_mapIdx, List.getElem_map, List.getElem_range, upd]
  split
  · rename_i e; rw [e]
  · rfl

theorem map_range_set {α : Type} (n : Nat) (f : Nat → α) (a : Nat) (x : α) :
    ((List.range n).map f).set a x = (List.range n).map (upd f a x) := by
  refine List.ext_getElem (by simp) fun j h1 h2 => ?_
  simp only [List.getElem_set, List.getElem_map, List.getElem_range, upd]
  split
  · rename_i e; rw [if_pos e.symm]
  · rename_i e; rw [if_neg fun c => e c.symm]

end OZ.Host

/-! ### a debit and a credit in a row (the token's `update` between two holders), pointwise -/

namespace OZ.Vault
open OZ.Host

/-- balances after moving `a` from `f` to `t` (as `Base::update` computes them) -/
def moved (b : Nat → Int) (f t : Nat) (a : Int) : Nat → Int :=
  upd (upd b f (b f - a)) t (upd b f (b f - a) t + a)

theorem moved_apply (b : Nat → Int) (f t : Nat) (a : Int) (x : Nat) :
    moved b f t a x = b x - (if x = f then a else 0) + (if x = t then a else 0) := by
  unfold moved
  have h0 : upd b f (b f - a) x = b x - (if x = f then a else 0) := by
    by_cases h2 : x = f
    · subst h2; rw [upd_same, if_pos rfl]
    · rw [upd_other _ _ _ _ h2, if_neg h2, Int.sub_zero]
  by_cases h1 : x = t
  · subst h1; rw [upd_same, if_pos rfl, h0]
  · rw [upd_other _ _ _ _ h1, if_neg h1, Int.add_zero, h0]

end OZ.Vault
