import OZ.Lemmas.Except
import OZ.Lemmas.Host
import OZ.Lemmas.Lists
import OZ.Model.RoleTransfer
/-
The accepted calls of the role-transfer model as a relation `Step`, one constructor per way a call can succeed with the
successor state written out, equivalent to the executable `apply` (`apply_ok_iff`); the invariant `Inv` that links the
stored pending entry to the ghost log of offers; a holder once gone never comes back.
-/
namespace OZ.RoleTransfer
open OZ.Host

theorem enforceHolderAuth_ok {s : State} {auth : List Nat} {h : Nat}
    (hh : enforceHolderAuth s auth = .ok h) : s.holder = some h ∧ h ∈ auth := by
  unfold enforceHolderAuth at hh
  split at hh
  · cases hh
  · rename_i a ha
    split at hh
    · injection hh with e; subst e; exact ⟨ha, by assumption⟩
    · cases hh

theorem enforceHolderAuth_of {s : State} {auth : List Nat} {h : Nat} (h1 : s.holder = some h)
    (h2 : h ∈ auth) : enforceHolderAuth s auth = .ok h := by
  unfold enforceHolderAuth; rw [h1]; exact if_pos h2

theorem enforceHolderAuth_iff (s : State) (auth : List Nat) :
    (∃ h, enforceHolderAuth s auth = .ok h) ↔ ∃ h, s.holder = some h ∧ h ∈ auth :=
  ⟨fun ⟨h, hh⟩ => ⟨h, enforceHolderAuth_ok hh⟩, fun ⟨h, h1, h2⟩ => ⟨h, enforceHolderAuth_of h1 h2⟩⟩

theorem cancelPending_ok {s s' : State} {new : Nat} (h : cancelPending s new = .ok s') :
    Temp.get? s.pending s.now = some new ∧ s' = { s with pending := none } := by
  unfold cancelPending at h
  split at h
  · cases h
  · rename_i p hp
    split at h
    · cases h
    · rename_i hne
      injection h with h
      have : p = new := Decidable.of_not_not hne
      subst this
      exact ⟨hp, h.symm⟩

/-- `extend_ttl(key, d, d)`: with threshold = extension the threshold test follows from `now + d > liveUntil` -/
theorem extend_same {α} (c : Cfg) (e : Temp α) (now d : Nat) (h : now + d ≤ c.maxLiveUntil now) :
    Temp.extend c e now d d = some { e with liveUntil := max e.liveUntil (now + d) } := by
  simp only [Temp.extend]
  rw [if_neg (Nat.lt_irrefl d), if_neg (Nat.not_lt.mpr h)]
  by_cases hc : now + d > e.liveUntil
  · rw [if_pos ⟨hc, Nat.sub_le_iff_le_add'.mpr (Nat.le_of_lt hc)⟩, Nat.max_eq_right (Nat.le_of_lt hc)]
  · rw [if_neg (fun h => hc h.1), Nat.max_eq_left (Nat.not_lt.mp hc)]

/-- a fresh entry extended by `extend_ttl(live_for, live_for)` lives until the later of `lu` and the end of the minimum
lifetime -/
theorem fresh_extend (c : Cfg) (now new lu : Nat) (h1 : now ≤ lu) (h2 : lu ≤ c.maxLiveUntil now) :
    Temp.extend c (Temp.set c none now new) now (lu - now) (lu - now)
      = some ⟨new, max lu (now + c.minTempTtl - 1)⟩ := by
  have e1 : now + (lu - now) = lu := Nat.add_sub_cancel' h1
  rw [extend_same c _ now (lu - now) (e1.symm ▸ h2), e1, Nat.max_comm]
  rfl

theorem storePending_fresh_ok {c : Cfg} {s s' : State} {new lu : Nat}
    (h : storePending c s none new lu = .ok s') :
    s.now ≤ lu ∧ lu ≤ c.maxLiveUntil s.now ∧
      s' = { s with pending := some ⟨new, max lu (s.now + c.minTempTtl - 1)⟩ } := by
  unfold storePending at h
  split at h
  · cases h
  · rename_i hb
    have h1 : s.now ≤ lu := by omega
    have h2 : lu ≤ c.maxLiveUntil s.now := by omega
    rw [fresh_extend c s.now new lu h1 h2] at h
    simp only [ofExtend] at h
    injection h with h
    exact ⟨h1, h2, h.symm⟩

theorem transferRole_frame {c : Cfg} {s s' : State} {new lu : Nat}
    (h : transferRole c s new lu = .ok s') : s'.holder = s.holder ∧ s'.now = s.now := by
  unfold transferRole at h
  split at h
  · obtain ⟨-, he⟩ := cancelPending_ok h; subst he; exact ⟨rfl, rfl⟩
  · obtain ⟨-, -, he⟩ := storePending_fresh_ok h; subst he; exact ⟨rfl, rfl⟩

theorem storePending_fresh_of_bounds (c : Cfg) (s : State) (new lu : Nat)
    (h1 : s.now ≤ lu) (h2 : lu ≤ c.maxLiveUntil s.now) :
    storePending c s none new lu
      = .ok { s with pending := some ⟨new, max lu (s.now + c.minTempTtl - 1)⟩ } := by
  unfold storePending
  rw [if_neg (by omega), fresh_extend c s.now new lu h1 h2]
  rfl

theorem acceptTransfer_ok {s : State} {auth : List Nat} {r : State × Nat}
    (h : acceptTransfer s auth = .ok r) :
    Temp.get? s.pending s.now = some r.2 ∧ r.2 ∈ auth ∧
      r.1 = { s with pending := none, holder := some r.2 } := by
  unfold acceptTransfer at h
  split at h
  · cases h
  · rename_i p hp
    split at h
    · injection h with h; subst h; exact ⟨hp, by assumption, rfl⟩
    · cases h

theorem refuseIfPending_ok {s : State} {u : Unit} (h : refuseIfPending s = .ok u) :
    Temp.get? s.pending s.now = none := by
  unfold refuseIfPending at h
  split at h
  · cases h
  · assumption

/-! ### the accepted calls as a relation -/

/-- the previous holder as the completion event names it -/
def prevOf (f : Flavor) (s : State) : Option Nat :=
  match f with
  | .owner => none
  | .admin => s.holder

inductive Step (c : Cfg) (f : Flavor) (s : State) (auth : List Nat) : Op → State → Prop
  | offer (hd new lu : Nat) (hh : s.holder = some hd) (ha : hd ∈ auth) (h0 : lu ≠ 0) (h1 : s.now ≤ lu)
      (h2 : lu ≤ c.maxLiveUntil s.now) :
      Step c f s auth (.offer new lu)
        (emit { s with pending := some ⟨new, max lu (s.now + c.minTempTtl - 1)⟩ } (.initiated hd new lu))
  | cancel (hd new : Nat) (hh : s.holder = some hd) (ha : hd ∈ auth)
      (hg : Temp.get? s.pending s.now = some new) :
      Step c f s auth (.offer new 0) (emit { s with pending := none } (.initiated hd new 0))
  | accept (p : Nat) (hg : Temp.get? s.pending s.now = some p) (ha : p ∈ auth)
      (hf : f = .admin → s.holder ≠ none) :
      Step c f s auth .accept
        (emit { s with pending := none, holder := some p } (.completed p (prevOf f s)))
  | renounce (hd : Nat) (hh : s.holder = some hd) (ha : hd ∈ auth)
      (hg : Temp.get? s.pending s.now = none) :
      Step c f s auth .renounce (emit { s with holder := none } (.renounced hd))
  | guarded (hd : Nat) (hh : s.holder = some hd) (ha : hd ∈ auth) : Step c f s auth .guarded s
  | advance (n : Nat) : Step c f s auth (.advance n) { s with now := s.now + n }

theorem step_of_ok {c : Cfg} {f : Flavor} {s s' : State} {auth : List Nat} {op : Op}
    (h : apply c f s auth op = .ok s') : Step c f s auth op s' := by
  cases op with
  | offer new lu =>
    obtain ⟨hd, hh, h⟩ := bind_eq_ok (show offer c s auth new lu = .ok s' from h)
    obtain ⟨s1, h1, h⟩ := bind_eq_ok h
    obtain ⟨ha, hb⟩ := enforceHolderAuth_ok hh
    cases h
    unfold transferRole at h1
    split at h1
    · rename_i h0; subst h0
      obtain ⟨hg, he⟩ := cancelPending_ok h1
      subst he
      exact .cancel hd new ha hb hg
    · rename_i h0
      obtain ⟨b1, b2, he⟩ := storePending_fresh_ok h1
      subst he
      exact .offer hd new lu ha hb h0 b1 b2
  | accept =>
    have key : ∀ ev, (do let r ← acceptTransfer s auth; pure (emit r.1 (.completed r.2 ev))) = .ok s' →
        (f = .admin → s.holder ≠ none) → ev = prevOf f s → Step c f s auth .accept s' := by
      intro ev h hf hev
      obtain ⟨r, hr, h⟩ := bind_eq_ok h
      obtain ⟨h1, h2, h3⟩ := acceptTransfer_ok hr
      cases h
      rw [h3, hev]
      exact .accept r.2 h1 h2 hf
    cases f with
    | owner => exact key none h nofun rfl
    | admin =>
      change acceptAdmin s auth = .ok s' at h
      unfold acceptAdmin at h
      split at h
      · cases h
      · rename_i prev hp
        exact key (some prev) h (fun _ => by rw [hp]; nofun) hp.symm
  | renounce =>
    obtain ⟨hd, hh, h⟩ := bind_eq_ok (show renounce s auth = .ok s' from h)
    obtain ⟨u, hu, h⟩ := bind_eq_ok h
    obtain ⟨ha, hb⟩ := enforceHolderAuth_ok hh
    cases h
    exact .renounce hd ha hb (refuseIfPending_ok hu)
  | guarded =>
    obtain ⟨hd, hh, h⟩ := bind_eq_ok (show guarded s auth = .ok s' from h)
    obtain ⟨ha, hb⟩ := enforceHolderAuth_ok hh
    cases h
    exact .guarded hd ha hb
  | advance n => cases h; exact .advance n

theorem ok_of_step {c : Cfg} {f : Flavor} {s s' : State} {auth : List Nat} {op : Op}
    (h : Step c f s auth op s') : apply c f s auth op = .ok s' := by
  cases h with
  | offer hd new lu hh ha h0 h1 h2 =>
    simp only [apply, offer, transferRole]
    rw [enforceHolderAuth_of hh ha, if_neg h0, storePending_fresh_of_bounds c s new lu h1 h2]
    rfl
  | cancel hd new hh ha hg =>
    show offer c s auth new 0 = _
    unfold offer transferRole cancelPending
    rw [enforceHolderAuth_of hh ha, if_pos rfl, hg]
    simp only [ne_eq, not_true_eq_false, if_false]
    rfl
  | accept p hg ha hf =>
    have ht : acceptTransfer s auth = .ok ({ s with pending := none, holder := some p }, p) := by
      unfold acceptTransfer; rw [hg]; simp only; rw [if_pos ha]
    cases f with
    | owner => simp only [apply, accept, acceptOwner, ht]; rfl
    | admin =>
      simp only [apply, accept, acceptAdmin, prevOf]
      cases hs : s.holder with
      | none => exact absurd hs (hf rfl)
      | some prev => simp only [ht]; rfl
  | renounce hd hh ha hg =>
    simp only [apply, renounce, refuseIfPending]
    rw [enforceHolderAuth_of hh ha, hg]
    rfl
  | guarded hd hh ha =>
    simp only [apply, guarded]
    rw [enforceHolderAuth_of hh ha]
    rfl
  | advance n => rfl

theorem apply_ok_iff {c : Cfg} {f : Flavor} {s s' : State} {auth : List Nat} {op : Op} :
    apply c f s auth op = .ok s' ↔ Step c f s auth op s' := ⟨step_of_ok, ok_of_step⟩

theorem accept_ok {f : Flavor} {s s' : State} {auth : List Nat} (h : accept f s auth = .ok s') :
    ∃ p, Temp.get? s.pending s.now = some p ∧ p ∈ auth ∧ s'.holder = some p ∧
      s'.pending = none ∧ s'.now = s.now ∧ (f = .admin → s.holder ≠ none) := by
  -- `accept` reads no configuration: any `c` serves
  cases step_of_ok (c := ⟨0, 0⟩) (op := .accept) h with
  | accept p hg ha hf => exact ⟨p, hg, ha, rfl, rfl, rfl, hf⟩

theorem holder_auth_of_ok {c : Cfg} {f : Flavor} {s s' : State} {auth : List Nat} {op : Op}
    (h : apply c f s auth op = .ok s') (hacc : op ≠ .accept) (hadv : ∀ n, op ≠ .advance n) :
    ∃ hd, s.holder = some hd ∧ hd ∈ auth := by
  cases step_of_ok h with
  | accept => exact absurd rfl hacc
  | advance n => exact absurd rfl (hadv n)
  | offer hd _ _ hh ha | cancel hd _ hh ha | renounce hd hh ha | guarded hd hh ha => exact ⟨hd, hh, ha⟩

/-! ### the invariant linking storage and ghost log -/

def entryOf (c : Cfg) (o : Offer) : Temp Nat := ⟨o.acct, deadline c o⟩

structure Inv (c : Cfg) (x : GS) : Prop where
  pend : x.s.pending = x.g.map (entryOf c)
  wf : ∀ o, x.g = some o →
    o.lu ≠ 0 ∧ o.madeAt ≤ o.lu ∧ o.madeAt ≤ x.s.now ∧ (∃ h, o.holderThen = some h ∧ h ∈ o.auth) ∧
    (x.s.now ≤ deadline c o → x.s.holder = o.holderThen)

theorem init_inv (c : Cfg) (h : Option Nat) (now : Nat) : Inv c (initG h now) :=
  ⟨rfl, fun o ho => by cases ho⟩

theorem inv_get?_some {c : Cfg} {x : GS} (hi : Inv c x) {p : Nat}
    (h : Temp.get? x.s.pending x.s.now = some p) :
    ∃ o, x.g = some o ∧ o.acct = p ∧ x.s.now ≤ deadline c o := by
  obtain ⟨e, he, hv, hl⟩ := Temp.get?_eq_some h
  rw [hi.pend] at he
  cases hg : x.g with
  | none => rw [hg] at he; cases he
  | some o =>
    rw [hg] at he
    simp only [Option.map_some, entryOf] at he
    injection he with he; subst he
    exact ⟨o, rfl, hv, hl⟩

theorem inv_get?_of_open {c : Cfg} {x : GS} (hi : Inv c x) {o : Offer} (hg : x.g = some o)
    (hl : x.s.now ≤ deadline c o) : Temp.get? x.s.pending x.s.now = some o.acct := by
  rw [hi.pend, hg]
  exact Temp.get?_live hl

theorem inv_get?_none_of_closed {c : Cfg} {x : GS} (hi : Inv c x)
    (h : ∀ o, x.g = some o → ¬ x.s.now ≤ deadline c o) : Temp.get? x.s.pending x.s.now = none := by
  rw [hi.pend]
  cases hg : x.g with
  | none => rfl
  | some o => exact Temp.get?_dead (h o hg)

theorem stepG_inv (c : Cfg) (f : Flavor) {x : GS} (hi : Inv c x) (a : List Nat × Op) :
    Inv c (stepG c f x a) := by
  obtain ⟨auth, op⟩ := a
  unfold stepG
  cases hx : apply c f x.s auth op with
  | error e => exact hi
  | ok s' =>
    cases step_of_ok hx with
    | offer hd new lu hh ha h0 h1 h2 =>
      have hg : ghostStep x.g x.s.holder x.s.now auth (.offer new lu) true
          = some ⟨new, lu, x.s.now, x.s.holder, auth⟩ := if_neg h0
      refine ⟨by rw [hg]; rfl, fun o ho => ?_⟩
      rw [hg] at ho; injection ho with ho; subst ho
      exact ⟨h0, h1, Nat.le_refl _, ⟨hd, hh, ha⟩, fun _ => rfl⟩
    | cancel | accept => exact ⟨rfl, fun o ho => by cases ho⟩
    | renounce hd hh ha hg =>
      refine ⟨hi.pend, fun o ho => ?_⟩
      obtain ⟨w1, w2, w3, w4, -⟩ := hi.wf o ho
      refine ⟨w1, w2, w3, w4, fun hl => ?_⟩
      -- an offer still open would have made `renounce` fail
      rw [inv_get?_of_open hi ho hl] at hg
      cases hg
    | guarded => exact hi
    | advance n =>
      refine ⟨hi.pend, fun o ho => ?_⟩
      obtain ⟨w1, w2, w3, w4, w5⟩ := hi.wf o ho
      exact ⟨w1, w2, Nat.le_trans w3 (Nat.le_add_right ..), w4,
        fun hl => w5 (Nat.le_trans (Nat.le_add_right ..) hl)⟩

theorem runG_inv (c : Cfg) (f : Flavor) {x : GS} (hi : Inv c x) (ops : List (List Nat × Op)) :
    Inv c (runG c f x ops) :=
  OZ.Lists.foldl_inv (P := Inv c) (fun _ a h => stepG_inv c f h a) ops x hi

/-- every state reached from an initial one satisfies the invariant -/
theorem reachable_inv (c : Cfg) (f : Flavor) (h : Option Nat) (start : Nat)
    (ops : List (List Nat × Op)) : Inv c (runG c f (initG h start) ops) :=
  runG_inv c f (init_inv c h start) ops

theorem runG_s (c : Cfg) (f : Flavor) (x : GS) (ops : List (List Nat × Op)) :
    (runG c f x ops).s = run c f x.s ops := by
  induction ops generalizing x with
  | nil => rfl
  | cons a as ih =>
    simp only [runG, run, List.foldl_cons] at *
    rw [ih]
    congr 1
    unfold stepG step
    cases apply c f x.s a.1 a.2 <;> rfl

theorem step_no_offer_pending {c : Cfg} {f : Flavor} {s : State} (hp : s.pending = none)
    (a : List Nat × Op) (ha : a.2.isOffer = false) : (step c f s a).pending = none := by
  obtain ⟨auth, op⟩ := a
  unfold step
  cases hx : apply c f s auth op with
  | error e => exact hp
  | ok s' =>
    cases step_of_ok hx with
    | offer _ _ _ _ _ h0 => simp [Op.isOffer, h0] at ha
    | cancel | accept => rfl
    | _ => exact hp

theorem accept_none_fails (f : Flavor) {s : State} (hp : s.pending = none) (auth : List Nat) :
    ∃ e, accept f s auth = .error e := by
  cases h : accept f s auth with
  | error e => exact ⟨e, rfl⟩
  | ok s' =>
    cases step_of_ok (c := ⟨0, 0⟩) (op := .accept) h with
    | accept p hg => rw [hp] at hg; cases hg

/-- an offer still open was made by a holder -/
theorem Step.holder_none {c : Cfg} {f : Flavor} {s s' : State} {auth : List Nat} {op : Op} {g : Option Offer}
    (hs : Step c f s auth op s') (hi : Inv c ⟨s, g⟩) (hn : s.holder = none) : s'.holder = none := by
  cases hs with
  | accept p hg =>
    obtain ⟨o, ho, -, hl⟩ := inv_get?_some hi hg
    obtain ⟨-, -, -, ⟨hd, w4, -⟩, w6⟩ := hi.wf o ho
    rw [w6 hl, w4] at hn; cases hn
  | advance n => exact hn
  | offer hd _ _ hh | cancel hd _ hh | renounce hd hh | guarded hd hh => rw [hn] at hh; cases hh

/-- for `sub_moves` of OZ/Lemmas/AccessOps.lean, where the ghost log is only known to exist -/
theorem Step.keeps {c : Cfg} {f : Flavor} {s s' : State} {auth : List Nat} {op : Op} (hs : Step c f s auth op s')
    (hi : ∃ g, Inv c ⟨s, g⟩) : (∃ g, Inv c ⟨s', g⟩) ∧ (s.holder = none → s'.holder = none) := by
  obtain ⟨g, hg⟩ := hi
  have e : stepG c f ⟨s, g⟩ (auth, op) = ⟨s', ghostStep g s.holder s.now auth op true⟩ := by
    unfold stepG; rw [ok_of_step hs]
  exact ⟨⟨_, e ▸ stepG_inv c f hg (auth, op)⟩, hs.holder_none hg⟩

theorem Step.handover {c : Cfg} {f : Flavor} {s s' : State} {auth : List Nat} {op : Op} (hs : Step c f s auth op s')
    (hne : s'.holder ≠ s.holder) : op = .accept ∨ op = .renounce := by
  cases hs with
  | accept => exact .inl rfl
  | renounce => exact .inr rfl
  | _ => exact absurd rfl hne

theorem holder_none_final (c : Cfg) (f : Flavor) (rest : List (List Nat × Op)) (x : GS) (hi : Inv c x)
    (hn : x.s.holder = none) : (runG c f x rest).s.holder = none := by
  refine (OZ.Lists.foldl_inv (P := fun x => Inv c x ∧ x.s.holder = none) (fun x a h => ⟨stepG_inv c f h.1 a, ?_⟩)
    rest x ⟨hi, hn⟩).2
  unfold stepG
  cases hx : apply c f x.s a.1 a.2 with
  | error e => exact h.2
  | ok s' => exact (step_of_ok hx).holder_none h.1 h.2

theorem run_holder_none_final (c : Cfg) (f : Flavor) (h0 : Option Nat) (start : Nat)
    (ops rest : List (List Nat × Op)) (hn : (run c f (init h0 start) ops).holder = none) :
    (run c f (init h0 start) (ops ++ rest)).holder = none := by
  have h1 := holder_none_final c f rest _ (reachable_inv c f h0 start ops) (by rw [runG_s]; exact hn)
  rw [runG_s, runG_s] at h1
  rw [run, List.foldl_append]
  exact h1

end OZ.RoleTransfer
