import OZ.Lemmas.Comp
/- The list-gated entry points of the generated token code: a membership test decides between the ungated `Base` call,
repacked, and a panic. -/
namespace OZ.Rs

theorem guardNot_ok {α : Type} {b : Bool} {c : Comp α} {r : α}
    (h : (if b = true then Comp.panic else c) = .ok r) : b = false ∧ c = .ok r :=
  (Comp.guard_eq_ok h).imp_left Bool.eq_false_iff.mpr

theorem refused {α : Type} {c : Comp (Unit × α)} (h : ∀ st', c ≠ .ok ((), st')) :
    (c.bind fun _ => Comp.ok ()) = .panic := by
  cases c with
  | panic => rfl
  | ok r => exact (h r.2 rfl).elim

end OZ.Rs
