import OZ.Lemmas.Host
/-
A list kept in two storage maps. `LOK tok idx n P` says that `tok : index ↦ item` and `idx : item ↦ index` are a
list of length `n` enumerating exactly the items satisfying `P`, each once, with `idx` the inverse of `tok`.
Appending and swap-and-pop (with the unconditional swap; a contract that skips the swap of the last item with itself
writes the same maps) preserve it; `listOf` is the list read out, duplicate-free and of length `n`. `LOKD` is the
case where the listed items are exactly those that have an index.
All of it is declared in `OZ.NftEnum`, the namespace of the first instance (the enumerable NFT).
-/
namespace OZ.NftEnum
open OZ.Host

def LOK (tok idx : Nat → Option Nat) (n : Nat) (P : Nat → Prop) : Prop :=
  (∀ i, i < n → ∃ t, tok i = some t ∧ idx t = some i ∧ P t) ∧
  (∀ t, P t → ∃ i, i < n ∧ idx t = some i ∧ tok i = some t) ∧
  (∀ i, n ≤ i → tok i = none)

theorem LOK_congr {tok idx tok' idx' : Nat → Option Nat} {n n' : Nat} {P Q : Nat → Prop}
    (h : LOK tok idx n P) (ht : ∀ i, tok' i = tok i) (hi : ∀ t, idx' t = idx t) (hn : n' = n)
    (hQ : ∀ t, Q t ↔ P t) : LOK tok' idx' n' Q := by
  subst hn
  obtain ⟨h1, h2, h3⟩ := h
  refine ⟨?_, ?_, ?_⟩
  · intro i hi'
    obtain ⟨t, a, b, c⟩ := h1 i hi'
    exact ⟨t, by rw [ht, a], by rw [hi, b], (hQ t).mpr c⟩
  · intro t hq
    obtain ⟨i, a, b, c⟩ := h2 t ((hQ t).mp hq)
    exact ⟨i, a, by rw [hi, b], by rw [ht, c]⟩
  · intro i hi'; rw [ht]; exact h3 i hi'

theorem LOK_frame {tok idx idx' : Nat → Option Nat} {n : Nat} {P : Nat → Prop}
    (h : LOK tok idx n P) (hi : ∀ t, P t → idx' t = idx t) : LOK tok idx' n P := by
  obtain ⟨h1, h2, h3⟩ := h
  refine ⟨?_, ?_, h3⟩
  · intro i hi'
    obtain ⟨t, a, b, c⟩ := h1 i hi'
    exact ⟨t, a, by rw [hi t c, b], c⟩
  · intro t hp
    obtain ⟨i, a, b, c⟩ := h2 t hp
    exact ⟨i, a, by rw [hi t hp, b], c⟩

theorem LOK_add {tok idx : Nat → Option Nat} {n : Nat} {P Q : Nat → Prop} (h : LOK tok idx n P)
    {id : Nat} (hid : ¬ P id) (hQ : ∀ t, Q t ↔ P t ∨ t = id) :
    LOK (upd tok n (some id)) (upd idx id (some n)) (n + 1) Q := by
  obtain ⟨h1, h2, h3⟩ := h
  refine ⟨?_, ?_, ?_⟩
  · intro i hi
    by_cases hin : i = n
    · subst hin
      exact ⟨id, upd_same _ _ _, upd_same _ _ _, (hQ id).mpr (Or.inr rfl)⟩
    · obtain ⟨t, a, b, c⟩ := h1 i (by omega)
      have htid : t ≠ id := fun e => hid (e ▸ c)
      exact ⟨t, by rw [upd_other _ _ _ _ hin, a], by rw [upd_other _ _ _ _ htid, b], (hQ t).mpr (Or.inl c)⟩
  · intro t hq
    rcases (hQ t).mp hq with hp | rfl
    · obtain ⟨i, a, b, c⟩ := h2 t hp
      have htid : t ≠ id := fun e => hid (e ▸ hp)
      exact ⟨i, by omega, by rw [upd_other _ _ _ _ htid, b], by rw [upd_other _ _ _ _ (by omega), c]⟩
    · exact ⟨n, by omega, upd_same _ _ _, upd_same _ _ _⟩
  · intro i hi
    rw [upd_other _ _ _ _ (by omega)]; exact h3 i (by omega)

theorem LOK_remove {tok idx : Nat → Option Nat} {n : Nat} {P Q : Nat → Prop}
    (h : LOK tok idx (n + 1) P) {id k lastId : Nat} (hid : P id) (hk : idx id = some k)
    (hl : tok n = some lastId) (hQ : ∀ t, Q t ↔ P t ∧ t ≠ id) :
    LOK (upd (upd tok k (some lastId)) n none) (upd (upd idx lastId (some k)) id none) n Q := by
  obtain ⟨h1, h2, h3⟩ := h
  obtain ⟨k', hk'lt, hk'idx, hk'tok⟩ := h2 id hid
  have hkk : k' = k := by rw [hk] at hk'idx; injection hk'idx with e; exact e.symm
  subst hkk
  obtain ⟨l, hltok, hlidx, hlP⟩ := h1 n (by omega)
  have hll : l = lastId := by rw [hl] at hltok; injection hltok with e; exact e.symm
  subst hll
  refine ⟨?_, ?_, ?_⟩
  · intro i hi
    by_cases hik : i = k'
    · subst hik
      have hlid : l ≠ id := by
        intro e; subst e; rw [hk] at hlidx; injection hlidx with e; omega
      refine ⟨l, ?_, ?_, (hQ l).mpr ⟨hlP, hlid⟩⟩
      · rw [upd_other _ _ _ _ (by omega), upd_same]
      · rw [upd_other _ _ _ _ hlid, upd_same]
    · obtain ⟨t, a, b, c⟩ := h1 i (by omega)
      have htid : t ≠ id := by
        intro e; subst e; rw [hk] at b; injection b with e; exact hik e.symm
      have htl : t ≠ l := by
        intro e; subst e; rw [hlidx] at b; injection b with e; omega
      refine ⟨t, ?_, ?_, (hQ t).mpr ⟨c, htid⟩⟩
      · rw [upd_other _ _ _ _ (by omega), upd_other _ _ _ _ hik, a]
      · rw [upd_other _ _ _ _ htid, upd_other _ _ _ _ htl, b]
  · intro t hq
    obtain ⟨hp, htid⟩ := (hQ t).mp hq
    by_cases htl : t = l
    · subst htl
      have hkn : k' ≠ n := by
        intro e; subst e
        rw [hl] at hk'tok; injection hk'tok with e; exact htid e
      refine ⟨k', by omega, ?_, ?_⟩
      · rw [upd_other _ _ _ _ htid, upd_same]
      · rw [upd_other _ _ _ _ hkn, upd_same]
    · obtain ⟨i, a, b, c⟩ := h2 t hp
      have hin : i ≠ n := by
        intro e; subst e; rw [hl] at c; injection c with e; exact htl e.symm
      have hik : i ≠ k' := by
        intro e; subst e; rw [hk'tok] at c; injection c with e; exact htid e.symm
      refine ⟨i, by omega, ?_, ?_⟩
      · rw [upd_other _ _ _ _ htid, upd_other _ _ _ _ htl, b]
      · rw [upd_other _ _ _ _ hin, upd_other _ _ _ _ hik, c]
  · intro i hi
    by_cases hin : i = n
    · subst hin; exact upd_same _ _ _
    · rw [upd_other _ _ _ _ hin, upd_other _ _ _ _ (by omega)]; exact h3 i (by omega)

/-- the list that `get_token_id(0..n)` / `get_owner_token_id(a, 0..n)` read out -/
def listOf (tok : Nat → Option Nat) (n : Nat) : List Nat := (List.range n).filterMap tok

theorem mem_listOf {tok : Nat → Option Nat} {n t : Nat} :
    t ∈ listOf tok n ↔ ∃ i, i < n ∧ tok i = some t := by
  simp [listOf, List.mem_filterMap, List.mem_range]

theorem listOf_succ {tok : Nat → Option Nat} {n t : Nat} (h : tok n = some t) :
    listOf tok (n + 1) = listOf tok n ++ [t] := by
  simp [listOf, List.range_succ, List.filterMap_append, h]

theorem LOK_list {tok idx : Nat → Option Nat} {n : Nat} {P : Nat → Prop} (h : LOK tok idx n P) :
    (listOf tok n).length = n ∧ (listOf tok n).Nodup ∧ ∀ t, t ∈ listOf tok n ↔ P t := by
  obtain ⟨h1, h2, h3⟩ := h
  have key : ∀ m, m ≤ n → (listOf tok m).length = m ∧ (listOf tok m).Nodup := by
    intro m
    induction m with
    | zero => intro _; exact ⟨rfl, List.nodup_nil⟩
    | succ m ih =>
      intro hm
      obtain ⟨hl, hn⟩ := ih (by omega)
      obtain ⟨t, ht, hidx, _⟩ := h1 m (by omega)
      rw [listOf_succ ht]
      refine ⟨by simp [hl], ?_⟩
      rw [List.nodup_append]
      refine ⟨hn, by simp, ?_⟩
      intro a ha b hb
      simp at hb; subst hb
      obtain ⟨i, hi, hti⟩ := mem_listOf.mp ha
      obtain ⟨t', ht', hidx', _⟩ := h1 i (by omega)
      rw [hti] at ht'; injection ht' with e; subst e
      intro e; subst e
      rw [hidx] at hidx'; injection hidx' with e; omega
  refine ⟨(key n (Nat.le_refl n)).1, (key n (Nat.le_refl n)).2, ?_⟩
  intro t
  rw [mem_listOf]
  constructor
  · rintro ⟨i, hi, hti⟩
    obtain ⟨t', ht', _, hp⟩ := h1 i hi
    rw [hti] at ht'; injection ht' with e; subst e; exact hp
  · intro hp
    obtain ⟨i, hi, _, hti⟩ := h2 t hp
    exact ⟨i, hi, hti⟩

/-! ### the listed items are those that have an index -/

abbrev LOKD (tok idx : Nat → Option Nat) (n : Nat) : Prop := LOK tok idx n fun t => (idx t).isSome = true

theorem LOKD_congr {tok idx tok' idx' : Nat → Option Nat} {n n' : Nat} (h : LOKD tok idx n)
    (ht : ∀ i, tok' i = tok i) (hi : ∀ t, idx' t = idx t) (hn : n' = n) : LOKD tok' idx' n' :=
  LOK_congr h ht hi hn fun t => by show (idx' t).isSome = true ↔ (idx t).isSome = true; rw [hi]

theorem LOKD.idx_lt {tok idx : Nat → Option Nat} {n t i : Nat} (h : LOKD tok idx n) (hi : idx t = some i) :
    i < n ∧ tok i = some t := by
  obtain ⟨j, hj, h1, h2⟩ := h.2.1 t (Option.isSome_iff_exists.mpr ⟨i, hi⟩)
  cases hi.symm.trans h1; exact ⟨hj, h2⟩

theorem LOKD.tok_lt {tok idx : Nat → Option Nat} {n t i : Nat} (h : LOKD tok idx n) (hi : tok i = some t) :
    i < n ∧ idx t = some i := by
  have hlt : i < n := Nat.lt_of_not_le fun hle => by rw [h.2.2 i hle] at hi; cases hi
  obtain ⟨t', h1, h2, -⟩ := h.1 i hlt
  cases hi.symm.trans h1; exact ⟨hlt, h2⟩

theorem LOKD_add {tok idx : Nat → Option Nat} {n id : Nat} (h : LOKD tok idx n) (hid : idx id = none) :
    LOKD (upd tok n (some id)) (upd idx id (some n)) (n + 1) := by
  refine LOK_add h (by simp [hid]) fun t => ?_
  unfold upd
  split
  · rename_i e; exact ⟨fun _ => Or.inr e, fun _ => rfl⟩
  · rename_i e; exact ⟨Or.inl, fun h => h.resolve_right e⟩

/-- who has an index after swap-and-pop: the old ones but `id` (the moved last item keeps one) -/
theorem dom_remove {tok idx : Nat → Option Nat} {n id k lastId : Nat} (h : LOKD tok idx (n + 1))
    (hl : tok n = some lastId) (t : Nat) :
    (upd (upd idx lastId (some k)) id none t).isSome = true ↔ (idx t).isSome = true ∧ t ≠ id := by
  unfold upd
  split
  · rename_i e; exact ⟨nofun, fun h => absurd e h.2⟩
  · rename_i e
    split
    · rename_i e2; exact ⟨fun _ => ⟨by rw [e2, (h.tok_lt hl).2]; rfl, e⟩, fun _ => rfl⟩
    · exact ⟨fun h => ⟨h, e⟩, fun h => h.1⟩

theorem LOKD_remove {tok idx : Nat → Option Nat} {n id k lastId : Nat} (h : LOKD tok idx (n + 1))
    (hk : idx id = some k) (hl : tok n = some lastId) :
    LOKD (upd (upd tok k (some lastId)) n none) (upd (upd idx lastId (some k)) id none) n :=
  LOK_remove h (by simp [hk]) hk hl (dom_remove h hl)

end OZ.NftEnum
