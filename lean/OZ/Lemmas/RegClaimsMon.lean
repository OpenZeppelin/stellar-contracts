import OZ.Lemmas.RegClaims
import OZ.Lemmas.RegMon
import OZ.Lemmas.Lists
import OZ.Model.RegClaimsMon
/-
For the soundness of the `claims` monitor of C20 (OZ/Props/C20gMon.lean): the monitor's plain map is read as a lookup
function (`look`); `valid` is here the harness's oracle `OZ.RegClaims.Mon.valid` of OZ/Model/RegClaimsMon.lean, not a variable.
-/
namespace OZ.RegClaims.Mon
open OZ.Reg OZ.RegMon OZ.RegClaims

def look (g : Mon) (id : Id) : Option String := (g.map.find? (fun e => e.1 == id)).map (·.2)

structure Agree (g : Mon) (s : State) : Prop where
  look : ∀ id, look g id = (s.claim id).map showClaim

theorem showId_inj : Function.Injective showId := by
  rintro ⟨a, b⟩ ⟨c, d⟩ h
  obtain ⟨rfl, rfl⟩ := showPair_inj (a := a) (b := b) (c := c) (d := d) h
  rfl

theorem look_add (g : Mon) (k : Id) (v : String) (id : Id) :
    look { map := g.map.filter (fun e => e.1 ≠ k) ++ [(k, v)] } id = if id = k then some v else look g id := by
  show ((g.map.filter (fun e => e.1 ≠ k) ++ [(k, v)]).find? (fun e => e.1 == id)).map (·.2) = _
  rw [OZ.Lists.find?_filter_key_append (·.1) g.map (k, v) id (by simp) (by simp), apply_ite (Option.map _)]
  rfl

theorem look_remove (g : Mon) (k id : Id) :
    look { map := g.map.filter (fun e => e.1 ≠ k) } id = if id = k then none else look g id := by
  show ((g.map.filter (fun e => e.1 ≠ k)).find? (fun e => e.1 == id)).map (·.2) = _
  rw [OZ.Lists.find?_filter_key (·.1) g.map k id (by simp) (by simp), apply_ite (Option.map _)]
  rfl

theorem look_isSome (g : Mon) (id : Id) : (look g id).isSome = (g.map.find? (fun e => e.1 == id)).isSome := by
  unfold look; cases g.map.find? (fun e => e.1 == id) <;> rfl

theorem agree_write {g g' : Mon} {s s' : State} (ha : Agree g s) {k : Id} {v : Option Claim}
    (hg : ∀ id, look g' id = if id = k then v.map showClaim else look g id) (hs : s'.claim = updD s.claim k v) :
    Agree g' s' :=
  ⟨fun id => by
    rw [hg, hs]
    exact forall_updD (P := fun id (c : Option Claim) => (if id = k then v.map showClaim else look g id) = c.map showClaim)
      (if_pos rfl) (fun x h => (if_neg h).trans (ha.look x)) id⟩

theorem decides {g : Mon} {s : State} (ha : Agree g s) (op : Op) :
    Decides Agree (step valid s op) (plain g (.op op)) := by
  cases op with
  | add t sc i sg d u =>
    rw [step, addClaim, plain]
    refine .ite (by simp [valid]) fun _ => ?_
    -- a new id and a known one differ in the topic index only
    split <;> exact .accepted rfl rfl (agree_write ha (look_add g _ _) rfl)
  | remove id =>
    rw [step, removeClaim, plain, ← look_isSome, ha.look]
    cases s.claim id with
    | none => exact .refused
    | some c => exact .accepted rfl rfl (agree_write ha (look_remove g id) (removed_claim s id c))

theorem mem_want_iff {g : Mon} {s : State} (ha : Agree g s) (hI : Inv s) (t : Nat) (x : String) :
    x ∈ (s.byTopic t).map showId ↔ x ∈ want g t := by
  unfold want
  simp only [List.mem_map, List.mem_filter, beq_iff_eq]
  constructor
  · rintro ⟨id, hid, rfl⟩
    obtain ⟨c, hc, hct⟩ := (hI.mem t id).1 hid
    have hk := (hI.key id c hc).1
    have hl : (look g id).isSome = true := by rw [ha.look, hc]; rfl
    rw [look_isSome] at hl
    obtain ⟨e, he⟩ := Option.isSome_iff_exists.1 hl
    have h1 := List.mem_of_find?_eq_some he
    have h2 : e.1 = id := by simpa using List.find?_some he
    exact ⟨e, ⟨h1, by rw [h2, ← hk, hct]⟩, by rw [h2]⟩
  · rintro ⟨e, ⟨he, het⟩, rfl⟩
    refine ⟨e.1, ?_, rfl⟩
    have hl : (g.map.find? (fun e' => e'.1 == e.1)).isSome = true :=
      List.find?_isSome.2 ⟨e, he, by simp⟩
    rw [← look_isSome, ha.look] at hl
    cases hc : s.claim e.1 with
    | none => rw [hc] at hl; cases hl
    | some c =>
      exact (hI.mem t e.1).2 ⟨c, hc, by rw [(hI.key e.1 c hc).1, het]⟩

end OZ.RegClaims.Mon
