import OZ.Lemmas.RegHooks
import OZ.Lemmas.RegMon
import OZ.Model.RegHooksMon
/-
For the soundness of the `hooks` monitor of C20 (OZ/Props/C20hMon.lean).
-/
namespace OZ.RegHooks.Mon
open OZ.Reg OZ.RegMon OZ.RegHooks

structure Agree (g : Mon) (s : State) (nm : Nat) : Prop where
  nm : g.nm = nm
  nodup : g.rel.Nodup
  mem : ∀ h m, (h, m) ∈ g.rel ↔ m ∈ s.modules h

theorem mem_want (g : Mon) (h m : Nat) : m ∈ want g h ↔ (h, m) ∈ g.rel := mem_fibre g.rel h m

theorem cnt_eq {g : Mon} {s : State} {nm : Nat} (ha : Agree g s nm) (hI : Inv s) (h : Nat) :
    cnt g h = (s.modules h).length := by
  have : cnt g h = (want g h).length := by unfold cnt want; rw [List.length_map]
  rw [this]
  exact length_eq_of_nodup_mem (nodup_fibre ha.nodup h) (hI.nodup h)
    (fun m => by rw [mem_want, ha.mem])

theorem contains_iff {g : Mon} {s : State} {nm : Nat} (ha : Agree g s nm) (h m : Nat) :
    g.rel.contains (h, m) = true ↔ (s.modules h).any (· == m) = true := by
  rw [List.contains_iff_mem, ha.mem, OZ.Lists.any_beq_iff_mem]

/-- `MAX_MODULES` is the monitor's numeral 20, whence `rfl` -/
theorem decides {g : Mon} {s : State} {nm : Nat} (ha : Agree g s nm) (hI : Inv s) (op : Op) :
    Decides (Agree · · nm) (step s op) (plain g op) := by
  cases op with
  | add h m =>
    rw [step, addModuleTo, plain]
    refine .ite (contains_iff ha h m) fun hn => .ite (by rw [cnt_eq ha hI]; rfl) fun _ =>
      .accepted rfl rfl ⟨ha.nm, ?_, fun h' m' => ?_⟩
    · exact nodup_append_singleton ha.nodup fun hc => hn ((contains_iff ha h m).1 (List.contains_iff_mem.2 hc))
    · show (h', m') ∈ g.rel ++ [(h, m)] ↔ m' ∈ updD s.modules h (s.modules h ++ [m]) h'
      rw [mem_updD_append, List.mem_append, List.mem_singleton, ha.mem, Prod.mk.injEq]
  | remove h m =>
    -- the plain relation tests for membership, the model for its absence
    rw [step, removeModuleFrom, plain]
    by_cases hc : g.rel.contains (h, m) = true
    · rw [if_pos hc, if_neg (by rw [(contains_iff ha h m).1 hc]; decide)]
      refine .accepted rfl rfl ⟨ha.nm, ha.nodup.erase _, fun h' m' => ?_⟩
      show (h', m') ∈ g.rel.erase (h, m) ↔ m' ∈ updD s.modules h ((s.modules h).erase m) h'
      rw [mem_updD_erase _ _ _ (hI.nodup h), ha.nodup.mem_erase_iff, ha.mem, ne_eq, Prod.mk.injEq, and_comm]
    · rw [if_neg hc, if_pos (by rw [Bool.not_eq_true', ← Bool.not_eq_true, ← contains_iff ha h m]; exact hc)]
      exact .refused

end OZ.RegHooks.Mon
