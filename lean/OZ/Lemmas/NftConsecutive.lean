import OZ.Lemmas.Nft
import OZ.Model.NftConsecutive
/-
The consecutive NFT model. Every scan, at the set level and at the bit level, is specified by `FirstSet`; the
invariant `CI` relates sparse owner marks / ownership bits / burned set to a plain ownership map; the contract
functions are treated over any implementation `Impl` of the ownership-bit set.
-/
namespace OZ.NftCons
open OZ.Host OZ.Nft

/-- `r` answers "which is the least set position of `bit` in `[lo, hi)`?" -/
def FirstSet (bit : Nat → Bool) (lo hi : Nat) : Option Nat → Prop
  | some p => lo ≤ p ∧ p < hi ∧ bit p = true ∧ ∀ q, lo ≤ q → q < p → bit q = false
  | none => ∀ q, lo ≤ q → q < hi → bit q = false

namespace FirstSet
variable {bit bit' : Nat → Bool} {lo mid hi hi' off w : Nat} {r r' : Option Nat}

theorem eq_iff (h : FirstSet bit lo hi r) : r = r' ↔ FirstSet bit lo hi r' := by
  constructor
  · intro e; exact e ▸ h
  · intro h'
    match r, r', h, h' with
    | none, none, _, _ => rfl
    | none, some p, h, ⟨h1, h2, h3, _⟩ => rw [h p h1 h2] at h3; cases h3
    | some p, none, ⟨h1, h2, h3, _⟩, h' => rw [h' p h1 h2] at h3; cases h3
    | some p, some p', ⟨h1, _, h3, h4⟩, ⟨h1', _, h3', h4'⟩ =>
      have : ¬ p < p' := fun hl => by rw [h4' p h1 hl] at h3; cases h3
      have : ¬ p' < p := fun hl => by rw [h4 p' h1' hl] at h3'; cases h3'
      rw [show p = p' by omega]

theorem empty (h : hi ≤ lo) : FirstSet bit lo hi none := fun q h1 h2 => by omega

theorem here (hlt : lo < hi) (hb : bit lo = true) : FirstSet bit lo hi (some lo) :=
  ⟨Nat.le_refl _, hlt, hb, fun q h1 h2 => by omega⟩

theorem skip (hle : lo ≤ mid) (hz : FirstSet bit lo mid none) (h : FirstSet bit mid hi r) :
    FirstSet bit lo hi r := by
  have join : ∀ b, (∀ q, mid ≤ q → q < b → bit q = false) → ∀ q, lo ≤ q → q < b → bit q = false := by
    intro b hb q h1 h2
    by_cases hq : q < mid
    · exact hz q h1 hq
    · exact hb q (by omega) h2
  cases r with
  | none => exact join hi h
  | some p => obtain ⟨h1, h2, h3, h4⟩ := h; exact ⟨by omega, h2, h3, join p h4⟩

theorem next (hb : bit lo = false) (h : FirstSet bit (lo + 1) hi r) : FirstSet bit lo hi r :=
  skip (Nat.le_succ lo) (fun q h1 h2 => by rw [show q = lo by omega]; exact hb) h

theorem lower (h : FirstSet bit lo hi r) (hle : hi' ≤ hi) (hb : ∀ q, bit q = true → q < hi') :
    FirstSet bit lo hi' r := by
  cases r with
  | none => intro q h1 h2; exact h q h1 (by omega)
  | some p => obtain ⟨h1, _, h3, h4⟩ := h; exact ⟨h1, hb p h3, h3, h4⟩

theorem block_some {p : Nat} (hb : ∀ x, x < w → bit (off + x) = bit' x) (hhi : off + w ≤ hi)
    (h : FirstSet bit' lo w (some p)) : FirstSet bit (off + lo) hi (some (off + p)) := by
  obtain ⟨h1, h2, h3, h4⟩ := h
  refine ⟨by omega, by omega, by rw [hb p h2]; exact h3, fun q hq1 hq2 => ?_⟩
  rw [show q = off + (q - off) by omega, hb _ (by omega)]
  exact h4 _ (by omega) (by omega)

theorem block_none (hb : ∀ x, x < w → bit (off + x) = bit' x) (hlo : lo ≤ w)
    (h : FirstSet bit' lo w none) (hrest : FirstSet bit (off + w) hi r) :
    FirstSet bit (off + lo) hi r := by
  refine skip (by omega) (fun q hq1 hq2 => ?_) hrest
  rw [show q = off + (q - off) by omega, hb _ (by omega)]
  exact h _ (by omega) (by omega)

end FirstSet

theorem findUp_spec {bit : Nat → Bool} : ∀ (fuel i : Nat), FirstSet bit i (i + fuel) (findUp bit fuel i)
  | 0, i => FirstSet.empty (Nat.le_refl _)
  | fuel + 1, i => by
    unfold findUp
    by_cases hb : bit i = true
    · rw [if_pos hb]; exact FirstSet.here (by omega) hb
    · rw [if_neg hb]
      have ih := findUp_spec (bit := bit) fuel (i + 1)
      rw [show i + 1 + fuel = i + (fuel + 1) by omega] at ih
      exact FirstSet.next (Bool.eq_false_iff.mpr hb) ih

theorem findFrom_spec (bit : Nat → Bool) (a b : Nat) : FirstSet bit a b (findFrom bit a b) := by
  unfold findFrom
  by_cases h : a ≤ b
  · have := findUp_spec (bit := bit) (b - a) a
    rwa [show a + (b - a) = b by omega] at this
  · rw [show b - a = 0 by omega]; exact FirstSet.empty (by omega)

theorem findFrom_some {bit : Nat → Bool} {a b j : Nat} : findFrom bit a b = some j ↔
    (a ≤ j ∧ j < b ∧ bit j = true ∧ ∀ k, a ≤ k → k < j → bit k = false) :=
  (findFrom_spec bit a b).eq_iff

theorem findFrom_none {bit : Nat → Bool} {a b : Nat} : findFrom bit a b = none ↔
    (∀ k, a ≤ k → k < b → bit k = false) :=
  (findFrom_spec bit a b).eq_iff

/-- the bound may grow with the write (batch mint) -/
theorem findFrom_set {bits : Nat → Bool} {id n n' j k : Nat} (hj : findFrom bits id n = some j)
    (hn : n ≤ n') (hk : k < n') :
    findFrom (upd bits k true) id n' = some (if id ≤ k ∧ k ≤ j then k else j) := by
  obtain ⟨h1, h2, h3, h4⟩ := findFrom_some.mp hj
  by_cases hc : id ≤ k ∧ k ≤ j
  · rw [if_pos hc]
    refine findFrom_some.mpr ⟨hc.1, hk, upd_same _ _ _, fun q hq1 hq2 => ?_⟩
    rw [upd_other _ _ _ _ (by omega)]; exact h4 q hq1 (by omega)
  · rw [if_neg hc]
    refine findFrom_some.mpr ⟨h1, by omega, ?_, fun q hq1 hq2 => ?_⟩
    · rw [upd_other _ _ _ _ (by omega)]; exact h3
    · rw [upd_other _ _ _ _ (by omega)]; exact h4 q hq1 hq2

/-- `spec` is the plain ownership map; `nextId`, `mark`, `bits`, `burned` the contract's
representation of it -/
structure CI (nextId : Nat) (mark : Nat → Option Nat) (bits burned : Nat → Bool)
    (spec : Nat → Option Nat) : Prop where
  live : ∀ id, id < nextId → burned id = false → (spec id).isSome = true
  above : ∀ id, nextId ≤ id → spec id = none
  dead : ∀ id, burned id = true → spec id = none
  scan : ∀ id a, spec id = some a → ∃ j, findFrom bits id nextId = some j ∧ mark j = some a
  bitLt : ∀ i, bits i = true → i < nextId
  markBit : ∀ i a, mark i = some a → bits i = true
  burnedLt : ∀ i, burned i = true → i < nextId
  prevOfBurned : ∀ i, burned i = true → 0 < i → (mark (i - 1)).isSome = true ∨ burned (i - 1) = true

theorem CI_init : CI 0 (fun _ => none) (fun _ => false) (fun _ => false) (fun _ => none) :=
  ⟨fun _ h => absurd h (Nat.not_lt_zero _), fun _ _ => rfl, fun _ _ => rfl, nofun, nofun, nofun, nofun, nofun⟩

section
variable {nextId : Nat} {mark : Nat → Option Nat} {bits burned : Nat → Bool} {spec : Nat → Option Nat}

theorem CI.mark_of_bit (h : CI nextId mark bits burned spec) {i a : Nat} (hs : spec i = some a)
    (hb : bits i = true) : mark i = some a := by
  obtain ⟨j, hj, hm⟩ := h.scan i a hs
  obtain ⟨h1, h2, h3, h4⟩ := findFrom_some.mp hj
  by_cases e : j = i
  · subst e; exact hm
  · have := h4 i (Nat.le_refl _) (by omega); rw [hb] at this; cases this

theorem CI.spec_lt (h : CI nextId mark bits burned spec) {i a : Nat} (hs : spec i = some a) :
    i < nextId ∧ burned i = false := by
  constructor
  · apply Classical.byContradiction; intro hn
    rw [h.above i (by omega)] at hs; cases hs
  · cases hb : burned i
    · rfl
    · rw [h.dead i hb] at hs; cases hs

theorem CI.no_burned_gap (h : CI nextId mark bits burned spec) {id' : Nat} (hlive : burned id' = false) :
    ∀ m, id' ≤ m → ((mark m).isSome = true ∨ burned m = true) →
      (∀ k, id' ≤ k → k ≤ m → bits k = false) → False := by
  intro m
  induction m with
  | zero =>
    intro hle hm hb
    have : id' = 0 := by omega
    subst this
    rcases hm with hm | hm
    · obtain ⟨a, ha⟩ := Option.isSome_iff_exists.mp hm
      have := h.markBit 0 a ha
      rw [hb 0 (Nat.le_refl _) (Nat.le_refl _)] at this; cases this
    · rw [hlive] at hm; cases hm
  | succ m ih =>
    intro hle hm hb
    rcases hm with hm | hm
    · obtain ⟨a, ha⟩ := Option.isSome_iff_exists.mp hm
      have := h.markBit (m + 1) a ha
      rw [hb (m + 1) hle (Nat.le_refl _)] at this; cases this
    · by_cases e : id' = m + 1
      · subst e; rw [hlive] at hm; cases hm
      · have hp := h.prevOfBurned (m + 1) hm (by omega)
        simp only [Nat.add_sub_cancel] at hp
        exact ih (by omega) hp (fun k h1 h2 => hb k h1 (by omega))

theorem CI.scan_below (h : CI nextId mark bits burned spec) {id id' a j : Nat}
    (hprev : id = 0 ∨ (mark (id - 1)).isSome = true ∨ burned (id - 1) = true)
    (hlt : id' < id) (hs : spec id' = some a) (hj : findFrom bits id' nextId = some j) : j < id := by
  apply Classical.byContradiction; intro hn
  obtain ⟨h1, h2, h3, h4⟩ := findFrom_some.mp hj
  have hl := (h.spec_lt hs).2
  rcases hprev with h0 | hp
  · omega
  · exact h.no_burned_gap hl (id - 1) (by omega) hp (fun k hk1 hk2 => h4 k hk1 (by omega))

theorem CI.mark_fields (h : CI nextId mark bits burned spec) {k n : Nat} (a : Nat) (hk : k < n)
    (hn : nextId ≤ n) :
    (∀ i, upd bits k true i = true → i < n) ∧
    (∀ i b, upd mark k (some a) i = some b → upd bits k true i = true) ∧
    (∀ i, burned i = true → 0 < i → (upd mark k (some a) (i - 1)).isSome = true ∨ burned (i - 1) = true) := by
  refine ⟨?_, ?_, ?_⟩
  · intro i hb
    by_cases e : i = k
    · rw [e]; exact hk
    · rw [upd_other _ _ _ _ e] at hb; exact Nat.lt_of_lt_of_le (h.bitLt i hb) hn
  · intro i b hm
    by_cases e : i = k
    · rw [e]; exact upd_same _ _ _
    · rw [upd_other _ _ _ _ e] at hm; rw [upd_other _ _ _ _ e]; exact h.markBit i b hm
  · intro i hb hi
    rcases h.prevOfBurned i hb hi with hp | hp
    · left
      by_cases e : i - 1 = k
      · rw [e, upd_same]; rfl
      · rw [upd_other _ _ _ _ e]; exact hp
    · right; exact hp

theorem CI.batch (h : CI nextId mark bits burned spec) {n to : Nat} (hn : 1 ≤ n) :
    CI (nextId + n) (upd mark (nextId + n - 1) (some to)) (upd bits (nextId + n - 1) true) burned
      (fun id => if nextId ≤ id ∧ id < nextId + n then some to else spec id) := by
  obtain ⟨hbl, hmb, hpb⟩ := h.mark_fields (k := nextId + n - 1) (n := nextId + n) to (by omega) (by omega)
  refine ⟨?_, ?_, ?_, ?_, hbl, hmb, ?_, hpb⟩
  · intro id hlt hb
    by_cases hr : nextId ≤ id ∧ id < nextId + n
    · rw [if_pos hr]; rfl
    · rw [if_neg hr]; exact h.live id (by omega) hb
  · intro id hge
    rw [if_neg (by omega)]; exact h.above id (by omega)
  · intro id hb
    have := h.burnedLt id hb
    rw [if_neg (by omega)]; exact h.dead id hb
  · intro id a hs
    by_cases hr : nextId ≤ id ∧ id < nextId + n
    · rw [if_pos hr] at hs; injection hs with hs; subst hs
      refine ⟨nextId + n - 1, findFrom_some.mpr ⟨by omega, by omega, upd_same _ _ _, ?_⟩, upd_same _ _ _⟩
      intro k hk1 hk2
      rw [upd_other _ _ _ _ (by omega)]
      cases hb : bits k
      · rfl
      · have := h.bitLt k hb; omega
    · rw [if_neg hr] at hs
      obtain ⟨j, hj, hm⟩ := h.scan id a hs
      have hjlt := (findFrom_some.mp hj).2.1
      refine ⟨j, ?_, ?_⟩
      · rw [findFrom_set hj (by omega) (by omega), if_neg (by omega)]
      · rw [upd_other _ _ _ _ (by omega)]; exact hm
  · intro i hb; have := h.burnedLt i hb; omega

/-- `set_owner_for_previous_token` -/
theorem CI.prev (h : CI nextId mark bits burned spec) {id f : Nat} (hid : 0 < id) (hlt : id < nextId)
    (hs : spec id = some f) (hm : mark (id - 1) = none) (hb : burned (id - 1) = false) :
    CI nextId (upd mark (id - 1) (some f)) (upd bits (id - 1) true) burned spec := by
  obtain ⟨b, hpb⟩ := Option.isSome_iff_exists.mp (h.live (id - 1) (by omega) hb)
  have hbit : bits (id - 1) = false := by
    cases hbb : bits (id - 1)
    · rfl
    · have := h.mark_of_bit hpb hbb; rw [hm] at this; cases this
  obtain ⟨hbl, hmb, hpb⟩ := h.mark_fields (k := id - 1) f (by omega) (Nat.le_refl nextId)
  refine ⟨h.live, h.above, h.dead, ?_, hbl, hmb, h.burnedLt, hpb⟩
  intro id' a hs'
  obtain ⟨j, hj, hmj⟩ := h.scan id' a hs'
  obtain ⟨h1, h2, h3, h4⟩ := findFrom_some.mp hj
  have hne : j ≠ id - 1 := by intro e; subst e; rw [hbit] at h3; cases h3
  refine ⟨_, findFrom_set hj (Nat.le_refl _) (by omega), ?_⟩
  by_cases hin : id' ≤ id - 1 ∧ id - 1 ≤ j
  · -- the scan from `id` ends at the same `j`, so the mark there is `f`
    obtain ⟨j2, hj2, hmj2⟩ := h.scan id f hs
    rw [findFrom_some.mpr ⟨by omega, h2, h3, fun k hk1 hk2 => h4 k (by omega) hk2⟩] at hj2
    cases hj2
    rw [if_pos hin, upd_same, ← hmj, hmj2]
  · rw [if_neg hin, upd_other _ _ _ _ hne]; exact hmj

theorem CI.move (h : CI nextId mark bits burned spec) {id f t : Nat} (hs : spec id = some f)
    (hprev : id = 0 ∨ (mark (id - 1)).isSome = true ∨ burned (id - 1) = true) :
    CI nextId (upd mark id (some t)) (upd bits id true) burned (upd spec id (some t)) := by
  obtain ⟨hlt, hnb⟩ := h.spec_lt hs
  obtain ⟨hbl, hmb, hpb⟩ := h.mark_fields t hlt (Nat.le_refl nextId)
  refine ⟨?_, ?_, ?_, ?_, hbl, hmb, h.burnedLt, hpb⟩
  · intro i hi hb
    by_cases e : i = id
    · subst e; rw [upd_same]; rfl
    · rw [upd_other _ _ _ _ e]; exact h.live i hi hb
  · intro i hi
    rw [upd_other _ _ _ _ (by omega)]; exact h.above i hi
  · intro i hb
    have : i ≠ id := by intro e; subst e; rw [hnb] at hb; cases hb
    rw [upd_other _ _ _ _ this]; exact h.dead i hb
  · intro id' a hs'
    by_cases e : id' = id
    · subst e; rw [upd_same] at hs'; cases hs'
      obtain ⟨j, hj, _⟩ := h.scan id' f hs
      exact ⟨id', by rw [findFrom_set hj (Nat.le_refl _) hlt, if_pos ⟨Nat.le_refl _, (findFrom_some.mp hj).1⟩],
        upd_same _ _ _⟩
    · rw [upd_other _ _ _ _ e] at hs'
      obtain ⟨j, hj, hmj⟩ := h.scan id' a hs'
      have hle := (findFrom_some.mp hj).1
      -- a scan from below stops before `id`, one from above never sees it
      have hne : ¬ (id' ≤ id ∧ id ≤ j) := fun ⟨h1, h2⟩ => by
        have := h.scan_below hprev (by omega) hs' hj; omega
      exact ⟨j, by rw [findFrom_set hj (Nat.le_refl _) hlt, if_neg hne],
        by rw [upd_other _ _ _ _ (by omega)]; exact hmj⟩

/-- the burned token's bit may stay -/
theorem CI.burn (h : CI nextId mark bits burned spec) {id f : Nat} (hs : spec id = some f)
    (hprev : id = 0 ∨ (mark (id - 1)).isSome = true ∨ burned (id - 1) = true) :
    CI nextId (upd mark id none) bits (upd burned id true) (upd spec id none) := by
  obtain ⟨hlt, hnb⟩ := h.spec_lt hs
  refine ⟨?_, ?_, ?_, ?_, h.bitLt, ?_, ?_, ?_⟩
  · intro i hi hb
    by_cases e : i = id
    · subst e; rw [upd_same] at hb; cases hb
    · rw [upd_other _ _ _ _ e] at hb; rw [upd_other _ _ _ _ e]; exact h.live i hi hb
  · intro i hi
    rw [upd_other _ _ _ _ (by omega)]; exact h.above i hi
  · intro i hb
    by_cases e : i = id
    · subst e; exact upd_same _ _ _
    · rw [upd_other _ _ _ _ e] at hb; rw [upd_other _ _ _ _ e]; exact h.dead i hb
  · intro id' a hs'
    have e : id' ≠ id := by intro e; subst e; rw [upd_same] at hs'; cases hs'
    rw [upd_other _ _ _ _ e] at hs'
    obtain ⟨j, hj, hmj⟩ := h.scan id' a hs'
    obtain ⟨h1, h2, h3, h4⟩ := findFrom_some.mp hj
    have hjne : j ≠ id := by
      by_cases hl : id' < id
      · have := h.scan_below hprev hl hs' hj; omega
      · omega
    exact ⟨j, hj, by rw [upd_other _ _ _ _ hjne]; exact hmj⟩
  · intro i a hmi
    by_cases e : i = id
    · subst e; rw [upd_same] at hmi; cases hmi
    · rw [upd_other _ _ _ _ e] at hmi; exact h.markBit i a hmi
  · intro i hb
    by_cases e : i = id
    · omega
    · rw [upd_other _ _ _ _ e] at hb; exact h.burnedLt i hb
  · intro i hbi hi
    by_cases e : i = id
    · subst e
      rcases hprev with h0 | hp | hp
      · omega
      · left; rw [upd_other _ _ _ _ (by omega)]; exact hp
      · right; rw [upd_other _ _ _ _ (by omega)]; exact hp
    · rw [upd_other _ _ _ _ e] at hbi
      by_cases e2 : i - 1 = id
      · right; rw [e2]; exact upd_same _ _ _
      · rw [upd_other _ _ _ _ e2, upd_other _ _ _ _ e2]; exact h.prevOfBurned i hbi hi

end

/-! ### balances count tokens of the plain map -/

theorem bal_batch (spec : Nat → Option Nat) (N n to a : Nat) :
    cnt (List.range (N + n)) (fun id => if N ≤ id ∧ id < N + n then some to else spec id) a
      = cnt (List.range N) spec a + (if to = a then n else 0) := by
  -- the ids below `N` keep their owners, each of the `n` new ones belongs to `to`
  rw [List.range_add, ← List.range'_eq_map_range, cnt_append]
  congr 1
  · exact cnt_congr _ _ _ _ fun t ht => if_neg (by have := List.mem_range.mp ht; omega)
  · unfold cnt
    by_cases e : to = a
    · rw [if_pos e, List.filter_eq_self.mpr, List.length_range']
      intro t ht
      show decide ((if N ≤ t ∧ t < N + n then some to else spec t) = some a) = true
      rw [if_pos (List.mem_range'_1.mp ht), e]; exact decide_eq_true rfl
    · rw [if_neg e, List.filter_eq_nil_iff.mpr]; rfl
      intro t ht
      show ¬ decide ((if N ≤ t ∧ t < N + n then some to else spec t) = some a) = true
      rw [if_pos (List.mem_range'_1.mp ht)]
      exact fun h => e (Option.some.inj (of_decide_eq_true h))

/-! ### what a successful call checked and did to the core, on any state -/

theorem toOption_eq_some {a : Nat} {x : Except Err Nat} : x.toOption = some a ↔ x = .ok a := by
  cases x with
  | error e => exact ⟨nofun, nofun⟩
  | ok b => exact ⟨fun h => by injection h with h; rw [h], fun h => by injection h with h; rw [h]; rfl⟩

section
variable {β : Type} (B : BitOps β)

theorem setOwnership_core {s s' : State β} {id : Nat} (h : setOwnershipInBucket B s id = .ok s') :
    s'.toCore = s.toCore ∧ s'.mark = s.mark ∧ s'.burned = s.burned := by
  unfold setOwnershipInBucket at h
  split at h
  · cases h
  · split at h
    · cases h
    · injection h with h; subst h; exact ⟨rfl, rfl, rfl⟩

theorem setOwnerForPrev_core {s s' : State β} {f id : Nat} (h : setOwnerForPreviousToken B s f id = .ok s') :
    s'.toCore = s.toCore := by
  unfold setOwnerForPreviousToken at h
  split at h
  · injection h with h; subst h; rfl
  · split at h
    · injection h with h; subst h; rfl
    · split at h
      · injection h with h; subst h; rfl
      · exact (setOwnership_core B h).1

theorem update_from_core_eq {s s' : State β} {f id : Nat} {to : Option Nat}
    (h : update B s (some f) to id = .ok s') :
    ownerOf B s id = .ok f ∧ CreditOK (upd s.bal f (s.bal f - 1)) to ∧
    s'.toCore = { s.toCore with bal := NftMon.moveBal s.bal f to, approval := upd s.approval id none } := by
  obtain ⟨s1, hd, hc⟩ := bind_eq_ok h
  unfold debit at hd
  simp only at hd
  obtain ⟨o, ho, hd⟩ := bind_eq_ok hd
  obtain ⟨_, hck, hd⟩ := bind_eq_ok hd
  obtain ⟨c, hdec, hp⟩ := bind_eq_ok hd
  cases checkOwner_ok hck
  obtain ⟨rfl, _⟩ := decreaseBalance_ok hdec
  have h1 := setOwnerForPrev_core B hp
  refine ⟨ho, ?_⟩
  cases to with
  | none =>
    unfold credit at hc
    injection hc with hc; subst hc
    exact ⟨trivial, h1⟩
  | some t =>
    unfold credit at hc
    simp only at hc
    obtain ⟨c2, hinc, hset⟩ := bind_eq_ok hc
    rw [h1] at hinc
    obtain ⟨rfl, hle⟩ := increaseBalance_ok hinc
    exact ⟨hle, (setOwnership_core B hset).1⟩

theorem batchMint_did {s s' : State β} {to n last : Nat} (h : batchMint B s to n = .ok (s', last)) :
    (1 ≤ n ∧ n ≤ MAX_TOKENS_IN_BATCH ∧ s.nextId + n ≤ U32_MAX ∧ s.bal to + n ≤ U32_MAX) ∧
    NftMon.MintStep s.toCore s'.toCore to n ∧ last = s.nextId + n - 1 ∧ s'.nextId = s.nextId + n := by
  unfold batchMint at h
  split at h
  · cases h
  · obtain ⟨⟨c, first⟩, h1, h⟩ := bind_eq_ok h
    obtain ⟨c2, h2, h⟩ := bind_eq_ok h
    obtain ⟨s3, h3, h⟩ := bind_eq_ok h
    cases pure_eq_ok h
    obtain ⟨rfl, rfl, hle1⟩ := incrementTokenId_ok h1
    obtain ⟨rfl, hle2⟩ := increaseBalance_ok h2
    refine ⟨⟨by omega, by omega, hle1, hle2⟩, ?_, rfl, ?_⟩
    · show NftMon.MintStep s.toCore s3.toCore to n
      rw [(setOwnership_core B h3).1]; exact ⟨rfl, rfl, rfl, rfl⟩
    · show s3.toCore.nextId = s.nextId + n
      rw [(setOwnership_core B h3).1]

end

/-! ### the contract functions over any implementation of the ownership-bit set

Under the invariant the bookkeeping is proved once, as "it succeeds AND its result satisfies the
invariant again" (`*_total`). That a call which succeeded re-established the invariant then follows
because a computation has at most one result (`ok_unique`). -/

/-- `B` implements a set of ownership bits: `g bits` is the abstract set, `W` the
well-formedness of the representation. -/
structure Impl {β : Type} (B : BitOps β) (g : β → Nat → Bool) (W : β → Prop) : Prop where
  find : ∀ b id n, W b → id < n → (∀ i, g b i = true → i < n) →
    B.find b id (n - 1) = findFrom (g b) id n
  set : ∀ b id, W b → ∃ b', B.set b id = some b' ∧ W b' ∧ g b' = upd (g b) id true

theorem setOps_impl : Impl setOps (fun b => b) (fun _ => True) := by
  refine ⟨?_, ?_⟩
  · intro b id n _ hlt _
    show findFrom b id (n - 1 + 1) = findFrom b id n
    rw [show n - 1 + 1 = n by omega]
  · intro b id _
    exact ⟨upd b id true, rfl, trivial, rfl⟩

section impl
variable {β : Type} {B : BitOps β} {g : β → Nat → Bool} {W : β → Prop}

structure GInv (g : β → Nat → Bool) (W : β → Prop) (s : State β) (spec : Nat → Option Nat) : Prop where
  ci : CI s.nextId s.mark (g s.bits) s.burned spec
  bal : ∀ a, s.bal a = cnt (List.range s.nextId) spec a
  wf : W s.bits

theorem ownerOf_impl_ok (hI : Impl B g W) {s : State β} {id a : Nat} (hW : W s.bits)
    (hlt : ∀ i, g s.bits i = true → i < s.nextId) (h : ownerOf B s id = .ok a) :
    id < s.nextId ∧ s.burned id = false ∧
    ∃ j, findFrom (g s.bits) id s.nextId = some j ∧ s.mark j = some a := by
  unfold ownerOf at h
  split at h
  · cases h
  · rename_i h0
    split at h
    · cases h
    · rename_i h1
      have hb : s.burned id = false := by
        cases hb : s.burned id
        · rfl
        · exact absurd (Or.inl hb) h1
      have hlt' : id < s.nextId := by
        apply Classical.byContradiction; intro hn; exact h1 (Or.inr (by omega))
      rw [hI.find s.bits id s.nextId hW hlt' hlt] at h
      split at h
      · cases h
      · rename_i j hj
        unfold markOwner at h
        split at h
        · rename_i b hm; injection h with h; subst h; exact ⟨hlt', hb, j, hj, hm⟩
        · cases h

theorem ownerOf_impl_of_scan (hI : Impl B g W) {s : State β} {id j a : Nat} (hW : W s.bits)
    (hbl : ∀ i, g s.bits i = true → i < s.nextId) (hlt : id < s.nextId)
    (hb : s.burned id = false) (hj : findFrom (g s.bits) id s.nextId = some j) (hm : s.mark j = some a) :
    ownerOf B s id = .ok a := by
  unfold ownerOf
  rw [if_neg (by omega), if_neg (by rw [hb]; simp; omega), hI.find s.bits id s.nextId hW hlt hbl, hj]
  show markOwner s j = .ok a
  unfold markOwner; rw [hm]

theorem ownerOf_impl_spec (hI : Impl B g W) {s : State β} {spec : Nat → Option Nat}
    (hi : GInv g W s spec) (id : Nat) : (ownerOf B s id).toOption = spec id := by
  cases hs : spec id with
  | some a =>
    obtain ⟨hlt, hb⟩ := hi.ci.spec_lt hs
    obtain ⟨j, hj, hm⟩ := hi.ci.scan id a hs
    rw [ownerOf_impl_of_scan hI hi.wf hi.ci.bitLt hlt hb hj hm]; rfl
  | none =>
    cases ho : ownerOf B s id with
    | error e => rfl
    | ok a =>
      obtain ⟨hlt, hb, _⟩ := ownerOf_impl_ok hI hi.wf hi.ci.bitLt ho
      have := hi.ci.live id hlt hb
      rw [hs] at this; cases this

theorem GInv.owner_pos {s : State β} {spec : Nat → Option Nat} (hi : GInv g W s spec) {f id : Nat}
    (h : spec id = some f) : 1 ≤ s.bal f := by
  rw [hi.bal f]
  exact cnt_pos (List.mem_range.mpr (hi.ci.spec_lt h).1) h

theorem setOwnership_total (hI : Impl B g W) {s : State β} {id : Nat} (hW : W s.bits) (hlt : id < s.nextId) :
    ∃ b', setOwnershipInBucket B s id = .ok { s with bits := b' } ∧ W b' ∧ g b' = upd (g s.bits) id true := by
  obtain ⟨b', hb', hw', hg'⟩ := hI.set s.bits id hW
  refine ⟨b', ?_, hw', hg'⟩
  unfold setOwnershipInBucket
  rw [if_neg (by omega), hb']

/-- what `debit` leaves behind for `credit`: only marks `m` and bits `b` are new, the invariant still relates
them to the SAME plain map, and no scan from below can run into `id` any more -/
structure Debited (g : β → Nat → Bool) (W : β → Prop) (nextId : Nat) (burned : Nat → Bool) (m : Nat → Option Nat)
    (b : β) (spec : Nat → Option Nat) (id : Nat) : Prop where
  ci : CI nextId m (g b) burned spec
  wf : W b
  prev : id = 0 ∨ (m (id - 1)).isSome = true ∨ burned (id - 1) = true

theorem setOwnerForPrev_total (hI : Impl B g W) {s : State β} {spec : Nat → Option Nat} {f id : Nat}
    (hci : CI s.nextId s.mark (g s.bits) s.burned spec) (hW : W s.bits) (hs : spec id = some f) :
    ∃ m b, setOwnerForPreviousToken B s f id = .ok { s with mark := m, bits := b } ∧
      Debited g W s.nextId s.burned m b spec id := by
  have hlt := (hci.spec_lt hs).1
  unfold setOwnerForPreviousToken
  by_cases h0 : id = 0 ∨ id ≥ s.nextId
  · rw [if_pos h0]; exact ⟨_, _, rfl, hci, hW, Or.inl (h0.resolve_right (by omega))⟩
  · rw [if_neg h0]
    by_cases h1 : (s.mark (id - 1)).isSome = true
    · rw [if_pos h1]; exact ⟨_, _, rfl, hci, hW, Or.inr (Or.inl h1)⟩
    · rw [if_neg h1]
      by_cases h2 : s.burned (id - 1) = true
      · rw [if_pos h2]; exact ⟨_, _, rfl, hci, hW, Or.inr (Or.inr h2)⟩
      · rw [if_neg h2]
        obtain ⟨b', hb', hw', hg'⟩ := setOwnership_total hI
          (s := { s with mark := upd s.mark (id - 1) (some f) }) (id := id - 1) hW (by show id - 1 < s.nextId; omega)
        refine ⟨_, b', hb', ?_, hw', Or.inr (Or.inl (by show (upd s.mark (id - 1) (some f) (id - 1)).isSome = true; rw [upd_same]; rfl))⟩
        rw [hg']
        exact hci.prev (by omega) hlt hs (Option.not_isSome_iff_eq_none.mp h1) (Bool.eq_false_iff.mpr h2)

theorem debit_total (hI : Impl B g W) {s : State β} {spec : Nat → Option Nat} {f id : Nat}
    (hi : GInv g W s spec) (hs : spec id = some f) :
    ∃ m b, debit B s (some f) id
        = .ok { s with bal := upd s.bal f (s.bal f - 1), approval := upd s.approval id none, mark := m, bits := b } ∧
      Debited g W s.nextId s.burned m b spec id := by
  unfold debit checkOwner decreaseBalance
  simp only
  rw [toOption_eq_some.mp ((ownerOf_impl_spec hI hi id).trans hs), ok_bind, if_neg (fun h => h rfl), ok_bind,
    if_neg (Nat.not_lt.mpr (hi.owner_pos hs)), ok_bind]
  exact setOwnerForPrev_total hI (s := { s with toCore := clearApproval _ id }) hi.ci hi.wf hs

theorem update_from_total (hI : Impl B g W) {s : State β} {spec : Nat → Option Nat} {f id : Nat}
    {to : Option Nat} (hi : GInv g W s spec) (hs : spec id = some f)
    (hb : CreditOK (upd s.bal f (s.bal f - 1)) to) :
    ∃ s', update B s (some f) to id = .ok s' ∧ GInv g W s' (upd spec id to) := by
  obtain ⟨m, b, hd, hci, hw1, hprev⟩ := debit_total hI hi hs
  have hlt := (hi.ci.spec_lt hs).1
  have hin := List.mem_range.mpr hlt
  unfold update
  rw [hd, ok_bind]
  unfold credit increaseBalance
  cases to with
  | none => exact ⟨_, rfl, hci.burn hs hprev, bal_burn List.nodup_range hin hs hi.bal, hw1⟩
  | some t =>
    obtain ⟨b', hb', hw', hg'⟩ := hI.set b id hw1
    simp only
    rw [if_neg (Nat.not_lt.mpr hb), ok_bind]
    unfold setOwnershipInBucket
    rw [if_neg (Nat.not_le.mpr hlt), hb']
    exact ⟨_, rfl, hg' ▸ hci.move hs hprev, bal_move List.nodup_range hin hs hi.bal, hw'⟩

theorem update_from_impl (hI : Impl B g W) {s s' : State β} {spec : Nat → Option Nat} {f id : Nat}
    {to : Option Nat} (hi : GInv g W s spec) (h : update B s (some f) to id = .ok s') :
    spec id = some f ∧ GInv g W s' (upd spec id to) := by
  obtain ⟨ho, hb, _⟩ := update_from_core_eq B h
  have hs : spec id = some f := (ownerOf_impl_spec hI hi id).symm.trans (toOption_eq_some.mpr ho)
  exact ⟨hs, ok_unique (update_from_total hI hi hs hb) h⟩

/-- `batch_mint` needs only well-formed buckets to succeed; the invariant, where it holds, is kept -/
theorem batchMint_total (hI : Impl B g W) {s : State β} {to n : Nat} (hW : W s.bits) (hn : 1 ≤ n)
    (hm : n ≤ MAX_TOKENS_IN_BATCH) (hc : s.nextId + n ≤ U32_MAX) (hb : s.bal to + n ≤ U32_MAX) :
    ∃ s', batchMint B s to n = .ok (s', s.nextId + n - 1) ∧
      ∀ spec, GInv g W s spec →
        GInv g W s' (fun id => if s.nextId ≤ id ∧ id < s.nextId + n then some to else spec id) := by
  obtain ⟨b', h3, hw', hg'⟩ := hI.set s.bits (s.nextId + n - 1) hW
  unfold batchMint incrementTokenId increaseBalance setOwnershipInBucket
  rw [if_neg (by omega), if_neg (Nat.not_lt.mpr hc), ok_bind]
  simp only
  rw [if_neg (Nat.not_lt.mpr hb), ok_bind, if_neg (by show ¬ s.nextId + n - 1 ≥ s.nextId + n; omega), h3, ok_bind]
  refine ⟨_, rfl, fun spec hi => ⟨?_, ?_, hw'⟩⟩
  · show CI (s.nextId + n) (upd s.mark (s.nextId + n - 1) (some to)) (g b') s.burned _
    rw [hg']; exact hi.ci.batch hn
  · intro a
    show upd s.bal to (s.bal to + n) a = cnt (List.range (s.nextId + n)) _ a
    rw [bal_batch, ← hi.bal a]
    by_cases e : a = to
    · subst e; rw [upd_same, if_pos rfl]
    · rw [upd_other _ _ _ _ e, if_neg (fun h => e h.symm)]; rfl

end impl

/-- `nextId`: the counter before the operation -/
def specStep (spec : Nat → Option Nat) (nextId : Nat) : Op → (Nat → Option Nat)
  | .batchMint to n => fun id => if nextId ≤ id ∧ id < nextId + n then some to else spec id
  | .transfer _ t id => upd spec id (some t)
  | .transferFrom _ _ t id => upd spec id (some t)
  | .burn _ id => upd spec id none
  | .burnFrom _ _ id => upd spec id none
  | _ => spec

theorem apply_ran {β : Type} {B : BitOps β} {cfg : Cfg} {s s' : State β} {auth : List Nat} {op : Op}
    {r : Option Nat} (h : apply B cfg s auth op = .ok (s', r)) :
    match op with
    | .mintSeq _ | .mint _ _ => False
    | .batchMint to n => ∃ last, r = some last ∧ batchMint B s to n = .ok (s', last)
    | .transfer f t id => r = none ∧ update B s (some f) (some t) id = .ok s' ∧ f ∈ auth
    | .transferFrom sp f t id => r = none ∧ update B s (some f) (some t) id = .ok s' ∧ sp ∈ auth ∧
        checkSpenderApproval s.toCore sp f id = .ok ()
    | .burn f id => r = none ∧ update B s (some f) none id = .ok s' ∧ f ∈ auth
    | .burnFrom sp f id => r = none ∧ update B s (some f) none id = .ok s' ∧ sp ∈ auth ∧
        checkSpenderApproval s.toCore sp f id = .ok ()
    | .approve ap a id lu => r = none ∧ ap ∈ auth ∧ ∃ o c, ownerOf B s id = .ok o ∧
        approveForOwner cfg s.toCore o ap a id lu = .ok c ∧ s' = { s with toCore := c }
    | .approveForAll o p lu =>
      r = none ∧ ∃ c, approveForAll cfg s.toCore auth o p lu = .ok c ∧ s' = { s with toCore := c }
    | .advance n => r = none ∧ s' = { s with toCore := s.toCore.advance n } := by
  cases op with
  | mintSeq to | mint to id => cases h
  | advance n => cases h; exact ⟨rfl, rfl⟩
  | batchMint to n =>
    obtain ⟨⟨s2, last⟩, h1, h⟩ := bind_eq_ok h
    cases pure_eq_ok h
    exact ⟨last, rfl, h1⟩
  | transfer f t id | burn f id =>
    obtain ⟨s2, h1, h⟩ := bind_eq_ok h
    cases pure_eq_ok h
    obtain ⟨_, ha, hu⟩ := bind_eq_ok h1
    exact ⟨rfl, hu, requireAuth_ok ha⟩
  | transferFrom sp f t id | burnFrom sp f id =>
    obtain ⟨s2, h1, h⟩ := bind_eq_ok h
    cases pure_eq_ok h
    obtain ⟨_, ha, h1⟩ := bind_eq_ok h1
    obtain ⟨_, hc, hu⟩ := bind_eq_ok h1
    exact ⟨rfl, hu, requireAuth_ok ha, hc⟩
  | approve ap a id lu =>
    obtain ⟨s2, h1, h⟩ := bind_eq_ok h
    cases pure_eq_ok h
    unfold approve at h1
    obtain ⟨_, ha, h1⟩ := bind_eq_ok h1
    obtain ⟨o, ho, h1⟩ := bind_eq_ok h1
    obtain ⟨c, hc, h1⟩ := bind_eq_ok h1
    cases pure_eq_ok h1
    exact ⟨rfl, requireAuth_ok ha, o, c, ho, hc, rfl⟩
  | approveForAll o p lu =>
    obtain ⟨c, hc, h⟩ := bind_eq_ok h
    cases pure_eq_ok h
    exact ⟨rfl, c, hc, rfl⟩

theorem apply_counter {β : Type} (B : BitOps β) (cfg : Cfg) {s s' : State β} {auth : List Nat} {op : Op}
    {r : Option Nat} (h : apply B cfg s auth op = .ok (s', r)) :
    (∀ to n, op = .batchMint to n →
      1 ≤ n ∧ r = some (s.nextId + n - 1) ∧ s'.nextId = s.nextId + n) ∧
    ((∀ to n, op ≠ .batchMint to n) → s'.nextId = s.nextId) := by
  have hr := apply_ran h
  cases op with
  | mintSeq to | mint to id => exact hr.elim
  | batchMint to n =>
    obtain ⟨last, rfl, h1⟩ := hr
    obtain ⟨⟨hn, _⟩, _, rfl, hnx⟩ := batchMint_did B h1
    exact ⟨fun _ _ e => by cases e; exact ⟨hn, rfl, hnx⟩, fun hne => absurd rfl (hne to n)⟩
  | transfer f t id | transferFrom sp f t id | burn f id | burnFrom sp f id =>
    exact ⟨nofun, fun _ => (congrArg Core.nextId (update_from_core_eq B hr.2.1).2.2 :)⟩
  | approve ap a id lu =>
    obtain ⟨_, _, o, c, _, hc, rfl⟩ := hr
    exact ⟨nofun, fun _ => (approveForOwner_fields hc).2⟩
  | approveForAll o p lu =>
    obtain ⟨_, c, hc, rfl⟩ := hr
    exact ⟨nofun, fun _ => (approveForAll_fields hc).2.1⟩
  | advance n => obtain ⟨_, rfl⟩ := hr; exact ⟨nofun, fun _ => rfl⟩

theorem GInv.of_core {β : Type} {g : β → Nat → Bool} {W : β → Prop} {s : State β}
    {spec : Nat → Option Nat} (hi : GInv g W s spec) {c : Core} (hb : c.bal = s.bal)
    (hn : c.nextId = s.nextId) : GInv g W { s with toCore := c } spec :=
  ⟨by show CI c.nextId _ _ _ _; rw [hn]; exact hi.ci,
   fun a => by show c.bal a = cnt (List.range c.nextId) spec a; rw [hb, hn]; exact hi.bal a, hi.wf⟩

theorem apply_impl_step {β : Type} {B : BitOps β} {g : β → Nat → Bool} {W : β → Prop} (hI : Impl B g W)
    (cfg : Cfg) {s s' : State β} {spec : Nat → Option Nat} {auth : List Nat}
    {op : Op} {r : Option Nat} (hi : GInv g W s spec) (h : apply B cfg s auth op = .ok (s', r)) :
    GInv g W s' (specStep spec s.nextId op) ∧
    (∀ f id, Op.moves op = some (f, id) → spec id = some f) ∧
    (∀ to n, op = .batchMint to n →
      1 ≤ n ∧ r = some (s.nextId + n - 1) ∧ s'.nextId = s.nextId + n) ∧
    ((∀ to n, op ≠ .batchMint to n) → s'.nextId = s.nextId) := by
  have hr := apply_ran h
  have hc := apply_counter B cfg h
  cases op with
  | mintSeq to | mint to id => exact hr.elim
  | batchMint to n =>
    obtain ⟨last, rfl, h1⟩ := hr
    obtain ⟨⟨hn, hm, hc1, hb⟩, _⟩ := batchMint_did B h1
    obtain ⟨s2, h2, hinv⟩ := batchMint_total hI hi.wf hn hm hc1 hb
    rw [h2] at h1; cases h1
    exact ⟨hinv spec hi, nofun, hc⟩
  | transfer f t id | transferFrom sp f t id | burn f id | burnFrom sp f id =>
    obtain ⟨hs, hinv⟩ := update_from_impl hI hi hr.2.1
    exact ⟨hinv, fun _ _ hm => by cases hm; exact hs, hc⟩
  | approve ap a id lu =>
    obtain ⟨_, _, o, c, _, hc', rfl⟩ := hr
    exact ⟨hi.of_core (approveForOwner_fields hc').1 (approveForOwner_fields hc').2, nofun, hc⟩
  | approveForAll o p lu =>
    obtain ⟨_, c, hc', rfl⟩ := hr
    exact ⟨hi.of_core (approveForAll_fields hc').1 (approveForAll_fields hc').2.1, nofun, hc⟩
  | advance n =>
    obtain ⟨_, rfl⟩ := hr
    exact ⟨hi.of_core rfl rfl, nofun, hc⟩

end OZ.NftCons
