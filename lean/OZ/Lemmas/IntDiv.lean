import OZ.Model.MulDiv
/-
Lean's truncating, flooring and Euclidean integer divisions related under the branch conditions of
the coded rounding; for a positive divisor floor and ceiling are the adjoints of multiplication.
-/
namespace OZ.MulDiv

theorem div_facts (r d : Int) (hd : d ≠ 0) :
    d * (r / d) + r % d = r ∧ 0 ≤ r % d ∧ r % d < d.natAbs ∧
    Int.tdiv r d = r / d + (if 0 ≤ r ∨ r % d = 0 then 0 else d.sign) ∧
    Int.fdiv r d = r / d - (if 0 ≤ d ∨ r % d = 0 then 0 else 1) ∧
    Int.cdiv r d = r / d + (if d < 0 ∨ r % d = 0 then 0 else 1) ∧
    (Int.tdiv r d).natAbs ≤ r.natAbs := by
  refine ⟨Int.mul_ediv_add_emod r d, Int.emod_nonneg r hd, Int.emod_lt r hd, ?_, ?_, ?_,
    Int.natAbs_tdiv_le_natAbs r d⟩
  · rw [Int.tdiv_eq_ediv]; simp only [Int.dvd_iff_emod_eq_zero]
  · rw [Int.fdiv_eq_ediv]; simp only [Int.dvd_iff_emod_eq_zero]
  · -- `cdiv r d = -fdiv (-r) d`, and `-r` leaves remainder zero exactly when `r` does
    unfold Int.cdiv
    rw [Int.fdiv_eq_ediv, Int.neg_ediv]
    simp only [Int.dvd_neg]
    simp only [Int.dvd_iff_emod_eq_zero]
    have hm := Int.emod_nonneg r hd
    have hp : 0 < d → d.sign = 1 := Int.sign_eq_one_of_pos
    have hn : d < 0 → d.sign = -1 := Int.sign_eq_neg_one_of_neg
    omega

theorem fdiv_eq_tdiv_sub {r d : Int} (hd : d ≠ 0) (hs : (r < 0 ∧ d > 0) ∨ (r > 0 ∧ d < 0)) :
    Int.fdiv r d = Int.tdiv r d - if r % d > 0 then 1 else 0 := by
  obtain ⟨-, hm, -, ht, hf, -, -⟩ := div_facts r d hd
  rw [ht, hf]
  rcases hs with ⟨_, h⟩ | ⟨_, h⟩
  · rw [Int.sign_eq_one_of_pos h]; omega
  · rw [Int.sign_eq_neg_one_of_neg h]; omega

theorem fdiv_eq_tdiv {r d : Int} (hd : d ≠ 0) (hs : ¬ ((r < 0 ∧ d > 0) ∨ (r > 0 ∧ d < 0))) :
    Int.fdiv r d = Int.tdiv r d := by
  obtain ⟨-, -, -, ht, hf, -, -⟩ := div_facts r d hd
  have hz : r = 0 → r % d = 0 := fun h => h ▸ Int.zero_emod d
  rw [ht, hf]
  rcases Int.lt_or_gt_of_ne hd with h | h
  · rw [Int.sign_eq_neg_one_of_neg h]; omega
  · rw [Int.sign_eq_one_of_pos h]; omega

theorem cdiv_eq_tdiv {r d : Int} (hd : d ≠ 0) (hs : (r ≤ 0 ∧ d > 0) ∨ (r ≥ 0 ∧ d < 0)) :
    Int.cdiv r d = Int.tdiv r d := by
  unfold Int.cdiv
  rw [fdiv_eq_tdiv hd (by omega), Int.neg_tdiv, Int.neg_neg]

theorem cdiv_eq_tdiv_add {r d : Int} (hd : d ≠ 0) (hs : ¬ ((r ≤ 0 ∧ d > 0) ∨ (r ≥ 0 ∧ d < 0))) :
    Int.cdiv r d = Int.tdiv r d + if r % d > 0 then 1 else 0 := by
  obtain ⟨-, hm, -, ht, -, hc, -⟩ := div_facts r d hd
  rw [ht, hc]
  rcases Int.lt_or_gt_of_ne hd with h | h
  · rw [Int.sign_eq_neg_one_of_neg h]; omega
  · rw [Int.sign_eq_one_of_pos h]; omega

theorem le_fdiv_iff {n d k : Int} (hd : 0 < d) : k ≤ Int.fdiv n d ↔ k * d ≤ n := by
  rw [Int.fdiv_eq_ediv_of_nonneg _ (Int.le_of_lt hd)]
  exact Int.le_ediv_iff_mul_le hd

theorem cdiv_le_iff {n d k : Int} (hd : 0 < d) : Int.cdiv n d ≤ k ↔ n ≤ k * d := by
  unfold Int.cdiv
  rw [Int.neg_le_iff, le_fdiv_iff hd, Int.neg_mul, Int.neg_le_neg_iff]

theorem tdiv_half (r d : Int) (hd : 2 ≤ d ∨ d ≤ -2) :
    (0 ≤ r → -r ≤ 2 * Int.tdiv r d ∧ 2 * Int.tdiv r d ≤ r) ∧
    (r ≤ 0 → r ≤ 2 * Int.tdiv r d ∧ 2 * Int.tdiv r d ≤ -r) := by
  have h : r.natAbs / d.natAbs ≤ r.natAbs / 2 := Nat.div_le_div_left (by omega) (by decide)
  have e : (Int.tdiv r d).natAbs = r.natAbs / d.natAbs := Int.natAbs_tdiv r d
  omega

end OZ.MulDiv
