import OZ.Lemmas.SmartAccountMon
/-
What an accepted rule-management operation does to the store, as ONE relation: one constructor per
kind of store update, indexed by what the monitor's ghost list does at the same time. The storage invariant is kept by
cases on the relation (`Step.inv`), hence by every operation and along every history.
-/
namespace OZ.SmartAccount.Mon
open OZ.SmartAccount

/-- that `allRules` changes by `g` is `Step.ghost` (OZ/Lemmas/SmartAccountMonMgmt.lean) -/
inductive Step (s : Store) : (List GRule → List GRule) → Store → Prop where
  | add (t : RuleType) (name : Nat) (vu : Option Nat) {sg : List Signer} {pv : List Nat}
      (hn : s.fps.any (fpEq ⟨t, sg, pv⟩) = false) (hc : s.count < MAX_CONTEXT_RULES) (ok : RuleOk sg pv) :
      Step s (· ++ [⟨s.nextId, t, vu, sg, pv⟩])
        { storeRule { s with fps := ⟨t, sg, pv⟩ :: s.fps } s.nextId t name vu sg pv with
          nextId := s.nextId + 1, count := s.count + 1 }
  | remove {id : Nat} {r : Rule} (hg : getContextRule s id = .ok r) :
      Step s (·.filter (fun q => q.id != id))
        { dropRule { s with fps := s.fps.filter (fun x => !(fpEq ⟨r.ctype, r.signers, r.policies⟩ x)) } id r.ctype with
          count := s.count - 1 }
  | setMeta {id : Nat} {r : Rule} (hg : getContextRule s id = .ok r) (m' : Meta) (hc : m'.ctype = r.ctype)
      (f : GRule → GRule) (hf : f (toG r) = { toG r with vu := m'.validUntil }) :
      Step s (modify · id f) { s with metas := updN s.metas id (some m') }
  | signers {id : Nat} {r : Rule} {L : List Signer} (hg : getContextRule s id = .ok r)
      (hn : s.fps.any (fpEq ⟨r.ctype, L, r.policies⟩) = false) (ok : RuleOk L r.policies)
      (f : GRule → GRule) (hf : f (toG r) = { toG r with signers := L }) :
      Step s (modify · id f) (setSigners (reprint s r L r.policies) id L)
  | policies {id : Nat} {r : Rule} {L : List Nat} (hg : getContextRule s id = .ok r)
      (hn : s.fps.any (fpEq ⟨r.ctype, r.signers, L⟩) = false) (ok : RuleOk r.signers L)
      (f : GRule → GRule) (hf : f (toG r) = { toG r with policies := L }) :
      Step s (modify · id f) (setPolicies (reprint s r r.signers L) id L)

variable {s s' : Store} {now id : Nat} {r : Rule} {g : List GRule → List GRule}

theorem Step.inv (h : Step s g s') (hI : Inv s) : Inv s' := by
  cases h with
  | add t name vu hn hc ok => exact inv_storeRule (inv_fps hI _) t name vu ok hc
  | remove hg => exact inv_dropRule (s := { s with fps := _ }) (inv_fps hI _) hg
  | setMeta hg m' hc => exact inv_setMeta hI hg m' hc
  | signers hg hn ok => exact inv_setSigners (inv_reprint hI ..) hg ok
  | policies hg hn ok => exact inv_setPolicies (inv_reprint hI ..) hg ok

theorem addContextRule_step {t : RuleType} {name : Nat} {vu : Option Nat} {sg : List Signer} {pm : List Nat}
    {io : Nat → Bool} (h : addContextRule s now t name vu sg pm io = .ok (s', r)) :
    Step s (ghostAdd · (some r.id) t vu sg pm) s' := by
  obtain ⟨rfl, rfl, hn, hc, ok⟩ := addContextRule_ok h
  unfold ghostAdd
  rw [sortDedup_eq]
  exact .add t name vu hn hc ok

theorem removeContextRule_step (h : removeContextRule s id = .ok s') :
    Step s (·.filter (fun q => q.id != id)) s' := by
  obtain ⟨r, hg, -, rfl⟩ := removeContextRule_ok h
  exact .remove hg

theorem updateValidUntil_step {vu : Option Nat} (h : updateValidUntil s now id vu = .ok s') :
    Step s (modify · id (fun q => { q with vu := vu })) s' := by
  obtain ⟨r, hg, -, rfl⟩ := updateValidUntil_ok h
  exact .setMeta hg _ rfl _ rfl

theorem modify_self (l : List GRule) (id : Nat) : modify l id (fun q => q) = l := by
  unfold modify
  rw [List.map_congr_left (g := fun q => q) (fun q _ => by split <;> rfl), List.map_id']

/-- the name is not shown by the getters: the ghost list stays -/
theorem updateName_step {name : Nat} (h : updateName s id name = .ok s') : Step s (fun l => l) s' := by
  obtain ⟨r, hg, rfl⟩ := updateName_ok h
  have := Step.setMeta hg ⟨name, r.ctype, r.validUntil⟩ rfl (fun q => q) rfl
  rwa [funext (modify_self · id)] at this

theorem addSigner_step {x : Signer} (h : addSigner s id x = .ok s') :
    Step s (modify · id (fun q => { q with signers := q.signers ++ [x] })) s' := by
  obtain ⟨r, s2, hg, -, hr, rfl⟩ := addSigner_ok h
  obtain ⟨rfl, hn, ok⟩ := refingerprint_ok hr
  exact .signers hg hn ok _ rfl

/-- the monitor removes every occurrence, the model the last: the same on a duplicate-free list -/
theorem removeSigner_step (hI : Inv s) {x : Signer} (h : removeSigner s id x = .ok s') :
    Step s (modify · id (fun q => { q with signers := q.signers.filter (· != x) })) s' := by
  obtain ⟨r, s2, hg, -, hr, rfl⟩ := removeSigner_ok h
  obtain ⟨rfl, hn, ok⟩ := refingerprint_ok hr
  refine .signers hg hn ok _ ?_
  show ({ toG r with signers := r.signers.filter (· != x) } : GRule) = _
  rw [filter_ne_eq_eraseLast x r.signers (hI.rule_ok hg).sgNodup]

theorem addPolicy_step {p : Nat} {io : Bool} (h : addPolicy s id p io = .ok s') :
    Step s (modify · id (fun q => { q with policies := q.policies ++ [p] })) s' := by
  obtain ⟨r, s2, hg, -, -, hr, rfl⟩ := addPolicy_ok h
  obtain ⟨rfl, hn, ok⟩ := refingerprint_ok hr
  exact .policies hg hn ok _ rfl

theorem removePolicy_step (hI : Inv s) {p : Nat} (h : removePolicy s id p = .ok s') :
    Step s (modify · id (fun q => { q with policies := q.policies.filter (· != p) })) s' := by
  obtain ⟨r, s2, hg, -, hr, rfl⟩ := removePolicy_ok h
  obtain ⟨rfl, hn, ok⟩ := refingerprint_ok hr
  refine .policies hg hn ok _ ?_
  show ({ toG r with policies := r.policies.filter (· != p) } : GRule) = _
  rw [filter_ne_eq_eraseLast p r.policies (hI.rule_ok hg).psNodup]

theorem applyOp_step {op : Op} (hI : Inv s) (h : applyOp s now op = .ok s') : ∃ g, Step s g s' := by
  cases op with
  | add t name vu sg pm io =>
    simp only [applyOp] at h
    split at h
    · cases h
    · next s1 r ha => cases h; exact ⟨_, addContextRule_step ha⟩
  | remove id => exact ⟨_, removeContextRule_step h⟩
  | setName id name => exact ⟨_, updateName_step h⟩
  | setValidUntil id vu => exact ⟨_, updateValidUntil_step h⟩
  | addSigner id x => exact ⟨_, addSigner_step h⟩
  | removeSigner id x => exact ⟨_, removeSigner_step hI h⟩
  | addPolicy id p io => exact ⟨_, addPolicy_step h⟩
  | removePolicy id p => exact ⟨_, removePolicy_step hI h⟩

end OZ.SmartAccount.Mon

namespace OZ.SmartAccount

variable {s s' : Store} {now : Nat}

theorem applyOp_inv {op : Op} (hI : Inv s) (h : applyOp s now op = .ok s') : Inv s' := by
  obtain ⟨g, hs⟩ := Mon.applyOp_step hI h
  exact hs.inv hI

theorem run_inv_of (hI : Inv s) (hist : List (Nat × Op)) : Inv (run s hist) := by
  induction hist generalizing s with
  | nil => exact hI
  | cons a rest ih =>
    obtain ⟨now, op⟩ := a
    unfold run
    cases h : applyOp s now op with
    | ok s' => exact ih (applyOp_inv hI h)
    | error e => exact ih hI

end OZ.SmartAccount
