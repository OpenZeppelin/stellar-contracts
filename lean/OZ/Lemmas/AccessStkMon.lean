import OZ.Lemmas.AccessStk
import OZ.Model.AccessStkMon
/-
For the soundness of the monitor of C06, machine `stk` (OZ/Props/C06StkMon.lean): the monitor's own decision `due`, and
the checks that are silent when a call is decided that way.
-/
namespace OZ.Access.Stk.Mon
open OZ.Access OZ.Access.Stk

theorem orElse_none {a : Option String} {b : Unit → Option String} (h : a = none) : orElse a b = b () := by
  subst h; rfl

theorem verdict_none {m : Mon} {auth : List Nat} {op : Op} {o : Obs} (h0 : vRollback m o = none)
    (h1 : vCall m auth op o = none) (h2 : vEffect m op o = none) : verdict m auth op o = none := by
  unfold verdict
  rw [orElse_none h0, orElse_none h1, h2]

theorem vRollback_none {m : Mon} {o : Obs} (h : o.ok = false → m.prev = none ∨ m.prev = some o.st) :
    vRollback m o = none := by
  unfold vRollback
  rw [if_neg]
  rintro ⟨h1, h2, h3⟩
  rcases h (by simpa using h1) with hp | hp
  · rw [hp] at h2; cases h2
  · exact h3 hp

/-- the monitor's own reading of "this call is accepted" -/
def due (m : Mon) (auth : List Nat) : Op → Bool
  | .call f a b => guardsHold m auth f a b
  | op => adminOpDue m auth op

theorem vCall_none {m : Mon} {auth : List Nat} {op : Op} {o : Obs} (h : o.ok = due m auth op) :
    vCall m auth op o = none := by
  cases op with
  | call f a b =>
    have hg : o.ok = true → f.guards.all (roleOk m a b) = true ∧ f.guards.all (authOk auth a b) = true :=
      fun hk => (Bool.and_eq_true ..).mp ((Bool.and_eq_true ..).mp (h.symm.trans hk)).1
    show vFn m auth f a b o = none
    unfold vFn
    rw [if_neg fun e => e.2 (hg e.1).1, if_neg fun e => e.2 (hg e.1).2, if_neg fun e => e.1 (h.trans e.2)]
  | grant a r =>
    show vAdmin m auth _ o = none
    unfold vAdmin
    rw [if_neg fun e => e.2 ((Bool.and_eq_true ..).mp (h.symm.trans e.1)).1, if_neg fun e => e.1 (h.trans e.2)]
  | revoke a r =>
    show vAdmin m auth _ o = none
    unfold vAdmin
    rw [if_neg fun e => e.2 ((Bool.and_eq_true ..).mp ((Bool.and_eq_true ..).mp (h.symm.trans e.1)).1).1,
      if_neg fun e => e.1 (h.trans e.2)]

theorem vEffect_none {m : Mon} {op : Op} {o : Obs}
    (h1 : o.st.counter = counterStep m op o.ok) (h2 : o.st.roles = tableOf (holdsStep m op o.ok))
    (h3 : o.ok = true → isCall op = true → o.ret = some o.st.counter) : vEffect m op o = none := by
  unfold vEffect
  rw [if_neg (fun h => h h1), if_neg (fun h => h h2), if_neg (fun h => h.2.2 (h3 h.1 h.2.1))]

theorem stepM_some {s s' : St} {auth : List Nat} {op : Op} (h : s.apply auth op = .ok s') :
    stepM s auth op = (s', true) := by
  unfold stepM; rw [h]; rfl

theorem stepM_none {s : St} {auth : List Nat} {op : Op} {e : Err} (h : s.apply auth op = .error e) :
    stepM s auth op = (s, false) := by
  unfold stepM; rw [h]; rfl

theorem apply_effect {x s' : St} {auth : List Nat} {op : Op} (hs : x.apply auth op = .ok s') :
    s'.counter = counterF x.counter op ∧ s'.holds = holdsF x.holds op := by
  cases op with
  | call f a b => obtain ⟨-, -, -, e⟩ := call_iff.1 hs; rw [e]; exact ⟨rfl, rfl⟩
  | grant a r => obtain ⟨-, -, e⟩ := grant_iff.1 hs; rw [e]; exact ⟨rfl, rfl⟩
  | revoke a r => obtain ⟨-, -, -, e⟩ := revoke_iff.1 hs; rw [e]; exact ⟨rfl, rfl⟩

theorem guardOk_iff {m : Mon} {x : St} (hh : m.holds = x.holds) (auth : List Nat) (a b : Nat) (g : Guard) :
    (roleOk m a b g = true ∧ authOk auth a b g = true) ↔ g.Holds x auth a b := by
  unfold roleOk authOk Guard.Holds
  rw [hh, List.any_eq_true]
  cases g.needsAuth <;> simp

theorem guardsOk_iff {m : Mon} {x : St} (hh : m.holds = x.holds) (auth : List Nat) (a b : Nat)
    (gs : List Guard) :
    (gs.all (roleOk m a b) = true ∧ gs.all (authOk auth a b) = true) ↔ ∀ g ∈ gs, g.Holds x auth a b := by
  simp only [List.all_eq_true, ← guardOk_iff hh auth a b]
  exact ⟨fun h g hg => ⟨h.1 g hg, h.2 g hg⟩, fun h => ⟨fun g hg => (h g hg).1, fun g hg => (h g hg).2⟩⟩

end OZ.Access.Stk.Mon
