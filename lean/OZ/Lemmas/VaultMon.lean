import OZ.Lemmas.Vault
import OZ.Lemmas.FungibleMon
import OZ.Model.VaultMon
/-
For the monitor-soundness theorem of C05 (OZ/Props/C05Mon.lean): the property's conversion formula
`specConv`, the printed lists and the list-level event replay against the model's, and each check that
applies to every line (`generic`), to a `query` line and to token / ledger lines silent under its
plain-worded condition.
-/
namespace OZ.Vault.Mon
open OZ.Host OZ.Vault
open OZ.FungibleMon (allowList orElse_none orElse_both)

/-! ### the property's formula against the model's conversions -/

/-- both sides are the least `k` with `n ≤ k·d` -/
theorem ceil_eq_div (n d : Int) (hd : 0 < d) : OZ.MulDiv.Int.cdiv n d = (n + d - 1) / d :=
  eq_of_forall_ge_iff fun k => by
    rw [OZ.MulDiv.cdiv_le_iff hd, ← Int.lt_add_one_iff (a := _ / d), Int.ediv_lt_iff_lt_mul hd, Int.add_mul,
      Int.one_mul]
    omega

def rdOf (up : Bool) : Rounding := if up then .ceil else .floor

theorem exactQ_rdOf (up : Bool) (x y d : Int) (hd : 0 < d) :
    OZ.MulDiv.exactQ (rdOf up) x y d = if up then (x * y + d - 1) / d else x * y / d := by
  cases up
  · simp only [rdOf, OZ.MulDiv.exactQ]; exact Int.fdiv_eq_ediv_of_nonneg _ (Int.le_of_lt hd)
  · simp only [rdOf, OZ.MulDiv.exactQ]; exact ceil_eq_div _ _ hd

theorem toOpt_rounded (up : Bool) (x y d : Int) (hx : 0 ≤ x) (hy : 0 ≤ y) (hd : 0 < d) :
    toOpt (roundedOrOverflow (rdOf up) x y d) =
      if (if up then (x * y + d - 1) / d else x * y / d) > I128MAX then none
      else some (if up then (x * y + d - 1) / d else x * y / d) := by
  have h0 := exactQ_nonneg (rdOf up) x y d hx hy hd (by cases up <;> simp [rdOf])
  rw [← exactQ_rdOf up x y d hd]
  unfold roundedOrOverflow
  by_cases hq : OZ.MulDiv.exactQ (rdOf up) x y d > I128MAX
  · rw [if_pos hq, if_neg]
    · rfl
    · unfold OZ.MulDiv.in128 OZ.MulDiv.I128_MAX; unfold I128MAX at hq; omega
  · rw [if_neg hq, if_pos]
    · rfl
    · unfold OZ.MulDiv.in128 OZ.MulDiv.I128_MAX OZ.MulDiv.I128_MIN; unfold I128MAX at hq; omega

/-- the common shape of `convertToShares_eq` and `convertToAssets_eq` against the property's formula -/
theorem cascade_spec (e : Err) (x y d : Int) (up : Bool) (hy : 0 ≤ y) (hd : 0 < d) :
    toOpt (if x < 0 then .error e
      else if x = 0 then .ok 0
      else if ¬ OZ.MulDiv.in128 y ∨ ¬ OZ.MulDiv.in128 d then .error .mathOverflow
      else roundedOrOverflow (rdOf up) x y d) = specConv x y d up := by
  unfold specConv
  by_cases h1 : x < 0
  · rw [if_pos h1, if_pos h1]; rfl
  rw [if_neg h1, if_neg h1]
  by_cases h2 : x = 0
  · rw [if_pos h2, if_pos h2]; rfl
  rw [if_neg h2, if_neg h2]
  by_cases h3 : ¬ OZ.MulDiv.in128 y ∨ ¬ OZ.MulDiv.in128 d
  · rw [if_pos h3, if_pos]
    · rfl
    · unfold OZ.MulDiv.in128 OZ.MulDiv.I128_MAX OZ.MulDiv.I128_MIN at h3; unfold I128MAX; omega
  · rw [if_neg h3, if_neg]
    · exact toOpt_rounded up x _ _ (by omega) hy hd
    · unfold OZ.MulDiv.in128 OZ.MulDiv.I128_MAX OZ.MulDiv.I128_MIN at h3; unfold I128MAX; omega

/-- a conversion assets → shares, successful or failed, is what the property's formula says -/
theorem convertToShares_spec {U : List Nat} {s : State} (hw : WF U s) (x : Int) (hx : OZ.MulDiv.in128 x)
    (up : Bool) :
    toOpt (convertToShares s x (rdOf up)) =
      specConv x (totalShares s + 10 ^ s.offset) (totalAssets s + 1) up := by
  obtain ⟨hA, hS, hV⟩ := wf_pos hw
  rw [convertToShares_eq s x _ hx hw.off hA]
  exact cascade_spec _ x _ _ up (by omega) (by omega)

/-- a conversion shares → assets, successful or failed, is what the property's formula says -/
theorem convertToAssets_spec {U : List Nat} {s : State} (hw : WF U s) (x : Int) (hx : OZ.MulDiv.in128 x)
    (up : Bool) :
    toOpt (convertToAssets s x (rdOf up)) =
      specConv x (totalAssets s + 1) (totalShares s + 10 ^ s.offset) up := by
  obtain ⟨hA, hS, hV⟩ := wf_pos hw
  rw [convertToAssets_eq s x _ hx hw.off hS]
  exact cascade_spec _ x _ _ up (by omega) (by omega)

/-! ### the printed lists -/

theorem allowOf_allowList {n : Nat} (t : Tok) {x y : Nat} (hx : x < n) (hy : y < n) :
    allowOf (allowList n t) x y = OZ.Fungible.allowance t x y :=
  OZ.FungibleMon.lookup_allowList rfl hx hy

theorem allowMoved_of {pre post : List (Nat × Nat × Int)} {chg : Option (Nat × Nat × Int)}
    (h : ∀ o sp, o < N → sp < N → allowOf post o sp = allowExp pre chg o sp) :
    allowMoved pre post chg = true := by
  unfold allowMoved
  rw [List.all_eq_true]
  intro o ho
  rw [List.all_eq_true]
  intro sp hsp
  rw [beq_iff_eq]
  exact h o sp (List.mem_range.mp ho) (List.mem_range.mp hsp)

theorem allowMoved_same {t t' : Tok}
    (h : ∀ x y, OZ.Fungible.allowance t' x y = OZ.Fungible.allowance t x y) :
    allowMoved (allowList N t) (allowList N t') none = true := by
  apply allowMoved_of
  intro o sp ho hsp
  rw [allowOf_allowList t' ho hsp]
  show _ = allowOf (allowList N t) o sp
  rw [allowOf_allowList t ho hsp, h]

theorem allowMoved_spend {t t' : Tok} {ow sp : Nat} {d : Int}
    (hne : sp ≠ ow → OZ.Fungible.allowance t' ow sp = OZ.Fungible.allowance t ow sp - d)
    (hoth : ∀ x y, ¬ (x = ow ∧ y = sp ∧ sp ≠ ow) →
      OZ.Fungible.allowance t' x y = OZ.Fungible.allowance t x y) :
    allowMoved (allowList N t) (allowList N t') (if sp ≠ ow then some (ow, sp, d) else none) = true := by
  apply allowMoved_of
  intro x y hx hy
  rw [allowOf_allowList t' hx hy]
  by_cases hso : sp ≠ ow
  · rw [if_pos hso]
    show _ = if x = ow ∧ y = sp then allowOf (allowList N t) x y - d else allowOf (allowList N t) x y
    rw [allowOf_allowList t hx hy]
    by_cases hxy : x = ow ∧ y = sp
    · rw [if_pos hxy, hxy.1, hxy.2]; exact hne hso
    · rw [if_neg hxy]; exact hoth x y (fun e => hxy ⟨e.1, e.2.1⟩)
  · rw [if_neg hso]
    show _ = allowOf (allowList N t) x y
    rw [allowOf_allowList t hx hy]
    exact hoth x y (fun e => hso e.2.2)

/-! ### "the observation shows the state" -/

/-- the state part of an observation line is the printed form of the model state `s` -/
structure Shown (p : Obs) (s : State) : Prop where
  A : p.A = totalAssets s
  S : p.S = totalShares s
  sb : p.sb = (List.range N).map s.sh.bal
  ab : p.ab = (List.range N).map s.ast.bal
  asup : p.asup = s.ast.supply
  sal : p.sal = allowList N s.sh
  aal : p.aal = allowList N s.ast

theorem stateObs_shown (s : State) (ok : Bool) (ret : Option Int) (evs : List Ev) (dem : List Nat) (q : QA) :
    Shown (stateObs s ok ret evs dem q) s := ⟨rfl, rfl, rfl, rfl, rfl, rfl, rfl⟩

theorem sameState_of {p o : Obs} {s s' : State} (hp : Shown p s) (ho : Shown o s')
    (h1 : totalAssets s' = totalAssets s) (h2 : totalShares s' = totalShares s) (h3 : s'.sh.bal = s.sh.bal)
    (h4 : s'.ast.bal = s.ast.bal) (h5 : s'.ast.supply = s.ast.supply) : sameState p o = true := by
  unfold sameState
  rw [decide_eq_true_eq]
  exact ⟨by rw [hp.A, ho.A, h1], by rw [hp.S, ho.S, h2], by rw [hp.sb, ho.sb, h3], by rw [hp.ab, ho.ab, h4],
    by rw [hp.asup, ho.asup, h5]⟩

theorem sameState_of_shown {p o : Obs} {s : State} (hp : Shown p s) (ho : Shown o s) : sameState p o = true :=
  sameState_of hp ho rfl rfl rfl rfl rfl

/-- what is known of every reachable model state of a harness sequence: well-formed over the
observed universe `0..4`, the vault is address 4, the event log replays to the share balances -/
structure Good (s : State) : Prop where
  wf : WF (List.range N) s
  vault : s.vault = VAULT
  replay : replay s.events = s.sh.bal

/-! ### the list-level event replay -/

theorem replayEv_evOf (b : Nat → Int) (ev : Event) :
    (match evOf ev with | some e => replayEv ((List.range N).map b) e | none => (List.range N).map b) =
      (List.range N).map (replayEvent b ev) := by
  cases ev with
  | deposit o f r a sh =>
    simp only [evOf, replayEv, replayEvent, OZ.FungibleMon.addAt_map]
  | withdraw o r ow a sh =>
    simp only [evOf, replayEv, replayEvent, OZ.FungibleMon.addAt_map, Int.sub_eq_add_neg]
  | token tev =>
    cases tev with
    | mint t a => simp only [evOf, replayEv, replayEvent, OZ.Fungible.replayEvent, OZ.FungibleMon.addAt_map]
    | burn f a =>
      simp only [evOf, replayEv, replayEvent, OZ.Fungible.replayEvent, OZ.FungibleMon.addAt_map, Int.sub_eq_add_neg]
    | transfer f t a =>
      simp only [evOf, replayEv, replayEvent, OZ.Fungible.replayEvent, OZ.FungibleMon.addAt_map, Int.sub_eq_add_neg]
    | approve _ _ _ _ => rfl

theorem foldl_replayEv_filterMap (evs : List Event) (b : Nat → Int) :
    (evs.filterMap evOf).foldl replayEv ((List.range N).map b) = (List.range N).map (evs.foldl replayEvent b) := by
  rw [List.foldl_filterMap]
  exact List.foldl_hom (fun b => (List.range N).map b) fun b ev => by rw [← replayEv_evOf]; cases evOf ev <;> rfl

theorem replay_step {s s' : State} {evs : List Event} (he : s'.events = s.events ++ evs)
    (hb : evs.foldl replayEvent s.sh.bal = s'.sh.bal) :
    ((s'.events.drop s.events.length).filterMap evOf).foldl replayEv ((List.range N).map s.sh.bal) =
      (List.range N).map s'.sh.bal := by
  rw [foldl_replayEv_filterMap, he, List.drop_left, hb]

/-! ### the checks of every line -/

theorem vSum_none {o : Obs} (h : o.sb.sum = o.S) : vSum o = none := by
  unfold vSum; rw [if_neg (by rw [h]; exact fun hne => hne rfl)]

theorem vNegative_none {o : Obs} (h : o.sb.any (· < 0) = false) : vNegative o = none := by
  unfold vNegative; rw [if_neg (by rw [h]; exact Bool.false_ne_true)]

theorem vRollback_none {prev o : Obs}
    (h : o.ok = false → sameState prev o = true ∧ allowMoved prev.sal o.sal none = true ∧
      allowMoved prev.aal o.aal none = true) : vRollback prev o = none := by
  unfold vRollback
  rw [if_neg]
  rintro ⟨h1, h2⟩
  exact h2 (h (by simpa using h1))

theorem vReplay_none {r : List Int} {o : Obs} (h : r = o.sb) : vReplay r o = none := by
  unfold vReplay; rw [if_neg (by rw [h]; exact fun hne => hne rfl)]

theorem vTotalAssets_none {o : Obs} (h : o.A = o.ab.getD VAULT 0) : vTotalAssets o = none := by
  unfold vTotalAssets; rw [if_neg (by rw [← h]; exact fun hne => hne rfl)]

theorem vRate_none {V : Int} {prev o : Obs}
    (h : o.ok = true → (prev.A + 1) * (o.S + V) ≤ (o.A + 1) * (prev.S + V)) : vRate V prev o = none := by
  unfold vRate
  rw [if_neg]
  rintro ⟨h1, h2⟩
  have := h h1
  omega

theorem generic_none {prev : Obs} {V : Int} {r : List Int} {o : Obs}
    (h1 : vSum o = none) (h2 : vNegative o = none) (h3 : vRollback prev o = none) (h4 : vReplay r o = none)
    (h5 : vTotalAssets o = none) (h6 : vRate V prev o = none) : generic prev V r o = none := by
  unfold generic
  rw [orElse_none h1, orElse_none h2, orElse_none h3, orElse_none h4, orElse_none h5]
  exact h6

theorem totalAssets_getD {s : State} (hv : s.vault = VAULT) :
    totalAssets s = ((List.range N).map s.ast.bal).getD VAULT 0 := by
  rw [getD_map_range _ 0 (by decide : VAULT < N)]
  unfold totalAssets; rw [hv]

/-- only the rollback check and the rate check depend on the previous observation -/
theorem generic_shown {prev : Obs} {V : Int} {r : List Int} {o : Obs} {s' : State} (hg : Good s')
    (ho : Shown o s') (hr : r = (List.range N).map s'.sh.bal) (h3 : vRollback prev o = none)
    (h6 : vRate V prev o = none) : generic prev V r o = none := by
  apply generic_none _ _ h3 _ _ h6
  · apply vSum_none; rw [ho.sb, ho.S]; exact hg.wf.sh.sum
  · apply vNegative_none; rw [ho.sb]; exact OZ.FungibleMon.balList_nonneg hg.wf.sh.nonneg
  · apply vReplay_none; rw [ho.sb]; exact hr
  · apply vTotalAssets_none; rw [ho.A, ho.ab]; exact totalAssets_getD hg.vault

/-! ### a `query` line -/

theorem qCheck_none {k : String} {got w : Option Int} {V x : Int} {o : Obs} (h : got = w) :
    qCheck k (some got) w V x o = none := by
  unfold qCheck
  simp only
  rw [if_pos h]

theorem sb_getD {s : State} (hw : WF (List.range N) s) (who : Nat) :
    ((List.range N).map s.sh.bal).getD who 0 = s.sh.bal who := by
  by_cases h : who < N
  · exact getD_map_range _ 0 h
  · rw [hw.sh.outside who (fun hm => h (List.mem_range.mp hm))]
    simp [List.getD, h]

theorem checkQuery_none {s : State} (hg : Good s) {o : Obs} (ho : Shown o s) (x : Int) (who : Nat)
    (hx : OZ.MulDiv.in128 x) (hq : o.q = answers s x who) :
    checkQuery (10 ^ s.offset) x who o = none := by
  have hw := hg.wf
  have hb : o.sb.getD who 0 = s.sh.bal who := by rw [ho.sb]; exact sb_getD hw who
  have hbin : OZ.MulDiv.in128 (s.sh.bal who) :=
    shares_in128 List.nodup_range hw (hw.sh.nonneg who) (Int.le_refl _)
  unfold checkQuery
  rw [hq, ho.S, ho.A, hb]
  -- each answer of `answers` is its conversion up to unfolding (`previewDeposit s x` is `convertToShares s x .floor`, …)
  exact orElse_both (qCheck_none (convertToShares_spec hw x hx false)) <|
    orElse_both (qCheck_none (convertToAssets_spec hw x hx true)) <|
    orElse_both (qCheck_none (convertToShares_spec hw x hx true)) <|
    orElse_both (qCheck_none (convertToAssets_spec hw x hx false)) <|
    orElse_both (qCheck_none (convertToShares_spec hw x hx false)) <|
    orElse_both (qCheck_none (convertToAssets_spec hw x hx false)) <|
    orElse_both (qCheck_none (convertToAssets_spec hw (s.sh.bal who) hbin false)) <|
    orElse_both (qCheck_none rfl) <| orElse_both (qCheck_none rfl) (qCheck_none rfl)

theorem vQuery_none {s : State} (hg : Good s) {prev o : Obs} (hp : Shown prev s) (ho : Shown o s) (x : Int)
    (who : Nat) (hx : OZ.MulDiv.in128 x) (hq : o.q = answers s x who) :
    vQuery (10 ^ s.offset) x who prev o = none := by
  unfold vQuery
  rw [if_neg (by rw [sameState_of_shown hp ho]; exact fun h => h rfl)]
  exact checkQuery_none hg ho x who hx hq

/-! ### ledger movement and token lines -/

theorem vAdvance_none {prev o : Obs} (h : sameState prev o = true) : vAdvance prev o = none := by
  unfold vAdvance; rw [if_pos h]

theorem vShareTok_none {name : String} {prev o : Obs} (h1 : o.S = prev.S) (h2 : o.ab = prev.ab)
    (h3 : o.A = prev.A) : vShareTok name prev o = none := by
  unfold vShareTok
  rw [if_neg]
  rintro (h | h | h)
  · exact h h1
  · exact h h2
  · exact h h3

theorem vAssetTok_none {name : String} {prev o : Obs} (h1 : o.S = prev.S) (h2 : o.sb = prev.sb) :
    vAssetTok name prev o = none := by
  unfold vAssetTok
  rw [if_neg]
  rintro (h | h)
  · exact h h1
  · exact h h2

end OZ.Vault.Mon
