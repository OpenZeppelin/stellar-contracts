import OZ.Lemmas.Identity
import OZ.Lemmas.ClaimIssuer
/-
Histories for C15: operation histories of one claim issuer, executable histories of the whole
stack (for concrete witnesses), the assumption on the signature oracle, example worlds.
-/
namespace OZ.ClaimIssuer
open OZ.Host OZ.Identity

/-- assumption on the signature oracle ("cryptography assumed"): signature bytes that verify under
a key verify for ONE message only (ideal, unforgeable signatures over an injective encoding) -/
def Binding {σ : Type} (V : Verifier σ) : Prop :=
  ∀ scheme pk m m' sig, V scheme pk m sig = true → V scheme pk m' sig = true → m = m'

/-- the state-changing entry points of a claim issuer built from the library helpers; `allow`
carries the storage of the registry contract it consults, as it is at that moment -/
inductive KeyOp where
  | allow (reg : Option Reg) (self pk registry scheme topic : Nat)
  | remove (pk registry scheme topic : Nat)
  | invalidate (identity topic : Nat)
  | revoke (identity topic : Nat) (data : List Nat) (revoked : Bool)

def KeyOp.apply (s : Issuer) : KeyOp → Except Err Issuer
  | .allow reg self pk registry scheme topic => allowKey s reg self pk registry scheme topic
  | .remove pk registry scheme topic => removeKey s pk registry scheme topic
  | .invalidate d t => invalidateClaimSignatures s d t
  | .revoke d t data b => .ok (setClaimRevoked s d t data b)

def issuerStep (s : Issuer) (op : KeyOp) : Issuer :=
  match op.apply s with
  | .ok s' => s'
  | .error _ => s

def issuerReplay (ops : List KeyOp) : Issuer := ops.foldl issuerStep Issuer.empty

theorem inv_keyOp {s s' : Issuer} (op : KeyOp) (h : s.Inv) (e : op.apply s = .ok s') : s'.Inv := by
  cases op with
  | allow reg self pk registry scheme topic => exact inv_allowKey h e
  | remove pk registry scheme topic => exact inv_removeKey h e
  | invalidate d t => exact inv_invalidate h e
  | revoke d t data b =>
    simp only [KeyOp.apply] at e
    injection e with e; subst e; exact inv_setClaimRevoked h

theorem inv_issuerStep {s : Issuer} (op : KeyOp) (h : s.Inv) : (issuerStep s op).Inv := by
  unfold issuerStep
  cases e : op.apply s with
  | ok s' => exact inv_keyOp op h e
  | error _ => exact h

theorem inv_issuerReplay (ops : List KeyOp) : (issuerReplay ops).Inv :=
  OZ.Lists.foldl_inv (fun _ op h => inv_issuerStep op h) ops _ inv_empty

end OZ.ClaimIssuer

namespace OZ.Identity
open OZ.Host OZ.ClaimIssuer

variable {σ : Type}

/-- one operation with the host's rollback -/
def stepW (V : Verifier σ) (W : World σ) (op : Op σ) : World σ :=
  match applyOp V W op with
  | .ok W' => W'
  | .error _ => W

def runOps (V : Verifier σ) (W : World σ) (ops : List (Op σ)) : World σ := ops.foldl (stepW V) W

def Op.isRemoveClaim : Op σ → Bool
  | .removeClaim _ _ _ => true
  | _ => false

theorem safe_of_not_remove {W : World σ} {op : Op σ} (h : op.isRemoveClaim = false) : op.safe W := by
  cases op <;> first | trivial | (simp [Op.isRemoveClaim] at h)

theorem reach_runOps (V : Verifier σ) (W0 : World σ) (ops : List (Op σ)) {W : World σ} (h : Reach V W0 W)
    (hs : ∀ op ∈ ops, op.isRemoveClaim = false) : Reach V W0 (runOps V W ops) := by
  refine OZ.Lists.foldl_keeps (P := Reach V W0) (fun W op h hq => ?_) ops W h hs
  unfold stepW
  cases e : applyOp V W op with
  | ok W' => exact Reach.step op h (safe_of_not_remove hq) e
  | error _ => exact h

/-! ### example worlds (ideal signatures: the signature bytes ARE the signed tuple) -/

def idealV : Verifier Msg := fun _ _ m sig => decide (sig = m)

theorem idealV_binding : Binding idealV := by
  intro scheme pk m m' sig h1 h2
  simp only [idealV, decide_eq_true_eq] at h1 h2
  rw [← h1, ← h2]

/-- registries at 0 and 1, issuers at 4 and 5, identity contracts at 8 and 9, everything empty -/
def freshWorld (τ : Type) : World τ :=
  { env := { network := 0, timestamp := 5 },
    regs := fun a => if a = 0 ∨ a = 1 then some Reg.empty else none,
    irs := Irs.empty,
    ids := fun a => if a = 8 ∨ a = 9 then some IdStore.empty else none,
    issuers := fun a => if a = 4 ∨ a = 5 then some Issuer.empty else none,
    vCti := none, vIrs := false }

theorem freshWorld_fresh (τ : Type) : (freshWorld τ).Fresh := by
  constructor
  · intro ra r h
    simp only [freshWorld] at h
    split at h
    · injection h with h; exact h.symm
    · cases h
  · intro d st h
    simp only [freshWorld] at h
    split at h
    · injection h with h; exact h.symm
    · cases h

/-- claim data: created_at = 0, valid_until = 9 -/
def exData : List Nat := [0, 0, 0, 0, 0, 0, 0, 0, 0, 0, 0, 0, 0, 0, 0, 9]

/-- issuer 4's claim about identity 8 for topic 1, signed (nonce 0) with key 1, Ed25519 -/
def exClaim : Claim Msg :=
  { topic := 1, scheme := 101, issuer := 4,
    sig := { len := 96, pk := 1,
             sig := { network := 0, issuer := 4, identity := 8, topic := 1, nonce := 0, data := exData } },
    data := exData }

/-- account 11 ↦ identity 8; topic 1 required, issuer 4 trusted for it and allowing key 1; the
identity holds issuer 4's claim -/
def exOps : List (Op Msg) :=
  [ .setIrs, .setCti 0, .reg 0 (.addTopic 1), .reg 0 (.addIssuer 4 [1]), .allowKey 4 1 101 0 1,
    .irsAdd 11 8, .addClaim 8 exClaim ]

def exWorld : World Msg := runOps idealV (freshWorld Msg) exOps

/-- the history of DESIGN.md §8-4: topic 7 required, nobody trusted for it, identity 8 holds nothing -/
def cexOps : List (Op Unit) := [ .setIrs, .setCti 0, .irsAdd 11 8, .reg 0 (.addTopic 7) ]

def noV : Verifier Unit := fun _ _ _ _ => false

def cexWorld : World Unit := runOps noV (freshWorld Unit) cexOps

end OZ.Identity
