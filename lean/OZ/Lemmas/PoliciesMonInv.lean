import OZ.Lemmas.PoliciesMon
import OZ.Props.C14
/-
C14 monitor soundness, the invariant `Inv` that links a reachable model state with the monitor's
ghost log of accepted spends, for EVERY start ledger (also ledger 0, where the saturating cutoff
evicts an entry of ledger 0 at once: such entries are `Gone` for good and the monitor's window sum
does not count them). `DOK` / `KOK` / `SInv` are `Spend.DInv` / `Spend.KRel` / `Spend.GInv` of
OZ/Lemmas/Policies.lean without the assumption ledger ≥ 1.
-/
namespace OZ.Policies.Mon
open OZ.Host OZ.Policies

def proj (e : Spent) : Spend.Entry := ⟨e.amount, e.ledger⟩

def logOf (log : List Spent) (a r : Nat) : List Spend.Entry := (log.filter (fun e => e.a = a ∧ e.r = r)).map proj

theorem logOf_nil (a r : Nat) : logOf [] a r = [] := rfl

theorem logOf_cons_same (e : Spent) (log : List Spent) : logOf (e :: log) e.a e.r = proj e :: logOf log e.a e.r := by
  unfold logOf
  rw [List.filter_cons, if_pos (by simp)]
  rfl

theorem logOf_cons_other (e : Spent) (log : List Spent) (a r : Nat) (h : ¬ (a = e.a ∧ r = e.r)) :
    logOf (e :: log) a r = logOf log a r := by
  unfold logOf
  rw [List.filter_cons, if_neg (by simp only [decide_eq_true_eq]; intro hh; exact h ⟨hh.1.symm, hh.2.symm⟩)]

theorem logOf_forget_same (log : List Spent) (a r : Nat) :
    logOf (log.filter (fun e => ¬ (e.a = a ∧ e.r = r))) a r = [] := by
  unfold logOf
  rw [List.filter_filter]
  have : (log.filter (fun e => (decide (e.a = a ∧ e.r = r)) && (decide ¬ (e.a = a ∧ e.r = r)))) = [] := by
    rw [List.filter_eq_nil_iff]
    intro e _
    by_cases h : e.a = a ∧ e.r = r <;> simp [h]
  rw [this]; rfl

theorem logOf_forget_other (log : List Spent) (a r a' r' : Nat) (h : ¬ (a' = a ∧ r' = r)) :
    logOf (log.filter (fun e => ¬ (e.a = a ∧ e.r = r))) a' r' = logOf log a' r' := by
  unfold logOf
  rw [List.filter_filter]
  congr 1
  apply List.filter_congr
  intro e _
  by_cases h1 : e.a = a' ∧ e.r = r'
  · have : ¬ (e.a = a ∧ e.r = r) := fun hh => h ⟨h1.1.symm.trans hh.1, h1.2.symm.trans hh.2⟩
    rw [decide_eq_true h1, decide_eq_true this]; rfl
  · rw [decide_eq_false h1]; rfl

/-! ### the window sum in the monitor's wording -/

def inWin1 (L P : Nat) (e : Spend.Entry) : Bool := decide (1 ≤ e.ledger ∧ L < e.ledger + P)

def winE (l : List Spend.Entry) (L P : Nat) : Int := Spend.isum (l.filter (inWin1 L P))

theorem windowSum_eq (log : List Spent) (e : Spent) :
    windowSum log e = winE (logOf log e.a e.r) e.ledger e.period := by
  unfold windowSum winE logOf Spend.isum
  rw [isum_eq_sum, List.filter_map, List.filter_filter, List.map_map]
  congr 2
  apply List.filter_congr
  intro x _
  rw [Bool.eq_iff_iff]
  simp only [inWin1, proj, Function.comp_apply, Bool.and_eq_true, decide_eq_true_eq]
  exact ⟨fun ⟨a, b, c⟩ => ⟨decide_eq_true c, a, b⟩, fun ⟨c, a, b⟩ => ⟨a, b, of_decide_eq_true c⟩⟩

/-! ### invariant of one installation and of its ghost log -/

structure DOK (now : Nat) (d : Spend.Data) : Prop where
  cached : d.cached = Spend.isum d.history
  sorted : Spend.Sorted d.history
  le_now : ∀ e ∈ d.history, e.ledger ≤ now
  bound : d.history.length ≤ Spend.MAX_HISTORY_ENTRIES
  limit_pos : 0 < d.limit
  period_pos : 0 < d.period

/-- an evicted entry never counts again: it left the window, or it was made at ledger 0 -/
def Gone (now P : Nat) (e : Spend.Entry) : Prop := e.ledger + P ≤ now ∨ e.ledger = 0

def KOK (now : Nat) : Option Spend.Data → List Spend.Entry → Prop
  | none, l => l = []
  | some d, l => DOK now d ∧ ∃ old, l = d.history.reverse ++ old ∧ ∀ e ∈ old, Gone now d.period e

theorem inWin1_of_gone {now P : Nat} {e : Spend.Entry} (h : Gone now P e) : inWin1 now P e = false :=
  decide_eq_false fun ⟨h1, h2⟩ =>
    h.elim (fun hg => Nat.not_lt.mpr hg h2) (fun h0 => Nat.ne_of_gt h1 h0)

theorem DOK.mono {now now' : Nat} {d : Spend.Data} (h : DOK now d) (hn : now ≤ now') : DOK now' d :=
  ⟨h.cached, h.sorted, fun e he => Nat.le_trans (h.le_now e he) hn, h.bound, h.limit_pos, h.period_pos⟩

theorem KOK.mono {now now' : Nat} {od : Option Spend.Data} {l : List Spend.Entry} (h : KOK now od l)
    (hn : now ≤ now') : KOK now' od l := by
  cases od with
  | none => exact h
  | some d =>
    obtain ⟨h0, old, h1, h2⟩ := h
    refine ⟨h0.mono hn, old, h1, ?_⟩
    intro e he
    rcases h2 e he with h | h
    · exact .inl (Nat.le_trans h hn)
    · exact .inr h

theorem enforce_kok {now : Nat} {d : Spend.Data} {l : List Spend.Entry} {amt : Int} {h' : List Spend.Entry} {r : Int}
    (hk : KOK now (some d) l)
    (hc : Spend.cleanup (now - d.period) d.history 0 = .ok (h', r))
    (hlim : d.cached - r + amt ≤ d.limit) (hlen : h'.length < Spend.MAX_HISTORY_ENTRIES) :
    KOK now (some { d with history := h' ++ [⟨amt, now⟩], cached := d.cached - r + amt }) (⟨amt, now⟩ :: l) ∧
    (1 ≤ now → winE (⟨amt, now⟩ :: l) now d.period ≤ d.limit) := by
  obtain ⟨hd, old, rfl, ho2⟩ := hk
  have hper := hd.period_pos
  obtain ⟨_, hcach, hsorted, hle, hbound, hlog, hsum⟩ :=
    Spend.enforce_push (p := inWin1 now d.period) amt hd.cached hd.sorted hd.le_now hc hlen ho2
      (fun e _ h1 => by unfold Gone; omega) (fun _ => inWin1_of_gone) (fun e he => decide_eq_true (by omega))
  exact ⟨⟨⟨hcach, hsorted, hle, hbound, hd.limit_pos, hd.period_pos⟩, hlog⟩, fun hnow =>
    Int.le_trans (Int.le_of_eq (hsum (decide_eq_true ⟨hnow, Nat.lt_add_of_pos_right hper⟩))) hlim⟩

def SInv (l : Spend.State) (log : List Spent) : Prop := ∀ a r, KOK l.now (l.store a r) (logOf log a r)

theorem SInv.upd {l : Spend.State} {log log' : List Spent} (hi : SInv l log) (a r : Nat) {od : Option Spend.Data}
    (ev : List Spend.Event) (hother : ∀ x y, ¬ (x = a ∧ y = r) → logOf log' x y = logOf log x y)
    (hk : KOK l.now od (logOf log' a r)) :
    SInv { l with store := upd2 l.store a r od, events := ev } log' :=
  upd2_forall (Q := fun x y o => KOK l.now o (logOf log' x y)) (fun x y h => by rw [hother x y h]; exact hi x y) hk

theorem sinv_install {l l' : Spend.State} {log : List Spent} {auth : List Nat} {lim : Int} {per : Nat}
    {rule : Rule} {acct : Nat} (hi : SInv l log) (h : Spend.install l auth lim per rule acct = .ok l') :
    SInv l' log ∧ l'.now = l.now := by
  obtain ⟨_, hl, hp, hnone, rfl⟩ := Spend.install_ok_iff.mp h
  have hnil : logOf log acct rule.id = [] := by have := hi acct rule.id; rw [hnone] at this; exact this
  refine ⟨hi.upd acct rule.id l.events (fun _ _ _ => rfl) ?_, rfl⟩
  rw [hnil]
  exact ⟨⟨rfl, List.Pairwise.nil, fun _ h => (by cases h), Nat.zero_le _, hl, hp⟩, [], rfl, fun _ h => (by cases h)⟩

theorem sinv_setLimit {l l' : Spend.State} {log : List Spent} {auth : List Nat} {lim : Int}
    {rule : Rule} {acct : Nat} (hi : SInv l log) (h : Spend.setSpendingLimit l auth lim rule acct = .ok l') :
    SInv l' log ∧ l'.now = l.now := by
  obtain ⟨_, hl, d, hd, rfl⟩ := Spend.setLimit_ok_iff.mp h
  have := hi acct rule.id
  rw [hd] at this
  obtain ⟨h0, old, h1, h2⟩ := this
  exact ⟨hi.upd acct rule.id l.events (fun _ _ _ => rfl)
    ⟨⟨h0.cached, h0.sorted, h0.le_now, h0.bound, hl, h0.period_pos⟩, old, h1, h2⟩, rfl⟩

theorem sinv_uninstall {l l' : Spend.State} {log : List Spent} {auth : List Nat}
    {rule : Rule} {acct : Nat} (hi : SInv l log) (h : Spend.uninstall l auth rule acct = .ok l') :
    SInv l' (log.filter (fun e => ¬ (e.a = acct ∧ e.r = rule.id))) ∧ l'.now = l.now := by
  obtain ⟨_, rfl⟩ := Spend.uninstall_ok_iff.mp h
  exact ⟨hi.upd acct rule.id l.events (fun x y hk => logOf_forget_other _ _ _ _ _ hk) (logOf_forget_same _ _ _), rfl⟩

theorem sinv_enforce {l l' : Spend.State} {log : List Spent} {auth : List Nat} {ctx : Ctx} {sg : List Nat}
    {rule : Rule} {acct : Nat} (hi : SInv l log) (h : Spend.enforce l auth ctx sg rule acct = .ok l') :
    ∃ d amt, l.store acct rule.id = some d ∧ ctx = .transfer amt ∧ l'.now = l.now ∧
      SInv l' (⟨acct, rule.id, amt, l.now, d.limit, d.period⟩ :: log) ∧
      (1 ≤ l.now → winE (logOf (⟨acct, rule.id, amt, l.now, d.limit, d.period⟩ :: log) acct rule.id) l.now d.period
        ≤ d.limit) := by
  obtain ⟨_, _, d, amt, h', rr, hd, rfl, hc, _, _, hlim, hlen, rfl⟩ := Spend.enforce_ok h
  have hkey := enforce_kok (by have := hi acct rule.id; rw [hd] at this; exact this) hc hlim hlen
  have hsame := logOf_cons_same ⟨acct, rule.id, amt, l.now, d.limit, d.period⟩ log
  refine ⟨d, amt, hd, rfl, rfl, hi.upd acct rule.id _ (fun x y hk => logOf_cons_other _ _ _ _ hk) ?_, ?_⟩
  · rw [hsame]; exact hkey.1
  · rw [hsame]; exact hkey.2

theorem sinv_advance {l : Spend.State} {log : List Spent} (hi : SInv l log) (k : Nat) :
    SInv { l with now := l.now + k } log :=
  fun a r => (hi a r).mono (Nat.le_add_right _ _)

/-! ### the whole model state -/

structure Inv (m : M) (log : List Spent) : Prop where
  simple : ∀ a r t, m.s.thr a r = some t → 1 ≤ t
  weighted : Weighted.Inv m.w
  spend : SInv m.l log

theorem init_inv (start : Nat) : Inv (M.init start) [] :=
  ⟨fun a r t h => (by cases h), Weighted.init_inv, fun a r => rfl⟩

theorem advance_inv {m : M} {log : List Spent} (hi : Inv m log) (k : Nat) : Inv (advance m k) log :=
  ⟨hi.simple, hi.weighted, sinv_advance hi.spend k⟩

/-- well-formed call line: the key lies in the observed universe, and the three readings of the
context word agree (`t:<amt>` / `x:<amt>` / `s:<amt>` announce a transfer of `<amt>`, nothing else does; the
proofs use `transfer_iff` from right to left only) -/
structure Valid (p : POp) : Prop where
  a_lt : p.a < NA
  r_lt : p.r < NR
  transfer_iff : p.isTransfer = true ↔ ∃ amt, p.ctx = .transfer amt
  amount_eq : ∀ amt, p.ctx = .transfer amt → p.amount = amt

theorem liftS_ok {m m' : M} {r : Except Err Simple.State} (h : liftS m r = .ok m') :
    ∃ s', r = .ok s' ∧ m' = { m with s := s' } := by
  unfold liftS at h
  split at h
  · injection h with h; exact ⟨_, rfl, h.symm⟩
  · cases h

theorem liftW_ok {m m' : M} {r : Except Err Weighted.State} (h : liftW m r = .ok m') :
    ∃ s', r = .ok s' ∧ m' = { m with w := s' } := by
  unfold liftW at h
  split at h
  · injection h with h; exact ⟨_, rfl, h.symm⟩
  · cases h

theorem liftL_ok {m m' : M} {r : Except Err Spend.State} (h : liftL m r = .ok m') :
    ∃ s', r = .ok s' ∧ m' = { m with l := s' } := by
  unfold liftL at h
  split at h
  · injection h with h; exact ⟨_, rfl, h.symm⟩
  · cases h

/-- `applyM` reads the kind of the call line only through its value, so with the kind known it
reduces by computation -/
theorem applyM_of_kind {m : M} {p : POp} {k : Kind} (hk : p.kind = k) :
    applyM m p = applyM m { p with kind := k } := by
  subst hk
  rfl

abbrev AccFacts (k : Kind) (m : M) (p : POp) : Prop :=
  match k with
  | .sInstall => m.s.thr p.a p.r = none ∧ 1 ≤ p.thr ∧ p.thr ≤ p.rs.length
  | .sSet => 1 ≤ p.thr ∧ p.thr ≤ p.rs.length
  | .wInstall => m.w.par p.a p.r = none ∧ 1 ≤ p.thr ∧ p.thr ≤ Weighted.total (Weighted.mkMap p.w) ∧
      Weighted.total (Weighted.mkMap p.w) ≤ U32_MAX
  | .wSetThr => 1 ≤ p.thr ∧ ∃ q, m.w.par p.a p.r = some q ∧ p.thr ≤ Weighted.total q.weights
  | .lInstall => 0 < p.lim ∧ 0 < p.per ∧ m.l.store p.a p.r = none
  | .lSetLimit => 0 < p.lim
  | .lEnforce => p.sg.isEmpty = false ∧ ∃ d amt, m.l.store p.a p.r = some d ∧ p.ctx = .transfer amt
  | _ => True

theorem applyM_facts {m m' : M} {p : POp} (hc : p.kind.isCan = false) (h : applyM m p = .ok m') :
    p.a ∈ p.auth ∧ AccFacts p.kind m p := by
  obtain ⟨kind, a, r, rs, thr, w, sgn, wt, lim, per, ctxS, ctx, isTransfer, amount, sg, auth⟩ := p
  -- the cases come in the order of `Kind`: per policy install, set…, uninstall, enforce, and last `…Can` (no case)
  cases kind
  · obtain ⟨_, h, _⟩ := liftS_ok h
    obtain ⟨ha, hn, hv⟩ := Simple.install_ok_iff.mp h
    obtain ⟨h1, h2, _⟩ := Simple.validateAndSet_ok_iff.mp hv
    exact ⟨ha, hn, h1, h2⟩
  · obtain ⟨_, h, _⟩ := liftS_ok h
    obtain ⟨ha, hv⟩ := Simple.setThreshold_ok_iff.mp h
    obtain ⟨h1, h2, _⟩ := Simple.validateAndSet_ok_iff.mp hv
    exact ⟨ha, h1, h2⟩
  · obtain ⟨_, h, _⟩ := liftS_ok h
    exact ⟨(Simple.uninstall_ok_iff.mp h).1, trivial⟩
  · obtain ⟨_, h, _⟩ := liftS_ok h
    exact ⟨(Simple.enforce_ok_iff.mp h).1, trivial⟩
  · cases hc
  · obtain ⟨_, h, _⟩ := liftW_ok h
    obtain ⟨ha, hn, hv⟩ := Weighted.install_ok_iff.mp h
    obtain ⟨⟨h1, h2, h3⟩, _⟩ := Weighted.checkInstall_ok_iff.mp hv
    exact ⟨ha, hn, h1, h2, h3⟩
  · obtain ⟨_, h, _⟩ := liftW_ok h
    obtain ⟨ha, ht, q, hq, hs⟩ := Weighted.setThreshold_ok_iff.mp h
    exact ⟨ha, ht, q, hq, (Weighted.checkAndStore_ok_iff.mp hs).1⟩
  · obtain ⟨_, h, _⟩ := liftW_ok h
    exact ⟨(Weighted.setSignerWeight_ok_iff.mp h).1, trivial⟩
  · obtain ⟨_, h, _⟩ := liftW_ok h
    exact ⟨(Weighted.uninstall_ok_iff.mp h).1, trivial⟩
  · obtain ⟨_, h, _⟩ := liftW_ok h
    exact ⟨(Weighted.enforce_ok_iff.mp h).1, trivial⟩
  · cases hc
  · obtain ⟨_, h, _⟩ := liftL_ok h
    obtain ⟨ha, h1, h2, h3, _⟩ := Spend.install_ok_iff.mp h
    exact ⟨ha, h1, h2, h3⟩
  · obtain ⟨_, h, _⟩ := liftL_ok h
    obtain ⟨ha, h1, _⟩ := Spend.setLimit_ok_iff.mp h
    exact ⟨ha, h1⟩
  · obtain ⟨_, h, _⟩ := liftL_ok h
    exact ⟨(Spend.uninstall_ok_iff.mp h).1, trivial⟩
  · obtain ⟨_, h, _⟩ := liftL_ok h
    obtain ⟨ha, hsg, d, amt, _, _, hd, hctx, _⟩ := Spend.enforce_ok h
    exact ⟨ha, hsg, d, amt, hd, hctx⟩
  · cases hc

def sOp (p : POp) : Simple.Op :=
  match p.kind with
  | .sInstall => .install p.a (rule p) p.thr
  | .sSet => .setThreshold p.a (rule p) p.thr
  | .sUninstall => .uninstall p.a (rule p)
  | _ => .enforce p.a (rule p) p.ctx p.sg

def wOp (p : POp) : Weighted.Op :=
  match p.kind with
  | .wInstall => .install p.a (rule p) p.w p.thr
  | .wSetThr => .setThreshold p.a (rule p) p.thr
  | .wSetWeight => .setSignerWeight p.a (rule p) p.sgn p.wt
  | .wUninstall => .uninstall p.a (rule p)
  | _ => .enforce p.a (rule p) p.ctx p.sg

theorem applyM_simple {m : M} {p : POp} (hp : p.kind.pol = .s) (hc : p.kind.isCan = false) :
    applyM m p = liftS m (Simple.apply m.s p.auth (sOp p)) := by
  obtain ⟨kind, a, r, rs, thr, w, sgn, wt, lim, per, ctxS, ctx, isTransfer, amount, sg, auth⟩ := p
  cases kind <;> try cases hp
  all_goals first | rfl | cases hc

theorem applyM_weighted {m : M} {p : POp} (hp : p.kind.pol = .w) (hc : p.kind.isCan = false) :
    applyM m p = liftW m (Weighted.apply m.w p.auth (wOp p)) := by
  obtain ⟨kind, a, r, rs, thr, w, sgn, wt, lim, per, ctxS, ctx, isTransfer, amount, sg, auth⟩ := p
  cases kind <;> try cases hp
  all_goals first | rfl | cases hc

/-- the previous configuration of the key of a call, as the monitor reads it from the model's
previous observation -/
def lCfgM (m : M) (p : POp) : Option LObs := (m.l.store p.a p.r).map (toL (p.a, p.r))

theorem entryOf_none {ok : Bool} {p : POp} {now : Nat} {c : Option LObs} (h : p.kind ≠ .lEnforce) :
    entryOf ok p now c = none := by
  unfold entryOf; rw [if_neg (fun hh => h hh.2)]

theorem log2Of_id {ok : Bool} {p : POp} (lg : List Spent) (h : p.kind ≠ .lUninstall) : log2Of ok p lg = lg := by
  unfold log2Of; rw [if_neg (fun hh => h hh.2)]

theorem applyM_inv {m m' : M} {log : List Spent} {p : POp} (hi : Inv m log) (hv : Valid p)
    (hc : p.kind.isCan = false) (h : applyM m p = .ok m') :
    m'.l.now = m.l.now ∧
    Inv m' (log2Of true p (log1Of (entryOf true p m.l.now (lCfgM m p)) log)) ∧
    chkWindow (entryOf true p m.l.now (lCfgM m p)) (log2Of true p (log1Of (entryOf true p m.l.now (lCfgM m p)) log))
      = none := by
  cases hp : p.kind.pol with
  | s =>
    rw [applyM_simple hp hc] at h
    obtain ⟨s', hs, rfl⟩ := liftS_ok h
    rw [entryOf_none (fun e => by rw [e] at hp; cases hp), log2Of_id _ (fun e => by rw [e] at hp; cases hp)]
    exact ⟨rfl, ⟨Simple.simple_apply_pos hi.simple _ _ hs, hi.weighted, hi.spend⟩, rfl⟩
  | w =>
    rw [applyM_weighted hp hc] at h
    obtain ⟨s', hs, rfl⟩ := liftW_ok h
    rw [entryOf_none (fun e => by rw [e] at hp; cases hp), log2Of_id _ (fun e => by rw [e] at hp; cases hp)]
    exact ⟨rfl, ⟨hi.simple, Weighted.apply_inv hi.weighted _ _ hs, hi.spend⟩, rfl⟩
  | l =>
    cases hk : p.kind <;> rw [hk] at hp hc <;> try cases hp
    all_goals rw [applyM_of_kind hk] at h
    · obtain ⟨s', hs, rfl⟩ := liftL_ok h
      rw [entryOf_none (by rw [hk]; decide), log2Of_id _ (by rw [hk]; decide)]
      obtain ⟨h1, h2⟩ := sinv_install hi.spend hs
      exact ⟨h2, ⟨hi.simple, hi.weighted, h1⟩, rfl⟩
    · obtain ⟨s', hs, rfl⟩ := liftL_ok h
      rw [entryOf_none (by rw [hk]; decide), log2Of_id _ (by rw [hk]; decide)]
      obtain ⟨h1, h2⟩ := sinv_setLimit hi.spend hs
      exact ⟨h2, ⟨hi.simple, hi.weighted, h1⟩, rfl⟩
    · obtain ⟨s', hs, rfl⟩ := liftL_ok h
      have e2 : ∀ lg, log2Of true p lg = lg.filter (fun e => ¬ (e.a = p.a ∧ e.r = p.r)) := by
        intro lg; unfold log2Of; rw [if_pos ⟨rfl, hk⟩]
      rw [entryOf_none (by rw [hk]; decide), e2]
      obtain ⟨h1, h2⟩ := sinv_uninstall hi.spend hs
      exact ⟨h2, ⟨hi.simple, hi.weighted, h1⟩, rfl⟩
    · obtain ⟨s', hs, rfl⟩ := liftL_ok h
      obtain ⟨d, amt, hd, hctx, hnow, h1, h2⟩ := sinv_enforce hi.spend hs
      have hamt : p.amount = amt := hv.amount_eq amt hctx
      have hd' : m.l.store p.a p.r = some d := hd
      have e1 : entryOf true p m.l.now (lCfgM m p) = some ⟨p.a, p.r, amt, m.l.now, d.limit, d.period⟩ := by
        unfold entryOf lCfgM; rw [if_pos ⟨rfl, hk⟩, hd', hamt]; rfl
      rw [e1, log2Of_id _ (by rw [hk]; decide)]
      refine ⟨hnow, ⟨hi.simple, hi.weighted, h1⟩, ?_⟩
      unfold chkWindow
      simp only [log1Of]
      refine if_neg ?_
      rintro ⟨hge, hgt⟩
      rw [windowSum_eq] at hgt
      exact absurd hgt (Int.not_lt.mpr (h2 hge))
    · cases hc

end OZ.Policies.Mon
