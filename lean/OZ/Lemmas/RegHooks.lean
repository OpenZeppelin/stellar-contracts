import OZ.Model.RegHooks
import OZ.Lemmas.RegStep
/-
The compliance hook module lists (C20).
-/
namespace OZ.RegHooks
open OZ.Reg

structure Inv (s : State) : Prop where
  nodup : ∀ h, (s.modules h).Nodup
  le : ∀ h, (s.modules h).length ≤ MAX_MODULES

theorem inv_init : Inv init := by constructor <;> intro h <;> simp [init]

theorem addModuleTo_ok_iff (s s' : State) (h m : Nat) :
    addModuleTo s h m = .ok s' ↔
      (m ∉ s.modules h ∧ (s.modules h).length < MAX_MODULES) ∧
        s' = { modules := updD s.modules h (s.modules h ++ [m]) } := by
  unfold addModuleTo
  rw [ite_error_eq_ok_iff, ite_error_eq_ok_iff, OZ.Lists.any_beq_iff_mem, Nat.not_le, ← and_assoc, ok_eq_ok_iff]

theorem removeModuleFrom_ok_iff (s s' : State) (h m : Nat) :
    removeModuleFrom s h m = .ok s' ↔
      m ∈ s.modules h ∧ s' = { modules := updD s.modules h ((s.modules h).erase m) } := by
  unfold removeModuleFrom
  rw [ite_error_eq_ok_iff, Bool.not_eq_true', Bool.not_eq_false, OZ.Lists.any_beq_iff_mem, ok_eq_ok_iff]

theorem inv_next {s : State} (hI : Inv s) (o : Op) : Inv (next s o) := by
  unfold next
  cases hs : step s o with
  | error e => exact hI
  | ok s' =>
    cases o with
    | add h m =>
      obtain ⟨⟨hn, hl⟩, rfl⟩ := (addModuleTo_ok_iff s s' h m).1 hs
      exact ⟨forall_updD (P := fun _ (l : List Nat) => l.Nodup) (nodup_append_singleton (hI.nodup h) hn) fun x _ => hI.nodup x,
        le_updD hI.le h (by rw [List.length_append]; exact hl)⟩
    | remove h m =>
      obtain ⟨_, rfl⟩ := (removeModuleFrom_ok_iff s s' h m).1 hs
      exact ⟨forall_updD (P := fun _ (l : List Nat) => l.Nodup) ((hI.nodup h).erase m) fun x _ => hI.nodup x,
        le_updD hI.le h (Nat.le_trans List.erase_sublist.length_le (hI.le h))⟩

theorem inv_run {s : State} (hI : Inv s) (ops : List Op) : Inv (run s ops) :=
  OZ.Lists.foldl_inv (P := Inv) (fun _ o h => inv_next h o) ops s hI

def Reachable (s : State) : Prop := ∃ ops, s = run init ops

theorem reachable_inv {s : State} (h : Reachable s) : Inv s := by
  obtain ⟨ops, rfl⟩ := h
  exact inv_run inv_init ops

end OZ.RegHooks
