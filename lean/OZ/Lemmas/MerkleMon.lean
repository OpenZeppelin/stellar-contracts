import OZ.Lemmas.Merkle
import OZ.Model.MerkleMon
/-
For the soundness of the C17 monitor: the monitor's own folds (big-endian number comparison / bit tests) coincide
with the model's (lexicographic comparison / parity and halving), the sorted one on 32-byte nodes with a 32-byte
hash, the positional one on all inputs; SHA-256 and Keccak-256 as implemented in Lean return 32 bytes; hence a
claim line succeeds in the model exactly under the conditions the monitor checks.
-/
namespace OZ.Merkle.Mon
open OZ.Merkle

theorem foldl_be_lt (xs ys : Node) (h : xs.length = ys.length) (a b : Nat) (hab : a < b) :
    xs.foldl (fun acc x => acc * 256 + x.toNat) a < ys.foldl (fun acc x => acc * 256 + x.toNat) b := by
  induction xs generalizing ys a b with
  | nil => cases ys with
    | nil => exact hab
    | cons y ys => cases h
  | cons x xs ih => cases ys with
    | nil => cases h
    | cons y ys => exact ih ys (Nat.succ.inj h) (a * 256 + x.toNat) (b * 256 + y.toNat) (by have := x.toNat_lt; omega)

/-- on byte strings of EQUAL length the lexicographic order is the order of the big-endian numbers
(read from any common start `acc`; `beNat` is the case `acc = 0`) -/
theorem bytesGt_iff_foldl (a b : Node) (h : a.length = b.length) (acc : Nat) :
    bytesGt a b = true ↔
      b.foldl (fun acc x => acc * 256 + x.toNat) acc < a.foldl (fun acc x => acc * 256 + x.toNat) acc := by
  induction a generalizing b acc with
  | nil => cases b with
    | nil => exact ⟨fun h => (nomatch h), fun h => absurd h (Nat.lt_irrefl _)⟩
    | cons y ys => cases h
  | cons x xs ih => cases b with
    | nil => cases h
    | cons y ys =>
      have hl : xs.length = ys.length := Nat.succ.inj h
      rcases Nat.lt_trichotomy x.toNat y.toNat with hlt | heq | hgt
      · rw [bytesGt_cons_of_lt hlt]
        exact ⟨fun h => (nomatch h), fun h => absurd h (Nat.lt_asymm (foldl_be_lt xs ys hl (acc * 256 + x.toNat) (acc * 256 + y.toNat) (by omega)))⟩
      · cases UInt8.toNat_inj.mp heq
        rw [bytesGt_cons_self]
        exact ih ys hl (acc * 256 + x.toNat)
      · rw [bytesGt_cons_of_gt hgt]
        exact ⟨fun _ => foldl_be_lt ys xs hl.symm (acc * 256 + y.toNat) (acc * 256 + x.toNat) (by omega), fun _ => rfl⟩

theorem bytesGt_iff_beNat (a b : Node) (h : a.length = b.length) :
    bytesGt a b = true ↔ beNat b < beNat a :=
  bytesGt_iff_foldl a b h 0

theorem monPairSorted_eq (H : Node → Node) (a b : Node) (h : a.length = b.length) :
    monPairSorted H a b = chp (bytesOps H) a b := by
  unfold monPairSorted chp bytesOps
  simp only
  by_cases hg : bytesGt a b = true
  · rw [if_pos hg, if_neg (Nat.not_le.mpr ((bytesGt_iff_beNat a b h).mp hg))]
  · rw [if_neg hg, if_pos (Nat.not_lt.mp (mt (bytesGt_iff_beNat a b h).mpr hg))]

theorem chp_length (H : Node → Node) (hH : ∀ x, (H x).length = 32) (a b : Node) :
    (chp (bytesOps H) a b).length = 32 := by
  unfold chp bytesOps; simp only; split <;> exact hH _

theorem monFoldSorted_eq (H : Node → Node) (hH : ∀ x, (H x).length = 32) (leaf : Node) (proof : List Node)
    (hl : leaf.length = 32) (hp : ∀ x ∈ proof, x.length = 32) :
    monFoldSorted H leaf proof = foldSorted (bytesOps H) leaf proof := by
  unfold monFoldSorted
  induction proof generalizing leaf with
  | nil => rfl
  | cons h rest ih =>
    have hh : h.length = 32 := hp h (by simp)
    simp only [List.foldl_cons, foldSorted]
    rw [monPairSorted_eq H leaf h (by rw [hl, hh])]
    exact ih _ (chp_length H hH _ _) (fun x hx => hp x (by simp [hx]))

/-- bit `k` of the index is the parity of the index halved `k` times -/
theorem monStepIndexed_eq (H : Node → Node) (index k : Nat) (acc h : Node) :
    monStepIndexed H index acc (k, h) = stepIndexed (bytesOps H) acc (index / 2 ^ k) h := by
  unfold monStepIndexed stepIndexed bytesOps
  simp only [Nat.testBit_eq_decide_div_mod_eq, decide_eq_true_eq]
  by_cases hb : index / 2 ^ k % 2 = 1
  · rw [if_pos hb, if_neg (by omega)]
  · rw [if_neg hb, if_pos (by omega)]

theorem monFoldIndexed_aux (H : Node → Node) (index : Nat) (proof : List Node) (k : Nat) (acc : Node) :
    ((List.range' k proof.length).zip proof).foldl (monStepIndexed H index) acc =
      foldIndexed (bytesOps H) acc (index / 2 ^ k) proof := by
  induction proof generalizing k acc with
  | nil => rfl
  | cons h rest ih =>
    simp only [List.length_cons, List.range'_succ, List.zip_cons_cons, List.foldl_cons, foldIndexed]
    rw [ih (k + 1), monStepIndexed_eq, Nat.pow_succ, Nat.div_div_eq_div_mul]

theorem monFoldIndexed_eq (H : Node → Node) (leaf : Node) (index : Nat) (proof : List Node) :
    monFoldIndexed H leaf index proof = foldIndexed (bytesOps H) leaf index proof := by
  unfold monFoldIndexed
  rw [List.range_eq_range', monFoldIndexed_aux H index proof 0 leaf]
  simp

theorem wordBytes_length (x : UInt32) : (OZ.Sha256.wordBytes x).length = 4 := rfl

theorem laneBytes_length (x : UInt64) : (OZ.Keccak.laneBytes x).length = 8 := rfl

/-- eight words of four bytes, whatever the compression computes -/
theorem sha256_length (m : Node) : (OZ.Sha256.sha256 m).length = 32 := by
  simp only [OZ.Sha256.sha256, List.length_append, wordBytes_length]

/-- four lanes of eight bytes -/
theorem keccak256_length (m : Node) : (OZ.Keccak.keccak256 m).length = 32 := by
  simp only [OZ.Keccak.keccak256, bind_pure_comp, Id.run_map, List.length_append, laneBytes_length]

theorem hashOf_length (alg : String) (m : Node) : (hashOf alg m).length = 32 := by
  unfold hashOf
  split
  · exact keccak256_length m
  · exact sha256_length m

/-- leaf and proof elements are `BytesN<32>` values -/
def Nodes32 (leaf : Node) (proof : List Node) : Prop := leaf.length = 32 ∧ ∀ x ∈ proof, x.length = 32

/-- the MODEL's verifier accepts (`verify` = true resp. `verify_with_index` = Ok(true)) -/
def accepts (H : Node → Node) (indexed : Bool) (root leaf : Node) (index : Nat) (proof : List Node) : Bool :=
  if indexed then decide (verifyWithIndex (bytesOps H) proof root leaf index = .ok true)
  else verify (bytesOps H) proof root leaf

theorem accepts_indexed (H : Node → Node) (root leaf : Node) (index : Nat) (proof : List Node) :
    accepts H true root leaf index proof = true ↔
      verifyWithIndex (bytesOps H) proof root leaf index = .ok true :=
  decide_eq_true_iff

theorem accepts_sorted (H : Node → Node) (root leaf : Node) (index : Nat) (proof : List Node) :
    accepts H false root leaf index proof = verify (bytesOps H) proof root leaf := rfl

theorem monVerify_indexed (H : Node → Node) (root leaf : Node) (index : Nat) (proof : List Node) :
    monVerify H true root leaf index proof = (verifyWithIndex (bytesOps H) proof root leaf index).toOption := by
  unfold monVerify verifyWithIndex
  rw [if_pos rfl, monFoldIndexed_eq, Bool.beq_eq_decide_eq]
  by_cases h1 : proof.length ≥ 32
  · rw [if_pos (Or.inl h1), if_pos h1]; rfl
  · rw [if_neg h1]
    by_cases h2 : index ≥ 2 ^ proof.length
    · rw [if_pos (Or.inr h2), if_pos h2]; rfl
    · rw [if_neg (not_or.mpr ⟨h1, h2⟩), if_neg h2]; rfl

theorem monVerify_sorted32 (H : Node → Node) (hH : ∀ x, (H x).length = 32) (root leaf : Node) (index : Nat)
    (proof : List Node) (h32 : Nodes32 leaf proof) :
    monVerify H false root leaf index proof = some (verify (bytesOps H) proof root leaf) := by
  unfold monVerify verify
  rw [if_neg Bool.false_ne_true, monFoldSorted_eq H hH leaf proof h32.1 h32.2, Bool.beq_eq_decide_eq]

theorem monVerify_accepts (H : Node → Node) (hH : ∀ x, (H x).length = 32) (indexed : Bool) (root leaf : Node)
    (index : Nat) (proof : List Node) (h32 : indexed = false → Nodes32 leaf proof) :
    (monVerify H indexed root leaf index proof == some true) = accepts H indexed root leaf index proof := by
  cases indexed with
  | true =>
    rw [monVerify_indexed]
    unfold accepts
    rw [if_pos rfl]
    cases hv : verifyWithIndex (bytesOps H) proof root leaf index with
    | error e => simp [Except.toOption]
    | ok b => cases b <;> simp [Except.toOption]
  | false =>
    rw [monVerify_sorted32 H hH root leaf index proof (h32 rfl)]
    unfold accepts
    rw [if_neg (by simp)]
    cases verify (bytesOps H) proof root leaf <;> rfl

theorem validAgainst_eq_true (H : Node → Node) (hH : ∀ x, (H x).length = 32) (root : Option Node) (indexed : Bool)
    (leaf : Node) (index : Nat) (proof : List Node) (h32 : indexed = false → Nodes32 leaf proof) :
    validAgainst H root indexed leaf index proof = true ↔
      ∃ r, root = some r ∧ accepts H indexed r leaf index proof = true := by
  cases root with
  | none => exact ⟨fun h => (nomatch h), fun ⟨_, h, _⟩ => (nomatch h)⟩
  | some r =>
    rw [show validAgainst H (some r) indexed leaf index proof = _ from monVerify_accepts H hH indexed r leaf index proof h32]
    exact ⟨fun h => ⟨r, rfl, h⟩, fun ⟨_, h1, h2⟩ => Option.some.inj h1 ▸ h2⟩

/-- the distributor operation of a `claim mode=sorted|indexed` line -/
def claimOp (indexed : Bool) (leaf : Node) (index : Nat) (proof : List Node) : DOp Node :=
  if indexed then .claimIndexed leaf index proof else .claim leaf index proof

theorem step_claim_ok (H : Node → Node) (d d' : Dist Node) (indexed : Bool) (leaf : Node) (index : Nat)
    (proof : List Node) :
    d.step (bytesOps H) (claimOp indexed leaf index proof) = .ok d' ↔
      ∃ root, d.root = some root ∧ d.claimed index = false ∧ accepts H indexed root leaf index proof = true ∧
        d' = d.setClaimed index := by
  cases indexed with
  | true =>
    show d.verifyWithIndexAndSetClaimed (bytesOps H) leaf index proof = .ok d' ↔ _
    rw [claimIndexed_ok]
    simp [accepts]
  | false =>
    show d.verifyAndSetClaimed (bytesOps H) leaf index proof = .ok d' ↔ _
    rw [claim_ok]
    simp [accepts]

theorem mem_univ (w i : Nat) : i ∈ univ w ↔ inU w i = true := by
  simp [univ, inU, or_assoc]

theorem univ_nodup (w : Nat) (hw : w ≤ 4294967294) : (univ w).Nodup := by
  unfold univ
  rw [List.nodup_append]
  refine ⟨List.nodup_range, by decide, ?_⟩
  intro a ha b hb
  simp at ha hb
  omega

theorem contains_filter (U : List Nat) (f : Nat → Bool) (i : Nat) :
    (U.filter f).contains i = (U.contains i && f i) := by
  rw [Bool.eq_iff_iff]
  simp [List.mem_filter]

theorem unmarked_filter (U : List Nat) (f g : Nat → Bool) (h : ∀ i, f i = true → g i = true) :
    unmarked (U.filter f) (U.filter g) = false := by
  unfold unmarked
  rw [List.any_eq_false]
  intro i hi
  have := List.mem_filter.mp hi
  simp [List.mem_filter, this.1, h i this.2]

theorem spurious_filter (U : List Nat) (f g : Nat → Bool) (acc : Option Nat)
    (h : ∀ i, g i = true → f i = true ∨ acc = some i) :
    spurious (U.filter f) (U.filter g) acc = [] := by
  unfold spurious
  rw [List.filter_eq_nil_iff]
  intro i hi
  have hm := List.mem_filter.mp hi
  rcases h i hm.2 with h1 | h1
  · simp [List.mem_filter, hm.1, h1]
  · simp [h1]

theorem newFlags_filter (U : List Nat) (f g : Nat → Bool) :
    newFlags (U.filter f) (U.filter g) = U.filter (fun i => g i && !f i) := by
  unfold newFlags
  rw [List.filter_filter]
  apply List.filter_congr
  intro i hi
  simp [List.mem_filter, hi]
  rw [Bool.and_comm]

theorem filter_eq_single (U : List Nat) (hn : U.Nodup) (a : Nat) :
    U.filter (fun i => decide (i = a)) = if a ∈ U then [a] else [] := by
  induction U with
  | nil => rfl
  | cons x xs ih =>
    have hn' := List.nodup_cons.mp hn
    rw [List.filter_cons, ih hn'.2]
    by_cases hx : x = a
    · subst hx
      simp [hn'.1]
    · have : ¬ a = x := fun e => hx e.symm
      simp [hx, this]

theorem newFlags_set (U : List Nat) (hn : U.Nodup) (f g : Nat → Bool) (a : Nat) (hfa : f a = false)
    (hg : ∀ i, g i = (decide (i = a) || f i)) :
    newFlags (U.filter f) (U.filter g) = if a ∈ U then [a] else [] := by
  rw [newFlags_filter, ← filter_eq_single U hn a]
  apply List.filter_congr
  intro i _
  rw [hg i]
  by_cases hia : i = a
  · subst hia; simp [hfa]
  · simp [hia]

theorem univ_contains (w i : Nat) : (univ w).contains i = inU w i := by
  rw [Bool.eq_iff_iff, List.contains_iff_mem]
  exact mem_univ w i

theorem claimedList_contains (d : Dist Node) (w i : Nat) :
    (claimedList d w).contains i = (inU w i && d.claimed i) := by
  unfold claimedList
  rw [contains_filter, univ_contains]

theorem claimedList_empty (r : Option Node) (w : Nat) :
    claimedList { root := r, claimed := fun _ => false } w = [] := by
  unfold claimedList
  rw [List.filter_eq_nil_iff]
  intro i _; simp

theorem claimedList_setClaimed_far (d : Dist Node) (w i : Nat) (h : inU w i = false) :
    claimedList (d.setClaimed i) w = claimedList d w := by
  unfold claimedList
  refine List.filter_congr fun j hj => ?_
  have hji : j ≠ i := fun e => Bool.false_ne_true (h.symm.trans (e ▸ (mem_univ w j).mp hj))
  rw [setClaimed_claimed, decide_eq_false hji, Bool.false_or]

theorem expectNew_eq (w index : Nat) : expectNew w index = if index ∈ univ w then [index] else [] := by
  unfold expectNew
  by_cases h : inU w index = true
  · rw [if_pos h, if_pos ((mem_univ w index).mpr h)]
  · rw [if_neg h, if_neg (fun hm => h ((mem_univ w index).mp hm))]

/-- the ghost of far claims: exactly the claimed indices outside the observed universe -/
def FarOk (w : Nat) (far : List Nat) (d : Dist Node) : Prop :=
  ∀ i, far.contains i = (!inU w i && d.claimed i)

theorem wasClaimed_eq (m : Mon) (d : Dist Node) (hc : m.claimed = claimedList d m.w) (hf : FarOk m.w m.far d)
    (index : Nat) : wasClaimed m index = d.claimed index := by
  unfold wasClaimed
  rw [hc, claimedList_contains, hf index]
  cases inU m.w index <;> cases d.claimed index <;> rfl

theorem farStep_ok (m : Mon) (d : Dist Node) (hf : FarOk m.w m.far d) (index : Nat) (hc : d.claimed index = false) :
    FarOk m.w (farStep m index true) (d.setClaimed index) := by
  intro i
  rw [setClaimed_claimed]
  unfold farStep
  by_cases hu : inU m.w index = true
  · rw [if_neg (by simp [hu]), hf i]
    by_cases hi : i = index
    · subst hi; simp [hu]
    · simp [hi]
  · rw [if_pos (by simp [hu]), List.contains_cons, hf i]
    by_cases hi : i = index
    · subst hi; simp [hu]
    · simp [hi]

theorem farStep_err (m : Mon) (index : Nat) : farStep m index false = m.far := by
  unfold farStep; simp

theorem flags_accepted {m : Mon} {d : Dist Node} (hw : m.w ≤ 4294967294) (hc : m.claimed = claimedList d m.w)
    {index : Nat} (hclr : d.claimed index = false) :
    unmarked m.claimed (claimedList (d.setClaimed index) m.w) = false ∧
    spurious m.claimed (claimedList (d.setClaimed index) m.w) (some index) = [] ∧
    newFlags m.claimed (claimedList (d.setClaimed index) m.w) = expectNew m.w index := by
  have hg := setClaimed_claimed d index
  rw [hc, expectNew_eq]
  refine ⟨unmarked_filter _ _ _ fun i h => by rw [hg, h, Bool.or_true], spurious_filter _ _ _ _ fun i hi => ?_,
    newFlags_set _ (univ_nodup m.w hw) _ _ index hclr hg⟩
  rw [hg, Bool.or_eq_true, decide_eq_true_eq] at hi
  exact hi.elim (fun e => Or.inr (congrArg some e.symm)) Or.inl

theorem unmarked_self (l : List Nat) : unmarked l l = false := by
  simp [unmarked]

theorem spurious_self (l : List Nat) (acc : Option Nat) : spurious l l acc = [] :=
  List.filter_eq_nil_iff.mpr fun i hi => by simp [hi]

theorem newFlags_self (l : List Nat) : newFlags l l = [] := by
  simp [newFlags]

theorem corruptAlarm_none (site : String) (tag : Tag) (tail : String) (h : ∀ c, tag ≠ .corrupt c) :
    corruptAlarm site tag tail = none := by
  cases tag with
  | honest => rfl
  | other => rfl
  | corrupt c => exact absurd rfl (h c)

theorem paidOut_eq (bal : List Int) (rcv : Nat) (amount : Int) :
    (List.range bal.length).map (fun j => if j = rcv then bal.getD j 0 + amount else bal.getD j 0) =
      paidOut bal rcv amount := by
  unfold paidOut
  apply List.map_congr_left
  intro j _
  by_cases h : j = rcv
  · rw [if_pos h, if_pos h]
  · rw [if_neg h, if_neg h]; omega

theorem range_map_getD (bal : List Int) : (List.range bal.length).map (fun j => bal.getD j 0) = bal := by
  apply List.ext_getElem
  · simp
  · intro i h1 h2
    simp at h1
    simp [List.getD, h1]

end OZ.Merkle.Mon
