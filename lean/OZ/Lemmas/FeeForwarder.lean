import OZ.Model.FeeForwarder
import OZ.Lemmas.FungibleComplete
import OZ.Lemmas.SlotIndex
/-
The allow-list invariant `WF` (a list kept in two maps, `WF.lok`, OZ/Lemmas/SlotIndex.lean) and its preservation
by allow / disallow (swap-and-pop); exact descriptions of successful `collect_fee` / `collect_fee_and_invoke`
runs (what held before, what holds after) and the converse: under those conditions they succeed.
-/
namespace OZ.FeeForwarder
open OZ.Host
open OZ.NftEnum (LOKD LOKD_add LOKD_remove dom_remove LOK_list)

variable {p : Params} {s s' : State} {au : Auth} {tok user rcp : Nat} {fee max : Int} {exp : Nat} {ap : Approval}
  {c : Call} {tgt : Target} {al al' : AllowList}

theorem ensure_eq_ok {b : Bool} {e : Err} {u : Unit} : ensure b e = .ok u ↔ b = true := by
  cases b
  · exact ⟨nofun, nofun⟩
  · exact ⟨fun _ => rfl, fun _ => rfl⟩

theorem ensure_bind_eq_ok {α} {b : Bool} {e : Err} {k : Except Err α} {v : α} :
    (ensure b e >>= fun _ => k) = .ok v ↔ b = true ∧ k = .ok v := by
  cases b
  · exact ⟨nofun, nofun⟩
  · exact ⟨fun h => ⟨rfl, h⟩, fun h => h.2⟩

/-! ### the allow-list invariant -/

/-- `Token(i)` and `TokenIndex(t)` are mutually inverse, and exactly the indices below
`count` are occupied -/
structure WF (al : AllowList) : Prop where
  fwd : ∀ i t, al.tokenAt i = some t → i < al.count ∧ al.indexOf t = some i
  bwd : ∀ t i, al.indexOf t = some i → i < al.count ∧ al.tokenAt i = some t
  full : ∀ i, i < al.count → ∃ t, al.tokenAt i = some t
  bound : al.count ≤ U32_MAX

theorem wf_empty : WF AllowList.empty :=
  ⟨fun _ _ h => (by cases h), fun _ _ h => (by cases h), fun i h => (by cases h), (by simp [AllowList.empty, U32_MAX])⟩

theorem WF.lok (w : WF al) : LOKD al.tokenAt al.indexOf al.count :=
  ⟨fun i h => let ⟨t, ht⟩ := w.full i h; ⟨t, ht, (w.fwd i t ht).2, Option.isSome_iff_exists.mpr ⟨i, (w.fwd i t ht).2⟩⟩,
   fun t h => let ⟨i, hi⟩ := Option.isSome_iff_exists.mp h; ⟨i, (w.bwd t i hi).1, hi, (w.bwd t i hi).2⟩,
   fun i h => by
    cases e : al.tokenAt i with
    | none => rfl
    | some t => exact absurd (w.fwd i t e).1 (Nat.not_lt.mpr h)⟩

theorem WF.of_lok (h : LOKD al.tokenAt al.indexOf al.count) (hb : al.count ≤ U32_MAX) : WF al :=
  ⟨fun _ _ => h.tok_lt, fun _ _ => h.idx_lt, fun i hi => let ⟨t, ht, _⟩ := h.1 i hi; ⟨t, ht⟩, hb⟩

theorem allowToken_eq_ok {t : Nat} :
    allowToken al t = .ok al' ↔ al.indexOf t = none ∧ al.count + 1 ≤ U32_MAX ∧
      al' = { count := al.count + 1, tokenAt := upd al.tokenAt al.count (some t),
              indexOf := upd al.indexOf t (some al.count) } := by
  unfold allowToken
  rw [ite_error_eq_ok_iff, ite_ok_iff, Option.not_isSome_iff_eq_none]

theorem allow_wf (w : WF al) {t : Nat} (hn : al.indexOf t = none)
    (hb : al.count + 1 ≤ U32_MAX) :
    WF { count := al.count + 1, tokenAt := upd al.tokenAt al.count (some t),
         indexOf := upd al.indexOf t (some al.count) } :=
  .of_lok (LOKD_add w.lok hn) hb

/-- swap-and-pop as one formula. When `t` itself is last (`ri = count - 1`, `lt = t`) the code skips the first
write; in the formula the second write overwrites it. -/
theorem disallow_spec (w : WF al) {t ri lt : Nat} (hi : al.indexOf t = some ri)
    (hl : al.tokenAt (al.count - 1) = some lt) :
    disallowToken al t = .ok ⟨al.count - 1, upd (upd al.tokenAt ri (some lt)) (al.count - 1) none,
      upd (upd al.indexOf lt (some ri)) t none⟩ := by
  obtain ⟨hlt, hat⟩ := w.bwd t ri hi
  unfold disallowToken
  rw [hi]
  dsimp only
  unfold removeAt moveLast popLast
  rw [if_neg (Nat.ne_of_gt (Nat.zero_lt_of_lt hlt))]
  by_cases hr : ri = al.count - 1
  · rw [if_pos hr, Option.some.inj (hl.symm.trans (hr ▸ hat)), hr, upd_upd, upd_upd]
  · rw [if_neg hr, hl]

theorem disallow_wf (w : WF al) {t ri : Nat} (hi : al.indexOf t = some ri) :
    ∃ al', disallowToken al t = .ok al' ∧ WF al' ∧ al'.count = al.count - 1 ∧
      ∀ x, (al'.indexOf x).isSome = true ↔ (x ≠ t ∧ (al.indexOf x).isSome = true) := by
  have hpos : 0 < al.count := Nat.zero_lt_of_lt (w.bwd t ri hi).1
  obtain ⟨lt, hl⟩ := w.full (al.count - 1) (Nat.sub_one_lt (Nat.ne_of_gt hpos))
  have h : LOKD al.tokenAt al.indexOf (al.count - 1 + 1) := by rw [Nat.sub_add_cancel hpos]; exact w.lok
  exact ⟨_, disallow_spec w hi hl, .of_lok (LOKD_remove h hi hl) (Nat.le_trans (Nat.sub_le _ _) w.bound), rfl,
    fun x => (dom_remove h hl x).trans and_comm⟩

theorem disallowToken_ok {t : Nat} (h : disallowToken al t = .ok al') :
    ∃ ri, al.indexOf t = some ri := by
  unfold disallowToken at h
  split at h
  · cases h
  · rename_i ri hi; exact ⟨ri, hi⟩

theorem setAllowed_wf (w : WF al) {t : Nat} {a : Bool}
    (h : setAllowed al t a = .ok al') : WF al' := by
  unfold setAllowed at h
  split at h
  · obtain ⟨hn, hb, e⟩ := allowToken_eq_ok.mp h
    subst e
    exact allow_wf w hn hb
  · obtain ⟨ri, hi⟩ := disallowToken_ok h
    obtain ⟨_, h', w', _⟩ := disallow_wf w hi
    cases h.symm.trans h'
    exact w'

def mem (al : AllowList) (t : Nat) : Bool := (al.indexOf t).isSome

theorem setAllowed_sim (w : WF al) (t : Nat) (a : Bool) (hb : a = true → al.count + 1 ≤ U32_MAX) :
    (mem al t = a → ∃ e, setAllowed al t a = .error e ∧ e ≠ .panic) ∧
    (mem al t ≠ a → ∃ al', setAllowed al t a = .ok al' ∧ WF al' ∧
      al'.count = (if a then al.count + 1 else al.count - 1) ∧
      ∀ x, mem al' x = if x = t then a else mem al x) := by
  unfold mem
  cases a with
  | true =>
    simp only [setAllowed, if_true]
    cases hi : al.indexOf t with
    | some i =>
      exact ⟨fun _ => ⟨.feeTokenAlreadyAllowed, by unfold allowToken; rw [hi]; rfl, nofun⟩, fun h => absurd rfl h⟩
    | none =>
      refine ⟨nofun, fun _ => ⟨_, allowToken_eq_ok.mpr ⟨hi, hb rfl, rfl⟩, allow_wf w hi (hb rfl), rfl, fun x => ?_⟩⟩
      dsimp only
      by_cases hx : x = t
      · subst hx; rw [upd_same, if_pos rfl]; rfl
      · rw [upd_other _ _ _ _ hx, if_neg hx]
  | false =>
    simp only [setAllowed, Bool.false_eq_true, if_false]
    cases hi : al.indexOf t with
    | none =>
      exact ⟨fun _ => ⟨.feeTokenNotAllowed, by unfold disallowToken; rw [hi], nofun⟩, fun h => absurd rfl h⟩
    | some ri =>
      obtain ⟨al', he, w', hc, hm⟩ := disallow_wf w hi
      refine ⟨nofun, fun _ => ⟨al', he, w', hc, fun x => ?_⟩⟩
      by_cases hx : x = t
      · subst hx; rw [if_pos rfl, Bool.eq_false_iff]; exact fun h => ((hm x).mp h).1 rfl
      · rw [if_neg hx, Bool.eq_iff_iff, hm x]; exact ⟨fun h => h.2, fun h => ⟨hx, h⟩⟩

theorem setAllowed_accepted_iff (w : WF al) (t : Nat) (a : Bool) (hb : a = true → al.count + 1 ≤ U32_MAX) :
    setAllowed al t a ≠ .error .panic ∧ ((∃ al', setAllowed al t a = .ok al') ↔ mem al t ≠ a) := by
  obtain ⟨hrefused, hdone⟩ := setAllowed_sim w t a hb
  by_cases hm : mem al t = a
  · obtain ⟨e, he, hne⟩ := hrefused hm
    exact ⟨fun h => hne (Except.error.inj (he.symm.trans h)), fun ⟨_, h⟩ => (nomatch he.symm.trans h), (absurd hm ·)⟩
  · obtain ⟨al', he, _⟩ := hdone hm
    exact ⟨fun h => (nomatch he.symm.trans h), fun _ => hm, fun _ => ⟨al', he⟩⟩

theorem enumerate_list (w : WF al) :
    (enumerate al).length = al.count ∧ (enumerate al).Nodup ∧
    ∀ t, t ∈ enumerate al ↔ (al.indexOf t).isSome = true :=
  LOK_list w.lok

theorem mem_enumerate (w : WF al) (t : Nat) :
    t ∈ enumerate al ↔ (al.indexOf t).isSome = true :=
  (enumerate_list w).2.2 t

theorem enumerate_nodup (w : WF al) : (enumerate al).Nodup := (enumerate_list w).2.1

theorem enumerate_length (w : WF al) : (enumerate al).length = al.count := (enumerate_list w).1

theorem enumerate_nil_iff (w : WF al) : enumerate al = [] ↔ al.count = 0 := by
  rw [← enumerate_length w]
  exact List.length_eq_zero_iff.symm

/-! ### the fee token -/

theorem transferFrom_succeeds (c : Cfg) (s : OZ.Fungible.State) (auth : List Nat) (sp f t : Nat) (amt : Int)
    (ha : sp ∈ auth) (hp : 0 < amt) (hal : amt ≤ (OZ.Fungible.allowanceData s f sp).amount)
    (hlu : (OZ.Fungible.allowanceData s f sp).liveUntilLedger ≤ c.maxLiveUntil s.now)
    (hb : amt ≤ s.bal f) (hov : in128 ((upd s.bal f (s.bal f - amt)) t + amt)) :
    ∃ s', OZ.Fungible.transferFrom c s auth sp f t amt = .ok s' := by
  obtain ⟨s0, hs⟩ := (OZ.Fungible.spendAllowance_succeeds_iff c s f sp amt).2 ⟨Int.le_of_lt hp, hal, fun _ => hlu⟩
  exact ⟨_, OZ.Fungible.transferFrom_eq_ok_iff.2 ⟨ha, ⟨Int.le_of_lt hp, hb, hov⟩, s0, hs, rfl⟩⟩

/-- under the token's supply invariant (C01) the credit of the fee can never leave i128 -/
theorem credit_in128_of_inv {U : List Nat} (hn : U.Nodup) {ts : OZ.Fungible.State} (hi : OZ.Fungible.Inv U ts)
    (user rcp : Nat) (fee : Int) (h0 : 0 ≤ fee) (hb : fee ≤ ts.bal user) :
    in128 ((upd ts.bal user (ts.bal user - fee)) rcp + fee) :=
  ((OZ.Fungible.updateCond_iff_of_inv hn hi (some user) (some rcp) fee).2 ⟨h0, hb⟩).2.2

/-! ### authorization -/

theorem userSigned_iff (au : Auth) (user : Nat) (tp : AuthTuple) :
    userSigned au user tp = true ↔ ∃ ua, au.user = some ua ∧ ua.signer = user ∧ ua.tuple = tp := by
  unfold userSigned
  cases au.user with
  | none => simp
  | some ua => simp

theorem subSigned_iff (au : Auth) (user : Nat) (i : Inv) :
    subSigned au user i = true ↔ ∃ ua, au.user = some ua ∧ ua.signer = user ∧ i ∈ ua.subs := by
  unfold subSigned
  cases au.user with
  | none => simp
  | some ua => simp

theorem subSigned_mem {ua : UserAuth} {i : Inv} (hua : au.user = some ua) (h : subSigned au user i = true) :
    i ∈ ua.subs := by
  obtain ⟨ua', hua', _, hm⟩ := (subSigned_iff _ _ _).mp h
  rw [hua] at hua'
  injection hua' with e
  subst e
  exact hm

/-! ### the gates of the examples' entry points -/

theorem forwardPL_eq_ok {user relayer : Nat} :
    forwardPermissionless p s au c user relayer tgt = .ok s' ↔
      relayer ∈ au.plain ∧ collectFeeAndInvoke p s au c user relayer .eager tgt = .ok s' := by
  unfold forwardPermissionless requireAuth
  rw [ensure_bind_eq_ok, decide_eq_true_iff]

theorem forwardPD_eq_ok {user relayer : Nat} :
    forwardPermissioned p s au c user relayer tgt = .ok s' ↔
      relayer ∈ p.executors ∧ relayer ∈ au.plain ∧
      collectFeeAndInvoke p s au c user p.self .lazy tgt = .ok s' := by
  unfold forwardPermissioned ensureRole requireAuth
  rw [ensure_bind_eq_ok, ensure_bind_eq_ok, decide_eq_true_iff, decide_eq_true_iff]

theorem managerSetAllowed_eq_ok {operator : Nat} {allowed : Bool} :
    managerSetAllowed p s au tok operator allowed = .ok s' ↔
      operator ∈ p.managers ∧ operator ∈ au.plain ∧ setAllowedFeeToken s tok allowed = .ok s' := by
  unfold managerSetAllowed ensureRole requireAuth
  rw [ensure_bind_eq_ok, ensure_bind_eq_ok, decide_eq_true_iff, decide_eq_true_iff]

theorem managerSweep_eq_ok {operator : Nat} :
    managerSweep p s au tok rcp operator = .ok s' ↔
      operator ∈ p.managers ∧ operator ∈ au.plain ∧ sweepToken p s tok rcp = .ok s' := by
  unfold managerSweep ensureRole requireAuth
  rw [ensure_bind_eq_ok, ensure_bind_eq_ok, decide_eq_true_iff, decide_eq_true_iff]

/-! ### `collect_fee` -/

theorem validateFeeBounds_eq_ok {u : Unit} :
    validateFeeBounds fee max = .ok u ↔ 0 < fee ∧ fee ≤ max := by
  unfold validateFeeBounds
  split
  · exact ⟨nofun, fun h => by omega⟩
  · exact ⟨fun _ => by omega, fun _ => rfl⟩

theorem validateExpirationLedger_eq_ok {now exp : Nat} {u : Unit} :
    validateExpirationLedger now exp = .ok u ↔ now ≤ exp := by
  unfold validateExpirationLedger
  split
  · exact ⟨nofun, fun h => by omega⟩
  · exact ⟨fun _ => by omega, fun _ => rfl⟩

structure TokOnly (s s' : State) (tok : Nat) : Prop where
  al : s'.al = s.al
  now : s'.now = s.now
  calls : s'.calls = s.calls
  events : s'.events = s.events
  others : ∀ t, t ≠ tok → s'.toks t = s.toks t

theorem liftTok_ok {t : Nat} {r : Except OZ.Fungible.Err OZ.Fungible.State}
    (h : liftTok s t r = .ok s') : ∃ ts, r = .ok ts ∧ s'.toks t = ts ∧ TokOnly s s' t := by
  unfold liftTok at h
  split at h
  · rename_i ts
    injection h with h; subst h
    exact ⟨ts, rfl, upd_same _ _ _, rfl, rfl, rfl, rfl, fun x hx => upd_other _ _ _ _ hx⟩
  · cases h

theorem allowanceData_tokAt {ts : OZ.Fungible.State} (ht : s.toks tok = ts)
    (hn : ts.now = s.now) (o sp : Nat) :
    OZ.Fungible.allowanceData (tokAt s tok) o sp = OZ.Fungible.allowanceData ts o sp := by
  subst ht
  exact OZ.Fungible.allowanceData_congr_entry rfl hn.symm

/-- the forwarder approves on the user's behalf under the Eager strategy, and under the Lazy one
when the allowance is below the maximum; otherwise only the expiration is checked -/
theorem approveStep_eq (p : Params) (s : State) (au : Auth) (tok user : Nat) (max : Int) (exp : Nat)
    (ap : Approval) :
    approveStep p s au tok user max exp ap =
      if ap = .eager ∨ OZ.Fungible.allowance (tokAt s tok) user p.self < max then
        tokenApprove p s au tok user max exp
      else
        match validateExpirationLedger s.now exp with
        | .error e => .error e
        | .ok _ => .ok s := by
  cases ap with
  | eager => rw [if_pos (.inl rfl)]; rfl
  | lazy =>
    dsimp only [approveStep]
    by_cases hlt : OZ.Fungible.allowance (tokAt s tok) user p.self < max
    · rw [if_pos hlt, if_pos (.inr hlt)]
    · rw [if_neg hlt, if_neg (by rintro (h | h); cases h; exact hlt h)]
      rfl

theorem approveStep_ok
    (hmax : 0 < max) (h : approveStep p s au tok user max exp ap = .ok s') :
    TokOnly s s' tok ∧
    (s'.toks tok).supply = (s.toks tok).supply ∧ (s'.toks tok).bal = (s.toks tok).bal ∧
    (∀ x y, ¬ (x = user ∧ y = p.self) → (s'.toks tok).allow x y = (s.toks tok).allow x y) ∧
    s.now ≤ exp ∧
    ((ap = .eager ∨ OZ.Fungible.allowance (tokAt s tok) user p.self < max) →
      subSigned au user (approveInv p tok user max exp) = true ∧ exp ≤ p.cfg.maxLiveUntil s.now) ∧
    OZ.Fungible.allowanceData (tokAt s' tok) user p.self =
      if ap = .eager ∨ OZ.Fungible.allowance (tokAt s tok) user p.self < max then ⟨max, exp⟩
      else OZ.Fungible.allowanceData (tokAt s tok) user p.self := by
  rw [approveStep_eq] at h
  by_cases hap : ap = .eager ∨ OZ.Fungible.allowance (tokAt s tok) user p.self < max
  · rw [if_pos hap] at h ⊢
    unfold tokenApprove at h
    obtain ⟨ts, hr, hts, t1⟩ := liftTok_ok h
    obtain ⟨ha, s0, hset, rfl⟩ := OZ.Fungible.approve_ok hr
    obtain ⟨a1, a2, a3, -, a4⟩ := OZ.Fungible.setAllowance_ok hset
    obtain ⟨-, a7, a8, -⟩ := OZ.Fungible.setAllowance_entry hset
    have hs : subSigned au user (approveInv p tok user max exp) = true := by
      by_cases hs : subSigned au user (approveInv p tok user max exp) = true
      · exact hs
      · rw [if_neg hs] at ha; cases ha
    rw [allowanceData_tokAt hts (a3.trans t1.now.symm), hts]
    exact ⟨t1, a1, a2, a4, a8 hmax, fun _ => ⟨hs, a7⟩, OZ.Fungible.setAllowance_allowanceData (s0 := s0) hset hmax⟩
  · rw [if_neg hap] at h ⊢
    split at h
    · cases h
    · rename_i u hv
      injection h with h; subst h
      exact ⟨⟨rfl, rfl, rfl, rfl, fun _ _ => rfl⟩, rfl, rfl, fun _ _ _ => rfl,
        validateExpirationLedger_eq_ok.mp hv, fun h => absurd h hap, rfl⟩

structure FeeConditions (p : Params) (s : State) (au : Auth) (tok : Nat) (fee max : Int) (exp : Nat)
    (user rcp : Nat) (ap : Approval) : Prop where
  token : isAllowedFeeToken s.al tok = true
  notSelf : p.self ≠ user
  feePos : 0 < fee
  feeMax : fee ≤ max
  notExpired : s.now ≤ exp
  /-- when the forwarder approves on the user's behalf: the user signed the nested approve and
  the token accepts the expiration as `live_until_ledger` -/
  approve : (ap = .eager ∨ OZ.Fungible.allowance (tokAt s tok) user p.self < max) →
    subSigned au user (approveInv p tok user max exp) = true ∧ exp ≤ p.cfg.maxLiveUntil s.now
  /-- otherwise the existing (sufficient) allowance record can be rewritten by the token -/
  keep : ¬ (ap = .eager ∨ OZ.Fungible.allowance (tokAt s tok) user p.self < max) →
    (OZ.Fungible.allowanceData (tokAt s tok) user p.self).liveUntilLedger ≤ p.cfg.maxLiveUntil s.now
  balance : fee ≤ (s.toks tok).bal user
  noOverflow : in128 ((upd (s.toks tok).bal user ((s.toks tok).bal user - fee)) rcp + fee)

structure FeeCollected (p : Params) (s s' : State) (tok : Nat) (fee max : Int) (exp : Nat)
    (user rcp : Nat) (ap : Approval) : Prop where
  al : s'.al = s.al
  now : s'.now = s.now
  calls : s'.calls = s.calls
  events : s'.events = s.events ++ [.feeCollected user rcp tok fee]
  others : ∀ t, t ≠ tok → s'.toks t = s.toks t
  supply : (s'.toks tok).supply = (s.toks tok).supply
  bal : (s'.toks tok).bal = OZ.Vault.moved (s.toks tok).bal user rcp fee
  allow : ∀ x y, ¬ (x = user ∧ y = p.self) → (s'.toks tok).allow x y = (s.toks tok).allow x y
  allowanceData : OZ.Fungible.allowanceData (tokAt s' tok) user p.self =
    if ap = .eager ∨ OZ.Fungible.allowance (tokAt s tok) user p.self < max then ⟨max - fee, exp⟩
    else ⟨(OZ.Fungible.allowanceData (tokAt s tok) user p.self).amount - fee,
          (OZ.Fungible.allowanceData (tokAt s tok) user p.self).liveUntilLedger⟩

theorem collectFee_ok
    (h : collectFee p s au tok fee max exp user rcp ap = .ok s') :
    FeeConditions p s au tok fee max exp user rcp ap ∧ FeeCollected p s s' tok fee max exp user rcp ap := by
  unfold collectFee at h
  obtain ⟨_, h1, h⟩ := bind_eq_ok h
  obtain ⟨_, h2, h⟩ := bind_eq_ok h
  obtain ⟨_, h3, h⟩ := bind_eq_ok h
  obtain ⟨s1, h4, h⟩ := bind_eq_ok h
  obtain ⟨s2, h5, h⟩ := bind_eq_ok h
  injection h with h
  subst h
  obtain ⟨hf0, hfm⟩ := validateFeeBounds_eq_ok.mp h3
  obtain ⟨t1, a1, a2, a3, a4, a5, hA⟩ := approveStep_ok (Int.lt_of_lt_of_le hf0 hfm) h4
  unfold tokenTransferFrom at h5
  obtain ⟨ts, hr, hts, t2⟩ := liftTok_ok h5
  obtain ⟨-, ⟨-, b3, hin⟩, s0, hs, rfl⟩ := OZ.Fungible.transferFrom_eq_ok_iff.1 hr
  obtain ⟨-, -, blu⟩ := (OZ.Fungible.spendAllowance_succeeds_iff _ _ _ _ _).1 ⟨s0, hs⟩
  have bA := OZ.Fungible.spendAllowance_allowanceData hs hf0
  have hb : (tokAt s1 tok).bal = (s.toks tok).bal := a2
  have hnow : (tokAt s1 tok).now = s.now := t1.now
  replace blu := blu hf0
  dsimp only [OZ.Fungible.debitCond, OZ.Fungible.creditCond, OZ.Fungible.debitSt] at b3 hin
  rw [hb] at b3 hin
  rw [hA, hnow] at blu
  rw [hA] at bA
  refine ⟨⟨ensure_eq_ok.mp h1, of_decide_eq_true (ensure_eq_ok.mp h2), hf0, hfm, a4, a5, fun hn => ?_, b3, hin⟩,
    ⟨t2.al.trans t1.al, t2.now.trans t1.now, t2.calls.trans t1.calls,
      congrArg (· ++ _) (t2.events.trans t1.events), fun t ht => (t2.others t ht).trans (t1.others t ht),
      ?_, ?_, ?_, ?_⟩⟩
  · rw [if_neg hn] at blu; exact blu
  · show (s2.toks tok).supply = _
    rw [hts]; exact a1
  · show (s2.toks tok).bal = _
    rw [hts]; exact congrArg (OZ.Vault.moved · user rcp fee) hb
  · intro x y hxy
    show (s2.toks tok).allow x y = _
    rw [hts]; exact ((OZ.Fungible.spendAllowance_ok hs).2.2.2.2 x y hxy).trans (a3 x y hxy)
  · show OZ.Fungible.allowanceData (tokAt s2 tok) user p.self = _
    rw [allowanceData_tokAt hts t2.now.symm]
    refine Eq.trans (OZ.Fungible.allowanceData_congr_entry (s := s0) rfl
      (OZ.Fungible.spendAllowance_ok hs).2.2.1.symm) (bA.trans ?_)
    split <;> rfl

theorem approveStep_succeeds
    (hmax : 0 < max) (hexp : s.now ≤ exp)
    (happ : (ap = .eager ∨ OZ.Fungible.allowance (tokAt s tok) user p.self < max) →
      subSigned au user (approveInv p tok user max exp) = true ∧ exp ≤ p.cfg.maxLiveUntil s.now) :
    ∃ s1, approveStep p s au tok user max exp ap = .ok s1 := by
  rw [approveStep_eq]
  by_cases hap : ap = .eager ∨ OZ.Fungible.allowance (tokAt s tok) user p.self < max
  · obtain ⟨hs, hl⟩ := happ hap
    obtain ⟨ts, hts⟩ := (OZ.Fungible.approve_exists_ok_iff p.cfg (tokAt s tok) [user] user p.self max exp).2
      ⟨List.mem_singleton.mpr rfl, Int.le_of_lt hmax, hl, fun _ => hexp⟩
    rw [if_pos hap]
    unfold tokenApprove
    rw [if_pos hs, hts]
    exact ⟨_, rfl⟩
  · rw [if_neg hap, (validateExpirationLedger_eq_ok (u := ())).mpr hexp]
    exact ⟨_, rfl⟩

theorem collectFee_succeeds
    (hc : FeeConditions p s au tok fee max exp user rcp ap) :
    ∃ s', collectFee p s au tok fee max exp user rcp ap = .ok s' := by
  have hmax : 0 < max := Int.lt_of_lt_of_le hc.feePos hc.feeMax
  obtain ⟨s1, h4⟩ := approveStep_succeeds hmax hc.notExpired hc.approve
  obtain ⟨t1, _, a2, _, _, _, hA⟩ := approveStep_ok hmax h4
  have hb : (tokAt s1 tok).bal = (s.toks tok).bal := a2
  obtain ⟨ts, hts⟩ := transferFrom_succeeds p.cfg (tokAt s1 tok) [p.self] p.self user rcp fee
    (List.mem_singleton.mpr rfl) hc.feePos
    (by rw [hA]; split
        · exact hc.feeMax
        · rename_i hn
          exact Int.le_trans hc.feeMax (Int.not_lt.mp (fun h => hn (.inr h))))
    (by rw [hA]
        have hnow : (tokAt s1 tok).now = s.now := t1.now
        rw [hnow]
        split
        · rename_i hn; exact (hc.approve hn).2
        · rename_i hn; exact hc.keep hn)
    (by rw [hb]; exact hc.balance)
    (by rw [hb]; exact hc.noOverflow)
  have h5 : tokenTransferFrom p s1 tok user rcp fee = .ok { s1 with toks := upd s1.toks tok ts } := by
    unfold tokenTransferFrom; rw [hts]; rfl
  unfold collectFee
  rw [(ensure_eq_ok (u := ())).mpr hc.token, ok_bind,
    (ensure_eq_ok (u := ())).mpr (decide_eq_true hc.notSelf), ok_bind,
    (validateFeeBounds_eq_ok (u := ())).mpr ⟨hc.feePos, hc.feeMax⟩, ok_bind, h4, ok_bind, h5, ok_bind]
  exact ⟨_, rfl⟩

/-! ### `collect_fee_and_invoke` -/

theorem invokeTarget_eq_ok {i : Inv} :
    invokeTarget s au user i tgt = .ok s' ↔
      (tgt = .ok ∨ (tgt = .needsUser ∧ subSigned au user i = true)) ∧ s' = logCall s i := by
  cases tgt with
  | ok => exact ⟨fun h => ⟨.inl rfl, (Except.ok.inj h).symm⟩, fun h => congrArg _ h.2.symm⟩
  | fail => exact ⟨nofun, fun h => h.1.elim nofun (fun h => nomatch h.1)⟩
  | needsUser =>
    dsimp only [invokeTarget]
    split
    · rename_i hs
      exact ⟨fun h => ⟨.inr ⟨rfl, hs⟩, (Except.ok.inj h).symm⟩, fun h => congrArg _ h.2.symm⟩
    · rename_i hs
      exact ⟨nofun, fun h => h.1.elim nofun (fun h => absurd h.2 hs)⟩

/-- the conditions under which a forward goes through (see `forward_succeeds_iff`) -/
structure ForwardConditions (p : Params) (s : State) (au : Auth) (c : Call) (user rcp : Nat)
    (ap : Approval) (tgt : Target) : Prop where
  /-- the user signed exactly (token, max fee, expiration, target, fn, args) -/
  signed : userSigned au user (tupleOf c) = true
  fee : FeeConditions p s au c.token c.fee c.maxFee c.expiration user rcp ap
  /-- the target call goes through (and, if it demands it, the user signed the nested call) -/
  target : tgt = .ok ∨ (tgt = .needsUser ∧ subSigned au user (targetInv c) = true)

theorem forwarded (h : collectFeeAndInvoke p s au c user rcp ap tgt = .ok s') :
    ForwardConditions p s au c user rcp ap tgt ∧
    ∃ s1, FeeCollected p s s1 c.token c.fee c.maxFee c.expiration user rcp ap ∧
      s' = emit (logCall s1 (targetInv c)) (.forwardExecuted user c.target c.fn c.args) := by
  unfold collectFeeAndInvoke at h
  obtain ⟨_, h1, h⟩ := bind_eq_ok h
  obtain ⟨s1, h2, h⟩ := bind_eq_ok h
  obtain ⟨s2, h3, h⟩ := bind_eq_ok h
  obtain ⟨ht, rfl⟩ := invokeTarget_eq_ok.mp h3
  obtain ⟨pre, post⟩ := collectFee_ok h2
  exact ⟨⟨ensure_eq_ok.mp h1, pre, ht⟩, s1, post, (Except.ok.inj h).symm⟩

theorem collectFeeAndInvoke_succeeds
    (hc : ForwardConditions p s au c user rcp ap tgt) :
    ∃ s', collectFeeAndInvoke p s au c user rcp ap tgt = .ok s' := by
  obtain ⟨s1, h1⟩ := collectFee_succeeds hc.fee
  unfold collectFeeAndInvoke requireAuthForArgs
  rw [(ensure_eq_ok (u := ())).mpr hc.signed, ok_bind, h1, ok_bind,
    invokeTarget_eq_ok.mpr ⟨hc.target, rfl⟩, ok_bind]
  exact ⟨_, rfl⟩

/-! ### the allow-list inside the world machine -/

theorem setAllowedFeeToken_full {a : Bool} (h : setAllowedFeeToken s tok a = .ok s') :
    setAllowed s.al tok a = .ok s'.al ∧ s'.toks = s.toks ∧ s'.now = s.now ∧ s'.calls = s.calls := by
  unfold setAllowedFeeToken at h
  split at h
  · cases h
  · rename_i al hal; injection h with h; subst h; exact ⟨hal, rfl, rfl, rfl⟩

theorem sweepToken_full (h : sweepToken p s tok rcp = .ok s') :
    (s.toks tok).bal p.self ≠ 0 ∧
    (s'.toks tok).bal = OZ.Vault.moved (s.toks tok).bal p.self rcp ((s.toks tok).bal p.self) ∧
    s'.al = s.al ∧ s'.calls = s.calls := by
  unfold sweepToken at h
  split at h
  · cases h
  · rename_i hne
    split at h
    · cases h
    · rename_i s1 hs1
      injection h with h; subst h
      obtain ⟨ts, hr, hts, t1⟩ := liftTok_ok hs1
      obtain ⟨-, -, rfl⟩ := OZ.Fungible.transfer_eq_ok_iff.1 hr
      exact ⟨hne, congrArg OZ.Fungible.State.bal hts, t1.al, t1.calls⟩

theorem collectFeeAndInvoke_al
    (h : collectFeeAndInvoke p s au c user rcp ap tgt = .ok s') :
    s'.al = s.al := by
  obtain ⟨_, s1, post, rfl⟩ := forwarded h
  exact post.al

theorem apply_al {op : Op} (h : apply p s au op = .ok s') :
    s'.al = s.al ∨ ∃ t a, setAllowed s.al t a = .ok s'.al := by
  cases op with
  | mint tok to amt => obtain ⟨_, _, _, t1⟩ := liftTok_ok h; exact .inl t1.al
  | approve tok o sp amt lu => obtain ⟨_, _, _, t1⟩ := liftTok_ok h; exact .inl t1.al
  | advance n => injection h with h; subst h; exact .inl rfl
  | forwardPL c u r tgt => exact .inl (collectFeeAndInvoke_al (forwardPL_eq_ok.mp h).2)
  | forwardPD c u r tgt => exact .inl (collectFeeAndInvoke_al (forwardPD_eq_ok.mp h).2.2)
  | forwardLib c u r ap tgt => exact .inl (collectFeeAndInvoke_al h)
  | setAllowedPD tok o a =>
    exact .inr ⟨tok, a, (setAllowedFeeToken_full (managerSetAllowed_eq_ok.mp h).2.2).1⟩
  | sweepPD tok r o => exact .inl (sweepToken_full (managerSweep_eq_ok.mp h).2.2).2.2.1
  | setAllowedLib tok a => exact .inr ⟨tok, a, (setAllowedFeeToken_full h).1⟩
  | sweepLib tok r => exact .inl (sweepToken_full h).2.2.1

end OZ.FeeForwarder
