import OZ.Lemmas.Votes
import OZ.Lemmas.Fungible
/-
The two token wrappers over the votes library: how the token half of an entry point and the request it sends to
the library hang together (`Feeds`, `base_spec` for each wrapper).
-/
namespace OZ.Votes
open OZ.Host

theorem act_refines {v v' : State} {auth : List Nat} {a : Act} (h : act v auth a = .ok v') :
    run v (a.ops auth) = v' := by
  cases a with
  | nothing => injection h with h
  | move f t n => simp only [Act.ops, run, List.foldl_cons, List.foldl_nil, step, apply]; simp only [act] at h; rw [h]
  | delegate x d => simp only [Act.ops, run, List.foldl_cons, List.foldl_nil, step, apply]; simp only [act] at h; rw [h]
  | advance n => injection h with h

theorem run_append (s : State) (xs ys : List (List Nat × Op)) : run s (xs ++ ys) = run (run s xs) ys := by
  simp [run, List.foldl_append]

def Act.delT : Act → Option (Nat × Nat)
  | .delegate a d => some (a, d)
  | _ => none

def Act.adv : Act → Option Nat
  | .advance n => some n
  | _ => none

def Act.addrs : Act → List Nat
  | .move f t _ => f.toList ++ t.toList
  | .delegate a d => [a, d]
  | _ => []

/-- `out` / `inn`: what a request takes from and gives to the units of `x` -/
def Act.out : Act → Nat → Nat
  | .move f _ n, x => ind f x n
  | _, _ => 0

def Act.inn : Act → Nat → Nat
  | .move _ t n, x => ind t x n
  | _, _ => 0

theorem act_units {v v' : State} {auth : List Nat} {a : Act} (h : act v auth a = .ok v') (x : Nat) :
    v'.units x + a.out x = v.units x + a.inn x ∧ a.out x ≤ v.units x := by
  cases a with
  | nothing => injection h with h; subst h; exact ⟨rfl, Nat.zero_le _⟩
  | move f t n => obtain ⟨_, _, _, rfl, _, _, hu, _⟩ := transfer_moves (s := v) h; exact hu x
  | delegate a d => obtain ⟨_, _, _, rfl, _⟩ := delegate_moves (s := v) h; exact ⟨rfl, Nat.zero_le _⟩
  | advance n => injection h with h; subst h; exact ⟨rfl, Nat.zero_le _⟩

theorem Act.adv_idle {a : Act} {n : Nat} (h : a.adv = some n) (x : Nat) : a.out x = 0 ∧ a.inn x = 0 := by
  cases a with
  | advance k => exact ⟨rfl, rfl⟩
  | nothing => cases h
  | move f t k => cases h
  | delegate b d => cases h

theorem Act.ops_addrs (auth : List Nat) (a : Act) : ∀ y ∈ a.ops auth, y.2.addrs = a.addrs := by
  cases a with
  | nothing => exact fun _ hy => nomatch hy
  | move f t n => intro y hy; cases List.mem_singleton.mp hy; rfl
  | delegate b d => intro y hy; cases List.mem_singleton.mp hy; rfl
  | advance n => intro y hy; cases List.mem_singleton.mp hy; rfl

theorem act_inv {U : List Nat} (hn : U.Nodup) {v v' : State} {auth : List Nat} {a : Act}
    (hU : ∀ z ∈ a.addrs, z ∈ U) (h : act v auth a = .ok v') : (Inv U v → Inv U v') ∧ SamePast v v' := by
  rw [← act_refines h]
  exact ⟨fun hi => run_inv hn hi _ (fun y hy z hz => hU z (Act.ops_addrs auth a y hy ▸ hz)), run_samePast _ _⟩

/-- the request `a` of an entry point with delegation `dT`, ledger movement `ad` and accounts `A`, whose `Base::…`
call took the balances from `b` to `b'`: it asks for that delegation / movement, names only those accounts, and
moves the units as the balances moved -/
structure Feeds (a : Act) (dT : Option (Nat × Nat)) (ad : Option Nat) (A : List Nat) (b b' : Nat → Int) : Prop where
  delT : a.delT = dT
  adv : a.adv = ad
  addrs : ∀ z ∈ a.addrs, z ∈ A
  bal : ∀ x, b' x = b x - (a.out x : Int) + (a.inn x : Int)

theorem Feeds.units {a : Act} {dT : Option (Nat × Nat)} {ad : Option Nat} {A : List Nat} {b b' : Nat → Int}
    {v v' : State} {auth : List Nat} (hf : Feeds a dT ad A b b') (ha : act v auth a = .ok v')
    (hu : ∀ x, (v.units x : Int) = b x) (x : Nat) : (v'.units x : Int) = b' x := by
  have := hu x; have := act_units ha x; have := hf.bal x
  omega

theorem Feeds.idle {a : Act} {dT : Option (Nat × Nat)} {ad : Option Nat} {A : List Nat} {b b' : Nat → Int}
    (hf : Feeds a dT ad A b b') {n : Nat} (hn : ad = some n) : b' = b := by
  funext x
  have := hf.bal x
  rw [(Act.adv_idle (hf.adv.trans hn) x).1, (Act.adv_idle (hf.adv.trans hn) x).2] at this
  omega

theorem natBal {n n' o i : Nat → Nat} (h : ∀ x, n' x + o x = n x + i x ∧ o x ≤ n x) (x : Nat) :
    ((n' x : Nat) : Int) = (n x : Int) - (o x : Int) + (i x : Int) := by
  have := h x; omega

theorem same_bal {b b' : Nat → Int} (h : b' = b) (x : Nat) : b' x = b x - ((0 : Nat) : Int) + ((0 : Nat) : Int) := by
  rw [h]; omega

end OZ.Votes

namespace OZ.Fungible
open OZ.Host

def indI (o : Option Nat) (x : Nat) (amt : Int) : Int := if o = some x then amt else 0

theorem ind_toNat (o : Option Nat) (x : Nat) {amt : Int} (h : 0 ≤ amt) :
    (OZ.Votes.ind o x amt.toNat : Int) = indI o x amt := by
  unfold OZ.Votes.ind indI
  split
  · exact Int.toNat_of_nonneg h
  · rfl

theorem update_bal {s s' : State} {f t : Option Nat} {amt : Int} (h : update s f t amt = .ok s') (x : Nat) :
    s'.bal x = s.bal x - indI f x amt + indI t x amt := by
  obtain ⟨-, -, rfl⟩ := update_eq h
  exact updateSt_bal s f t amt x

end OZ.Fungible

namespace OZ.FungibleVotes
open OZ.Host OZ.Votes OZ.Fungible

def Op.delT : Op → Option (Nat × Nat)
  | .delegate a d => some (a, d)
  | _ => none

def Op.adv : Op → Option Nat
  | .advance n => some n
  | _ => none

theorem moveAct_feeds {s s1 : OZ.Fungible.State} {f t : Option Nat} {amt : Int} (h : update s f t amt = .ok s1)
    {A : List Nat} (hA : ∀ z ∈ f.toList ++ t.toList, z ∈ A) :
    Feeds (moveAct f t amt) none none A s.bal s1.bal := by
  have h0 := (update_eq h).1
  unfold moveAct; split
  · refine ⟨rfl, rfl, hA, fun x => ?_⟩
    show _ = _ - ((ind f x amt.toNat : Nat) : Int) + ((ind t x amt.toNat : Nat) : Int)
    rw [update_bal h x, ind_toNat f x h0, ind_toNat t x h0]
  · have : amt = 0 := by omega
    subst this
    refine ⟨rfl, rfl, nofun, fun x => ?_⟩
    rw [update_bal h x]
    show _ - indI f x 0 + indI t x 0 = _ - ((0 : Nat) : Int) + ((0 : Nat) : Int)
    unfold indI; split <;> split <;> rfl

theorem base_spec {c : Cfg} {tok tok' : OZ.Fungible.State} {auth : List Nat} {op : Op} {a : Act}
    (h : base c tok auth op = .ok (tok', a)) :
    Feeds a op.delT op.adv op.addrs tok.bal tok'.bal := by
  -- every branch of `base` is a `Base::…` call paired with a fixed request
  cases op with
  | mint t amt =>
    obtain ⟨hm, rfl⟩ := map_pair_ok h
    obtain ⟨s1, h1, rfl⟩ := mint_ok hm
    exact moveAct_feeds h1 (fun _ hz => hz)
  | transfer f t amt =>
    obtain ⟨hm, rfl⟩ := map_pair_ok h
    obtain ⟨_, s1, h1, rfl⟩ := transfer_ok hm
    exact moveAct_feeds h1 (fun _ hz => hz)
  | transferFrom sp f t amt =>
    obtain ⟨hm, rfl⟩ := map_pair_ok h
    obtain ⟨_, s0, s1, h0, h1, rfl⟩ := transferFrom_ok hm
    exact (spendAllowance_ok h0).2.1 ▸ moveAct_feeds h1 (fun _ hz => List.mem_cons_of_mem _ hz)
  | approve o sp amt lu =>
    obtain ⟨hm, rfl⟩ := map_pair_ok h
    obtain ⟨_, s0, h0, rfl⟩ := approve_ok hm
    exact ⟨rfl, rfl, fun _ hz => absurd hz List.not_mem_nil, same_bal (setAllowance_ok h0).2.1⟩
  | burn f amt =>
    obtain ⟨hm, rfl⟩ := map_pair_ok h
    obtain ⟨_, s1, h1, rfl⟩ := burn_ok hm
    exact moveAct_feeds h1 (fun _ hz => hz)
  | burnFrom sp f amt =>
    obtain ⟨hm, rfl⟩ := map_pair_ok h
    obtain ⟨_, s0, s1, h0, h1, rfl⟩ := burnFrom_ok hm
    exact (spendAllowance_ok h0).2.1 ▸ moveAct_feeds h1 (fun _ hz => List.mem_cons_of_mem _ hz)
  | delegate b d => cases h; exact ⟨rfl, rfl, fun _ hz => hz, same_bal rfl⟩
  | advance n => cases h; exact ⟨rfl, rfl, fun _ hz => hz, same_bal rfl⟩

theorem apply_ok {c : Cfg} {s s' : State} {auth : List Nat} {op : Op} (h : apply c s auth op = .ok s') :
    ∃ a, base c s.tok auth op = .ok (s'.tok, a) ∧ act s.v auth a = .ok s'.v := by
  unfold apply at h
  split at h
  · cases h
  · rename_i tok a hb
    split at h
    · cases h
    · rename_i v hv
      injection h with h; subst h
      exact ⟨a, hb, hv⟩

theorem exampleApply_ok {c : Cfg} {owner : Nat} {s s' : State} {auth : List Nat} {op : Op}
    (h : exampleApply c owner s auth op = .ok s') : apply c s auth op = .ok s' := by
  cases op with
  | mint t a =>
    simp only [exampleApply] at h
    split at h
    · cases h
    · exact h
  | burn f a => cases h
  | burnFrom sp f a => cases h
  | transfer f t a => exact h
  | transferFrom sp f t a => exact h
  | approve o sp a lu => exact h
  | delegate a d => exact h
  | advance n => exact h

theorem step_refines (c : Cfg) (s : State) (x : List Nat × Op) :
    (step c s x).v = OZ.Votes.run s.v (vops c s x) := by
  unfold step vops
  cases h : apply c s x.1 x.2 with
  | error e => rfl
  | ok s' =>
    obtain ⟨a, hb, ha⟩ := apply_ok h
    simp only [hb]
    exact (act_refines ha).symm

theorem run_refines (c : Cfg) (s : State) (ops : List (List Nat × Op)) :
    (run c s ops).v = OZ.Votes.run s.v (vtrace c s ops) := by
  induction ops generalizing s with
  | nil => rfl
  | cons x xs ih =>
    simp only [run, List.foldl_cons, vtrace]
    rw [run_append, ← step_refines]
    exact ih (step c s x)

theorem vops_addrs (c : Cfg) (s : State) (x : List Nat × Op) :
    ∀ y ∈ vops c s x, ∀ a ∈ y.2.addrs, a ∈ x.2.addrs := by
  unfold vops
  cases h : apply c s x.1 x.2 with
  | error e => exact fun _ hy => nomatch hy
  | ok s' =>
    obtain ⟨a, hb, _⟩ := apply_ok h
    simp only [hb]
    intro y hy z hz
    rw [Act.ops_addrs _ a y hy] at hz
    exact (base_spec hb).addrs z hz

theorem vtrace_addrs (c : Cfg) (U : List Nat) (s : State) (ops : List (List Nat × Op))
    (hU : ∀ x ∈ ops, ∀ a ∈ x.2.addrs, a ∈ U) :
    ∀ y ∈ vtrace c s ops, ∀ a ∈ y.2.addrs, a ∈ U := by
  induction ops generalizing s with
  | nil => intro y hy; cases hy
  | cons x xs ih =>
    intro y hy a ha
    simp only [vtrace, List.mem_append] at hy
    rcases hy with hy | hy
    · exact hU x List.mem_cons_self a (vops_addrs c s x y hy a ha)
    · exact ih (step c s x) (fun z hz => hU z (List.mem_cons_of_mem _ hz)) y hy a ha

end OZ.FungibleVotes

namespace OZ.NonFungibleVotes
open OZ.Host OZ.Votes

theorem update_bal {n n' : Nft} {f t : Option Nat} {id : Nat} (h : update n f t id = .ok n') (x : Nat) :
    n'.bal x + ind f x 1 = n.bal x + ind t x 1 ∧ ind f x 1 ≤ n.bal x := by
  unfold update at h
  split at h
  · cases h
  · rename_i n1 h1
    have e1 : n1.bal x + ind f x 1 = n.bal x ∧ ind f x 1 ≤ n.bal x := by
      unfold updateFrom at h1
      cases f with
      | none => simp only at h1; injection h1 with h1; subst h1; rw [ind_none]; exact ⟨rfl, Nat.zero_le _⟩
      | some a =>
        simp only at h1
        split at h1
        · cases h1
        · split at h1
          · cases h1
          · split at h1
            · cases h1
            · rename_i hlt
              injection h1 with h1; subst h1
              exact upd_sub_ind n.bal a 1 x (Nat.le_of_not_lt hlt)
    have e2 : n'.bal x = n1.bal x + ind t x 1 := by
      unfold updateTo at h
      cases t with
      | none => simp only at h; injection h with h; subst h; rw [ind_none]; rfl
      | some b =>
        simp only at h
        split at h
        · injection h with h; subst h
          exact upd_add_ind n1.bal b 1 x
        · cases h
    omega

theorem baseMove_ok {n n' : Nft} {auth : List Nat} {f : Nat} {t : Option Nat} {id : Nat}
    (h : baseMove n auth f t id = .ok n') : update n (some f) t id = .ok n' := by
  unfold baseMove at h
  split at h
  · cases h
  · exact h

theorem baseMoveFrom_ok {n n' : Nft} {auth : List Nat} {sp f : Nat} {t : Option Nat} {id : Nat}
    (h : baseMoveFrom n auth sp f t id = .ok n') : update n (some f) t id = .ok n' := by
  unfold baseMoveFrom at h
  split at h
  · cases h
  · exact h

theorem baseApprove_bal {c : Cfg} {n n' : Nft} {auth : List Nat} {a b id lu : Nat}
    (h : baseApprove c n auth a b id lu = .ok n') : n'.bal = n.bal := by
  unfold baseApprove at h
  split at h
  · cases h
  · split at h
    · cases h
    · split at h
      · cases h
      · split at h
        · injection h with h; subst h; rfl
        · split at h
          · cases h
          · split at h
            · cases h
            · injection h with h; subst h; rfl

theorem baseApproveForAll_bal {c : Cfg} {n n' : Nft} {auth : List Nat} {o p lu : Nat}
    (h : baseApproveForAll c n auth o p lu = .ok n') : n'.bal = n.bal := by
  unfold baseApproveForAll at h
  split at h
  · cases h
  · split at h
    · injection h with h; subst h; rfl
    · split at h
      · cases h
      · split at h
        · cases h
        · injection h with h; subst h; rfl

def Op.delT : Op → Option (Nat × Nat)
  | .delegate a d => some (a, d)
  | _ => none

def Op.adv : Op → Option Nat
  | .advance n => some n
  | _ => none

theorem base_spec {c : Cfg} {n n' : Nft} {auth : List Nat} {op : Op} {a : Act}
    (h : base c n auth op = .ok (n', a)) :
    Feeds a op.delT op.adv op.addrs (fun x => (n.bal x : Int)) (fun x => (n'.bal x : Int)) := by
  cases op with
  | mint t id =>
    obtain ⟨hm, rfl⟩ := map_pair_ok h
    exact ⟨rfl, rfl, fun _ hz => hz, natBal (update_bal hm)⟩
  | sequentialMint t =>
    obtain ⟨hm, rfl⟩ := map_pair_ok h
    unfold baseSequentialMint at hm
    split at hm
    · exact ⟨rfl, rfl, fun _ hz => hz, natBal (fun x => update_bal hm x)⟩
    · cases hm
  | transfer f t id =>
    obtain ⟨hm, rfl⟩ := map_pair_ok h
    exact ⟨rfl, rfl, fun _ hz => hz, natBal (update_bal (baseMove_ok hm))⟩
  | transferFrom sp f t id =>
    obtain ⟨hm, rfl⟩ := map_pair_ok h
    exact ⟨rfl, rfl, fun _ hz => List.mem_cons_of_mem _ hz, natBal (update_bal (baseMoveFrom_ok hm))⟩
  | burn f id =>
    obtain ⟨hm, rfl⟩ := map_pair_ok h
    exact ⟨rfl, rfl, fun _ hz => hz, natBal (update_bal (baseMove_ok hm))⟩
  | burnFrom sp f id =>
    obtain ⟨hm, rfl⟩ := map_pair_ok h
    exact ⟨rfl, rfl, fun _ hz => List.mem_cons_of_mem _ hz, natBal (update_bal (baseMoveFrom_ok hm))⟩
  | approve x b id lu =>
    obtain ⟨hm, rfl⟩ := map_pair_ok h
    exact ⟨rfl, rfl, fun _ hz => absurd hz List.not_mem_nil, same_bal (by rw [baseApprove_bal hm])⟩
  | approveForAll o p lu =>
    obtain ⟨hm, rfl⟩ := map_pair_ok h
    exact ⟨rfl, rfl, fun _ hz => absurd hz List.not_mem_nil, same_bal (by rw [baseApproveForAll_bal hm])⟩
  | delegate b d => cases h; exact ⟨rfl, rfl, fun _ hz => hz, same_bal rfl⟩
  | advance k => cases h; exact ⟨rfl, rfl, fun _ hz => hz, same_bal rfl⟩

theorem apply_ok {c : Cfg} {s s' : State} {auth : List Nat} {op : Op} (h : apply c s auth op = .ok s') :
    ∃ a, base c s.nft auth op = .ok (s'.nft, a) ∧ act s.v auth a = .ok s'.v := by
  unfold apply at h
  split at h
  · cases h
  · rename_i n a hb
    split at h
    · cases h
    · rename_i v hv
      injection h with h; subst h
      exact ⟨a, hb, hv⟩

theorem step_refines (c : Cfg) (s : State) (x : List Nat × Op) :
    (step c s x).v = OZ.Votes.run s.v (vops c s x) := by
  unfold step vops
  cases h : apply c s x.1 x.2 with
  | error e => rfl
  | ok s' =>
    obtain ⟨a, hb, ha⟩ := apply_ok h
    simp only [hb]
    exact (act_refines ha).symm

theorem run_refines (c : Cfg) (s : State) (ops : List (List Nat × Op)) :
    (run c s ops).v = OZ.Votes.run s.v (vtrace c s ops) := by
  induction ops generalizing s with
  | nil => rfl
  | cons x xs ih =>
    simp only [run, List.foldl_cons, vtrace]
    rw [run_append, ← step_refines]
    exact ih (step c s x)

theorem vops_addrs (c : Cfg) (s : State) (x : List Nat × Op) :
    ∀ y ∈ vops c s x, ∀ a ∈ y.2.addrs, a ∈ x.2.addrs := by
  unfold vops
  cases h : apply c s x.1 x.2 with
  | error e => exact fun _ hy => nomatch hy
  | ok s' =>
    obtain ⟨a, hb, _⟩ := apply_ok h
    simp only [hb]
    intro y hy z hz
    rw [Act.ops_addrs _ a y hy] at hz
    exact (base_spec hb).addrs z hz

theorem vtrace_addrs (c : Cfg) (U : List Nat) (s : State) (ops : List (List Nat × Op))
    (hU : ∀ x ∈ ops, ∀ a ∈ x.2.addrs, a ∈ U) :
    ∀ y ∈ vtrace c s ops, ∀ a ∈ y.2.addrs, a ∈ U := by
  induction ops generalizing s with
  | nil => intro y hy; cases hy
  | cons x xs ih =>
    intro y hy a ha
    simp only [vtrace, List.mem_append] at hy
    rcases hy with hy | hy
    · exact hU x List.mem_cons_self a (vops_addrs c s x y hy a ha)
    · exact ih (step c s x) (fun z hz => hU z (List.mem_cons_of_mem _ hz)) y hy a ha

end OZ.NonFungibleVotes
