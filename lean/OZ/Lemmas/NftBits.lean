import OZ.Lemmas.NftConsecutive
/-
Bit level of the consecutive NFT model: the scans of `owner_of` and `set_ownership_in_bucket`, as coded (100 items
of 32 bits per bucket, most significant bit first), implement the abstract ownership-bit set `bitOf`.
-/
namespace OZ.NftCons
open OZ.Host

theorem and_shift_ne_zero (x i : Nat) : x &&& (1 <<< i) ≠ 0 ↔ x.testBit i = true := by
  rw [Nat.one_shiftLeft]
  constructor
  · intro h
    obtain ⟨k, hk⟩ := Nat.exists_testBit_of_ne_zero h
    rw [Nat.testBit_and, Nat.testBit_two_pow] at hk
    simp at hk
    obtain ⟨h1, h2⟩ := hk
    subst h2; exact h1
  · intro h hz
    have : (x &&& 2 ^ i).testBit i = true := by
      rw [Nat.testBit_and, h, Nat.testBit_two_pow_self]; rfl
    rw [hz] at this; simp at this

theorem scanItem_spec (num : Nat) : ∀ (i : Nat), i ≤ 31 →
    FirstSet (fun q => num.testBit (31 - q)) (31 - i) 32 (scanItem num i)
  | 0, _ => by
    unfold scanItem
    by_cases h : num.testBit 0 = true
    · rw [if_pos ((and_shift_ne_zero _ _).mpr h)]; exact FirstSet.here (by omega) h
    · rw [if_neg (mt (and_shift_ne_zero _ _).mp h)]
      exact FirstSet.next (Bool.eq_false_iff.mpr h) (FirstSet.empty (Nat.le_refl _))
  | i + 1, hi => by
    unfold scanItem
    have e : 31 - (31 - (i + 1)) = i + 1 := by omega
    by_cases h : num.testBit (i + 1) = true
    · rw [if_pos ((and_shift_ne_zero _ _).mpr h)]
      refine FirstSet.here (by omega) ?_
      show num.testBit (31 - (31 - (i + 1))) = true
      rw [e]; exact h
    · rw [if_neg (mt (and_shift_ne_zero _ _).mp h)]
      have ih := scanItem_spec num i (by omega)
      rw [show 31 - i = 31 - (i + 1) + 1 by omega] at ih
      refine FirstSet.next ?_ ih
      show num.testBit (31 - (31 - (i + 1))) = false
      rw [e]; exact Bool.eq_false_iff.mpr h

theorem findBitInItem_spec (inp : Option Nat) (start : Nat) :
    FirstSet (fun q => (inp.getD 0).testBit (31 - q)) start 32 (findBitInItem inp start) := by
  unfold findBitInItem
  cases inp with
  | none => intro q _ _; exact Nat.zero_testBit _
  | some num =>
    simp only [Option.getD_some]
    by_cases h0 : num = 0
    · rw [if_pos h0]; subst h0; intro q _ _; exact Nat.zero_testBit _
    · rw [if_neg h0]
      by_cases hs : start ≥ IDS_IN_ITEM
      · rw [if_pos hs]; exact FirstSet.empty hs
      · rw [if_neg hs]
        unfold IDS_IN_ITEM at hs ⊢
        have := scanItem_spec num (32 - 1 - start) (by omega)
        rwa [show 31 - (32 - 1 - start) = start by omega] at this

theorem findBitInItem_some {inp : Option Nat} {start p : Nat} : findBitInItem inp start = some p ↔
    (start ≤ p ∧ p ≤ 31 ∧ (inp.getD 0).testBit (31 - p) = true ∧
      ∀ q, start ≤ q → q < p → (inp.getD 0).testBit (31 - q) = false) :=
  (findBitInItem_spec inp start).eq_iff.trans (and_congr_right' (and_congr_left' Nat.lt_succ_iff))

theorem findBitInItem_none {inp : Option Nat} {start : Nat} : findBitInItem inp start = none ↔
    (∀ q, start ≤ q → q ≤ 31 → (inp.getD 0).testBit (31 - q) = false) :=
  (findBitInItem_spec inp start).eq_iff.trans
    (forall_congr' fun _ => imp_congr_right fun _ => imp_congr_left Nat.lt_succ_iff)

def bitB (b : List Nat) (p : Nat) : Bool := (b.getD (p / 32) 0).testBit (31 - p % 32)

theorem bitB_item (b : List Nat) (i x : Nat) (hx : x < 32) :
    bitB b (i * 32 + x) = (b[i]?.getD 0).testBit (31 - x) := by
  unfold bitB
  rw [show (i * 32 + x) / 32 = i by omega, show (i * 32 + x) % 32 = x by omega,
    List.getD_eq_getElem?_getD]

/-! Both loops over blocks (items of a bucket, buckets of the store) search the first block
from a relative position and every later block from 0. -/

theorem fromId_self (i rel : Nat) : fromId i i rel = rel := if_pos rfl

theorem fromId_succ {i first : Nat} (rel : Nat) (h : first ≤ i) : fromId (i + 1) first rel = 0 :=
  if_neg (by omega)

theorem fromId_le {rel w : Nat} (i first : Nat) (h : rel < w) : fromId i first rel ≤ w := by
  unfold fromId; split <;> omega

theorem scanBucket_spec (b : List Nat) (itemIndex rel : Nat) (hrel : rel < 32) :
    ∀ (fuel i : Nat), itemIndex ≤ i →
      FirstSet (bitB b) (i * 32 + fromId i itemIndex rel) ((i + fuel) * 32)
        (scanBucket b itemIndex rel fuel i)
  | 0, i, _ => FirstSet.empty (by omega)
  | fuel + 1, i, hi => by
    unfold scanBucket
    have ih := scanBucket_spec b itemIndex rel hrel fuel (i + 1) (by omega)
    rw [fromId_succ rel hi, show (i + 1) * 32 + 0 = i * 32 + 32 by omega,
      show i + 1 + fuel = i + (fuel + 1) by omega] at ih
    have hs := findBitInItem_spec b[i]? (fromId i itemIndex rel)
    cases hfi : findBitInItem b[i]? (fromId i itemIndex rel) with
    | some pi => rw [hfi] at hs; exact FirstSet.block_some (bitB_item b i) (by omega) hs
    | none => rw [hfi] at hs; exact FirstSet.block_none (bitB_item b i) (fromId_le i itemIndex hrel) hs ih

theorem findBitInBucket_spec (b : List Nat) (start : Nat) :
    FirstSet (bitB b) start (b.length * 32) (findBitInBucket b start) := by
  unfold findBitInBucket IDS_IN_ITEM
  by_cases hs : start ≥ b.length * 32
  · rw [if_pos hs]; exact FirstSet.empty hs
  · rw [if_neg hs]
    have := scanBucket_spec b (start / 32) (start % 32) (by omega) (b.length - start / 32) (start / 32)
      (Nat.le_refl _)
    rwa [fromId_self, show start / 32 * 32 + start % 32 = start by omega,
      show start / 32 + (b.length - start / 32) = b.length by omega] at this

theorem findBitInBucket_some {b : List Nat} {start p : Nat} : findBitInBucket b start = some p ↔
    (start ≤ p ∧ p < b.length * 32 ∧ bitB b p = true ∧ ∀ q, start ≤ q → q < p → bitB b q = false) :=
  (findBitInBucket_spec b start).eq_iff

theorem findBitInBucket_none {b : List Nat} {start : Nat} : findBitInBucket b start = none ↔
    (∀ q, start ≤ q → q < b.length * 32 → bitB b q = false) :=
  (findBitInBucket_spec b start).eq_iff

def WFB (bk : Buckets) : Prop := ∀ k b, bk k = some b → b.length = ITEMS_IN_BUCKET

theorem bitB_empty (x : Nat) : bitB emptyBucket x = false := by
  unfold bitB emptyBucket
  rw [List.getD_eq_getElem?_getD, List.getElem?_replicate]
  split <;> simp

theorem bitOf_eq (bk : Buckets) (i : Nat) :
    bitOf bk i = bitB (bucketOrEmpty bk (i / 3200)) (i % 3200) := by
  unfold bitOf bucketOrEmpty IDS_IN_BUCKET IDS_IN_ITEM
  cases bk (i / 3200) with
  | none => exact (bitB_empty _).symm
  | some b => rfl

theorem scanBuckets_spec (bk : Buckets) (hw : WFB bk) (bucketIndex rel : Nat) (hrel : rel < 3200) :
    ∀ (fuel i : Nat), bucketIndex ≤ i →
      FirstSet (bitOf bk) (i * 3200 + fromId i bucketIndex rel) ((i + fuel) * 3200)
        (scanBuckets bk bucketIndex rel fuel i)
  | 0, i, _ => FirstSet.empty (by omega)
  | fuel + 1, i, hi => by
    unfold scanBuckets
    have hfr := fromId_le i bucketIndex hrel
    have ih := scanBuckets_spec bk hw bucketIndex rel hrel fuel (i + 1) (by omega)
    rw [fromId_succ rel hi, show (i + 1) * 3200 + 0 = i * 3200 + 3200 by omega,
      show i + 1 + fuel = i + (fuel + 1) by omega] at ih
    have hb : ∀ x, x < 3200 → bitOf bk (i * 3200 + x) = bitB (bucketOrEmpty bk i) x := by
      intro x hx
      rw [bitOf_eq, show (i * 3200 + x) / 3200 = i by omega, show (i * 3200 + x) % 3200 = x by omega]
    unfold bucketOrEmpty at hb
    cases hbk : bk i with
    | none =>
      rw [hbk] at hb
      exact FirstSet.block_none hb hfr (fun q _ _ => bitB_empty q) ih
    | some b =>
      rw [hbk] at hb
      have hs := findBitInBucket_spec b (fromId i bucketIndex rel)
      rw [show b.length * 32 = 3200 by rw [hw i b hbk]; rfl] at hs
      dsimp only
      cases hfb : findBitInBucket b (fromId i bucketIndex rel) with
      | some pb => rw [hfb] at hs; exact FirstSet.block_some hb (by omega) hs
      | none => rw [hfb] at hs; exact FirstSet.block_none hb hfr hs ih

theorem findInBuckets_spec {bk : Buckets} (hw : WFB bk) {id last : Nat} (hle : id ≤ last) :
    FirstSet (bitOf bk) id ((last / 3200 + 1) * 3200) (findInBuckets bk id last) := by
  unfold findInBuckets IDS_IN_BUCKET
  have := scanBuckets_spec bk hw (id / 3200) (id % 3200) (by omega) (last / 3200 + 1 - id / 3200)
    (id / 3200) (Nat.le_refl _)
  rwa [fromId_self, show id / 3200 * 3200 + id % 3200 = id by omega,
    show id / 3200 + (last / 3200 + 1 - id / 3200) = last / 3200 + 1 by omega] at this

theorem bitB_set (b : List Nat) (a v x : Nat) (ha : a < b.length) :
    bitB (b.set a v) x = if x / 32 = a then v.testBit (31 - x % 32) else bitB b x := by
  unfold bitB
  rw [List.getD_eq_getElem?_getD, List.getElem?_set, List.getD_eq_getElem?_getD]
  by_cases h : x / 32 = a
  · rw [if_pos h, if_pos h.symm, if_pos ha]; rfl
  · rw [if_neg h, if_neg (fun e => h e.symm)]

theorem bucketOrEmpty_length {bk : Buckets} (hw : WFB bk) (k : Nat) :
    (bucketOrEmpty bk k).length = 100 := by
  unfold bucketOrEmpty
  cases h : bk k with
  | none => simp [emptyBucket, ITEMS_IN_BUCKET]
  | some b => exact hw k b h

theorem bucketOrEmpty_upd (bk : Buckets) (k : Nat) (b : List Nat) (k' : Nat) :
    bucketOrEmpty (upd bk k (some b)) k' = if k' = k then b else bucketOrEmpty bk k' := by
  unfold bucketOrEmpty
  by_cases h : k' = k
  · subst h; rw [upd_same, if_pos rfl]
  · rw [upd_other _ _ _ _ h, if_neg h]

theorem setBit_spec {bk : Buckets} (hw : WFB bk) (id : Nat) :
    ∃ bk', setBit bk id = some bk' ∧ WFB bk' ∧ ∀ i, bitOf bk' i = upd (bitOf bk) id true i := by
  unfold setBit setInBucket IDS_IN_BUCKET IDS_IN_ITEM
  have hlen := bucketOrEmpty_length hw (id / 3200)
  have hidx : id % 3200 / 32 < (bucketOrEmpty bk (id / 3200)).length := by rw [hlen]; omega
  rw [List.getElem?_eq_getElem hidx]
  simp only
  have hmask : maskOf (id % 3200 % 32) = 1 <<< (31 - id % 3200 % 32) := by
    unfold maskOf IDS_IN_ITEM; rw [show 32 - id % 3200 % 32 - 1 = 31 - id % 3200 % 32 by omega]
  rw [hmask]
  have hbit : bitOf bk id
      = ((bucketOrEmpty bk (id / 3200))[id % 3200 / 32]'hidx).testBit (31 - id % 3200 % 32) := by
    rw [bitOf_eq]; unfold bitB
    rw [List.getD_eq_getElem?_getD, List.getElem?_eq_getElem hidx]; rfl
  by_cases hset : (bucketOrEmpty bk (id / 3200))[id % 3200 / 32]'hidx &&& 1 <<< (31 - id % 3200 % 32) ≠ 0
  · rw [if_pos hset]
    refine ⟨bk, rfl, hw, ?_⟩
    intro i
    by_cases e : i = id
    · subst e; rw [upd_same, hbit]; exact (and_shift_ne_zero _ _).mp hset
    · rw [upd_other _ _ _ _ e]
  · rw [if_neg hset]
    refine ⟨_, rfl, ?_, ?_⟩
    · intro k b hb
      by_cases e : k = id / 3200
      · subst e; rw [upd_same] at hb; injection hb with hb; subst hb
        rw [List.length_set, hlen]; rfl
      · rw [upd_other _ _ _ _ e] at hb; exact hw k b hb
    · intro i
      rw [bitOf_eq, bucketOrEmpty_upd]
      by_cases hk : i / 3200 = id / 3200
      · rw [if_pos hk, bitB_set _ _ _ _ hidx]
        by_cases hit : i % 3200 / 32 = id % 3200 / 32
        · rw [if_pos hit, Nat.testBit_or, Nat.one_shiftLeft, Nat.testBit_two_pow]
          by_cases e : i = id
          · subst e; rw [upd_same]; simp
          · rw [upd_other _ _ _ _ e]
            have hne : ¬ (31 - id % 3200 % 32 = 31 - i % 3200 % 32) := by omega
            rw [decide_eq_false hne, Bool.or_false, bitOf_eq, hk]
            unfold bitB
            rw [List.getD_eq_getElem?_getD, hit, List.getElem?_eq_getElem hidx]; rfl
        · rw [if_neg hit]
          have e : i ≠ id := by intro e; subst e; exact hit rfl
          rw [upd_other _ _ _ _ e, bitOf_eq, hk]
      · rw [if_neg hk]
        have e : i ≠ id := by intro e; subst e; exact hk rfl
        rw [upd_other _ _ _ _ e, bitOf_eq]

theorem bitOps_impl : Impl bitOps bitOf WFB := by
  refine ⟨?_, ?_⟩
  · intro bk id n hw hlt hbl
    -- the coded scan runs to the end of the last bucket; no bit is set from `n` on
    have h := (findInBuckets_spec hw (show id ≤ n - 1 by omega)).lower (hi' := n) (by omega) hbl
    exact h.eq_iff.mpr (findFrom_spec _ _ _)
  · intro bk id hw
    obtain ⟨bk', h1, h2, h3⟩ := setBit_spec hw id
    exact ⟨bk', h1, h2, funext h3⟩

theorem WFB_empty : WFB noBuckets := by
  intro k b h; cases h

theorem bitOf_empty (i : Nat) : bitOf noBuckets i = false := rfl

theorem init_ginv (now : Nat) : GInv bitOf WFB (init noBuckets now) (fun _ => none) :=
  ⟨CI_init, fun _ => rfl, WFB_empty⟩

end OZ.NftCons
