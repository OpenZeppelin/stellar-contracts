/-
An index by attribute: a map `ent : κ → Option γ` of entries, each with an attribute `attr c : τ`, and per attribute a
list `idx t` of keys. `Ok ent attr idx`: `idx t` lists, once each, exactly the keys whose entry has attribute `t`.
A writer changes one entry and at most the list of its attribute: `Ok.update`.
-/
namespace OZ.AttrIndex

variable {κ γ τ : Type} {ent ent' : κ → Option γ} {attr : γ → τ} {idx idx' : τ → List κ}

structure Ok (ent : κ → Option γ) (attr : γ → τ) (idx : τ → List κ) : Prop where
  nodup : ∀ t, (idx t).Nodup
  mem : ∀ t k, k ∈ idx t ↔ ∃ c, ent k = some c ∧ attr c = t

theorem Ok.update [DecidableEq κ] [DecidableEq τ] (h : Ok ent attr idx) {k : κ} {t : τ} {oc : Option γ} {l : List κ}
    (hE : ∀ x, ent' x = if x = k then oc else ent x) (hI : ∀ x, idx' x = if x = t then l else idx x)
    (hnd : l.Nodup) (hmem : ∀ y, y ≠ k → (y ∈ l ↔ y ∈ idx t)) (hin : k ∈ l ↔ oc.isSome = true)
    (hold : ∀ c0, ent k = some c0 → attr c0 = t) (hnew : ∀ c, oc = some c → attr c = t) : Ok ent' attr idx' := by
  refine ⟨fun x => ?_, fun x y => ?_⟩
  · rw [hI]; split
    · exact hnd
    · exact h.nodup x
  · rw [hI, hE]
    by_cases hy : y = k
    · subst hy
      rw [if_pos rfl]
      by_cases hx : x = t
      · subst hx
        rw [if_pos rfl, hin, Option.isSome_iff_exists]
        exact ⟨fun ⟨c, hc⟩ => ⟨c, hc, hnew c hc⟩, fun ⟨c, hc, _⟩ => ⟨c, hc⟩⟩
      · -- `y` was listed under `t` only, and `oc` belongs under `t`
        rw [if_neg hx, h.mem]
        exact ⟨fun ⟨c0, h0, e⟩ => absurd ((hold c0 h0).symm.trans e).symm hx, fun ⟨c, hc, e⟩ => absurd ((hnew c hc).symm.trans e).symm hx⟩
    · rw [if_neg hy, ← h.mem]
      split
      · next hx => rw [hx]; exact hmem y hy
      · exact Iff.rfl

theorem Ok.insert [DecidableEq κ] [DecidableEq τ] (h : Ok ent attr idx) {k : κ} {c : γ} (hk : ent k = none)
    (hE : ∀ x, ent' x = if x = k then some c else ent x)
    (hI : ∀ x, idx' x = if x = attr c then idx (attr c) ++ [k] else idx x) : Ok ent' attr idx' := by
  have hnot : k ∉ idx (attr c) := fun hm => by
    obtain ⟨c0, h0, -⟩ := (h.mem _ _).1 hm
    rw [hk] at h0; cases h0
  refine h.update hE hI ?_ (fun y hy => ?_) ⟨fun _ => rfl, fun _ => ?_⟩ (fun c0 h0 => by rw [hk] at h0; cases h0)
    (fun _ hc => by cases hc; rfl)
  · exact List.nodup_append.2 ⟨h.nodup _, List.nodup_cons.2 ⟨List.not_mem_nil, List.nodup_nil⟩,
      fun a ha b hb e => hnot ((e.trans (List.mem_singleton.1 hb)) ▸ ha)⟩
  · rw [List.mem_append, List.mem_singleton]; exact ⟨fun h => h.resolve_right hy, Or.inl⟩
  · exact List.mem_append_right _ (List.mem_singleton.2 rfl)

/-- `l` is the list of `attr c` without `k`, however the writer computes it -/
theorem Ok.delete [DecidableEq κ] [DecidableEq τ] (h : Ok ent attr idx) {k : κ} {c : γ} {l : List κ} (hk : ent k = some c)
    (hE : ∀ x, ent' x = if x = k then none else ent x) (hI : ∀ x, idx' x = if x = attr c then l else idx x)
    (hnd : l.Nodup) (hl : ∀ y, y ∈ l ↔ y ∈ idx (attr c) ∧ y ≠ k) : Ok ent' attr idx' :=
  h.update hE hI hnd (fun y hy => by rw [hl]; exact and_iff_left hy)
    ⟨fun hm => absurd rfl ((hl k).1 hm).2, fun hs => by cases hs⟩
    (fun c0 h0 => by rw [hk] at h0; cases h0; rfl) (fun _ hc => by cases hc)

theorem Ok.replace [DecidableEq κ] [DecidableEq τ] (h : Ok ent attr idx) {k : κ} {c0 c : γ} (hk : ent k = some c0)
    (hc : attr c = attr c0) (hE : ∀ x, ent' x = if x = k then some c else ent x) : Ok ent' attr idx :=
  h.update (t := attr c0) (l := idx (attr c0)) hE (fun x => by split <;> simp_all) (h.nodup _) (fun _ _ => Iff.rfl)
    ⟨fun _ => rfl, fun _ => (h.mem _ _).2 ⟨c0, hk, rfl⟩⟩ (fun c1 h1 => by rw [hk] at h1; cases h1; rfl)
    (fun _ h1 => by cases h1; exact hc)

end OZ.AttrIndex
