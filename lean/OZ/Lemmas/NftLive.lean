import OZ.Lemmas.NftAuth
import OZ.Lemmas.NftEnumerable
import OZ.Lemmas.NftConsecutive
/-
"No spurious failure": on states satisfying the invariants the bookkeeping steps (swap-and-pop
upkeep, the owner scan, previous-token marking, bucket updates) never hit their error branches,
so an operation succeeds EXACTLY when the conditions the property talks about hold:
authorization, ownership, approval, and the explicit u32 `checked_add` side conditions.
-/
namespace OZ.Nft
open OZ.Host

theorem requireAuth_eq {auth : List Nat} {a : Nat} (h : a ∈ auth) : requireAuth auth a = .ok () := by
  unfold requireAuth; rw [if_pos h]

theorem requireAuth_error {auth : List Nat} {a : Nat} (h : a ∉ auth) : requireAuth auth a = .error .auth := by
  unfold requireAuth; rw [if_neg h]

/-- what `check_spender_approval` accepts -/
def SpenderOK (c : Core) (sp f id : Nat) : Prop :=
  sp = f ∨ getApproved c id = some sp ∨ isApprovedForAll c f sp = true

theorem checkSpender_eq {c : Core} {sp f id : Nat} (h : SpenderOK c sp f id) :
    checkSpenderApproval c sp f id = .ok () := by
  unfold checkSpenderApproval
  rw [if_neg]
  rintro ⟨h1, h2, h3⟩
  rcases h with e | e | e
  · exact h1 e
  · exact h2 e
  · rw [e] at h3; cases h3

theorem requireAuth_iff {auth : List Nat} {a : Nat} : (∃ u, requireAuth auth a = .ok u) ↔ a ∈ auth := by
  constructor
  · rintro ⟨u, h⟩; exact requireAuth_ok h
  · intro h; exact ⟨(), requireAuth_eq h⟩

theorem checkSpender_iff {c : Core} {sp f id : Nat} :
    (∃ u, checkSpenderApproval c sp f id = .ok u) ↔ SpenderOK c sp f id := by
  constructor
  · rintro ⟨u, h⟩; exact checkSpender_ok h
  · intro h; exact ⟨(), checkSpender_eq h⟩

theorem requireAuth_bind_iff {α : Type} {auth : List Nat} {a : Nat} {k : Except Err α} :
    (∃ v, (requireAuth auth a >>= fun _ => k) = .ok v) ↔ a ∈ auth ∧ ∃ v, k = .ok v :=
  exists_bind_eq_ok_iff.trans
    ⟨fun ⟨_, ha, h⟩ => ⟨requireAuth_ok ha, h⟩, fun ⟨ha, h⟩ => ⟨(), requireAuth_eq ha, h⟩⟩

theorem checkSpender_bind_iff {α : Type} {c : Core} {sp f id : Nat} {k : Except Err α} :
    (∃ v, (checkSpenderApproval c sp f id >>= fun _ => k) = .ok v) ↔ SpenderOK c sp f id ∧ ∃ v, k = .ok v :=
  exists_bind_eq_ok_iff.trans
    ⟨fun ⟨_, hc, h⟩ => ⟨checkSpender_ok hc, h⟩, fun ⟨hc, h⟩ => ⟨(), checkSpender_eq hc, h⟩⟩

theorem pure_pair_iff {α β : Type} {x : Except Err α} {b : β} :
    (∃ p : α × β, (x >>= fun a => pure (a, b)) = .ok p) ↔ ∃ a, x = .ok a := by
  constructor
  · rintro ⟨p, h⟩
    obtain ⟨a, ha, _⟩ := bind_eq_ok h
    exact ⟨a, ha⟩
  · rintro ⟨a, ha⟩
    rw [ha]; exact ⟨(a, b), rfl⟩

theorem guarded_iff {α : Type} {auth : List Nat} {a : Nat} {k : Except Err α} {r : Option Nat} {P : Prop}
    (hk : (∃ v, k = .ok v) ↔ P) :
    (∃ p, ((requireAuth auth a >>= fun _ => k) >>= fun x => pure (x, r)) = .ok p) ↔ a ∈ auth ∧ P :=
  pure_pair_iff.trans (requireAuth_bind_iff.trans (and_congr_right fun _ => hk))

theorem spender_guarded_iff {α : Type} {auth : List Nat} {c : Core} {sp f id : Nat} {k : Except Err α}
    {r : Option Nat} {P : Prop} (hk : (∃ v, k = .ok v) ↔ P) :
    (∃ p, ((requireAuth auth sp >>= fun _ => checkSpenderApproval c sp f id >>= fun _ => k) >>= fun x =>
      pure (x, r)) = .ok p) ↔ sp ∈ auth ∧ SpenderOK c sp f id ∧ P :=
  guarded_iff (checkSpender_bind_iff.trans (and_congr_right fun _ => hk))

/-- `own`: the owner map of the base / enumerable flavour, the plain map of the consecutive one. The last conjunct
of the transfers is the `checked_add` on the recipient's balance, evaluated — as in the code —
after the sender's balance went down by one. -/
def MoveOK (c : Core) (own : Nat → Option Nat) (auth : List Nat) : Op → Prop
  | .transfer f t id => f ∈ auth ∧ own id = some f ∧ upd c.bal f (c.bal f - 1) t + 1 ≤ U32_MAX
  | .transferFrom sp f t id =>
    sp ∈ auth ∧ SpenderOK c sp f id ∧ own id = some f ∧ upd c.bal f (c.bal f - 1) t + 1 ≤ U32_MAX
  | .burn f id => f ∈ auth ∧ own id = some f
  | .burnFrom sp f id => sp ∈ auth ∧ SpenderOK c sp f id ∧ own id = some f
  | _ => False

theorem apply_move_iff (cfg : Cfg) {s : State} {auth : List Nat} {op : Op}
    (hpos : ∀ f id, s.owner id = some f → 1 ≤ s.bal f) (hm : op.moves.isSome = true) :
    (∃ p, apply cfg s auth op = .ok p) ↔ MoveOK s.toCore s.owner auth op := by
  -- an owner has a balance, so that conjunct of `update`'s condition is implied
  have hU : ∀ f to id, (∃ s', update s (some f) to id = .ok s') ↔
      (s.owner id = some f ∧ CreditOK (upd s.bal f (s.bal f - 1)) to) := fun f to id =>
    ⟨fun ⟨_, h⟩ => let ⟨a, _, c, _⟩ := update_from_eq_ok_iff.mp h; ⟨a, c⟩,
     fun ⟨a, c⟩ => ⟨_, update_from_eq_ok_iff.mpr ⟨a, hpos f id a, c, rfl⟩⟩⟩
  cases op with
  | transfer f t id => exact guarded_iff (hU f (some t) id)
  | transferFrom sp f t id => exact spender_guarded_iff (hU f (some t) id)
  | burn f id => exact guarded_iff ((hU f none id).trans (and_iff_left trivial))
  | burnFrom sp f id => exact spender_guarded_iff ((hU f none id).trans (and_iff_left trivial))
  | mintSeq to | mint to id | batchMint to n | approve ap a id lu | approveForAll o p lu | advance n =>
    cases hm

theorem Inv.owner_pos {L : List Nat} {s : State} (hi : Inv L s) (f id : Nat) (h : s.owner id = some f) :
    1 ≤ s.bal f := by
  rw [hi.bal f]
  exact cnt_pos ((hi.mem id).mpr (by rw [h]; rfl)) h

theorem sequentialMint_iff {s : State} {to : Nat} :
    (∃ p, sequentialMint s to = .ok p) ↔ (s.nextId + 1 ≤ U32_MAX ∧ s.bal to + 1 ≤ U32_MAX) := by
  constructor
  · rintro ⟨⟨s', id⟩, h⟩
    obtain ⟨_, hle, hu⟩ := sequentialMint_ok h
    exact ⟨hle, (update_mint_eq_ok_iff.mp hu).1⟩
  · rintro ⟨h1, h2⟩
    unfold sequentialMint
    have hi : incrementTokenId s.toCore 1 = .ok ({ s.toCore with nextId := s.nextId + 1 }, s.nextId) := by
      unfold incrementTokenId; rw [if_neg (by show ¬ s.nextId + 1 > U32_MAX; omega)]
    rw [hi, ok_bind]
    simp only
    rw [(update_mint_eq_ok_iff (s := { s with nextId := s.nextId + 1 })).mpr ⟨h2, rfl⟩]
    exact ⟨_, rfl⟩

theorem approveForOwner_iff {cfg : Cfg} {c : Core} {o ap a id lu : Nat} :
    (∃ c', approveForOwner cfg c o ap a id lu = .ok c') ↔
      ((ap = o ∨ isApprovedForAll c o ap = true) ∧ LiveUntilOK cfg c.now lu) :=
  ⟨fun ⟨_, h⟩ => let ⟨h1, h2, _⟩ := approveForOwner_eq_ok_iff.mp h; ⟨h1, h2⟩,
   fun ⟨h1, h2⟩ => ⟨_, approveForOwner_eq_ok_iff.mpr ⟨h1, h2, rfl⟩⟩⟩

theorem approveForAll_iff {cfg : Cfg} {c : Core} {auth : List Nat} {o p lu : Nat} :
    (∃ c', approveForAll cfg c auth o p lu = .ok c') ↔ (o ∈ auth ∧ LiveUntilOK cfg c.now lu) :=
  ⟨fun ⟨_, h⟩ => let ⟨h1, h2, _⟩ := approveForAll_eq_ok_iff.mp h; ⟨h1, h2⟩,
   fun ⟨h1, h2⟩ => ⟨_, approveForAll_eq_ok_iff.mpr ⟨h1, h2, rfl⟩⟩⟩

/-- `O`: the flavour's `owner_of`, reading the ownership view `own` -/
theorem approve_iff_of {σ : Type} {cfg : Cfg} {c : Core} {auth : List Nat} {ap a id lu : Nat}
    {own : Nat → Option Nat} {O : Except Err Nat} {mk : Core → σ} (hO : ∀ o, O = .ok o ↔ own id = some o) :
    (∃ s', (requireAuth auth ap >>= fun _ => O >>= fun o =>
      approveForOwner cfg c o ap a id lu >>= fun c' => pure (mk c')) = .ok s') ↔
      (ap ∈ auth ∧ ∃ o, own id = some o ∧ (ap = o ∨ isApprovedForAll c o ap = true) ∧ LiveUntilOK cfg c.now lu) := by
  refine requireAuth_bind_iff.trans (and_congr_right fun _ => exists_bind_eq_ok_iff.trans (exists_congr fun o => ?_))
  rw [hO, exists_bind_eq_ok_iff, ← approveForOwner_iff]
  exact and_congr_right fun _ => exists_congr fun c' => and_iff_left ⟨_, rfl⟩

theorem approve_iff (cfg : Cfg) {s : State} {auth : List Nat} {ap a id lu : Nat} :
    (∃ s', approve cfg s auth ap a id lu = .ok s') ↔
      (ap ∈ auth ∧ ∃ o, s.owner id = some o ∧ (ap = o ∨ isApprovedForAll s.toCore o ap = true) ∧
        LiveUntilOK cfg s.now lu) :=
  approve_iff_of fun _ => ⟨ownerOf_ok, fun h => by unfold ownerOf; rw [h]⟩

end OZ.Nft

namespace OZ.NftEnum
open OZ.Host OZ.Nft

theorem apply_move_iff_base (cfg : Cfg) {s : State} {auth : List Nat} {op : Op} (hi : EInv s)
    (hm : op.moves.isSome = true) :
    (∃ p, apply cfg s auth op = .ok p) ↔ (∃ p, Nft.apply cfg s.toState auth op = .ok p) := by
  constructor
  · rintro ⟨⟨s', r⟩, h⟩; exact ⟨_, apply_base cfg h⟩
  · rintro ⟨⟨b, r⟩, h⟩
    have hr := Nft.apply_ran h
    cases op with
    | transfer f t id | transferFrom sp f t id =>
      obtain ⟨b', h1, hp⟩ := bind_eq_ok h
      cases pure_eq_ok hp
      obtain ⟨hown0, _, _, hb⟩ := update_from_eq_ok_iff.mp hr.2.1
      obtain ⟨s2, h2, _⟩ := moveInOwner_total (s := { s with toState := b }) (own0 := s.owner)
        (bal0 := s.bal) hi.glob hi.own hown0 (by rw [hb]) (by rw [hb]; rfl)
      refine ⟨(s2, none), ?_⟩
      simp only [apply, transfer, transferFrom]
      rw [h1, ok_bind, h2]; rfl
    | burn f id | burnFrom sp f id =>
      obtain ⟨b', h1, hp⟩ := bind_eq_ok h
      cases pure_eq_ok hp
      obtain ⟨hown0, _, _, hb⟩ := update_from_eq_ok_iff.mp hr.2.1
      obtain ⟨s2, h2, _⟩ := removeFromEnumerations_total (s := { s with toState := b }) (own0 := s.owner)
        (bal0 := s.bal) hi.glob hi.own hown0 (by rw [hb]) (by rw [hb]; rfl)
      refine ⟨(s2, none), ?_⟩
      simp only [apply, burn, burnFrom]
      rw [h1, ok_bind, h2]; rfl
    | mintSeq to | mint to id | batchMint to n | approve ap a id lu | approveForAll o p lu | advance n =>
      cases hm

theorem sequentialMint_iff {s : State} {to : Nat} :
    (∃ p, sequentialMint s to = .ok p) ↔
      (s.nextId + 1 ≤ U32_MAX ∧ s.bal to + 1 ≤ U32_MAX ∧ s.total + 1 ≤ U32_MAX) := by
  unfold sequentialMint
  constructor
  · rintro ⟨⟨s', id⟩, h⟩
    obtain ⟨⟨b, id'⟩, h1, h⟩ := bind_eq_ok h
    obtain ⟨s3, h3, _⟩ := bind_eq_ok h
    obtain ⟨ha, hb⟩ := Nft.sequentialMint_iff.mp ⟨_, h1⟩
    exact ⟨ha, hb, (addToEnumerations_eq_ok_iff.mp h3).2.1⟩
  · rintro ⟨h1, h2, h3⟩
    obtain ⟨⟨b, id⟩, hb⟩ := Nft.sequentialMint_iff.mpr ⟨h1, h2⟩
    obtain ⟨_, _, hu⟩ := sequentialMint_ok hb
    have hpos : 1 ≤ b.bal to := by
      rw [(update_mint_eq_ok_iff.mp hu).2]
      show 1 ≤ upd s.bal to (s.bal to + 1) to
      rw [upd_same]; omega
    rw [hb, ok_bind]
    simp only
    rw [(addToEnumerations_eq_ok_iff (s := { s with toState := b })).mpr ⟨hpos, h3, rfl⟩]
    exact ⟨_, rfl⟩

theorem EInv.owner_pos {s : State} (hi : EInv s) (f id : Nat) (h : s.owner id = some f) : 1 ≤ s.bal f :=
  OLists.pos hi.own h

end OZ.NftEnum

namespace OZ.NftCons
open OZ.Host OZ.Nft

section
variable {β : Type} {B : BitOps β} {g : β → Nat → Bool} {W : β → Prop}

theorem update_from_iff (hI : Impl B g W) {s : State β} {spec : Nat → Option Nat} {f id : Nat}
    {to : Option Nat} (hi : GInv g W s spec) :
    (∃ s', update B s (some f) to id = .ok s') ↔
      (spec id = some f ∧ CreditOK (upd s.bal f (s.bal f - 1)) to) :=
  ⟨fun ⟨_, h⟩ => ⟨(update_from_impl hI hi h).1, (update_from_core_eq B h).2.1⟩,
   fun ⟨hs, hb⟩ => let ⟨s', h, _⟩ := update_from_total hI hi hs hb; ⟨s', h⟩⟩

theorem apply_move_iff (hI : Impl B g W) (cfg : Cfg) {s : State β} {spec : Nat → Option Nat}
    {auth : List Nat} {op : Op} (hi : GInv g W s spec) (hm : op.moves.isSome = true) :
    (∃ p, apply B cfg s auth op = .ok p) ↔ MoveOK s.toCore spec auth op := by
  cases op with
  | transfer f t id => exact guarded_iff (update_from_iff hI hi)
  | transferFrom sp f t id => exact spender_guarded_iff (update_from_iff hI hi)
  | burn f id => exact guarded_iff ((update_from_iff hI hi).trans (and_iff_left trivial))
  | burnFrom sp f id => exact spender_guarded_iff ((update_from_iff hI hi).trans (and_iff_left trivial))
  | mintSeq to | mint to id | batchMint to n | approve ap a id lu | approveForAll o p lu | advance n =>
    cases hm

theorem batchMint_iff (hI : Impl B g W) {s : State β} {to n : Nat} (hW : W s.bits) :
    (∃ p, batchMint B s to n = .ok p) ↔
      (1 ≤ n ∧ n ≤ MAX_TOKENS_IN_BATCH ∧ s.nextId + n ≤ U32_MAX ∧ s.bal to + n ≤ U32_MAX) :=
  ⟨fun ⟨_, h⟩ => (batchMint_did B h).1,
   fun ⟨hn, hm, hc, hb⟩ => let ⟨_, h, _⟩ := batchMint_total hI hW hn hm hc hb; ⟨_, h⟩⟩

theorem approve_iff (hI : Impl B g W) (cfg : Cfg) {s : State β} {spec : Nat → Option Nat}
    (hi : GInv g W s spec) {auth : List Nat} {ap a id lu : Nat} :
    (∃ s', approve B cfg s auth ap a id lu = .ok s') ↔
      (ap ∈ auth ∧ ∃ o, spec id = some o ∧ (ap = o ∨ isApprovedForAll s.toCore o ap = true) ∧
        LiveUntilOK cfg s.now lu) :=
  approve_iff_of fun _ => by rw [← ownerOf_impl_spec hI hi id]; exact toOption_eq_some.symm

end

end OZ.NftCons
