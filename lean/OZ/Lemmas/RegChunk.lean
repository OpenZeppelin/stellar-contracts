import OZ.Lemmas.RegList
/-
Bucketed vectors (C20: token binder, buckets of 100; document manager, buckets of 50).
A registry that stores the flat list `l` as buckets `b ↦ chunk B l b`; the three edits the code
performs on buckets (push to the last bucket, overwrite one slot, pop the last bucket) are the
corresponding edits of the flat list: each changes the flat list at one index, hence one bucket
(`chunk_eq_updD`), and inside it a bucket is the window `take B ∘ drop (B * b)`, with which `set`,
`++ [x]` and `dropLast` commute. Swap-and-pop is `eraseIdx` up to order.
-/
namespace OZ.Reg

def chunk {α : Type} (B : Nat) (l : List α) (b : Nat) : List α := (l.drop (B * b)).take B

variable {α : Type}

theorem getElem?_chunk (B : Nat) (l : List α) (b j : Nat) :
    (chunk B l b)[j]? = if j < B then l[B * b + j]? else none := by
  simp [chunk, List.getElem?_take, List.getElem?_drop]

theorem length_chunk (B : Nat) (l : List α) (b : Nat) : (chunk B l b).length = min B (l.length - B * b) := by
  simp [chunk, List.length_take, List.length_drop]

theorem chunk_sublist (B : Nat) (l : List α) (b : Nat) : (chunk B l b).Sublist l :=
  (List.take_sublist _ _).trans (List.drop_sublist _ _)

/-- bucket `b` holds the indices `B * b ≤ i < B * b + B`; with this the arithmetic below is linear in `B * b` -/
theorem eq_div_iff {B : Nat} (hB : 0 < B) (i b : Nat) : b = i / B ↔ B * b ≤ i ∧ i < B * b + B := by
  constructor
  · rintro rfl
    have := Nat.div_add_mod i B
    have := Nat.mod_lt i hB
    omega
  · rintro ⟨h1, h2⟩
    exact (Nat.div_eq_of_lt_le (by rw [Nat.mul_comm]; exact h1) (by rw [Nat.succ_mul, Nat.mul_comm]; exact h2)).symm

/-- `get_*_by_index`: slot `i % B` of bucket `i / B` is element `i` of the flat list -/
theorem getElem?_chunk_div (B : Nat) (hB : 0 < B) (l : List α) (i : Nat) :
    (chunk B l (i / B))[i % B]? = l[i]? := by
  rw [getElem?_chunk, if_pos (Nat.mod_lt i hB), Nat.div_add_mod]

theorem mod_lt_length_chunk (B : Nat) (hB : 0 < B) (l : List α) {i : Nat} (hi : i < l.length) :
    i % B < (chunk B l (i / B)).length := by
  have := Nat.div_add_mod i B
  have := Nat.mod_lt i hB
  rw [length_chunk]
  omega

theorem chunk_div_ne_nil (B : Nat) (hB : 0 < B) (l : List α) {i : Nat} (hi : i < l.length) :
    chunk B l (i / B) ≠ [] :=
  List.ne_nil_of_length_pos (Nat.lt_of_le_of_lt (Nat.zero_le _) (mod_lt_length_chunk B hB l hi))

theorem chunk_congr (B : Nat) (l l' : List α) (b : Nat) (h : ∀ j, j < B → l[B * b + j]? = l'[B * b + j]?) :
    chunk B l b = chunk B l' b := by
  apply List.ext_getElem?
  intro j
  rw [getElem?_chunk, getElem?_chunk]
  split
  · rename_i hj; exact h j hj
  · rfl

theorem chunk_eq_updD {B : Nat} (hB : 0 < B) {l l' : List α} {k : Nat} (h : ∀ i, i ≠ k → l'[i]? = l[i]?) :
    chunk B l' = updD (chunk B l) (k / B) (chunk B l' (k / B)) := by
  funext b
  unfold updD
  split
  · rename_i e; rw [e]
  · rename_i hne
    exact chunk_congr B _ _ b fun j hj => h _ fun e => hne ((eq_div_iff hB k b).2 (by omega))

theorem chunk_set (B : Nat) (hB : 0 < B) (l : List α) (i : Nat) (x : α) :
    chunk B (l.set i x) = updD (chunk B l) (i / B) ((chunk B l (i / B)).set (i % B) x) := by
  rw [chunk_eq_updD hB (l := l) (k := i) fun j hj => List.getElem?_set_ne (Ne.symm hj)]
  congr 1
  have := Nat.div_add_mod i B
  unfold chunk
  rw [List.drop_set, if_neg (by omega), List.take_set, show i - B * (i / B) = i % B by omega]

theorem chunk_append (B : Nat) (hB : 0 < B) (l : List α) (x : α) :
    chunk B (l ++ [x]) = updD (chunk B l) (l.length / B) (chunk B l (l.length / B) ++ [x]) := by
  rw [chunk_eq_updD hB (l := l) (k := l.length) fun j hj => by
    rw [List.getElem?_append]; split
    · rfl
    · rw [List.getElem?_singleton, if_neg (by omega)]; exact (List.getElem?_eq_none_iff.2 (by omega)).symm]
  congr 1
  have := Nat.div_add_mod l.length B
  have := Nat.mod_lt l.length hB
  unfold chunk
  rw [List.drop_append_of_le_length (by omega), List.take_append, List.take_of_length_le (by rw [List.length_drop]; omega),
    List.take_of_length_le (l := [x]) (by rw [List.length_drop, List.length_singleton]; omega)]

theorem chunk_dropLast (B : Nat) (hB : 0 < B) (l : List α) (hl : l ≠ []) :
    chunk B l.dropLast =
      updD (chunk B l) ((l.length - 1) / B) (chunk B l ((l.length - 1) / B)).dropLast := by
  have hpos : 0 < l.length := List.length_pos_iff.2 hl
  rw [chunk_eq_updD hB (l := l) (k := l.length - 1) fun j hj => by
    rw [List.getElem?_dropLast]; split
    · rfl
    · exact (List.getElem?_eq_none_iff.2 (by omega)).symm]
  congr 1
  have := Nat.div_add_mod (l.length - 1) B
  have := Nat.mod_lt (l.length - 1) hB
  unfold chunk
  -- the last bucket is the whole tail from `B * b` on, before and after the pop
  rw [List.take_of_length_le (l := List.drop _ l) (by rw [List.length_drop]; omega),
    List.take_of_length_le (by rw [List.length_drop, List.length_dropLast]; omega),
    List.dropLast_eq_take, List.dropLast_eq_take, List.drop_take, List.length_drop]
  congr 1
  omega

theorem flatMap_chunk_take (B : Nat) (l : List α) (k : Nat) :
    (List.range k).flatMap (chunk B l) = l.take (B * k) := by
  induction k with
  | zero => simp
  | succ k ih =>
    rw [List.range_succ, List.flatMap_append, ih, List.flatMap_singleton, Nat.mul_succ, List.take_add]
    rfl

theorem flatMap_chunk (B : Nat) (hB : 0 < B) (l : List α) :
    (List.range ((l.length - 1) / B + 1)).flatMap (chunk B l) = l := by
  rw [flatMap_chunk_take]
  apply List.take_of_length_le
  have := ((eq_div_iff hB (l.length - 1) _).1 rfl).2
  rw [Nat.mul_succ]
  omega

theorem mem_chunk_iff (B : Nat) (hB : 0 < B) (l : List α) (x : α) :
    (∃ b, b ∈ List.range ((l.length - 1) / B + 1) ∧ x ∈ chunk B l b) ↔ x ∈ l := by
  rw [← List.mem_flatMap, flatMap_chunk B hB]

def swapPop (l : List α) (idx : Nat) : List α :=
  if idx ≠ l.length - 1 then
    match l[l.length - 1]? with
    | some last => (l.set idx last).dropLast
    | none => l.dropLast
  else l.dropLast

theorem swapPop_last (l : List α) : swapPop l (l.length - 1) = l.dropLast := by
  unfold swapPop; rw [if_neg (fun h => h rfl)]

theorem swapPop_of_ne (l : List α) {idx : Nat} (h : idx ≠ l.length - 1) {e : α} (he : l[l.length - 1]? = some e) :
    swapPop l idx = (l.set idx e).dropLast := by
  unfold swapPop; rw [if_pos h, he]

/-- slot `idx` is overwritten with the last element, then the last bucket is popped -/
theorem chunk_swapPop_of_ne (B : Nat) (hB : 0 < B) (l : List α) {idx : Nat} (h : idx ≠ l.length - 1) {e : α}
    (he : l[l.length - 1]? = some e) :
    chunk B (swapPop l idx) =
      updD (updD (chunk B l) (idx / B) ((chunk B l (idx / B)).set (idx % B) e)) ((l.length - 1) / B)
        (updD (chunk B l) (idx / B) ((chunk B l (idx / B)).set (idx % B) e) ((l.length - 1) / B)).dropLast := by
  have hne : l.set idx e ≠ [] := by
    intro h0
    rw [List.set_eq_nil_iff] at h0
    rw [h0] at he
    cases he
  rw [swapPop_of_ne l h he, chunk_dropLast B hB _ hne, List.length_set, chunk_set B hB]

theorem getElem?_swapPop (l : List α) (idx : Nat) (hidx : idx < l.length) (j : Nat) :
    (swapPop l idx)[j]? = if j < l.length - 1 then (if j = idx then l[l.length - 1]? else l[j]?) else none := by
  unfold swapPop
  have hlast : l[l.length - 1]? = some (l[l.length - 1]'(by omega)) := List.getElem?_eq_getElem (by omega)
  split
  · rename_i hne
    rw [hlast]
    simp only [List.getElem?_dropLast, List.length_set, List.getElem?_set]
    by_cases hj : j < l.length - 1
    · rw [if_pos hj, if_pos hj]
      by_cases h1 : j = idx
      · rw [if_pos h1.symm, if_pos hidx, if_pos h1]
      · rw [if_neg (fun h => h1 h.symm), if_neg h1]
    · rw [if_neg hj, if_neg hj]
  · rename_i heq
    simp only [List.getElem?_dropLast]
    by_cases hj : j < l.length - 1
    · rw [if_pos hj, if_pos hj, if_neg (by omega)]
    · rw [if_neg hj, if_neg hj]

theorem length_swapPop (l : List α) (idx : Nat) : (swapPop l idx).length = l.length - 1 := by
  unfold swapPop
  split
  · split <;> simp
  · simp

theorem set_perm_cons_eraseIdx (a : α) : ∀ (xs : List α) (i : Nat), i < xs.length →
    (xs.set i a).Perm (a :: xs.eraseIdx i)
  | _ :: _, 0, _ => List.Perm.refl _
  | x :: xs, i + 1, h =>
    ((set_perm_cons_eraseIdx a xs i (Nat.lt_of_succ_lt_succ h)).cons x).trans (List.Perm.swap a x _)

theorem swapPop_perm (l : List α) {idx : Nat} (hidx : idx < l.length) : (swapPop l idx).Perm (l.eraseIdx idx) := by
  have hne : l ≠ [] := List.ne_nil_of_length_pos (Nat.zero_lt_of_lt hidx)
  obtain ⟨xs, e, rfl⟩ : ∃ xs e, l = xs ++ [e] := ⟨_, _, (List.dropLast_concat_getLast hne).symm⟩
  have hlen : (xs ++ [e]).length - 1 = xs.length := by simp
  have hlast : (xs ++ [e])[xs.length]? = some e := by simp
  unfold swapPop
  rw [hlen, hlast]
  dsimp only
  by_cases h : idx = xs.length
  · subst h
    rw [if_neg (fun h => h rfl), List.dropLast_concat, List.eraseIdx_append_of_length_le (Nat.le_refl _)]
    simp
  · have hlt : idx < xs.length := by rw [List.length_append, List.length_singleton] at hidx; omega
    rw [if_pos h, List.set_append_left _ _ hlt, List.dropLast_concat, List.eraseIdx_append_of_lt_length hlt]
    exact (set_perm_cons_eraseIdx e xs idx hlt).trans (List.perm_append_singleton e _).symm

theorem mem_swapPop (l : List α) (hnd : l.Nodup) (idx : Nat) (t : α) (ht : l[idx]? = some t) (x : α) :
    x ∈ swapPop l idx ↔ x ∈ l ∧ x ≠ t := by
  obtain ⟨hidx, rfl⟩ := List.getElem?_eq_some_iff.1 ht
  rw [(swapPop_perm l hidx).mem_iff, List.mem_eraseIdx_iff_getElem?]
  constructor
  · rintro ⟨i, hi, hx⟩
    exact ⟨List.mem_of_getElem? hx, fun e => hi (nodup_index_inj l hnd i idx _ (e ▸ hx) ht)⟩
  · rintro ⟨hx, hne⟩
    obtain ⟨i, hi⟩ := List.mem_iff_getElem?.1 hx
    exact ⟨i, fun e => hne (Option.some.inj ((e ▸ hi).symm.trans ht)), hi⟩

theorem nodup_swapPop (l : List α) (hnd : l.Nodup) (idx : Nat) (hidx : idx < l.length) :
    (swapPop l idx).Nodup :=
  (swapPop_perm l hidx).nodup_iff.2 (hnd.eraseIdx idx)

theorem map_swapPop {β : Type} (f : α → β) (l : List α) (idx : Nat) (hidx : idx < l.length) :
    (swapPop l idx).map f = swapPop (l.map f) idx := by
  apply List.ext_getElem?
  intro j
  rw [List.getElem?_map, getElem?_swapPop l idx hidx, getElem?_swapPop (l.map f) idx (by simpa using hidx)]
  simp only [List.length_map, List.getElem?_map]
  split
  · split <;> rfl
  · rfl

end OZ.Reg
