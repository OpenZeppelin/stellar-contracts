import OZ.Lemmas.TempMap
import OZ.Model.Fungible
import OZ.Lemmas.Comp
/- The checked i128 operations of the translator's semantics, for the translations of the fungible token. -/
namespace OZ.Gen
open OZ.Rs

theorem i128_sub_ok {a b : Int} (h : OZ.MulDiv.in128 (a - b)) : i128_sub a b = .ok (a - b) := by
  unfold i128_sub OZ.MulDiv.chk128; rw [if_pos h]; rfl
theorem i128_sub_panic {a b : Int} (h : ¬ OZ.MulDiv.in128 (a - b)) : i128_sub a b = .panic := by
  unfold i128_sub OZ.MulDiv.chk128; rw [if_neg h]; rfl
theorem i128_add_ok {a b : Int} (h : OZ.MulDiv.in128 (a + b)) : i128_add a b = .ok (a + b) := by
  unfold i128_add OZ.MulDiv.chk128; rw [if_pos h]; rfl
theorem i128_add_panic {a b : Int} (h : ¬ OZ.MulDiv.in128 (a + b)) : i128_add a b = .panic := by
  unfold i128_add OZ.MulDiv.chk128; rw [if_neg h]; rfl

theorem i128_add_ok_iff {a b v : Int} : i128_add a b = .ok v ↔ OZ.MulDiv.in128 (a + b) ∧ v = a + b := by
  by_cases h : OZ.MulDiv.in128 (a + b)
  · rw [i128_add_ok h]; exact ⟨fun e => ⟨h, (Comp.ok.inj e).symm⟩, fun e => e.2 ▸ rfl⟩
  · rw [i128_add_panic h]; exact ⟨nofun, fun e => absurd e.1 h⟩

theorem i128_sub_ok_iff {a b v : Int} : i128_sub a b = .ok v ↔ OZ.MulDiv.in128 (a - b) ∧ v = a - b := by
  by_cases h : OZ.MulDiv.in128 (a - b)
  · rw [i128_sub_ok h]; exact ⟨fun e => ⟨h, (Comp.ok.inj e).symm⟩, fun e => e.2 ▸ rfl⟩
  · rw [i128_sub_panic h]; exact ⟨nofun, fun e => absurd e.1 h⟩

theorem in128_zero : OZ.MulDiv.in128 0 := by
  simp [OZ.MulDiv.in128, OZ.MulDiv.I128_MIN, OZ.MulDiv.I128_MAX]

end OZ.Gen
