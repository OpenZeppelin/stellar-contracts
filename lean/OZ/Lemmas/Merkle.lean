import OZ.Model.Merkle
import OZ.Lemmas.Except
/-
The proofs extracted from a tree fold to its root; two different accepted runs give a collision (or, in
the sorted form, a node/sibling exchange); in the free-hash model an accepted run is an honest one.
-/
namespace OZ.Merkle
variable {α : Type}

theorem foldSorted_append (o : Ops α) (v : α) (π : List α) (s : α) :
    foldSorted o v (π ++ [s]) = chp o (foldSorted o v π) s := by
  induction π generalizing v with
  | nil => rfl
  | cons h rest ih => simp only [List.cons_append, foldSorted, ih]

theorem foldIndexed_append (o : Ops α) (v : α) (i : Nat) (π : List α) (s : α) :
    foldIndexed o v i (π ++ [s]) = stepIndexed o (foldIndexed o v i π) (i / 2 ^ π.length) s := by
  induction π generalizing v i with
  | nil => simp [foldIndexed]
  | cons h rest ih =>
    simp only [List.cons_append, foldIndexed, ih, List.length_cons]
    rw [Nat.div_div_eq_div_mul, Nat.pow_succ, Nat.mul_comm]

theorem foldIndexed_mod (o : Ops α) (v : α) (i : Nat) (π : List α) :
    foldIndexed o v (i % 2 ^ π.length) π = foldIndexed o v i π := by
  induction π generalizing v i with
  | nil => rfl
  | cons h rest ih =>
    simp only [foldIndexed, List.length_cons]
    have h1 : i % 2 ^ (rest.length + 1) % 2 = i % 2 := by
      rw [Nat.pow_succ, Nat.mul_comm]; exact Nat.mod_mul_right_mod i 2 (2 ^ rest.length)
    have h2 : i % 2 ^ (rest.length + 1) / 2 = (i / 2) % 2 ^ rest.length := by
      rw [Nat.pow_succ, Nat.mul_comm, Nat.mod_mul_right_div_self]
    unfold stepIndexed
    rw [h1, h2, ih]

theorem eq_nil_or_snoc (π : List α) : π = [] ∨ ∃ π0 s, π = π0 ++ [s] := by
  rcases List.eq_nil_or_concat π with h | ⟨π0, s, h⟩
  · exact Or.inl h
  · exact Or.inr ⟨π0, s, by rw [h, List.concat_eq_append]⟩

/-- the last step of the positional fold reads the top bit of the index -/
theorem foldIndexed_snoc (o : Ops α) (v : α) (b : Bool) (j : Nat) (π : List α) (s : α) (hj : j < 2 ^ π.length) :
    foldIndexed o v ((if b then 2 ^ π.length else 0) + j) (π ++ [s]) =
      if b then o.hp s (foldIndexed o v j π) else o.hp (foldIndexed o v j π) s := by
  rw [foldIndexed_append, ← foldIndexed_mod]
  cases b
  · rw [if_neg Bool.false_ne_true, Nat.zero_add, Nat.mod_eq_of_lt hj, Nat.div_eq_of_lt hj]; rfl
  · rw [if_pos rfl, Nat.add_mod_left, Nat.mod_eq_of_lt hj, Nat.add_div_left _ (Nat.two_pow_pos _),
      Nat.div_eq_of_lt hj]; rfl

theorem exists_top_bit (i k : Nat) (hi : i < 2 ^ (k + 1)) :
    ∃ (b : Bool) (j : Nat), j < 2 ^ k ∧ i = (if b then 2 ^ k else 0) + j := by
  rw [Nat.pow_succ, Nat.mul_two] at hi
  by_cases h : i < 2 ^ k
  · exact ⟨false, i, h, (Nat.zero_add i).symm⟩
  · exact ⟨true, i - 2 ^ k, Nat.sub_lt_left_of_lt_add (Nat.le_of_not_lt h) hi,
      (Nat.add_sub_cancel' (Nat.le_of_not_lt h)).symm⟩

theorem indexOf_lt (p : List Bool) : indexOf p < 2 ^ p.length := by
  induction p with
  | nil => exact Nat.one_pos
  | cons b p ih =>
    simp only [indexOf, List.length_cons, Nat.pow_succ]
    split <;> omega

/-- `π` is the proof of the leaf `v` at the path `p` of `t`: the relational reading of `Tree.proofWith` -/
inductive ProofAt (comb : α → α → α) : Tree α → List Bool → α → List α → Prop
  | leaf (v : α) : ProofAt comb (.leaf v) [] v []
  | left {l : Tree α} (r : Tree α) {p : List Bool} {v : α} {π : List α} :
    ProofAt comb l p v π → ProofAt comb (.node l r) (false :: p) v (π ++ [r.rootWith comb])
  | right (l : Tree α) {r : Tree α} {p : List Bool} {v : α} {π : List α} :
    ProofAt comb r p v π → ProofAt comb (.node l r) (true :: p) v (π ++ [l.rootWith comb])

theorem snoc_eq_some {x : Option (α × List α)} {s v : α} {π : List α} :
    (match x with
      | some (v, π) => some (v, π ++ [s])
      | none => none) = some (v, π) ↔ ∃ π0, x = some (v, π0) ∧ π = π0 ++ [s] := by
  cases x with
  | none => exact ⟨fun h => (nomatch h), fun ⟨_, h, _⟩ => (nomatch h)⟩
  | some x =>
    exact ⟨fun h => ⟨x.2, by cases h; rfl, by cases h; rfl⟩, fun ⟨π0, h1, h2⟩ => by cases h1; rw [h2]⟩

/- `Tree.proofWith` is unfolded by definitional unfolding (`show`, `exact`) throughout: its equation
lemmas are slow to generate. -/
theorem proofWith_eq_some {comb : α → α → α} {t : Tree α} {p : List Bool} {v : α} {π : List α} :
    t.proofWith comb p = some (v, π) ↔ ProofAt comb t p v π := by
  constructor
  · intro h
    induction t generalizing p π with
    | leaf a =>
      cases p with
      | nil => cases (show some (a, []) = some (v, π) from h); exact .leaf _
      | cons b p => exact nomatch (show none = some (v, π) from h)
    | node l r ihl ihr =>
      cases p with
      | nil => exact nomatch (show none = some (v, π) from h)
      | cons b p =>
        cases b
        · obtain ⟨π0, h0, rfl⟩ := snoc_eq_some.mp h
          exact .left r (ihl h0)
        · obtain ⟨π0, h0, rfl⟩ := snoc_eq_some.mp h
          exact .right l (ihr h0)
  · intro h
    induction h with
    | leaf v => rfl
    | left r _ ih => exact snoc_eq_some.mpr ⟨_, ih, rfl⟩
    | right l _ ih => exact snoc_eq_some.mpr ⟨_, ih, rfl⟩

theorem ProofAt.length {comb : α → α → α} {t : Tree α} {p : List Bool} {v : α} {π : List α}
    (h : ProofAt comb t p v π) : π.length = p.length := by
  induction h with
  | leaf v => rfl
  | left r _ ih => rw [List.length_append, ih]; rfl
  | right l _ ih => rw [List.length_append, ih]; rfl

theorem ProofAt.mem {comb : α → α → α} {t : Tree α} {p : List Bool} {v : α} {π : List α}
    (h : ProofAt comb t p v π) : v ∈ t.leaves := by
  induction h with
  | leaf v => exact List.mem_singleton_self v
  | left r _ ih => exact List.mem_append_left _ ih
  | right l _ ih => exact List.mem_append_right _ ih

theorem ProofAt.unique {comb : α → α → α} {t : Tree α} {p p' : List Bool} {v : α} {π π' : List α}
    (hnd : t.leaves.Nodup) (h : ProofAt comb t p v π) (h' : ProofAt comb t p' v π') : p = p' ∧ π = π' := by
  induction h generalizing p' π' with
  | leaf v => cases h'; exact ⟨rfl, rfl⟩
  | left r hl ih =>
    have hnd' := List.nodup_append.mp hnd
    cases h' with
    | left _ hl' => obtain ⟨rfl, rfl⟩ := ih hnd'.1 hl'; exact ⟨rfl, rfl⟩
    | right _ hr' => exact absurd rfl (hnd'.2.2 _ hl.mem _ hr'.mem)
  | right l hr ih =>
    have hnd' := List.nodup_append.mp hnd
    cases h' with
    | left _ hl' => exact absurd rfl (hnd'.2.2 _ hl'.mem _ hr.mem)
    | right _ hr' => obtain ⟨rfl, rfl⟩ := ih hnd'.2.1 hr'; exact ⟨rfl, rfl⟩

theorem mem_leaves_has_proof (comb : α → α → α) (t : Tree α) (v : α) (h : v ∈ t.leaves) :
    ∃ p π, ProofAt comb t p v π := by
  induction t with
  | leaf a => cases List.mem_singleton.mp h; exact ⟨[], [], .leaf _⟩
  | node l r ihl ihr =>
    rcases List.mem_append.mp h with h | h
    · obtain ⟨p, π, hp⟩ := ihl h
      exact ⟨false :: p, _, .left r hp⟩
    · obtain ⟨p, π, hp⟩ := ihr h
      exact ⟨true :: p, _, .right l hp⟩

/-- a strict total order as far as `chp` can see: of two different values exactly one is greater -/
def TotalGt (o : Ops α) : Prop := ∀ a b, a ≠ b → o.gt a b = !o.gt b a

theorem chp_comm (o : Ops α) (hgt : TotalGt o) (a b : α) : chp o a b = chp o b a := by
  by_cases hab : a = b
  · subst hab; rfl
  · unfold chp
    rw [hgt a b hab]
    cases o.gt b a <;> rfl

theorem foldSorted_proof (o : Ops α) (hgt : TotalGt o) (t : Tree α) (p : List Bool) (v : α) (π : List α)
    (h : t.proofWith (chp o) p = some (v, π)) : foldSorted o v π = t.rootS o := by
  replace h := proofWith_eq_some.mp h
  induction h with
  | leaf v => rfl
  | left r _ ih => rw [foldSorted_append, ih]; rfl
  | right l _ ih => rw [foldSorted_append, ih, chp_comm o hgt]; rfl

theorem foldIndexed_proof (o : Ops α) (t : Tree α) (p : List Bool) (v : α) (π : List α)
    (h : t.proofWith o.hp p = some (v, π)) : foldIndexed o v (indexOf p) π = t.rootI o := by
  replace h := proofWith_eq_some.mp h
  induction h with
  | leaf v => rfl
  | @left l r p v π hp ih =>
    rw [indexOf, ← hp.length, foldIndexed_snoc o v false _ π _ (hp.length ▸ indexOf_lt p), ih]; rfl
  | @right l r p v π hp ih =>
    rw [indexOf, ← hp.length, foldIndexed_snoc o v true _ π _ (hp.length ▸ indexOf_lt p), ih]; rfl

/-! ### soundness relative to collisions -/

/-- an explicit collision of the pair hash among values satisfying `P` -/
def Collision (o : Ops α) (P : α → Prop) : Prop :=
  ∃ a b c d, P a ∧ P b ∧ P c ∧ P d ∧ (a, b) ≠ (c, d) ∧ o.hp a b = o.hp c d

theorem stepIndexed_P (o : Ops α) (P : α → Prop) (hP : ∀ a b, P a → P b → P (o.hp a b)) (v : α) (i : Nat) (h : α)
    (hv : P v) (hh : P h) : P (stepIndexed o v i h) := by
  unfold stepIndexed; split
  · exact hP _ _ hv hh
  · exact hP _ _ hh hv

theorem chp_P (o : Ops α) (P : α → Prop) (hP : ∀ a b, P a → P b → P (o.hp a b)) (v h : α)
    (hv : P v) (hh : P h) : P (chp o v h) := by
  unfold chp; split
  · exact hP _ _ hh hv
  · exact hP _ _ hv hh

/- Both soundness arguments walk up the two runs in step: while (next node, rest of the proof)
differ the difference is further up; at the first level where they agree, the (node, sibling)
below still differ, and that step is the collision (or the exchange). -/

theorem sound_indexed_aux (o : Ops α) (P : α → Prop) (hP : ∀ a b, P a → P b → P (o.hp a b))
    (π₁ π₂ : List α) (hlen : π₁.length = π₂.length) (v₁ v₂ : α) (i : Nat)
    (hv₁ : P v₁) (hv₂ : P v₂) (hπ₁ : ∀ x ∈ π₁, P x) (hπ₂ : ∀ x ∈ π₂, P x)
    (hne : (v₁, π₁) ≠ (v₂, π₂)) (heq : foldIndexed o v₁ i π₁ = foldIndexed o v₂ i π₂) : Collision o P := by
  induction π₁ generalizing π₂ v₁ v₂ i with
  | nil =>
    cases π₂ with
    | nil => cases (show v₁ = v₂ from heq); exact absurd rfl hne
    | cons _ _ => cases hlen
  | cons h₁ r₁ ih =>
    cases π₂ with
    | nil => cases hlen
    | cons h₂ r₂ =>
      have hh₁ : P h₁ := hπ₁ h₁ List.mem_cons_self
      have hh₂ : P h₂ := hπ₂ h₂ List.mem_cons_self
      by_cases hc : (stepIndexed o v₁ i h₁, r₁) = (stepIndexed o v₂ i h₂, r₂)
      · obtain ⟨hc1, rfl⟩ := Prod.mk.inj hc
        have hd : ¬ (v₁ = v₂ ∧ h₁ = h₂) := by rintro ⟨rfl, rfl⟩; exact hne rfl
        unfold stepIndexed at hc1
        split at hc1
        · exact ⟨v₁, h₁, v₂, h₂, hv₁, hh₁, hv₂, hh₂, fun e => hd (Prod.mk.inj e), hc1⟩
        · exact ⟨h₁, v₁, h₂, v₂, hh₁, hv₁, hh₂, hv₂, fun e => hd (Prod.mk.inj e).symm, hc1⟩
      · exact ih r₂ (Nat.succ.inj hlen) _ _ (i / 2)
          (stepIndexed_P o P hP _ _ _ hv₁ hh₁) (stepIndexed_P o P hP _ _ _ hv₂ hh₂)
          (fun x hx => hπ₁ x (List.mem_cons_of_mem _ hx)) (fun x hx => hπ₂ x (List.mem_cons_of_mem _ hx)) hc heq

/-- the sibling/node exchange inherent to sorted-pair trees: at some level the two runs
hold each other's (node, sibling) and continue identically -/
def Exchange (o : Ops α) : α → List α → α → List α → Prop
  | v₁, h₁ :: r₁, v₂, h₂ :: r₂ =>
    (v₁ = h₂ ∧ h₁ = v₂ ∧ v₁ ≠ v₂ ∧ r₁ = r₂) ∨ Exchange o (chp o v₁ h₁) r₁ (chp o v₂ h₂) r₂
  | _, _, _, _ => False

theorem sound_sorted_aux (o : Ops α) (P : α → Prop) (hP : ∀ a b, P a → P b → P (o.hp a b))
    (π₁ π₂ : List α) (hlen : π₁.length = π₂.length) (v₁ v₂ : α)
    (hv₁ : P v₁) (hv₂ : P v₂) (hπ₁ : ∀ x ∈ π₁, P x) (hπ₂ : ∀ x ∈ π₂, P x)
    (hne : (v₁, π₁) ≠ (v₂, π₂)) (heq : foldSorted o v₁ π₁ = foldSorted o v₂ π₂) :
    Collision o P ∨ Exchange o v₁ π₁ v₂ π₂ := by
  induction π₁ generalizing π₂ v₁ v₂ with
  | nil =>
    cases π₂ with
    | nil => cases (show v₁ = v₂ from heq); exact absurd rfl hne
    | cons _ _ => cases hlen
  | cons h₁ r₁ ih =>
    cases π₂ with
    | nil => cases hlen
    | cons h₂ r₂ =>
      have hh₁ : P h₁ := hπ₁ h₁ List.mem_cons_self
      have hh₂ : P h₂ := hπ₂ h₂ List.mem_cons_self
      by_cases hc : (chp o v₁ h₁, r₁) = (chp o v₂ h₂, r₂)
      · obtain ⟨hc1, rfl⟩ := Prod.mk.inj hc
        have hd : ¬ (v₁ = v₂ ∧ h₁ = h₂) := by rintro ⟨rfl, rfl⟩; exact hne rfl
        by_cases hx : v₁ = h₂ ∧ h₁ = v₂
        · exact Or.inr (Or.inl ⟨hx.1, hx.2, fun e => hd ⟨e, hx.2.trans (e.symm.trans hx.1)⟩, rfl⟩)
        · -- four ways the two pairs can be ordered, each a collision of the pair hash
          left
          unfold chp at hc1
          split at hc1 <;> split at hc1
          · exact ⟨h₁, v₁, h₂, v₂, hh₁, hv₁, hh₂, hv₂, fun e => hd (Prod.mk.inj e).symm, hc1⟩
          · exact ⟨h₁, v₁, v₂, h₂, hh₁, hv₁, hv₂, hh₂, fun e => hx (Prod.mk.inj e).symm, hc1⟩
          · exact ⟨v₁, h₁, h₂, v₂, hv₁, hh₁, hh₂, hv₂, fun e => hx (Prod.mk.inj e), hc1⟩
          · exact ⟨v₁, h₁, v₂, h₂, hv₁, hh₁, hv₂, hh₂, fun e => hd (Prod.mk.inj e), hc1⟩
      · exact (ih r₂ (Nat.succ.inj hlen) _ _
          (chp_P o P hP _ _ hv₁ hh₁) (chp_P o P hP _ _ hv₂ hh₂)
          (fun x hx => hπ₁ x (List.mem_cons_of_mem _ hx)) (fun x hx => hπ₂ x (List.mem_cons_of_mem _ hx))
          hc heq).imp_right Or.inr

/-! ### the free-hash (symbolic) model -/

def AtomLeaves (t : Tree HTerm) : Prop := ∀ x ∈ t.leaves, ∃ n, x = HTerm.atom n

theorem AtomLeaves.left {l r : Tree HTerm} (h : AtomLeaves (.node l r)) : AtomLeaves l :=
  fun x hx => h x (List.mem_append_left _ hx)

theorem AtomLeaves.right {l r : Tree HTerm} (h : AtomLeaves (.node l r)) : AtomLeaves r :=
  fun x hx => h x (List.mem_append_right _ hx)

theorem chp_free_cases (gt : HTerm → HTerm → Bool) (x s L R : HTerm)
    (h : chp (freeOps gt) x s = chp (freeOps gt) L R) : (x = L ∧ s = R) ∨ (x = R ∧ s = L) := by
  unfold chp freeOps at h
  simp only at h
  split at h <;> split at h <;> injection h with h1 h2
  · exact Or.inl ⟨h2, h1⟩
  · exact Or.inr ⟨h2, h1⟩
  · exact Or.inr ⟨h1, h2⟩
  · exact Or.inl ⟨h1, h2⟩

theorem chp_free_ne_atom (gt : HTerm → HTerm → Bool) (x s : HTerm) (n : Nat) :
    chp (freeOps gt) x s ≠ HTerm.atom n := by
  unfold chp freeOps; simp only; split <;> intro h <;> cases h

theorem sym_sorted_honest (gt : HTerm → HTerm → Bool) (t : Tree HTerm) (hat : AtomLeaves t) (n : Nat)
    (π : List HTerm) (h : foldSorted (freeOps gt) (HTerm.atom n) π = t.rootS (freeOps gt)) :
    ∃ p, ProofAt (chp (freeOps gt)) t p (HTerm.atom n) π := by
  induction t generalizing π with
  | leaf a =>
    obtain ⟨m, rfl⟩ := hat a (List.mem_singleton_self a)
    rcases eq_nil_or_snoc π with rfl | ⟨π0, s, rfl⟩
    · cases (show HTerm.atom n = HTerm.atom m from h); exact ⟨[], .leaf _⟩
    · rw [foldSorted_append] at h
      exact absurd h (chp_free_ne_atom gt _ _ m)
  | node l r ihl ihr =>
    rcases eq_nil_or_snoc π with rfl | ⟨π0, s, rfl⟩
    · exact absurd h.symm (chp_free_ne_atom gt _ _ n)
    · rw [foldSorted_append] at h
      rcases chp_free_cases gt _ _ _ _ h with ⟨h1, rfl⟩ | ⟨h1, rfl⟩
      · obtain ⟨p, hp⟩ := ihl hat.left π0 h1
        exact ⟨false :: p, .left r hp⟩
      · obtain ⟨p, hp⟩ := ihr hat.right π0 h1
        exact ⟨true :: p, .right l hp⟩

theorem stepIndexed_free_ne_atom (gt : HTerm → HTerm → Bool) (x s : HTerm) (i n : Nat) :
    stepIndexed (freeOps gt) x i s ≠ HTerm.atom n := by
  unfold stepIndexed freeOps; simp only; split <;> intro h <;> cases h

theorem sym_indexed_honest (gt : HTerm → HTerm → Bool) (t : Tree HTerm) (hat : AtomLeaves t) (n : Nat)
    (π : List HTerm) (i : Nat) (hi : i < 2 ^ π.length)
    (h : foldIndexed (freeOps gt) (HTerm.atom n) i π = t.rootI (freeOps gt)) :
    ∃ p, ProofAt (freeOps gt).hp t p (HTerm.atom n) π ∧ i = indexOf p := by
  induction t generalizing π i with
  | leaf a =>
    obtain ⟨m, rfl⟩ := hat a (List.mem_singleton_self a)
    rcases eq_nil_or_snoc π with rfl | ⟨π0, s, rfl⟩
    · cases (show HTerm.atom n = HTerm.atom m from h)
      exact ⟨[], .leaf _, Nat.lt_one_iff.mp hi⟩
    · rw [foldIndexed_append] at h
      exact absurd h (stepIndexed_free_ne_atom gt _ _ _ m)
  | node l r ihl ihr =>
    rcases eq_nil_or_snoc π with rfl | ⟨π0, s, rfl⟩
    · cases h
    · -- the top bit of the index says on which side of the root the leaf sits
      rw [List.length_append] at hi
      obtain ⟨b, j, hj, rfl⟩ := exists_top_bit i π0.length hi
      rw [foldIndexed_snoc _ _ b j π0 s hj] at h
      cases b
      · injection (show HTerm.node _ s = HTerm.node _ _ from h) with h1 h2
        obtain ⟨p, hp, rfl⟩ := ihl hat.left π0 _ hj h1
        exact ⟨false :: p, h2 ▸ .left r hp, rfl⟩
      · injection (show HTerm.node s _ = HTerm.node _ _ from h) with h1 h2
        obtain ⟨p, hp, rfl⟩ := ihr hat.right π0 _ hj h2
        exact ⟨true :: p, h1 ▸ .right l hp, by rw [indexOf, ← hp.length]⟩

/-! ### the byte order, the verifiers' answers, the distributor and the airdrop example -/

theorem bytesGt_cons_of_gt {x y : UInt8} (h : y.toNat < x.toNat) (xs ys : List UInt8) :
    bytesGt (x :: xs) (y :: ys) = true :=
  if_pos h

theorem bytesGt_cons_of_lt {x y : UInt8} (h : x.toNat < y.toNat) (xs ys : List UInt8) :
    bytesGt (x :: xs) (y :: ys) = false :=
  (if_neg (Nat.lt_asymm h)).trans (if_pos h)

theorem bytesGt_cons_self (x : UInt8) (xs ys : List UInt8) : bytesGt (x :: xs) (x :: ys) = bytesGt xs ys :=
  (if_neg (Nat.lt_irrefl _)).trans (if_neg (Nat.lt_irrefl _))

theorem bytesGt_total (a b : List UInt8) (h : a ≠ b) : bytesGt a b = !bytesGt b a := by
  induction a generalizing b with
  | nil =>
    cases b with
    | nil => exact absurd rfl h
    | cons y ys => rfl
  | cons x xs ih =>
    cases b with
    | nil => rfl
    | cons y ys =>
      rcases Nat.lt_trichotomy x.toNat y.toNat with hlt | heq | hgt
      · rw [bytesGt_cons_of_lt hlt, bytesGt_cons_of_gt hlt]; rfl
      · cases UInt8.toNat_inj.mp heq
        rw [bytesGt_cons_self, bytesGt_cons_self]
        exact ih ys (fun e => h (by rw [e]))
      · rw [bytesGt_cons_of_gt hgt, bytesGt_cons_of_lt hgt]; rfl

theorem bytesOps_total (H : List UInt8 → List UInt8) : TotalGt (bytesOps H) :=
  fun a b h => bytesGt_total a b h

theorem verify_eq_true [DecidableEq α] (o : Ops α) (π : List α) (root v : α) :
    verify o π root v = true ↔ foldSorted o v π = root :=
  decide_eq_true_iff

theorem verifyWithIndex_ok_true [DecidableEq α] (o : Ops α) (π : List α) (root v : α) (i : Nat) :
    verifyWithIndex o π root v i = .ok true ↔ π.length < 32 ∧ i < 2 ^ π.length ∧ foldIndexed o v i π = root := by
  unfold verifyWithIndex
  split
  · exact ⟨fun h => (nomatch h), fun h => absurd h.1 (by omega)⟩
  split
  · exact ⟨fun h => (nomatch h), fun h => absurd h.2.1 (by omega)⟩
  · exact ⟨fun h => ⟨by omega, by omega, of_decide_eq_true (Except.ok.inj h)⟩,
      fun h => congrArg Except.ok (decide_eq_true h.2.2)⟩

theorem getRoot_ok (d : Dist α) (r : α) : d.getRoot = .ok r ↔ d.root = some r := by
  unfold Dist.getRoot
  cases d.root <;> simp

theorem checkNotClaimed_ok (d : Dist α) (i : Nat) (u : Unit) : checkNotClaimed d i = .ok u ↔ d.claimed i = false := by
  unfold checkNotClaimed Dist.isClaimed
  cases d.claimed i <;> simp

theorem markIf_ok (d d' : Dist α) (i : Nat) (b : Bool) : markIf d i b = .ok d' ↔ b = true ∧ d' = d.setClaimed i := by
  unfold markIf
  cases b <;> simp [eq_comm]

theorem liftV_ok (x : Except VErr Bool) (b : Bool) : liftV x = .ok b ↔ x = .ok b := by
  cases x <;> simp [liftV]

theorem claim_ok [DecidableEq α] (o : Ops α) (d d' : Dist α) (h : α) (i : Nat) (π : List α) :
    d.verifyAndSetClaimed o h i π = .ok d' ↔
      ∃ root, d.root = some root ∧ d.claimed i = false ∧ verify o π root h = true ∧ d' = d.setClaimed i := by
  unfold Dist.verifyAndSetClaimed
  simp only [bind_eq_ok_iff, getRoot_ok, checkNotClaimed_ok, markIf_ok]
  exact ⟨fun ⟨root, h1, _, h⟩ => ⟨root, h1, h⟩, fun ⟨root, h1, h⟩ => ⟨root, h1, (), h⟩⟩

theorem claimIndexed_ok [DecidableEq α] (o : Ops α) (d d' : Dist α) (h : α) (i : Nat) (π : List α) :
    d.verifyWithIndexAndSetClaimed o h i π = .ok d' ↔
      ∃ root, d.root = some root ∧ d.claimed i = false ∧ verifyWithIndex o π root h i = .ok true ∧
        d' = d.setClaimed i := by
  unfold Dist.verifyWithIndexAndSetClaimed
  simp only [bind_eq_ok_iff, getRoot_ok, checkNotClaimed_ok, markIf_ok, liftV_ok]
  exact ⟨fun ⟨root, h1, _, h2, _, h3, rfl, h5⟩ => ⟨root, h1, h2, h3, h5⟩,
    fun ⟨root, h1, h2, h3, h4⟩ => ⟨root, h1, (), h2, true, h3, rfl, h4⟩⟩

/-- `op`, executed in state `d`, is a claim for index `i` whose proof verifies against the
current root -/
def ClaimsIndex [DecidableEq α] (o : Ops α) (d : Dist α) (i : Nat) : DOp α → Prop
  | .setRoot _ => False
  | .claim h j π => j = i ∧ ∃ root, d.root = some root ∧ verify o π root h = true
  | .claimIndexed h j π => j = i ∧ ∃ root, d.root = some root ∧ verifyWithIndex o π root h j = .ok true

theorem setClaimed_claimed (d : Dist α) (i j : Nat) : (d.setClaimed i).claimed j = (decide (j = i) || d.claimed j) := by
  unfold Dist.setClaimed
  by_cases h : j = i <;> simp [h]

theorem apply_of_not_ok [DecidableEq α] (o : Ops α) (d : Dist α) (op : DOp α) (h : ∀ d', d.step o op ≠ .ok d') :
    d.apply o op = d := by
  unfold Dist.apply
  split
  · next d' hs => exact absurd hs (h d')
  · rfl

theorem apply_flags [DecidableEq α] (o : Ops α) (d : Dist α) (op : DOp α) :
    (d.apply o op).claimed = d.claimed ∨
      ∃ j, d.claimed j = false ∧ ClaimsIndex o d j op ∧ d.apply o op = d.setClaimed j := by
  unfold Dist.apply
  split
  · next d' hs =>
    cases op with
    | setRoot r => cases hs; exact Or.inl rfl
    | claim lh j π =>
      obtain ⟨root, h1, h2, h3, rfl⟩ := (claim_ok o d d' lh j π).mp hs
      exact Or.inr ⟨j, h2, ⟨rfl, root, h1, h3⟩, rfl⟩
    | claimIndexed lh j π =>
      obtain ⟨root, h1, h2, h3, rfl⟩ := (claimIndexed_ok o d d' lh j π).mp hs
      exact Or.inr ⟨j, h2, ⟨rfl, root, h1, h3⟩, rfl⟩
  · exact Or.inl rfl

theorem apply_claimed [DecidableEq α] (o : Ops α) (d : Dist α) (op : DOp α) (i : Nat)
    (h : (d.apply o op).claimed i = true) :
    d.claimed i = true ∨ (d.claimed i = false ∧ ClaimsIndex o d i op) := by
  rcases apply_flags o d op with hs | ⟨j, hj, hop, hs⟩
  · exact Or.inl (hs ▸ h)
  · rw [hs, setClaimed_claimed, Bool.or_eq_true, decide_eq_true_eq] at h
    rcases h with rfl | h
    · exact Or.inr ⟨hj, hop⟩
    · exact Or.inl h

theorem apply_keeps_claimed [DecidableEq α] (o : Ops α) (d : Dist α) (op : DOp α) (i : Nat)
    (h : d.claimed i = true) : (d.apply o op).claimed i = true := by
  rcases apply_flags o d op with hs | ⟨j, _, _, hs⟩
  · rw [hs, h]
  · rw [hs, setClaimed_claimed, h, Bool.or_true]

theorem run_append [DecidableEq α] (o : Ops α) (d : Dist α) (a b : List (DOp α)) :
    Dist.run o d (a ++ b) = Dist.run o (Dist.run o d a) b := by
  induction a generalizing d with
  | nil => rfl
  | cons op rest ih => simp only [List.cons_append, Dist.run, ih]

theorem payOut_ok (a a' : Airdrop α) (d' : Dist α) (rcv : Nat) (amount : Int) :
    payOut a d' rcv amount = .ok a' ↔ 0 ≤ amount ∧ amount ≤ a.pool ∧
      a' = { dist := d', pool := a.pool - amount, bal := fun j => if j = rcv then a.bal j + amount else a.bal j } := by
  unfold payOut
  split
  · next hc =>
    exact ⟨fun h => (nomatch h), fun ⟨h0, hle, _⟩ =>
      hc.elim (fun h => absurd h0 (Int.not_le.mpr h)) (fun h => absurd hle (Int.not_le.mpr h))⟩
  · next hc =>
    exact ⟨fun h => ⟨Int.not_lt.mp fun h' => hc (.inl h'), Int.not_lt.mp fun h' => hc (.inr h'),
      (Except.ok.inj h).symm⟩, fun h => congrArg Except.ok h.2.2.symm⟩

theorem airClaim_ok [DecidableEq α] (o : Ops α) (a a' : Airdrop α) (lh : α) (i rcv : Nat) (amount : Int)
    (π : List α) :
    a.claim o lh i rcv amount π = .ok a' ↔
      ∃ root, a.dist.root = some root ∧ a.dist.claimed i = false ∧ verify o π root lh = true ∧
        0 ≤ amount ∧ amount ≤ a.pool ∧
        a' = { dist := a.dist.setClaimed i, pool := a.pool - amount,
               bal := fun j => if j = rcv then a.bal j + amount else a.bal j } := by
  unfold Airdrop.claim
  simp only [bind_eq_ok_iff, claim_ok, payOut_ok]
  exact ⟨fun ⟨_, ⟨root, h1, h2, h3, rfl⟩, h⟩ => ⟨root, h1, h2, h3, h⟩,
    fun ⟨root, h1, h2, h3, h⟩ => ⟨_, ⟨root, h1, h2, h3, rfl⟩, h⟩⟩

end OZ.Merkle
