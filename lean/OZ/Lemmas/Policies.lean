import OZ.Model.Policies
import OZ.Lemmas.Except
import OZ.Lemmas.Host
import OZ.Lemmas.Lists
/-
The policy models (C14), policy by policy (`Simple`, `Weighted`, `Spend`): each entry point's accepted calls as an exact
`↔`. The last part of `Spend` defines what `Spend.window_bound` (OZ/Props/C14.lean) is stated in, the ghost log of
authorized transfers with its window sum `winSum` and `GoodR`, and proves the invariant `GInv` that links the log to
the stored data.
-/
namespace OZ.Policies
open OZ.Host

-- core has no `DecidableEq (Except ε α)`; `decide` on the outcome of a call (`… = .ok true`, as in the examples of
-- OZ/Props/C14.lean) needs it
deriving instance DecidableEq for Except

theorem requireAuth_ok {auth : List Nat} {a : Nat} {u : Unit} (h : requireAuth auth a = .ok u) :
    a ∈ auth := by
  unfold requireAuth at h
  split at h
  · assumption
  · cases h

theorem requireAuth_of {auth : List Nat} {a : Nat} (h : a ∈ auth) : requireAuth auth a = .ok () := by
  unfold requireAuth; rw [if_pos h]

theorem requireAuth_not {auth : List Nat} {a : Nat} (h : a ∉ auth) : requireAuth auth a = .error .auth := by
  unfold requireAuth; rw [if_neg h]

theorem requireAuth_iff {auth : List Nat} {a : Nat} : requireAuth auth a = .ok () ↔ a ∈ auth :=
  ⟨requireAuth_ok, requireAuth_of⟩

/-- every state-changing entry point of the three policies is `smart_account.require_auth()` followed by the
rest, so this one statement refuses them all -/
theorem guard_refused {α : Type} {auth : List Nat} {a : Nat} (h : a ∉ auth) (k : Unit → Except Err α) :
    (requireAuth auth a >>= k) = .error .auth := by
  rw [requireAuth_not h]; rfl

/-! Every entry point is a chain of `require_auth`, look-ups of the stored configuration and refusing `if`s; the
next three statements and those of `OZ/Lemmas/Except.lean` read such a chain link by link. -/

theorem guard_ok_iff {α : Type} {auth : List Nat} {a : Nat} {k : Unit → Except Err α} {x : α} :
    (requireAuth auth a >>= k) = .ok x ↔ a ∈ auth ∧ k () = .ok x := by
  unfold requireAuth
  split
  · next h => exact ⟨fun hk => ⟨h, hk⟩, fun hk => hk.2⟩
  · next h => exact ⟨nofun, fun hk => absurd hk.1 h⟩

theorem lookup_ok_iff {α β : Type} {e : Err} {o : Option α} {k : α → Except Err β} {y : β} :
    (ofOpt e o >>= k) = .ok y ↔ ∃ x, o = some x ∧ k x = .ok y := by
  cases o with
  | none => exact ⟨nofun, nofun⟩
  | some x => exact ⟨fun h => ⟨x, rfl, h⟩, fun ⟨_, hx, h⟩ => by cases hx; exact h⟩

theorem fresh_ok_iff {α β : Type} {o : Option α} {x : Except Err β} {y : β} :
    (if o.isSome then .error .alreadyInstalled else x) = .ok y ↔ o = none ∧ x = .ok y :=
  ite_error_eq_ok_iff.trans (and_congr_left' Option.not_isSome_iff_eq_none)

namespace Simple

theorem enforce_ok_iff {s s' : State} {auth : List Nat} {ctx : Ctx} {sg : List Nat} {rule : Rule} {acct : Nat} :
    enforce s auth ctx sg rule acct = .ok s' ↔
      acct ∈ auth ∧ ∃ t, s.thr acct rule.id = some t ∧ t ≤ sg.length ∧
        s' = { s with events := s.events ++ [.enforced acct rule.id sg] } :=
  guard_ok_iff.trans (and_congr_right fun _ => lookup_ok_iff.trans
    (exists_congr fun _ => and_congr_right fun _ => ite_ok_iff))

theorem validateAndSet_ok_iff {s s' : State} {t : Nat} {rule : Rule} {acct : Nat} :
    validateAndSet s t rule acct = .ok s' ↔
      1 ≤ t ∧ t ≤ rule.signers.length ∧ s' = { s with thr := upd2 s.thr acct rule.id (some t) } :=
  ite_error_ok_iff.trans (by rw [← and_assoc]; exact and_congr_left' (by omega))

theorem install_ok_iff {s s' : State} {auth : List Nat} {t : Nat} {rule : Rule} {acct : Nat} :
    install s auth t rule acct = .ok s' ↔
      acct ∈ auth ∧ s.thr acct rule.id = none ∧ validateAndSet s t rule acct = .ok s' :=
  guard_ok_iff.trans (and_congr_right fun _ => fresh_ok_iff)

theorem setThreshold_ok_iff {s s' : State} {auth : List Nat} {t : Nat} {rule : Rule} {acct : Nat} :
    setThreshold s auth t rule acct = .ok s' ↔ acct ∈ auth ∧ validateAndSet s t rule acct = .ok s' :=
  guard_ok_iff

theorem uninstall_ok_iff {s s' : State} {auth : List Nat} {rule : Rule} {acct : Nat} :
    uninstall s auth rule acct = .ok s' ↔
      acct ∈ auth ∧ s' = { s with thr := upd2 s.thr acct rule.id none } :=
  guard_ok_iff.trans (and_congr_right fun _ => ok_eq_ok_iff)

end Simple

namespace Weighted

theorem csum_eq (l : List Nat) : ∀ acc, acc ≤ U32_MAX →
    csum acc l = if acc + l.sum ≤ U32_MAX then .ok (acc + l.sum) else .error .mathOverflow := by
  induction l with
  | nil => intro acc h; simp [csum, h]
  | cons w ws ih =>
    intro acc h
    unfold csum
    rw [List.sum_cons, ← Nat.add_assoc]
    split
    · rename_i hw
      exact ih _ hw
    · rw [if_neg (by omega)]

theorem csum0_eq (l : List Nat) :
    csum 0 l = if l.sum ≤ U32_MAX then .ok l.sum else .error .mathOverflow := by
  have := csum_eq l 0 (by simp [U32_MAX])
  simpa using this

def wOf (m : WMap) (k : Nat) : Nat := (lookup m k).getD 0

def total (m : WMap) : Nat := (m.map Prod.snd).sum

/-- weight of a signer list, with multiplicity -/
def wsum (m : WMap) (sg : List Nat) : Nat := (sg.map (wOf m)).sum

theorem filterMap_lookup_sum (m : WMap) (sg : List Nat) : (sg.filterMap (lookup m)).sum = wsum m sg := by
  induction sg with
  | nil => rfl
  | cons k ks ih =>
    unfold wsum at *
    simp only [List.filterMap_cons, List.map_cons, List.sum_cons, wOf]
    cases hk : lookup m k with
    | none => simp [ih]
    | some w => simp [ih]

theorem calcWeight_eq (m : WMap) (sg : List Nat) :
    calcWeight m sg = if wsum m sg ≤ U32_MAX then .ok (wsum m sg) else .error .mathOverflow := by
  unfold calcWeight
  rw [csum0_eq, filterMap_lookup_sum]

theorem totalWeight_eq (m : WMap) :
    totalWeight m = if total m ≤ U32_MAX then .ok (total m) else .error .mathOverflow := by
  unfold totalWeight total
  rw [csum0_eq]

theorem sum_ite_notin (a w : Nat) (g : Nat → Nat) (l : List Nat) (h : a ∉ l) :
    (l.map (fun k => if a = k then w else g k)).sum = (l.map g).sum := by
  induction l with
  | nil => rfl
  | cons x xs ih =>
    have hx : a ≠ x := fun e => h (by simp [e])
    have hxs : a ∉ xs := fun e => h (by simp [e])
    simp only [List.map_cons, List.sum_cons, if_neg hx, ih hxs]

theorem sum_ite_nodup (a w : Nat) (g : Nat → Nat) (l : List Nat) (h : l.Nodup) :
    (l.map (fun k => if a = k then w else g k)).sum ≤ w + (l.map g).sum := by
  induction l with
  | nil => simp
  | cons x xs ih =>
    have hnx : x ∉ xs := (List.nodup_cons.mp h).1
    have hxs : xs.Nodup := (List.nodup_cons.mp h).2
    simp only [List.map_cons, List.sum_cons]
    by_cases hx : a = x
    · subst hx
      rw [if_pos rfl, sum_ite_notin a w g xs hnx]; omega
    · rw [if_neg hx]
      have := ih hxs; omega

theorem wsum_nil (sg : List Nat) : wsum [] sg = 0 := by
  unfold wsum
  induction sg with
  | nil => rfl
  | cons k ks ih => simp only [List.map_cons, List.sum_cons, ih]; simp [wOf, lookup]

theorem wOf_cons (a w : Nat) (r : WMap) (k : Nat) : wOf ((a, w) :: r) k = if a = k then w else wOf r k := by
  by_cases hk : a = k
  · simp [wOf, lookup, hk]
  · simp [wOf, lookup, hk]

theorem wsum_le_total (m : WMap) : ∀ sg : List Nat, sg.Nodup → wsum m sg ≤ total m := by
  induction m with
  | nil => intro sg _; rw [wsum_nil]; exact Nat.zero_le _
  | cons p r ih =>
    intro sg hn
    obtain ⟨a, w⟩ := p
    have h1 : wsum ((a, w) :: r) sg = (sg.map (fun k => if a = k then w else wOf r k)).sum := by
      unfold wsum
      congr 1
      apply List.map_congr_left
      intro k _
      exact wOf_cons a w r k
    have h2 := sum_ite_nodup a w (wOf r) sg hn
    have h3 := ih sg hn
    unfold wsum at h3
    rw [h1]
    unfold total at *
    simp only [List.map_cons, List.sum_cons]
    omega

/-- configuration invariant of one installation: 1 ≤ threshold ≤ total weight ≤ u32::MAX -/
def PInv (p : Params) : Prop := 1 ≤ p.threshold ∧ p.threshold ≤ total p.weights ∧ total p.weights ≤ U32_MAX

def Inv (s : State) : Prop := ∀ a r p, s.par a r = some p → PInv p

theorem totalWeight_bind_ok_iff {α : Type} {m : WMap} {k : Nat → Except Err α} {y : α} :
    (totalWeight m >>= k) = .ok y ↔ total m ≤ U32_MAX ∧ k (total m) = .ok y := by
  rw [totalWeight_eq]
  split
  · next h => exact ⟨fun hk => ⟨h, hk⟩, fun hk => hk.2⟩
  · next h => exact ⟨nofun, fun hk => absurd hk.1 h⟩

theorem checkAndStore_ok_iff {s s' : State} {p : Params} {rule : Rule} {acct : Nat} :
    checkAndStore s p rule acct = .ok s' ↔
      p.threshold ≤ total p.weights ∧ total p.weights ≤ U32_MAX ∧
        s' = { s with par := upd2 s.par acct rule.id (some p) } :=
  totalWeight_bind_ok_iff.trans ((and_congr_right fun _ => ite_error_ok_iff.trans
    (and_congr_left' Nat.not_lt)).trans and_left_comm)

theorem checkInstall_ok_iff {s s' : State} {m : WMap} {t : Nat} {rule : Rule} {acct : Nat} :
    checkInstall s m t rule acct = .ok s' ↔
      (1 ≤ t ∧ t ≤ total m ∧ total m ≤ U32_MAX) ∧ s' = { s with par := upd2 s.par acct rule.id (some ⟨m, t⟩) } :=
  totalWeight_bind_ok_iff.trans ((and_congr_right fun _ => ite_error_ok_iff).trans (by
    rw [← and_assoc]
    exact and_congr_left' (by omega)))

theorem install_ok_iff {s s' : State} {auth : List Nat} {pairs : List (Nat × Nat)} {t : Nat} {rule : Rule}
    {acct : Nat} :
    install s auth pairs t rule acct = .ok s' ↔
      acct ∈ auth ∧ s.par acct rule.id = none ∧ checkInstall s (mkMap pairs) t rule acct = .ok s' :=
  guard_ok_iff.trans (and_congr_right fun _ => fresh_ok_iff)

theorem setThreshold_ok_iff {s s' : State} {auth : List Nat} {t : Nat} {rule : Rule} {acct : Nat} :
    setThreshold s auth t rule acct = .ok s' ↔
      acct ∈ auth ∧ 1 ≤ t ∧ ∃ p, s.par acct rule.id = some p ∧
        checkAndStore s { p with threshold := t } rule acct = .ok s' :=
  guard_ok_iff.trans (and_congr_right fun _ => ite_error_eq_ok_iff.trans
    (and_congr Nat.pos_iff_ne_zero.symm lookup_ok_iff))

theorem setSignerWeight_ok_iff {s s' : State} {auth : List Nat} {signer w : Nat} {rule : Rule} {acct : Nat} :
    setSignerWeight s auth signer w rule acct = .ok s' ↔
      acct ∈ auth ∧ ∃ p, s.par acct rule.id = some p ∧
        checkAndStore s { p with weights := mset p.weights signer w } rule acct = .ok s' :=
  guard_ok_iff.trans (and_congr_right fun _ => lookup_ok_iff)

theorem uninstall_ok_iff {s s' : State} {auth : List Nat} {rule : Rule} {acct : Nat} :
    uninstall s auth rule acct = .ok s' ↔
      acct ∈ auth ∧ s' = { s with par := upd2 s.par acct rule.id none } :=
  guard_ok_iff.trans (and_congr_right fun _ => ok_eq_ok_iff)

theorem meets_eq (p : Params) (sg : List Nat) :
    meets p sg = if wsum p.weights sg ≤ U32_MAX then .ok (decide (p.threshold ≤ wsum p.weights sg))
      else .error .mathOverflow := by
  unfold meets
  rw [calcWeight_eq]
  split <;> rfl

theorem enforceWith_ok_iff {s s' : State} {p : Params} {sg : List Nat} {rule : Rule} {acct : Nat} :
    enforceWith s p sg rule acct = .ok s' ↔
      wsum p.weights sg ≤ U32_MAX ∧ p.threshold ≤ wsum p.weights sg ∧
        s' = { s with events := s.events ++ [.enforced acct rule.id sg] } := by
  unfold enforceWith
  rw [calcWeight_eq]
  split
  · next h => exact (ite_ok_iff (e := Err.notAllowed)).trans ⟨fun hh => ⟨h, hh⟩, fun hh => hh.2⟩
  · next h => exact ⟨nofun, fun hh => absurd hh.1 h⟩

theorem enforce_ok_iff {s s' : State} {auth : List Nat} {ctx : Ctx} {sg : List Nat} {rule : Rule} {acct : Nat} :
    enforce s auth ctx sg rule acct = .ok s' ↔
      acct ∈ auth ∧ ∃ p, s.par acct rule.id = some p ∧ enforceWith s p sg rule acct = .ok s' :=
  guard_ok_iff.trans (and_congr_right fun _ => lookup_ok_iff)

theorem enforce_iff (s : State) (auth : List Nat) (ctx : Ctx) (sg : List Nat) (rule : Rule) (acct : Nat) :
    (∃ s', enforce s auth ctx sg rule acct = .ok s') ↔
      acct ∈ auth ∧ ∃ p, s.par acct rule.id = some p ∧ wsum p.weights sg ≤ U32_MAX ∧
        p.threshold ≤ wsum p.weights sg := by
  simp only [enforce_ok_iff, enforceWith_ok_iff]
  exact ⟨fun ⟨_, ha, p, hp, h1, h2, _⟩ => ⟨ha, p, hp, h1, h2⟩, fun ⟨ha, p, hp, h1, h2⟩ => ⟨_, ha, p, hp, h1, h2, rfl⟩⟩

theorem enforce_events {s s' : State} {auth : List Nat} {ctx : Ctx} {sg : List Nat} {rule : Rule} {acct : Nat}
    (h : enforce s auth ctx sg rule acct = .ok s') :
    s' = { s with events := s.events ++ [.enforced acct rule.id sg] } :=
  let ⟨_, _, _, h⟩ := enforce_ok_iff.mp h
  (enforceWith_ok_iff.mp h).2.2

theorem canEnforce_true_iff (s : State) (ctx : Ctx) (sg : List Nat) (rule : Rule) (acct : Nat) :
    canEnforce s ctx sg rule acct = .ok true ↔
      ∃ p, s.par acct rule.id = some p ∧ wsum p.weights sg ≤ U32_MAX ∧ p.threshold ≤ wsum p.weights sg := by
  unfold canEnforce
  cases hp : s.par acct rule.id with
  | none => simp
  | some p =>
    simp only [Option.some.injEq, exists_eq_left', meets_eq]
    by_cases hle : wsum p.weights sg ≤ U32_MAX
    · rw [if_pos hle]
      simp [hle]
    · rw [if_neg hle]
      exact ⟨fun h => (by cases h), fun h => absurd h.1 hle⟩

theorem inv_upd {s : State} {acct rid : Nat} {p : Params} (hi : Inv s) (hp : PInv p) :
    Inv { s with par := upd2 s.par acct rid (some p) } :=
  upd2_forall (Q := fun _ _ o => ∀ q, o = some q → PInv q) (fun a r _ => hi a r)
    (fun q hq => by injection hq with hq; subst hq; exact hp)

theorem inv_del {s : State} {acct rid : Nat} (hi : Inv s) :
    Inv { s with par := upd2 s.par acct rid none } :=
  upd2_forall (Q := fun _ _ o => ∀ q, o = some q → PInv q) (fun a r _ => hi a r) (fun q hq => by cases hq)

/-- every successful operation preserves the configuration invariant -/
theorem apply_inv {s s' : State} (hi : Inv s) (auth : List Nat) (op : Op) (h : apply s auth op = .ok s') :
    Inv s' := by
  cases op with
  | install a r ps t =>
    obtain ⟨hp, rfl⟩ := checkInstall_ok_iff.mp (install_ok_iff.mp h).2.2
    exact inv_upd hi hp
  | setThreshold a r t =>
    obtain ⟨_, ht, p, _, h⟩ := setThreshold_ok_iff.mp h
    obtain ⟨h2, h3, rfl⟩ := checkAndStore_ok_iff.mp h
    exact inv_upd hi ⟨ht, h2, h3⟩
  | setSignerWeight a r sg w =>
    obtain ⟨_, p, hp, h⟩ := setSignerWeight_ok_iff.mp h
    obtain ⟨h2, h3, rfl⟩ := checkAndStore_ok_iff.mp h
    exact inv_upd hi ⟨(hi a r.id p hp).1, h2, h3⟩
  | uninstall a r =>
    obtain ⟨_, rfl⟩ := uninstall_ok_iff.mp h
    exact inv_del hi
  | enforce a r c sg =>
    have h : enforce s auth c sg r a = .ok s' := h
    rw [enforce_events h]
    exact hi

theorem step_inv {s : State} (hi : Inv s) (x : List Nat × Op) : Inv (step s x) := by
  unfold step
  cases hx : apply s x.1 x.2 with
  | error e => exact hi
  | ok s' => exact apply_inv hi x.1 x.2 hx

theorem run_inv (ops : List (List Nat × Op)) : ∀ s, Inv s → Inv (run s ops) :=
  OZ.Lists.foldl_inv (fun _ x hs => step_inv hs x) ops

theorem init_inv : Inv init := by
  intro a r p h; cases h

end Weighted

namespace Spend

def isum (h : List Entry) : Int := (h.map (·.amount)).sum

theorem isum_nil : isum [] = 0 := rfl
theorem isum_cons (e : Entry) (h : List Entry) : isum (e :: h) = e.amount + isum h := by
  simp [isum, List.sum_cons]
theorem isum_append (a b : List Entry) : isum (a ++ b) = isum a + isum b := by
  induction a with
  | nil => simp [isum_nil]
  | cons x xs ih => rw [List.cons_append, isum_cons, isum_cons, ih]; omega
theorem isum_reverse (a : List Entry) : isum a.reverse = isum a := by
  induction a with
  | nil => rfl
  | cons x xs ih => rw [List.reverse_cons, isum_append, ih, isum_cons, isum_cons, isum_nil]; omega

theorem isum_push (h : List Entry) (e : Entry) : isum (h ++ [e]) = e.amount + isum h := by
  rw [isum_append, isum_cons, isum_nil]
  omega

theorem isum_filter_all (l : List Entry) (p : Entry → Bool) (h : ∀ e ∈ l, p e = true) : isum (l.filter p) = isum l := by
  rw [List.filter_eq_self.mpr h]

theorem isum_filter_none (l : List Entry) (p : Entry → Bool) (h : ∀ e ∈ l, p e = false) : isum (l.filter p) = 0 := by
  rw [List.filter_eq_nil_iff.mpr (fun e he => by rw [h e he]; exact Bool.false_ne_true)]
  rfl

theorem isum_filter_mono (l : List Entry) (p q : Entry → Bool) (hnn : ∀ e ∈ l, 0 ≤ e.amount)
    (hpq : ∀ e ∈ l, p e = true → q e = true) : isum (l.filter p) ≤ isum (l.filter q) := by
  induction l with
  | nil => exact Int.le_refl _
  | cons x xs ih =>
    have ih' := ih (fun e he => hnn e (List.mem_cons_of_mem _ he)) (fun e he => hpq e (List.mem_cons_of_mem _ he))
    have hx := hnn x List.mem_cons_self
    rw [List.filter_cons, List.filter_cons]
    by_cases hp : p x = true
    · rw [if_pos hp, if_pos (hpq x List.mem_cons_self hp), isum_cons, isum_cons]; omega
    · rw [if_neg hp]
      by_cases hq : q x = true
      · rw [if_pos hq, isum_cons]; omega
      · rw [if_neg hq]; exact ih'

theorem chk_ok {x y : Int} (h : chk x = .ok y) : in128 x ∧ y = x := by
  unfold chk at h
  split at h
  · rename_i hx; injection h with h; exact ⟨hx, h.symm⟩
  · cases h
theorem chk_of {x : Int} (h : in128 x) : chk x = .ok x := by unfold chk; rw [if_pos h]
theorem chk_not {x : Int} (h : ¬ in128 x) : chk x = .error .overflowPanic := by unfold chk; rw [if_neg h]

theorem chk_bind_ok_iff {α : Type} {x : Int} {k : Int → Except Err α} {y : α} :
    (chk x >>= k) = .ok y ↔ in128 x ∧ k x = .ok y := by
  unfold chk
  split
  · next h => exact ⟨fun hk => ⟨h, hk⟩, fun hk => hk.2⟩
  · next h => exact ⟨nofun, fun hk => absurd hk.1 h⟩

def capAns (c : List Entry × Int) : Option Int :=
  if MAX_HISTORY_ENTRIES ≤ c.1.length then none else some c.2

/-- the read-only scan of `can_enforce` computes exactly what `cleanup_old_entries` computes:
same expired total, same overflow panics, and "no room" iff what remains has ≥ 1000 entries -/
theorem scan_eq_cleanup (cutoff : Nat) (h : List Entry) : ∀ acc,
    scanExpired cutoff h acc = (cleanup cutoff h acc >>= fun c => .ok (capAns c)) := by
  induction h with
  | nil => intro acc; simp [scanExpired, cleanup, capAns, MAX_HISTORY_ENTRIES, bind, Except.bind]
  | cons e rest ih =>
    intro acc
    unfold scanExpired cleanup
    by_cases he : e.ledger ≤ cutoff
    · rw [if_pos he, if_pos he]
      cases hc : chk (acc + e.amount) with
      | error x => rfl
      | ok a => exact ih a
    · rw [if_neg he, if_neg he]
      by_cases hl : MAX_HISTORY_ENTRIES ≤ (e :: rest).length
      · rw [if_pos hl]
        show _ = Except.ok (if MAX_HISTORY_ENTRIES ≤ (e :: rest).length then none else some acc)
        rw [if_pos hl]
      · rw [if_neg hl]
        show _ = Except.ok (if MAX_HISTORY_ENTRIES ≤ (e :: rest).length then none else some acc)
        rw [if_neg hl]

/-- what `can_enforce` and `enforce` both decide for a transfer of `amt` against data `d` at
ledger `now`: cleanup succeeds, the two i128 operations stay in range, the updated total
fits the limit and fewer than 1000 entries remain -/
def Accepts (now : Nat) (d : Data) (amt : Int) : Prop :=
  ∃ h' r, cleanup (now - d.period) d.history 0 = .ok (h', r) ∧ in128 (d.cached - r) ∧
    in128 (d.cached - r + amt) ∧ d.cached - r + amt ≤ d.limit ∧ h'.length < MAX_HISTORY_ENTRIES

theorem enforceTail_ok_iff {s s' : State} {d : Data} {amt : Int} {rule : Rule} {acct : Nat} {c : List Entry × Int} :
    enforceTail s d amt rule acct c = .ok s' ↔
    in128 (d.cached - c.2) ∧ in128 (d.cached - c.2 + amt) ∧ d.cached - c.2 + amt ≤ d.limit ∧
    c.1.length < MAX_HISTORY_ENTRIES ∧
    s' = { s with
      store := upd2 s.store acct rule.id
        (some { d with history := c.1 ++ [⟨amt, s.now⟩], cached := d.cached - c.2 + amt }),
      events := s.events ++ [.enforced acct rule.id amt (d.cached - c.2 + amt)] } :=
  chk_bind_ok_iff.trans (and_congr_right fun _ => chk_bind_ok_iff.trans (and_congr_right fun _ =>
    ite_error_eq_ok_iff.trans (and_congr Int.not_lt (ite_error_ok_iff.trans (and_congr_left' Nat.not_le)))))

theorem enforceCtx_ok_iff {s s' : State} {d : Data} {rule : Rule} {acct : Nat} {ctx : Ctx} :
    enforceCtx s d rule acct ctx = .ok s' ↔
    ∃ amt c, ctx = .transfer amt ∧ cleanup (s.now - d.period) d.history 0 = .ok c ∧
      enforceTail s d amt rule acct c = .ok s' := by
  constructor
  · intro h
    cases ctx with
    | transfer amt =>
      obtain ⟨c, h⟩ := bind_eq_ok h
      exact ⟨amt, c, rfl, h⟩
    | malformed => cases h
    | otherCall => cases h
    | createContract => cases h
  · rintro ⟨amt, c, rfl, hc, h⟩
    exact bind_eq_ok_iff.mpr ⟨c, hc, h⟩

theorem canTail_some_iff (d : Data) (amt r : Int) :
    canTail d amt (some r) = .ok true ↔
      in128 (d.cached - r) ∧ in128 (d.cached - r + amt) ∧ d.cached - r + amt ≤ d.limit :=
  chk_bind_ok_iff.trans (and_congr_right fun _ => chk_bind_ok_iff.trans (and_congr_right fun _ =>
    ok_eq_ok_iff.trans (eq_comm.trans decide_eq_true_iff)))

theorem canCtx_transfer_iff (now : Nat) (d : Data) (amt : Int) :
    canCtx now d (.transfer amt) = .ok true ↔ Accepts now d amt := by
  show (scanExpired (now - d.period) d.history 0 >>= canTail d amt) = .ok true ↔ _
  rw [scan_eq_cleanup]
  constructor
  · intro h
    obtain ⟨o, h1, h2⟩ := bind_eq_ok h
    obtain ⟨c, hc, ho⟩ := bind_eq_ok h1
    injection ho with ho
    subst ho
    unfold capAns at h2
    split at h2
    · cases h2
    · rename_i hcap
      obtain ⟨a1, a2, a3⟩ := (canTail_some_iff d amt c.2).mp h2
      exact ⟨c.1, c.2, hc, a1, a2, a3, Nat.lt_of_not_le hcap⟩
  · rintro ⟨h', r, hc, a1, a2, a3, a4⟩
    rw [hc, ok_bind, ok_bind]
    unfold capAns
    rw [if_neg (Nat.not_le.mpr a4)]
    exact (canTail_some_iff d amt r).mpr ⟨a1, a2, a3⟩

theorem canCtx_iff (now : Nat) (d : Data) (ctx : Ctx) :
    canCtx now d ctx = .ok true ↔ ∃ amt, ctx = .transfer amt ∧ Accepts now d amt := by
  cases ctx with
  | transfer amt =>
    rw [canCtx_transfer_iff]
    exact ⟨fun h => ⟨amt, rfl, h⟩, fun ⟨_, he, h⟩ => by cases he; exact h⟩
  | malformed => exact ⟨fun h => (by cases h), fun ⟨_, he, _⟩ => (by cases he)⟩
  | otherCall => exact ⟨fun h => (by cases h), fun ⟨_, he, _⟩ => (by cases he)⟩
  | createContract => exact ⟨fun h => (by cases h), fun ⟨_, he, _⟩ => (by cases he)⟩

theorem enforce_ok_iff {s s' : State} {auth : List Nat} {ctx : Ctx} {sg : List Nat} {rule : Rule} {acct : Nat} :
    enforce s auth ctx sg rule acct = .ok s' ↔
    acct ∈ auth ∧ sg.isEmpty = false ∧ ∃ d, s.store acct rule.id = some d ∧ enforceCtx s d rule acct ctx = .ok s' :=
  guard_ok_iff.trans (and_congr_right fun _ => ite_error_eq_ok_iff.trans
    (and_congr Bool.eq_false_iff.symm lookup_ok_iff))

theorem enforce_ok {s s' : State} {auth : List Nat} {ctx : Ctx} {sg : List Nat} {rule : Rule} {acct : Nat}
    (h : enforce s auth ctx sg rule acct = .ok s') :
    acct ∈ auth ∧ sg.isEmpty = false ∧ ∃ d amt h' r, s.store acct rule.id = some d ∧ ctx = .transfer amt ∧
      cleanup (s.now - d.period) d.history 0 = .ok (h', r) ∧ in128 (d.cached - r) ∧ in128 (d.cached - r + amt) ∧
      d.cached - r + amt ≤ d.limit ∧ h'.length < MAX_HISTORY_ENTRIES ∧
      s' = { s with
        store := upd2 s.store acct rule.id
          (some { d with history := h' ++ [⟨amt, s.now⟩], cached := d.cached - r + amt }),
        events := s.events ++ [.enforced acct rule.id amt (d.cached - r + amt)] } := by
  obtain ⟨ha, hsg, d, hd, h⟩ := enforce_ok_iff.mp h
  obtain ⟨amt, c, hctx, hc, h⟩ := enforceCtx_ok_iff.mp h
  exact ⟨ha, hsg, d, amt, c.1, c.2, hd, hctx, hc, enforceTail_ok_iff.mp h⟩

theorem enforce_iff (s : State) (auth : List Nat) (ctx : Ctx) (sg : List Nat) (rule : Rule) (acct : Nat) :
    (∃ s', enforce s auth ctx sg rule acct = .ok s') ↔
      acct ∈ auth ∧ sg.isEmpty = false ∧ ∃ d, s.store acct rule.id = some d ∧
        ∃ amt, ctx = .transfer amt ∧ Accepts s.now d amt := by
  constructor
  · rintro ⟨s', h⟩
    obtain ⟨ha, hsg, d, amt, h', r, hd, hctx, hc, a1, a2, a3, a4, _⟩ := enforce_ok h
    exact ⟨ha, hsg, d, hd, amt, hctx, h', r, hc, a1, a2, a3, a4⟩
  · rintro ⟨ha, hsg, d, hd, amt, hctx, h', r, hc, a1, a2, a3, a4⟩
    exact ⟨_, enforce_ok_iff.mpr ⟨ha, hsg, d, hd, enforceCtx_ok_iff.mpr ⟨amt, (h', r), hctx, hc,
      enforceTail_ok_iff.mpr ⟨a1, a2, a3, a4, rfl⟩⟩⟩⟩

theorem canEnforce_true_iff (s : State) (ctx : Ctx) (sg : List Nat) (rule : Rule) (acct : Nat) :
    canEnforce s ctx sg rule acct = .ok true ↔
      sg.isEmpty = false ∧ ∃ d, s.store acct rule.id = some d ∧
        ∃ amt, ctx = .transfer amt ∧ Accepts s.now d amt := by
  unfold canEnforce
  cases hsg : sg.isEmpty with
  | true => exact ⟨fun h => (by cases h), fun h => (by cases h.1)⟩
  | false =>
    rw [if_neg (by simp)]
    cases hd : s.store acct rule.id with
    | none => exact ⟨fun h => (by cases h), fun ⟨_, _, h, _⟩ => (by cases h)⟩
    | some d =>
      show canCtx s.now d ctx = .ok true ↔ _
      rw [canCtx_iff]
      exact ⟨fun h => ⟨rfl, d, rfl, h⟩, fun ⟨_, _, h, h2⟩ => by injection h with h; subst h; exact h2⟩

theorem install_ok_iff {s s' : State} {auth : List Nat} {lim : Int} {per : Nat} {rule : Rule} {acct : Nat} :
    install s auth lim per rule acct = .ok s' ↔
    acct ∈ auth ∧ 0 < lim ∧ 0 < per ∧ s.store acct rule.id = none ∧
      s' = { s with store := upd2 s.store acct rule.id (some ⟨lim, per, [], 0⟩) } :=
  guard_ok_iff.trans (and_congr_right fun _ => ite_error_eq_ok_iff.trans
    ((and_congr (by omega) (fresh_ok_iff.trans (and_congr_right fun _ => ok_eq_ok_iff))).trans and_assoc))

theorem setLimit_ok_iff {s s' : State} {auth : List Nat} {lim : Int} {rule : Rule} {acct : Nat} :
    setSpendingLimit s auth lim rule acct = .ok s' ↔
    acct ∈ auth ∧ 0 < lim ∧ ∃ d, s.store acct rule.id = some d ∧
      s' = { s with store := upd2 s.store acct rule.id (some { d with limit := lim }) } :=
  guard_ok_iff.trans (and_congr_right fun _ => ite_error_eq_ok_iff.trans
    (and_congr Int.not_le (lookup_ok_iff.trans (exists_congr fun _ => and_congr_right fun _ => ok_eq_ok_iff))))

theorem uninstall_ok_iff {s s' : State} {auth : List Nat} {rule : Rule} {acct : Nat} :
    uninstall s auth rule acct = .ok s' ↔
      acct ∈ auth ∧ s' = { s with store := upd2 s.store acct rule.id none } :=
  guard_ok_iff.trans (and_congr_right fun _ => ok_eq_ok_iff)

/-! ### ghost log of authorized transfers -/

structure Authd where
  amount : Int
  ledger : Nat
  limit : Int        -- the limit in force when it was authorized
  period : Nat       -- the period of the installation it was authorized under
  deriving Repr, DecidableEq

/-- ghost log: for every (account, rule id) the transfers authorized since the current
installation, NEWEST FIRST. Not part of the model's state: it is computed beside it. -/
abbrev Log := Nat → Nat → List Authd

def proj (t : Authd) : Entry := ⟨t.amount, t.ledger⟩

/-- `L - P < e.ledger` over ℤ: the entry is later than the window start (no test against `L`) -/
def inWin (L P : Nat) (e : Entry) : Bool := decide (L < e.ledger + P)

def winSumE (l : List Entry) (L P : Nat) : Int := isum (l.filter (inWin L P))

def winSum (l : List Authd) (L P : Nat) : Int := winSumE (l.map proj) L P

/-- every logged transfer, together with everything logged before it inside its window,
stayed within the limit in force when it was authorized -/
def GoodR : List Authd → Prop
  | [] => True
  | t :: older => winSum (t :: older) t.ledger t.period ≤ t.limit ∧ GoodR older

theorem goodR_suffix (newer : List Authd) {l : List Authd} (h : GoodR (newer ++ l)) : GoodR l := by
  induction newer with
  | nil => exact h
  | cons x xs ih => exact ih h.2

def logStep (s : State) (g : Log) (x : List Nat × Op) : Log :=
  match apply s x.1 x.2 with
  | .error _ => g
  | .ok _ =>
    match x.2 with
    | .enforce a r (.transfer amt) _ =>
      match s.store a r.id with
      | some d => upd2 g a r.id (⟨amt, s.now, d.limit, d.period⟩ :: g a r.id)
      | none => g
    | .uninstall a r => upd2 g a r.id []
    | _ => g

def stepG (sg : State × Log) (x : List Nat × Op) : State × Log := (step sg.1 x, logStep sg.1 sg.2 x)

def runG (sg : State × Log) (ops : List (List Nat × Op)) : State × Log := ops.foldl stepG sg

theorem runG_fst (ops : List (List Nat × Op)) : ∀ sg, (runG sg ops).1 = run sg.1 ops := by
  induction ops with
  | nil => intro sg; rfl
  | cons x xs ih => intro sg; simp only [runG, run, List.foldl_cons] at *; rw [ih]; rfl

def Sorted (h : List Entry) : Prop := h.Pairwise (fun a b => a.ledger ≤ b.ledger)

structure DInv (now : Nat) (d : Data) : Prop where
  cached : d.cached = isum d.history
  sorted : Sorted d.history
  le_now : ∀ e ∈ d.history, e.ledger ≤ now
  pos : ∀ e ∈ d.history, 1 ≤ e.ledger
  bound : d.history.length ≤ MAX_HISTORY_ENTRIES
  limit_pos : 0 < d.limit
  period_pos : 0 < d.period

theorem DInv.mono {now now' : Nat} {d : Data} (h : DInv now d) (hn : now ≤ now') : DInv now' d :=
  ⟨h.cached, h.sorted, fun e he => Nat.le_trans (h.le_now e he) hn, h.pos, h.bound, h.limit_pos, h.period_pos⟩

/-- the invariant of one key: its stored data and its ghost log `l` (newest first). The log is `GoodR`, ordered
and not from the future; with nothing installed it is empty; otherwise the data is well formed, the log is the
history (reversed) followed by evicted entries, all of which have left the window for good, and every entry was
authorized under the period of the installation -/
structure KRel (now : Nat) (od : Option Data) (l : List Authd) : Prop where
  good : GoodR l
  ordered : l.Pairwise (fun x y => y.ledger ≤ x.ledger)
  le_now : ∀ t ∈ l, t.ledger ≤ now
  none_nil : od = none → l = []
  dinv : ∀ d, od = some d → DInv now d
  hist : ∀ d, od = some d → (∃ old, l.map proj = d.history.reverse ++ old ∧ ∀ e ∈ old, e.ledger + d.period ≤ now) ∧
    ∀ t ∈ l, t.period = d.period

theorem KRel.nil (now : Nat) : KRel now none [] :=
  ⟨trivial, List.Pairwise.nil, fun _ h => (nomatch h), fun _ => rfl, fun _ h => (nomatch h), fun _ h => nomatch h⟩

theorem KRel.some {now : Nat} {d : Data} {l : List Authd} (hd : DInv now d) (good : GoodR l)
    (ordered : l.Pairwise (fun x y => y.ledger ≤ x.ledger)) (le_now : ∀ t ∈ l, t.ledger ≤ now)
    (hist : ∃ old, l.map proj = d.history.reverse ++ old ∧ ∀ e ∈ old, e.ledger + d.period ≤ now)
    (per : ∀ t ∈ l, t.period = d.period) : KRel now (some d) l :=
  ⟨good, ordered, le_now, fun h => (nomatch h), fun _ h => Option.some.inj h ▸ hd, fun _ h => Option.some.inj h ▸ ⟨hist, per⟩⟩

structure GInv (s : State) (g : Log) : Prop where
  now_pos : 1 ≤ s.now
  rel : ∀ a r, KRel s.now (s.store a r) (g a r)

theorem KRel.mono {now now' : Nat} {od : Option Data} {l : List Authd} (h : KRel now od l) (hn : now ≤ now') :
    KRel now' od l :=
  ⟨h.good, h.ordered, fun t ht => Nat.le_trans (h.le_now t ht) hn, h.none_nil, fun d hd => (h.dinv d hd).mono hn,
    fun d hd =>
      let ⟨⟨old, h1, h2⟩, h3⟩ := h.hist d hd
      ⟨⟨old, h1, fun e he => Nat.le_trans (h2 e he) hn⟩, h3⟩⟩

theorem cleanup_spec (cutoff : Nat) : ∀ (h : List Entry) (acc : Int) (h' : List Entry) (r : Int), Sorted h →
    cleanup cutoff h acc = .ok (h', r) →
    ∃ pre, h = pre ++ h' ∧ r = acc + isum pre ∧ (∀ e ∈ pre, e.ledger ≤ cutoff) ∧ (∀ e ∈ h', cutoff < e.ledger) := by
  intro h
  induction h with
  | nil =>
    intro acc h' r _ hc
    injection hc with hc
    injection hc with h1 h2
    subst h1 h2
    exact ⟨[], rfl, (Int.add_zero _).symm, fun _ h => (by cases h), fun _ h => (by cases h)⟩
  | cons e rest ih =>
    intro acc h' r hs hc
    unfold cleanup at hc
    split at hc
    · rename_i he
      obtain ⟨a, h1, h2⟩ := bind_eq_ok hc
      obtain ⟨_, rfl⟩ := chk_ok h1
      obtain ⟨pre, hp1, hp2, hp3, hp4⟩ := ih _ _ _ (List.Pairwise.of_cons hs) h2
      refine ⟨e :: pre, by rw [hp1]; rfl, by rw [hp2, isum_cons]; omega, ?_, hp4⟩
      intro x hx
      rcases List.mem_cons.mp hx with rfl | hx
      · exact he
      · exact hp3 x hx
    · rename_i he
      injection hc with hc
      injection hc with h1 h2
      subst h1 h2
      refine ⟨[], rfl, (Int.add_zero _).symm, fun _ h => (by cases h), ?_⟩
      intro x hx
      rcases List.mem_cons.mp hx with rfl | hx
      · omega
      · have := List.rel_of_pairwise_cons hs hx
        omega

/-- stated for any notion `G` of an entry that has left the window for good and any window test `p` that refuses such
entries: the model's ghost log and the monitor's differ in `G` and `p` only (the monitor also runs from ledger 0) -/
theorem enforce_push {now : Nat} {d : Data} (amt : Int) {h' old : List Entry} {r : Int} {G : Entry → Prop}
    {p : Entry → Bool} (hcached : d.cached = isum d.history) (hsorted : Sorted d.history)
    (hle : ∀ e ∈ d.history, e.ledger ≤ now)
    (hc : cleanup (now - d.period) d.history 0 = .ok (h', r)) (hlen : h'.length < MAX_HISTORY_ENTRIES)
    (hold : ∀ e ∈ old, G e) (hout : ∀ e ∈ d.history, e.ledger ≤ now - d.period → G e)
    (hG : ∀ e, G e → p e = false) (hin : ∀ e, now - d.period < e.ledger → p e = true) :
    (∀ e ∈ h', e ∈ d.history) ∧ d.cached - r + amt = isum (h' ++ [⟨amt, now⟩]) ∧ Sorted (h' ++ [⟨amt, now⟩]) ∧
    (∀ e ∈ h' ++ [⟨amt, now⟩], e.ledger ≤ now) ∧ (h' ++ [(⟨amt, now⟩ : Entry)]).length ≤ MAX_HISTORY_ENTRIES ∧
    (∃ old', (⟨amt, now⟩ : Entry) :: (d.history.reverse ++ old) = (h' ++ [(⟨amt, now⟩ : Entry)]).reverse ++ old' ∧
      ∀ e ∈ old', G e) ∧
    (p ⟨amt, now⟩ = true →
      isum (((⟨amt, now⟩ : Entry) :: (d.history.reverse ++ old)).filter p) = d.cached - r + amt) := by
  obtain ⟨pre, hp1, hp2, hp3, hp4⟩ := cleanup_spec _ _ _ _ _ hsorted hc
  have hsub : ∀ e ∈ h', e ∈ d.history := fun e he => by rw [hp1]; exact List.mem_append_right _ he
  have hgone : ∀ e ∈ pre, G e := fun e he => hout e (by rw [hp1]; exact List.mem_append_left _ he) (hp3 e he)
  have hsum : d.cached - r + amt = amt + isum h' := by
    rw [hcached, hp1, isum_append, hp2]
    omega
  refine ⟨hsub, hsum.trans (isum_push h' ⟨amt, now⟩).symm, ?_, ?_, ?_, ⟨pre.reverse ++ old, ?_, ?_⟩, ?_⟩
  · unfold Sorted at hsorted ⊢
    rw [hp1, List.pairwise_append] at hsorted
    rw [List.pairwise_append]
    refine ⟨hsorted.2.1, List.pairwise_singleton _ _, ?_⟩
    intro a ha b hb
    rw [List.mem_singleton.mp hb]
    exact hle a (hsub a ha)
  · intro e he
    rcases List.mem_append.mp he with h | h
    · exact hle e (hsub e h)
    · rw [List.mem_singleton.mp h]; exact Nat.le_refl _
  · rw [List.length_append]
    exact hlen
  · rw [hp1, List.reverse_append, List.reverse_append, List.reverse_singleton, List.singleton_append,
      List.append_assoc]
    rfl
  · intro e he
    rcases List.mem_append.mp he with h | h
    · exact hgone e (List.mem_reverse.mp h)
    · exact hold e h
  · -- of `new :: (pre ++ h').reverse ++ old` the window test keeps `new` and `h'`
    intro hnew
    rw [hp1, List.reverse_append, List.append_assoc, List.filter_cons, if_pos hnew, isum_cons, List.filter_append,
      List.filter_append, isum_append, isum_append,
      isum_filter_all _ p (fun e he => hin e (hp4 e (List.mem_reverse.mp he))), isum_reverse,
      isum_filter_none _ p (fun e he => hG e (hgone e (List.mem_reverse.mp he))),
      isum_filter_none _ p (fun e he => hG e (hold e he)), hsum]
    show amt + _ = _
    omega

theorem enforce_key {now : Nat} {d : Data} {l : List Authd} {amt : Int} {h' : List Entry} {r : Int}
    (hnow : 1 ≤ now) (hk : KRel now (some d) l)
    (hc : cleanup (now - d.period) d.history 0 = .ok (h', r))
    (hlim : d.cached - r + amt ≤ d.limit) (hlen : h'.length < MAX_HISTORY_ENTRIES) :
    KRel now (some { d with history := h' ++ [⟨amt, now⟩], cached := d.cached - r + amt })
      (⟨amt, now, d.limit, d.period⟩ :: l) := by
  have hd := hk.dinv d rfl
  obtain ⟨⟨old, ho1, ho2⟩, ho6⟩ := hk.hist d rfl
  have hper := hd.period_pos
  -- an entry dropped by cleanup has ledger ≥ 1, so it has left the window for good
  obtain ⟨hsub, hcach, hsorted, hle, hbound, ⟨old', ho1', ho2'⟩, hsum⟩ :=
    enforce_push (G := fun e => e.ledger + d.period ≤ now) (p := inWin now d.period) amt hd.cached hd.sorted
      hd.le_now hc hlen ho2 (fun e he h1 => by have := hd.pos e he; omega)
      (fun e he => decide_eq_false (Nat.not_lt.mpr he)) (fun e he => decide_eq_true (by omega))
  have hsum := hsum (decide_eq_true (Nat.lt_add_of_pos_right hper))
  rw [← ho1] at ho1' hsum
  refine .some ⟨hcach, hsorted, hle, ?_, hbound, hd.limit_pos, hd.period_pos⟩
    ⟨Int.le_trans (Int.le_of_eq hsum) hlim, hk.good⟩ (List.pairwise_cons.mpr ⟨hk.le_now, hk.ordered⟩)
    (List.forall_mem_cons.mpr ⟨Nat.le_refl _, hk.le_now⟩) ⟨old', ho1', ho2'⟩ (List.forall_mem_cons.mpr ⟨rfl, ho6⟩)
  intro e he
  rcases List.mem_append.mp he with h | h
  · exact hd.pos e (hsub e h)
  · rw [List.mem_singleton.mp h]; exact hnow

theorem step_eq_ok {s s' : State} {auth : List Nat} {op : Op} (h : apply s auth op = .ok s') :
    step s (auth, op) = s' := by
  unfold step; dsimp only; rw [h]

theorem step_eq_err {s : State} {auth : List Nat} {op : Op} {e : Err} (h : apply s auth op = .error e) :
    step s (auth, op) = s := by
  unfold step; dsimp only; rw [h]

theorem logStep_err {s : State} {g : Log} {auth : List Nat} {op : Op} {e : Err}
    (h : apply s auth op = .error e) : logStep s g (auth, op) = g := by
  unfold logStep; dsimp only; rw [h]

theorem init_ginv (now : Nat) (h : 1 ≤ now) : GInv (init now) (fun _ _ => []) :=
  ⟨h, fun _ _ => KRel.nil now⟩

theorem GInv.upd {s : State} {g : Log} (hi : GInv s g) (a r : Nat) {od : Option Data} {l : List Authd}
    (ev : List Event) (hk : KRel s.now od l) :
    GInv { s with store := upd2 s.store a r od, events := ev } (upd2 g a r l) := by
  refine ⟨hi.now_pos, fun x y => ?_⟩
  show KRel s.now (upd2 s.store a r od x y) (upd2 g a r l x y)
  by_cases hxy : x = a ∧ y = r
  · rw [hxy.1, hxy.2, upd2_same, upd2_same]; exact hk
  · rw [upd2_other _ _ _ _ _ _ hxy, upd2_other _ _ _ _ _ _ hxy]; exact hi.rel x y

theorem stepG_inv {s : State} {g : Log} (hi : GInv s g) (x : List Nat × Op) :
    GInv (step s x) (logStep s g x) := by
  obtain ⟨auth, op⟩ := x
  cases hap : apply s auth op with
  | error e => rw [step_eq_err hap, logStep_err hap]; exact hi
  | ok s' =>
    rw [step_eq_ok hap]
    cases op with
    | install a r lim per =>
      rw [show logStep s g (auth, .install a r lim per) = g by unfold logStep; dsimp only; rw [hap],
        ← upd2_self g a r.id]
      obtain ⟨_, hl, hp, hnone, rfl⟩ := install_ok_iff.mp hap
      refine hi.upd a r.id s.events ?_
      rw [(hi.rel a r.id).none_nil hnone]
      exact .some ⟨rfl, List.Pairwise.nil, fun _ h => (nomatch h), fun _ h => (nomatch h), Nat.zero_le _, hl, hp⟩ trivial
        List.Pairwise.nil (fun _ h => nomatch h) ⟨[], rfl, fun _ h => nomatch h⟩ (fun _ h => nomatch h)
    | setLimit a r lim =>
      rw [show logStep s g (auth, .setLimit a r lim) = g by unfold logStep; dsimp only; rw [hap],
        ← upd2_self g a r.id]
      obtain ⟨_, hl, d, hd, rfl⟩ := setLimit_ok_iff.mp hap
      have hk := hi.rel a r.id
      have h0 := hk.dinv d hd
      exact hi.upd a r.id s.events (.some ⟨h0.cached, h0.sorted, h0.le_now, h0.pos, h0.bound, hl, h0.period_pos⟩
        hk.good hk.ordered hk.le_now (hk.hist d hd).1 (hk.hist d hd).2)
    | uninstall a r =>
      rw [show logStep s g (auth, .uninstall a r) = upd2 g a r.id [] by unfold logStep; dsimp only; rw [hap]]
      obtain ⟨_, rfl⟩ := uninstall_ok_iff.mp hap
      exact hi.upd a r.id s.events (KRel.nil _)
    | enforce a r c sg =>
      obtain ⟨_, _, d, amt, h', rr, hd, rfl, hc, _, _, hlim, hlen, rfl⟩ := enforce_ok hap
      rw [show logStep s g (auth, .enforce a r (.transfer amt) sg) =
        upd2 g a r.id (⟨amt, s.now, d.limit, d.period⟩ :: g a r.id) by unfold logStep; dsimp only; rw [hap]; dsimp only; rw [hd]]
      exact hi.upd a r.id _
        (enforce_key hi.now_pos (by have := hi.rel a r.id; rw [hd] at this; exact this) hc hlim hlen)
    | advance n =>
      rw [show logStep s g (auth, .advance n) = g by unfold logStep; dsimp only; rw [hap]]
      injection hap with hap
      subst hap
      exact ⟨Nat.le_trans hi.now_pos (Nat.le_add_right _ _), fun a' r' => (hi.rel a' r').mono (Nat.le_add_right _ _)⟩

theorem runG_inv (ops : List (List Nat × Op)) : ∀ sg : State × Log, GInv sg.1 sg.2 →
    GInv (runG sg ops).1 (runG sg ops).2 :=
  OZ.Lists.foldl_inv (P := fun sg : State × Log => GInv sg.1 sg.2) (fun _ x h => stepG_inv h x) ops

end Spend

end OZ.Policies
