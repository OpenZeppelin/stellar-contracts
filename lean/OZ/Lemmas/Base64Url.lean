import OZ.Model.Base64Url
/-
Both the coded encoder and the RFC 4648 description turn a 3-byte group `a b c` into the four characters
`grp a b c`; a 1- or 2-byte tail is the group padded with zero bytes, cut after 2 or 3 characters. The
decoder inverts `grp`. `omega` proves each arithmetic fact here too, but is slow on nested `/` and `%`.
-/
namespace OZ.B64

def grp (a b c : Byte) : Bytes :=
  [urlChar (a.toNat / 4), urlChar (a.toNat % 4 * 16 + b.toNat / 16),
   urlChar (b.toNat % 16 * 4 + c.toNat / 64), urlChar (c.toNat % 64)]

theorem or2 (a b : Nat) (hb : b < 256) : a <<< 16 ||| b <<< 8 = a * 65536 + b * 256 := by
  have hb' : b <<< 8 < 2 ^ 16 := by rw [Nat.shiftLeft_eq]; omega
  rw [← Nat.shiftLeft_add_eq_or_of_lt hb', Nat.shiftLeft_eq, Nat.shiftLeft_eq]

theorem or3 (a b c : Nat) (hb : b < 256) (hc : c < 256) :
    a <<< 16 ||| b <<< 8 ||| c = a * 65536 + b * 256 + c := by
  rw [or2 a b hb]
  have h : a * 65536 + b * 256 = (a * 256 + b) <<< 8 := by rw [Nat.shiftLeft_eq]; omega
  have hc' : c < 2 ^ 8 := by omega
  rw [h, ← Nat.shiftLeft_add_eq_or_of_lt hc', Nat.shiftLeft_eq]

theorem alpha_eq_urlChar (v : Nat) (h : v < 64) : alpha v = urlChar v :=
  (by decide +kernel : ∀ v : Fin 64, alpha v.val = urlChar v.val) ⟨v, h⟩

theorem unChar_urlChar (v : Nat) (h : v < 64) : unChar (urlChar v) = v :=
  (by decide +kernel : ∀ v : Fin 64, unChar (urlChar v.val) = v.val) ⟨v, h⟩

theorem pick_eq (v sh : Nat) : pick v sh = urlChar (v / 2 ^ sh % 64) := by
  unfold pick
  rw [Nat.shiftRight_eq_div_pow, show (0x3F : Nat) = 2 ^ 6 - 1 from rfl, Nat.and_two_pow_sub_one_eq_mod,
    alpha_eq_urlChar _ (Nat.mod_lt _ (by decide))]

theorem mul_add_div_of_lt {a b c : Nat} (h : c < b) : (a * b + c) / b = a := by
  rw [Nat.add_comm, Nat.add_mul_div_right _ _ (Nat.zero_lt_of_lt h), Nat.div_eq_of_lt h, Nat.zero_add]

theorem mul_add_lt {a b c m : Nat} (ha : a < m) (hc : c < b) : a * b + c < m * b :=
  Nat.lt_of_lt_of_le (Nat.add_lt_add_left hc _) (Nat.succ_mul a b ▸ Nat.mul_le_mul_right b ha)

/-- three bytes cut 6|2, 4|4 and 2|6 are four 6-bit digits -/
theorem regroup (x1 x0 y1 y0 z1 z0 : Nat) :
    (x1 * 4 + x0) * 65536 + (y1 * 16 + y0) * 256 + (z1 * 64 + z0) =
      ((x1 * 64 + (x0 * 16 + y1)) * 64 + (y0 * 4 + z1)) * 64 + z0 := by
  simp +arith only

theorem digit_lt (a b c : Byte) :
    a.toNat / 4 < 64 ∧ a.toNat % 4 * 16 + b.toNat / 16 < 64 ∧ b.toNat % 16 * 4 + c.toNat / 64 < 64 ∧
      c.toNat % 64 < 64 :=
  ⟨Nat.div_lt_of_lt_mul a.toNat_lt, mul_add_lt (m := 4) (Nat.mod_lt _ (by decide)) (Nat.div_lt_of_lt_mul b.toNat_lt),
    mul_add_lt (m := 16) (Nat.mod_lt _ (by decide)) (Nat.div_lt_of_lt_mul c.toNat_lt), Nat.mod_lt _ (by decide)⟩

theorem pick_grp (a b c : Byte) {v : Nat} (hv : v = a.toNat * 65536 + b.toNat * 256 + c.toNat) :
    [pick v 18, pick v 12, pick v 6, pick v 0] = grp a b c := by
  obtain ⟨h0, h1, h2, h3⟩ := digit_lt a b c
  have h := regroup (a.toNat / 4) (a.toNat % 4) (b.toNat / 16) (b.toNat % 16) (c.toNat / 64) (c.toNat % 64)
  rw [Nat.div_add_mod', Nat.div_add_mod', Nat.div_add_mod'] at h
  rw [hv, h, pick_eq, pick_eq, pick_eq, pick_eq, show 2 ^ 18 = 64 * 64 * 64 from rfl, show 2 ^ 12 = 64 * 64 from rfl,
    show 2 ^ 6 = 64 from rfl, Nat.pow_zero, Nat.div_one]
  simp only [grp, ← Nat.div_div_eq_div_mul, mul_add_div_of_lt h3, mul_add_div_of_lt h2, mul_add_div_of_lt h1,
    Nat.mul_add_mod_of_lt h3, Nat.mul_add_mod_of_lt h2, Nat.mul_add_mod_of_lt h1, Nat.mod_eq_of_lt h0]

theorem rd_append (pre src : Bytes) (i : Nat) : rd (pre ++ src) (pre.length + i) = rd src i := by
  simp only [rd, List.getD_eq_getElem?_getD, List.getElem?_append_right (Nat.le_add_right _ _), Nat.add_sub_cancel_left]

theorem loop_append (pre src : Bytes) (k i : Nat) : loop (pre ++ src) k (pre.length + i) = loop src k i := by
  induction k generalizing i with
  | zero => rfl
  | succ k ih => simp only [loop, val3, Nat.add_assoc, rd_append, ih]

theorem tailOut_append (pre src : Bytes) (i : Nat) : tailOut (pre ++ src) (pre.length + i) = tailOut src i := by
  simp only [tailOut, List.length_append, Nat.add_sub_add_left, Nat.add_assoc, rd_append]

theorem encode_eq (src : Bytes) : encode src = loop src (src.length / 3) 0 ++ tailOut src (src.length / 3 * 3) := by
  unfold encode; rw [Nat.mul_div_cancel _ (by decide)]

theorem encode_cons3 (a b c : Byte) (rest : Bytes) :
    encode (a :: b :: c :: rest) = grp a b c ++ encode rest := by
  have hl : ([a, b, c] ++ rest).length / 3 = rest.length / 3 + 1 := by
    rw [List.length_append, Nat.add_comm]; exact Nat.add_div_right _ (Nat.zero_lt_succ _)
  have hm : (rest.length / 3 + 1) * 3 = [a, b, c].length + rest.length / 3 * 3 := by
    rw [Nat.succ_mul, Nat.add_comm]; rfl
  show encode ([a, b, c] ++ rest) = _
  rw [encode_eq, encode_eq, hl, hm, loop, tailOut_append,
    show (0 : Nat) + 3 = [a, b, c].length + 0 from rfl, loop_append]
  exact congrArg (· ++ _) (pick_grp a b c (or3 _ _ _ b.toNat_lt c.toNat_lt))

theorem encode_nil : encode [] = [] := rfl

theorem encode_one (a : Byte) : encode [a] = (grp a 0 0).take 2 := by
  simp only [encode, tailOut, loop, rd, List.length_cons, List.length_nil, Nat.reduceAdd, Nat.reduceDiv,
    Nat.reduceMul, Nat.reduceSub, Nat.reduceEqDiff, if_false, List.nil_append, List.getD_cons_zero]
  exact congrArg (List.take 2) (pick_grp a 0 0 (by omega : _ = a.toNat * 65536 + 0 * 256 + 0))

theorem encode_two (a b : Byte) : encode [a, b] = (grp a b 0).take 3 := by
  simp only [encode, tailOut, loop, rd, List.length_cons, List.length_nil, Nat.reduceAdd, Nat.reduceDiv,
    Nat.reduceMul, Nat.reduceSub, Nat.reduceEqDiff, if_false, if_true, List.nil_append, List.getD_cons_zero,
    List.getD_cons_succ]
  exact congrArg (List.take 3) (pick_grp a b 0 ((or2 _ _ b.toNat_lt).trans (Nat.add_zero _).symm))

theorem bit_le (n k : Nat) : n / k % 2 ≤ 1 := by omega

theorem mod4_bits (n : Nat) : n % 4 = n % 2 + 2 * (n / 2 % 2) := Nat.mod_mul (a := 2) (b := 2)

theorem mod16_bits (n : Nat) : n % 16 = n % 2 + 2 * (n / 2 % 2) + 4 * (n / 4 % 2) + 8 * (n / 8 % 2) := by
  rw [← mod4_bits, ← Nat.mod_mul (a := 4) (b := 2), ← Nat.mod_mul (a := 8) (b := 2)]

theorem mod64_bits (n : Nat) :
    n % 64 = n % 2 + 2 * (n / 2 % 2) + 4 * (n / 4 % 2) + 8 * (n / 8 % 2) + 16 * (n / 16 % 2) + 32 * (n / 32 % 2) := by
  rw [← mod16_bits, ← Nat.mod_mul (a := 16) (b := 2), ← Nat.mod_mul (a := 32) (b := 2)]

theorem val6_2_4 (p q : Nat) :
    val6 (p / 2 % 2) (p % 2) (q / 8 % 2) (q / 4 % 2) (q / 2 % 2) (q % 2) = p % 4 * 16 + q % 16 := by
  unfold val6; rw [mod4_bits p, mod16_bits q]; simp +arith only

theorem val6_4_2 (p q : Nat) :
    val6 (p / 8 % 2) (p / 4 % 2) (p / 2 % 2) (p % 2) (q / 2 % 2) (q % 2) = p % 16 * 4 + q % 4 := by
  unfold val6; rw [mod16_bits p, mod4_bits q]; simp +arith only

theorem val6_bits (n : Nat) :
    val6 (n / 32 % 2) (n / 16 % 2) (n / 8 % 2) (n / 4 % 2) (n / 2 % 2) (n % 2) = n % 64 := by
  unfold val6; rw [mod64_bits n]; simp +arith only

theorem rfc_cons3 (a b c : Byte) (rest : Bytes) :
    rfc4648 (a :: b :: c :: rest) = grp a b c ++ rfc4648 rest := by
  -- the high bits of a byte are the low bits of a quotient
  have h1 := val6_bits (a.toNat / 4)
  have h2 := val6_2_4 a.toNat (b.toNat / 16)
  have h3 := val6_4_2 b.toNat (c.toNat / 64)
  simp only [Nat.div_div_eq_div_mul, Nat.reduceMul] at h1 h2 h3
  rw [Nat.mod_eq_of_lt (show a.toNat / 4 < 64 from Nat.div_lt_of_lt_mul a.toNat_lt)] at h1
  rw [Nat.mod_eq_of_lt (show b.toNat / 16 < 16 from Nat.div_lt_of_lt_mul b.toNat_lt)] at h2
  rw [Nat.mod_eq_of_lt (show c.toNat / 64 < 4 from Nat.div_lt_of_lt_mul c.toNat_lt)] at h3
  show urlChar _ :: urlChar _ :: urlChar _ :: urlChar _ :: rfc4648 rest = _
  rw [h1, h2, h3, val6_bits]
  rfl

theorem rfc_one (a : Byte) : rfc4648 [a] = (grp a 0 0).take 2 :=
  congrArg (List.take 2) (rfc_cons3 a 0 0 [])

theorem rfc_two (a b : Byte) : rfc4648 [a, b] = (grp a b 0).take 3 :=
  congrArg (List.take 3) (rfc_cons3 a b 0 [])

theorem ofNat_toNat_mod (a : Byte) : UInt8.ofNat (a.toNat % 256) = a := by
  rw [Nat.mod_eq_of_lt a.toNat_lt]
  exact UInt8.ofNat_toNat

theorem decode_grp (a b c : Byte) (rest : Bytes) : decode (grp a b c ++ rest) = a :: b :: c :: decode rest := by
  obtain ⟨h0, h1, h2, h3⟩ := digit_lt a b c
  have hb : b.toNat / 16 < 16 := Nat.div_lt_of_lt_mul b.toNat_lt
  have hc : c.toNat / 64 < 4 := Nat.div_lt_of_lt_mul c.toNat_lt
  simp only [grp, List.cons_append, List.nil_append, decode]
  rw [unChar_urlChar _ h0, unChar_urlChar _ h1, unChar_urlChar _ h2, unChar_urlChar _ h3, mul_add_div_of_lt hb,
    Nat.mul_add_mod_of_lt hb, mul_add_div_of_lt hc, Nat.mul_add_mod_of_lt hc, Nat.div_add_mod', Nat.div_add_mod',
    Nat.div_add_mod', ofNat_toNat_mod, ofNat_toNat_mod, ofNat_toNat_mod]

theorem decode_encode : (src : Bytes) → decode (encode src) = src
  | [] => rfl
  | [a] => by rw [encode_one]; exact congrArg (List.take 1) (decode_grp a 0 0 [])
  | [a, b] => by rw [encode_two]; exact congrArg (List.take 2) (decode_grp a b 0 [])
  | a :: b :: c :: rest => by rw [encode_cons3, decode_grp, decode_encode rest]

theorem encode_length : (src : Bytes) → (encode src).length = (4 * src.length + 2) / 3
  | [] => rfl
  | [a] => by rw [encode_one]; simp only [grp, List.take_succ_cons, List.take_zero, List.length_cons, List.length_nil]
  | [a, b] => by rw [encode_two]; simp only [grp, List.take_succ_cons, List.take_zero, List.length_cons, List.length_nil]
  | a :: b :: c :: rest => by
    rw [encode_cons3, List.length_append, encode_length rest]
    simp only [grp, List.length_cons, List.length_nil]; omega

end OZ.B64
