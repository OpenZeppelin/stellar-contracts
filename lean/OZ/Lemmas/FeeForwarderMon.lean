import OZ.Props.C19
import OZ.Model.FeeForwarderMon
/-
For the soundness of the C19 monitor: the link between the monitor's ghost allowed-set and the model's allow-list
(`Good`), the relation between monitor state and model state (`Agree`), and silence of each piece of the verdict
on a rejected call and on an accepted forward / allow / sweep / advance of the model. What an accepted forward
did is taken from the property theorems of OZ/Props/C19.lean, which this file therefore imports.
-/
namespace OZ.FeeForwarder.Mon
open OZ.Host OZ.FeeForwarder

variable {v : Var} {m : Mon} {s s' : State} {al al' : AllowList} {g : List Nat}

theorem nth_map_range (n : Nat) (f : Nat → Int) (h : Nat) (hh : h < n) :
    nth ((List.range n).map f) h = f h := getD_map_range f 0 hh

theorem nth_map_range_ge (n : Nat) (f : Nat → Int) (h : Nat) (hh : n ≤ h) :
    nth ((List.range n).map f) h = 0 := by
  unfold nth
  rw [List.getD_eq_getElem?_getD, List.getElem?_eq_none (by simp; exact hh)]; rfl

theorem toks_eq : toks = [8, 9, 10, 11] := by decide

/-! ### the ghost allowed-set and the model's allow-list -/

structure Good (al : AllowList) (g : List Nat) : Prop where
  wf : WF al
  nodup : g.Nodup
  len : g.length = al.count
  mem : ∀ t, t ∈ g ↔ (al.indexOf t).isSome = true
  univ : ∀ t ∈ g, TOK0 ≤ t ∧ t < TOK0 + NTOK

theorem good_empty : Good AllowList.empty [] :=
  ⟨wf_empty, List.nodup_nil, rfl, fun t => by simp [AllowList.empty], fun t h => by cases h⟩

theorem Good.count_le (h : Good al g) : al.count ≤ NTOK := by
  rw [← h.len]
  exact OZ.Lists.nodup_bounded_length h.nodup h.univ

theorem Good.contains_iff (h : Good al g) (t : Nat) :
    g.contains t = true ↔ (al.indexOf t).isSome = true := by
  rw [List.contains_iff_mem]; exact h.mem t

theorem alAtOf_eq (hc : al.count ≤ NTOK) :
    alAtOf al = (List.range al.count).map (fun i => cellOf (al.tokenAt i)) ++
      [cellOf (al.tokenAt al.count), cellOf (al.tokenAt (al.count + 1))] := by
  unfold alAtOf
  rw [show min (al.count + 2) (NTOK + 2) = al.count + 2 from by omega]
  simp [List.range_succ]

theorem num?_cellOf (x : Option Nat) : Cell.num? (cellOf x) = x := by cases x <;> rfl

theorem liveNats_model (hc : al.count ≤ NTOK) (o : Obs) (ho : o.alAt = alAtOf al) :
    liveNats al.count o = enumerate al := by
  unfold liveNats enumerate
  rw [ho, alAtOf_eq hc, List.take_left' (by simp), List.filterMap_map]
  congr 1
  funext i
  exact num?_cellOf _

theorem getD_alAtOf (hc : al.count ≤ NTOK) {i : Nat} (hi : i < al.count) :
    (alAtOf al).getD i .empty = cellOf (al.tokenAt i) := by
  unfold alAtOf
  rw [show min (al.count + 2) (NTOK + 2) = al.count + 2 from by omega]
  exact getD_map_range _ _ (by omega)

theorem idxCellBad_model (h : Good al g) (o : Obs) (ho : o.alAt = alAtOf al)
    (t : Nat) : idxCellBad g o t (cellOf (al.indexOf t)) = false := by
  unfold idxCellBad
  cases hi : al.indexOf t with
  | none =>
    have : g.contains t = false := by
      cases hc : g.contains t with
      | false => rfl
      | true => have := (h.contains_iff t).mp hc; rw [hi] at this; cases this
    rw [this]; simp [cellOf]
  | some i =>
    have : g.contains t = true := (h.contains_iff t).mpr (by rw [hi]; rfl)
    rw [this]
    obtain ⟨hlt, hat⟩ := h.wf.bwd t i hi
    simp only [cellOf, if_true]
    rw [ho, getD_alAtOf h.count_le hlt, hat]
    simp [cellOf]

theorem alAllowed_model (h : Good al g) : alAllowedOf al = expectAllowed g := by
  unfold alAllowedOf expectAllowed
  congr 1
  apply List.map_congr_left
  intro t _
  have hiff : isAllowedFeeToken al t = true ↔ (g.length = 0 ∨ g.contains t = true) := by
    rw [token_accepted_iff, h.len, h.contains_iff]
  by_cases ha : isAllowedFeeToken al t = true
  · rw [if_pos ha, if_pos (hiff.mp ha)]
  · rw [if_neg ha, if_neg (fun hh => ha (hiff.mpr hh))]

theorem alEnabled_model (h : Good al g) :
    (if allowlistEnabled al then "1" else "0") = (if g.length = 0 then "0" else "1") := by
  unfold allowlistEnabled
  rw [h.len]
  by_cases hc : al.count = 0
  · rw [if_pos hc, if_neg (by simp [hc])]
  · rw [if_neg hc, if_pos (by simp; omega)]

theorem checkAllowlist_model (h : Good s.al g) (ok : Bool) (dem : List DemEntry) :
    checkAllowlist g (obsOf s ok dem) = none := by
  have hc := h.count_le
  have hlive : liveNats g.length (obsOf s ok dem) = enumerate s.al := by
    rw [h.len]; exact liveNats_model hc _ rfl
  unfold checkAllowlist
  rw [if_neg (by simp [obsOf, h.len])]
  rw [if_neg (by
    rw [hlive]
    rintro (h1 | h1 | h1)
    · exact h1 (by rw [enumerate_length h.wf, h.len])
    · exact h1 (enumerate_nodup h.wf)
    · rw [List.any_eq_true] at h1
      obtain ⟨t, ht, hb⟩ := h1
      have : t ∈ g := (h.mem t).mpr ((mem_enumerate h.wf t).mp ht)
      simp [this] at hb)]
  rw [if_neg (by
    show ¬ (((alAtOf s.al).drop g.length).any (· ≠ .empty) = true)
    rw [h.len, alAtOf_eq hc, List.drop_left' (by simp), h.wf.lok.2.2 _ (Nat.le_refl _), h.wf.lok.2.2 _ (Nat.le_succ _)]
    simp [cellOf])]
  rw [if_neg (by
    show ¬ ((toks.zip (alIdxOf s.al)).any (fun x => idxCellBad g (obsOf s ok dem) x.1 x.2) = true)
    unfold alIdxOf
    rw [OZ.Lists.zip_map_any, Bool.not_eq_true, List.any_eq_false]
    intro t _
    rw [idxCellBad_model h _ rfl]; simp)]
  rw [if_neg (by
    show ¬ (alAllowedOf s.al ≠ expectAllowed g)
    rw [alAllowed_model h]; simp)]
  rw [if_neg (by
    show ¬ ((if allowlistEnabled s.al then "1" else "0") ≠ (if g.length = 0 then "0" else "1"))
    rw [alEnabled_model h]; simp)]

/-! ### the ghost set follows accepted allow / disallow operations -/

theorem good_allow {t : Nat} (h : Good al g)
    (ht : TOK0 ≤ t ∧ t < TOK0 + NTOK) (ha : allowToken al t = .ok al') :
    g.contains t = false ∧ Good al' (g ++ [t]) := by
  obtain ⟨hn, hb, e⟩ := allowToken_eq_ok.mp ha
  subst e
  have hnot : t ∉ g := fun hm => by have := (h.mem t).mp hm; rw [hn] at this; cases this
  refine ⟨by simpa using hnot, allow_wf h.wf hn hb, ?_, ?_, ?_, ?_⟩
  · rw [List.nodup_append]
    exact ⟨h.nodup, by simp, fun a hag b hb e => by
      rw [List.mem_singleton] at hb; subst hb; subst e; exact hnot hag⟩
  · simp [h.len]
  · intro x
    dsimp only
    by_cases hx : x = t
    · subst hx; rw [upd_same]; simp
    · rw [upd_other _ _ _ _ hx, ← h.mem x]; simp [hx]
  · intro x hx
    rw [List.mem_append, List.mem_singleton] at hx
    rcases hx with hx | hx
    · exact h.univ x hx
    · subst hx; exact ht

theorem good_disallow {t : Nat} (h : Good al g)
    (ha : disallowToken al t = .ok al') :
    g.contains t = true ∧ Good al' (g.filter (· ≠ t)) := by
  obtain ⟨ri, hi⟩ := disallowToken_ok ha
  obtain ⟨_, ha', w', hc, hm⟩ := disallow_wf h.wf hi
  cases ha.symm.trans ha'
  have hmem : t ∈ g := (h.mem t).mpr (by rw [hi]; rfl)
  refine ⟨by simpa using hmem, w', h.nodup.sublist List.filter_sublist, ?_, ?_, ?_⟩
  · rw [hc, ← h.len]
    have e : g.filter (· ≠ t) = g.erase t := by
      rw [List.Nodup.erase_eq_filter h.nodup]
      congr 1; funext x; by_cases hx : x = t <;> simp [hx]
    rw [e, List.length_erase_of_mem hmem]
  · intro x
    rw [hm x, List.mem_filter, h.mem x]
    simp [and_comm]
  · intro x hx
    exact h.univ x (List.mem_filter.mp hx).1

/-! ### observations of the model -/

theorem tokOf_obsOf {tok : Nat} (s : State) (ok : Bool) (dem : List DemEntry)
    (ht : TOK0 ≤ tok ∧ tok < TOK0 + NTOK) : tokOf (obsOf s ok dem) tok = tokObs s tok := by
  unfold tokOf
  show (toksObs s).getD (tok - TOK0) zeroTok = _
  unfold toksObs
  rw [getD_map_range _ _ (by omega)]
  congr 1
  omega

theorem tokOf_prev {prev : Obs} {tok : Nat} (hp : prev.toks = toksObs s)
    (ht : TOK0 ≤ tok ∧ tok < TOK0 + NTOK) : tokOf prev tok = tokObs s tok := by
  unfold tokOf
  rw [hp]
  exact tokOf_obsOf s true [] ht

theorem tokObs_congr {t : Nat} (h : tokAt s' t = tokAt s t) : tokObs s' t = tokObs s t := by
  unfold tokObs; rw [h]

theorem nth_bal (s : State) (t h : Nat) (hh : h < NHOLD) : nth (tokObs s t).bal h = (s.toks t).bal h :=
  nth_map_range _ _ _ hh

theorem nth_allow (s : State) (t h : Nat) (hh : h < NHOLD) :
    nth (tokObs s t).allow h = OZ.Fungible.allowance (tokAt s t) h FWD :=
  nth_map_range _ _ _ hh

theorem nth_allow_ge (s : State) (t h : Nat) (hh : NHOLD ≤ h) : nth (tokObs s t).allow h = 0 :=
  nth_map_range_ge _ _ _ hh

theorem expectBal_model (s s' : State) (t a b : Nat) (amt : Int)
    (hb : (s'.toks t).bal = OZ.Vault.moved (s.toks t).bal a b amt) :
    (tokObs s' t).bal = expectBal (tokObs s t) a b amt :=
  List.map_congr_left fun h hh => by
    show (s'.toks t).bal h = _
    rw [nth_bal s t h (List.mem_range.mp hh), hb, OZ.Vault.moved_apply]

/-! ### an accepted forward of the model -/

theorem fwdBounds_model {cfg : Cfg} {user rcp : Nat} {au : Auth} {c : Call} {ap : Approval} {tgt : Target}
    (hg : Good s.al g)
    (h : collectFeeAndInvoke (params cfg) s au c user rcp ap tgt = .ok s')
    (ht : TOK0 ≤ c.token ∧ c.token < TOK0 + NTOK) (dem : List DemEntry) :
    fwdBounds g c user (obsOf s' true dem) = none := by
  obtain ⟨f0, fm, hu, _, _, _, _, _, _, hnow⟩ := charges_exactly_fee h
  obtain ⟨hexp, _⟩ := forward_not_expired h
  have hal := (token_accepted_iff _ _).mp (forwarded h).1.fee.token
  unfold fwdBounds
  have hu' : ¬ user = FWD := hu
  rw [if_neg (not_not_intro ⟨f0, fm⟩),
    if_neg (by show ¬ (c.expiration < s'.now); rw [hnow]; exact Nat.not_lt.mpr hexp), if_neg hu',
    if_neg (fun h => h.elim (Nat.not_lt.mpr ht.1) (Nat.not_le.mpr ht.2))]
  rw [if_neg (by
    rw [Classical.not_not]
    rcases hal with h0 | h1
    · left
      rw [List.isEmpty_iff]
      exact List.length_eq_zero_iff.mp (hg.len.trans h0)
    · right; exact (hg.contains_iff _).mpr h1)]

theorem fwdMoney_model {cfg : Cfg} {prev : Obs} {user rcp : Nat} {au : Auth} {c : Call} {ap : Approval} {tgt : Target}
    (hp : prev.toks = toksObs s)
    (h : collectFeeAndInvoke (params cfg) s au c user rcp ap tgt = .ok s')
    (ht : TOK0 ≤ c.token ∧ c.token < TOK0 + NTOK) (dem : List DemEntry) :
    fwdMoney prev (obsOf s' true dem) c user rcp = none := by
  obtain ⟨f0, fm, hu, _, hb, _, hoth, _, _, hnow⟩ := charges_exactly_fee h
  obtain ⟨_, hothA, hothT⟩ := allowance_after_forward h
  obtain ⟨hget, hge0⟩ := allowance_getter_after_forward h
  have hself : (params cfg).self = FWD := rfl
  rw [hself] at hget hge0 hothA
  unfold fwdMoney
  rw [tokOf_obsOf s' true dem ht, tokOf_prev hp ht]
  rw [if_neg (by rw [expectBal_model s s' c.token user rcp c.fee hb]; simp)]
  rw [if_neg (by
    rw [Bool.not_eq_true, List.any_eq_false]
    intro j hj
    have hj4 : j < NTOK := List.mem_range.mp hj
    simp only [decide_eq_true_eq, not_and, Classical.not_not]
    intro hne
    show (toksObs s').getD j zeroTok = prev.toks.getD j zeroTok
    rw [hp]
    unfold toksObs
    rw [getD_map_range _ _ hj4, getD_map_range _ _ hj4]
    exact tokObs_congr (hothT _ (fun e => hne (by rw [← e, Nat.add_sub_cancel]))))]
  rw [if_neg (by
    rw [Bool.not_eq_true, List.any_eq_false]
    intro x hx
    have hx8 : x < NHOLD := List.mem_range.mp hx
    simp only [decide_eq_true_eq, not_and, Classical.not_not]
    intro hne
    rw [nth_allow _ _ _ hx8, nth_allow _ _ _ hx8]
    unfold OZ.Fungible.allowance
    rw [hothA x FWD (fun hh => hne hh.1)])]
  -- the allowance user → forwarder ends in `[0, max(old, maxFee) − fee]` (0 for an unobserved holder)
  rw [if_neg (by
    rintro (hneg | hgt)
    · by_cases hu8 : user < NHOLD
      · rw [nth_allow _ _ _ hu8] at hneg; exact Int.not_lt.mpr hge0 hneg
      · rw [nth_allow_ge _ _ _ (Nat.le_of_not_lt hu8)] at hneg; exact Int.lt_irrefl 0 hneg
    · apply Int.not_lt.mpr _ hgt
      by_cases hu8 : user < NHOLD
      · rw [nth_allow _ _ _ hu8, nth_allow _ _ _ hu8, hget]
        apply Int.sub_le_sub_right
        split
        · exact Int.le_max_right _ _
        · exact Int.le_max_left _ _
      · rw [nth_allow_ge _ _ _ (Nat.le_of_not_lt hu8), nth_allow_ge _ _ _ (Nat.le_of_not_lt hu8)]
        exact Int.sub_nonneg.mpr (Int.le_trans fm (Int.le_max_right _ _)))]

theorem fwdTarget_model {cfg : Cfg} {prev : Obs} {user rcp : Nat} {au : Auth} {c : Call} {ap : Approval} {tgt : Target}
    (hn : prev.callsN = s.calls.length)
    (h : collectFeeAndInvoke (params cfg) s au c user rcp ap tgt = .ok s')
    (htg : c.target = TGT) (dem : List DemEntry) :
    fwdTarget prev (obsOf s' true dem) c = none := by
  obtain ⟨hcalls, _⟩ := target_invoked_once h
  unfold fwdTarget
  rw [if_neg (by
    show ¬ (s'.calls.length ≠ prev.callsN + 1 ∨ c.target ≠ TGT ∨ callsFnOf s' ≠ fnName c.fn ∨
      callsArgsOf s' ≠ showVals "," c.args)
    unfold callsFnOf callsArgsOf
    rw [hcalls, List.getLast?_concat, hn]
    simp [htg])]

/-! ### the demanded authorizations of an accepted forward -/

/-- the approval strategy of the contract a sequence drives -/
def apFor (v : Var) (eager : Bool) : Approval :=
  match v with
  | .pl => .eager
  | .pd => .lazy
  | _ => apOf eager

theorem modelDem_forward (p : Params) (v : Var) (s : State) (all : Bool) (plain : List Nat) (ua : Option UserAuth)
    (c : Call) (u r : Nat) (tgt : Target) (eager : Bool) (a b : String) :
    modelDem p v s (.forward all plain ua c u r tgt eager a b) =
      (if needsRelayer v then [relEntry c u r] else []) ++ [userEntry u c (usedSubs p s c u (apFor v eager) tgt)] := by
  cases v <;> simp [modelDem, needsRelayer, apFor]

theorem isUserEntry_rel (c : Call) (user rel : Nat) : isUserEntry c user (relEntry c user rel) = false := by
  unfold isUserEntry relEntry
  have : callL c user rel ≠ tupleL c := fun h => by
    have := congrArg List.length h
    simp [callL, tupleL] at this
  simp [this]

theorem isUserEntry_user (c : Call) (user : Nat) (subs : List Inv) :
    isUserEntry c user (userEntry user c subs) = true := by
  simp [isUserEntry, userEntry]

theorem usedSubs_mem {p : Params} {c : Call} {ap : Approval} {tgt : Target} {u : Nat} {i : Inv}
    (h : i ∈ usedSubs p s c u ap tgt) : i = approveInv p c.token u c.maxFee c.expiration ∨ i = targetInv c := by
  unfold usedSubs at h
  rw [List.mem_append] at h
  rcases h with h | h
  · split at h
    · left; simpa using h
    · cases h
  · split at h
    · right; simpa using h
    · cases h

theorem fwdDem_model (cfg : Cfg) (v : Var) (c : Call) (user rel : Nat) (subs : List Inv)
    (hsubs : ∀ i ∈ subs, i = approveInv (params cfg) c.token user c.maxFee c.expiration ∨ i = targetInv c)
    (o : Obs)
    (ho : o.dem = sortEntries ((if needsRelayer v then [relEntry c user rel] else []) ++ [userEntry user c subs])) :
    fwdDem v c user rel o = none := by
  have hperm : o.dem.Perm ((if needsRelayer v then [relEntry c user rel] else []) ++ [userEntry user c subs]) := by
    rw [ho]; exact List.mergeSort_perm _ _
  have hfilter : ((if needsRelayer v then [relEntry c user rel] else []) ++ [userEntry user c subs]).filter
      (isUserEntry c user) = [userEntry user c subs] := by
    split <;> simp [isUserEntry_rel, isUserEntry_user]
  have hpf := (hperm.filter (isUserEntry c user))
  rw [hfilter] at hpf
  unfold fwdDem
  rw [if_neg (by rw [hpf.length_eq]; simp)]
  rw [if_neg (by
    rw [Bool.not_eq_true, List.any_eq_false]
    intro en hen
    have : en = userEntry user c subs := by simpa using (hpf.mem_iff.mp hen)
    subst this
    rw [Bool.not_eq_true, List.any_eq_false]
    intro sb hsb
    obtain ⟨i, hi, e⟩ := List.mem_map.mp hsb
    subst e
    have hin : showInvArgs i ∈ okSubs c user := by
      rcases hsubs i hi with e | e
      · subst e; exact List.mem_cons_self
      · subst e; exact List.mem_cons_of_mem _ List.mem_cons_self
    simp [hin])]
  rw [if_neg (by
    intro ⟨hr, hnc⟩
    apply hnc
    rw [List.contains_iff_mem, hperm.mem_iff, if_pos hr]
    exact List.mem_cons_self)]

/-! ### the three forward entry points, uniformly -/

theorem fwdOp_ok {cfg : Cfg} {user rel : Nat} {au : Auth} {c : Call} {tgt : Target} {eager : Bool}
    (h : apply (params cfg) s au (fwdOp v c user rel tgt eager) = .ok s') :
    collectFeeAndInvoke (params cfg) s au c user (rcpOf v rel) (apFor v eager) tgt = .ok s' ∧
    (v = .pd → rel ∈ [2, 3]) ∧ (needsRelayer v = true → rel ∈ au.plain) := by
  cases v with
  | pl =>
    obtain ⟨h1, h2⟩ := forwardPL_requires (show forwardPermissionless _ s au c user rel tgt = .ok s' from h)
    exact ⟨h2, fun e => (by cases e), fun _ => h1⟩
  | pd =>
    obtain ⟨h0, h1, h2⟩ := forwardPD_requires (show forwardPermissioned _ s au c user rel tgt = .ok s' from h)
    exact ⟨h2, fun _ => h0, fun _ => h1⟩
  | lib => exact ⟨h, fun e => (by cases e), fun e => (by simp [needsRelayer] at e)⟩
  | other => exact ⟨h, fun e => (by cases e), fun e => (by simp [needsRelayer] at e)⟩

theorem fwdGate_model {cfg : Cfg} {all : Bool} {plain : List Nat} {ua : Option UserAuth} {user rel : Nat}
    {c : Call} {tgt : Target} {eager : Bool}
    (a b : String)
    (h : apply (params cfg) s (auFwd (params cfg) all plain ua c user) (fwdOp v c user rel tgt eager) = .ok s') :
    fwdGate v all plain ua c user rel a b = none := by
  obtain ⟨h1, h2, h3⟩ := fwdOp_ok h
  have hu := (forwarded h1).1.signed
  unfold fwdGate
  rw [if_neg (by
    intro ⟨hv, hn⟩
    apply hn
    rw [List.contains_iff_mem]; exact h2 hv)]
  rw [if_neg (by
    intro ⟨ha, hr, hn⟩
    apply hn
    have := h3 hr
    unfold auFwd at this
    rw [if_neg ha] at this
    rw [List.contains_iff_mem]; exact this)]
  rw [if_neg (by
    intro ⟨ha, hn⟩
    apply hn
    unfold auFwd at hu
    rw [if_neg ha] at hu
    exact hu)]

/-! ### the manager gate of the permissioned example -/

/-- an `allow` / `sweep` line: the library function `lib`, directly or behind the manager gate of the permissioned
example (`pd o`: `o` is manager 1 and signed), so `gateBad` is silent -/
theorem managed_ok {cfg : Cfg} {all : Bool} {plain : List Nat} {oper : Option Nat} {au : Auth} {op : Op}
    {pd : Nat → Op} {lib : Op} {r : Except Err State}
    (hx : (match v with
      | .pd => oper.map (fun o => (auPlain all plain, pd o))
      | .lib => some (auPlain all plain, lib)
      | _ => none) = some (au, op))
    (hy : apply (params cfg) s au op = .ok s')
    (hlib : apply (params cfg) s (auPlain all plain) lib = r)
    (hpd : ∀ o, apply (params cfg) s (auPlain all plain) (pd o) = .ok s' →
      o ∈ [1] ∧ o ∈ (auPlain all plain).plain ∧ r = .ok s') :
    r = .ok s' ∧ gateBad v all plain oper = false := by
  cases v with
  | pl => cases hx
  | other => cases hx
  | lib => cases hx; exact ⟨hlib ▸ hy, rfl⟩
  | pd =>
    cases oper with
    | none => cases hx
    | some o =>
      cases hx
      obtain ⟨h0, h1, hr⟩ := hpd o hy
      refine ⟨hr, decide_eq_false fun ⟨_, hb⟩ => ?_⟩
      cases List.mem_singleton.mp h0
      refine hb.elim (fun h => h rfl) fun ⟨ha, hn⟩ => hn ?_
      rw [List.contains_iff_mem]
      simpa [auPlain, ha] using h1

/-! ### the initial state -/

theorem allowance_init (now t i j : Nat) : OZ.Fungible.allowance (tokAt (init now) t) i j = 0 := by
  unfold OZ.Fungible.allowance
  rw [OZ.Fungible.allowanceData_none (by rfl)]

theorem tokObs_init (now t : Nat) : tokObs (init now) t = zeroTok := by
  unfold tokObs zeroTok
  congr 1
  · simp only [allowance_init]; rfl

theorem toksObs_init (now : Nat) : toksObs (init now) = List.replicate NTOK zeroTok := by
  unfold toksObs
  simp only [tokObs_init]; rfl

/-! ### monitor state ↔ model state -/

structure Agree (v : Var) (m : Mon) (s : State) : Prop where
  var : m.var = v
  alRaw : m.prev.alRaw = showAl s.al
  toks : m.prev.toks = toksObs s
  callsN : m.prev.callsN = s.calls.length
  callsFn : m.prev.callsFn = callsFnOf s
  callsArgs : m.prev.callsArgs = callsArgsOf s
  good : Good s.al m.allowed

theorem ghostStep_false (g : List Nat) (i : In) : ghostStep g i false = g := by
  cases i <;> rfl

theorem toksObs_congr (ht : s'.toks = s.toks) (hn : s'.now = s.now) : toksObs s' = toksObs s := by
  unfold toksObs tokObs tokAt
  rw [ht, hn]

theorem toksObs_bal_congr (h : s'.toks = s.toks) :
    (toksObs s').map (·.bal) = (toksObs s).map (·.bal) := by
  unfold toksObs
  rw [List.map_map, List.map_map]
  apply List.map_congr_left
  intro k _
  show (List.range NHOLD).map (fun i => (s'.toks (k + TOK0)).bal i) =
    (List.range NHOLD).map (fun i => (s.toks (k + TOK0)).bal i)
  rw [h]

theorem noCall_model {prev : Obs} (hn : prev.callsN = s.calls.length) (hc : s'.calls = s.calls)
    (dem : List DemEntry) (rest : Option String) : noCall prev (obsOf s' true dem) rest = rest := by
  unfold noCall
  rw [if_neg (by show ¬ (s'.calls.length ≠ prev.callsN); rw [hc, hn]; simp)]

/-! The lemmas that take the monitor apart are stated for an arbitrary observation `o`: asking Lean to see
through `checkCore m i (obsOf s ok dem)` by unification makes it evaluate the monitor's `if`s on the printed
strings of the model. -/

theorem checkCore_fst (m : Mon) (i : In) (o : Obs) :
    (checkCore m i o).1 = { m with prev := o, allowed := ghostStep m.allowed i o.ok } := rfl

theorem checkCore_snd (m : Mon) (i : In) (o : Obs) :
    (checkCore m i o).2 = verdict m (ghostStep m.allowed i o.ok) i o := rfl

theorem verdict_rejected (m : Mon) (g : List Nat) (i : In) {o : Obs} (h : o.ok = false) :
    verdict m g i o = verdictRejected m.prev g o := by
  unfold verdict
  rw [if_pos (by rw [h]; exact Bool.false_ne_true)]

theorem verdict_accepted (m : Mon) (g : List Nat) (i : In) {o : Obs} (h : o.ok = true) :
    verdict m g i o = verdictAccepted m g i o := by
  unfold verdict
  rw [if_neg (not_not_intro h)]

theorem agree_obsOf (ok : Bool) (dem : List DemEntry)
    (hv : m.var = v) (hg : Good s.al g) : Agree v { m with prev := obsOf s ok dem, allowed := g } s :=
  ⟨hv, rfl, rfl, rfl, rfl, rfl, hg⟩

/-- the rollback check compares five fields of the previous observation with the same five of
the new one, which by `Agree` are both the model's -/
theorem verdictRejected_model (ha : Agree v m s) (ok : Bool)
    (dem : List DemEntry) : verdictRejected m.prev m.allowed (obsOf s ok dem) = none := by
  unfold verdictRejected
  rw [if_neg (by
    rw [ha.alRaw, ha.toks, ha.callsN, ha.callsFn, ha.callsArgs]
    show ¬ (showAl s.al ≠ showAl s.al ∨ ¬ (toksObs s = toksObs s) ∨ s.calls.length ≠ s.calls.length ∨
      callsFnOf s ≠ callsFnOf s ∨ callsArgsOf s ≠ callsArgsOf s)
    rintro (h | h | h | h | h) <;> exact h rfl)]
  exact checkAllowlist_model ha.good _ _

/-- a rejected call of the model: the monitor is silent and keeps describing the (unchanged) state -/
theorem rejected_sound {v : Var} {m : Mon} {s : State} (ha : Agree v m s) (i : In) :
    (checkCore m i (obsOf s false [])).2 = none ∧ Agree v (checkCore m i (obsOf s false [])).1 s := by
  have hok : (obsOf s false []).ok = false := rfl
  rw [checkCore_snd, checkCore_fst, hok, ghostStep_false, verdict_rejected m _ i hok]
  exact ⟨verdictRejected_model ha _ _, agree_obsOf _ _ ha.var ha.good⟩

theorem noCall_checkAllowlist_model (ha : Agree v m s) {tok : Nat} {r : Except OZ.Fungible.Err OZ.Fungible.State}
    (h : liftTok s tok r = .ok s') (dem : List DemEntry) :
    noCall m.prev (obsOf s' true dem) (checkAllowlist m.allowed (obsOf s' true dem)) = none ∧
    Good s'.al m.allowed := by
  obtain ⟨_, _, _, t1⟩ := liftTok_ok h
  have hgood : Good s'.al m.allowed := by rw [t1.al]; exact ha.good
  rw [noCall_model ha.callsN t1.calls]
  exact ⟨checkAllowlist_model hgood _ _, hgood⟩

theorem verdictAdvance_model (ha : Agree v m s) (n : Nat) (dem : List DemEntry) :
    noCall m.prev (obsOf { s with now := s.now + n } true dem)
      (verdictAdvance m.prev m.allowed n (obsOf { s with now := s.now + n } true dem)) = none := by
  rw [noCall_model (s' := { s with now := s.now + n }) ha.callsN rfl]
  unfold verdictAdvance
  rw [if_neg (by
    rw [ha.alRaw, ha.toks]
    show ¬ (showAl s.al ≠ showAl s.al ∨
      (toksObs { s with now := s.now + n }).map (·.bal) ≠ (toksObs s).map (·.bal))
    rintro (h | h)
    · exact h rfl
    · exact h (toksObs_bal_congr rfl))]
  exact checkAllowlist_model (s := { s with now := s.now + n }) ha.good _ _

theorem verdictAllow_model {all : Bool} {plain : List Nat} {oper : Option Nat} {tok : Nat} (ha : Agree v m s)
    {allowed : Bool} (hset : setAllowedFeeToken s tok allowed = .ok s')
    (hgate : gateBad m.var all plain oper = false)
    (ht : TOK0 ≤ tok ∧ tok < TOK0 + NTOK) (dem : List DemEntry) :
    noCall m.prev (obsOf s' true dem)
      (verdictAllow m (ghostStep m.allowed (.allow all plain tok oper allowed) true) all plain tok oper allowed
        (obsOf s' true dem)) = none ∧
    Good s'.al (ghostStep m.allowed (.allow all plain tok oper allowed) true) := by
  obtain ⟨hset, htoks, hnow, hcalls⟩ := setAllowedFeeToken_full hset
  unfold setAllowed at hset
  have key : (if allowed then m.allowed.contains tok = false else m.allowed.contains tok = true) ∧
      Good s'.al (ghostStep m.allowed (.allow all plain tok oper allowed) true) := by
    cases allowed with
    | true =>
      rw [if_pos rfl] at hset
      exact good_allow ha.good ht hset
    | false =>
      rw [if_neg Bool.false_ne_true] at hset
      exact good_disallow ha.good hset
  refine ⟨?_, key.2⟩
  rw [noCall_model ha.callsN hcalls]
  unfold verdictAllow
  rw [if_neg (by
    intro ⟨h1, h2⟩
    have := key.1; rw [if_pos h1] at this; rw [this] at h2; cases h2)]
  rw [if_neg (by
    intro ⟨h1, h2⟩
    have := key.1; rw [if_neg h1] at this; exact h2 this)]
  rw [if_neg (by rw [hgate]; exact Bool.false_ne_true)]
  rw [if_neg (by
    rw [Classical.not_not, ha.toks]
    exact toksObs_congr htoks hnow)]
  exact checkAllowlist_model key.2 _ _

theorem verdictSweep_model {cfg : Cfg} {all : Bool} {plain : List Nat} {oper : Option Nat} (ha : Agree v m s)
    {tok to : Nat} (hsw : sweepToken (params cfg) s tok to = .ok s')
    (hgate : gateBad m.var all plain oper = false) (ht : TOK0 ≤ tok ∧ tok < TOK0 + NTOK) (dem : List DemEntry) :
    noCall m.prev (obsOf s' true dem) (verdictSweep m m.allowed all plain tok to oper (obsOf s' true dem)) = none ∧
    Good s'.al m.allowed := by
  obtain ⟨hne, hb, hal, hcalls⟩ := sweepToken_full hsw
  have hself : (params cfg).self = FWD := rfl
  rw [hself] at hne hb
  have hgood : Good s'.al m.allowed := by rw [hal]; exact ha.good
  refine ⟨?_, hgood⟩
  have hamt : nth (tokOf m.prev tok).bal FWD = (s.toks tok).bal FWD := by
    rw [tokOf_prev ha.toks ht]; exact nth_bal s tok FWD (by decide)
  rw [noCall_model ha.callsN hcalls]
  unfold verdictSweep
  rw [hamt, if_neg hne, tokOf_obsOf s' true dem ht, tokOf_prev ha.toks ht]
  rw [if_neg (not_not_intro (expectBal_model s s' tok FWD to _ hb))]
  rw [if_neg (by rw [hgate]; exact Bool.false_ne_true)]
  exact checkAllowlist_model hgood _ _

theorem verdictForward_model {cfg : Cfg} {all : Bool} {plain : List Nat} {ua : Option UserAuth} {user rel : Nat}
    {c : Call} {tgt : Target} {eager : Bool}
    (ha : Agree v m s) (a b : String)
    (h : apply (params cfg) s (auFwd (params cfg) all plain ua c user) (fwdOp v c user rel tgt eager) = .ok s')
    (ht : TOK0 ≤ c.token ∧ c.token < TOK0 + NTOK) (htg : c.target = TGT) :
    verdictForward m m.allowed all plain ua c user rel a b
      (obsOf s' true (sortEntries (modelDem (params cfg) v s (.forward all plain ua c user rel tgt eager a b)))) = none ∧
    Good s'.al m.allowed := by
  obtain ⟨h1, _, _⟩ := fwdOp_ok h
  have hgood : Good s'.al m.allowed := by
    rw [collectFeeAndInvoke_al h1]; exact ha.good
  refine ⟨?_, hgood⟩
  unfold verdictForward
  rw [ha.var, fwdBounds_model ha.good h1 ht, fwdMoney_model ha.toks h1 ht, fwdTarget_model ha.callsN h1 htg,
    fwdGate_model a b h]
  rw [fwdDem_model cfg v c user rel (usedSubs (params cfg) s c user (apFor v eager) tgt) (fun i hi => usedSubs_mem hi)
    _ (by rw [modelDem_forward]; rfl)]
  exact checkAllowlist_model hgood _ _

/-! ### one op line on the model -/

theorem mstep_cases (p : Params) (v : Var) (s : State) (i : In) :
    mstep p v s i = (s, false) ∨
    ∃ au op s', modelOf p v i = some (au, op) ∧ apply p s au op = .ok s' ∧ mstep p v s i = (s', true) := by
  unfold mstep applyOpt
  cases modelOf p v i with
  | none => exact .inl rfl
  | some x =>
    obtain ⟨au, op⟩ := x
    dsimp only
    cases hy : apply p s au op with
    | error e => exact .inl rfl
    | ok s' => exact .inr ⟨au, op, s', rfl, hy, rfl⟩

theorem modelObs_eq {p : Params} {i : In} {ok : Bool} (h : mstep p v s i = (s', ok)) :
    modelObs p v s i = obsOf s' ok (if ok then sortEntries (modelDem p v s i) else []) := by
  unfold modelObs; rw [h]

end OZ.FeeForwarder.Mon
