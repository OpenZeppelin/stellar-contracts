import OZ.Lemmas.VotesTokens
import OZ.Model.VotesMon
/-
Soundness of the C13 monitor (OZ/Props/C13Mon.lean), model side: what ONE accepted call of any of the three
contracts does to the votes state, in the terms the monitor can see (ledger, delegates, per-timeline
checkpoint counter and last ledger, the past).
-/
namespace OZ.Votes
open OZ.Host

def lastLedger (t : Timeline) : Option Nat :=
  if t.num = 0 then none else (t.cp (t.num - 1)).map (·.ledger)

/-- seen from the ledger `now'` after the call (a call that moves the ledger leaves the timeline alone) -/
theorem TlStep.facts {now now' : Nat} {t t' : Timeline} (h : TlStep now t t') (hnow : now' = now ∨ t' = t) :
    (t'.num = t.num ∧ lastLedger t' = lastLedger t ∧
      (latestVotes t' ≠ latestVotes t → lastLedger t = some now')) ∨
    (t'.num = t.num + 1 ∧ lastLedger t ≠ some now' ∧ lastLedger t' = some now') := by
  by_cases e : t' = t
  · subst e; exact .inl ⟨rfl, rfl, fun h => absurd rfl h⟩
  · obtain ⟨v, h⟩ := h.resolve_left e
    cases hnow.resolve_right e
    obtain ⟨k, hn, hcp, hk⟩ := store_cases h
    have hnew : lastLedger t' = some now := by
      rw [lastLedger, hn, if_neg (Nat.succ_ne_zero k), Nat.add_sub_cancel, hcp, upd_same]; rfl
    rcases hk with ⟨hk, _, hne⟩ | ⟨hk, c, hc, hcl⟩
    · subst hk
      refine .inr ⟨hn, ?_, hnew⟩
      unfold lastLedger
      by_cases h0 : t.num = 0
      · rw [if_pos h0]; exact fun e => nomatch e
      · rw [if_neg h0]
        cases hc : t.cp (t.num - 1) with
        | none => exact fun e => nomatch e
        | some c => exact fun e => hne c h0 hc (Option.some.inj e)
    · have hl : lastLedger t = some now := by
        rw [lastLedger, ← hk, if_neg (Nat.succ_ne_zero k), Nat.add_sub_cancel, hc]
        exact congrArg some hcl
      exact .inl ⟨hn.trans hk, hnew.trans hl.symm, fun _ => hl⟩

def delUpd (f : Nat → Option Nat) : Option (Nat × Nat) → (Nat → Option Nat)
  | some (a, d) => upd f a (some d)
  | none => f

theorem act_facts {v v' : State} {auth : List Nat} {a : Act} (h : act v auth a = .ok v') :
    v'.now = v.now + a.adv.getD 0 ∧
    v'.delegatee = delUpd v.delegatee a.delT ∧
    (∀ x, TlStep v.now (v.tl x) (v'.tl x)) ∧
    (∀ n, a.adv = some n → v'.tl = v.tl ∧ v'.total = v.total ∧ v'.units = v.units) := by
  cases a with
  | nothing => injection h with h; subst h; exact ⟨rfl, rfl, fun _ => .inl rfl, nofun⟩
  | advance n => injection h with h; subst h; exact ⟨rfl, rfl, fun _ => .inl rfl, fun _ _ => ⟨rfl, rfl, rfl⟩⟩
  | move f t amt => obtain ⟨_, _, _, rfl, htl, _⟩ := transfer_moves (s := v) h; exact ⟨rfl, rfl, htl, nofun⟩
  | delegate x d => obtain ⟨_, _, _, rfl, htl, _⟩ := delegate_moves (s := v) h; exact ⟨rfl, rfl, htl, nofun⟩

end OZ.Votes

/-! ## the model step of the driver (`mstep`) in the monitor's terms -/

namespace OZ.Votes.Mon
open OZ.Host OZ.Votes

structure View where
  kind : Kind
  v : OZ.Votes.State
  bal : Nat → Int

def viewOf (m : M) : View :=
  ⟨m.kind, vOf m, fun i => if m.kind = .nft then (m.nf.nft.bal i : Int) else m.fv.tok.bal i⟩

theorem viewOf_nft {m : M} (h : m.kind = .nft) :
    viewOf m = ⟨.nft, m.nf.v, fun i => (m.nf.nft.bal i : Int)⟩ := by
  unfold viewOf vOf; simp only [h, if_true]

theorem viewOf_fv {m : M} (h : m.kind ≠ .nft) : viewOf m = ⟨m.kind, m.fv.v, m.fv.tok.bal⟩ := by
  unfold viewOf vOf; simp only [h, if_false]

/-- the reachable states: C13's invariant over the observed universe `0 .. N-1`, units =
balance, and nothing before the start ledger -/
structure VInv (start : Nat) (w : View) : Prop where
  inv : Inv (List.range N) w.v
  bal : ∀ x, (w.v.units x : Int) = w.bal x
  past : SamePast (OZ.Votes.init start) w.v

/-- what one ACCEPTED model call does to the view, as far as the monitor can tell -/
structure Trans (w w' : View) (p : Parsed) : Prop where
  kind : w'.kind = w.kind
  now : w'.v.now = w.v.now + (if p.op = "advance" then p.n else 0)
  past : SamePast w.v w'.v
  del : w'.v.delegatee = delUpd w.v.delegatee (delTarget p)
  tl : ∀ x, TlStep w.v.now (w.v.tl x) (w'.v.tl x)
  idle : p.op = "advance" →
    w'.v.tl = w.v.tl ∧ w'.v.total = w.v.total ∧ w'.v.units = w.v.units ∧ w'.bal = w.bal

structure Step (start : Nat) (w w' : View) (p : Parsed) (ok : Bool) : Prop where
  inv' : VInv start w'
  rej : ok = false → w' = w
  acc : ok = true → Trans w w' p
  adv : p.op = "advance" → ok = true

def Valid (k : Kind) (p : Parsed) : Prop :=
  match k with
  | .nft => ∃ op, nftOp p = some op ∧ ∀ a ∈ op.addrs, a < N
  | _ => ∃ op, fvOp p = some op ∧ ∀ a ∈ op.addrs, a < N

theorem fvOp_view {p : Parsed} {op : OZ.FungibleVotes.Op} (h : fvOp p = some op) :
    delTarget p = op.delT ∧ op.adv.getD 0 = (if p.op = "advance" then p.n else 0) ∧
    (p.op = "advance" → op = .advance p.n) := by
  unfold fvOp at h
  split at h <;> first | cases h | skip
  all_goals simp_all [delTarget, OZ.FungibleVotes.Op.delT, OZ.FungibleVotes.Op.adv]

theorem nftOp_view {p : Parsed} {op : OZ.NonFungibleVotes.Op} (h : nftOp p = some op) :
    delTarget p = op.delT ∧ op.adv.getD 0 = (if p.op = "advance" then p.n else 0) ∧
    (p.op = "advance" → op = .advance p.n) := by
  unfold nftOp at h
  split at h <;> first | cases h | skip
  all_goals simp_all [delTarget, OZ.NonFungibleVotes.Op.delT, OZ.NonFungibleVotes.Op.adv]

theorem call_sound {start : Nat} {w w' : View} {p : Parsed} {auth : List Nat} {a : Act}
    {dT : Option (Nat × Nat)} {ad : Option Nat} {A : List Nat}
    (hk : w'.kind = w.kind) (hf : Feeds a dT ad A w.bal w'.bal) (ha : act w.v auth a = .ok w'.v)
    (hA : ∀ z ∈ A, z < N)
    (hp : delTarget p = dT ∧ ad.getD 0 = (if p.op = "advance" then p.n else 0) ∧ (p.op = "advance" → ad = some p.n))
    (hi : VInv start w) : VInv start w' ∧ Trans w w' p := by
  obtain ⟨a1, a2, a3, a4⟩ := act_facts ha
  obtain ⟨i1, i2⟩ := act_inv List.nodup_range (fun z hz => List.mem_range.mpr (hA z (hf.addrs z hz))) ha
  refine ⟨⟨i1 hi.inv, hf.units ha hi.bal, hi.past.trans i2⟩, hk, by rw [a1, hf.adv, hp.2.1], i2,
    by rw [a2, hf.delT, hp.1], a3, fun hadv => ?_⟩
  obtain ⟨b1, b2, b3⟩ := a4 p.n (hf.adv.trans (hp.2.2 hadv))
  exact ⟨b1, b2, b3, hf.idle (hp.2.2 hadv)⟩

theorem nft_step_sound {start : Nat} {m : M} {p : Parsed} {op : OZ.NonFungibleVotes.Op} (hk : m.kind = .nft)
    (hop : nftOp p = some op) (hU : ∀ a ∈ op.addrs, a < N) (hi : VInv start (viewOf m))
    {s' : OZ.NonFungibleVotes.State} (ha : OZ.NonFungibleVotes.apply m.cfg m.nf p.auth op = .ok s') :
    VInv start (viewOf { m with nf := s' }) ∧ Trans (viewOf m) (viewOf { m with nf := s' }) p := by
  obtain ⟨a, hb, hact⟩ := OZ.NonFungibleVotes.apply_ok ha
  obtain ⟨v1, v2, v3⟩ := nftOp_view hop
  rw [viewOf_nft hk] at hi ⊢
  rw [viewOf_nft (m := { m with nf := s' }) hk]
  exact call_sound rfl (OZ.NonFungibleVotes.base_spec hb) hact hU ⟨v1, v2, fun e => congrArg _ (v3 e)⟩ hi

theorem fv_step_sound {start : Nat} {m : M} {p : Parsed} {op : OZ.FungibleVotes.Op} (hk : m.kind ≠ .nft)
    (hop : fvOp p = some op) (hU : ∀ a ∈ op.addrs, a < N) (hi : VInv start (viewOf m))
    {s' : OZ.FungibleVotes.State} (ha : OZ.FungibleVotes.apply m.cfg m.fv p.auth op = .ok s') :
    VInv start (viewOf { m with fv := s' }) ∧ Trans (viewOf m) (viewOf { m with fv := s' }) p := by
  obtain ⟨a, hb, hact⟩ := OZ.FungibleVotes.apply_ok ha
  obtain ⟨v1, v2, v3⟩ := fvOp_view hop
  rw [viewOf_fv hk] at hi ⊢
  rw [viewOf_fv (m := { m with fv := s' }) hk]
  exact call_sound rfl (OZ.FungibleVotes.base_spec hb) hact hU ⟨v1, v2, fun e => congrArg _ (v3 e)⟩ hi

/-- the driver's rollback wrapper -/
theorem okM_sound {start : Nat} {m : M} {p : Parsed} {α : Type} (f : α → M) (r : Except Err α)
    (hkind : ∀ s', (f s').kind = m.kind) (hi : VInv start (viewOf m))
    (hok : ∀ s', r = .ok s' → VInv start (viewOf (f s')) ∧ Trans (viewOf m) (viewOf (f s')) p)
    (hadv : p.op = "advance" → ∃ s', r = .ok s') :
    Step start (viewOf m) (viewOf (okM m f r).1) p (okM m f r).2 ∧ (okM m f r).1.kind = m.kind := by
  cases r with
  | error e =>
    exact ⟨⟨hi, fun _ => rfl, nofun, fun ha => by obtain ⟨s', hs'⟩ := hadv ha; cases hs'⟩, rfl⟩
  | ok s' =>
    obtain ⟨g1, g2⟩ := hok s' rfl
    exact ⟨⟨g1, nofun, fun _ => g2, fun _ => rfl⟩, hkind s'⟩

theorem viewOf_init (k : Kind) (c : Cfg) (start : Nat) :
    viewOf (M.init k c start) = ⟨k, OZ.Votes.init start, fun _ => 0⟩ := by
  cases k <;> rfl

theorem init_vinv (k : Kind) (c : Cfg) (start : Nat) : VInv start (viewOf (M.init k c start)) := by
  rw [viewOf_init]
  exact ⟨init_inv _ _, fun _ => rfl, SamePast.refl _⟩

end OZ.Votes.Mon
