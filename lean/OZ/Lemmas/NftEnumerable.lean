import OZ.Lemmas.Nft
import OZ.Lemmas.SlotIndex
import OZ.Model.NftEnumerable
/-
The enumerable NFT model: the global list and the owner lists stay lists in the sense of `LOK`
(OZ/Lemmas/SlotIndex.lean) under every accepted call. The owner lists are one family `OLists tok idx bal own` over the
owner map, changed by `add` (a token gets its first owner) and `remove` (swap-and-pop in the old owner's list); a
transfer is `remove` then `add`. An accepted call is the base call on `toState` followed by one list writer.
-/
namespace OZ.NftEnum
open OZ.Host OZ.Nft

theorem addToOwner_eq_ok_iff {s s' : State} {o id : Nat} :
    addToOwnerEnumeration s o id = .ok s' ↔ 1 ≤ s.bal o ∧
      s' = { s with oTok := upd2 s.oTok o (s.bal o - 1) (some id),
                    oIdx := upd s.oIdx id (some (s.bal o - 1)) } := by
  unfold addToOwnerEnumeration
  split
  · exact ⟨nofun, fun ⟨h, _⟩ => by omega⟩
  · exact ⟨fun h => ⟨by omega, (Except.ok.inj h).symm⟩, fun h => by rw [h.2]⟩

theorem removeFromOwner_ok {s s' : State} {o id : Nat} (h : removeFromOwnerEnumeration s o id = .ok s') :
    ∃ k, s.oIdx id = some k ∧
      ((k ≠ s.bal o ∧ ∃ lastId, s.oTok o (s.bal o) = some lastId ∧
          s' = ownerPop (ownerSwap s o k lastId) o (s.bal o) id) ∨
       (k = s.bal o ∧ s' = ownerPop s o (s.bal o) id)) := by
  unfold removeFromOwnerEnumeration at h
  split at h
  · cases h
  · rename_i k hk
    refine ⟨k, hk, ?_⟩
    split at h
    · rename_i hne
      split at h
      · cases h
      · rename_i lastId hl
        injection h with h
        exact Or.inl ⟨hne, lastId, hl, h.symm⟩
    · rename_i heq
      injection h with h
      exact Or.inr ⟨Classical.not_not.mp heq, h.symm⟩

theorem removeFromGlobal_ok {s s' : State} {id last : Nat} (h : removeFromGlobalEnumeration s id last = .ok s') :
    ∃ k lastId, s.gIdx id = some k ∧ s.gTok last = some lastId ∧
      s' = { s with gTok := upd (upd s.gTok k (some lastId)) last none,
                    gIdx := upd (upd s.gIdx lastId (some k)) id none } := by
  unfold removeFromGlobalEnumeration at h
  split at h
  · cases h
  · rename_i k hk
    split at h
    · cases h
    · rename_i lastId hl
      injection h with h
      exact ⟨k, lastId, hk, hl, h.symm⟩

theorem incrementTotal_ok {s s' : State} {ts : Nat} (h : incrementTotalSupply s = .ok (s', ts)) :
    s' = { s with total := s.total + 1 } ∧ ts = s.total ∧ s.total + 1 ≤ U32_MAX := by
  unfold incrementTotalSupply at h
  split at h
  · cases h
  · injection h with h; injection h with h1 h2; exact ⟨h1.symm, h2.symm, by omega⟩

theorem decrementTotal_ok {s s' : State} {ts : Nat} (h : decrementTotalSupply s = .ok (s', ts)) :
    1 ≤ s.total ∧ s' = { s with total := s.total - 1 } ∧ ts = s.total - 1 := by
  unfold decrementTotalSupply at h
  split at h
  · cases h
  · injection h with h; injection h with h1 h2; exact ⟨by omega, h1.symm, h2.symm⟩

theorem addToEnumerations_eq_ok_iff {s s' : State} {o id : Nat} :
    addToEnumerations s o id = .ok s' ↔ 1 ≤ s.bal o ∧ s.total + 1 ≤ U32_MAX ∧
      s' = { s with oTok := upd2 s.oTok o (s.bal o - 1) (some id), oIdx := upd s.oIdx id (some (s.bal o - 1)),
                    total := s.total + 1, gTok := upd s.gTok s.total (some id),
                    gIdx := upd s.gIdx id (some s.total) } := by
  unfold addToEnumerations
  constructor
  · intro h
    obtain ⟨s1, h1, h⟩ := bind_eq_ok h
    obtain ⟨⟨s2, ts⟩, h2, h⟩ := bind_eq_ok h
    obtain ⟨hb, rfl⟩ := addToOwner_eq_ok_iff.mp h1
    obtain ⟨rfl, rfl, hle⟩ := incrementTotal_ok h2
    exact ⟨hb, hle, (pure_eq_ok h).symm⟩
  · rintro ⟨hb, ht, rfl⟩
    rw [addToOwner_eq_ok_iff.mpr ⟨hb, rfl⟩, ok_bind]
    unfold incrementTotalSupply
    rw [if_neg (by show ¬ s.total + 1 > U32_MAX; omega)]
    rfl

theorem addToEnumerations_toState {s s' : State} {o id : Nat} (h : addToEnumerations s o id = .ok s') :
    s'.toState = s.toState ∧ s.total + 1 ≤ U32_MAX ∧ s'.total = s.total + 1 := by
  obtain ⟨_, hle, rfl⟩ := addToEnumerations_eq_ok_iff.mp h
  exact ⟨rfl, hle, rfl⟩

theorem removeFromOwner_toState {s s' : State} {o id : Nat} (h : removeFromOwnerEnumeration s o id = .ok s') :
    s'.toState = s.toState ∧ s'.total = s.total ∧ s'.gTok = s.gTok ∧ s'.gIdx = s.gIdx := by
  obtain ⟨k, _, hcase⟩ := removeFromOwner_ok h
  rcases hcase with ⟨_, l, _, hs'⟩ | ⟨_, hs'⟩ <;> subst hs' <;> exact ⟨rfl, rfl, rfl, rfl⟩

theorem moveInOwner_toState {s s' : State} {f t id : Nat} (h : moveInOwnerEnumerations s f t id = .ok s') :
    s'.toState = s.toState ∧ s'.total = s.total := by
  unfold moveInOwnerEnumerations at h
  split at h
  · obtain ⟨s1, h1, h2⟩ := bind_eq_ok h
    obtain ⟨_, hs'⟩ := addToOwner_eq_ok_iff.mp h2
    subst hs'
    exact ⟨(removeFromOwner_toState h1).1, (removeFromOwner_toState h1).2.1⟩
  · injection h with h; subst h; exact ⟨rfl, rfl⟩

theorem removeFromEnumerations_toState {s s' : State} {o id : Nat} (h : removeFromEnumerations s o id = .ok s') :
    s'.toState = s.toState ∧ s'.total = s.total - 1 := by
  obtain ⟨s1, h1, h⟩ := bind_eq_ok h
  obtain ⟨⟨s2, ts⟩, h2, h3⟩ := bind_eq_ok h
  obtain ⟨_, hs2, _⟩ := decrementTotal_ok h2
  obtain ⟨k, l, _, _, hs'⟩ := removeFromGlobal_ok h3
  subst hs'; subst hs2
  exact ⟨(removeFromOwner_toState h1).1, congrArg (· - 1) (removeFromOwner_toState h1).2.1⟩

structure EInv (s : State) : Prop where
  glob : LOK s.gTok s.gIdx s.total (fun t => (s.owner t).isSome = true)
  own : ∀ a, LOK (s.oTok a) s.oIdx (s.bal a) (fun t => s.owner t = some a)

theorem init_einv (now : Nat) : EInv (init now) := by
  refine ⟨⟨?_, ?_, ?_⟩, fun a => ⟨?_, ?_, ?_⟩⟩
  · intro i hi; exact absurd hi (by simp [init, Nft.init, Core.init])
  · intro t ht; simp [init, Nft.init] at ht
  · intro i _; rfl
  · intro i hi; exact absurd hi (by simp [init, Nft.init, Core.init])
  · intro t ht; simp [init, Nft.init] at ht
  · intro i _; rfl

def OLists (tok : Nat → Nat → Option Nat) (idx : Nat → Option Nat) (bal : Nat → Nat)
    (own : Nat → Option Nat) : Prop :=
  ∀ a, LOK (tok a) idx (bal a) (fun t => own t = some a)

section
variable {tok : Nat → Nat → Option Nat} {idx : Nat → Option Nat} {bal : Nat → Nat} {own : Nat → Option Nat}

theorem OLists.pos (h : OLists tok idx bal own) {id f : Nat} (hown : own id = some f) : 1 ≤ bal f := by
  obtain ⟨i, hi, _⟩ := (h f).2.1 id hown; omega

theorem OLists.add (h : OLists tok idx bal own) {id to : Nat} (hid : own id = none) :
    OLists (upd2 tok to (bal to) (some id)) (upd idx id (some (bal to))) (upd bal to (bal to + 1))
      (upd own id (some to)) := by
  have hne : ∀ a t, own t = some a → t ≠ id := by
    intro a t ht e; subst e; rw [hid] at ht; cases ht
  intro a
  by_cases ha : a = to
  · subst ha
    refine LOK_congr (LOK_add (Q := fun t => upd own id (some a) t = some a) (h a) (id := id)
      (by rw [hid]; nofun) ?_) (fun i => upd2_row _ _ _ _ _) (fun _ => rfl) (upd_same _ _ _) (fun _ => Iff.rfl)
    intro t
    rw [upd_eq_some_iff]
    exact ⟨fun e => e.elim (fun e => Or.inr e.1) (fun e => Or.inl e.2),
      fun e => e.elim (fun e => Or.inr ⟨hne a t e, e⟩) (fun e => Or.inl ⟨e, rfl⟩)⟩
  · refine LOK_congr (LOK_frame (h a) (idx' := upd idx id (some (bal to))) ?_)
      (fun i => upd2_other _ _ _ _ _ _ (fun e => ha e.1)) (fun _ => rfl) (upd_other _ _ _ _ ha) ?_
    · intro t ht; rw [upd_other _ _ _ _ (hne a t ht)]
    · intro t
      rw [upd_eq_some_iff]
      exact ⟨fun e => e.elim (fun e => absurd (Option.some.inj e.2).symm ha) (·.2), fun e => Or.inr ⟨hne a t e, e⟩⟩

theorem OLists.remove (h : OLists tok idx bal own) {id f k lastId : Nat} (hown : own id = some f)
    (hk : idx id = some k) (hl : tok f (bal f - 1) = some lastId) :
    OLists (upd2 (upd2 tok f k (some lastId)) f (bal f - 1) none) (upd (upd idx lastId (some k)) id none)
      (upd bal f (bal f - 1)) (upd own id none) := by
  have hpos := h.pos hown
  have hf : LOK (tok f) idx (bal f - 1 + 1) (fun t => own t = some f) :=
    LOK_congr (h f) (fun _ => rfl) (fun _ => rfl) (by omega) (fun _ => Iff.rfl)
  obtain ⟨l, hltok, _, hlP⟩ := hf.1 (bal f - 1) (by omega)
  cases hl.symm.trans hltok
  have hQ : ∀ a t, upd own id none t = some a ↔ own t = some a ∧ t ≠ id := by
    intro a t
    rw [upd_eq_some_iff]
    exact ⟨fun e => e.elim (fun e => nomatch e.2) (fun e => ⟨e.2, e.1⟩), fun e => Or.inr ⟨e.2, e.1⟩⟩
  intro a
  by_cases ha : a = f
  · subst ha
    refine LOK_congr (LOK_remove (Q := fun t => upd own id none t = some a) hf hown hk hl (hQ a)) ?_
      (fun _ => rfl) (upd_same _ _ _) (fun _ => Iff.rfl)
    intro i
    rw [upd2_row]
    by_cases hi : i = bal a - 1
    · subst hi; rw [upd_same, upd_same]
    · rw [upd_other _ _ _ _ hi, upd_other _ _ _ _ hi, upd2_row]
  · have hna : ∀ t, own t = some f → own t ≠ some a := by
      intro t ht e; rw [ht] at e; exact ha (Option.some.inj e).symm
    refine LOK_congr (LOK_frame (h a) (idx' := upd (upd idx lastId (some k)) id none) ?_) ?_ (fun _ => rfl)
      (upd_other _ _ _ _ ha) ?_
    · intro t ht
      rw [upd_other _ _ _ _ (fun (e : t = id) => hna id hown (e ▸ ht)),
        upd_other _ _ _ _ (fun (e : t = lastId) => hna lastId hlP (e ▸ ht))]
    · intro i; rw [upd2_other _ _ _ _ _ _ (fun e => ha e.1), upd2_other _ _ _ _ _ _ (fun e => ha e.1)]
    · intro t; rw [hQ]
      exact ⟨(·.1), fun e => ⟨e, fun (e' : t = id) => hna id hown (e' ▸ e)⟩⟩

end

/-! Under the list invariants each writer succeeds AND leaves well-formed lists (`*_total`). That an upkeep which
succeeded left well-formed lists follows because a computation has at most one result (`ok_unique`). -/

theorem removeFromOwner_total {s : State} {f id : Nat} {own : Nat → Option Nat} {bal : Nat → Nat}
    (ho : OLists s.oTok s.oIdx bal own) (hown : own id = some f) (hbal : s.bal f = bal f - 1) :
    ∃ T I, removeFromOwnerEnumeration s f id = .ok { s with oTok := T, oIdx := I } ∧
      OLists T I (upd bal f (bal f - 1)) (upd own id none) := by
  obtain ⟨k, _, hidx, htok⟩ := (ho f).2.1 id hown
  obtain ⟨l, hl, _, _⟩ := (ho f).1 (bal f - 1) (by omega)
  unfold removeFromOwnerEnumeration
  rw [hidx]
  simp only
  rw [hbal]
  by_cases e : k ≠ bal f - 1
  · rw [if_pos e, hl]
    exact ⟨_, _, rfl, ho.remove hown hidx hl⟩
  · rw [if_neg e]
    -- no swap: `id` is the last token itself, and swapping it with itself changes nothing
    cases Classical.not_not.mp e
    refine ⟨_, _, rfl, ?_⟩
    have := ho.remove hown hidx htok
    rwa [upd2_upd2, upd_upd] at this

/-- the base update already happened -/
theorem moveInOwner_total {s : State} {f to id : Nat} {own0 : Nat → Option Nat} {bal0 : Nat → Nat}
    (hg : LOK s.gTok s.gIdx s.total (fun t => (own0 t).isSome = true))
    (ho : OLists s.oTok s.oIdx bal0 own0) (hown0 : own0 id = some f)
    (hown : s.owner = upd own0 id (some to))
    (hbal : s.bal = upd (upd bal0 f (bal0 f - 1)) to (upd bal0 f (bal0 f - 1) to + 1)) :
    ∃ s', moveInOwnerEnumerations s f to id = .ok s' ∧ EInv s' := by
  -- the global list does not see who owns a token
  have hglob : LOK s.gTok s.gIdx s.total (fun t => (s.owner t).isSome = true) := by
    refine LOK_congr hg (fun _ => rfl) (fun _ => rfl) rfl (fun t => ?_)
    rw [hown]
    by_cases ht : t = id
    · subst ht; rw [upd_same, hown0]; exact Iff.rfl
    · rw [upd_other _ _ _ _ ht]
  unfold moveInOwnerEnumerations
  by_cases hft : f ≠ to
  · rw [if_pos hft]
    obtain ⟨T, I, h1, hrem⟩ := removeFromOwner_total ho hown0 (by rw [hbal, upd_other _ _ _ _ hft, upd_same])
    have hb : s.bal to = upd bal0 f (bal0 f - 1) to + 1 := by rw [hbal, upd_same]
    have hl := hrem.add (to := to) (upd_same _ _ _)
    rw [upd_upd, ← hown, ← hbal] at hl
    rw [h1, ok_bind]
    refine ⟨_, addToOwner_eq_ok_iff.mpr ⟨by show 1 ≤ s.bal to; omega, rfl⟩, hglob, ?_⟩
    show OLists (upd2 T to (s.bal to - 1) (some id)) (upd I id (some (s.bal to - 1))) s.bal s.owner
    rw [show s.bal to - 1 = upd bal0 f (bal0 f - 1) to by omega]
    exact hl
  · rw [if_neg hft]
    cases Classical.not_not.mp hft
    refine ⟨s, rfl, hglob, ?_⟩
    show OLists s.oTok s.oIdx s.bal s.owner
    have hpos := OLists.pos ho hown0
    rw [hown, hbal, upd_same, show bal0 f - 1 + 1 = bal0 f by omega, upd_upd, upd_self, ← hown0, upd_self]
    exact ho

/-- the enumeration part of a mint: `owner`/`bal` are already those after `Base::update`; the only
check left is the `checked_add` on the total supply -/
theorem addToEnumerations_total {s : State} {to id : Nat} {own0 : Nat → Option Nat} {bal0 : Nat → Nat}
    (hg : LOK s.gTok s.gIdx s.total (fun t => (own0 t).isSome = true))
    (ho : OLists s.oTok s.oIdx bal0 own0) (hfresh : own0 id = none)
    (hown : s.owner = upd own0 id (some to)) (hbal : s.bal = upd bal0 to (bal0 to + 1))
    (ht : s.total + 1 ≤ U32_MAX) :
    ∃ s', addToEnumerations s to id = .ok s' ∧ EInv s' := by
  have hb : s.bal to = bal0 to + 1 := by rw [hbal, upd_same]
  refine ⟨_, addToEnumerations_eq_ok_iff.mpr ⟨by omega, ht, rfl⟩, ?_, ?_⟩
  · show LOK (upd s.gTok s.total (some id)) (upd s.gIdx id (some s.total)) (s.total + 1)
      (fun t => (s.owner t).isSome = true)
    refine LOK_add hg (by simp [hfresh]) ?_
    intro t
    rw [hown]
    by_cases ht : t = id
    · subst ht; simp [upd_same]
    · rw [upd_other _ _ _ _ ht]; simp [ht]
  · show OLists (upd2 s.oTok to (s.bal to - 1) (some id)) (upd s.oIdx id (some (s.bal to - 1))) s.bal s.owner
    rw [show s.bal to - 1 = bal0 to by omega, hown, hbal]
    exact ho.add hfresh

theorem removeFromEnumerations_total {s : State} {f id : Nat} {own0 : Nat → Option Nat} {bal0 : Nat → Nat}
    (hg : LOK s.gTok s.gIdx s.total (fun t => (own0 t).isSome = true))
    (ho : OLists s.oTok s.oIdx bal0 own0) (hown0 : own0 id = some f)
    (hown : s.owner = upd own0 id none) (hbal : s.bal = upd bal0 f (bal0 f - 1)) :
    ∃ s', removeFromEnumerations s f id = .ok s' ∧ EInv s' := by
  obtain ⟨T, I, h1, hl⟩ := removeFromOwner_total ho hown0 (by rw [hbal, upd_same])
  rw [← hown, ← hbal] at hl
  obtain ⟨k, _, hidx, _⟩ := hg.2.1 id (by show (own0 id).isSome = true; rw [hown0]; rfl)
  obtain ⟨l, hlast, _, _⟩ := hg.1 (s.total - 1) (by omega)
  have hg' : LOK s.gTok s.gIdx (s.total - 1 + 1) (fun t => (own0 t).isSome = true) :=
    LOK_congr hg (fun _ => rfl) (fun _ => rfl) (by omega) (fun _ => Iff.rfl)
  unfold removeFromEnumerations
  rw [h1, ok_bind]
  unfold decrementTotalSupply
  rw [if_neg (by show ¬ s.total < 1; omega), ok_bind]
  unfold removeFromGlobalEnumeration
  simp only
  rw [show s.gIdx id = some k from hidx]
  simp only
  rw [show s.gTok (s.total - 1) = some l from hlast]
  refine ⟨_, rfl, ?_, hl⟩
  show LOK (upd (upd s.gTok k (some l)) (s.total - 1) none) (upd (upd s.gIdx l (some k)) id none)
      (s.total - 1) (fun t => (s.owner t).isSome = true)
  refine LOK_remove hg' (by rw [hown0]; rfl) hidx hlast ?_
  intro t
  rw [hown]
  by_cases ht : t = id
  · subst ht; rw [upd_same]; simp
  · rw [upd_other _ _ _ _ ht]; simp [ht]

theorem apply_ran {cfg : Cfg} {s s' : State} {auth : List Nat} {op : Op} {r : Option Nat}
    (h : apply cfg s auth op = .ok (s', r)) :
    ∃ b, Nft.apply cfg s.toState auth op = .ok (b, r) ∧
      match op with
      | .mintSeq to => ∃ id, r = some id ∧ addToEnumerations { s with toState := b } to id = .ok s'
      | .mint to id => addToEnumerations { s with toState := b } to id = .ok s'
      | .transfer f t id | .transferFrom _ f t id =>
        moveInOwnerEnumerations { s with toState := b } f t id = .ok s'
      | .burn f id | .burnFrom _ f id => removeFromEnumerations { s with toState := b } f id = .ok s'
      | _ => s' = { s with toState := b } := by
  cases op with
  | batchMint to n => cases h
  | advance n => cases h; exact ⟨_, rfl, rfl⟩
  | mintSeq to =>
    obtain ⟨⟨s2, id⟩, h1, h⟩ := bind_eq_ok h
    cases pure_eq_ok h
    obtain ⟨⟨b, id'⟩, h2, h1⟩ := bind_eq_ok h1
    obtain ⟨s3, h3, h1⟩ := bind_eq_ok h1
    cases pure_eq_ok h1
    refine ⟨b, ?_, id, rfl, h3⟩
    simp only [Nft.apply]; rw [h2]; rfl
  | mint to id | transfer f t id | transferFrom sp f t id | burn f id | burnFrom sp f id =>
    obtain ⟨s2, h1, h⟩ := bind_eq_ok h
    cases pure_eq_ok h
    obtain ⟨b, h2, h3⟩ := bind_eq_ok h1
    refine ⟨b, ?_, h3⟩
    simp only [Nft.apply, Nft.mint]; rw [h2]; rfl
  | approve ap a id lu | approveForAll o p lu =>
    obtain ⟨b, h1, h⟩ := bind_eq_ok h
    cases pure_eq_ok h
    refine ⟨_, ?_, rfl⟩
    simp only [Nft.apply]; rw [h1]; rfl

theorem apply_base (cfg : Cfg) {s s' : State} {auth : List Nat} {op : Op} {r : Option Nat}
    (h : apply cfg s auth op = .ok (s', r)) :
    Nft.apply cfg s.toState auth op = .ok (s'.toState, r) := by
  obtain ⟨b, hb, hup⟩ := apply_ran h
  suffices e : s'.toState = b by rw [e]; exact hb
  cases op with
  | mintSeq to => obtain ⟨_, _, h3⟩ := hup; exact (addToEnumerations_toState h3).1
  | mint to id => exact (addToEnumerations_toState hup).1
  | transfer f t id | transferFrom sp f t id => exact (moveInOwner_toState hup).1
  | burn f id | burnFrom sp f id => exact (removeFromEnumerations_toState hup).1
  | batchMint to n | approve ap a id lu | approveForAll o p lu | advance n => rw [hup]

theorem EInv.of_core {s : State} (hi : EInv s) {c : Core} (hb : c.bal = s.bal) :
    EInv { s with toCore := c } :=
  ⟨hi.glob, fun a => by show LOK _ _ (c.bal a) _; rw [hb]; exact hi.own a⟩

theorem apply_step (cfg : Cfg) {s s' : State} {auth : List Nat} {op : Op} {r : Option Nat}
    (hi : EInv s) (hf : FreshOp s.toState op) (h : apply cfg s auth op = .ok (s', r)) : EInv s' := by
  obtain ⟨b, hb, hup⟩ := apply_ran h
  have hr := Nft.apply_ran hb
  cases op with
  | batchMint to n => exact hr.elim
  | mintSeq to =>
    obtain ⟨rfl, hu⟩ := hr
    obtain ⟨id, hid, h3⟩ := hup
    cases hid
    obtain ⟨_, rfl⟩ := update_mint_eq_ok_iff.mp hu
    refine ok_unique ?_ h3
    exact addToEnumerations_total (own0 := s.owner) (bal0 := s.bal) hi.glob hi.own hf rfl rfl
      (addToEnumerations_toState h3).2.1
  | mint to id =>
    obtain ⟨_, rfl⟩ := update_mint_eq_ok_iff.mp hr.2
    refine ok_unique ?_ hup
    exact addToEnumerations_total (own0 := s.owner) (bal0 := s.bal) hi.glob hi.own hf rfl rfl
      (addToEnumerations_toState hup).2.1
  | transfer f t id | transferFrom sp f t id =>
    obtain ⟨hown0, _, _, rfl⟩ := update_from_eq_ok_iff.mp hr.2.1
    refine ok_unique ?_ hup
    exact moveInOwner_total (own0 := s.owner) (bal0 := s.bal) hi.glob hi.own hown0 rfl rfl
  | burn f id | burnFrom sp f id =>
    obtain ⟨hown0, _, _, rfl⟩ := update_from_eq_ok_iff.mp hr.2.1
    refine ok_unique ?_ hup
    exact removeFromEnumerations_total (own0 := s.owner) (bal0 := s.bal) hi.glob hi.own hown0 rfl rfl
  | approve ap a id lu =>
    obtain ⟨_, _, o, c, _, hc, rfl⟩ := hr
    rw [hup]; exact hi.of_core (approveForOwner_fields hc).1
  | approveForAll o p lu =>
    obtain ⟨_, c, hc, rfl⟩ := hr
    rw [hup]; exact hi.of_core (approveForAll_fields hc).1
  | advance n =>
    obtain ⟨_, rfl⟩ := hr
    rw [hup]; exact hi.of_core rfl

end OZ.NftEnum
