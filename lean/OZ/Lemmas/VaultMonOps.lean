import OZ.Lemmas.VaultMon
/-
For the monitor-soundness theorem of C05 (OZ/Props/C05Mon.lean): the eight checks of an accepted
deposit / mint / withdraw / redeem (`checkVaultOp`), each silent under its plain-worded condition, then
all of them on the model's own observation of an accepted operation (`checkVaultOp_flow`).
-/
namespace OZ.Vault.Mon
open OZ.Host OZ.Vault
open OZ.FungibleMon (orElse_none)
open OZ.FungibleMon.Supply (addAt)

theorem vNeg_none {k : VKind} {x ret : Int} (h1 : 0 ≤ x) (h2 : 0 ≤ ret) : vNeg k x ret = none := by
  unfold vNeg; rw [if_neg (by omega)]

theorem vPreview_none {k : VKind} {x ret : Int} {who : Nat} {qo : Obs} (h : qOf k qo.q = some (some ret)) :
    vPreview (some (x, who, qo)) k x ret = none := by
  unfold vPreview
  simp only
  rw [if_neg (fun hne => hne rfl), h]
  simp only
  exact if_pos trivial

theorem vRound_deposit {x ret y d : Int} (h1 : ret * d ≤ x * y) (h2 : x * y < (ret + 1) * d) :
    vRound .deposit x ret y d = none := by
  unfold vRound; simp only; rw [if_pos ⟨h1, h2⟩]

theorem vRound_mint {x ret y d : Int} (h1 : (ret - 1) * y < x * d) (h2 : x * d ≤ ret * y) :
    vRound .mint x ret y d = none := by
  unfold vRound; simp only; rw [if_pos ⟨h1, h2⟩]

theorem vRound_withdraw {x ret y d : Int} (h1 : (ret - 1) * d < x * y) (h2 : x * y ≤ ret * d) :
    vRound .withdraw x ret y d = none := by
  unfold vRound; simp only; rw [if_pos ⟨h1, h2⟩]

theorem vRound_redeem {x ret y d : Int} (h1 : ret * y ≤ x * d) (h2 : x * d < (ret + 1) * y) :
    vRound .redeem x ret y d = none := by
  unfold vRound; simp only; rw [if_pos ⟨h1, h2⟩]

theorem vLimit_withdraw {x bal y d mw : Int} (h1 : specConv bal d y false = some mw) (h2 : x ≤ mw) :
    vLimit .withdraw x bal y d = none := by
  unfold vLimit; simp only; rw [h1]; simp only; rw [if_pos h2]

theorem vLimit_redeem {x bal y d : Int} (h : x ≤ bal) : vLimit .redeem x bal y d = none := by
  unfold vLimit; simp only; rw [if_pos h]

theorem vMove_none {k : VKind} {r p : Nat} {assets shares : Int} {pre o : Obs}
    (h1 : o.ab = abExp k pre r p assets) (h2 : o.sb = sbExp k pre r p shares) (h3 : o.S = sExp k pre shares)
    (h4 : o.A = o.ab.getD VAULT 0) (h5 : o.asup = pre.asup) : vMove k r p assets shares pre o = none := by
  unfold vMove
  rw [if_neg (fun h => h h1), if_neg (fun h => h h2), if_neg (fun h => h h3), if_neg (fun h => h h4),
    if_neg (fun h => h h5)]

theorem addAt_moved (b : Nat → Int) (f t : Nat) (a : Int) :
    addAt (addAt ((List.range N).map b) f (-a)) t a = (List.range N).map (moved b f t a) := by
  rw [OZ.FungibleMon.addAt_map, OZ.FungibleMon.addAt_map]
  unfold moved
  rw [Int.sub_eq_add_neg]

theorem vMove_inflow {k : VKind} (hk : k.inflow = true) {s s' : State} {tauth : List Nat} {r f op : Nat}
    {assets shares : Int} (hv : s.vault = VAULT) (h : Inflow s s' tauth r f op assets shares) {pre o : Obs}
    (hp : Shown pre s) (ho : Shown o s') : vMove k r f assets shares pre o = none := by
  apply vMove_none
  · unfold abExp; rw [if_pos hk, ho.ab, hp.ab, h.astBal, addAt_moved, hv]
  · unfold sbExp; rw [if_pos hk, ho.sb, hp.sb, h.shBal, OZ.FungibleMon.addAt_map]
  · unfold sExp; rw [if_pos hk, ho.S, hp.S]; exact h.shSup
  · rw [ho.A, ho.ab]; exact totalAssets_getD (by rw [h.vault, hv])
  · rw [ho.asup, hp.asup, h.astSup]

theorem vMove_outflow {k : VKind} (hk : k.inflow = false) {s s' : State} {r ow op : Nat}
    {assets shares : Int} (hv : s.vault = VAULT) (h : Outflow s s' r ow op assets shares) {pre o : Obs}
    (hp : Shown pre s) (ho : Shown o s') : vMove k r ow assets shares pre o = none := by
  apply vMove_none
  · unfold abExp; rw [hk, if_neg Bool.false_ne_true, ho.ab, hp.ab, h.astBal, addAt_moved, hv]
  · unfold sbExp
    rw [hk, if_neg Bool.false_ne_true, ho.sb, hp.sb, h.shBal, OZ.FungibleMon.addAt_map, Int.sub_eq_add_neg]
  · unfold sExp; rw [hk, if_neg Bool.false_ne_true, ho.S, hp.S]; exact h.shSup
  · rw [ho.A, ho.ab]; exact totalAssets_getD (by rw [h.vault, hv])
  · rw [ho.asup, hp.asup, h.astSup]

theorem vAllow_inflow {k : VKind} (hk : k.inflow = true) {s s' : State} {f op : Nat} {assets shares : Int}
    (h1 : op ≠ f → OZ.Fungible.allowance s'.ast f op = OZ.Fungible.allowance s.ast f op - assets)
    (h2 : ∀ p q, ¬ (p = f ∧ q = op ∧ op ≠ f) → OZ.Fungible.allowance s'.ast p q = OZ.Fungible.allowance s.ast p q)
    (h3 : ∀ p q, OZ.Fungible.allowance s'.sh p q = OZ.Fungible.allowance s.sh p q) {pre o : Obs}
    (hp : Shown pre s) (ho : Shown o s') : vAllow k f op assets shares pre o = none := by
  unfold vAllow
  rw [if_pos hk, hp.aal, ho.aal, hp.sal, ho.sal, if_neg (by rw [allowMoved_spend h1 h2]; exact fun h => h rfl),
    if_neg (by rw [allowMoved_same h3]; exact fun h => h rfl)]

theorem vAllow_outflow {k : VKind} (hk : k.inflow = false) {s s' : State} {ow op : Nat} {assets shares : Int}
    (h1 : op ≠ ow → OZ.Fungible.allowance s'.sh ow op = OZ.Fungible.allowance s.sh ow op - shares)
    (h2 : ∀ p q, ¬ (p = ow ∧ q = op ∧ op ≠ ow) → OZ.Fungible.allowance s'.sh p q = OZ.Fungible.allowance s.sh p q)
    (h3 : ∀ p q, OZ.Fungible.allowance s'.ast p q = OZ.Fungible.allowance s.ast p q) {pre o : Obs}
    (hp : Shown pre s) (ho : Shown o s') : vAllow k ow op assets shares pre o = none := by
  unfold vAllow
  rw [hk, if_neg Bool.false_ne_true, hp.aal, ho.aal, hp.sal, ho.sal,
    if_neg (by rw [allowMoved_spend h1 h2]; exact fun h => h rfl),
    if_neg (by rw [allowMoved_same h3]; exact fun h => h rfl)]

theorem vEvent_none {k : VKind} {r p op : Nat} {assets shares : Int} {o : Obs}
    (h : evExp k r p op assets shares ∈ o.evs) : vEvent k r p op assets shares o = none := by
  unfold vEvent
  rw [if_pos (by simpa using h)]

theorem vAuth_none {k : VKind} {op : Nat} {o : Obs} (h : op ∈ o.dem) : vAuth k op o = none := by
  unfold vAuth
  rw [if_pos (by simpa using h)]

theorem checkVaultOp_none {offset : Nat} {lastQ : Option (Int × Nat × Obs)} {k : VKind} {x ret : Int}
    {r p op : Nat} {pre o : Obs} (hret : o.ret = some ret) (h1 : vNeg k x ret = none)
    (h2 : vPreview lastQ k x ret = none) (h3 : vRound k x ret (pre.S + 10 ^ offset) (pre.A + 1) = none)
    (h4 : vLimit k x (pre.sb.getD p 0) (pre.S + 10 ^ offset) (pre.A + 1) = none)
    (h5 : vMove k r p (assetsOf k x ret) (sharesOf k x ret) pre o = none)
    (h6 : vAllow k p op (assetsOf k x ret) (sharesOf k x ret) pre o = none)
    (h7 : vEvent k r p op (assetsOf k x ret) (sharesOf k x ret) o = none) (h8 : vAuth k op o = none) :
    checkVaultOp offset lastQ k x r p op pre o = none := by
  unfold checkVaultOp
  rw [hret]
  simp only
  rw [orElse_none h1, orElse_none h2, orElse_none h3, orElse_none h4, orElse_none h5, orElse_none h6,
    orElse_none h7]
  exact h8

/-! ### an accepted operation on the model's own observation

What the four entry points share is read once, over the kind `k`, in the monitor's own wording (`k.inflow`,
`assetsOf`, `sharesOf`); what differs between them (which preview, rounding and limit) is left to the caller. -/

theorem toOpt_ok {r : Except Err Int} {v : Int} (h : r = .ok v) : toOpt r = some v := by rw [h]; rfl

theorem vNeg_flow {k : VKind} {x ret : Int} (h1 : 0 ≤ assetsOf k x ret) (h2 : 0 ≤ sharesOf k x ret) :
    vNeg k x ret = none := by
  unfold assetsOf at h1
  unfold sharesOf at h2
  cases hn : k.namesAssets <;> rw [hn] at h1 h2
  · exact vNeg_none h2 h1
  · exact vNeg_none h1 h2

theorem vEvent_obsOk {k : VKind} {r p o : Nat} {a v ret : Int} {s s' : State} {ev : Event} {op : Op}
    (hev : s'.events = s.events ++ [ev]) (he : evOf ev = some (evExp k r p o a v)) :
    vEvent k r p o a v (obsOk s s' op ret) = none := by
  apply vEvent_none
  show _ ∈ (s'.events.drop s.events.length).filterMap evOf
  rw [hev, List.drop_left]
  simp [he]

theorem vAuth_obsOk {k : VKind} {s s' : State} {op : Op} {o : Nat} {ret : Int} (hop : isVaultOp op = true)
    (hd : o ∈ op.required) : vAuth k o (obsOk s s' op ret) = none := by
  apply vAuth_none
  show o ∈ demOf op
  unfold demOf
  split
  · cases hop
  · exact List.mem_mergeSort.mpr hd

theorem checkVaultOp_flow {k : VKind} {c : Cfg} {s s1 : State} (hg : Good s) {tauth : List Nat} {x ret : Int}
    {r p o who : Nat} {op : Op} {pre qo : Obs} (hp : Shown pre s) (hq : qOf k qo.q = some (some ret))
    (hm : (if k.inflow then depositInternal c s tauth r (assetsOf k x ret) (sharesOf k x ret) p o
      else withdrawInternal c s r p (assetsOf k x ret) (sharesOf k x ret) o) = .ok s1)
    (hrd : vRound k x ret (totalShares s + 10 ^ s.offset) (totalAssets s + 1) = none)
    (hlim : vLimit k x (s.sh.bal p) (totalShares s + 10 ^ s.offset) (totalAssets s + 1) = none)
    (hop : isVaultOp op = true) (hd : o ∈ op.required) :
    checkVaultOp s.offset (some (x, who, qo)) k x r p o pre
      (obsOk s (emit s1 (if k.inflow then .deposit o p r (assetsOf k x ret) (sharesOf k x ret)
        else .withdraw o r p (assetsOf k x ret) (sharesOf k x ret))) op ret) = none := by
  have ho : Shown (obsOk s (emit s1 (if k.inflow then .deposit o p r (assetsOf k x ret) (sharesOf k x ret)
    else .withdraw o r p (assetsOf k x ret) (sharesOf k x ret))) op ret) _ := stateObs_shown _ _ _ _ _ _
  -- `vNeg`, `vMove`, `vAllow` and `vEvent` read the direction of the flow, the other four checks do not
  refine (fun (h : _ ∧ _ ∧ _ ∧ _) => checkVaultOp_none (ret := ret) (if_pos hop) h.1 (vPreview_none hq)
    (by rw [hp.S, hp.A]; exact hrd) (by rw [hp.S, hp.A, hp.sb, sb_getD hg.wf p]; exact hlim) h.2.1 h.2.2.1 h.2.2.2
    (vAuth_obsOk hop hd)) ?_
  cases hk : k.inflow <;> rw [hk] at hm ho
  · obtain ⟨hout, hev, -⟩ := withdrawInternal_ok hm
    obtain ⟨a1, a2, a3⟩ := withdrawInternal_allowances hm
    exact ⟨vNeg_flow hout.a0 hout.v0, vMove_outflow hk hg.vault (hout.emit _) hp ho,
      vAllow_outflow (s' := emit s1 _) hk a1 a2 a3 hp ho,
      vEvent_obsOk (congrArg (· ++ _) hev) (by unfold evExp; rw [hk]; rfl)⟩
  · obtain ⟨hin, hev, -⟩ := depositInternal_ok hm
    obtain ⟨a1, a2, a3⟩ := depositInternal_allowances hm
    exact ⟨vNeg_flow hin.a0 hin.v0, vMove_inflow hk hg.vault (hin.emit _) hp ho,
      vAllow_inflow (s' := emit s1 _) hk a1 a2 a3 hp ho,
      vEvent_obsOk (congrArg (· ++ _) hev) (by unfold evExp; rw [hk]; rfl)⟩

theorem checkConstruct_none {m : Mon} {off : Nat} {okc : Bool} {o : Option Obs} (h : okc = true → off ≤ 10) :
    (checkConstruct m off okc o).2 = none := by
  unfold checkConstruct
  simp only
  rw [if_neg]
  rintro ⟨h1, h2⟩
  have := h h1
  omega

end OZ.Vault.Mon
