/-
Destructuring of `Except` binds, of the refusing `if`s between them and of `Except.map` (a getter that repacks what
another returned). Every model is a chain of these, so every subsystem's lemmas start here.
-/
namespace OZ

theorem bind_eq_ok {ε α β} {x : Except ε α} {f : α → Except ε β} {v : β}
    (h : (x >>= f) = .ok v) : ∃ a, x = .ok a ∧ f a = .ok v := by
  cases x with
  | error e => cases h
  | ok a => exact ⟨a, rfl, h⟩

theorem bind_eq_ok_iff {ε α β} {x : Except ε α} {f : α → Except ε β} {v : β} :
    (x >>= f) = .ok v ↔ ∃ a, x = .ok a ∧ f a = .ok v :=
  ⟨bind_eq_ok, fun ⟨_, hx, hf⟩ => hx ▸ hf⟩

theorem exists_bind_eq_ok_iff {ε α β} {x : Except ε α} {f : α → Except ε β} :
    (∃ v, (x >>= f) = .ok v) ↔ ∃ a, x = .ok a ∧ ∃ v, f a = .ok v :=
  ⟨fun ⟨v, h⟩ => let ⟨a, hx, hf⟩ := bind_eq_ok h; ⟨a, hx, v, hf⟩,
   fun ⟨_, hx, v, hf⟩ => ⟨v, hx ▸ hf⟩⟩

theorem ok_eq_ok_iff {ε α} {x y : α} : (.ok x : Except ε α) = .ok y ↔ y = x :=
  ⟨fun h => (Except.ok.inj h).symm, fun h => h ▸ rfl⟩

theorem ok_bind {ε α β} (a : α) (f : α → Except ε β) : ((Except.ok a : Except ε α) >>= f) = f a := rfl

theorem error_bind {ε α β} (e : ε) (f : α → Except ε β) :
    ((Except.error e : Except ε α) >>= f) = .error e := rfl

/-- two checks in a row pass iff each does -/
theorem unit_ok_iff {ε} {x y : Except ε Unit} : ((x >>= fun _ => y) = .ok ()) ↔ x = .ok () ∧ y = .ok () := by
  cases x with
  | error e => exact ⟨fun h => (by cases h), fun h => (by cases h.1)⟩
  | ok a => exact ⟨fun h => ⟨rfl, h⟩, fun h => h.2⟩

theorem unit_bind_eq_ok {ε σ : Type} {x : Except ε Unit} {r : Except ε σ} {v : σ} :
    x.bind (fun _ => r) = .ok v ↔ x = .ok () ∧ r = .ok v := by
  cases x with
  | error e => exact ⟨fun h => (nomatch h), fun h => (nomatch h.1)⟩
  | ok u => exact (and_iff_right rfl).symm

/-- a check that refuses: the chain goes on exactly when the condition fails -/
theorem ite_error_eq_ok_iff {ε α} {c : Prop} [Decidable c] {e : ε} {x : Except ε α} {v : α} :
    (if c then Except.error e else x) = .ok v ↔ ¬ c ∧ x = .ok v := by
  by_cases hc : c
  · rw [if_pos hc]; exact ⟨(fun h => by cases h), fun h => absurd hc h.1⟩
  · rw [if_neg hc]; exact ⟨fun h => ⟨hc, h⟩, fun h => h.2⟩

/-- `ite_error_eq_ok_iff` at `x := .ok v`, a check at the end of the chain: the second conjunct is the equation of the
values, `w = v` -/
theorem ite_error_ok_iff {ε α} {p : Prop} [Decidable p] {v w : α} {e : ε} :
    (if p then Except.error e else .ok v) = .ok w ↔ ¬ p ∧ w = v :=
  ite_error_eq_ok_iff.trans (and_congr_right fun _ => ⟨fun h => (Except.ok.inj h).symm, fun h => congrArg _ h.symm⟩)

/-- the mirror: a check that accepts on the condition, at the end of the chain -/
theorem ite_ok_iff {ε α} {p : Prop} [Decidable p] {v w : α} {e : ε} :
    (if p then Except.ok v else .error e) = .ok w ↔ p ∧ w = v := by
  split
  · next hp => exact ⟨fun h => ⟨hp, (Except.ok.inj h).symm⟩, fun h => congrArg _ h.2.symm⟩
  · next hp => exact ⟨nofun, fun h => absurd h.1 hp⟩

/-- the monitors' tests read "if the required fact fails then report" -/
theorem if_neg_not {α} {c : Prop} [Decidable c] {a b : α} (h : c) : (if ¬ c then a else b) = b :=
  if_neg (not_not_intro h)

theorem map_eq_ok {ε α β} {x : Except ε α} {f : α → β} {v : β} (h : x.map f = .ok v) :
    ∃ a, x = .ok a ∧ f a = v := by
  cases x with
  | error e => cases h
  | ok a => exact ⟨a, rfl, Except.ok.inj h⟩

theorem map_pair_ok {ε α β} {x : Except ε α} {b b' : β} {y : α} (h : x.map (·, b) = .ok (y, b')) :
    x = .ok y ∧ b' = b := by
  obtain ⟨_, rfl, he⟩ := map_eq_ok h
  cases he; exact ⟨rfl, rfl⟩

end OZ
