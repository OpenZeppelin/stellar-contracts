import OZ.Model.RegRules
import OZ.Lemmas.RegList
import OZ.Lemmas.RegStep
import OZ.Lemmas.AttrIndex
/-
The smart-account context-rule registry (C20 d). `Inv` has two parts: `InvR` (ids, the per-type id vectors as
`AttrIndex.Ok`, the count, the signer / policy vectors and their bounds) and `InvF` (the stored fingerprint set is the
injective image of the live rules under `fpOf`). The preservation proofs speak of `s.info` and `fpOf`, the property and
monitor files of `getContextRule` and `fingerprint`.
-/
namespace OZ.RegRules
open OZ.Reg OZ.AttrIndex

def fpOf (s : State) (id : Nat) : Option FP :=
  (s.info id).map (fun m => (m.ctx, sortNat (s.signers id), sortNat (s.policies id)))

structure InvR (s : State) : Prop where
  idLt : ∀ id, (s.info id).isSome = true → id < s.nextId
  idsNodup : ∀ c, (s.ids c).Nodup
  idsMem : ∀ c id, id ∈ s.ids c ↔ ∃ m, s.info id = some m ∧ m.ctx = c
  live : ∃ lv : List Nat, lv.Nodup ∧ (∀ id, id ∈ lv ↔ (s.info id).isSome = true) ∧ s.count = lv.length
  sgNodup : ∀ id, (s.signers id).Nodup
  psNodup : ∀ id, (s.policies id).Nodup
  cntLe : s.count ≤ MAX_CONTEXT_RULES
  sgLe : ∀ id, (s.signers id).length ≤ MAX_SIGNERS
  psLe : ∀ id, (s.policies id).length ≤ MAX_POLICIES

structure InvF (s : State) : Prop where
  fpsNodup : s.fps.Nodup
  fpsMem : ∀ fp, fp ∈ s.fps ↔ ∃ id, fpOf s id = some fp
  fpInj : ∀ id1 id2 fp, fpOf s id1 = some fp → fpOf s id2 = some fp → id1 = id2

structure Inv (s : State) : Prop where
  r : InvR s
  f : InvF s

theorem InvR.idx {s : State} (h : InvR s) : Ok s.info (·.ctx) s.ids := ⟨h.idsNodup, h.idsMem⟩

theorem InvR.info_none {s : State} (h : InvR s) {i : Nat} (hi : s.nextId ≤ i) : s.info i = none :=
  Option.not_isSome_iff_eq_none.1 fun hs => Nat.not_lt.2 hi (h.idLt i hs)

theorem inv_init (now : Nat) : Inv (init now) := by
  constructor
  · constructor <;> intros <;> simp_all [init, MAX_CONTEXT_RULES]
    exact ⟨[], by simp⟩
  · constructor <;> intros <;> simp_all [init, fpOf]

theorem computeFp_ok_iff (c : Nat) (sg ps : List Nat) (fp : FP) :
    computeFp c sg ps = .ok fp ↔ sg.Nodup ∧ ps.Nodup ∧ fp = (c, sortNat sg, sortNat ps) := by
  unfold computeFp
  rw [ite_error_eq_ok_iff, ite_error_eq_ok_iff, Classical.not_not, Classical.not_not]
  exact ⟨fun ⟨h1, h2, h⟩ => ⟨h1, h2, (Except.ok.inj h).symm⟩, fun ⟨h1, h2, h⟩ => ⟨h1, h2, h ▸ rfl⟩⟩

theorem validate_ok_iff (sg ps : List Nat) :
    validate sg ps = .ok () ↔ sg.length ≤ MAX_SIGNERS ∧ ps.length ≤ MAX_POLICIES ∧ ¬ (sg = [] ∧ ps = []) := by
  unfold validate
  rw [ite_error_eq_ok_iff, ite_error_eq_ok_iff, ite_error_eq_ok_iff, Nat.not_lt, Nat.not_lt]
  exact ⟨fun ⟨h1, h2, h3, _⟩ => ⟨h1, h2, h3⟩, fun ⟨h1, h2, h3⟩ => ⟨h1, h2, h3, rfl⟩⟩

theorem setFp_ok_iff (s s1 : State) (c : Nat) (sg ps : List Nat) :
    setFp s c sg ps = .ok s1 ↔
      (sg.Nodup ∧ ps.Nodup ∧ (c, sortNat sg, sortNat ps) ∉ s.fps) ∧
        s1 = { s with fps := s.fps ++ [(c, sortNat sg, sortNat ps)] } := by
  unfold setFp
  rw [bind_ok_iff]
  constructor
  · rintro ⟨fp, hc, h⟩
    obtain ⟨h1, h2, rfl⟩ := (computeFp_ok_iff c sg ps fp).1 hc
    obtain ⟨hm, h⟩ := ite_error_eq_ok_iff.1 h
    exact ⟨⟨h1, h2, by simpa using hm⟩, (Except.ok.inj h).symm⟩
  · rintro ⟨⟨h1, h2, hm⟩, rfl⟩
    exact ⟨_, (computeFp_ok_iff c sg ps _).2 ⟨h1, h2, rfl⟩, ite_error_eq_ok_iff.2 ⟨by simpa using hm, rfl⟩⟩

theorem removeFp_ok_iff (s s1 : State) (c : Nat) (sg ps : List Nat) :
    removeFp s c sg ps = .ok s1 ↔
      (sg.Nodup ∧ ps.Nodup) ∧ s1 = { s with fps := s.fps.filter (· ≠ (c, sortNat sg, sortNat ps)) } := by
  unfold removeFp
  rw [bind_ok_iff]
  constructor
  · rintro ⟨fp, hc, h⟩
    obtain ⟨h1, h2, rfl⟩ := (computeFp_ok_iff c sg ps fp).1 hc
    exact ⟨⟨h1, h2⟩, (Except.ok.inj h).symm⟩
  · rintro ⟨⟨h1, h2⟩, rfl⟩
    exact ⟨_, (computeFp_ok_iff c sg ps _).2 ⟨h1, h2, rfl⟩, rfl⟩

def refp (s : State) (c : Nat) (oldS oldP newS newP : List Nat) : State :=
  { s with fps := (s.fps ++ [(c, sortNat newS, sortNat newP)]).filter (· ≠ (c, sortNat oldS, sortNat oldP)) }

structure NewOk (s : State) (c : Nat) (sg ps : List Nat) : Prop where
  sgLe : sg.length ≤ MAX_SIGNERS
  psLe : ps.length ≤ MAX_POLICIES
  ne : ¬ (sg = [] ∧ ps = [])
  sgNodup : sg.Nodup
  psNodup : ps.Nodup
  fresh : (c, sortNat sg, sortNat ps) ∉ s.fps

theorem validate_setFp_ok_iff (s s' : State) (c : Nat) (sg ps : List Nat) (k : State → Except RErr State) :
    ((validate sg ps).bind fun _ => (setFp s c sg ps).bind k) = .ok s' ↔
      NewOk s c sg ps ∧ k { s with fps := s.fps ++ [(c, sortNat sg, sortNat ps)] } = .ok s' := by
  rw [bind_ok_iff]
  constructor
  · rintro ⟨u, hv, h⟩
    obtain ⟨s1, h1, h⟩ := bind_ok_iff.1 h
    obtain ⟨⟨n1, n2, hn⟩, rfl⟩ := (setFp_ok_iff s s1 c sg ps).1 h1
    obtain ⟨l1, l2, ne⟩ := (validate_ok_iff sg ps).1 hv
    exact ⟨⟨l1, l2, ne, n1, n2, hn⟩, h⟩
  · rintro ⟨ok, h⟩
    exact ⟨(), (validate_ok_iff sg ps).2 ⟨ok.sgLe, ok.psLe, ok.ne⟩,
      bind_ok_iff.2 ⟨_, (setFp_ok_iff s _ c sg ps).2 ⟨⟨ok.sgNodup, ok.psNodup, ok.fresh⟩, rfl⟩, h⟩⟩

/-- what `refingerprint s c oldS oldP newS newP` tests: the new vectors, and the old fingerprint computed (`removeFp`) -/
def RefpOk (s : State) (c : Nat) (oldS oldP newS newP : List Nat) : Prop :=
  NewOk s c newS newP ∧ oldS.Nodup ∧ oldP.Nodup

theorem refingerprint_ok_iff (s s1 : State) (c : Nat) (oldS oldP newS newP : List Nat) :
    refingerprint s c oldS oldP newS newP = .ok s1 ↔
      RefpOk s c oldS oldP newS newP ∧ s1 = refp s c oldS oldP newS newP := by
  unfold refingerprint
  rw [validate_setFp_ok_iff, removeFp_ok_iff, ← and_assoc]
  exact Iff.rfl

theorem refingerprint_bind_ok_iff (s s' : State) (c : Nat) (oldS oldP newS newP : List Nat) (W : State → State) :
    ((refingerprint s c oldS oldP newS newP).bind fun s1 => .ok (W s1)) = .ok s' ↔
      RefpOk s c oldS oldP newS newP ∧ s' = W (refp s c oldS oldP newS newP) := by
  rw [bind_ok_iff]
  constructor
  · rintro ⟨s1, h1, h⟩
    obtain ⟨hc, rfl⟩ := (refingerprint_ok_iff s s1 c oldS oldP newS newP).1 h1
    exact ⟨hc, (Except.ok.inj h).symm⟩
  · rintro ⟨hc, rfl⟩
    exact ⟨_, (refingerprint_ok_iff s _ c oldS oldP newS newP).2 ⟨hc, rfl⟩, rfl⟩

def fingerprint (r : Rule) : FP := (r.ctx, sortNat r.signers, sortNat r.policies)

theorem getContextRule_some (s : State) (id : Nat) (r : Rule) :
    getContextRule s id = some r ↔
      ∃ m, s.info id = some m ∧ r = ⟨id, m.ctx, m.name, s.signers id, s.policies id, m.validUntil⟩ := by
  unfold getContextRule
  cases s.info id with
  | none => simp
  | some m => simp [eq_comm]

theorem fpOf_eq (s : State) (id : Nat) : fpOf s id = (getContextRule s id).map fingerprint := by
  unfold fpOf getContextRule fingerprint
  cases s.info id <;> rfl

theorem Inv.mem_fps {s : State} (hI : Inv s) (fp : FP) :
    fp ∈ s.fps ↔ ∃ id r, getContextRule s id = some r ∧ fingerprint r = fp := by
  rw [hI.f.fpsMem]
  refine exists_congr fun id => ?_
  rw [fpOf_eq]
  cases getContextRule s id <;> simp

theorem Inv.fp_inj {s : State} (hI : Inv s) {i j : Nat} {r1 r2 : Rule} (h1 : getContextRule s i = some r1)
    (h2 : getContextRule s j = some r2) (he : fingerprint r1 = fingerprint r2) : i = j :=
  hI.f.fpInj i j (fingerprint r1) (by rw [fpOf_eq, h1]; rfl) (by rw [fpOf_eq, h2, he]; rfl)

theorem Inv.mem_ids {s : State} (hI : Inv s) (c id : Nat) :
    id ∈ s.ids c ↔ ∃ r, getContextRule s id = some r ∧ r.ctx = c := by
  rw [hI.r.idsMem]
  unfold getContextRule
  cases s.info id <;> simp

theorem Inv.rule_nodup {s : State} (hI : Inv s) {i : Nat} {r : Rule} (h : getContextRule s i = some r) :
    r.signers.Nodup ∧ r.policies.Nodup := by
  obtain ⟨m, _, rfl⟩ := (getContextRule_some s i r).1 h
  exact ⟨hI.r.sgNodup i, hI.r.psNodup i⟩

theorem getContextRule_write {s s' : State} {id : Nat} {mi : Option Meta} {sg ps : List Nat}
    (hinfo : ∀ i, s'.info i = if i = id then mi else s.info i)
    (hsg : ∀ i, s'.signers i = if i = id then sg else s.signers i)
    (hps : ∀ i, s'.policies i = if i = id then ps else s.policies i) (i : Nat) :
    getContextRule s' i =
      if i = id then mi.map fun m => ⟨id, m.ctx, m.name, sg, ps, m.validUntil⟩ else getContextRule s i := by
  unfold getContextRule
  rw [hinfo, hsg, hps]
  split
  · rename_i h; rw [h]
  · rfl

theorem fpOf_of {s s' : State} {id : Nat} {new : Option Rule}
    (h : ∀ i, getContextRule s' i = if i = id then new else getContextRule s i) (i : Nat) :
    fpOf s' i = if i = id then new.map fingerprint else fpOf s i := by
  rw [fpOf_eq, fpOf_eq, h]; split <;> rfl

theorem map_getContextRule {s : State} {id : Nat} {m : Meta} (hm : s.info id = some m) (f : Rule → Rule) :
    (getContextRule s id).map f = some (f ⟨id, m.ctx, m.name, s.signers id, s.policies id, m.validUntil⟩) := by
  unfold getContextRule; rw [hm]; rfl

/-- the three writers build their lists by `++`, `filter` or both, hence the two options as lists -/
theorem invF_update {s s' : State} (hF : InvF s) (id0 : Nat) (newO : Option FP)
    (hfp' : ∀ id, fpOf s' id = if id = id0 then newO else fpOf s id)
    (hnew : ∀ fp, newO = some fp → fp ∉ s.fps)
    (hnd : s'.fps.Nodup)
    (hmem : ∀ x, x ∈ s'.fps ↔ (x ∈ s.fps ∨ x ∈ newO.toList) ∧ x ∉ (fpOf s id0).toList) : InvF s' := by
  simp only [Option.mem_toList] at hmem
  constructor
  · exact hnd
  · intro fp
    rw [hmem]
    constructor
    · rintro ⟨h1, h2⟩
      cases h1 with
      | inr h1 => exact ⟨id0, by rw [hfp', if_pos rfl]; exact h1⟩
      | inl h1 =>
        obtain ⟨id, hid⟩ := (hF.fpsMem fp).1 h1
        have : id ≠ id0 := by intro h; subst h; exact h2 hid
        exact ⟨id, by rw [hfp', if_neg this]; exact hid⟩
    · rintro ⟨id, hid⟩
      rw [hfp'] at hid
      by_cases h : id = id0
      · rw [if_pos h] at hid
        refine ⟨Or.inr hid, ?_⟩
        intro h2
        exact hnew fp hid ((hF.fpsMem fp).2 ⟨id0, h2⟩)
      · rw [if_neg h] at hid
        refine ⟨Or.inl ((hF.fpsMem fp).2 ⟨id, hid⟩), ?_⟩
        intro h2
        exact h (hF.fpInj id id0 fp hid h2)
  · intro id1 id2 fp h1 h2
    rw [hfp'] at h1 h2
    by_cases e1 : id1 = id0
    · by_cases e2 : id2 = id0
      · rw [e1, e2]
      · rw [if_pos e1] at h1; rw [if_neg e2] at h2
        exact absurd ((hF.fpsMem fp).2 ⟨id2, h2⟩) (hnew fp h1)
    · by_cases e2 : id2 = id0
      · rw [if_neg e1] at h1; rw [if_pos e2] at h2
        exact absurd ((hF.fpsMem fp).2 ⟨id1, h1⟩) (hnew fp h2)
      · rw [if_neg e1] at h1; rw [if_neg e2] at h2
        exact hF.fpInj id1 id2 fp h1 h2

def added (s : State) (c name : Nat) (vu : Option Nat) (sg ps : List Nat) : State :=
  storeRule { s with fps := s.fps ++ [(c, sortNat sg, sortNat ps)] } c name vu sg ps

theorem addContextRule_ok_iff (installOk : Nat → Bool) (s s' : State) (c name : Nat) (vu : Option Nat)
    (sg ps : List Nat) :
    addContextRule installOk s c name vu sg ps = .ok s' ↔
      (s.count < MAX_CONTEXT_RULES ∧ pastValidUntil s vu = false ∧ NewOk s c sg ps ∧ ps.all installOk = true) ∧
        s' = added s c name vu sg ps := by
  unfold addContextRule
  rw [ite_error_eq_ok_iff, ite_error_eq_ok_iff, ite_error_eq_ok_iff, validate_setFp_ok_iff, ite_error_eq_ok_iff]
  constructor
  · rintro ⟨h1, _, h3, ok, hi, h⟩
    exact ⟨⟨Nat.not_le.1 h1, by simpa using h3, ok, by simpa using hi⟩, (Except.ok.inj h).symm⟩
  · rintro ⟨⟨h1, h3, ok, hi⟩, rfl⟩
    exact ⟨Nat.not_le.2 h1, not_not_intro ok.sgNodup, by simp [h3], ok, by simp [hi], rfl⟩

theorem getContextRule_added (s : State) (c n : Nat) (vu : Option Nat) (sg ps : List Nat) (i : Nat) :
    getContextRule (added s c n vu sg ps) i =
      if i = s.nextId then some ⟨s.nextId, c, n, sg, ps, vu⟩ else getContextRule s i :=
  getContextRule_write (s' := added s c n vu sg ps) (mi := some ⟨n, c, vu⟩) (fun _ => rfl) (fun _ => rfl)
    (fun _ => rfl) i

theorem inv_added {s : State} (hI : Inv s) {c name : Nat} {vu : Option Nat} {sg ps : List Nat}
    (hcnt : s.count < MAX_CONTEXT_RULES) (ok : NewOk s c sg ps) : Inv (added s c name vu sg ps) := by
  have hdead : s.info s.nextId = none := hI.r.info_none (Nat.le_refl _)
  have hinfo : ∀ id, (added s c name vu sg ps).info id =
      if id = s.nextId then some ⟨name, c, vu⟩ else s.info id := fun _ => rfl
  have hfp' := fpOf_of (getContextRule_added s c name vu sg ps)
  have hfpdead : fpOf s s.nextId = none := by unfold fpOf; rw [hdead]; rfl
  have hx := hI.r.idx.insert (c := ⟨name, c, vu⟩) hdead hinfo fun _ => rfl
  constructor
  · obtain ⟨lv, hlvn, hlvm, hlvc⟩ := hI.r.live
    constructor
    · intro id h
      rw [hinfo] at h
      show id < s.nextId + 1
      by_cases hid : id = s.nextId
      · omega
      · rw [if_neg hid] at h; have := hI.r.idLt id h; omega
    · exact hx.nodup
    · exact hx.mem
    · refine ⟨lv ++ [s.nextId], ?_, ?_, ?_⟩
      · apply nodup_append_singleton hlvn
        intro hm; have := (hlvm s.nextId).1 hm; rw [hdead] at this; cases this
      · intro id
        rw [hinfo, List.mem_append]
        by_cases hid : id = s.nextId
        · subst hid; simp
        · rw [if_neg hid, hlvm]; simp [hid]
      · show s.count + 1 = _
        simp [hlvc]
    · exact forall_updD (P := fun _ l => List.Nodup l) ok.sgNodup fun x _ => hI.r.sgNodup x
    · exact forall_updD (P := fun _ l => List.Nodup l) ok.psNodup fun x _ => hI.r.psNodup x
    · show s.count + 1 ≤ _
      omega
    · exact le_updD hI.r.sgLe _ ok.sgLe
    · exact le_updD hI.r.psLe _ ok.psLe
  · apply invF_update hI.f s.nextId (some (c, sortNat sg, sortNat ps)) hfp'
    · intro fp h; injection h with h; subst h; exact ok.fresh
    · show (s.fps ++ [(c, sortNat sg, sortNat ps)]).Nodup
      exact nodup_append_singleton hI.f.fpsNodup ok.fresh
    · intro x
      rw [hfpdead]
      exact List.mem_append.trans (and_iff_left List.not_mem_nil).symm

/-- every operation on an existing rule reads `Meta(id)` first and goes on (`K`) with what it found -/
theorem onMeta_ok_iff {s s' : State} {id : Nat} {K : Meta → Except RErr State} :
    (match s.info id with
      | none => Except.error RErr.absent
      | some m => K m) = .ok s' ↔ ∃ m, s.info id = some m ∧ K m = .ok s' := by
  cases s.info id with
  | none => exact ⟨fun h => (nomatch h), fun ⟨_, h, _⟩ => (nomatch h)⟩
  | some m => exact ⟨fun h => ⟨m, rfl, h⟩, fun ⟨_, h, hk⟩ => Option.some.inj h ▸ hk⟩

theorem updateName_ok_iff (s s' : State) (id name : Nat) :
    updateName s id name = .ok s' ↔
      ∃ m, s.info id = some m ∧ s' = { s with info := updD s.info id (some { m with name := name }) } := by
  unfold updateName
  exact onMeta_ok_iff.trans (exists_congr fun m => and_congr_right fun _ => ⟨fun h => (Except.ok.inj h).symm, fun h => congrArg _ h.symm⟩)

theorem updateValidUntil_ok_iff (s s' : State) (id : Nat) (vu : Option Nat) :
    updateValidUntil s id vu = .ok s' ↔
      ∃ m, s.info id = some m ∧ pastValidUntil s vu = false ∧
        s' = { s with info := updD s.info id (some { m with validUntil := vu }) } := by
  unfold updateValidUntil
  refine onMeta_ok_iff.trans (exists_congr fun m => and_congr_right fun _ => ?_)
  rw [ite_error_eq_ok_iff, Bool.not_eq_true]
  exact and_congr_right fun _ => ⟨fun h => (Except.ok.inj h).symm, fun h => congrArg _ h.symm⟩

theorem getContextRule_setMeta (s : State) (id : Nat) (m' : Meta) (i : Nat) :
    getContextRule { s with info := updD s.info id (some m') } i =
      if i = id then some ⟨id, m'.ctx, m'.name, s.signers id, s.policies id, m'.validUntil⟩
      else getContextRule s i :=
  getContextRule_write (s' := { s with info := updD s.info id (some m') }) (mi := some m') (fun _ => rfl)
    (eq_ite_self s.signers id) (eq_ite_self s.policies id) i

theorem inv_setMeta {s : State} (hI : Inv s) {id : Nat} {m m' : Meta} (hm : s.info id = some m)
    (hctx : m'.ctx = m.ctx) : Inv { s with info := updD s.info id (some m') } := by
  have hsome : ∀ id', (updD s.info id (some m') id').isSome = (s.info id').isSome := by
    intro id'
    by_cases h : id' = id
    · subst h; rw [updD_same, hm]; rfl
    · rw [updD_other _ _ _ _ h]
  have hfp' : ∀ id', fpOf { s with info := updD s.info id (some m') } id' = fpOf s id' := by
    intro id'
    unfold fpOf
    show Option.map _ (updD s.info id (some m') id') = _
    by_cases h : id' = id
    · subst h; rw [updD_same, hm]; simp [hctx]
    · rw [updD_other _ _ _ _ h]
  constructor
  · constructor
    · intro id' h; exact hI.r.idLt id' (by rw [← hsome]; exact h)
    · exact hI.r.idsNodup
    · exact (hI.r.idx.replace hm hctx fun _ => rfl).mem
    · obtain ⟨lv, h1, h2, h3⟩ := hI.r.live
      exact ⟨lv, h1, fun id' => by rw [h2]; exact (congrArg (· = true) (hsome id')).symm ▸ Iff.rfl, h3⟩
    · exact hI.r.sgNodup
    · exact hI.r.psNodup
    · exact hI.r.cntLe
    · exact hI.r.sgLe
    · exact hI.r.psLe
  · constructor
    · exact hI.f.fpsNodup
    · intro fp; rw [hI.f.fpsMem]; simp only [hfp']
    · intro id1 id2 fp; rw [hfp', hfp']; exact hI.f.fpInj id1 id2 fp

def removed (s : State) (id : Nat) (m : Meta) : State :=
  { s with fps := s.fps.filter (· ≠ (m.ctx, sortNat (s.signers id), sortNat (s.policies id))),
           info := updD s.info id none,
           signers := updD s.signers id [],
           policies := updD s.policies id [],
           ids := updD s.ids m.ctx (eraseLast (s.ids m.ctx) id),
           count := s.count - 1 }

theorem removeContextRule_ok_iff (s s' : State) (id : Nat) :
    removeContextRule s id = .ok s' ↔
      ∃ m, s.info id = some m ∧ ((s.signers id).Nodup ∧ (s.policies id).Nodup ∧ s.count ≠ 0) ∧
        s' = removed s id m := by
  unfold removeContextRule
  refine onMeta_ok_iff.trans (exists_congr fun m => and_congr_right fun _ => ?_)
  rw [bind_ok_iff]
  constructor
  · rintro ⟨s1, h1, h⟩
    obtain ⟨ho, rfl⟩ := (removeFp_ok_iff s s1 m.ctx (s.signers id) (s.policies id)).1 h1
    obtain ⟨hc, h⟩ := ite_error_eq_ok_iff.1 h
    exact ⟨⟨ho.1, ho.2, hc⟩, (Except.ok.inj h).symm⟩
  · rintro ⟨⟨h1, h2, hc⟩, rfl⟩
    exact ⟨_, (removeFp_ok_iff s _ m.ctx (s.signers id) (s.policies id)).2 ⟨⟨h1, h2⟩, rfl⟩,
      ite_error_eq_ok_iff.2 ⟨hc, rfl⟩⟩

theorem getContextRule_removed (s : State) (id : Nat) (m : Meta) (i : Nat) :
    getContextRule (removed s id m) i = if i = id then none else getContextRule s i :=
  getContextRule_write (s' := removed s id m) (mi := none) (fun _ => rfl) (fun _ => rfl) (fun _ => rfl) i

theorem inv_removed {s : State} (hI : Inv s) {id : Nat} {m : Meta} (hm : s.info id = some m) :
    Inv (removed s id m) := by
  have hinfo : ∀ id', (removed s id m).info id' = if id' = id then none else s.info id' := fun _ => rfl
  have hfp' := fpOf_of (getContextRule_removed s id m)
  have hfpold : fpOf s id = some (m.ctx, sortNat (s.signers id), sortNat (s.policies id)) := by
    unfold fpOf; rw [hm]; rfl
  obtain ⟨lv, hlvn, hlvm, hlvc⟩ := hI.r.live
  have hidlv : id ∈ lv := (hlvm id).2 (by rw [hm]; rfl)
  have hx := hI.r.idx.delete hm hinfo (fun _ => rfl) (nodup_eraseLast (hI.r.idsNodup _) id) (mem_eraseLast (hI.r.idsNodup _) id)
  constructor
  · constructor
    · intro id' h
      rw [hinfo] at h
      by_cases hid : id' = id
      · rw [if_pos hid] at h; cases h
      · rw [if_neg hid] at h; exact hI.r.idLt id' h
    · exact hx.nodup
    · exact hx.mem
    · refine ⟨lv.erase id, hlvn.erase id, ?_, ?_⟩
      · intro id'
        rw [hlvn.mem_erase_iff, hinfo, hlvm]
        by_cases hid : id' = id
        · simp [hid]
        · simp [hid]
      · show s.count - 1 = _
        rw [List.length_erase_of_mem hidlv, hlvc]
    · exact forall_updD (P := fun _ l => List.Nodup l) List.nodup_nil fun x _ => hI.r.sgNodup x
    · exact forall_updD (P := fun _ l => List.Nodup l) List.nodup_nil fun x _ => hI.r.psNodup x
    · show s.count - 1 ≤ _
      exact Nat.le_trans (Nat.sub_le _ _) hI.r.cntLe
    · exact le_updD hI.r.sgLe _ (Nat.zero_le _)
    · exact le_updD hI.r.psLe _ (Nat.zero_le _)
  · apply invF_update hI.f id none hfp'
    · intro fp h; cases h
    · exact nodup_filter _ hI.f.fpsNodup
    · intro x
      rw [hfpold]
      exact List.mem_filter.trans (and_congr (or_iff_left List.not_mem_nil).symm
        (decide_eq_true_iff.trans (not_congr List.mem_singleton.symm)))

/-- an edit writes one of the two vectors, the other is written with what it held (`updD_self`) -/
theorem inv_mod {s : State} (hI : Inv s) {id : Nat} {m : Meta} (hm : s.info id = some m) {nS nP : List Nat}
    (ok : NewOk s m.ctx nS nP) {sgF psF : Nat → List Nat} (hsg : sgF = updD s.signers id nS)
    (hps : psF = updD s.policies id nP) :
    Inv { s with signers := sgF, policies := psF, fps := (refp s m.ctx (s.signers id) (s.policies id) nS nP).fps } := by
  subst hsg hps
  have hfp' := fpOf_of (getContextRule_write (s := s) (mi := some m)
    (s' := { s with signers := updD s.signers id nS, policies := updD s.policies id nP,
                    fps := (refp s m.ctx (s.signers id) (s.policies id) nS nP).fps })
    (fun i => (eq_ite_self s.info id i).trans (by rw [hm])) (fun _ => rfl) (fun _ => rfl))
  have hfpold : fpOf s id = some (m.ctx, sortNat (s.signers id), sortNat (s.policies id)) := by
    unfold fpOf; rw [hm]; rfl
  refine ⟨⟨hI.r.idLt, hI.r.idsNodup, hI.r.idsMem, hI.r.live,
    forall_updD (P := fun _ l => List.Nodup l) ok.sgNodup fun x _ => hI.r.sgNodup x,
    forall_updD (P := fun _ l => List.Nodup l) ok.psNodup fun x _ => hI.r.psNodup x, hI.r.cntLe,
    le_updD hI.r.sgLe _ ok.sgLe, le_updD hI.r.psLe _ ok.psLe⟩, ?_⟩
  apply invF_update hI.f id (some (m.ctx, sortNat nS, sortNat nP)) hfp'
  · intro fp h; injection h with h; subst h; exact ok.fresh
  · exact nodup_filter _ (nodup_append_singleton hI.f.fpsNodup ok.fresh)
  · intro x
    rw [hfpold]
    exact List.mem_filter.trans (and_congr List.mem_append (decide_eq_true_iff.trans (not_congr List.mem_singleton.symm)))

def sgSet (s : State) (id : Nat) (m : Meta) (newS : List Nat) : State :=
  { refp s m.ctx (s.signers id) (s.policies id) newS (s.policies id) with signers := updD s.signers id newS }

def psSet (s : State) (id : Nat) (m : Meta) (newP : List Nat) : State :=
  { refp s m.ctx (s.signers id) (s.policies id) (s.signers id) newP with policies := updD s.policies id newP }

theorem getContextRule_sgSet {s : State} {id : Nat} {m : Meta} (hm : s.info id = some m) (newS : List Nat) (i : Nat) :
    getContextRule (sgSet s id m newS) i =
      if i = id then some ⟨id, m.ctx, m.name, newS, s.policies id, m.validUntil⟩ else getContextRule s i :=
  getContextRule_write (s' := sgSet s id m newS) (mi := some m)
    (fun i => (eq_ite_self s.info id i).trans (by rw [hm])) (fun _ => rfl) (eq_ite_self s.policies id) i

theorem getContextRule_psSet {s : State} {id : Nat} {m : Meta} (hm : s.info id = some m) (newP : List Nat) (i : Nat) :
    getContextRule (psSet s id m newP) i =
      if i = id then some ⟨id, m.ctx, m.name, s.signers id, newP, m.validUntil⟩ else getContextRule s i :=
  getContextRule_write (s' := psSet s id m newP) (mi := some m)
    (fun i => (eq_ite_self s.info id i).trans (by rw [hm])) (eq_ite_self s.signers id) (fun _ => rfl) i

theorem addSigner_ok_iff (s s' : State) (id sg : Nat) :
    addSigner s id sg = .ok s' ↔
      ∃ m, s.info id = some m ∧ sg ∉ s.signers id ∧
        RefpOk s m.ctx (s.signers id) (s.policies id) (s.signers id ++ [sg]) (s.policies id) ∧
        s' = sgSet s id m (s.signers id ++ [sg]) := by
  unfold addSigner
  refine onMeta_ok_iff.trans (exists_congr fun m => and_congr_right fun _ => ?_)
  rw [ite_error_eq_ok_iff, refingerprint_bind_ok_iff, List.contains_iff_mem]
  exact Iff.rfl

theorem removeSigner_ok_iff (s s' : State) (id sg : Nat) :
    removeSigner s id sg = .ok s' ↔
      ∃ m, s.info id = some m ∧ sg ∈ s.signers id ∧
        RefpOk s m.ctx (s.signers id) (s.policies id) (eraseLast (s.signers id) sg) (s.policies id) ∧
        s' = sgSet s id m (eraseLast (s.signers id) sg) := by
  unfold removeSigner
  refine onMeta_ok_iff.trans (exists_congr fun m => and_congr_right fun _ => ?_)
  rw [ite_error_eq_ok_iff, refingerprint_bind_ok_iff, Bool.not_eq_true', Bool.not_eq_false, List.contains_iff_mem]
  exact Iff.rfl

theorem addPolicy_ok_iff (installOk : Nat → Bool) (s s' : State) (id p : Nat) :
    addPolicy installOk s id p = .ok s' ↔
      ∃ m, s.info id = some m ∧ p ∉ s.policies id ∧ installOk p = true ∧
        RefpOk s m.ctx (s.signers id) (s.policies id) (s.signers id) (s.policies id ++ [p]) ∧
        s' = psSet s id m (s.policies id ++ [p]) := by
  unfold addPolicy
  refine onMeta_ok_iff.trans (exists_congr fun m => and_congr_right fun _ => ?_)
  rw [ite_error_eq_ok_iff, ite_error_eq_ok_iff, refingerprint_bind_ok_iff, List.contains_iff_mem, Bool.not_eq_true',
    Bool.not_eq_false]
  exact Iff.rfl

theorem removePolicy_ok_iff (s s' : State) (id p : Nat) :
    removePolicy s id p = .ok s' ↔
      ∃ m, s.info id = some m ∧ p ∈ s.policies id ∧
        RefpOk s m.ctx (s.signers id) (s.policies id) (s.signers id) (eraseLast (s.policies id) p) ∧
        s' = psSet s id m (eraseLast (s.policies id) p) := by
  unfold removePolicy
  refine onMeta_ok_iff.trans (exists_congr fun m => and_congr_right fun _ => ?_)
  rw [ite_error_eq_ok_iff, refingerprint_bind_ok_iff, Bool.not_eq_true', Bool.not_eq_false, List.contains_iff_mem]
  exact Iff.rfl

theorem inv_setNow {s : State} (hI : Inv s) (n : Nat) : Inv { s with now := n } := by
  exact ⟨⟨hI.r.idLt, hI.r.idsNodup, hI.r.idsMem, hI.r.live, hI.r.sgNodup, hI.r.psNodup, hI.r.cntLe,
    hI.r.sgLe, hI.r.psLe⟩, ⟨hI.f.fpsNodup, hI.f.fpsMem, hI.f.fpInj⟩⟩

/-- an accepted operation takes `s` to `s'`; one constructor per kind of write, with what the invariant needs of it -/
inductive Eff (s : State) : State → Prop where
  | add {c name : Nat} {vu : Option Nat} {sg ps : List Nat} (hc : s.count < MAX_CONTEXT_RULES) (ok : NewOk s c sg ps) :
      Eff s (added s c name vu sg ps)
  | setMeta {id : Nat} {m : Meta} (hm : s.info id = some m) (m' : Meta) (hc : m'.ctx = m.ctx) :
      Eff s { s with info := updD s.info id (some m') }
  | remove {id : Nat} {m : Meta} (hm : s.info id = some m) : Eff s (removed s id m)
  | vectors {id : Nat} {m : Meta} (hm : s.info id = some m) {nS nP : List Nat} (ok : NewOk s m.ctx nS nP)
      {sgF psF : Nat → List Nat} (hsg : sgF = updD s.signers id nS) (hps : psF = updD s.policies id nP) :
      Eff s { s with signers := sgF, policies := psF, fps := (refp s m.ctx (s.signers id) (s.policies id) nS nP).fps }
  | now (n : Nat) : Eff s { s with now := n }

theorem step_eff {io : Nat → Bool} {s s' : State} {o : Op} (h : step io s o = .ok s') : Eff s s' := by
  cases o with
  | add c n vu sg ps =>
    obtain ⟨⟨hc, _, ok, _⟩, rfl⟩ := (addContextRule_ok_iff io s s' c n vu sg ps).1 h
    exact .add hc ok
  | rename id n => obtain ⟨m, hm, rfl⟩ := (updateName_ok_iff s s' id n).1 h; exact .setMeta hm _ rfl
  | revalid id vu => obtain ⟨m, hm, _, rfl⟩ := (updateValidUntil_ok_iff s s' id vu).1 h; exact .setMeta hm _ rfl
  | remove id => obtain ⟨m, hm, _, rfl⟩ := (removeContextRule_ok_iff s s' id).1 h; exact .remove hm
  | addSigner id sg => obtain ⟨m, hm, _, ⟨ok, _⟩, rfl⟩ := (addSigner_ok_iff s s' id sg).1 h; exact .vectors hm ok rfl (updD_self _ _).symm
  | removeSigner id sg => obtain ⟨m, hm, _, ⟨ok, _⟩, rfl⟩ := (removeSigner_ok_iff s s' id sg).1 h; exact .vectors hm ok rfl (updD_self _ _).symm
  | addPolicy id p => obtain ⟨m, hm, _, _, ⟨ok, _⟩, rfl⟩ := (addPolicy_ok_iff io s s' id p).1 h; exact .vectors hm ok (updD_self _ _).symm rfl
  | removePolicy id p => obtain ⟨m, hm, _, ⟨ok, _⟩, rfl⟩ := (removePolicy_ok_iff s s' id p).1 h; exact .vectors hm ok (updD_self _ _).symm rfl
  | advance n => cases h; exact .now _

theorem next_eff (io : Nat → Bool) (s : State) (o : Op) : next io s o = s ∨ Eff s (next io s o) := by
  unfold next
  cases h : step io s o with
  | error e => exact .inl rfl
  | ok s' => exact .inr (step_eff h)

theorem Eff.inv {s s' : State} (h : Eff s s') (hI : Inv s) : Inv s' := by
  cases h with
  | add hc ok => exact inv_added hI hc ok
  | setMeta hm m' hc => exact inv_setMeta hI hm hc
  | remove hm => exact inv_removed hI hm
  | vectors hm ok hsg hps => exact inv_mod hI hm ok hsg hps
  | now n => exact inv_setNow hI n

theorem Eff.nextId_le {s s' : State} (h : Eff s s') : s.nextId ≤ s'.nextId := by
  cases h with
  | add => exact Nat.le_succ _
  | _ => exact Nat.le_refl _

theorem inv_next (installOk : Nat → Bool) {s : State} (hI : Inv s) (o : Op) : Inv (next installOk s o) :=
  (next_eff installOk s o).elim (fun h => h.symm ▸ hI) (·.inv hI)

theorem inv_run (installOk : Nat → Bool) {s : State} (hI : Inv s) (ops : List Op) :
    Inv (run installOk s ops) :=
  OZ.Lists.foldl_inv (P := Inv) (fun _ o h => inv_next installOk h o) ops s hI

theorem nextId_mono (installOk : Nat → Bool) (s : State) (o : Op) : s.nextId ≤ (next installOk s o).nextId :=
  (next_eff installOk s o).elim (fun h => h.symm ▸ Nat.le_refl _) (·.nextId_le)

theorem nextId_run_mono (installOk : Nat → Bool) (s : State) (ops : List Op) :
    s.nextId ≤ (run installOk s ops).nextId :=
  OZ.Lists.foldl_inv (P := fun s' => s.nextId ≤ s'.nextId) (fun s' o h => Nat.le_trans h (nextId_mono installOk s' o)) ops s
    (Nat.le_refl _)

def Reachable (installOk : Nat → Bool) (s : State) : Prop := ∃ now ops, s = run installOk (init now) ops

theorem reachable_inv {installOk : Nat → Bool} {s : State} (h : Reachable installOk s) : Inv s := by
  obtain ⟨now, ops, rfl⟩ := h
  exact inv_run installOk (inv_init now) ops

theorem getContextRules_spec {s : State} (hI : Inv s) (c : Nat) :
    ∃ l, getContextRules s c = some l ∧ l.map (·.id) = s.ids c ∧
      ∀ r, r ∈ l → getContextRule s r.id = some r := by
  unfold getContextRules
  have key : ∀ (ids : List Nat), (∀ id, id ∈ ids → (s.info id).isSome = true) →
      ∃ l, ids.mapM (getContextRule s) = some l ∧ l.map (·.id) = ids ∧
        ∀ r, r ∈ l → getContextRule s r.id = some r := by
    intro ids
    induction ids with
    | nil => intro _; exact ⟨[], rfl, rfl, by intro r h; cases h⟩
    | cons a as ih =>
      intro hlive
      obtain ⟨l, hl, hmap, hall⟩ := ih (fun id h => hlive id (List.mem_cons_of_mem _ h))
      obtain ⟨m, hm⟩ := Option.isSome_iff_exists.1 (hlive a (List.mem_cons_self ..))
      have hr : getContextRule s a = some ⟨a, m.ctx, m.name, s.signers a, s.policies a, m.validUntil⟩ :=
        (getContextRule_some s a _).2 ⟨m, hm, rfl⟩
      refine ⟨⟨a, m.ctx, m.name, s.signers a, s.policies a, m.validUntil⟩ :: l, ?_, by simp [hmap], ?_⟩
      · simp [List.mapM_cons, hr, hl]
      · intro r h
        cases h with
        | head => exact hr
        | tail _ h => exact hall r h
  apply key
  intro id hid
  obtain ⟨m, hm, _⟩ := (hI.r.idsMem c id).1 hid
  rw [hm]; rfl

end OZ.RegRules
