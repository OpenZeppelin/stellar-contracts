import OZ.Lemmas.RwaStep
/-
Invariants of the RWA model, each proved of one accepted invocation (`cases` on its `Step`) and carried along a
history by `run_induction`: 0 ≤ frozen ≤ balance, the two logs against the tables `Op.owedNotes` / `Op.owedModCalls`,
the fungible invariant of the embedded base token, and that replaying the emitted events gives the balances.
-/
namespace OZ.Rwa
open OZ.Host OZ.Fungible

def Op.holderMove : Op → Option (Nat × Nat × Int)
  | .transfer f t a => some (f, t, a)
  | .transferFrom _ f t a => some (f, t, a)
  | _ => none

theorem apply_holderMove {c : Cfg} {s s' : State} {auth : List Nat} {op : Op} {f t : Nat} {amt : Int}
    (hop : op.holderMove = some (f, t, amt)) (h : apply c s auth op = .ok s') : MovePost s s' f t amt := by
  cases op with
  | transfer f' t' a' => cases hop; exact (transfer_ok (apply_ok h)).2.1
  | transferFrom sp f' t' a' => cases hop; exact (transferFrom_ok (apply_ok h)).2.2.1
  | _ => cases hop

def isOk {α} : Except Err α → Bool
  | .ok _ => true
  | .error _ => false

/-- a rejected invocation is rolled back -/
theorem run_induction {c : Cfg} {P : State → Prop} {ops : List (List Nat × Op)}
    (hstep : ∀ x ∈ ops, ∀ s s', P s → apply c s x.1 x.2 = .ok s' → P s') {s : State} (hs : P s) :
    P (run c s ops) := by
  refine OZ.Lists.foldl_keeps (fun s x hs hx => ?_) ops s hs hstep
  unfold step
  cases h : apply c s x.1 x.2 with
  | error e => exact hs
  | ok s' => exact hx s s' hs h

def FrozenInv (s : State) : Prop := ∀ a, 0 ≤ s.frozen a ∧ s.frozen a ≤ s.base.bal a

theorem FrozenInv.congr {s s' : State} (h : FrozenInv s) (hb : s'.base.bal = s.base.bal)
    (hf : s'.frozen = s.frozen) : FrozenInv s' := by
  intro a; rw [hb, hf]; exact h a

theorem move_frozenInv {s s' : State} {f t : Nat} {amt : Int} (hi : FrozenInv s)
    (p : MovePost s s' f t amt) : FrozenInv s' := by
  intro x
  have hx := hi x
  have hfree := p.gates.free
  have hge := moved_ge p.nonneg p.bal x
  rw [p.frozen]
  by_cases hxf : x = f
  · subst hxf; rw [if_pos rfl] at hge; omega
  · rw [if_neg hxf] at hge; omega

theorem mint_frozenInv {s s' : State} {t : Nat} {amt : Int} (hi : FrozenInv s)
    (p : MintPost s s' t amt) : FrozenInv s' := by
  intro x
  have hx := hi x
  obtain ⟨h0, -, -, -, hb⟩ := update_mint p.update
  rw [p.frozen, hb x]
  by_cases hxt : x = t
  · subst hxt; rw [if_pos rfl]; omega
  · rw [if_neg hxt]; omega

theorem burn_frozenInv {s s' : State} {a : Nat} {amt : Int} (hi : FrozenInv s)
    (p : BurnPost s s' a amt) : FrozenInv s' := by
  intro x
  have hx := hi x
  obtain ⟨h0, hle, -, -, -, hb⟩ := update_burn p.update
  rw [p.frozen x, hb x]
  by_cases hxa : x = a
  · subst hxa; rw [if_pos rfl, if_pos rfl, frozenAfter_eq_min]; omega
  · rw [if_neg hxa, if_neg hxa]; exact hx

theorem forced_frozenInv {s s' : State} {f t : Nat} {amt : Int} (hi : FrozenInv s)
    (p : ForcedPost s s' f t amt) : FrozenInv s' := by
  intro x
  have hx := hi x
  obtain ⟨h0, hle, -, -, -, hb⟩ := update_move p.update
  have hge := moved_ge h0 hb x
  rw [p.frozen x]
  by_cases hxf : x = f
  · subst hxf; rw [if_pos rfl] at hge ⊢; rw [frozenAfter_eq_min]; omega
  · rw [if_neg hxf] at hge ⊢; omega

theorem frozenAfter_all {s : State} {a : Nat} (h0 : 0 ≤ s.frozen a) :
    frozenAfter s a (s.base.bal a) = 0 := by
  unfold frozenAfter; split <;> omega

theorem RecoverPost.frozen_moved {s s' : State} {old new : Nat} (p : RecoverPost s s' old new)
    (h0 : 0 ≤ s.frozen old) (x : Nat) :
    s'.frozen x = (if x = new then (if new = old then s.frozen old - s.frozen old else s.frozen new) + s.frozen old
                   else if x = old then s.frozen old - s.frozen old else s.frozen x) := by
  rw [p.frozen x, frozenAfter_all h0, Int.sub_self]
  by_cases hpos : s.frozen old > 0
  · rw [if_pos hpos]
  · have hz : s.frozen old = 0 := by omega
    rw [if_neg hpos, hz, Int.add_zero]
    by_cases hxn : x = new
    · subst hxn; rw [if_pos rfl]
    · rw [if_neg hxn]

theorem recover_frozenInv {s s' : State} {old new : Nat} (hi : FrozenInv s)
    (p : RecoverPost s s' old new) : FrozenInv s' := by
  intro x
  have hx := hi x; have ho := hi old; have hn := hi new
  obtain ⟨h0, hle, -, -, -, hb⟩ := update_move p.update
  rw [p.frozen_moved ho.1 x, hb x]
  by_cases hxn : x = new
  · subst hxn
    rw [if_pos rfl, if_pos rfl]
    by_cases hno : x = old
    · subst hno; rw [if_pos rfl, if_pos rfl]; omega
    · rw [if_neg hno, if_neg hno]; omega
  · rw [if_neg hxn, if_neg hxn]
    by_cases hxo : x = old
    · subst hxo; rw [if_pos rfl, if_pos rfl]; omega
    · rw [if_neg hxo, if_neg hxo]; omega

theorem FreezePost.frozenInv {s s' : State} {x : Nat} {v : Int} (p : FreezePost s s' x v) (hi : FrozenInv s)
    (hv : 0 ≤ s.frozen x ∧ s.frozen x ≤ s.base.bal x → 0 ≤ v ∧ v ≤ s.base.bal x) : FrozenInv s' := by
  intro y
  rw [p.frozen y, p.kept.base]
  by_cases hyx : y = x
  · subst hyx; rw [if_pos rfl]; exact hv (hi y)
  · rw [if_neg hyx]; exact hi y

theorem Step.frozenInv {s s' : State} {op : Op} {r : Bool} (st : Step s op s' r) (hi : FrozenInv s) : FrozenInv s' := by
  cases st with
  | transfer p | transferFrom p => exact move_frozenInv hi p
  | mint p => exact mint_frozenInv hi p
  | burn p => exact burn_frozenInv hi p
  | forced p => exact forced_frozenInv hi p
  | recoverNone => exact hi.congr rfl rfl
  | recoverMove _ _ _ p => exact recover_frozenInv hi p
  | freeze h0 hle p => exact p.frozenInv hi (fun _ => by omega)
  | unfreeze h0 hle p => exact p.frozenInv hi (fun _ => by omega)
  | quiet _ _ q => exact hi.congr q.bal q.frozen

/-- the notifications owed by a history: those of the accepted operations, each computed in the
state the operation started from -/
def owedRun (c : Cfg) : State → List (List Nat × Op) → List Note
  | _, [] => []
  | s, x :: xs =>
    match apply c s x.1 x.2 with
    | .ok s' => x.2.owedNotes s ++ owedRun c s' xs
    | .error _ => owedRun c s xs

def supplyDelta : Op → Int
  | .mint _ a _ => a
  | .burn _ a _ => -a
  | _ => 0

theorem quiet_owes {op : Op} (hq : op.quiet = true) (s : State) :
    op.owedNotes s = [] ∧ op.owedModCalls s = [] ∧ supplyDelta op = 0 := by
  cases op <;> first | exact ⟨rfl, rfl, rfl⟩ | cases hq

theorem Step.logs {s s' : State} {op : Op} {r : Bool} (st : Step s op s' r) :
    s'.notes = s.notes ++ op.owedNotes s ∧ s'.modCalls = s.modCalls ++ op.owedModCalls s ∧
    (op.owedNotes s ≠ [] → s.bound = true) := by
  cases st with
  | transfer p | transferFrom p | mint p | burn p | forced p => exact ⟨p.notes, p.modCalls, fun _ => p.bound⟩
  | recoverNone _ _ hz => simp [Op.owedNotes, Op.owedModCalls, hz, logId]
  | recoverMove _ _ hnz p =>
    simp only [Op.owedNotes, Op.owedModCalls]; rw [if_neg hnz, if_neg hnz]; exact ⟨p.notes, p.modCalls, fun _ => p.bound⟩
  | freeze _ _ p | unfreeze _ _ p =>
    exact ⟨p.kept.notes.trans (List.append_nil _).symm, p.kept.modCalls.trans (List.append_nil _).symm, fun h => absurd rfl h⟩
  | quiet hq _ q =>
    obtain ⟨e1, e2, -⟩ := quiet_owes hq s
    rw [e1, e2]
    exact ⟨q.notes.trans (List.append_nil _).symm, q.modCalls.trans (List.append_nil _).symm, fun h => absurd rfl h⟩

theorem Step.inv {U : List Nat} (hn : U.Nodup) {s s' : State} {op : Op} {r : Bool} (st : Step s op s' r)
    (hi : Inv U s.base) (hU : ∀ a ∈ op.addrs, a ∈ U) :
    Inv U s'.base ∧ s'.base.supply = s.base.supply + supplyDelta op := by
  have keep : ∀ {s' : State}, s'.base.supply = s.base.supply → s'.base.bal = s.base.bal →
      Inv U s'.base ∧ s'.base.supply = s.base.supply + 0 := by
    intro s' e1 e2; exact ⟨hi.congr e1 e2, by omega⟩
  have move : ∀ {b1 : Fungible.State} {f t : Nat} {a : Int}, Inv U b1 → b1.supply = s.base.supply →
      t ∈ op.addrs → Fungible.update b1 (some f) (some t) a = .ok s'.base →
      Inv U s'.base ∧ s'.base.supply = s.base.supply + 0 := by
    intro b1 f t a hi1 e1 ht hu
    obtain ⟨i, hs⟩ := update_inv hn hi1 (by intro x e; cases e; exact hU _ ht) hu
    exact ⟨i, by rw [hs, e1]; simp⟩
  cases st with
  | transfer p | transferFrom p =>
    obtain ⟨b1, e1, e2, hu⟩ := p.update
    exact move (hi.congr e1 e2) e1 (List.Mem.tail _ (List.Mem.head _)) hu
  | mint p =>
    obtain ⟨i, hs⟩ := update_inv hn hi (by intro x e; cases e; exact hU _ (List.Mem.head _)) p.update
    exact ⟨i, by rw [hs]; simp [supplyDelta]⟩
  | burn p =>
    obtain ⟨i, hs⟩ := update_inv hn hi (by intro y e; cases e) p.update
    exact ⟨i, by rw [hs]; simp [supplyDelta]; omega⟩
  | forced p | recoverMove _ _ _ p =>
    exact move hi rfl (List.Mem.tail _ (List.Mem.head _)) p.update
  | recoverNone => exact keep rfl rfl
  | freeze _ _ p | unfreeze _ _ p => exact keep (by rw [p.kept.base]) (by rw [p.kept.base])
  | quiet hq _ q =>
    rw [(quiet_owes hq s).2.2]; exact keep q.supply q.bal

def ReplayOK (s : State) : Prop := replay s.events = s.base.bal

theorem Step.replayOK {s s' : State} {op : Op} {r : Bool} (st : Step s op s' r) (hr : ReplayOK s) : ReplayOK s' := by
  unfold ReplayOK at *
  cases st with
  | transfer p | transferFrom p =>
    obtain ⟨b1, -, e2, hu⟩ := p.update
    rw [p.replay, hr, ← e2]; exact update_replay (op := .transfer _ _ _) rfl hu
  | mint p => rw [p.replay, hr]; exact update_replay (op := .mint _ _) rfl p.update
  | burn p => rw [p.replay, hr]; exact update_replay (op := .burn _ _) rfl p.update
  | forced p | recoverMove _ _ _ p => rw [p.replay, hr]; exact update_replay (op := .transfer _ _ _) rfl p.update
  | recoverNone => exact hr
  | freeze _ _ p | unfreeze _ _ p => rw [p.kept.replay, hr, p.kept.base]
  | quiet _ _ q => rw [q.replay, hr, q.bal]

end OZ.Rwa
