import OZ.Props.C12
import OZ.Model.MulDivMon
/-
C12 — soundness of the MONITOR that decides the property on implementation traces.

`./check C12` reports a concrete violation exactly when `OZ.MulDiv.Mon.checkCore` (the driver's
monitor on parsed values) returns an alarm on the implementation's answers. C12 is a property of
pure functions: a "trace" is a list of operation lines, each answered independently, and the only
monitor state is the ghost "answer to the latest `cpow` line, with its operands".

Proved here: for EVERY finite list of operation lines — every op kind, rounding, plain / checked
variant, every operand (i128 operands anywhere in the i128 range, I256 operands arbitrary, any
exponent) — the monitor fed with the MODEL's own answers reports nothing
(`monitor_accepts_every_model_trace`). Consequences:

  * an implementation whose answers agree with the model's (the correspondence the check
    establishes by differential testing) can never raise a monitor alarm;
  * every conclusion the monitor evaluates is a THEOREM about the model in the monitor's own
    executable wording (`monitor_spec_eq_model`): the specification it compares with and the
    model agree on all inputs.

What the monitor's conclusions are, per op kind (and hence what the theorem says beyond "silent"):

  md128 plain/checked   answer = `spec128 .panic/.none rd x y d`        — by `mul_div_i128_spec`,
                                                                           `checked_mul_div_i128_spec`
  md256 plain           product fits 256 bits → exact quotient / panic  — by `mul_div_i256_spec`
  md256 checked         same, nothing demanded when the quotient does not fit
                                                                        — by `checked_mul_div_i256_spec`
  wad mul / div / ratio answer = `spec128` (truncation, scale 10^18)    — by `wad_checked_mul_exact`,
                                                                           `wad_checked_div_exact`,
                                                                           `wad_from_ratio_exact`
  wad pow               answer = (the `cpow` answer for the same operands).orPanic
                        — for the model this is the definition of `wadPow`; its meaning (pow panics
                        iff checked_pow is None, same value otherwise) is `wad_pow_iff_checked_pow`
  wad fromint / mulint / divint / add / sub / cpow
                        the monitor has NO specification for these lines (`specOf = none`): the
                        theorem covers them only in the sense that the monitor is silent whatever
                        the answer. In particular the NUMERIC VALUE of `checked_pow` (iterated
                        truncation, no closed form) is not a monitor conclusion and not proved
                        anywhere; those answers are tied to the implementation by the correspondence
                        diff only.
-/
namespace OZ.MulDiv.Mon
open OZ.MulDiv

/-- The structured observation of the model's answer to an op line. This is the same data the
model side of the driver prints (`OZ.Drv.C12.machine.op` prints `(run op).toString`, and
`parseObs` reads that line back as `⟨some (run op), true⟩` — the latter being the string-level
fact `String.toInt? (toString v) = some v`, outside this theorem). -/
def modelObs (op : Op) : Obs := ⟨some (run op), true⟩

theorem specMd256_sound {c : Bool} {rd : Rounding} {x y d : Int} {want : Res}
    (h : specMd256 c rd x y d = some want) : run (.md256 c rd x y d) = want := by
  unfold specMd256 at h
  by_cases hp : in256 (x * y)
  · rw [if_neg (not_not_intro hp)] at h
    cases c with
    | false =>
      rw [if_neg Bool.false_ne_true] at h
      exact (mul_div_i256_spec rd x y d hp).trans (Option.some.inj h)
    | true =>
      rw [if_pos rfl] at h
      refine (checked_mul_div_i256_spec rd x y d hp).trans ?_
      by_cases hd0 : d = 0
      · rw [if_pos hd0] at h ⊢; exact Option.some.inj h
      · rw [if_neg hd0] at h ⊢
        by_cases hq : in256 (exactQ rd x y d)
        · rw [if_pos hq] at h ⊢; exact Option.some.inj h
        · rw [if_neg hq] at h; cases h
  · rw [if_pos hp] at h; cases h

/-- **the monitor's specification and the model agree on all inputs**: whenever the monitor
demands an answer `want` for an op line, that is the model's answer -/
theorem monitor_spec_eq_model (op : Op) (hv : op.valid) (want : Res) (h : specOf op = some want) :
    run op = want := by
  cases op with
  | md128 c rd x y d =>
    obtain ⟨hx, hy, hd⟩ := hv
    cases c
    · exact (mul_div_i128_spec rd x y d hx hy hd).trans (Option.some.inj h)
    · exact (checked_mul_div_i128_spec rd x y d hx hy hd).trans (Option.some.inj h)
  | md256 c rd x y d => exact specMd256_sound h
  | wad f a b =>
    obtain ⟨ha, hb⟩ := hv
    cases f with
    | mul => exact (wad_checked_mul_exact a b ha hb).trans (Option.some.inj h)
    | div => exact (wad_checked_div_exact a b ha hb).trans (Option.some.inj h)
    | ratio => exact (wad_from_ratio_exact a b ha hb).trans (Option.some.inj h)
    | _ => cases h

theorem verdictSpec_quiet (op : Op) (hv : op.valid) : verdictSpec op (modelObs op) = none := by
  unfold verdictSpec
  cases h : specOf op with
  | none => rfl
  | some want =>
    have := monitor_spec_eq_model op hv want h
    simp [modelObs, Obs.is, this]

/-- the ghost describes the model: it is the model's `checked_pow` answer for its operands -/
def GhostOk (g : Option Ghost) : Prop :=
  ∀ gh, g = some gh → gh.r = wadCheckedPow gh.a gh.b.toNat

theorem verdictPow_quiet (g : Option Ghost) (hg : GhostOk g) (op : Op) :
    verdictPow g op (modelObs op) = none := by
  unfold verdictPow
  split
  · rename_i a b
    cases hgg : g with
    | none => rfl
    | some gh =>
      show verdictPowAgainst gh a b _ = none
      unfold verdictPowAgainst
      by_cases hab : gh.a = a ∧ gh.b = b
      · rw [if_pos hab]
        have hr := hg gh hgg
        obtain ⟨h1, h2⟩ := hab
        have : run (.wad .pow a b) = gh.r.orPanic := by
          rw [hr, h1, h2]; rfl
        simp [modelObs, Obs.is, this]
      · rw [if_neg hab]
  · rfl

/-- **one op line**: fed with the model's own answer, the monitor reports nothing and its ghost
keeps describing the model -/
theorem monitor_sound_step (g : Option Ghost) (hg : GhostOk g) (op : Op) (hv : op.valid) :
    (checkCore g op (modelObs op)).2 = none ∧ GhostOk (checkCore g op (modelObs op)).1 := by
  refine ⟨?_, ?_⟩
  · show firstSome (verdictSpec op (modelObs op)) (verdictPow g op (modelObs op)) = none
    rw [verdictSpec_quiet op hv, verdictPow_quiet g hg op]; rfl
  · show GhostOk (ghostStep g op (modelObs op))
    unfold ghostStep
    split
    · rename_i a b
      intro gh hgh
      have : gh = ⟨a, b, run (.wad .cpow a b)⟩ := by
        simp [modelObs] at hgh; exact hgh.symm
      rw [this]; rfl
    · exact hg

/-- the monitor run over a whole list of op lines answered by the model: first alarm, if any -/
def monitorRun : Option Ghost → List Op → Option Alarm
  | _, [] => none
  | g, op :: ops =>
    match (checkCore g op (modelObs op)).2 with
    | some a => some a
    | none => monitorRun (checkCore g op (modelObs op)).1 ops

/-- the monitor's initial state for a sequence: the driver's `minit` builds `none` from every
label (the model side has no state: `init` builds `()`) -/
def monInit : Option Ghost := none

/-- **monitor soundness**: for every finite list of op lines denoting calls — any op kinds in any
order, any rounding, plain or checked, any operands, any exponents — the monitor reports nothing
on the model's answers -/
theorem monitor_accepts_every_model_trace (ops : List Op) (hv : ∀ op ∈ ops, Op.valid op) :
    monitorRun monInit ops = none := by
  suffices ∀ g, GhostOk g → monitorRun g ops = none from
    this _ (by intro gh h; cases h)
  induction ops with
  | nil => intro g _; rfl
  | cons op ops ih =>
    intro g hg
    obtain ⟨h1, h2⟩ := monitor_sound_step g hg op (hv op (List.mem_cons_self ..))
    unfold monitorRun
    rw [h1]
    exact ih (fun o ho => hv o (List.mem_cons_of_mem _ ho)) _ h2

/-! ### comparing `pow` with the latest `cpow` answer whatever the operands (`Legacy.checkCore` of
OZ/Model/MulDivMon.lean) raises a false alarm on a model trace

Its ghost is the bare answer of the latest `cpow` line, and EVERY later `pow` line is compared
with it. On the model history `cpow(2.0, 2); pow(3.0, 2)` (both lines valid, both answered by the
model: 4.0 and 9.0) it reports `pow=ok 9·10^18 but checked_pow=ok 4·10^18`. The harness never
writes such a trace (it always writes `cpow a n` directly followed by `pow a n`), and on those
pairs the two monitors agree (`legacy_agrees_on_harness_pairs`); `checkCore` records the operands
and compares only equal ones, which is what the property states. -/

/-- `monitorRun` with `Legacy.checkCore` in the place of `checkCore` -/
def Legacy.monitorRun : Option Res → List Op → Option Alarm
  | _, [] => none
  | g, op :: ops =>
    match (Legacy.checkCore g op (modelObs op)).2 with
    | some a => some a
    | none => Legacy.monitorRun (Legacy.checkCore g op (modelObs op)).1 ops

theorem legacy_monitor_false_alarm :
    Legacy.monitorRun none [.wad .cpow (2 * WAD) 2, .wad .pow (3 * WAD) 2] = some (.pow (.ok (4 * WAD))) ∧
    Op.valid (.wad .cpow (2 * WAD) 2) ∧ Op.valid (.wad .pow (3 * WAD) 2) ∧
    run (.wad .pow (3 * WAD) 2) = .ok (9 * WAD) := by
  decide

/-- on every trace in which each `pow` line directly follows the `cpow` line with the same operands
(the shape the harness writes) `Legacy.checkCore` and `checkCore` give the same verdict for that pair -/
theorem legacy_agrees_on_harness_pairs (a b : Int) (o1 o2 : Obs) (g : Option Ghost) (g' : Option Res) :
    (checkCore (checkCore g (.wad .cpow a b) o1).1 (.wad .pow a b) o2).2 =
    (Legacy.checkCore (Legacy.checkCore g' (.wad .cpow a b) o1).1 (.wad .pow a b) o2).2 := by
  cases hr : o1.r with
  | none => simp [checkCore, Legacy.checkCore, ghostStep, Legacy.ghostStep, verdictPow, Legacy.verdictPow, hr]
  | some r =>
    simp [checkCore, Legacy.checkCore, ghostStep, Legacy.ghostStep, verdictPow, Legacy.verdictPow,
      verdictPowAgainst, hr]

/-! ### the monitor is not trivially silent -/

/-- floor of -1/2 answered with 0: alarm with the exact value -/
example : (checkCore none (.md128 false .floor (-1) 1 2) ⟨some (.ok 0), true⟩).2 = some (.spec (.ok (-1))) := by
  decide
/-- a checked variant that panics on a zero denominator -/
example : (checkCore none (.md128 true .ceil 5 7 0) ⟨some .panic, true⟩).2 = some (.spec .none) := by
  decide
/-- the right value in a non-canonical rendering is not accepted -/
example : (checkCore none (.md128 false .trunc 6 7 2) ⟨some (.ok 21), false⟩).2 = some (.spec (.ok 21)) := by
  decide
/-- Wad::checked_div(MIN, -1.0) answered with a panic -/
example : (checkCore none (.wad .div I128_MIN (-WAD)) ⟨some .panic, true⟩).2 = some (.spec .none) := by
  decide
/-- pow returning a value although checked_pow of the same operands returned None -/
example : (checkCore (some ⟨5, 3, .none⟩) (.wad .pow 5 3) ⟨some (.ok 0), true⟩).2 = some (.pow .none) := by
  decide
/-- and the hypotheses of the soundness theorem are met by ops at the edge of the range -/
example : Op.valid (.md128 true .floor I128_MIN I128_MIN I128_MAX) ∧ Op.valid (.wad .pow I128_MAX 4294967295) := by
  decide

/-- the validity hypothesis is needed: on an `md128` line whose operands are not i128 values (not a
call of the real function; no harness writes it) model and specification differ — the model's
256-bit product traps although the quotient 2^100 would fit -/
example : ¬ Op.valid (.md128 false .trunc (2 ^ 200) (2 ^ 200) (2 ^ 150 * 2 ^ 150)) ∧
    run (.md128 false .trunc (2 ^ 200) (2 ^ 200) (2 ^ 150 * 2 ^ 150)) = .panic ∧
    specOf (.md128 false .trunc (2 ^ 200) (2 ^ 200) (2 ^ 150 * 2 ^ 150)) = some (.ok (2 ^ 100)) := by
  decide

end OZ.MulDiv.Mon
