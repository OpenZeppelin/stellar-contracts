import OZ.Lemmas.RegBinderMon
/-
C20 (c) — soundness of the `binder` MONITOR that decides the property on implementation traces.

`./check C20` reports a concrete violation in a `binder` sequence exactly when
`OZ.RegBinder.Mon.checkCore` (the sub-driver's monitor on parsed values, OZ/Model/RegBinderMon.lean)
returns a message on the implementation's observations. Here it is proved that on the observations
of the MODEL the monitor never returns a message, for every label parameter `u` and every finite
history of `bind_token` / `bind_tokens` / `unbind_token` with arbitrary arguments and of state
injections `preload n` (`n ≤ 10 000`: the state `bind_tokens` leaves after binding tokens 0..n-1 to
an empty binder exists only up to the capacity) — `monitor_accepts_every_model_trace`.
Consequences: a monitor failure is never a false alarm of the monitor itself, and every conclusion
it evaluates (duplicates, repeated batch entries, absent tokens refused; the 10 000th token accepted
and the next refused, alone and in batches; batches of 200 accepted and of 201 refused; the count,
`TotalCount`, the order-independent sums, the printed list, `is_token_bound`, `get_token_index`,
`get_token_by_index` over the probes answer as the plain set; index access round trip) is a THEOREM
about the model, in the monitor's own executable wording.

`modelObs s u c ok` is the data the model driver prints for state `s` after command `c`
(`stepLine` / `showState` of OZ/Drv/C20Binder.lean): the tag, `n=` the length of `linkedTokens`,
`cnt=` `linkedTokenCount`, `sum=` / `sq=` the two sums of `linkedTokens`, `list=` `linkedTokens` in
full when it has at most 16 entries (a digest otherwise, which the monitor does not read), and
`b=` / `ix=` / `at=` the graphs of `isTokenBound` (as 1 / 0), `getTokenIndex`, `getTokenByIndex` over
the probe tokens / indices `probes u c n`.
-/
namespace OZ.RegBinder.Mon
open OZ.Reg OZ.RegMon OZ.RegBinder

/-- the observation the harness / the model driver print for a state -/
def modelObs (s : State) (u : Nat) (c : Cmd) (ok : Bool) : Obs :=
  { ok := ok,
    n := (linkedTokens s).length,
    cnt := linkedTokenCount s,
    sum := sum1 (linkedTokens s),
    sq := sumSq (linkedTokens s),
    full := if (linkedTokens s).length ≤ 16 then some (linkedTokens s) else none,
    b := (probes u c (linkedTokens s).length).1.map (fun t => (t, some (if isTokenBound s t then 1 else 0))),
    ix := (probes u c (linkedTokens s).length).1.map (fun t => (t, getTokenIndex s t)),
    atL := (probes u c (linkedTokens s).length).2.map (fun i => (i, getTokenByIndex s i)) }

/-- the model's transition for a command (a preload injects the state after binding 0..n-1) -/
def stepC (s : State) : Cmd → Except RErr State
  | .op o => step s o
  | .preload n => .ok ((List.range n).foldl push init)

def nextC (s : State) (c : Cmd) : State :=
  match stepC s c with
  | .ok s' => s'
  | .error _ => s

def accepted (s : State) (c : Cmd) : Bool :=
  match stepC s c with
  | .ok _ => true
  | .error _ => false

/-- a command the harness can issue: a preload stays within the capacity -/
def CmdOk : Cmd → Prop
  | .op _ => True
  | .preload n => n ≤ MAX_TOKENS

theorem getters_quiet {g : Mon} {s : State} {u : Nat} (ha : Agree g s u) (c : Cmd) (ok : Bool) :
    firstFail (getters g (modelObs s u c ok)) = none := by
  obtain ⟨l, hl⟩ := ha.list
  have hlt : linkedTokens s = l := rep_linkedTokens hl.rep
  have hlen : l.length = g.set.length := hl.len.symm
  apply firstFail_all_none
  intro x hx
  simp only [getters, List.mem_cons, List.not_mem_nil, or_false] at hx
  rcases hx with rfl | rfl | rfl | rfl | rfl | rfl | rfl | rfl
  · exact chk_decide (by show (linkedTokens s).length = _; rw [hlt, hlen]) _
  · exact chk_decide (by show linkedTokenCount s = _; unfold linkedTokenCount; rw [hl.rep.count, hlen]) _
  · refine chk_decide ?_ _
    show sum1 (linkedTokens s) = _ ∧ sumSq (linkedTokens s) = _
    rw [hlt]
    exact ⟨(sum1_perm hl.perm).symm, (sumSq_perm hl.perm).symm⟩
  · show (match (if (linkedTokens s).length ≤ 16 then some (linkedTokens s) else none) with
      | some l => chk (fullOk g l) _
      | none => none) = none
    split
    · rename_i l' hl'
      split at hl'
      · injection hl' with hl'; subst hl'
        refine chk_of ?_ _
        unfold fullOk
        rw [hlt]
        simp only [decide_eq_true_eq]
        exact ⟨(nodupB_iff _).2 hl.rep.nodup, (sameSet_iff _ _).2 (fun x => (hl.mem x).symm)⟩
      · cases hl'
    · rfl
  · exact chk_of (all_graph _ _ _ (fun t _ => bOk_model hl t)) _
  · refine chk_of ?_ _
    show ((probes u c (linkedTokens s).length).1.map (fun t => (t, getTokenIndex s t))).all (ixOk g (linkedTokens s).length) = true
    rw [hlt]
    exact all_graph _ _ _ (fun t _ => ixOk_model hl t)
  · refine chk_of ?_ _
    show ((probes u c (linkedTokens s).length).2.map (fun i => (i, getTokenByIndex s i))).all (atOk g (linkedTokens s).length) = true
    rw [hlt]
    exact all_graph _ _ _ (fun i _ => atOk_model hl i)
  · refine chk_of ?_ _
    refine all_graph _ _ _ (fun t _ => roundOk_model hl.rep _ _ ?_ t)
    intro l' hl'
    change (if (linkedTokens s).length ≤ 16 then some (linkedTokens s) else none) = some l' at hl'
    split at hl'
    · injection hl' with hl'; rw [← hl', hlt]
    · cases hl'

/-- **one call**: fed with the model's own observation of any command (accepted or refused op, or a
preload), the monitor reports nothing and its plain set keeps describing the model's state -/
theorem monitor_sound_step {g : Mon} {s : State} {u : Nat} (ha : Agree g s u) (c : Cmd) (hc : CmdOk c) :
    (checkCore g c (modelObs (nextC s c) u c (accepted s c))).2 = none ∧
    Agree (checkCore g c (modelObs (nextC s c) u c (accepted s c))).1 (nextC s c) u := by
  cases c with
  | preload n =>
    refine ⟨rfl, ha.u, List.range n, ?_, List.nodup_range, fun x => Iff.rfl⟩
    have hn : n ≤ MAX_TOKENS := hc
    have := rep_foldl_push rep_init (List.range n) List.nodup_range (fun t _ h => by cases h)
      (by simpa using hn)
    show Rep ((List.range n).foldl push init) (List.range n)
    simpa using this
  | op op =>
    obtain ⟨g', hd, ha'⟩ := (decides ha op).quiet ha "binder" (near g op) (acc := accepted s (.op op))
      (s1 := nextC s (.op op)) (fun s' hs => by simp [accepted, nextC, stepC, hs])
      (fun e hs => by simp [accepted, nextC, stepC, hs])
    have q := getters_quiet ha' (.op op) (accepted s (.op op))
    simp only [checkCore]
    rw [show (modelObs (nextC s (.op op)) u (.op op) (accepted s (.op op))).ok = accepted s (.op op) from rfl, hd]
    exact ⟨by rw [firstFail_none_cons]; exact q, ha'⟩

def monitorRun (u : Nat) : Mon → State → List Cmd → Option String
  | _, _, [] => none
  | g, s, c :: cs =>
    match (checkCore g c (modelObs (nextC s c) u c (accepted s c))).2 with
    | some msg => some msg
    | none => monitorRun u (checkCore g c (modelObs (nextC s c) u c (accepted s c))).1 (nextC s c) cs

/-- the monitor's initial state for a sequence (what `minit` builds from the label) -/
def monInit (u : Nat) : Mon := { set := [], u := u }

/-- **monitor soundness**: for every label parameter `u` and every finite history of
`bind_token` / `bind_tokens` / `unbind_token` — any tokens, any batches, accepted or refused — and
of preloads within the capacity, the monitor that the sub-driver's `minit` builds reports nothing
on the observations of the model that the sub-driver's `initM` builds -/
theorem monitor_accepts_every_model_trace (u : Nat) (cs : List Cmd) (hcs : ∀ c, c ∈ cs → CmdOk c) :
    monitorRun u (monInit u) init cs = none :=
  run_quiet (R := fun g s => Agree g s u) (fun _ _ => rfl) (fun _ _ _ _ h => by rw [monitorRun, h]) cs
    (fun c hc _ _ ha => monitor_sound_step ha c (hcs c hc)) _ _ ⟨rfl, [], rep_init, List.nodup_nil, fun x => Iff.rfl⟩

/-! ### non-vacuity: the monitor is not trivially silent -/

/-- an accepted duplicate, a refused fresh token, a wrong count, a token listed twice, a membership
bit, an index beyond the count and a broken index round trip are reported -/
example :
    (checkCore { set := [5], u := 1 } (.op (.bind 5)) ⟨true, 1, 1, 6, 36, some [5], [], [], []⟩).2.isSome = true ∧
    (checkCore { set := [5], u := 1 } (.op (.bind 6)) ⟨false, 1, 1, 6, 36, some [5], [], [], []⟩).2.isSome = true ∧
    (checkCore { set := [5], u := 1 } (.op (.bind 6)) ⟨true, 1, 2, 13, 85, some [5, 6], [], [], []⟩).2.isSome = true ∧
    fullOk { set := [5], u := 1 } [5, 5] = false ∧
    bOk { set := [5], u := 1 } (5, some 0) = false ∧
    ixOk { set := [5], u := 1 } 1 (5, some 1) = false ∧
    roundOk [(0, some 7)] none (5, some 0) = false := by
  refine ⟨by decide, by decide, by decide, by decide, by decide, by decide, by decide⟩

end OZ.RegBinder.Mon
