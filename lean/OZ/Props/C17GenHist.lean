import OZ.Props.C17GenDist
import OZ.Lemmas.Lists
/-
C17 — "each leaf is claimed at most once", for EVERY finite history of the distributor functions AS TRANSLATED.

Histories of the generated `set_root`, `verify_and_set_claimed`, `verify_with_index_and_set_claimed`
(lean/OZ/Gen/Distributor.lean, regenerated on every run), with arbitrary roots, leaves and proofs, a rejected
call leaving the store unchanged.  Induction over the call list.
-/
namespace OZ.Gen.Distributor
open OZ.Rs

inductive DOp where
  | setRoot (r : B32)
  | claim (leaf : Nat) (proof : List B32)
  | claimIdx (leaf : Nat) (proof : List B32)

def isMarked (st : Distributor.Store) (i : Nat) : Bool := (st.Claimed i).getD false

def stepD (envr : Distributor.Reads) (st : Distributor.Store) : DOp → Distributor.Store
  | .setRoot r => match Distributor.set_root envr st r with | .ok x => x.2 | .panic => st
  | .claim l p => match Distributor.verify_and_set_claimed envr st l p with | .ok x => x.2 | .panic => st
  | .claimIdx l p => match Distributor.verify_with_index_and_set_claimed envr st l p with | .ok x => x.2 | .panic => st

def runD (envr : Distributor.Reads) (st : Distributor.Store) (cs : List DOp) : Distributor.Store :=
  cs.foldl (stepD envr) st

/-- what an accepted positional claim does (the sorted form is `gen_claim_sound`) -/
theorem gen_claim_idx_sound (envr : Distributor.Reads) (st st' : Distributor.Store) (leaf : Nat) (proof : List B32)
    (h : Distributor.verify_with_index_and_set_claimed envr st leaf proof = .ok ((), st')) :
    ∃ root, st.Root = some root ∧ (st.Claimed (envr.leaf_index leaf)).getD false = false ∧
      Merkle.verify_with_index envr.merkle proof root (envr.leaf_hash leaf) (envr.leaf_index leaf) = .ok true ∧
      st' = Distributor.Store.set_Claimed st (envr.leaf_index leaf) true :=
  (claimWith_ok envr st st' leaf fun root h i => Merkle.verify_with_index envr.merkle proof root h i).mp h

theorem marked_set (st : Distributor.Store) (i j : Nat) :
    isMarked (Distributor.Store.set_Claimed st i true) j = (if j = i then true else isMarked st j) := by
  unfold isMarked Distributor.Store.set_Claimed
  by_cases h : j = i <;> simp [h]

theorem stepD_marks (envr : Distributor.Reads) (st : Distributor.Store) (op : DOp) :
    (∀ j, isMarked (stepD envr st op) j = isMarked st j) ∨
    ∃ l p root, st.Root = some root ∧ isMarked st (envr.leaf_index l) = false ∧
      ((op = .claim l p ∧ Merkle.verify envr.merkle p root (envr.leaf_hash l) = .ok true) ∨
       (op = .claimIdx l p ∧
         Merkle.verify_with_index envr.merkle p root (envr.leaf_hash l) (envr.leaf_index l) = .ok true)) ∧
      ∀ j, isMarked (stepD envr st op) j = if j = envr.leaf_index l then true else isMarked st j := by
  cases op with
  | setRoot r => exact Or.inl fun j => rfl
  | claim l p =>
    cases hx : Distributor.verify_and_set_claimed envr st l p with
    | panic => exact Or.inl fun j => by simp only [stepD, hx]
    | ok x =>
      obtain ⟨u, st'⟩ := x
      obtain ⟨root, hr, hu, hv, rfl⟩ := gen_claim_sound envr st _ l p hx
      exact Or.inr ⟨l, p, root, hr, hu, Or.inl ⟨rfl, hv⟩, fun j => by simp only [stepD, hx, marked_set]⟩
  | claimIdx l p =>
    cases hx : Distributor.verify_with_index_and_set_claimed envr st l p with
    | panic => exact Or.inl fun j => by simp only [stepD, hx]
    | ok x =>
      obtain ⟨u, st'⟩ := x
      obtain ⟨root, hr, hu, hv, rfl⟩ := gen_claim_idx_sound envr st _ l p hx
      exact Or.inr ⟨l, p, root, hr, hu, Or.inr ⟨rfl, hv⟩, fun j => by simp only [stepD, hx, marked_set]⟩

theorem step_keeps_mark (envr : Distributor.Reads) (st : Distributor.Store) (op : DOp) (j : Nat)
    (hj : isMarked st j = true) : isMarked (stepD envr st op) j = true := by
  rcases stepD_marks envr st op with hs | ⟨l, _, _, _, _, _, hs⟩
  · rw [hs, hj]
  · rw [hs, hj, ite_self]

/-- **claimed forever, on the source as translated**: no history of the three generated functions — accepted
or refused claims of either form, root changes — clears a mark -/
theorem gen_mark_forever (envr : Distributor.Reads) (cs : List DOp) :
    ∀ (st : Distributor.Store) (j : Nat), isMarked st j = true → isMarked (runD envr st cs) j = true :=
  fun st j => OZ.Lists.foldl_inv (fun st op => step_keeps_mark envr st op j) cs st

/-- **at most once**: after an accepted claim of `leaf`, whatever happens next, a claim of any leaf with the
same index is refused — in both forms, with any proof -/
theorem gen_claim_at_most_once (envr : Distributor.Reads) (st st1 : Distributor.Store) (leaf : Nat) (proof : List B32)
    (h1 : Distributor.verify_and_set_claimed envr st leaf proof = .ok ((), st1) ∨
          Distributor.verify_with_index_and_set_claimed envr st leaf proof = .ok ((), st1))
    (cs : List DOp) (leaf2 : Nat) (proof2 : List B32) (hidx : envr.leaf_index leaf2 = envr.leaf_index leaf) :
    ((Distributor.verify_and_set_claimed envr (runD envr st1 cs) leaf2 proof2).bind fun _ => Comp.ok ()) = .panic ∧
    ((Distributor.verify_with_index_and_set_claimed envr (runD envr st1 cs) leaf2 proof2).bind fun _ => Comp.ok ()) = .panic := by
  have hm : isMarked st1 (envr.leaf_index leaf) = true := by
    rcases h1 with h | h
    · obtain ⟨_, _, _, _, hst⟩ := gen_claim_sound envr st st1 leaf proof h
      rw [hst, marked_set]; simp
    · obtain ⟨_, _, _, _, hst⟩ := gen_claim_idx_sound envr st st1 leaf proof h
      rw [hst, marked_set]; simp
  have hm' := gen_mark_forever envr cs st1 _ hm
  exact gen_claimed_refuses envr (runD envr st1 cs) leaf2 proof2 (by rw [hidx]; exact hm')

/-- the accepted claims of a history that mark index `j` (with the verifier's acceptance recorded) -/
def claimedIn (envr : Distributor.Reads) (st : Distributor.Store) (j : Nat) : List DOp → Prop
  | [] => False
  | op :: rest =>
    (∃ l p root, envr.leaf_index l = j ∧ st.Root = some root ∧
      ((op = .claim l p ∧ Merkle.verify envr.merkle p root (envr.leaf_hash l) = .ok true) ∨
       (op = .claimIdx l p ∧ Merkle.verify_with_index envr.merkle p root (envr.leaf_hash l) j = .ok true))) ∨
    claimedIn envr (stepD envr st op) j rest

/-- **marked only after a valid proof**: an index unmarked at the start and marked after a history was marked
by an accepted claim of that history whose proof the verifier accepted against the root stored then -/
theorem gen_mark_needs_claim (envr : Distributor.Reads) (cs : List DOp) :
    ∀ (st : Distributor.Store) (j : Nat), isMarked st j = false → isMarked (runD envr st cs) j = true →
      claimedIn envr st j cs := by
  induction cs with
  | nil => intro st j h0 h1; rw [show runD envr st [] = st from rfl, h0] at h1; cases h1
  | cons op rest ih =>
    intro st j h0 h1
    rcases stepD_marks envr st op with hs | ⟨l, p, root, hr, _, hv, hs⟩
    · exact Or.inr (ih _ j ((hs j).trans h0) h1)
    · by_cases he : j = envr.leaf_index l
      · subst he
        exact Or.inl ⟨l, p, root, rfl, hr, hv⟩
      · exact Or.inr (ih _ j ((hs j).trans ((if_neg he).trans h0)) h1)

end OZ.Gen.Distributor
