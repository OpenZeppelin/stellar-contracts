import OZ.Lemmas.Vault
/-
C05 — Vault share accounting always rounds in the vault's favour.

The model (OZ/Model/Vault.lean) mirrors `impl Vault` of packages/tokens/src/vault/storage.rs as wired by
examples/fungible-vault: a share token and an asset token that are both the library's `Base`
token (OZ/Model/Fungible.lean, C01), and conversions that call the C12 mul-div model with
exactly the coded operands.

Notation in the comments: `A = total_assets` (the asset token's balance of the vault),
`S = total share supply`, `V = 10^offset`.

All statements hold for every decimals offset `≤ 10`, every ledger configuration, all `Int`
amounts (negative, zero, up to and beyond i128), all parties and all authorizing sets; the
history theorems quantify over ALL finite lists of operations (the four vault operations by
anybody for anybody, share transfers / approvals / transfer_from, asset transfers — i.e.
donations —, asset mints, approvals, burns, ledger movement; failed calls included). The
only side condition is that nobody signs for the vault contract itself (`s.vault ∉ auth`):
the contract has no `__check_auth`, so it authorizes only as the direct invoker.
`WF U s` = both tokens satisfy the C01 invariant over the duplicate-free universe `U`,
`offset ≤ 10`, and the vault has approved nobody on the asset token; it holds after the
constructor and is preserved by every operation (`rate_monotone_run`, `shares_inv_reachable`).
-/
namespace OZ.Vault
open OZ.Host

/-! ## 1. conversions are the exactly rounded rational formula -/

/-- **convert_exact (assets → shares).** For every state, amount and rounding mode
`convert_to_shares_with_rounding` is: an error for a negative amount, `0` for `0`, an overflow
error if `S + 10^offset` or `A + 1` leaves i128, and otherwise the exactly rounded quotient
`a·(S + 10^offset) / (A + 1)` when that fits in i128 — also when the intermediate product
does not (phantom overflow) — and an overflow error exactly otherwise. (Corollary of C12.) -/
theorem convert_to_shares_exact (s : State) (a : Int) (rd : Rounding) (ha : OZ.MulDiv.in128 a)
    (hoff : s.offset ≤ 10) (hA : 0 ≤ totalAssets s) :
    convertToShares s a rd =
      if a < 0 then .error .invalidAssets
      else if a = 0 then .ok 0
      else if ¬ OZ.MulDiv.in128 (totalShares s + 10 ^ s.offset) ∨ ¬ OZ.MulDiv.in128 (totalAssets s + 1) then
        .error .mathOverflow
      else roundedOrOverflow rd a (totalShares s + 10 ^ s.offset) (totalAssets s + 1) :=
  convertToShares_eq s a rd ha hoff hA

/-- **convert_exact (shares → assets)**: `x·(A + 1) / (S + 10^offset)`, same shape. -/
theorem convert_to_assets_exact (s : State) (x : Int) (rd : Rounding) (hx : OZ.MulDiv.in128 x)
    (hoff : s.offset ≤ 10) (hS : 0 ≤ totalShares s) :
    convertToAssets s x rd =
      if x < 0 then .error .invalidShares
      else if x = 0 then .ok 0
      else if ¬ OZ.MulDiv.in128 (totalAssets s + 1) ∨ ¬ OZ.MulDiv.in128 (totalShares s + 10 ^ s.offset) then
        .error .mathOverflow
      else roundedOrOverflow rd x (totalAssets s + 1) (totalShares s + 10 ^ s.offset) :=
  convertToAssets_eq s x rd hx hoff hS

/-- the rounded quotient in `roundedOrOverflow` is the mathematical floor resp. ceiling:
`d·q ≤ x·y < d·(q+1)` resp. `d·(q-1) < x·y ≤ d·q` -/
theorem rounded_is_floor_or_ceil (x y d : Int) (hd : 0 < d) :
    (d * OZ.MulDiv.exactQ .floor x y d ≤ x * y ∧ x * y < d * (OZ.MulDiv.exactQ .floor x y d + 1)) ∧
    (d * (OZ.MulDiv.exactQ .ceil x y d - 1) < x * y ∧ x * y ≤ d * OZ.MulDiv.exactQ .ceil x y d) :=
  ⟨OZ.MulDiv.floor_is_floor (x * y) d hd, OZ.MulDiv.ceil_is_ceil (x * y) d hd⟩

/-! ## 2. rounding directions of the four operations -/

/-- **deposit hands out the floor**: `shares·(A+1) ≤ assets·(S+V) < (shares+1)·(A+1)` -/
theorem deposit_rounds_down {U : List Nat} {c : Cfg} {s s' : State} (hw : WF U s) {auth : List Nat}
    {sub : Bool} {a v : Int} {r f o : Nat} (h : deposit c s auth sub a r f o = .ok (s', v)) :
    v * (totalAssets s + 1) ≤ a * (totalShares s + 10 ^ s.offset) ∧
    a * (totalShares s + 10 ^ s.offset) < (v + 1) * (totalAssets s + 1) := by
  obtain ⟨hN, -⟩ := wf_rate_pos hw
  obtain ⟨-, hv, -⟩ := convertToShares_ok (deposit_eq_ok_iff.1 h).2.2.1
  exact ⟨(le_exactQ_floor hN).1 (Int.le_of_eq hv), (exactQ_floor_lt hN).1 (by omega)⟩

/-- **mint charges the ceiling**: `shares·(A+1) ≤ assets·(S+V) < shares·(A+1) + (S+V)` -/
theorem mint_rounds_up {U : List Nat} {c : Cfg} {s s' : State} (hw : WF U s) {auth : List Nat}
    {sub : Bool} {x a : Int} {r f o : Nat} (h : mint c s auth sub x r f o = .ok (s', a)) :
    x * (totalAssets s + 1) ≤ a * (totalShares s + 10 ^ s.offset) ∧
    a * (totalShares s + 10 ^ s.offset) < x * (totalAssets s + 1) + (totalShares s + 10 ^ s.offset) := by
  obtain ⟨-, hD⟩ := wf_rate_pos hw
  obtain ⟨-, rfl, -⟩ := convertToAssets_ok (mint_eq_ok_iff.1 h).2.2.1
  exact ⟨(exactQ_ceil_le hD).1 (Int.le_refl _), exactQ_ceil_lt_add hD⟩

/-- **withdraw charges the ceiling**: `assets·(S+V) ≤ shares·(A+1) < assets·(S+V) + (A+1)` -/
theorem withdraw_rounds_up {U : List Nat} (hn : U.Nodup) {c : Cfg} {s s' : State} (hw : WF U s)
    {auth : List Nat} {a v : Int} {r ow o : Nat} (h : withdraw c s auth a r ow o = .ok (s', v)) :
    a * (totalShares s + 10 ^ s.offset) ≤ v * (totalAssets s + 1) ∧
    v * (totalAssets s + 1) < a * (totalShares s + 10 ^ s.offset) + (totalAssets s + 1) := by
  obtain ⟨hN, -⟩ := wf_rate_pos hw
  obtain ⟨-, m, -, -, hp, -⟩ := withdraw_eq_ok_iff.1 h
  obtain ⟨-, rfl, -⟩ := convertToShares_ok hp
  exact ⟨(exactQ_ceil_le hN).1 (Int.le_refl _), exactQ_ceil_lt_add hN⟩

/-- **redeem hands out the floor**: `assets·(S+V) ≤ shares·(A+1) < (assets+1)·(S+V)` -/
theorem redeem_rounds_down {U : List Nat} (hn : U.Nodup) {c : Cfg} {s s' : State} (hw : WF U s)
    {auth : List Nat} {x a : Int} {r ow o : Nat} (h : redeem c s auth x r ow o = .ok (s', a)) :
    a * (totalShares s + 10 ^ s.offset) ≤ x * (totalAssets s + 1) ∧
    x * (totalAssets s + 1) < (a + 1) * (totalShares s + 10 ^ s.offset) := by
  obtain ⟨-, hD⟩ := wf_rate_pos hw
  obtain ⟨-, hv, -⟩ := convertToAssets_ok (redeem_eq_ok_iff.1 h).2.2.1
  exact ⟨(le_exactQ_floor hD).1 (Int.le_of_eq hv), (exactQ_floor_lt hD).1 (by omega)⟩

/-! ## 3. every operation returns its preview and moves exactly the returned amounts -/

/-- **preview_eq_operation, deposit**: authorized by the operator, returns exactly
`preview_deposit(assets)` of the pre-state, moves exactly `(assets, shares)`, one event -/
theorem deposit_eq_preview {c : Cfg} {s s' : State} {auth : List Nat} {sub : Bool} {a v : Int}
    {r f o : Nat} (h : deposit c s auth sub a r f o = .ok (s', v)) :
    o ∈ auth ∧ previewDeposit s a = .ok v ∧ MovedIn s s' r f o a v ∧
    s'.events = s.events ++ [.deposit o f r a v] := by
  obtain ⟨h1, -, h3, h4, h5⟩ := apply_ok (op := .deposit sub a r f o) h
  exact ⟨h1, h3, inflow_movedIn h4, h5⟩

/-- **preview_eq_operation, mint**: returns exactly `preview_mint(shares)` and charges it -/
theorem mint_eq_preview {c : Cfg} {s s' : State} {auth : List Nat} {sub : Bool} {x a : Int}
    {r f o : Nat} (h : mint c s auth sub x r f o = .ok (s', a)) :
    o ∈ auth ∧ previewMint s x = .ok a ∧ MovedIn s s' r f o a x ∧
    s'.events = s.events ++ [.deposit o f r a x] := by
  obtain ⟨h1, -, h3, h4, h5⟩ := apply_ok (op := .mint sub x r f o) h
  exact ⟨h1, h3, inflow_movedIn h4, h5⟩

/-- **preview_eq_operation, withdraw**: within `max_withdraw(owner)`, burns exactly
`preview_withdraw(assets)` -/
theorem withdraw_eq_preview {c : Cfg} {s s' : State} {auth : List Nat} {a v : Int}
    {r ow o : Nat} (h : withdraw c s auth a r ow o = .ok (s', v)) :
    o ∈ auth ∧ (∃ m, maxWithdraw s ow = .ok m ∧ a ≤ m) ∧ previewWithdraw s a = .ok v ∧
    MovedOut s s' r ow o a v ∧ s'.events = s.events ++ [.withdraw o r ow a v] := by
  obtain ⟨h1, h2, h3, h4, h5, -⟩ := apply_ok (op := .withdraw a r ow o) h
  exact ⟨h1, h2, h3, outflow_movedOut h4, h5⟩

/-- **preview_eq_operation, redeem**: within `max_redeem(owner)` (the owner's share balance),
pays exactly `preview_redeem(shares)` -/
theorem redeem_eq_preview {c : Cfg} {s s' : State} {auth : List Nat} {x a : Int}
    {r ow o : Nat} (h : redeem c s auth x r ow o = .ok (s', a)) :
    o ∈ auth ∧ x ≤ maxRedeem s ow ∧ previewRedeem s x = .ok a ∧
    MovedOut s s' r ow o a x ∧ s'.events = s.events ++ [.withdraw o r ow a x] := by
  obtain ⟨h1, h2, h3, h4, h5, -⟩ := apply_ok (op := .redeem x r ow o) h
  exact ⟨h1, h2, h3, outflow_movedOut h4, h5⟩

/-! ## 4. the rate never decreases -/

/-- **rate_monotone (one step)**: every successful operation of any kind — deposit, mint,
withdraw, redeem by anybody for anybody, share transfers and approvals, asset transfers
(donations), mints and approvals — leaves `(total_assets + 1) / (total_shares + 10^offset)`
unchanged or higher. Nobody can sign for the vault contract itself. -/
theorem rate_monotone {U : List Nat} (hn : U.Nodup) (c : Cfg) {s s' : State} {ret : Int}
    (hw : WF U s) (auth : List Nat) (op : Op) (hU : ∀ a ∈ op.addrs, a ∈ U) (hv : s.vault ∉ auth)
    (h : apply c s auth op = .ok (s', ret)) : RateLe s s' := by
  have k := apply_ok h
  cases op with
  | deposit sub a r f o => exact inflow_rateLe hw k.1 hv k.2.2.2.1 (deposit_rounds_down hw h).1
  | mint sub x r f o => exact inflow_rateLe hw k.1 hv k.2.2.2.1 (mint_rounds_up hw h).1
  | withdraw a r ow o => exact outflow_rateLe hw k.2.2.2.1 (withdraw_rounds_up hn hw h).1
  | redeem x r ow o => exact outflow_rateLe hw k.2.2.2.1 (redeem_rounds_down hn hw h).1
  | share op =>
    obtain ⟨e1, e2, e3⟩ := apply_share_frame h
    unfold RateLe totalAssets
    rw [(apply_static h).2, e1, e2, e3]
  | asset op =>
    -- a token operation the vault neither signs nor has approved cannot lower its balance
    obtain ⟨a, ha, rfl⟩ := k
    have hb : totalAssets s ≤ totalAssets { s with ast := a } :=
      (OZ.Fungible.apply_passive ha s.vault hv hw.noVaultAllow).1
    exact Int.mul_le_mul_of_nonneg_right (Int.add_le_add_right hb 1) (Int.le_of_lt (wf_rate_pos hw).2)
  | advance n =>
    obtain rfl : s' = _ := k
    exact Int.le_refl _

/-! ## 5. histories -/

/-- a failed invocation leaves everything as it was (the host's rollback; observed on the
implementation after every failed call by the correspondence check) -/
theorem failed_no_effect (c : Cfg) (s : State) (auth : List Nat) (op : Op) (e : Err)
    (h : apply c s auth op = .error e) : step c s (auth, op) = s := by
  simp [step, h]

/-- **rate_monotone (all histories)** and **share-token invariant in every reachable state**:
after ANY finite list of operations (arbitrary amounts, parties and signers other than the
vault contract itself, failed calls included) the state is well formed — in particular
total share supply = Σ share balances, no share balance is negative, both supplies are
valid i128 — and the rate `(A+1)/(S+V)` is at least what it was at the start. -/
theorem rate_monotone_run {U : List Nat} (hn : U.Nodup) (c : Cfg) (ops : List (List Nat × Op))
    {s : State} (hw : WF U s)
    (hadm : ∀ x ∈ ops, s.vault ∉ x.1 ∧ ∀ a ∈ x.2.addrs, a ∈ U) :
    WF U (run c s ops) ∧ RateLe s (run c s ops) ∧ (run c s ops).vault = s.vault ∧
    (run c s ops).offset = s.offset := by
  refine run_keeps (fun t => WF U t ∧ RateLe s t ∧ t.vault = s.vault ∧ t.offset = s.offset) ops
    (fun x hx t t' ret ⟨w, r, v, o⟩ h => ?_) ⟨hw, rateLe_refl s, rfl, rfl⟩
  obtain ⟨hv, hU⟩ := hadm x hx
  rw [← v] at hv
  obtain ⟨e1, e2⟩ := apply_static h
  have w' := apply_wf hn c w x.1 x.2 hU hv h
  exact ⟨w', rateLe_trans hw w w' r (rate_monotone hn c w x.1 x.2 hU hv h), e1.trans v, e2.trans o⟩

/-- the same from genesis: the share token of every reachable vault satisfies the C01
invariant (supply = Σ balances, balances ≥ 0) -/
theorem shares_inv_reachable {U : List Nat} (hn : U.Nodup) (c : Cfg) (vault offset now : Nat)
    {s0 : State} (hv : vault ∈ U) (h0 : construct vault offset now = .ok s0)
    (ops : List (List Nat × Op)) (hadm : ∀ x ∈ ops, vault ∉ x.1 ∧ ∀ a ∈ x.2.addrs, a ∈ U) :
    OZ.Fungible.total U (run c s0 ops).sh.bal = (run c s0 ops).sh.supply ∧
    (∀ a, 0 ≤ (run c s0 ops).sh.bal a) ∧ WF U (run c s0 ops) := by
  have hw := construct_wf (U := U) hv h0
  have hvs : s0.vault = vault := by rw [(construct_eq_ok.1 h0).2]
  obtain ⟨w, -, -, -⟩ := rate_monotone_run hn c ops hw (by rw [hvs]; exact hadm)
  exact ⟨w.sh.sum, w.sh.nonneg, w⟩

/-- **no_extraction**: over any history, if the share supply ends at least where it started
(e.g. a coalition that entered and left with zero shares while all other holders kept their
balances), the vault holds at least the assets it held at the start: whatever the
participants took out in total is covered by what they put in (donations included on the
"in" side; they only raise the rate). With everybody else passive this is
`assets_out ≤ assets_in` for the acting coalition. -/
theorem no_extraction {U : List Nat} (hn : U.Nodup) (c : Cfg) (ops : List (List Nat × Op))
    {s : State} (hw : WF U s)
    (hadm : ∀ x ∈ ops, s.vault ∉ x.1 ∧ ∀ a ∈ x.2.addrs, a ∈ U)
    (hS : totalShares s ≤ totalShares (run c s ops)) :
    totalAssets s ≤ totalAssets (run c s ops) := by
  obtain ⟨-, r, -, o⟩ := rate_monotone_run hn c ops hw hadm
  obtain ⟨a1, t1, v1⟩ := wf_pos hw
  unfold RateLe at r
  rw [o] at r
  -- `(A+1)·(S+V) ≤ (A+1)·(S'+V) ≤ (A'+1)·(S+V)`, then cancel `S+V > 0`
  have k := Int.mul_le_mul_of_nonneg_left (Int.add_le_add_right hS (10 ^ s.offset))
    (show 0 ≤ totalAssets s + 1 by omega)
  have := Int.le_of_mul_le_mul_right (Int.le_trans k r) (show 0 < totalShares s + 10 ^ s.offset by omega)
  omega

/-! ## 6. round trips never profit -/

/-- shares issued at or below the rate and redeemed at once pay back at most what was paid
in: with `v·(A+1) ≤ a·(S+V)`, the redemption `⌊v·(A+a+1)/(S+v+V)⌋` is at most `a` -/
theorem inflow_then_redeem_no_profit {U : List Nat} {c : Cfg} {s s1 s2 : State}
    (hw : WF U s) {auth auth' : List Nat} {sub : Bool} {a v a' : Int} {r f o r' ow o' : Nat}
    (ho : o ∈ auth) (hv : s.vault ∉ auth)
    (hin : Inflow s s1 (tokenAuth s auth sub) r f o a v)
    (hb : v * (totalAssets s + 1) ≤ a * (totalShares s + 10 ^ s.offset))
    (h2 : redeem c s1 auth' v r' ow o' = .ok (s2, a')) : a' ≤ a := by
  obtain ⟨hN, hD⟩ := wf_rate_pos hw
  obtain ⟨-, rfl, -⟩ := convertToAssets_ok (redeem_eq_ok_iff.1 h2).2.2.1
  rw [inflow_assets hw ho hv hin, show totalShares s1 = totalShares s + v from hin.shSup, hin.offset]
  have hv0 := hin.v0
  exact Int.lt_add_one_iff.1 ((exactQ_floor_lt (by omega)).2 (by linarith only [hb, hD, hv0]))

/-- **redeem (deposit a) ≤ a**: redeeming the shares a deposit has just minted returns at
most the deposited assets -/
theorem deposit_then_redeem_no_profit {U : List Nat} (hn : U.Nodup) {c : Cfg} {s s1 s2 : State}
    (hw : WF U s) {auth auth' : List Nat} {sub : Bool} {a v a' : Int} {r f o r' ow o' : Nat}
    (hr : r ∈ U) (hf : f ∈ U) (ho : o ∈ U) (hv : s.vault ∉ auth)
    (h1 : deposit c s auth sub a r f o = .ok (s1, v))
    (h2 : redeem c s1 auth' v r' ow o' = .ok (s2, a')) : a' ≤ a := by
  have k := apply_ok (op := .deposit sub a r f o) h1
  exact inflow_then_redeem_no_profit hw k.1 hv k.2.2.2.1 (deposit_rounds_down hw h1).1 h2

/-- **mint s then redeem s**: the assets a mint charges are at least what redeeming the same
shares right afterwards returns -/
theorem mint_then_redeem_no_profit {U : List Nat} (hn : U.Nodup) {c : Cfg} {s s1 s2 : State}
    (hw : WF U s) {auth auth' : List Nat} {sub : Bool} {x a a' : Int} {r f o r' ow o' : Nat}
    (hr : r ∈ U) (hf : f ∈ U) (ho : o ∈ U) (hv : s.vault ∉ auth)
    (h1 : mint c s auth sub x r f o = .ok (s1, a))
    (h2 : redeem c s1 auth' x r' ow o' = .ok (s2, a')) : a' ≤ a := by
  have k := apply_ok (op := .mint sub x r f o) h1
  exact inflow_then_redeem_no_profit hw k.1 hv k.2.2.2.1 (mint_rounds_up hw h1).1 h2

/-- **withdraw a then deposit a**: depositing the withdrawn assets straight back mints at most
the shares the withdrawal burned -/
theorem withdraw_then_deposit_no_profit {U : List Nat} (hn : U.Nodup) {c : Cfg} {s s1 s2 : State}
    (hw : WF U s) {auth auth' : List Nat} {sub : Bool} {a v v' : Int} {r ow o r' f o' : Nat}
    (hr : r ∈ U) (how : ow ∈ U) (ho : o ∈ U) (hv : s.vault ∉ auth)
    (h1 : withdraw c s auth a r ow o = .ok (s1, v))
    (h2 : deposit c s1 auth' sub a r' f o' = .ok (s2, v')) : v' ≤ v := by
  obtain ⟨hN, hD⟩ := wf_rate_pos hw
  have hout := (apply_ok (op := .withdraw a r ow o) h1).2.2.2.1
  obtain ⟨b1, -⟩ := withdraw_rounds_up hn hw h1
  obtain ⟨-, rfl, -⟩ := convertToShares_ok (deposit_eq_ok_iff.1 h2).2.2.1
  have hle : a ≤ totalAssets s := hout.hasAssets
  rw [outflow_assets hout, show totalShares s1 = totalShares s - v from hout.shSup, hout.offset]
  -- `⌊a·(S-v+V)/(A'+1)⌋ ≤ v` where `A' = A - a`, or `A' = A` when the vault paid itself
  refine Int.lt_add_one_iff.1 ((exactQ_floor_lt ?_).2 ?_) <;> split
  · omega
  · omega
  · linarith only [b1, hN, Int.mul_nonneg hout.a0 hout.v0]
  · linarith only [b1, hle]

/-- in one and the same state a buyer of `x` shares pays at least what a seller of `x` shares
gets, and a withdrawer of `a` assets burns at least the shares a depositor of `a` gets -/
theorem previews_ordered {U : List Nat} {s : State} (hw : WF U s) {x p q : Int}
    (hx : OZ.MulDiv.in128 x) :
    (previewMint s x = .ok p → previewRedeem s x = .ok q → q ≤ p) ∧
    (previewWithdraw s x = .ok p → previewDeposit s x = .ok q → q ≤ p) := by
  obtain ⟨hN, hD⟩ := wf_rate_pos hw
  constructor <;> intro h1 h2
  · rw [(convertToAssets_ok h1).2.1, (convertToAssets_ok h2).2.1]
    exact exactQ_floor_le_ceil _ _ _ hD
  · rw [(convertToShares_ok h1).2.1, (convertToShares_ok h2).2.1]
    exact exactQ_floor_le_ceil _ _ _ hN

/-! ## 7. solvency and limits -/

/-- **solvent**: in every well-formed (hence every reachable) state the vault can pay all
holders at once: the sum over all holders of what `redeem(balance)` would pay,
`Σ_u ⌊bal_u·(A+1)/(S+V)⌋`, is at most `total_assets` -/
theorem solvent {U : List Nat} {s : State} (hw : WF U s) :
    OZ.Fungible.total U (fun u => OZ.MulDiv.exactQ .floor (s.sh.bal u) (totalAssets s + 1)
      (totalShares s + 10 ^ s.offset)) ≤ totalAssets s := by
  obtain ⟨hA, hS, hV⟩ := wf_pos hw
  have h := sum_floor_le U s.sh.bal (totalAssets s + 1) (totalShares s + 10 ^ s.offset) (by omega)
  rw [hw.sh.sum, show s.sh.supply = totalShares s from rfl] at h
  -- `(S+V)·Σ ≤ (A+1)·S < (A+1)·(S+V)`
  have k := Int.mul_lt_mul_of_pos_left (show totalShares s < totalShares s + 10 ^ s.offset by omega)
    (show 0 < totalAssets s + 1 by omega)
  exact Int.lt_add_one_iff.1 (Int.lt_of_mul_lt_mul_right (by linarith only [h, k])
    (show 0 ≤ totalShares s + 10 ^ s.offset by omega))

/-- **max_withdraw_within_balance**: `max_withdraw(owner)` never exceeds the vault's assets,
and withdrawing exactly that much burns at most the owner's balance (so the documented
maximum is always within reach of the owner's own shares) -/
theorem max_withdraw_within_balance {U : List Nat} (hn : U.Nodup) {s : State} (hw : WF U s)
    {ow : Nat} {m v : Int} (hm : maxWithdraw s ow = .ok m) (hp : previewWithdraw s m = .ok v) :
    m ≤ totalAssets s ∧ v ≤ s.sh.bal ow :=
  have ⟨h1, h2, _, _⟩ := withdraw_feasible hn hw hm (Int.le_refl m) hp
  ⟨h2, h1⟩

/-! ## 8. the vault's events reproduce every share balance -/

theorem apply_replay {c : Cfg} {s s' : State} {ret : Int} (auth : List Nat) (op : Op)
    (hr : replay s.events = s.sh.bal) (h : apply c s auth op = .ok (s', ret)) :
    replay s'.events = s'.sh.bal := by
  obtain ⟨evs, he, hb⟩ := apply_replayed h
  rw [he, replay_append, hr, hb]

/-- **events**: after any history from genesis, replaying the vault contract's event stream
(Deposit: shares minted to the receiver; Withdraw: shares burned from the owner; share
transfers) reproduces every share balance -/
theorem replay_events (c : Cfg) (vault offset now : Nat) {s0 : State}
    (h0 : construct vault offset now = .ok s0) (ops : List (List Nat × Op)) :
    replay (run c s0 ops).events = (run c s0 ops).sh.bal :=
  run_keeps (fun s => replay s.events = s.sh.bal) ops (fun x _ _ _ _ hs h => apply_replay x.1 x.2 hs h)
    (by rw [(construct_eq_ok.1 h0).2]; rfl)

/-! ## 9. allowances: needed by an operator who is not the owner, and spent exactly (as the `allowance`
getter reads them, expiry included) -/

/-- **an operator who is not the owner needs (and spends) share allowance; the operator always
has to authorize**: for `withdraw` and `redeem` -/
theorem operator_needs_allowance {c : Cfg} {s s' : State} {auth : List Nat} {x ret : Int}
    {r ow o : Nat} :
    (withdraw c s auth x r ow o = .ok (s', ret) →
      o ∈ auth ∧ (o ≠ ow → ret ≤ OZ.Fungible.allowance s.sh ow o)) ∧
    (redeem c s auth x r ow o = .ok (s', ret) →
      o ∈ auth ∧ (o ≠ ow → x ≤ OZ.Fungible.allowance s.sh ow o)) := by
  constructor
  · intro h; have k := apply_ok (op := .withdraw x r ow o) h; exact ⟨k.1, fun hne => (k.2.2.2.1.spent hne).1⟩
  · intro h; have k := apply_ok (op := .redeem x r ow o) h; exact ⟨k.1, fun hne => (k.2.2.2.1.spent hne).1⟩

/-- **exits**: after a successful `withdraw` / `redeem` by an operator who is not the owner,
`allowance(owner, operator)` on the share token reads exactly the burned shares less; every
other share allowance — and, when the operator IS the owner, every share allowance — and
every asset allowance reads exactly what it read before -/
theorem exit_allowance_exact {c : Cfg} {s s' : State} {auth : List Nat} {x ret : Int} {r ow o : Nat} :
    (withdraw c s auth x r ow o = .ok (s', ret) →
      (o ≠ ow → OZ.Fungible.allowance s'.sh ow o = OZ.Fungible.allowance s.sh ow o - ret) ∧
      (∀ p q, ¬ (p = ow ∧ q = o ∧ o ≠ ow) → OZ.Fungible.allowance s'.sh p q = OZ.Fungible.allowance s.sh p q) ∧
      (∀ p q, OZ.Fungible.allowance s'.ast p q = OZ.Fungible.allowance s.ast p q)) ∧
    (redeem c s auth x r ow o = .ok (s', ret) →
      (o ≠ ow → OZ.Fungible.allowance s'.sh ow o = OZ.Fungible.allowance s.sh ow o - x) ∧
      (∀ p q, ¬ (p = ow ∧ q = o ∧ o ≠ ow) → OZ.Fungible.allowance s'.sh p q = OZ.Fungible.allowance s.sh p q) ∧
      (∀ p q, OZ.Fungible.allowance s'.ast p q = OZ.Fungible.allowance s.ast p q)) := by
  constructor
  · intro h
    obtain ⟨-, m, -, -, -, s1, h4, rfl⟩ := withdraw_eq_ok_iff.1 h
    exact (withdrawInternal_allowances h4 :)
  · intro h
    obtain ⟨-, -, -, s1, h4, rfl⟩ := redeem_eq_ok_iff.1 h
    exact (withdrawInternal_allowances h4 :)

/-- **entries**: after a successful `deposit` / `mint` by an operator who is not the payer the
ASSET allowance `payer → operator` (the one `transfer_from` consumes) reads exactly the
transferred assets less; every other asset allowance and every share allowance is unchanged -/
theorem entry_allowance_exact {c : Cfg} {s s' : State} {auth : List Nat} {sub : Bool} {x ret : Int}
    {r f o : Nat} :
    (deposit c s auth sub x r f o = .ok (s', ret) →
      (o ≠ f → OZ.Fungible.allowance s'.ast f o = OZ.Fungible.allowance s.ast f o - x) ∧
      (∀ p q, ¬ (p = f ∧ q = o ∧ o ≠ f) → OZ.Fungible.allowance s'.ast p q = OZ.Fungible.allowance s.ast p q) ∧
      (∀ p q, OZ.Fungible.allowance s'.sh p q = OZ.Fungible.allowance s.sh p q)) ∧
    (mint c s auth sub x r f o = .ok (s', ret) →
      (o ≠ f → OZ.Fungible.allowance s'.ast f o = OZ.Fungible.allowance s.ast f o - ret) ∧
      (∀ p q, ¬ (p = f ∧ q = o ∧ o ≠ f) → OZ.Fungible.allowance s'.ast p q = OZ.Fungible.allowance s.ast p q) ∧
      (∀ p q, OZ.Fungible.allowance s'.sh p q = OZ.Fungible.allowance s.sh p q)) := by
  constructor
  · intro h
    obtain ⟨-, -, -, s1, h4, rfl⟩ := deposit_eq_ok_iff.1 h
    exact (depositInternal_allowances h4 :)
  · intro h
    obtain ⟨-, -, -, s1, h4, rfl⟩ := mint_eq_ok_iff.1 h
    exact (depositInternal_allowances h4 :)

/-! ## 10. the operations fail only when they must

`CanSpend c t owner spender amt` is `spend_allowance`'s exact success condition:
`0 ≤ amt ≤ allowance` and, for `amt > 0`, the stored `live_until_ledger` passes
`set_allowance`'s bound `≤ now + max_entry_ttl − 1`. `CanPull` is `deposit_internal`'s asset
leg: `0 ≤ assets ≤ balance(payer)`, and either the payer is the operator and authorized the
nested `transfer`, or the operator authorized the nested `transfer_from` and `CanSpend` on
the asset token. No storage, TTL or overflow failure exists beyond the listed conditions:
under the C01 invariant the unchecked additions cannot overflow, and the vault never lacks
the assets for an exit within `max_withdraw` / `max_redeem`. -/

/-- **deposit succeeds iff** the operator authorized it, `assets ≤ max_deposit`, the
conversion does not fail (`convert_to_shares_exact` says exactly when), the assets can be
pulled, and the share supply stays within i128 -/
theorem deposit_succeeds_iff {U : List Nat} (hn : U.Nodup) {c : Cfg} {s : State} (hw : WF U s)
    (auth : List Nat) (sub : Bool) (a : Int) (r f o : Nat) :
    (∃ s' v, deposit c s auth sub a r f o = .ok (s', v)) ↔
      o ∈ auth ∧ a ≤ I128_MAX ∧ ∃ v, previewDeposit s a = .ok v ∧
        CanPull c s (tokenAuth s auth sub) f o a ∧ s.sh.supply + v ≤ I128_MAX := by
  obtain ⟨hN, hD⟩ := wf_rate_pos hw
  simp only [deposit_eq_ok_iff]
  constructor
  · rintro ⟨s', v, h1, h2, h3, s1, h4, -⟩
    obtain ⟨k1, -, k3⟩ := (depositInternal_succeeds_iff hn hw _ r f o a v).1 ⟨s1, h4⟩
    exact ⟨h1, h2, v, h3, k1, k3⟩
  · rintro ⟨h1, h2, v, h3, k1, k3⟩
    obtain ⟨-, rfl, -⟩ := convertToShares_ok h3
    obtain ⟨s1, hs1⟩ := (depositInternal_succeeds_iff hn hw (tokenAuth s auth sub) r f o a _).2
      ⟨k1, exactQ_nonneg .floor a _ _ k1.1 (Int.le_of_lt hD) hN (by decide), k3⟩
    exact ⟨_, _, h1, h2, h3, s1, hs1, rfl⟩

/-- **mint succeeds iff** the operator authorized it, `shares ≤ max_mint`, the conversion does
not fail, the previewed assets can be pulled, and the share supply stays within i128 -/
theorem mint_succeeds_iff {U : List Nat} (hn : U.Nodup) {c : Cfg} {s : State} (hw : WF U s)
    (auth : List Nat) (sub : Bool) (x : Int) (r f o : Nat) :
    (∃ s' a, mint c s auth sub x r f o = .ok (s', a)) ↔
      o ∈ auth ∧ x ≤ I128_MAX ∧ ∃ a, previewMint s x = .ok a ∧
        CanPull c s (tokenAuth s auth sub) f o a ∧ s.sh.supply + x ≤ I128_MAX := by
  simp only [mint_eq_ok_iff]
  constructor
  · rintro ⟨s', a, h1, h2, h3, s1, h4, -⟩
    obtain ⟨k1, -, k3⟩ := (depositInternal_succeeds_iff hn hw _ r f o a x).1 ⟨s1, h4⟩
    exact ⟨h1, h2, a, h3, k1, k3⟩
  · rintro ⟨h1, h2, a, h3, k1, k3⟩
    obtain ⟨s1, hs1⟩ := (depositInternal_succeeds_iff hn hw (tokenAuth s auth sub) r f o a x).2
      ⟨k1, (convertToAssets_ok h3).1, k3⟩
    exact ⟨_, a, h1, h2, h3, s1, hs1, rfl⟩

/-- **withdraw succeeds iff** the operator authorized it, `max_withdraw(owner)` can be
computed and covers `assets`, the conversion does not fail, and — only when the operator is
not the owner — the share allowance can be spent. It never fails for lack of the owner's
shares or of the vault's assets. -/
theorem withdraw_succeeds_iff {U : List Nat} (hn : U.Nodup) {c : Cfg} {s : State} (hw : WF U s)
    (auth : List Nat) (a : Int) (r ow o : Nat) :
    (∃ s' v, withdraw c s auth a r ow o = .ok (s', v)) ↔
      o ∈ auth ∧ ∃ m, maxWithdraw s ow = .ok m ∧ a ≤ m ∧ ∃ v, previewWithdraw s a = .ok v ∧
        (o ≠ ow → CanSpend c s.sh ow o v) := by
  simp only [withdraw_eq_ok_iff]
  constructor
  · rintro ⟨s', v, h1, m, hm, hle, h3, s1, h4, -⟩
    exact ⟨h1, m, hm, hle, v, h3, ((withdrawInternal_succeeds_iff hn hw r ow o a v).1 ⟨s1, h4⟩).1⟩
  · rintro ⟨h1, m, hm, hle, v, h3, k1⟩
    obtain ⟨f1, f2, f3, f4⟩ := withdraw_feasible hn hw hm hle h3
    obtain ⟨s1, hs1⟩ := (withdrawInternal_succeeds_iff hn hw r ow o a v).2 ⟨k1, f3, f1, f4, f2⟩
    exact ⟨_, v, h1, m, hm, hle, h3, s1, hs1, rfl⟩

/-- **redeem succeeds iff** the operator authorized it, `shares ≤ max_redeem(owner)` (the
owner's balance), the conversion does not fail, and — only when the operator is not the
owner — the share allowance can be spent -/
theorem redeem_succeeds_iff {U : List Nat} (hn : U.Nodup) {c : Cfg} {s : State} (hw : WF U s)
    (auth : List Nat) (x : Int) (r ow o : Nat) :
    (∃ s' a, redeem c s auth x r ow o = .ok (s', a)) ↔
      o ∈ auth ∧ x ≤ s.sh.bal ow ∧ ∃ a, previewRedeem s x = .ok a ∧
        (o ≠ ow → CanSpend c s.sh ow o x) := by
  simp only [redeem_eq_ok_iff]
  constructor
  · rintro ⟨s', a, h1, h2, h3, s1, h4, -⟩
    exact ⟨h1, h2, a, h3, ((withdrawInternal_succeeds_iff hn hw r ow o a x).1 ⟨s1, h4⟩).1⟩
  · rintro ⟨h1, h2, a, h3, k1⟩
    obtain ⟨f1, f2, f3⟩ := redeem_feasible hn hw h2 h3
    obtain ⟨s1, hs1⟩ := (withdrawInternal_succeeds_iff hn hw r ow o a x).2 ⟨k1, f3, h2, f2, f1⟩
    exact ⟨_, a, h1, h2, h3, s1, hs1, rfl⟩

/-! ## 11. every holder's claim only grows through other people's operations -/

/-- **per-user solvency over histories**: over any history in which `u`'s share balance does
not end lower than it started, what `u` could redeem, `⌊bal_u·(A+1)/(S+V)⌋`, does not end
lower either (corollary of `rate_monotone_run`) -/
theorem claim_monotone_run {U : List Nat} (hn : U.Nodup) (c : Cfg) (ops : List (List Nat × Op))
    {s : State} (hw : WF U s)
    (hadm : ∀ x ∈ ops, s.vault ∉ x.1 ∧ ∀ a ∈ x.2.addrs, a ∈ U) (u : Nat)
    (hb : s.sh.bal u ≤ (run c s ops).sh.bal u) :
    OZ.MulDiv.exactQ .floor (s.sh.bal u) (totalAssets s + 1) (totalShares s + 10 ^ s.offset) ≤
    OZ.MulDiv.exactQ .floor ((run c s ops).sh.bal u) (totalAssets (run c s ops) + 1)
      (totalShares (run c s ops) + 10 ^ (run c s ops).offset) := by
  obtain ⟨w, r, -, -⟩ := rate_monotone_run hn c ops hw hadm
  obtain ⟨a1, t1, v1⟩ := wf_pos hw
  obtain ⟨a2, t2, v2⟩ := wf_pos w
  exact floor_claim_mono _ _ _ _ _ _ (hw.sh.nonneg u) hb (by omega) (by omega) (by omega) r

/-- a user who signs nothing and has approved nobody on the share token keeps (at least) his
shares through any history, and still has approved nobody -/
theorem passive_user_keeps_shares (c : Cfg) (ops : List (List Nat × Op)) {s : State} (u : Nat)
    (hu : ∀ x ∈ ops, u ∉ x.1) (hnone : ∀ sp, s.sh.allow u sp = none) :
    s.sh.bal u ≤ (run c s ops).sh.bal u ∧ ∀ sp, (run c s ops).sh.allow u sp = none :=
  run_keeps (fun t => s.sh.bal u ≤ t.sh.bal u ∧ ∀ sp, t.sh.allow u sp = none) ops
    (fun x hx _ _ _ ⟨b, n⟩ h => let ⟨b', n'⟩ := apply_passive x.1 x.2 u (hu x hx) n h; ⟨Int.le_trans b b', n'⟩)
    ⟨Int.le_refl _, hnone⟩

/-- **through other users' operations a holder's redeemable assets never decrease**: for a
user who signs nothing and has approved nobody, over every history -/
theorem passive_claim_never_decreases {U : List Nat} (hn : U.Nodup) (c : Cfg)
    (ops : List (List Nat × Op)) {s : State} (hw : WF U s)
    (hadm : ∀ x ∈ ops, s.vault ∉ x.1 ∧ ∀ a ∈ x.2.addrs, a ∈ U) (u : Nat)
    (hu : ∀ x ∈ ops, u ∉ x.1) (hnone : ∀ sp, s.sh.allow u sp = none) :
    OZ.MulDiv.exactQ .floor (s.sh.bal u) (totalAssets s + 1) (totalShares s + 10 ^ s.offset) ≤
    OZ.MulDiv.exactQ .floor ((run c s ops).sh.bal u) (totalAssets (run c s ops) + 1)
      (totalShares (run c s ops) + 10 ^ (run c s ops).offset) :=
  claim_monotone_run hn c ops hw hadm u (passive_user_keeps_shares c ops u hu hnone).1

/-! ## a concrete history on an offset-0 vault with a donation in between — the classic inflation
attack — meets every hypothesis above -/

def demoOps : List (List Nat × Op) :=
  [([], .asset (.mint 0 2000000000000000007)), ([], .asset (.mint 1 1000000000000000001)),
   ([0], .deposit true 1 0 0 0),
   ([0], .asset (.transfer 0 4 1000000000000000000)),             -- donation
   ([1], .deposit true 1000000000000000001 1 1 1),                 -- victim gets floor(..) = 1 share
   ([0], .share (.approve 0 2 1 500)),
   ([2], .redeem 1 3 0 2),                                         -- operator 2 ≠ owner 0
   ([1], .withdraw 666666666666666668 1 1 1),
   ([1], .redeem 1 1 1 1)]                                          -- fails: nothing left

def demoStart : State :=
  { sh := OZ.Fungible.init 100, ast := OZ.Fungible.init 100, vault := 4, offset := 0, events := [] }

example : construct 4 0 100 = .ok demoStart := rfl

example :
    totalAssets (run ⟨1, 1000⟩ demoStart demoOps) = 666666666666666667 ∧
    totalShares (run ⟨1, 1000⟩ demoStart demoOps) = 0 ∧
    (run ⟨1, 1000⟩ demoStart demoOps).ast.bal 3 = 666666666666666667 ∧
    (run ⟨1, 1000⟩ demoStart demoOps).ast.bal 1 = 666666666666666668 ∧
    OZ.Fungible.allowance (run ⟨1, 1000⟩ demoStart demoOps).sh 0 2 = 0 := by decide

example : ∀ x ∈ demoOps, (4 : Nat) ∉ x.1 ∧ ∀ a ∈ x.2.addrs, a ∈ [0, 1, 2, 3, 4] := by decide

/-- the demo history satisfies the hypotheses of the history theorems: the final state is well
formed and the rate did not fall -/
example : WF [0, 1, 2, 3, 4] (run ⟨1, 1000⟩ demoStart demoOps) ∧
    RateLe demoStart (run ⟨1, 1000⟩ demoStart demoOps) := by
  have h := rate_monotone_run (U := [0, 1, 2, 3, 4]) (by decide) ⟨1, 1000⟩ demoOps
    (construct_wf (U := [0, 1, 2, 3, 4]) (by decide) (rfl : construct 4 0 100 = .ok demoStart))
    (by decide)
  exact ⟨h.1, h.2.1⟩

/-- the rate strictly rose over the demo history (rounding and the donation stay in the vault) -/
example : (totalAssets demoStart + 1) * (totalShares (run ⟨1, 1000⟩ demoStart demoOps) + 1) <
    (totalAssets (run ⟨1, 1000⟩ demoStart demoOps) + 1) * (totalShares demoStart + 1) := by decide

def phantomState : State :=
  { sh := { OZ.Fungible.init 100 with supply := 100000000000000000003 },
    ast := { OZ.Fungible.init 100 with bal := fun a => if a = 4 then 10000000000000000000006 else 0 },
    vault := 4, offset := 10, events := [] }

/-- phantom overflow: `(10^30+7) · (S + 10^10)` leaves i128, the quotient fits and is exact;
a quotient that does not fit is an error -/
example :
    previewDeposit phantomState 1000000000000000000000000000007 = .ok 10000000001000000000293000000 ∧
    previewWithdraw phantomState 1000000000000000000000000000007 = .ok 10000000001000000000293000001 ∧
    previewMint phantomState 10000000000000000000000000000000000000 = .error .fixedPoint := by decide

/-! ### the state of the demo history after the approval `0 → 2` of one share: operator 2 redeems
owner 0's share (allowance 1 → 0), operator 1 cannot; the passive victim 1's claim rises from
666666666666666667 to 666666666666666668 -/

def demoMid : State := run ⟨1, 1000⟩ demoStart (demoOps.take 6)

example : OZ.Fungible.allowance demoMid.sh 0 2 = 1 ∧ demoMid.sh.bal 0 = 1 ∧ demoMid.sh.bal 1 = 1 := by
  decide

example :
    okAnd (redeem ⟨1, 1000⟩ demoMid [2] 1 3 0 2) (fun s' a =>
      decide (OZ.Fungible.allowance s'.sh 0 2 = 0 ∧ a = 666666666666666667 ∧
        OZ.MulDiv.exactQ .floor (s'.sh.bal 1) (totalAssets s' + 1) (totalShares s' + 1) =
          666666666666666668)) = true ∧
    OZ.MulDiv.exactQ .floor (demoMid.sh.bal 1) (totalAssets demoMid + 1) (totalShares demoMid + 1) =
      666666666666666667 := by decide

/-- the same call by operator 1, who holds no allowance from owner 0, a redeem of more than
the balance, and a call the operator did not sign are rejected for exactly the reasons the
iff theorems name -/
example :
    errIs (redeem ⟨1, 1000⟩ demoMid [1] 1 3 0 1) (.share .insufficientAllowance) = true ∧
    errIs (redeem ⟨1, 1000⟩ demoMid [0] 2 3 0 0) .exceededMaxRedeem = true ∧
    errIs (redeem ⟨1, 1000⟩ demoMid [1] 1 3 0 0) .auth = true := by decide

example : CanSpend ⟨1, 1000⟩ demoMid.sh 0 2 1 ∧ ¬ CanSpend ⟨1, 1000⟩ demoMid.sh 0 1 1 := by
  unfold CanSpend; decide

end OZ.Vault
