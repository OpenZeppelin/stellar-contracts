import OZ.Lemmas.RegDocs
/-
C20 (e): the document manager (`Index(name) -> u32`, `Bucket(i) -> Vec<(name, Document)>` in
buckets of 50, `Count`, swap-and-pop with re-pointing of the moved entry's index) represents the
plain finite map  name ↦ getDocument s name  under ANY history of `set_document` /
`remove_document` (arbitrary arguments, failed calls rolled back), and index access enumerates
its entries exactly once.
-/
namespace OZ.Props.C20e
open OZ.Reg OZ.RegDocs

/-- **docs_refines.** After any history the storage is a flat entry list `l` with pairwise
different names (a finite map with an enumeration) and every getter answers from it. -/
theorem docs_refines (ops : List Op) :
    let s := run init ops
    ∃ l : List Entry, (l.map (·.1)).Nodup ∧ getDocumentCount s = l.length ∧ l.length ≤ MAX_DOCUMENTS ∧
      (∀ i, getDocumentByIndex s i = l[i]?) ∧
      (∀ n d, getDocument s n = some d ↔ (n, d) ∈ l) ∧
      (∀ n, getDocument s n = none ↔ n ∉ l.map (·.1)) ∧
      (∀ b, getDocuments s b = chunk BUCKET_SIZE l b) ∧
      entries s = l := by
  intro s
  obtain ⟨l, h⟩ : Inv s := inv_run inv_init ops
  exact ⟨l, h.names, h.count, h.le, rep_byIndex h, rep_getDocument h, rep_getDocument_none h,
    fun b => by unfold getDocuments; rw [h.buckets], rep_entries h⟩

/-- **docs_abs_step.** The represented map moves exactly as a plain map does: an accepted
`set_document` binds its name to the new document and touches nothing else, an accepted
`remove_document` unbinds its name and touches nothing else, a refused call changes nothing. -/
theorem docs_abs_step (s : State) (hs : Reachable s) :
    (∀ n u hsh ts s', setDocument s n u hsh ts = .ok s' →
      ∀ x d, getDocument s' x = some d ↔ ((x ≠ n ∧ getDocument s x = some d) ∨ (x = n ∧ d = ⟨u, hsh, ts⟩))) ∧
    (∀ n s', removeDocument s n = .ok s' →
      ∀ x d, getDocument s' x = some d ↔ (x ≠ n ∧ getDocument s x = some d)) ∧
    (∀ o e, step s o = .error e → next s o = s) := by
  obtain ⟨l, h⟩ := reachable_inv hs
  refine ⟨?_, ?_, ?_⟩
  · intro n u hsh ts s' hok x d
    obtain ⟨_, l', hr, hmem, _⟩ := setDocument_ok h hok
    rw [rep_getDocument hr, rep_getDocument h, hmem]
  · intro n s' hok x d
    obtain ⟨_, l', hr, hmem⟩ := removeDocument_ok h hok
    rw [rep_getDocument hr, rep_getDocument h, hmem]
  · intro o e he
    simp [next, he]

/-- **docs_absent_refused.** A name without a document cannot be removed. -/
theorem docs_absent_refused (s : State) (hs : Reachable s) (n : Nat) (hn : getDocument s n = none) :
    ∃ e, removeDocument s n = .error e := by
  obtain ⟨l, h⟩ := reachable_inv hs
  refine err_of_not_ok fun s' hok => ?_
  exact (rep_getDocument_none h n).1 hn (removeDocument_ok h hok).1

/-- **docs_limit_exact.** In a reachable state `set_document` with a URI of at most
`MAX_URI_LEN = 200` is accepted for a NEW name exactly while fewer than `MAX_DOCUMENTS = 5000`
documents are stored (the 5000th accepted, the 5001st refused) and always for an EXISTING name
(which keeps the count); a URI of 201 is refused. -/
theorem docs_limit_exact (s : State) (hs : Reachable s) (n u hsh ts : Nat) :
    (u ≤ 200 → getDocument s n = none →
      ((∃ s', setDocument s n u hsh ts = .ok s') ↔ getDocumentCount s < 5000)) ∧
    (u ≤ 200 → getDocument s n ≠ none →
      ∃ s', setDocument s n u hsh ts = .ok s' ∧ getDocumentCount s' = getDocumentCount s) ∧
    (u ≤ 200 → getDocument s n = none → getDocumentCount s < 5000 →
      ∃ s', setDocument s n u hsh ts = .ok s' ∧ getDocumentCount s' = getDocumentCount s + 1) ∧
    (u > 200 → ∃ e, setDocument s n u hsh ts = .error e) := by
  obtain ⟨l, h⟩ := reachable_inv hs
  have hc : getDocumentCount s = l.length := h.count
  have count' : ∀ {s'}, setDocument s n u hsh ts = .ok s' →
      getDocumentCount s' = if n ∈ l.map (·.1) then l.length else l.length + 1 := by
    intro s' hok
    obtain ⟨_, l', hr, _, hlen⟩ := setDocument_ok h hok
    exact hr.count.trans hlen
  refine ⟨?_, ?_, ?_, ?_⟩
  · intro hu hn
    have hnm := (rep_getDocument_none h n).1 hn
    rw [hc]
    exact ⟨fun ⟨s', hok⟩ => (setDocument_ok h hok).1.2.resolve_left hnm,
      fun hl => setDocument_accepts h hsh ts hu (Or.inr hl)⟩
  · intro hu hn
    have hm : n ∈ l.map (·.1) := Classical.byContradiction (fun hnm => hn ((rep_getDocument_none h n).2 hnm))
    obtain ⟨s', hs'⟩ := setDocument_accepts h hsh ts hu (Or.inl hm)
    exact ⟨s', hs', by rw [count' hs', if_pos hm, hc]⟩
  · intro hu hn hl
    have hnm := (rep_getDocument_none h n).1 hn
    obtain ⟨s', hs'⟩ := setDocument_accepts h hsh ts hu (Or.inr (hc ▸ hl))
    exact ⟨s', hs', by rw [count' hs', if_neg hnm, hc]⟩
  · intro hu
    exact err_of_not_ok fun s' hok => absurd (setDocument_ok h hok).1.1 (Nat.not_le.2 hu)

/-- **docs_enumerates_once.** In a reachable state `get_document_by_index` is a bijection between
`0 .. count-1` and the stored names (with their documents), and the `Index` entry of a name is
its position. -/
theorem docs_enumerates_once (s : State) (hs : Reachable s) :
    (∀ i, (getDocumentByIndex s i).isSome = true ↔ i < getDocumentCount s) ∧
    (∀ i n d, getDocumentByIndex s i = some (n, d) → getDocument s n = some d) ∧
    (∀ i j n d1 d2, getDocumentByIndex s i = some (n, d1) → getDocumentByIndex s j = some (n, d2) → i = j) ∧
    (∀ n d, getDocument s n = some d → ∃ i, i < getDocumentCount s ∧ getDocumentByIndex s i = some (n, d)) ∧
    (∀ n i, s.index n = some i ↔ ∃ d, getDocumentByIndex s i = some (n, d)) := by
  obtain ⟨l, h⟩ := reachable_inv hs
  have hc : getDocumentCount s = l.length := h.count
  refine ⟨?_, ?_, ?_, ?_, ?_⟩
  · intro i
    rw [rep_byIndex h, hc, isSome_getElem?]
  · intro i n d hi
    rw [rep_byIndex h] at hi
    exact (rep_getDocument h n d).2 (List.mem_iff_getElem?.2 ⟨i, hi⟩)
  · intro i j n d1 d2 hi hj
    rw [rep_byIndex h] at hi hj
    exact name_index_unique h.names hi hj
  · intro n d hg
    obtain ⟨i, hi⟩ := List.mem_iff_getElem?.1 ((rep_getDocument h n d).1 hg)
    refine ⟨i, ?_, by rw [rep_byIndex h]; exact hi⟩
    rw [hc]; rw [List.getElem?_eq_some_iff] at hi; exact hi.1
  · intro n i
    rw [h.index]
    constructor
    · rintro ⟨d, hd⟩; exact ⟨d, by rw [rep_byIndex h]; exact hd⟩
    · rintro ⟨d, hd⟩; exact ⟨d, by rw [rep_byIndex h] at hd; exact hd⟩

/-! ### non-vacuity: 51 documents, removal of the first one moves the last across the bucket
boundary and re-points its index -/

example :
    let s := run init ((List.range 51).map (fun i => Op.set i 1 i 7) ++ [Op.remove 0])
    getDocumentCount s = 50 ∧ (getDocumentByIndex s 0).map (·.1) = some 50 ∧ s.index 50 = some 0 ∧
    s.index 0 = none ∧ getDocuments s 1 = [] ∧ (getDocument s 50).map (·.hash) = some 50 := by decide +kernel

end OZ.Props.C20e
