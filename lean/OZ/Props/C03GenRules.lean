import OZ.Gen.Rules
/-
C03 — the candidate list of rule selection, re-checked on every run against what the SOURCE says now.

`lean/OZ/Gen/Rules.lean` is regenerated by `/verif/tools/rs2lean.py --context-rules` (state-passing mode) from /repo's
current `packages/accounts/src/smart_account/storage.rs`: `get_context_rule`, `get_context_rules` and `get_valid_context_rules` — the private
generic helper `get_persistent_entry` read as the storage access it wraps, the local closure `get_rules` expanded at
its two calls, its loop with `continue` and `push_front`, the final `append`. `ContextRuleType` is an opaque identifier
(`Default` = 0). This closes the hole DECLARED in OZ/Props/C03Gen.lean: there the candidate list is a function of the
reads record; here it is shown what that function is.

"Rules are tried newest-first, type-specific before Default, expired ones never" is read off
`get_valid_context_rules_closed` (when the lookup traps, and what it yields).
-/
namespace OZ.Gen.Rules
open OZ.Rs

def ruleOf (st : Rules.Store) (id : Nat) : Option Rules.ContextRule :=
  (st.Meta id).map fun m =>
    { id := id, context_type := m.context_type, name := m.name, signers := (st.Signers id).getD [],
      policies := (st.Policies id).getD [], valid_until := m.valid_until }

def live (now : Nat) (r : Rules.ContextRule) : Bool :=
  match r.valid_until with
  | some v => !decide (v < now)
  | none => true

theorem get_context_rule_eq (envr : Rules.Reads) (st : Rules.Store) (id : Nat) :
    Rules.get_context_rule envr st id = match ruleOf st id with | some r => .ok r | none => .panic := by
  unfold Rules.get_context_rule ruleOf
  cases st.Meta id <;> rfl

/-- the closure `get_rules`: the rules of the ids in order, expired ones skipped, each pushed to the FRONT -/
def collect (st : Rules.Store) (now : Nat) : List Nat → List Rules.ContextRule → Option (List Rules.ContextRule)
  | [], acc => some acc
  | id :: rest, acc =>
    match ruleOf st id with
    | none => none
    | some r => if live now r then collect st now rest (r :: acc) else collect st now rest acc

def ofOpt {α : Type} : Option α → Comp α
  | some a => .ok a
  | none => .panic

/-- a function that unfolds like the translated loop of the closure `get_rules` (fetch the rule, skip
it if expired, otherwise push it to the front) computes `collect`; both expansions of the closure
in `get_valid_context_rules` are of this form -/
theorem loop_eq_collect (envr : Rules.Reads) (st : Rules.Store)
    (F : List Nat → List Rules.ContextRule → Comp (List Rules.ContextRule))
    (hnil : ∀ acc, F [] acc = .ok acc)
    (hcons : ∀ id rest acc, F (id :: rest) acc =
      Comp.bind (Rules.get_context_rule envr st id) fun t =>
        optCase t.valid_until
          (fun seq => if seq < envr.ledger_sequence then F rest acc else F rest (t :: acc))
          (F rest (t :: acc))) :
    ∀ (xs : List Nat) (acc : List Rules.ContextRule), F xs acc = ofOpt (collect st envr.ledger_sequence xs acc) := by
  intro xs
  induction xs with
  | nil => intro acc; exact hnil acc
  | cons id rest ih =>
    intro acc
    rw [hcons, get_context_rule_eq]
    unfold collect
    cases hr : ruleOf st id with
    | none => rfl
    | some r =>
      simp only [Comp.bind_ok]
      cases hv : r.valid_until with
      | none =>
        have hl : live envr.ledger_sequence r = true := by simp [live, hv]
        simp only [optCase_none, hl, ↓reduceIte]; exact ih _
      | some v =>
        simp only [optCase_some]
        by_cases hlt : v < envr.ledger_sequence
        · have hl : live envr.ledger_sequence r = false := by simp [live, hv, hlt]
          simp only [hlt, ↓reduceIte, hl, Bool.false_eq_true]; exact ih _
        · have hl : live envr.ledger_sequence r = true := by simp [live, hv, hlt]
          simp only [hlt, ↓reduceIte, hl]; exact ih _

theorem loop1_eq (envr : Rules.Reads) (st : Rules.Store) (a : Nat) (b c d : List Nat) :
    ∀ (xs : List Nat) (acc : List Rules.ContextRule),
      Rules.get_valid_context_rules.loop1 envr xs st acc a b c d = ofOpt (collect st envr.ledger_sequence xs acc) :=
  loop_eq_collect envr st (fun xs acc => Rules.get_valid_context_rules.loop1 envr xs st acc a b c d)
    (fun _ => rfl) (fun _ _ _ => rfl)

theorem loop2_eq (envr : Rules.Reads) (st : Rules.Store) (a : Nat) (b : List Nat) (f : List Rules.ContextRule) (c d : List Nat) :
    ∀ (xs : List Nat) (acc : List Rules.ContextRule),
      Rules.get_valid_context_rules.loop2 envr xs st acc a b f c d = ofOpt (collect st envr.ledger_sequence xs acc) :=
  loop_eq_collect envr st (fun xs acc => Rules.get_valid_context_rules.loop2 envr xs st acc a b f c d)
    (fun _ => rfl) (fun _ _ _ => rfl)

/-- the ids listed for a rule type, in the order they were added -/
def idsOf (st : Rules.Store) (k : Nat) : List Nat := (st.Ids k).getD []

/-- **generated `get_valid_context_rules`**: the closure run on the ids of the context's type, then on the Default ids -/
theorem get_valid_context_rules_eq (envr : Rules.Reads) (st : Rules.Store) (key : Nat) :
    Rules.get_valid_context_rules envr st key =
      match collect st envr.ledger_sequence (idsOf st key) [], collect st envr.ledger_sequence (idsOf st 0) [] with
      | some a, some b => .ok (a ++ b)
      | _, _ => .panic := by
  unfold Rules.get_valid_context_rules
  rw [loop1_eq]
  show Comp.bind (ofOpt (collect st envr.ledger_sequence (idsOf st key) [])) _ = _
  cases h1 : collect st envr.ledger_sequence (idsOf st key) [] with
  | none => rfl
  | some a =>
    simp only [ofOpt, Comp.bind_ok]
    rw [loop2_eq]
    show Comp.bind (ofOpt (collect st envr.ledger_sequence (idsOf st 0) [])) _ = _
    cases h2 : collect st envr.ledger_sequence (idsOf st 0) [] with
    | none => rfl
    | some b => rfl

theorem collect_eq (st : Rules.Store) (now : Nat) :
    ∀ (xs : List Nat) (acc : List Rules.ContextRule),
      collect st now xs acc =
        if xs.all (fun id => (ruleOf st id).isSome) then
          some (((xs.filterMap (ruleOf st)).filter (live now)).reverse ++ acc)
        else none := by
  intro xs
  induction xs with
  | nil => intro acc; rfl
  | cons id rest ih =>
    intro acc
    unfold collect
    cases hr : ruleOf st id with
    | none => simp [hr]
    | some r =>
      simp only [List.all_cons, hr, Option.isSome_some, Bool.true_and, List.filterMap_cons_some hr]
      by_cases hl : live now r = true
      · rw [if_pos hl, ih, List.filter_cons_of_pos hl]; simp
      · rw [if_neg hl, ih, List.filter_cons_of_neg hl]

theorem ruleOf_id {st : Rules.Store} {id : Nat} {r : Rules.ContextRule} (h : ruleOf st id = some r) : r.id = id := by
  unfold ruleOf at h
  cases hm : st.Meta id with
  | none => rw [hm] at h; cases h
  | some m => rw [hm] at h; cases h; rfl

/-- the unexpired stored rules among the ids listed for `k`, latest added first -/
def cands (st : Rules.Store) (now k : Nat) : List Rules.ContextRule :=
  (((idsOf st k).filterMap (ruleOf st)).filter (live now)).reverse

/-- **generated `get_valid_context_rules`, completely**: it traps iff an id listed for the context's type or for
Default has no `Meta` entry, and otherwise yields the candidates of the type followed by those of Default -/
theorem get_valid_context_rules_closed (envr : Rules.Reads) (st : Rules.Store) (key : Nat) :
    Rules.get_valid_context_rules envr st key =
      if (idsOf st key ++ idsOf st 0).all (fun id => (ruleOf st id).isSome) then
        .ok (cands st envr.ledger_sequence key ++ cands st envr.ledger_sequence 0)
      else .panic := by
  rw [get_valid_context_rules_eq, collect_eq, collect_eq, List.all_append]
  cases (idsOf st key).all (fun id => (ruleOf st id).isSome) <;>
    cases (idsOf st 0).all (fun id => (ruleOf st id).isSome) <;> simp [cands]

/-- **C03, rule precedence, on the generated code**: the candidates of a context are the unexpired rules of its own
type, latest added first, followed by the unexpired Default rules, latest added first -/
theorem gen_candidates_order (envr : Rules.Reads) (st : Rules.Store) (key : Nat) (f : Nat → Rules.ContextRule)
    (h : ∀ id ∈ idsOf st key ++ idsOf st 0, ruleOf st id = some (f id)) :
    Rules.get_valid_context_rules envr st key =
      .ok ((((idsOf st key).map f).filter (live envr.ledger_sequence)).reverse ++
           (((idsOf st 0).map f).filter (live envr.ledger_sequence)).reverse) := by
  have e : ∀ xs : List Nat, (∀ id ∈ xs, id ∈ idsOf st key ++ idsOf st 0) → xs.filterMap (ruleOf st) = xs.map f := by
    intro xs hx
    induction xs with
    | nil => rfl
    | cons a t ih =>
      rw [List.filterMap_cons_some (h a (hx a List.mem_cons_self)), ih fun i hi => hx i (List.mem_cons_of_mem _ hi),
        List.map_cons]
  rw [get_valid_context_rules_closed, if_pos (List.all_eq_true.mpr fun id hi => by rw [h id hi]; rfl), cands, cands,
    e _ fun _ hi => List.mem_append_left _ hi, e _ fun _ hi => List.mem_append_right _ hi]

/-- a listed id without its `Meta` entry traps the lookup -/
theorem gen_candidates_missing_meta (envr : Rules.Reads) (st : Rules.Store) (key id : Nat)
    (hm : id ∈ idsOf st key ++ idsOf st 0) (hn : st.Meta id = none) :
    Rules.get_valid_context_rules envr st key = .panic := by
  rw [get_valid_context_rules_closed, if_neg]
  intro h
  have := List.all_eq_true.mp h id hm
  simp [ruleOf, hn] at this

/-- **an expired rule is never a candidate; a candidate is a stored rule listed for the context's type or Default** -/
theorem gen_candidate_is_listed (envr : Rules.Reads) (st : Rules.Store) (key : Nat) (out : List Rules.ContextRule)
    (h : Rules.get_valid_context_rules envr st key = .ok out) :
    ∀ r ∈ out, live envr.ledger_sequence r = true ∧ r.id ∈ idsOf st key ++ idsOf st 0 ∧ ruleOf st r.id = some r := by
  rw [get_valid_context_rules_closed] at h
  split at h
  · cases h
    intro r hr
    have key : ∀ k, r ∈ cands st envr.ledger_sequence k →
        live envr.ledger_sequence r = true ∧ r.id ∈ idsOf st k ∧ ruleOf st r.id = some r := by
      intro k hk
      obtain ⟨h2, hl⟩ := List.mem_filter.mp (List.mem_reverse.mp hk)
      obtain ⟨id, hid, hro⟩ := List.mem_filterMap.mp h2
      obtain rfl := ruleOf_id hro
      exact ⟨hl, hid, hro⟩
    rcases List.mem_append.mp hr with m | m
    · exact (key _ m).imp_right (.imp_left (List.mem_append_left _))
    · exact (key _ m).imp_right (.imp_left (List.mem_append_right _))
  · cases h

/-! ### `get_context_rules` (the enumeration by type) -/

/-- the rules of the listed ids, in order; `none` when one has no `Meta` entry -/
def allRules (st : Rules.Store) : List Nat → Option (List Rules.ContextRule)
  | [] => some []
  | id :: rest =>
    match ruleOf st id with
    | none => none
    | some r => (allRules st rest).map (r :: ·)

theorem rules_loop_eq (envr : Rules.Reads) (st : Rules.Store) (k : Nat) (ids : List Nat) :
    ∀ (xs : List Nat), Rules.get_context_rules.loop1 envr xs st k ids = ofOpt (allRules st xs) := by
  intro xs
  induction xs with
  | nil => rfl
  | cons id rest ih =>
    unfold Rules.get_context_rules.loop1 allRules
    rw [get_context_rule_eq]
    cases hr : ruleOf st id with
    | none => rfl
    | some r =>
      simp only [Comp.bind_ok]
      rw [ih]
      cases allRules st rest <;> rfl

/-- **generated `get_context_rules`**: the stored rules of the ids listed for the type, in the order they were added -/
theorem get_context_rules_eq (envr : Rules.Reads) (st : Rules.Store) (k : Nat) :
    Rules.get_context_rules envr st k = ofOpt (allRules st (idsOf st k)) := by
  unfold Rules.get_context_rules
  rw [rules_loop_eq]
  show Comp.bind (ofOpt (allRules st (idsOf st k))) _ = _
  cases allRules st (idsOf st k) <;> rfl

/-- non-vacuity: type 7 has rules 1 (expired at ledger 50) and 3, Default has rules 0 and 2: at ledger 100 the candidates
are 3, then 2, 0 -/
example :
    let st : Rules.Store :=
      ⟨fun id => if id < 4 then some ⟨id, if id % 2 = 1 then 7 else 0, if id = 1 then some 50 else none⟩ else none,
       fun _ => some [1], fun _ => none, fun k => if k = 7 then some [1, 3] else if k = 0 then some [0, 2] else none⟩
    (match Rules.get_valid_context_rules ⟨100⟩ st 7 with | .ok l => l.map (·.id) | .panic => [99]) = [3, 2, 0] ∧
    (match Rules.get_valid_context_rules ⟨50⟩ st 7 with | .ok l => l.map (·.id) | .panic => [99]) = [3, 1, 2, 0] ∧
    (match Rules.get_valid_context_rules ⟨100⟩ st 9 with | .ok l => l.map (·.id) | .panic => [99]) = [2, 0] := by
  decide +kernel

end OZ.Gen.Rules
