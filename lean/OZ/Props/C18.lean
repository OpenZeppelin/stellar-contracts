import OZ.Lemmas.WebAuthn
import OZ.Model.Ed25519Verifier
/-
C18 — Signature verifiers accept exactly genuine, well-formed assertions.

* base64url: the coded table-driven encoder equals the RFC 4648 §5 unpadded specification
  for EVERY byte string, is injective, and writes exactly ⌈4n/3⌉ characters.
* WebAuthn: `verify` returns `true` exactly under the property's conjunction; it never
  returns `false`. JSON parsing, SHA-256 and the P-256 verification are oracles
  (`Oracles`): the theorems hold for every behaviour of these functions.
* Ed25519: accepts exactly when the host's verification does.
-/
namespace OZ.B64

/-- **the base64url helper equals RFC 4648 §5 without padding, for every input**
(induction on 3-byte groups; the 1- and 2-byte tails are the base cases) -/
theorem base64url_eq_rfc4648 (src : Bytes) : encode src = rfc4648 src :=
  match src with
  | [] => rfl
  | [a] => by rw [encode_one, rfc_one]
  | [a, b] => by rw [encode_two, rfc_two]
  | a :: b :: c :: rest => by rw [encode_cons3, rfc_cons3, base64url_eq_rfc4648 rest]

/-- the number of characters written: ⌈4·n/3⌉, never a padding character -/
theorem base64url_length (src : Bytes) : (rfc4648 src).length = (4 * src.length + 2) / 3 := by
  rw [← base64url_eq_rfc4648, encode_length]

/-- the destination-buffer form of the Rust function: it panics iff the buffer is shorter
than ⌈4n/3⌉, otherwise the buffer starts with the RFC 4648 encoding and the rest is untouched -/
theorem base64url_into_buffer (dst src : Bytes) :
    encodeInto dst src =
      if dst.length < (4 * src.length + 2) / 3 then none
      else some (rfc4648 src ++ dst.drop ((4 * src.length + 2) / 3)) := by
  unfold encodeInto
  rw [encode_length, base64url_eq_rfc4648]

/-- decoding the encoder's output gives the input back … -/
theorem base64url_decode_encode (src : Bytes) : decode (rfc4648 src) = src := by
  rw [← base64url_eq_rfc4648, decode_encode]

/-- … so the encoding is injective: different payloads have different challenges -/
theorem encode_injective (a b : Bytes) (h : encode a = encode b) : a = b := by
  rw [← decode_encode a, ← decode_encode b, h]

theorem rfc4648_injective (a b : Bytes) (h : rfc4648 a = rfc4648 b) : a = b := by
  rw [← base64url_decode_encode a, ← base64url_decode_encode b, h]

/-- non-vacuity: the RFC 4648 §10 test vectors ("f", "fo", "foo", "foob", "fooba", "foobar"
give "Zg", "Zm8", "Zm9v", "Zm9vYg", "Zm9vYmE", "Zm9vYmFy") and a group using `-` and `_` -/
example : encode [102] = [90, 103] ∧ encode [102, 111] = [90, 109, 56]
    ∧ encode [102, 111, 111] = [90, 109, 57, 118]
    ∧ encode [102, 111, 111, 98] = [90, 109, 57, 118, 89, 103]
    ∧ encode [102, 111, 111, 98, 97] = [90, 109, 57, 118, 89, 109, 69]
    ∧ encode [102, 111, 111, 98, 97, 114] = [90, 109, 57, 118, 89, 109, 70, 121]
    ∧ rfc4648 [102, 111, 111, 98, 97, 114] = [90, 109, 57, 118, 89, 109, 70, 121]
    ∧ encode [251, 255, 190] = [45, 95, 45, 45] := by decide +kernel

end OZ.B64

namespace OZ.WebAuthn
open OZ.B64

/-- **C18, WebAuthn.** `verify` accepts (returns `true`) if and only if
  * the client data is at most 1024 bytes long,
  * it parses, its type is exactly `webauthn.get`, and its challenge is the RFC 4648 §5
    unpadded base64url of the payload,
  * the payload is EXACTLY 32 bytes long,
  * the authenticator data has at least 37 bytes and its flags byte (index 32) has UP and UV
    set and not (BE clear and BS set),
  * the P-256 verification of `sha256(authenticator_data ‖ sha256(client_data))` under the
    given key and signature succeeds.
For every parser / hash / curve oracle `O` and every input. -/
theorem webauthn_accepts_iff (O : Oracles) (payload key : Bytes) (sd : SigData) :
    verify O payload key sd = .ok true ↔
      sd.clientData.length ≤ 1024 ∧
      (∃ j, O.parse sd.clientData = some j ∧ j.typeField = WEBAUTHN_GET ∧ j.challenge = rfc4648 payload) ∧
      payload.length = 32 ∧
      37 ≤ sd.authenticatorData.length ∧
      (∃ f, sd.authenticatorData[32]? = some f ∧
        flagSet f AUTH_DATA_FLAGS_UP = true ∧ flagSet f AUTH_DATA_FLAGS_UV = true ∧
        ¬ (flagSet f AUTH_DATA_FLAGS_BE = false ∧ flagSet f AUTH_DATA_FLAGS_BS = true)) ∧
      O.p256Verify key (O.sha256 (sd.authenticatorData ++ O.sha256 sd.clientData)) sd.signature = true := by
  rw [verify_eq_ok, verifyRest_eq_ok, base64url_eq_rfc4648, and_iff_left rfl]

/-- the flag tests, in plain arithmetic on the flags byte: bit 0 (UP), bit 2 (UV), bit 3 (BE),
bit 4 (BS) -/
theorem flag_bits (f : Byte) :
    (flagSet f AUTH_DATA_FLAGS_UP = true ↔ f.toNat % 2 = 1) ∧
    (flagSet f AUTH_DATA_FLAGS_UV = true ↔ f.toNat / 4 % 2 = 1) ∧
    (flagSet f AUTH_DATA_FLAGS_BE = true ↔ f.toNat / 8 % 2 = 1) ∧
    (flagSet f AUTH_DATA_FLAGS_BS = true ↔ f.toNat / 16 % 2 = 1) := by
  have h0 := flagSet_two_pow f 0
  rw [Nat.pow_zero, Nat.div_one] at h0
  exact ⟨h0, flagSet_two_pow f 2, flagSet_two_pow f 3, flagSet_two_pow f 4⟩

/-- the verifier never answers `false`: it accepts or fails -/
theorem webauthn_never_false (O : Oracles) (payload key : Bytes) (sd : SigData) :
    verify O payload key sd ≠ .ok false :=
  fun h => verifyRest_ne_false O _ _ _ _ ((verify_eq_ok O payload key sd false).mp h).2.2.2

/-- **any change to the payload is rejected**: one assertion (client data, authenticator
data, signature, key) is accepted for at most one payload -/
theorem webauthn_payload_unique (O : Oracles) (p₁ p₂ key : Bytes) (sd : SigData)
    (h₁ : verify O p₁ key sd = .ok true) (h₂ : verify O p₂ key sd = .ok true) : p₁ = p₂ := by
  obtain ⟨_, ⟨j₁, hj₁, _, hc₁⟩, _⟩ := (webauthn_accepts_iff O p₁ key sd).mp h₁
  obtain ⟨_, ⟨j₂, hj₂, _, hc₂⟩, _⟩ := (webauthn_accepts_iff O p₂ key sd).mp h₂
  rw [hj₁] at hj₂; cases hj₂
  exact rfc4648_injective p₁ p₂ (hc₁.symm.trans hc₂)

/-- the example verifier contract: additionally the signature data must decode from XDR and
the key data must hold at least 65 bytes, of which the first 65 are the key -/
theorem webauthn_example_accepts_iff (O : Oracles) (payload keyData sigData : Bytes) :
    exampleVerify O payload keyData sigData = .ok true ↔
      ∃ sd, O.fromXdr sigData = some sd ∧ 65 ≤ keyData.length ∧
        verify O payload (keyData.take 65) sd = .ok true :=
  exampleVerify_eq_ok O payload keyData sigData true

/-! ### concrete instances (non-vacuity) and the long-payload counterexample -/

/-- payload `00 01 … 1f`; its base64url is `AAECAwQFBgcICQoLDA0ODxAREhMUFRYXGBkaGxwdHh8` -/
def exPayload : Bytes := [0, 1, 2, 3, 4, 5, 6, 7, 8, 9, 10, 11, 12, 13, 14, 15, 16, 17, 18, 19, 20, 21,
  22, 23, 24, 25, 26, 27, 28, 29, 30, 31]
def exChallenge : Bytes := [65, 65, 69, 67, 65, 119, 81, 70, 66, 103, 99, 73, 67, 81, 111, 76, 68, 65, 48, 79,
  68, 120, 65, 82, 69, 104, 77, 85, 70, 82, 89, 88, 71, 66, 107, 97, 71, 120, 119, 100, 72, 104, 56]
/-- oracles of a genuine assertion over `exPayload`: the client data parses to
`{type: "webauthn.get", challenge: exChallenge}` and the signature verifies -/
def exOracles : Oracles :=
  { parse := fun _ => some { challenge := exChallenge, typeField := WEBAUTHN_GET }
    sha256 := fun _ => []
    p256Verify := fun _ _ _ => true
    fromXdr := fun _ => none }
/-- 37 bytes of authenticator data, flags byte = `0x1D` (UP, UV, BE, BS) -/
def exAuthData : Bytes := List.replicate 32 0 ++ [0x1D, 0, 0, 0, 1]
def exSig : SigData := { signature := [], authenticatorData := exAuthData, clientData := [] }

/-- a genuine assertion is accepted … -/
example : verify exOracles exPayload [] exSig = .ok true := by decide +kernel
/-- … and rejected as soon as one flag is wrong (UV cleared, or BS without BE) -/
example : verify exOracles exPayload [] { exSig with authenticatorData := List.replicate 32 0 ++ [0x19, 0, 0, 0, 1] }
    = .error .verifiedBitNotSet := by decide +kernel
example : verify exOracles exPayload [] { exSig with authenticatorData := List.replicate 32 0 ++ [0x15, 0, 0, 0, 1] }
    = .error .backupState := by decide +kernel

/-- **a payload longer than 32 bytes:** `verifyLegacy`, whose `validate_challenge` extracts the range
`0..32` of the payload, ACCEPTS a 40-byte payload whose first 32 bytes match the challenge; `verify`,
which extracts the whole payload as 32 bytes, rejects it with `payloadInvalid`. -/
theorem legacy_accepts_long_payload_counterexample :
    (exPayload ++ [32, 33, 34, 35, 36, 37, 38, 39]).length = 40 ∧
    verifyLegacy exOracles (exPayload ++ [32, 33, 34, 35, 36, 37, 38, 39]) [] exSig = .ok true ∧
    verify exOracles (exPayload ++ [32, 33, 34, 35, 36, 37, 38, 39]) [] exSig = .error .payloadInvalid := by
  decide +kernel

end OZ.WebAuthn

namespace OZ.Ed25519Verifier
open OZ.B64

/-- **C18, Ed25519.** accepted exactly when the host's Ed25519 verification of the payload
under the given key and signature succeeds -/
theorem ed25519_accepts_iff (ed : Bytes → Bytes → Bytes → Bool) (payload key sig : Bytes) :
    verify ed payload key sig = .ok true ↔ ed key payload sig = true := by
  unfold verify
  split
  · next h => exact ⟨fun _ => h, fun _ => rfl⟩
  · next h => constructor
              · intro h'; cases h'
              · intro h'; exact absurd h' h

theorem ed25519_never_false (ed : Bytes → Bytes → Bytes → Bool) (payload key sig : Bytes) :
    verify ed payload key sig ≠ .ok false := by
  unfold verify
  split <;> intro h <;> cases h

/-- the example contract adds nothing and removes nothing -/
theorem ed25519_example_accepts_iff (ed : Bytes → Bytes → Bytes → Bool) (payload key sig : Bytes) :
    exampleVerify ed payload key sig = .ok true ↔ ed key payload sig = true :=
  ed25519_accepts_iff ed payload key sig

example : verify (fun k m s => k == [1] && m == [2] && s == [3]) [2] [1] [3] = .ok true := by decide
example : verify (fun k m s => k == [1] && m == [2] && s == [3]) [2, 0] [1] [3] = .error .crypto := by decide

end OZ.Ed25519Verifier
