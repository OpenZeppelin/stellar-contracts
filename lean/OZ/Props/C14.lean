import OZ.Lemmas.Policies
/-
C14 — Account policies enforce exactly their threshold, weight and spending rules.

The model (OZ/Model/Policies.lean) mirrors
packages/accounts/src/policies/{simple_threshold,weighted_threshold,spending_limit}.rs.
Everything is universally quantified: all thresholds, weight maps, signer lists, authorizing
subsets, contexts, limits, periods, amounts (any `Int`, also negative and beyond i128) and all
finite operation lists. "Reachable" means `run init ops` for an arbitrary `ops`.

The ghost log of the spending policy (`Spend.runG`, OZ/Lemmas/Policies.lean) is computed
beside the model and never read by it: per (account, rule id) it lists, newest first, the
transfers `enforce` accepted since the current installation, each with its ledger and the
limit / period in force at that moment.
-/
namespace OZ.Policies
open OZ.Host

namespace Simple

/-- **accepts exactly when the number of authenticated signers reaches the threshold**
(and the policy is installed and the account itself authorized the call); the context plays
no role -/
theorem simple_accepts_iff (s : State) (auth : List Nat) (ctx : Ctx) (sg : List Nat) (rule : Rule) (acct : Nat) :
    (∃ s', enforce s auth ctx sg rule acct = .ok s') ↔
      acct ∈ auth ∧ ∃ t, s.thr acct rule.id = some t ∧ t ≤ sg.length := by
  constructor
  · rintro ⟨s', h⟩
    obtain ⟨ha, t, ht, hle, _⟩ := enforce_ok_iff.mp h
    exact ⟨ha, t, ht, hle⟩
  · rintro ⟨ha, t, ht, hle⟩
    exact ⟨_, enforce_ok_iff.mpr ⟨ha, t, ht, hle, rfl⟩⟩

/-- the read-only answer: `true` exactly when installed and the count reaches the threshold -/
theorem simple_can_enforce_iff (s : State) (ctx : Ctx) (sg : List Nat) (rule : Rule) (acct : Nat) :
    canEnforce s ctx sg rule acct = true ↔ ∃ t, s.thr acct rule.id = some t ∧ t ≤ sg.length := by
  unfold canEnforce
  cases h : s.thr acct rule.id with
  | none => simp
  | some t => simp

/-- **can_enforce agrees with enforce** in the same state, for every context and signer list -/
theorem simple_can_enforce_agrees (s : State) (auth : List Nat) (ctx : Ctx) (sg : List Nat) (rule : Rule)
    (acct : Nat) (ha : acct ∈ auth) :
    canEnforce s ctx sg rule acct = true ↔ ∃ s', enforce s auth ctx sg rule acct = .ok s' := by
  rw [simple_can_enforce_iff, simple_accepts_iff]
  exact ⟨fun h => ⟨ha, h⟩, fun h => h.2⟩

/-- **a zero or unreachable threshold is refused at install and at every change**: whenever
`install` or `set_threshold` succeeds, `1 ≤ threshold ≤ number of signers of the rule`, and
that value is what is stored -/
theorem simple_threshold_config_valid (s s' : State) (auth : List Nat) (t : Nat) (rule : Rule) (acct : Nat)
    (h : install s auth t rule acct = .ok s' ∨ setThreshold s auth t rule acct = .ok s') :
    1 ≤ t ∧ t ≤ rule.signers.length ∧ s'.thr acct rule.id = some t := by
  have key : validateAndSet s t rule acct = .ok s' := h.elim (fun h => (install_ok_iff.mp h).2.2) (fun h => (setThreshold_ok_iff.mp h).2)
  obtain ⟨h1, h2, rfl⟩ := validateAndSet_ok_iff.mp key
  exact ⟨h1, h2, upd2_same _ _ _ _⟩

/-- a successful operation never stores a zero threshold … -/
theorem simple_apply_pos {s s' : State} (hi : ∀ a r t, s.thr a r = some t → 1 ≤ t) (auth : List Nat) (op : Op)
    (h : apply s auth op = .ok s') : ∀ a r t, s'.thr a r = some t → 1 ≤ t := by
  have set : ∀ {a0 r0 t0}, validateAndSet s t0 r0 a0 = .ok s' → ∀ a r t, s'.thr a r = some t → 1 ≤ t := by
    intro a0 r0 t0 h
    obtain ⟨h1, _, rfl⟩ := validateAndSet_ok_iff.mp h
    exact upd2_forall (Q := fun _ _ o => ∀ t, o = some t → 1 ≤ t) (fun a r _ => hi a r)
      (fun t ht => by injection ht with ht; omega)
  cases op with
  | install a0 r0 t0 => exact set (install_ok_iff.mp h).2.2
  | setThreshold a0 r0 t0 => exact set (setThreshold_ok_iff.mp h).2
  | uninstall a0 r0 =>
    obtain ⟨_, rfl⟩ := uninstall_ok_iff.mp h
    exact upd2_forall (Q := fun _ _ o => ∀ t, o = some t → 1 ≤ t) (fun a r _ => hi a r) (fun t ht => by cases ht)
  | enforce a0 r0 c sg =>
    obtain ⟨_, _, _, _, rfl⟩ := enforce_ok_iff (ctx := c) |>.mp h
    exact hi

/-- … so the property "no stored threshold is 0" survives every history from any state that has it … -/
theorem simple_threshold_pos_run (ops : List (List Nat × Op)) :
    ∀ s : State, (∀ a r t, s.thr a r = some t → 1 ≤ t) → ∀ a r t, (run s ops).thr a r = some t → 1 ≤ t := by
  refine OZ.Lists.foldl_inv (P := fun s : State => ∀ a r t, s.thr a r = some t → 1 ≤ t) ?_ ops
  intro s x hs
  unfold step
  cases hx : apply s x.1 x.2 with
  | error e => exact hs
  | ok s' => exact simple_apply_pos hs x.1 x.2 hx

/-- … hence in every reachable state every stored threshold is at least 1 -/
theorem simple_threshold_pos_reachable (ops : List (List Nat × Op)) (a r t : Nat)
    (h : (run init ops).thr a r = some t) : 1 ≤ t :=
  simple_threshold_pos_run ops init (by intro a r t h; cases h) a r t h

/-- **only with the account's own authorization**: every state-changing entry point fails
with the authorization error when the smart account is not among the authorizers -/
theorem simple_needs_account_auth (s : State) (auth : List Nat) (op : Op) (h : op.acct ∉ auth) :
    apply s auth op = .error .auth := by
  cases op <;> exact guard_refused h _

/-- **a rejected attempt leaves no trace**: thresholds and event log are exactly as before -/
theorem simple_rejected_no_trace (s : State) (auth : List Nat) (op : Op) (e : Err)
    (h : apply s auth op = .error e) : step s (auth, op) = s := by
  simp [step, h]

end Simple

namespace Weighted

/-- **acceptance as coded, any state, any signer list** (duplicates counted with
multiplicity): `enforce` succeeds exactly when the account authorized it, the policy is
installed, the checked u32 sum of the signers' weights does not overflow, and it reaches the
threshold. On overflow the call traps (`MathOverflow`), i.e. it is rejected. -/
theorem weighted_accepts_as_coded (s : State) (auth : List Nat) (ctx : Ctx) (sg : List Nat) (rule : Rule)
    (acct : Nat) :
    (∃ s', enforce s auth ctx sg rule acct = .ok s') ↔
      acct ∈ auth ∧ ∃ p, s.par acct rule.id = some p ∧ wsum p.weights sg ≤ U32_MAX ∧
        p.threshold ≤ wsum p.weights sg :=
  enforce_iff s auth ctx sg rule acct

/-- **in every reachable state the configuration is valid**: 1 ≤ threshold ≤ total
configured weight ≤ u32::MAX (zero, unreachable or overflowing configurations were refused at
install, `set_threshold` and `set_signer_weight`) -/
theorem weighted_threshold_config_valid (ops : List (List Nat × Op)) (a r : Nat) (p : Params)
    (h : (run init ops).par a r = some p) :
    1 ≤ p.threshold ∧ p.threshold ≤ total p.weights ∧ total p.weights ≤ U32_MAX :=
  run_inv ops init init_inv a r p h

/-- the refusals themselves: `install` fails for a zero threshold, for a threshold above the
total weight, and for weights summing past u32::MAX -/
theorem weighted_install_refuses (s : State) (auth : List Nat) (pairs : List (Nat × Nat)) (t : Nat) (rule : Rule)
    (acct : Nat) (hbad : t = 0 ∨ total (mkMap pairs) < t ∨ U32_MAX < total (mkMap pairs)) :
    ¬ ∃ s', install s auth pairs t rule acct = .ok s' := by
  rintro ⟨s', h⟩
  obtain ⟨⟨h1, h2, h3⟩, _⟩ := checkInstall_ok_iff.mp (install_ok_iff.mp h).2.2
  omega

/-- `set_threshold` and `set_signer_weight` refuse what would leave the threshold zero,
unreachable, or the total past u32::MAX -/
theorem weighted_change_refuses (s s' : State) (auth : List Nat) (rule : Rule) (acct : Nat) (p : Params)
    (hp : s.par acct rule.id = some p) :
    (∀ t, setThreshold s auth t rule acct = .ok s' → 1 ≤ t ∧ t ≤ total p.weights) ∧
    (∀ sgn w, setSignerWeight s auth sgn w rule acct = .ok s' →
      p.threshold ≤ total (mset p.weights sgn w) ∧ total (mset p.weights sgn w) ≤ U32_MAX) := by
  constructor
  · intro t h
    obtain ⟨_, ht, q, hq, h⟩ := setThreshold_ok_iff.mp h
    rw [hp] at hq; injection hq with hq; subst hq
    exact ⟨ht, (checkAndStore_ok_iff.mp h).1⟩
  · intro sgn w h
    obtain ⟨_, q, hq, h⟩ := setSignerWeight_ok_iff.mp h
    rw [hp] at hq; injection hq with hq; subst hq
    obtain ⟨h2, h3, _⟩ := checkAndStore_ok_iff.mp h
    exact ⟨h2, h3⟩

/-- **accepts exactly when the sum of the configured weights of the authenticated signers
reaches the threshold**, for duplicate-free signer lists, in every reachable state: the
checked sum cannot overflow there, because it is bounded by the total weight -/
theorem weighted_accepts_iff (ops : List (List Nat × Op)) (auth : List Nat) (ctx : Ctx) (sg : List Nat)
    (hnd : sg.Nodup) (rule : Rule) (acct : Nat) :
    (∃ s', enforce (run init ops) auth ctx sg rule acct = .ok s') ↔
      acct ∈ auth ∧ ∃ p, (run init ops).par acct rule.id = some p ∧ p.threshold ≤ wsum p.weights sg := by
  rw [enforce_iff]
  constructor
  · rintro ⟨ha, p, hp, _, ht⟩; exact ⟨ha, p, hp, ht⟩
  · rintro ⟨ha, p, hp, ht⟩
    have hi := weighted_threshold_config_valid ops acct rule.id p hp
    have := wsum_le_total p.weights sg hnd
    exact ⟨ha, p, hp, by omega, ht⟩

/-- **can_enforce agrees with enforce**, any state, any context, any signer list (when the
weight sum overflows, `can_enforce` traps instead of answering, and `enforce` fails too) -/
theorem weighted_can_enforce_agrees (s : State) (auth : List Nat) (ctx : Ctx) (sg : List Nat) (rule : Rule)
    (acct : Nat) (ha : acct ∈ auth) :
    canEnforce s ctx sg rule acct = .ok true ↔ ∃ s', enforce s auth ctx sg rule acct = .ok s' := by
  rw [canEnforce_true_iff, enforce_iff]
  exact ⟨fun h => ⟨ha, h⟩, fun h => h.2⟩

/-- on reachable states and duplicate-free signer lists `can_enforce` never traps -/
theorem weighted_can_enforce_total (ops : List (List Nat × Op)) (ctx : Ctx) (sg : List Nat) (hnd : sg.Nodup)
    (rule : Rule) (acct : Nat) : ∃ b, canEnforce (run init ops) ctx sg rule acct = .ok b := by
  unfold canEnforce
  cases hp : (run init ops).par acct rule.id with
  | none => exact ⟨false, rfl⟩
  | some p =>
    have hi := weighted_threshold_config_valid ops acct rule.id p hp
    have := wsum_le_total p.weights sg hnd
    show ∃ b, meets p sg = .ok b
    rw [meets_eq, if_pos (by omega)]
    exact ⟨_, rfl⟩

theorem weighted_needs_account_auth (s : State) (auth : List Nat) (op : Op) (h : op.acct ∉ auth) :
    apply s auth op = .error .auth := by
  cases op <;> exact guard_refused h _

theorem weighted_rejected_no_trace (s : State) (auth : List Nat) (op : Op) (e : Err)
    (h : apply s auth op = .error e) : step s (auth, op) = s := by
  simp [step, h]

end Weighted

namespace Spend

/-- the history `ops` from ledger `now0` with nothing installed, with its ghost log -/
def reach (now0 : Nat) (ops : List (List Nat × Op)) : State × Log := runG (init now0, fun _ _ => []) ops

theorem reach_fst (now0 : Nat) (ops : List (List Nat × Op)) : (reach now0 ops).1 = run (init now0) ops :=
  runG_fst ops _

theorem reach_inv (now0 : Nat) (h0 : 1 ≤ now0) (ops : List (List Nat × Op)) :
    GInv (reach now0 ops).1 (reach now0 ops).2 :=
  runG_inv ops _ (init_ginv now0 h0)

/-- **the cached total is the sum of the history** in every reachable state -/
theorem cached_eq_sum_history (now0 : Nat) (h0 : 1 ≤ now0) (ops : List (List Nat × Op)) (a r : Nat) (d : Data)
    (h : (run (init now0) ops).store a r = some d) : d.cached = isum d.history := by
  rw [← reach_fst] at h
  exact (((reach_inv now0 h0 ops).rel a r).dinv d h).cached

/-- **the history is sorted by ledger**, never from the future, and never longer than 1000 -/
theorem history_sorted (now0 : Nat) (h0 : 1 ≤ now0) (ops : List (List Nat × Op)) (a r : Nat) (d : Data)
    (h : (run (init now0) ops).store a r = some d) :
    d.history.Pairwise (fun x y => x.ledger ≤ y.ledger) ∧
    (∀ e ∈ d.history, e.ledger ≤ (run (init now0) ops).now) ∧
    d.history.length ≤ MAX_HISTORY_ENTRIES := by
  rw [← reach_fst] at h ⊢
  have := ((reach_inv now0 h0 ops).rel a r).dinv d h
  exact ⟨this.sorted, this.le_now, this.bound⟩

/-- limit and period of every installation are positive in every reachable state -/
theorem spend_config_valid (now0 : Nat) (h0 : 1 ≤ now0) (ops : List (List Nat × Op)) (a r : Nat) (d : Data)
    (h : (run (init now0) ops).store a r = some d) : 0 < d.limit ∧ 0 < d.period := by
  rw [← reach_fst] at h
  have := ((reach_inv now0 h0 ops).rel a r).dinv d h
  exact ⟨this.limit_pos, this.period_pos⟩

/-- the ghost log is faithful: per key it is ordered (newest first), not from the future,
and its entries are exactly the stored history followed by entries that left the window for
good; with nothing installed it is empty -/
theorem log_faithful (now0 : Nat) (h0 : 1 ≤ now0) (ops : List (List Nat × Op)) (a r : Nat) :
    let sg := reach now0 ops
    (sg.2 a r).Pairwise (fun x y => y.ledger ≤ x.ledger) ∧ (∀ t ∈ sg.2 a r, t.ledger ≤ sg.1.now) ∧
    (∀ d, sg.1.store a r = some d →
      ∃ old, (sg.2 a r).map proj = d.history.reverse ++ old ∧ ∀ e ∈ old, e.ledger + d.period ≤ sg.1.now) ∧
    (sg.1.store a r = none → sg.2 a r = []) := by
  have h := (reach_inv now0 h0 ops).rel a r
  exact ⟨h.ordered, h.le_now, fun d hd => (h.hist d hd).1, h.none_nil⟩

/-- **window_bound**: after any history (any order and timing of attempts, several per ledger,
limit changes, ledger gaps, rejected attempts in between, any amounts), for every authorized
transfer `t` of a key — at ledger `t.ledger`, under the limit `t.limit` in force at that
moment — the amounts of `t` and of all transfers authorized before it (since the installation)
whose ledger lies in `(t.ledger − period, t.ledger]` sum to at most `t.limit`. -/
theorem window_bound (now0 : Nat) (h0 : 1 ≤ now0) (ops : List (List Nat × Op)) (a r : Nat)
    (newer older : List Authd) (t : Authd) (hl : (reach now0 ops).2 a r = newer ++ t :: older) :
    winSum (t :: older) t.ledger t.period ≤ t.limit := by
  have hg := ((reach_inv now0 h0 ops).rel a r).good
  rw [hl] at hg
  exact (goodR_suffix newer hg).1

/-- **any window of `period` consecutive ledgers**: take any window `[w, w + P)` and let `t` be
the last transfer authorized before its end (`t.ledger < w + P`, everything logged after `t`
lies beyond the window; the log is ordered by `log_faithful`). If the amounts are
non-negative, ALL transfers authorized in the window sum to at most the limit in force when
`t` was authorized. -/
theorem window_any (now0 : Nat) (h0 : 1 ≤ now0) (ops : List (List Nat × Op)) (a r : Nat)
    (newer older : List Authd) (t : Authd) (hl : (reach now0 ops).2 a r = newer ++ t :: older)
    (w : Nat) (hw2 : t.ledger < w + t.period)
    (hnewer : ∀ e ∈ newer, w + t.period ≤ e.ledger)
    (hnn : ∀ e ∈ (reach now0 ops).2 a r, 0 ≤ e.amount) :
    isum ((((reach now0 ops).2 a r).map proj).filter
      (fun e => decide (w ≤ e.ledger ∧ e.ledger < w + t.period))) ≤ t.limit := by
  have hb := window_bound now0 h0 ops a r newer older t hl
  rw [hl, List.map_append, List.filter_append, isum_append]
  have h1 : isum ((newer.map proj).filter (fun e => decide (w ≤ e.ledger ∧ e.ledger < w + t.period))) = 0 := by
    apply isum_filter_none
    intro e he
    obtain ⟨x, hx, rfl⟩ := List.mem_map.mp he
    have := hnewer x hx
    show decide (w ≤ x.ledger ∧ x.ledger < w + t.period) = false
    rw [decide_eq_false_iff_not]
    omega
  have h2 : isum (((t :: older).map proj).filter (fun e => decide (w ≤ e.ledger ∧ e.ledger < w + t.period)))
      ≤ isum (((t :: older).map proj).filter (inWin t.ledger t.period)) := by
    apply isum_filter_mono
    · intro e he
      obtain ⟨x, hx, rfl⟩ := List.mem_map.mp he
      exact hnn x (by rw [hl]; exact List.mem_append_right _ hx)
    · intro e _ hp
      simp only [decide_eq_true_eq] at hp
      simp only [inWin, decide_eq_true_eq]
      omega
  unfold winSum winSumE at hb
  omega

/-- **can_enforce agrees with enforce** in the same state: for every context (transfer,
malformed transfer, other call, create-contract), every signer list, every history length
(including the 1000-entry bound) and every amount, `can_enforce` answers `true` exactly when
`enforce`, authorized by the account, would succeed. (When an i128 operation overflows,
`can_enforce` panics instead of answering and `enforce` fails as well.) -/
theorem spend_can_enforce_agrees (s : State) (auth : List Nat) (ctx : Ctx) (sg : List Nat) (rule : Rule)
    (acct : Nat) (ha : acct ∈ auth) :
    canEnforce s ctx sg rule acct = .ok true ↔ ∃ s', enforce s auth ctx sg rule acct = .ok s' := by
  rw [canEnforce_true_iff, enforce_iff]
  exact ⟨fun h => ⟨ha, h⟩, fun h => h.2⟩

/-- non-transfer and malformed contexts are never accepted, nor is an empty signer list -/
theorem spend_only_wellformed_transfers (s s' : State) (auth : List Nat) (ctx : Ctx) (sg : List Nat) (rule : Rule)
    (acct : Nat) (h : enforce s auth ctx sg rule acct = .ok s') :
    (∃ amt, ctx = .transfer amt) ∧ sg ≠ [] := by
  obtain ⟨_, hsg, _, _, amt, hc, _⟩ := (enforce_iff s auth ctx sg rule acct).mp ⟨s', h⟩
  refine ⟨⟨amt, hc⟩, ?_⟩
  intro he; subst he; simp at hsg

/-- the 1000-entry bound, as both functions see it: if after eviction 1000 entries remain,
`can_enforce` does not answer `true` and `enforce` fails -/
theorem spend_capacity_refused (s : State) (auth : List Nat) (amt : Int) (sg : List Nat) (rule : Rule) (acct : Nat)
    (d : Data) (hd : s.store acct rule.id = some d) (h' : List Entry) (r : Int)
    (hc : cleanup (s.now - d.period) d.history 0 = .ok (h', r)) (hfull : MAX_HISTORY_ENTRIES ≤ h'.length) :
    canEnforce s (.transfer amt) sg rule acct ≠ .ok true ∧
    ¬ ∃ s', enforce s auth (.transfer amt) sg rule acct = .ok s' := by
  have key : ¬ Accepts s.now d amt := by
    rintro ⟨h'', r', hc', _, _, _, hlen⟩
    rw [hc] at hc'; injection hc' with hc'; injection hc' with e1 e2; subst e1
    omega
  constructor
  · intro h
    obtain ⟨_, d', hd', amt', he, hacc⟩ := (canEnforce_true_iff _ _ _ _ _).mp h
    rw [hd] at hd'; injection hd' with hd'; subst hd'
    injection he with he; subst he
    exact key hacc
  · intro h
    obtain ⟨_, _, d', hd', amt', he, hacc⟩ := (enforce_iff _ _ _ _ _ _).mp h
    rw [hd] at hd'; injection hd' with hd'; subst hd'
    injection he with he; subst he
    exact key hacc

/-- **only with the account's own authorization** -/
theorem spend_needs_account_auth (s : State) (auth : List Nat) (acct : Nat) (rule : Rule) (h : acct ∉ auth) :
    (∀ ctx sg, enforce s auth ctx sg rule acct = .error .auth) ∧
    (∀ l p, install s auth l p rule acct = .error .auth) ∧
    (∀ l, setSpendingLimit s auth l rule acct = .error .auth) ∧
    uninstall s auth rule acct = .error .auth :=
  ⟨fun _ _ => guard_refused h _, fun _ _ => guard_refused h _, fun _ => guard_refused h _, guard_refused h _⟩

/-- **a rejected attempt leaves no trace**: limit, period, history, cached total, events and
the ghost log are exactly as before (so a rejected attempt can never consume allowance) -/
theorem spend_rejected_no_trace (s : State) (g : Log) (auth : List Nat) (op : Op) (e : Err)
    (h : apply s auth op = .error e) : stepG (s, g) (auth, op) = (s, g) := by
  unfold stepG
  rw [step_eq_err h, logStep_err h]

/-! ### non-vacuity -/

def demoRule : Rule := ⟨0, [0, 1, 2]⟩

/-- install 100 per 10 ledgers at ledger 100; 60 + 40 accepted, 1 rejected; still rejected at
109; at 110 the window is past ledger 100, 70 accepted; a malformed and an unauthorized
call; limit lowered to 80: 11 rejected, 10 accepted -/
def demoOps : List (List Nat × Op) :=
  [([7], .install 7 demoRule 100 10), ([7], .enforce 7 demoRule (.transfer 60) [1]),
   ([7], .enforce 7 demoRule (.transfer 40) [1]), ([7], .enforce 7 demoRule (.transfer 1) [1]),
   ([], .advance 9), ([7], .enforce 7 demoRule (.transfer 1) [1]), ([], .advance 1),
   ([7], .enforce 7 demoRule (.transfer 70) [1, 2]), ([7], .enforce 7 demoRule .malformed [1]),
   ([3], .enforce 7 demoRule (.transfer 1) [1]), ([7], .setLimit 7 demoRule 80),
   ([7], .enforce 7 demoRule (.transfer 11) [1]), ([7], .enforce 7 demoRule (.transfer 10) [1])]

example : (run (init 100) demoOps).store 7 0 = some ⟨80, 10, [⟨70, 110⟩, ⟨10, 110⟩], 80⟩ := by decide

example : (reach 100 demoOps).2 7 0 =
    [⟨10, 110, 80, 10⟩, ⟨70, 110, 100, 10⟩, ⟨40, 100, 100, 10⟩, ⟨60, 100, 100, 10⟩] := by decide

-- hypotheses of `window_any` for the window [101, 111) whose last transfer is the newest one
example : ∀ e ∈ (reach 100 demoOps).2 7 0, 0 ≤ e.amount := by decide

-- can_enforce on a concrete state at the limit
example : canEnforce (run (init 100) demoOps) (.transfer 0) [1] demoRule 7 = .ok true ∧
    canEnforce (run (init 100) demoOps) (.transfer 1) [1] demoRule 7 = .ok false ∧
    canEnforce (run (init 100) demoOps) .otherCall [1] demoRule 7 = .ok false := by decide

-- i128 overflow is a trap, not an acceptance
example : canEnforce (run (init 5) [([1], .install 1 demoRule I128_MAX 10),
      ([1], .enforce 1 demoRule (.transfer (I128_MAX - 1)) [0])]) (.transfer 5) [0] demoRule 1
    = .error .overflowPanic := by decide

-- why the property quantifies over ledgers >= 1: at ledger 0 the saturating cutoff is 0, an
-- entry of ledger 0 is evicted at once, and the same allowance is granted again
example : (reach 0 [([1], .install 1 demoRule 10 5), ([1], .enforce 1 demoRule (.transfer 10) [0]),
    ([1], .enforce 1 demoRule (.transfer 10) [0])]).2 1 0 = [⟨10, 0, 10, 5⟩, ⟨10, 0, 10, 5⟩] := by decide

end Spend

/-! ### non-vacuity for the threshold policies -/

example : (Simple.run Simple.init [([4], .install 4 ⟨1, [0, 1, 2]⟩ 2), ([4], .install 4 ⟨2, [0, 1, 2]⟩ 0),
    ([4], .setThreshold 4 ⟨1, [0, 1, 2]⟩ 4), ([4], .setThreshold 4 ⟨1, [0, 1, 2]⟩ 3)]).thr 4 1 = some 3 := by decide

example : Simple.canEnforce (Simple.run Simple.init [([4], .install 4 ⟨1, [0, 1, 2]⟩ 2)]) .otherCall [0, 2] ⟨1, []⟩ 4 = true ∧
    Simple.canEnforce (Simple.run Simple.init [([4], .install 4 ⟨1, [0, 1, 2]⟩ 2)]) .otherCall [0] ⟨1, []⟩ 4 = false := by
  decide

/-- weights summing past u32::MAX are refused; a valid configuration with total = u32::MAX is
accepted; a duplicated signer then overflows the checked sum -/
example : (Weighted.run Weighted.init [([4], .install 4 ⟨0, []⟩ [(0, U32_MAX), (1, 1)] 1)]).par 4 0 = none ∧
    (Weighted.run Weighted.init [([4], .install 4 ⟨0, []⟩ [(0, U32_MAX - 1), (1, 1)] 5)]).par 4 0
      = some ⟨[(0, U32_MAX - 1), (1, 1)], 5⟩ ∧
    Weighted.canEnforce (Weighted.run Weighted.init [([4], .install 4 ⟨0, []⟩ [(0, U32_MAX - 1), (1, 1)] 5)])
      .otherCall [0, 0] ⟨0, []⟩ 4 = .error .mathOverflow ∧
    Weighted.canEnforce (Weighted.run Weighted.init [([4], .install 4 ⟨0, []⟩ [(0, U32_MAX - 1), (1, 1)] 5)])
      .otherCall [1, 0] ⟨0, []⟩ 4 = .ok true := by decide

end OZ.Policies
