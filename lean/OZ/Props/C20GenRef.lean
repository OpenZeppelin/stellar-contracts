import OZ.Gen.TopicsF
import OZ.Lemmas.RegTopics
import OZ.Lemmas.Comp
import OZ.Lemmas.RegGen
/-
C20 / C15 — REFINEMENT of the claim-topics-and-issuers registry, re-checked on every run against the source.

`lean/OZ/Gen/TopicsF.lean` is regenerated by `/verif/tools/rs2lean.py --topics-full` (state-passing mode) from /repo's
current `packages/tokens/src/rwa/claim_topics_and_issuers/storage.rs`: the getters, `add_claim_topic`,
`remove_claim_topic`, `add_trusted_issuer`, `remove_trusted_issuer`, `update_issuer_claim_topics` and the two
validation helpers, with every `for` loop a structural recursion over the list it walks.

In every state satisfying the registry invariant (`Inv`, which every reachable state satisfies: `reachable_inv`), every
generated entry point computes exactly the step of the hand model (OZ/Model/RegTopics.lean) under the abstraction map
`Abs` — accepted with the same successor state, refused together — and every finite history of generated calls follows
the model's history. Hence the theorems of OZ/Props/C20*.lean and the "trusted for that topic" half of C15, proved
about the hand model, hold of the generated code.

An entry point is compared with the model through the model's `*_ok_iff` lemma (`sim_of_iff`), after its loops have
been brought to closed form (`loop_pointwise`); the rules of OZ/Lemmas/Sim.lean are not used.
-/
namespace OZ.Gen.TopicsF
open OZ.Rs OZ.Reg OZ.RegTopics

structure Abs (st : TopicsF.Store) (s : State) : Prop where
  topics : st.ClaimTopics.getD [] = s.topics
  issuers : st.TrustedIssuers.getD [] = s.issuers
  issuerTopics : st.IssuerClaimTopics = s.issuerTopics
  topicIssuers : st.ClaimTopicIssuers = s.topicIssuers

def Sim (c : Comp (Unit × TopicsF.Store)) (m : Except RErr State) : Prop :=
  match m with
  | .ok s' => ∃ st', c = Comp.ok ((), st') ∧ Abs st' s'
  | .error _ => c = Comp.panic

theorem Abs.eq {st : TopicsF.Store} {s : State} (h : Abs st s) :
    s = ⟨st.ClaimTopics.getD [], st.TrustedIssuers.getD [], st.IssuerClaimTopics, st.ClaimTopicIssuers⟩ := by
  cases s
  obtain ⟨rfl, rfl, rfl, rfl⟩ := h
  rfl

theorem update_self {f : Nat → Option (List Nat)} {x : Nat} {v : Option (List Nat)} (h : f x = v) :
    (fun t => if t = x then v else f t) = f := by
  funext t
  by_cases ht : t = x
  · rw [if_pos ht, ht, h]
  · rw [if_neg ht]

/-- `if let Some(pos) = l.iter().position(..) { l.remove(pos as u32); write back }`, followed by the rest `K` of the
loop: nothing is written if `r` is not found, and then `erase` changes nothing -/
theorem erase_round {β : Type} {f : Nat → Option (List Nat)} {x : Nat} {l : List Nat} (hl : f x = some l)
    (hlen : l.length < 4294967296) (r : Nat) (K : (Nat → Option (List Nat)) → β) :
    optCase (List.findIdx? (fun a => decide (a = r)) l)
        (fun p => K fun t => if t = x then some (List.eraseIdx l (p % 4294967296)) else f t) (K f) =
      K fun t => if t = x then (f x).map (·.erase r) else f t := by
  rw [hl, Option.map_some]
  by_cases hm : r ∈ l
  · obtain ⟨p, hp, he⟩ := RegGen.position_of_mem hm (Nat.le_of_lt hlen)
    rw [hp, optCase_some, he]
  · rw [RegGen.position_eq_none_iff.2 hm, optCase_none, List.erase_of_not_mem hm, update_self hl]

/-- A generated `for x in xs` loop `L` that carries the store, of which only one keyed cell `f` varies (`mk f` is the
store with `f` in that cell). No repetition in `xs` is what makes the rounds independent: the entry a round reads is
still the original one. -/
theorem loop_pointwise {σ : Type} (mk : (Nat → Option (List Nat)) → σ) (L : List Nat → σ → Comp σ)
    (g : List Nat → List Nat) (C : Option (List Nat) → Prop)
    (hnil : ∀ f, L [] (mk f) = Comp.ok (mk f))
    (hcons : ∀ x xs f, C (f x) → L (x :: xs) (mk f) = L xs (mk fun t => if t = x then (f x).map g else f t))
    (xs : List Nat) : ∀ f : Nat → Option (List Nat), xs.Nodup → (∀ t, t ∈ xs → C (f t)) →
      L xs (mk f) = Comp.ok (mk fun t => if t ∈ xs then (f t).map g else f t) := by
  induction xs with
  | nil =>
    intro f _ _
    rw [hnil]
    exact congrArg (fun f => Comp.ok (mk f)) (funext fun t => (if_neg List.not_mem_nil).symm)
  | cons x xs ih =>
    intro f hN hC
    obtain ⟨hx, hN⟩ := List.nodup_cons.1 hN
    rw [hcons x xs f (hC x List.mem_cons_self), ih _ hN fun t ht => by
      rw [if_neg (fun h : t = x => hx (h ▸ ht))]; exact hC t (List.mem_cons_of_mem _ ht)]
    refine congrArg (fun f => Comp.ok (mk f)) (funext fun t => ?_)
    by_cases ht : t = x
    · subst ht; simp only [if_neg hx, if_pos, List.mem_cons_self]
    · simp only [List.mem_cons, ht, false_or, if_false]

theorem cti_read {st : TopicsF.Store} {x : Nat} {l : List Nat} (h : st.ClaimTopicIssuers x = some l) (envr : TopicsF.Reads) :
    TopicsF.get_claim_topic_issuers envr st x = Comp.ok l :=
  congrArg (optCase · Comp.ok Comp.panic) h

/-- each round is `get_claim_topic_issuers(topic)`, then `position` + `remove` of the issuer -/
theorem cti_erase_loop (envr : TopicsF.Reads) (i : Nat) (L : List Nat → TopicsF.Store → Comp TopicsF.Store)
    (hnil : ∀ st, L [] st = Comp.ok st)
    (hcons : ∀ x xs st, L (x :: xs) st = Comp.bind (TopicsF.get_claim_topic_issuers envr st x) fun l =>
      optCase (List.findIdx? (fun a => decide (a = i)) l)
        (fun p => L xs (TopicsF.Store.set_ClaimTopicIssuers st x (List.eraseIdx l (p % 4294967296)))) (L xs st))
    (xs : List Nat) (st : TopicsF.Store) (hN : xs.Nodup) (hP : ∀ t, t ∈ xs → ∃ l, st.ClaimTopicIssuers t = some l)
    (hL : ∀ t l, st.ClaimTopicIssuers t = some l → l.length < 4294967296) :
    L xs st = Comp.ok { st with ClaimTopicIssuers := dropIssuer st.ClaimTopicIssuers xs i } := by
  refine loop_pointwise (fun f => { st with ClaimTopicIssuers := f }) L (·.erase i)
    (fun o => ∃ l, o = some l ∧ l.length < 4294967296) (fun _ => hnil _) ?_ xs st.ClaimTopicIssuers hN
    (fun t ht => (hP t ht).imp fun l hl => ⟨hl, hL t l hl⟩)
  rintro x xs f ⟨l, hl, hlen⟩
  rw [hcons, cti_read hl, Comp.bind_ok]
  exact erase_round hl hlen i fun f' => L xs { st with ClaimTopicIssuers := f' }

/-- each round is `get_claim_topic_issuers(topic)`, then `push_back` of the issuer -/
theorem cti_push_loop (envr : TopicsF.Reads) (i : Nat) (L : List Nat → TopicsF.Store → Comp TopicsF.Store)
    (hnil : ∀ st, L [] st = Comp.ok st)
    (hcons : ∀ x xs st, L (x :: xs) st = Comp.bind (TopicsF.get_claim_topic_issuers envr st x) fun l =>
      L xs (TopicsF.Store.set_ClaimTopicIssuers st x (l ++ [i])))
    (xs : List Nat) (st : TopicsF.Store) (hN : xs.Nodup) (hP : ∀ t, t ∈ xs → ∃ l, st.ClaimTopicIssuers t = some l) :
    L xs st = Comp.ok { st with ClaimTopicIssuers := pushIssuer st.ClaimTopicIssuers xs i } := by
  refine loop_pointwise (fun f => { st with ClaimTopicIssuers := f }) L (· ++ [i]) (fun o => ∃ l, o = some l)
    (fun _ => hnil _) ?_ xs st.ClaimTopicIssuers hN hP
  rintro x xs f ⟨l, hl⟩
  rw [hcons, cti_read hl, Comp.bind_ok, hl]
  rfl

/-- the de-listing loop of `remove_trusted_issuer` -/
theorem rti_loop (envr : TopicsF.Reads) (i : Nat) (xs : List Nat) : ∀ (st : TopicsF.Store) (a : Nat) (b c : List Nat),
    xs.Nodup → (∀ t, t ∈ xs → ∃ l, st.ClaimTopicIssuers t = some l) →
    (∀ t l, st.ClaimTopicIssuers t = some l → l.length < 4294967296) →
    TopicsF.remove_trusted_issuer.loop1 envr xs st a b i c =
      Comp.ok { st with ClaimTopicIssuers := dropIssuer st.ClaimTopicIssuers xs i } :=
  fun st a b c => cti_erase_loop envr i (TopicsF.remove_trusted_issuer.loop1 envr · · a b i c) (fun _ => rfl)
    (fun _ _ _ => rfl) xs st

/-- the "no longer assigned" loop of `update_issuer_claim_topics` -/
theorem upd_loop1 (envr : TopicsF.Reads) (i : Nat) (xs : List Nat) : ∀ (st : TopicsF.Store) (a b c d : List Nat),
    xs.Nodup → (∀ t, t ∈ xs → ∃ l, st.ClaimTopicIssuers t = some l) →
    (∀ t l, st.ClaimTopicIssuers t = some l → l.length < 4294967296) →
    TopicsF.update_issuer_claim_topics.loop1 envr xs st a b c d i =
      Comp.ok { st with ClaimTopicIssuers := dropIssuer st.ClaimTopicIssuers xs i } :=
  fun st a b c d => cti_erase_loop envr i (TopicsF.update_issuer_claim_topics.loop1 envr · · a b c d i) (fun _ => rfl)
    (fun _ _ _ => rfl) xs st

/-- the listing loop of `add_trusted_issuer` -/
theorem ati_loop (envr : TopicsF.Reads) (i : Nat) (xs : List Nat) : ∀ (st : TopicsF.Store) (a c : List Nat),
    xs.Nodup → (∀ t, t ∈ xs → ∃ l, st.ClaimTopicIssuers t = some l) →
    TopicsF.add_trusted_issuer.loop1 envr xs st a i c =
      Comp.ok { st with ClaimTopicIssuers := pushIssuer st.ClaimTopicIssuers xs i } :=
  fun st a c => cti_push_loop envr i (TopicsF.add_trusted_issuer.loop1 envr · · a i c) (fun _ => rfl) (fun _ _ _ => rfl) xs st

/-- what the loop of `remove_claim_topic` over the trusted issuers `xs` leaves in the issuer → topics cell -/
def dropTopic (f : Nat → Option (List Nat)) (xs : List Nat) (t : Nat) : Nat → Option (List Nat) :=
  fun i => if i ∈ xs then (f i).map (·.erase t) else f i

/-- the loop of `remove_claim_topic` -/
theorem rct_loop (envr : TopicsF.Reads) (t : Nat) (xs : List Nat) : ∀ (st : TopicsF.Store) (b : List Nat) (a : Nat) (c : List Nat),
    xs.Nodup → (∀ i l, st.IssuerClaimTopics i = some l → l.length < 4294967296) →
    TopicsF.remove_claim_topic.loop1 envr xs st t b a c =
      Comp.ok { st with IssuerClaimTopics := dropTopic st.IssuerClaimTopics xs t } := by
  intro st b a c hN hL
  refine loop_pointwise (fun f => { st with IssuerClaimTopics := f })
    (fun xs s => TopicsF.remove_claim_topic.loop1 envr xs s t b a c) (·.erase t)
    (fun o => ∀ l, o = some l → l.length < 4294967296) (fun _ => rfl) ?_ xs st.IssuerClaimTopics hN
    (fun i _ => hL i)
  -- an issuer without an entry is skipped: nothing is written, and nothing is there for the model to map over
  intro x xs f hC
  show optCase (f x) _ _ = _
  cases hl : f x with
  | none => rw [optCase_none, Option.map_none, update_self hl]
  | some l =>
    rw [optCase_some, ← hl]
    exact erase_round hl (hC l hl) t fun f' => TopicsF.remove_claim_topic.loop1 envr xs { st with IssuerClaimTopics := f' } t b a c

/-- `validate_topics_exist` -/
theorem vte_loop (envr : TopicsF.Reads) (g : List Nat) (xs : List Nat) : ∀ (st : TopicsF.Store) (ts : List Nat),
    TopicsF.validate_topics_exist.loop1 envr xs st g ts = if (∀ t, t ∈ xs → t ∈ g) then Comp.ok () else Comp.panic := by
  induction xs with
  | nil => intro st ts; rw [if_pos (fun _ h => absurd h List.not_mem_nil)]; rfl
  | cons x xs ih =>
    intro st ts
    simp only [TopicsF.validate_topics_exist.loop1, ih, Comp.refuse_else, ← RegGen.ite_and, decide_eq_true_eq, Classical.not_not,
      List.forall_mem_cons]

/-- `validate_no_duplicate_topics`: the indices `k, k+1, ..` of `ts` against the topics seen so far -/
theorem vnd_loop (envr : TopicsF.Reads) (ts : List Nat) (n : Nat) : ∀ (k : Nat) (st : TopicsF.Store) (seen : List Nat),
    k + n = ts.length →
    ((∃ r, TopicsF.validate_no_duplicate_topics.loop1 envr (List.range' k n) st seen ts = Comp.ok r) ↔
      ((ts.drop k).Nodup ∧ ∀ x, x ∈ ts.drop k → x ∉ seen)) := by
  induction n with
  | zero =>
    intro k st seen hk
    rw [List.drop_eq_nil_of_le (show ts.length ≤ k from Nat.le_of_eq hk.symm)]
    exact ⟨fun _ => ⟨List.nodup_nil, fun _ h => absurd h List.not_mem_nil⟩, fun _ => ⟨seen, rfl⟩⟩
  | succ n ih =>
    intro k st seen hk
    have hlt : k < ts.length := hk ▸ Nat.lt_add_of_pos_right (Nat.succ_pos n)
    rw [List.range'_succ, TopicsF.validate_no_duplicate_topics.loop1, List.getElem?_eq_getElem hlt, Comp.unwrap_some,
      List.drop_eq_getElem_cons hlt]
    by_cases hs : ts[k] ∈ seen
    · rw [if_pos (decide_eq_true hs)]
      exact ⟨fun ⟨r, h⟩ => (nomatch h), fun h => absurd hs (h.2 _ List.mem_cons_self)⟩
    · rw [if_neg (fun h => hs (of_decide_eq_true h)),
        ih (k + 1) st (ts[k] :: seen) (by rw [← hk, Nat.add_assoc, Nat.add_comm 1])]
      -- `ts[k]` moves from the list still to be read to the topics seen
      simp only [List.nodup_cons, List.mem_cons, not_or, forall_eq_or_imp, forall_and, hs, not_false_eq_true, true_and]
      exact ⟨fun ⟨h1, h2, h3⟩ => ⟨⟨fun h => h2 _ h rfl, h1⟩, h3⟩, fun ⟨⟨h1, h2⟩, h3⟩ => ⟨h2, fun x hx e => h1 (e ▸ hx), h3⟩⟩

theorem topics_read (envr : TopicsF.Reads) (st : TopicsF.Store) :
    TopicsF.get_claim_topics envr st = Comp.ok (st.ClaimTopics.getD []) := by
  unfold TopicsF.get_claim_topics; cases st.ClaimTopics <;> rfl

theorem issuers_read (envr : TopicsF.Reads) (st : TopicsF.Store) :
    TopicsF.get_trusted_issuers envr st = Comp.ok (st.TrustedIssuers.getD []) := by
  unfold TopicsF.get_trusted_issuers; cases st.TrustedIssuers <;> rfl

theorem trusted_read (envr : TopicsF.Reads) (st : TopicsF.Store) (i : Nat) :
    TopicsF.is_trusted_issuer envr st i = Comp.ok (decide (i ∈ st.TrustedIssuers.getD [])) := by
  unfold TopicsF.is_trusted_issuer; rw [issuers_read, Comp.bind_ok]

theorem issuer_topics_read {st : TopicsF.Store} {i : Nat} {l : List Nat} (hl : st.IssuerClaimTopics i = some l)
    (envr : TopicsF.Reads) : TopicsF.get_trusted_issuer_claim_topics envr st i = Comp.ok l :=
  congrArg (optCase · Comp.ok Comp.panic) hl

theorem bind_unit_eq_ite {α : Type} {c : Comp α} {P : Prop} [Decidable P] (h : (∃ r, c = Comp.ok r) ↔ P) :
    Comp.bind c (fun _ => Comp.ok ()) = if P then Comp.ok () else Comp.panic := by
  cases c with
  | ok a => rw [if_pos (h.1 ⟨a, rfl⟩), Comp.bind_ok]
  | panic => rw [if_neg (fun hp => nomatch h.2 hp), Comp.bind_panic]

theorem vnd_eq (envr : TopicsF.Reads) (st : TopicsF.Store) (ts : List Nat) :
    TopicsF.validate_no_duplicate_topics envr st ts = if ts.Nodup then Comp.ok () else Comp.panic := by
  have h := vnd_loop envr ts ts.length 0 st [] (Nat.zero_add _)
  rw [List.drop_zero, and_iff_left (fun _ _ h => nomatch h)] at h
  exact bind_unit_eq_ite h

theorem vte_eq (envr : TopicsF.Reads) (st : TopicsF.Store) (ts : List Nat) :
    TopicsF.validate_topics_exist envr st ts =
      if (∀ t, t ∈ ts → t ∈ st.ClaimTopics.getD []) then Comp.ok () else Comp.panic := by
  unfold TopicsF.validate_topics_exist
  rw [topics_read, Comp.bind_ok, vte_loop]
  exact Comp.bind_require () _

theorem validated {β : Type} (envr : TopicsF.Reads) (st : TopicsF.Store) (ts : List Nat) (K : Comp β) :
    (if ((List.isEmpty ts) = true) then Comp.panic
      else (if ((List.length ts) > (15 : Nat)) then Comp.panic
        else (Comp.bind (TopicsF.validate_no_duplicate_topics envr st ts) fun _ =>
          (Comp.bind (TopicsF.validate_topics_exist envr st ts) fun _ => K)))) =
      if (ts ≠ [] ∧ ts.length ≤ MAX_CLAIM_TOPICS ∧ ts.Nodup ∧ ∀ t, t ∈ ts → t ∈ st.ClaimTopics.getD []) then K else Comp.panic := by
  rw [vnd_eq, vte_eq, Comp.bind_require, Comp.bind_require]
  simp only [RegGen.ite_and, ne_eq, ite_not, List.isEmpty_iff, MAX_CLAIM_TOPICS, ← Nat.not_lt, gt_iff_lt]

/-- a stored vector is duplicate-free inside a list of at most 50 or 15 -/
theorem cti_len {s : State} (hI : Inv s) (t : Nat) (l : List Nat) (h : s.topicIssuers t = some l) :
    l.length < 4294967296 :=
  have h1 := (hI.tiN t l h).length_le_of_subset fun x hx => hI.core.tiSub ⟨l, h, hx⟩
  Nat.lt_of_le_of_lt (Nat.le_trans h1 hI.iLe) (by decide)

theorem ict_len {s : State} (hI : Inv s) (i : Nat) (l : List Nat) (h : s.issuerTopics i = some l) :
    l.length < 4294967296 :=
  have h1 := (hI.itN i l h).length_le_of_subset fun x hx => hI.itSub i x ⟨l, h, hx⟩
  Nat.lt_of_le_of_lt (Nat.le_trans h1 hI.tLe) (by decide)

theorem present_of_topic {s : State} (hI : Inv s) {t : Nat} (ht : t ∈ s.topics) : ∃ l, s.topicIssuers t = some l :=
  Option.isSome_iff_exists.1 ((hI.tiDom t).2 ht)

theorem sim_of_iff {c : Comp (Unit × TopicsF.Store)} {m : Except RErr State} {P : Prop} {Q : State → Prop}
    (hiff : ∀ s', m = .ok s' ↔ P ∧ Q s')
    (hpos : P → ∃ s', Q s' ∧ ∃ st', c = Comp.ok ((), st') ∧ Abs st' s') (hneg : ¬ P → c = Comp.panic) : Sim c m := by
  by_cases hp : P
  · obtain ⟨s', hq, h⟩ := hpos hp
    rw [(hiff s').2 ⟨hp, hq⟩]
    exact h
  · cases hm : m with
    | ok s' => exact absurd ((hiff s').1 hm).1 hp
    | error e => exact hneg hp

theorem sim_guard {c : Comp (Unit × TopicsF.Store)} {m : Except RErr State} {P : Prop} [Decidable P] {Q : State → Prop}
    (hiff : ∀ s', m = .ok s' ↔ P ∧ Q s')
    (hpos : P → ∃ s', Q s' ∧ ∃ st', c = Comp.ok ((), st') ∧ Abs st' s') : Sim (if P then c else Comp.panic) m :=
  sim_of_iff hiff (fun hp => if_pos hp ▸ hpos hp) fun hp => if_neg hp

/-- **generated = model** for `add_claim_topic` -/
theorem add_topic_ref (envr : TopicsF.Reads) (st : TopicsF.Store) (s : State) (hA : Abs st s) (t : Nat) :
    Sim (TopicsF.add_claim_topic envr st t) (addClaimTopic s t) := by
  obtain rfl := hA.eq
  unfold TopicsF.add_claim_topic
  rw [topics_read, Comp.bind_ok]
  simp only [Comp.refuse_else, ← RegGen.ite_and, ge_iff_le, Nat.not_le, decide_eq_true_eq]
  refine sim_guard (addClaimTopic_ok_iff _ · t) fun _ => ?_
  exact ⟨_, rfl, _, rfl, rfl, rfl, rfl, rfl⟩

/-- **generated = model** for `remove_claim_topic` -/
theorem remove_topic_ref (envr : TopicsF.Reads) (st : TopicsF.Store) (s : State) (hA : Abs st s) (hI : Inv s) (t : Nat) :
    Sim (TopicsF.remove_claim_topic envr st t) (removeClaimTopic s t) := by
  obtain rfl := hA.eq
  unfold TopicsF.remove_claim_topic
  rw [topics_read, Comp.bind_ok]
  refine sim_of_iff (removeClaimTopic_ok_iff _ · t) ?_ ?_
  · intro hm
    obtain ⟨p, hp, he⟩ := RegGen.position_of_mem (M := 4294967296) hm (Nat.le_trans hI.tLe (by decide))
    rw [hp, optCase_some, he, issuers_read, Comp.bind_ok,
      rct_loop envr t ((TopicsF.Store.set_ClaimTopics st _).TrustedIssuers.getD []) (TopicsF.Store.set_ClaimTopics st _) _ _ _ hI.iN (ict_len hI), Comp.bind_ok]
    exact ⟨_, rfl, _, rfl, rfl, rfl, rfl, rfl⟩
  · intro hm
    rw [RegGen.position_eq_none_iff.2 hm, optCase_none]

/-- **generated = model** for `add_trusted_issuer` -/
theorem add_issuer_ref (envr : TopicsF.Reads) (st : TopicsF.Store) (s : State) (hA : Abs st s) (hI : Inv s) (i : Nat) (ts : List Nat) :
    Sim (TopicsF.add_trusted_issuer envr st i ts) (addTrustedIssuer s i ts) := by
  obtain rfl := hA.eq
  unfold TopicsF.add_trusted_issuer
  rw [validated, issuers_read, Comp.bind_ok]
  simp only [Comp.refuse_else, ← RegGen.ite_and, ge_iff_le, Nat.not_le, decide_eq_true_eq]
  refine sim_guard (addTrustedIssuer_ok_iff hI · i ts) fun ⟨hv, _⟩ => ?_
  rw [ati_loop envr i ts (TopicsF.Store.set_IssuerClaimTopics (TopicsF.Store.set_TrustedIssuers st _) i ts) _ _
      hv.2.2.1 (fun t ht => present_of_topic hI (hv.2.2.2 t ht)), Comp.bind_ok]
  exact ⟨_, rfl, _, rfl, rfl, rfl, rfl, rfl⟩

/-- **generated = model** for `remove_trusted_issuer` -/
theorem remove_issuer_ref (envr : TopicsF.Reads) (st : TopicsF.Store) (s : State) (hA : Abs st s) (hI : Inv s) (i : Nat) :
    Sim (TopicsF.remove_trusted_issuer envr st i) (removeTrustedIssuer s i) := by
  obtain rfl := hA.eq
  unfold TopicsF.remove_trusted_issuer
  rw [issuers_read, Comp.bind_ok]
  refine sim_of_iff (removeTrustedIssuer_ok_iff hI · i) ?_ ?_
  · intro hi
    obtain ⟨its, hits⟩ := Option.isSome_iff_exists.1 ((hI.itDom i).2 hi)
    obtain ⟨p, hp, he⟩ := RegGen.position_of_mem (M := 4294967296) hi (Nat.le_trans hI.iLe (by decide))
    refine ⟨_, ⟨its, hits, rfl⟩, ?_⟩
    rw [hp, optCase_some, he, issuer_topics_read hits, Comp.bind_ok,
      rti_loop envr i its (TopicsF.Store.del_IssuerClaimTopics (TopicsF.Store.set_TrustedIssuers st _) i) _ _ _
        (hI.itN i its hits)
        (fun t ht => present_of_topic hI (hI.itSub i t ⟨its, hits, ht⟩)) (cti_len hI), Comp.bind_ok]
    exact ⟨_, rfl, rfl, rfl, rfl, rfl⟩
  · intro hi
    rw [RegGen.position_eq_none_iff.2 hi, optCase_none]

theorem filter_not_mem (a b : List Nat) :
    List.filter (fun x => decide (¬ x ∈ b)) a = a.filter (fun t => !b.contains t) := by
  congr 1; funext x; simp

/-- **generated = model** for `update_issuer_claim_topics` -/
theorem update_ref (envr : TopicsF.Reads) (st : TopicsF.Store) (s : State) (hA : Abs st s) (hI : Inv s) (i : Nat) (ts : List Nat) :
    Sim (TopicsF.update_issuer_claim_topics envr st i ts) (updateIssuerClaimTopics s i ts) := by
  obtain rfl := hA.eq
  unfold TopicsF.update_issuer_claim_topics
  rw [validated, trusted_read, Comp.bind_ok]
  simp only [← RegGen.ite_and, decide_eq_true_eq]
  refine sim_guard (update_ok_iff hI · i ts) fun ⟨hv, h5⟩ => ?_
  obtain ⟨old, hold⟩ := Option.isSome_iff_exists.1 ((hI.itDom i).2 h5)
  refine ⟨_, ⟨old, hold, rfl⟩, ?_⟩
  rw [issuer_topics_read hold, Comp.bind_ok, filter_not_mem, filter_not_mem,
    upd_loop1 envr i _ (TopicsF.Store.set_IssuerClaimTopics st i ts) _ _ _ _ ((hI.itN i old hold).filter _)
      (fun t ht => present_of_topic hI (hI.itSub i t ⟨old, hold, (List.mem_filter.1 ht).1⟩)) (cti_len hI),
    Comp.bind_ok,
    cti_push_loop envr i (TopicsF.update_issuer_claim_topics.loop2 envr · · _ _ _ _ i) (fun _ => rfl) (fun _ _ _ => rfl) _ _
      (hv.2.2.1.filter _)
      -- the de-listing loop removes no entry
      (fun t ht => Option.isSome_iff_exists.1
        ((isSome_dropIssuer _ _ i t).trans ((hI.tiDom t).2 (hv.2.2.2 t (List.mem_filter.1 ht).1)))),
    Comp.bind_ok]
  exact ⟨_, rfl, rfl, rfl, rfl, rfl⟩

def envr0 : TopicsF.Reads := ⟨⟩

def genCall (st : TopicsF.Store) : Op → Comp (Unit × TopicsF.Store)
  | .addTopic t => TopicsF.add_claim_topic envr0 st t
  | .removeTopic t => TopicsF.remove_claim_topic envr0 st t
  | .addIssuer i ts => TopicsF.add_trusted_issuer envr0 st i ts
  | .removeIssuer i => TopicsF.remove_trusted_issuer envr0 st i
  | .update i ts => TopicsF.update_issuer_claim_topics envr0 st i ts

/-- a failed invocation is rolled back by the host -/
def genNext (st : TopicsF.Store) (o : Op) : TopicsF.Store :=
  match genCall st o with
  | Comp.ok (_, st') => st'
  | Comp.panic => st

def genRun (st : TopicsF.Store) (ops : List Op) : TopicsF.Store := ops.foldl genNext st

/-- **one call**: generated entry point = model step, in every state satisfying the registry invariant -/
theorem call_refines (st : TopicsF.Store) (s : State) (hA : Abs st s) (hI : Inv s) (o : Op) :
    Sim (genCall st o) (step s o) := by
  cases o with
  | addTopic t => exact add_topic_ref envr0 st s hA t
  | removeTopic t => exact remove_topic_ref envr0 st s hA hI t
  | addIssuer i ts => exact add_issuer_ref envr0 st s hA hI i ts
  | removeIssuer i => exact remove_issuer_ref envr0 st s hA hI i
  | update i ts => exact update_ref envr0 st s hA hI i ts

/-- **every history**: whatever finite sequence of topic / issuer operations is run from a store that represents a
model state satisfying the invariant (the fresh registry is one: `store0_abs`), the generated store follows the model
state -/
theorem run_refines (ops : List Op) : ∀ (st : TopicsF.Store) (s : State), Abs st s → Inv s →
    Abs (genRun st ops) (run s ops) ∧ Inv (run s ops) := by
  induction ops with
  | nil => intro st s hA hI; exact ⟨hA, hI⟩
  | cons o os ih =>
    intro st s hA hI
    refine ih _ _ ?_ (inv_next hI o)
    have h := call_refines st s hA hI o
    unfold genNext next
    cases hm : step s o with
    | error e => rw [hm] at h; simp only [Sim] at h; rw [h]; exact hA
    | ok s' => rw [hm] at h; obtain ⟨st', h1, h2⟩ := h; rw [h1]; exact h2

def store0 : TopicsF.Store := ⟨none, fun _ => none, none, fun _ => none⟩

theorem store0_abs : Abs store0 init := ⟨rfl, rfl, rfl, rfl⟩

/-- **C15 / C20 on the generated code, the two directions of the trust relation agree**: after every history,
issuer `i` is listed under topic `t` in `ClaimTopicIssuers` (what `verify_identity` iterates) exactly if `t` is
listed under `i` in `IssuerClaimTopics` (what `has_claim_topic` reads), every listed issuer is a trusted issuer and
every listed topic a registered claim topic -/
theorem gen_trust_relation_two_way (ops : List Op) (i t : Nat) :
    ((∃ l, (genRun store0 ops).IssuerClaimTopics i = some l ∧ t ∈ l) ↔
      (∃ l, (genRun store0 ops).ClaimTopicIssuers t = some l ∧ i ∈ l)) ∧
    ((∃ l, (genRun store0 ops).ClaimTopicIssuers t = some l ∧ i ∈ l) →
      i ∈ ((genRun store0 ops).TrustedIssuers).getD [] ∧ t ∈ ((genRun store0 ops).ClaimTopics).getD []) := by
  obtain ⟨hA, hI⟩ := run_refines ops store0 init store0_abs inv_init
  rw [hA.issuerTopics, hA.topicIssuers, hA.issuers, hA.topics]
  exact ⟨hI.twoWay i t, fun h => ⟨hI.core.tiSub h, hI.itSub i t ((hI.twoWay i t).2 h)⟩⟩

/-- **C20 on the generated code, limits and no repetition**: after every history the stored topic list has no
repetition and at most 15 entries, the stored issuer list no repetition and at most 50 -/
theorem gen_lists_bounded (ops : List Op) :
    (((genRun store0 ops).ClaimTopics).getD []).Nodup ∧ (((genRun store0 ops).ClaimTopics).getD []).length ≤ 15 ∧
    (((genRun store0 ops).TrustedIssuers).getD []).Nodup ∧ (((genRun store0 ops).TrustedIssuers).getD []).length ≤ 50 := by
  obtain ⟨hA, hI⟩ := run_refines ops store0 init store0_abs inv_init
  rw [hA.issuers, hA.topics]
  exact ⟨hI.tN, hI.tLe, hI.iN, hI.iLe⟩

def demoOps : List Op :=
  [.addTopic 1, .addTopic 2, .addIssuer 7 [1, 2], .addIssuer 8 [2], .update 8 [2, 1], .removeIssuer 7, .removeTopic 2]

example : (genRun store0 demoOps).ClaimTopicIssuers 1 = some [8] ∧ (genRun store0 demoOps).ClaimTopicIssuers 2 = none ∧
    (genRun store0 demoOps).IssuerClaimTopics 8 = some [1] ∧ (genRun store0 demoOps).TrustedIssuers = some [8] := by
  decide

end OZ.Gen.TopicsF
