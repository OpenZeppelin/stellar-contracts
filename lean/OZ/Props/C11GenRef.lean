import OZ.Gen.NftF
import OZ.Lemmas.NftGen
import OZ.Props.C10
import OZ.Props.C11
/-
C10 / C11 — REFINEMENT of the whole Base NFT, re-checked on every run against what the SOURCE says now.

`lean/OZ/Gen/NftF.lean` is regenerated by `/verif/tools/rs2lean.py --nft-full` (state-passing mode; `Owner(id)` and
`Balance(account)` persistent, `Approval(id)` and `ApprovalForAll(owner, operator)` TEMPORARY WITH THEIR
LIFETIME, host rules of OZ/Model/Host.lean) from /repo's current `packages/tokens/src/non_fungible/storage.rs`
(`balance`, `owner_of`, `get_approved`, `is_approved_for_all`, `transfer`, `transfer_from`, `approve`,
`approve_for_all`, `update`, `approve_for_owner`, `check_spender_approval`, `increase_balance`,
`decrease_balance`, `mint`) and `extensions/burnable/storage.rs` (`burn`, `burn_from`).

This file proves that EVERY generated entry point computes exactly the hand model's step
(`OZ.Nft.apply`, OZ/Model/Nft.lean) under the abstraction map `Abs` of the store (`step_refines`), hence that
every finite history of generated calls and ledger movements follows the model's `run` (`run_refines`), and
transports the model's history-level theorems to the getters of the generated code.  Not translated (and so
not part of the histories here): `sequential_mint` (the id counter of `utils/sequential`) and the metadata /
URI functions.  Hypothesis: minimum temporary lifetime ≥ 1 (the host's is 16).
-/
namespace OZ.Gen.NftF
open OZ.Rs OZ.Host

def cfgOf (envr : NftF.Reads) : Cfg := ⟨envr.min_temp_ttl, envr.max_ttl⟩
def conv (d : NftF.ApprovalData) : OZ.Nft.ApprovalData := ⟨d.approved, d.live_until_ledger⟩
def convT (t : Temp NftF.ApprovalData) : Temp OZ.Nft.ApprovalData := ⟨conv t.val, t.liveUntil⟩

/-- store and reads seen as the approval part of the model's core -/
def AbsC (envr : NftF.Reads) (st : NftF.Store) (c : OZ.Nft.Core) : Prop :=
  c.now = envr.ledger_sequence ∧ (∀ id, c.approval id = (st.Approval id).map convT) ∧
  (∀ o p, c.operator o p = st.ApprovalForAll o p)

def passes {α : Type} (x : Comp α) : Bool :=
  match x with
  | .ok _ => true
  | .panic => false

/-- **generated = model**: `get_approved` -/
theorem get_approved_eq (envr : NftF.Reads) (st : NftF.Store) (c : OZ.Nft.Core) (hA : AbsC envr st c) (id : Nat) :
    NftF.get_approved envr st id = .ok (OZ.Nft.getApproved c id) :=
  getApproved_shape conv (hA.2.1 id) hA.1

/-- **generated = model**: `is_approved_for_all` -/
theorem is_approved_for_all_eq (envr : NftF.Reads) (st : NftF.Store) (c : OZ.Nft.Core) (hA : AbsC envr st c) (o p : Nat) :
    NftF.is_approved_for_all envr st o p = .ok (OZ.Nft.isApprovedForAll c o p) :=
  isApprovedForAll_shape (hA.2.2 o p) hA.1

theorem check_spender_ref {envr : NftF.Reads} {st : NftF.Store} {c : OZ.Nft.Core} (hA : AbsC envr st c)
    (spender owner id : Nat) :
    NftF.check_spender_approval envr st spender owner id = Comp.ofExcept (OZ.Nft.checkSpenderApproval c spender owner id) :=
  checkSpender_shape (get_approved_eq envr st c hA id) (is_approved_for_all_eq envr st c hA owner spender)

/-- **generated = model**: `check_spender_approval` -/
theorem check_spender_approval_eq (envr : NftF.Reads) (st : NftF.Store) (c : OZ.Nft.Core) (hA : AbsC envr st c)
    (spender owner id : Nat) :
    passes (NftF.check_spender_approval envr st spender owner id) = (OZ.Nft.checkSpenderApproval c spender owner id).isOk := by
  rw [check_spender_ref hA]
  exact passes_ofExcept _ passes (fun _ => rfl) rfl

def Wrote (envr : NftF.Reads) (st : NftF.Store) (c : OZ.Nft.Core) (st' : NftF.Store) (c' : OZ.Nft.Core) : Prop :=
  AbsC envr st' c' ∧ c'.bal = c.bal ∧ st'.Owner = st.Owner ∧ st'.Balance = st.Balance

theorem approve_for_all_ref {envr : NftF.Reads} {st : NftF.Store} {c : OZ.Nft.Core} (hA : AbsC envr st c)
    (hmin : 1 ≤ envr.min_temp_ttl) {auth : List Nat} (hauth : ∀ a, envr.authorized a = decide (a ∈ auth))
    (owner operator lu : Nat) :
    Sim (onStore (Wrote envr st c)) (NftF.approve_for_all envr st owner operator lu)
      (OZ.Nft.approveForAll (cfgOf envr) c auth owner operator lu) := by
  unfold NftF.approve_for_all OZ.Nft.approveForAll
  refine Sim.test (auth_iff hauth owner) fun _ => ?_
  rw [storeOperator_eq, hA.2.2 owner operator, ← hA.1]
  refine writeOrClear_sim (cfgOf envr) hmin _ c.now lu lu (if_pos ⟨rfl, rfl⟩)
    ⟨AbsCells.operator hA owner operator none, rfl, rfl, rfl⟩ fun e => ⟨?_, rfl, rfl, rfl⟩
  -- the code writes the cell twice: what `set` left, then the extended entry over it
  rw [← upd2_upd2 c.operator owner operator (some (Temp.set (cfgOf envr) (st.ApprovalForAll owner operator) c.now lu))]
  exact AbsCells.operator (AbsCells.operator hA owner operator _) owner operator (some e)

/-- **generated = model**: `approve_for_all` (the authorization predicate being membership in `auth`) -/
theorem approve_for_all_eq (envr : NftF.Reads) (st : NftF.Store) (c : OZ.Nft.Core) (hA : AbsC envr st c)
    (hmin : 1 ≤ envr.min_temp_ttl) (auth : List Nat) (hauth : ∀ a, envr.authorized a = decide (a ∈ auth))
    (owner operator lu : Nat) :
    match OZ.Nft.approveForAll (cfgOf envr) c auth owner operator lu with
    | .ok c' => ∃ st', NftF.approve_for_all envr st owner operator lu = .ok ((), st') ∧ AbsC envr st' c'
    | .error _ => ((NftF.approve_for_all envr st owner operator lu).bind fun _ => Comp.ok ()) = .panic := by
  have h := approve_for_all_ref hA hmin hauth owner operator lu
  split
  · obtain ⟨st', h1, h2⟩ := h.of_ok_store ‹_›
    exact ⟨st', h1, h2.1⟩
  · rw [h.of_error ‹_›]; rfl

theorem approve_for_owner_ref {envr : NftF.Reads} {st : NftF.Store} {c : OZ.Nft.Core} (hA : AbsC envr st c)
    (hmin : 1 ≤ envr.min_temp_ttl) (owner approver approved id lu : Nat) :
    Sim (onStore (Wrote envr st c)) (NftF.approve_for_owner envr st owner approver approved id lu)
      (OZ.Nft.approveForOwner (cfgOf envr) c owner approver approved id lu) := by
  unfold NftF.approve_for_owner OZ.Nft.approveForOwner
  refine approverGate_sim (is_approved_for_all_eq envr st c hA owner approver) ?_
  rw [storeApproval_mapT conv _ c id (hA.2.1 id) (⟨approved, lu⟩ : NftF.ApprovalData) ⟨approved, lu⟩ rfl, ← hA.1]
  refine writeOrClear_sim (cfgOf envr) hmin _ c.now lu _ (if_pos rfl)
    ⟨AbsCells.approval hA id none, rfl, rfl, rfl⟩ fun e => ⟨?_, rfl, rfl, rfl⟩
  rw [← upd_upd c.approval id (some (convT (Temp.set (cfgOf envr) (st.Approval id) c.now (⟨approved, lu⟩ : NftF.ApprovalData))))]
  exact AbsCells.approval (AbsCells.approval hA id (some _)) id (some e)

/-- **generated = model**: `approve_for_owner` -/
theorem approve_for_owner_eq (envr : NftF.Reads) (st : NftF.Store) (c : OZ.Nft.Core) (hA : AbsC envr st c)
    (hmin : 1 ≤ envr.min_temp_ttl) (owner approver approved id lu : Nat) :
    match OZ.Nft.approveForOwner (cfgOf envr) c owner approver approved id lu with
    | .ok c' => ∃ st', NftF.approve_for_owner envr st owner approver approved id lu = .ok ((), st') ∧ AbsC envr st' c'
    | .error _ => ((NftF.approve_for_owner envr st owner approver approved id lu).bind fun _ => Comp.ok ()) = .panic := by
  have h := approve_for_owner_ref hA hmin owner approver approved id lu
  split
  · obtain ⟨st', h1, h2⟩ := h.of_ok_store ‹_›
    exact ⟨st', h1, h2.1⟩
  · rw [h.of_error ‹_›]; rfl

/-- the store (at the ledger of `envr`) represents the model state `s` (the id counter of the sequential
extension is not part of the translated code) -/
structure Abs (envr : NftF.Reads) (st : NftF.Store) (s : OZ.Nft.State) : Prop where
  core : AbsC envr st s.toCore
  bal : ∀ a, s.bal a = (st.Balance a).getD 0
  owner : ∀ id, s.owner id = st.Owner id

theorem Wrote.abs {envr : NftF.Reads} {st st' : NftF.Store} {s : OZ.Nft.State} {c' : OZ.Nft.Core}
    (h : Wrote envr st s.toCore st' c') (hA : Abs envr st s) : Abs envr st' { s with toCore := c' } :=
  ⟨h.1, fun a => by rw [h.2.2.2]; exact (congrFun h.2.1 a).trans (hA.bal a), fun i => by rw [h.2.2.1]; exact hA.owner i⟩

theorem balance_ref {envr : NftF.Reads} {st : NftF.Store} {s : OZ.Nft.State} (hA : Abs envr st s) (a : Nat) :
    NftF.balance envr st a = .ok (s.bal a) := by
  rw [hA.bal a]
  unfold NftF.balance
  cases st.Balance a <;> rfl

theorem owner_of_ref {envr : NftF.Reads} {st : NftF.Store} {s : OZ.Nft.State} (hA : Abs envr st s) (id : Nat) :
    NftF.owner_of envr st id = Comp.ofExcept (OZ.Nft.ownerOf s id) := by
  unfold NftF.owner_of OZ.Nft.ownerOf
  rw [hA.owner id]
  cases st.Owner id <;> rfl

theorem abs_setBalance {envr : NftF.Reads} {st : NftF.Store} {s : OZ.Nft.State} (hA : Abs envr st s) (a v : Nat) :
    Abs envr (NftF.Store.set_Balance st a v) { s with toCore := { s.toCore with bal := upd s.bal a v } } := by
  refine ⟨hA.core, fun x => ?_, hA.owner⟩
  simp only [NftF.Store.set_Balance, upd]
  by_cases h : x = a
  · rw [if_pos h, if_pos h]; rfl
  · rw [if_neg h, if_neg h]; exact hA.bal x

theorem increase_balance_sim {envr : NftF.Reads} {st : NftF.Store} {s : OZ.Nft.State} (hA : Abs envr st s) (to amt : Nat) :
    Sim (onStore (fun st' c' => Abs envr st' { s with toCore := c' })) (NftF.increase_balance envr st to amt)
      (OZ.Nft.increaseBalance s.toCore to amt) := by
  unfold OZ.Nft.increaseBalance NftF.increase_balance
  rw [balance_ref hA]
  simp only [Comp.bind_ok, uN_checked_add]
  by_cases h : s.bal to + amt > U32_MAX
  · rw [if_pos h, if_neg (by unfold U32_MAX at h; omega)]; rfl
  · rw [if_neg h, if_pos (by unfold U32_MAX at h; omega)]
    exact Sim.pure (abs_setBalance hA to _)

theorem increase_balance_ref {envr : NftF.Reads} {st : NftF.Store} {s : OZ.Nft.State} (hA : Abs envr st s) (to amt : Nat) :
    match OZ.Nft.increaseBalance s.toCore to amt with
    | .ok c' => ∃ st', NftF.increase_balance envr st to amt = .ok ((), st') ∧ Abs envr st' { s with toCore := c' }
    | .error _ => NftF.increase_balance envr st to amt = .panic := by
  have h := increase_balance_sim hA to amt
  split
  · exact h.of_ok_store ‹_›
  · exact h.of_error ‹_›

theorem decrease_balance_sim {envr : NftF.Reads} {st : NftF.Store} {s : OZ.Nft.State} (hA : Abs envr st s) (f amt : Nat) :
    Sim (onStore (fun st' c' => Abs envr st' { s with toCore := c' })) (NftF.decrease_balance envr st f amt)
      (OZ.Nft.decreaseBalance s.toCore f amt) := by
  unfold OZ.Nft.decreaseBalance NftF.decrease_balance
  rw [balance_ref hA]
  simp only [Comp.bind_ok, uN_checked_sub]
  by_cases h : s.bal f < amt
  · rw [if_pos h, if_neg (by omega)]; rfl
  · rw [if_neg h, if_pos (by omega)]
    exact Sim.pure (abs_setBalance hA f _)

theorem decrease_balance_ref {envr : NftF.Reads} {st : NftF.Store} {s : OZ.Nft.State} (hA : Abs envr st s) (f amt : Nat) :
    match OZ.Nft.decreaseBalance s.toCore f amt with
    | .ok c' => ∃ st', NftF.decrease_balance envr st f amt = .ok ((), st') ∧ Abs envr st' { s with toCore := c' }
    | .error _ => NftF.decrease_balance envr st f amt = .panic := by
  have h := decrease_balance_sim hA f amt
  split
  · exact h.of_ok_store ‹_›
  · exact h.of_error ‹_›

theorem abs_clearApproval {envr : NftF.Reads} {st : NftF.Store} {s : OZ.Nft.State} (hA : Abs envr st s) (id : Nat) :
    Abs envr (NftF.Store.del_Approval st id) { s with toCore := OZ.Nft.clearApproval s.toCore id } :=
  ⟨AbsCells.approval hA.core id none, hA.bal, hA.owner⟩

theorem abs_setOwner {envr : NftF.Reads} {st : NftF.Store} {s : OZ.Nft.State} (hA : Abs envr st s) (id : Nat) (v : Option Nat) :
    Abs envr (match v with | some t => NftF.Store.set_Owner st id t | none => NftF.Store.del_Owner st id)
      { s with owner := upd s.owner id v } := by
  refine ⟨?_, ?_, fun i => ?_⟩
  · cases v <;> exact hA.core
  · cases v <;> exact hA.bal
  · cases v with
    | none =>
      simp only [upd, NftF.Store.del_Owner]
      by_cases hi : i = id
      · rw [if_pos hi, if_pos hi]
      · rw [if_neg hi, if_neg hi]; exact hA.owner i
    | some t =>
      simp only [upd, NftF.Store.set_Owner]
      by_cases hi : i = id
      · rw [if_pos hi, if_pos hi]
      · rw [if_neg hi, if_neg hi]; exact hA.owner i

/-- the second half of the generated `update` (the `to` branch), as it appears in both arms of the first -/
def genCredit (envr : NftF.Reads) (st : NftF.Store) (to : Option Nat) (id : Nat) : Comp (Unit × NftF.Store) :=
  optCase to
    (fun t => Comp.bind (NftF.increase_balance envr st t (1 : Nat)) fun r => Comp.ok ((), NftF.Store.set_Owner r.2 id t))
    (Comp.ok ((), NftF.Store.del_Owner st id))

theorem update_none (envr : NftF.Reads) (st : NftF.Store) (to : Option Nat) (id : Nat) :
    NftF.update envr st none to id = genCredit envr st to id := rfl

theorem update_some (envr : NftF.Reads) (st : NftF.Store) (f : Nat) (to : Option Nat) (id : Nat) :
    NftF.update envr st (some f) to id =
      Comp.bind (NftF.owner_of envr st id) fun o =>
        if o ≠ f then Comp.panic
        else Comp.bind (NftF.decrease_balance envr st f (1 : Nat)) fun t3 =>
          genCredit envr (NftF.Store.del_Approval t3.2 id) to id := rfl

theorem credit_sim {envr : NftF.Reads} {st : NftF.Store} {s : OZ.Nft.State} (hA : Abs envr st s) (to : Option Nat) (id : Nat) :
    Sim (onStore (Abs envr)) (genCredit envr st to id) (OZ.Nft.credit s to id) := by
  cases to with
  | none => exact Sim.pure (abs_setOwner hA id none)
  | some t => exact (increase_balance_sim hA t 1).bind fun _ _ h1 => Sim.pure (abs_setOwner h1 id (some t))

theorem credit_ref {envr : NftF.Reads} {st : NftF.Store} {s : OZ.Nft.State} (hA : Abs envr st s) (to : Option Nat) (id : Nat) :
    match OZ.Nft.credit s to id with
    | .ok s' => ∃ st', genCredit envr st to id = .ok ((), st') ∧ Abs envr st' s'
    | .error _ => genCredit envr st to id = .panic := by
  have h := credit_sim hA to id
  split
  · exact h.of_ok_store ‹_›
  · exact h.of_error ‹_›

theorem update_sim {envr : NftF.Reads} {st : NftF.Store} {s : OZ.Nft.State} (hA : Abs envr st s)
    (frm to : Option Nat) (id : Nat) :
    Sim (onStore (Abs envr)) (NftF.update envr st frm to id) (OZ.Nft.update s frm to id) := by
  cases frm with
  | none => exact credit_sim hA to id
  | some f =>
    rw [update_some]
    unfold OZ.Nft.update OZ.Nft.debit
    simp only [bind_assoc, pure_bind]
    refine Sim.read (owner_of_ref hA id) fun o _ => ?_
    unfold OZ.Nft.checkOwner
    by_cases hne : o ≠ f
    · rw [if_pos hne, if_pos hne]; rfl
    · rw [if_neg hne, if_neg hne]
      show Sim _ _ (OZ.Nft.decreaseBalance s.toCore f 1 >>= _)
      exact (decrease_balance_sim hA f 1).bind fun _ _ h1 => credit_sim (abs_clearApproval h1 id) to id

/-- **generated `Base::update` = the model's** -/
theorem update_ref {envr : NftF.Reads} {st : NftF.Store} {s : OZ.Nft.State} (hA : Abs envr st s)
    (frm to : Option Nat) (id : Nat) :
    match OZ.Nft.update s frm to id with
    | .ok s' => ∃ st', NftF.update envr st frm to id = .ok ((), st') ∧ Abs envr st' s'
    | .error _ => NftF.update envr st frm to id = .panic := by
  have h := update_sim hA frm to id
  split
  · exact h.of_ok_store ‹_›
  · exact h.of_error ‹_›

/-- the generated entry point of a model operation (`mintSeq` / `batchMint` belong to extensions that are not
translated: they are no operations of the generated token) -/
def genCall (envr : NftF.Reads) (st : NftF.Store) : OZ.Nft.Op → Comp (Unit × NftF.Store)
  | .mint to id => NftF.mint envr st to id
  | .transfer f t id => NftF.transfer envr st f t id
  | .transferFrom sp f t id => NftF.transfer_from envr st sp f t id
  | .approve ap a id lu => NftF.approve envr st ap a id lu
  | .approveForAll o p lu => NftF.approve_for_all envr st o p lu
  | .burn f id => NftF.burn envr st f id
  | .burnFrom sp f id => NftF.burn_from envr st sp f id
  | _ => Comp.panic

def Translated : OZ.Nft.Op → Prop
  | .mintSeq _ => False
  | .batchMint _ _ => False
  | .advance _ => False
  | _ => True

theorem apply_sim {envr : NftF.Reads} {st : NftF.Store} {s : OZ.Nft.State} (hA : Abs envr st s)
    (hmin : 1 ≤ envr.min_temp_ttl) {auth : List Nat} (hauth : ∀ a, envr.authorized a = decide (a ∈ auth))
    (op : OZ.Nft.Op) (hop : Translated op) :
    Sim (onStore (fun st' p => Abs envr st' p.1)) (genCall envr st op) (OZ.Nft.apply (cfgOf envr) s auth op) := by
  cases op with
  | mintSeq to | batchMint to n | advance n => exact hop.elim
  | mint to id => exact (update_sim hA none (some to) id).map _ (fun s => (s, none)) fun _ _ h => h
  | transfer f t id =>
    exact (Sim.test (auth_iff hauth f) fun _ => (update_sim hA (some f) (some t) id).tail).mapR (fun s => (s, none)) fun _ _ h => h
  | burn f id =>
    exact (Sim.test (auth_iff hauth f) fun _ => (update_sim hA (some f) none id).tail).mapR (fun s => (s, none)) fun _ _ h => h
  | transferFrom sp f t id =>
    exact (Sim.test (auth_iff hauth sp) fun _ => Sim.read (check_spender_ref hA.core sp f id)
      fun _ _ => (update_sim hA (some f) (some t) id).tail).mapR (fun s => (s, none)) fun _ _ h => h
  | burnFrom sp f id =>
    exact (Sim.test (auth_iff hauth sp) fun _ => Sim.read (check_spender_ref hA.core sp f id)
      fun _ _ => (update_sim hA (some f) none id).tail).mapR (fun s => (s, none)) fun _ _ h => h
  | approveForAll o p lu =>
    exact (approve_for_all_ref hA.core hmin hauth o p lu).mapR
      (Q' := onStore fun st' (p : OZ.Nft.State × Option Nat) => Abs envr st' p.1) (fun c => ({ s with toCore := c }, none))
      fun _ _ h => h.abs hA
  | approve ap a id lu =>
    exact (Sim.test (auth_iff hauth ap) fun _ => Sim.read (owner_of_ref hA id) fun o _ =>
      (approve_for_owner_ref hA.core hmin o ap a id lu).map (Q' := onStore (Abs envr)) (fun t => ((), t.2))
        (fun c => { s with toCore := c }) fun _ _ h => h.abs hA).mapR (fun s => (s, none)) fun _ _ h => h

/-- **every generated entry point = the model's step** -/
theorem step_refines (envr : NftF.Reads) (st : NftF.Store) (s : OZ.Nft.State) (hA : Abs envr st s)
    (hmin : 1 ≤ envr.min_temp_ttl) (auth : List Nat) (hauth : ∀ a, envr.authorized a = decide (a ∈ auth))
    (op : OZ.Nft.Op) (hop : Translated op) :
    match OZ.Nft.apply (cfgOf envr) s auth op with
    | .ok (s', _) => ∃ st', genCall envr st op = .ok ((), st') ∧ Abs envr st' s'
    | .error _ => genCall envr st op = .panic := by
  have h := apply_sim hA hmin hauth op hop
  split
  · exact h.of_ok_store ‹_›
  · exact h.of_error ‹_›

/-- the reads record of a call: ledger, host configuration and the exact set of authorizing addresses -/
def envrOf (c : Cfg) (now : Nat) (auth : List Nat) : NftF.Reads :=
  ⟨now, c.minTempTtl, c.maxTtl, fun a => decide (a ∈ auth)⟩

/-- one item of a history of the GENERATED token: a ledger movement, or a call under its own authorizing set;
a rejected call leaves the store as it was (the host's rollback) -/
def genStep (c : Cfg) (x : Nat × NftF.Store) (ao : List Nat × OZ.Nft.Op) : Nat × NftF.Store :=
  match ao.2 with
  | .advance n => (x.1 + n, x.2)
  | op => (x.1, match genCall (envrOf c x.1 ao.1) x.2 op with
      | .ok r => r.2
      | .panic => x.2)

def genRun (c : Cfg) (x : Nat × NftF.Store) (ops : List (List Nat × OZ.Nft.Op)) : Nat × NftF.Store :=
  ops.foldl (genStep c) x

/-- operations of the translated token (and ledger movements) -/
def Covered : OZ.Nft.Op → Prop
  | .mintSeq _ => False
  | .batchMint _ _ => False
  | _ => True

theorem abs_congr {e1 e2 : NftF.Reads} {st : NftF.Store} {s : OZ.Nft.State}
    (h : Abs e1 st s) (he : e1.ledger_sequence = e2.ledger_sequence) : Abs e2 st s :=
  ⟨⟨by rw [← he]; exact h.core.1, h.core.2.1, h.core.2.2⟩, h.bal, h.owner⟩

/-- one item of a history: a ledger movement moves both ledgers; a call is `apply_sim`, and a refused call leaves
both sides as they were -/
theorem genStep_refines (c : Cfg) (hmin : 1 ≤ c.minTempTtl) {now : Nat} {st : NftF.Store} {s : OZ.Nft.State}
    (hA : Abs (envrOf c now []) st s) (ao : List Nat × OZ.Nft.Op) (hop : Covered ao.2) :
    Abs (envrOf c (genStep c (now, st) ao).1 []) (genStep c (now, st) ao).2 (OZ.Nft.step c s ao) := by
  obtain ⟨auth, op⟩ := ao
  have h := apply_sim (abs_congr hA rfl : Abs (envrOf c now auth) st s) hmin (fun _ => rfl) op
  cases op with
  | advance n => exact ⟨⟨congrArg (· + n) hA.core.1, hA.core.2.1, hA.core.2.2⟩, hA.bal, hA.owner⟩
  | mintSeq _ | batchMint _ _ => exact hop.elim
  | _ =>
    replace h := h trivial
    unfold OZ.Nft.step
    split
    · obtain ⟨st', h1, h2⟩ := h.of_ok_store ‹_›; simp only [genStep, h1]; exact abs_congr h2 rfl
    · simp only [genStep, h.of_error ‹_›]; exact hA

/-- **every history**: the generated token follows the model's `run`, call by call -/
theorem run_refines (c : Cfg) (hmin : 1 ≤ c.minTempTtl) (ops : List (List Nat × OZ.Nft.Op)) :
    ∀ (now : Nat) (st : NftF.Store) (s : OZ.Nft.State), Abs (envrOf c now []) st s → (∀ x ∈ ops, Covered x.2) →
      Abs (envrOf c (genRun c (now, st) ops).1 []) (genRun c (now, st) ops).2 (OZ.Nft.run c s ops) := by
  induction ops with
  | nil => intro now st s hA _; exact hA
  | cons ao rest ih =>
    intro now st s hA hops
    exact ih _ _ _ (genStep_refines c hmin hA ao (hops ao List.mem_cons_self)) fun x hx => hops x (List.mem_cons_of_mem _ hx)

def emptyStore : NftF.Store := ⟨fun _ => none, fun _ => none, fun _ => none, fun _ _ => none⟩

theorem abs_init (c : Cfg) (now : Nat) : Abs (envrOf c now []) emptyStore (OZ.Nft.init now) :=
  ⟨⟨rfl, fun _ => rfl, fun _ _ => rfl⟩, fun _ => rfl, fun _ => rfl⟩

/-! ### the model's history theorems, for the getters of the generated token -/

/-- **C10 for the generated token: the stored owner map IS the plain map** driven by the accepted operations,
after EVERY finite history of generated calls and ledger movements from the freshly deployed store -/
theorem gen_owner_is_plain_map (c : Cfg) (hmin : 1 ≤ c.minTempTtl) (now : Nat) (ops : List (List Nat × OZ.Nft.Op))
    (hops : ∀ x ∈ ops, Covered x.2) :
    (genRun c (now, emptyStore) ops).2.Owner = OZ.C10.specRun c (OZ.Nft.init now) (fun _ => none) ops := by
  have hA := run_refines c hmin ops now emptyStore _ (abs_init c now) hops
  funext id
  rw [← hA.owner id, OZ.C10.base_refines_map]
  rfl

/-- **C10: balance(a) is the number of tokens a owns**, in the generated store: after every history respecting
the fresh-id hypothesis of explicit mints there is a duplicate-free list of exactly a's tokens whose length is
a's stored balance -/
theorem gen_balance_counts (c : Cfg) (hmin : 1 ≤ c.minTempTtl) (now : Nat) (ops : List (List Nat × OZ.Nft.Op))
    (hops : ∀ x ∈ ops, Covered x.2) (hf : OZ.C10.FreshRun c (OZ.Nft.init now) ops) (a : Nat) :
    ∃ l : List Nat, l.Nodup ∧ (∀ t, t ∈ l ↔ (genRun c (now, emptyStore) ops).2.Owner t = some a) ∧
      l.length = ((genRun c (now, emptyStore) ops).2.Balance a).getD 0 := by
  have hA := run_refines c hmin ops now emptyStore _ (abs_init c now) hops
  obtain ⟨l, hn, hm, hl⟩ := OZ.C10.base_balance_counts c now ops hf a
  refine ⟨l, hn, fun t => ?_, ?_⟩
  · rw [hm t, hA.owner t]
  · rw [hl, hA.bal a]

/-- **C11: approvals never carry over**, for the generated getter: once a token has no approval entry,
`get_approved` answers none after every later history that holds no accepted-or-not `approve` for that token -/
theorem gen_no_approval_carry_over (c : Cfg) (hmin : 1 ≤ c.minTempTtl) (now : Nat) (ops : List (List Nat × OZ.Nft.Op))
    (hops : ∀ x ∈ ops, Covered x.2) (id : Nat) (hx : ∀ x ∈ ops, x.2.approves id = false) :
    NftF.get_approved (envrOf c (genRun c (now, emptyStore) ops).1 []) (genRun c (now, emptyStore) ops).2 id = .ok none := by
  have hA : Abs (envrOf c (genRun c (now, emptyStore) ops).1 []) (genRun c (now, emptyStore) ops).2
      (OZ.Nft.run c (OZ.Nft.init now) ops) := run_refines c hmin ops now emptyStore _ (abs_init c now) hops
  rw [get_approved_eq _ _ _ hA.core id, OZ.C11.no_approval_carry_over c ops (OZ.Nft.init now) id rfl hx]

/-! ### non-vacuity: the generated token runs a history -/

def demoOps : List (List Nat × OZ.Nft.Op) :=
  [([], .mint 1 7), ([1], .approve 1 2 7 500), ([2], .transferFrom 2 1 3 7), ([2], .transferFrom 2 3 1 7),
   ([], .advance 10), ([3], .burn 3 7)]

example : (genRun ⟨16, 6312000⟩ (100, emptyStore) (demoOps.take 3)).2.Owner 7 = some 3 := by decide
example : (genRun ⟨16, 6312000⟩ (100, emptyStore) (demoOps.take 4)).2.Owner 7 = some 3 := by decide   -- the fourth call is refused: the third cleared the approval of 2
example : (genRun ⟨16, 6312000⟩ (100, emptyStore) demoOps).2.Owner 7 = none := by decide
example : ((genRun ⟨16, 6312000⟩ (100, emptyStore) demoOps).2.Balance 3).getD 0 = 0 := by decide

end OZ.Gen.NftF
