import OZ.Gen.Upgradeable
/-
C16 — the `Migrating` flag, re-checked on every run against what the SOURCE says now.

`lean/OZ/Gen/Upgradeable.lean` is regenerated by `/verif/tools/rs2lean.py --upgradeable` (state-passing mode)
from /repo's current `packages/contract-utils/src/upgradeable/storage.rs`: `enable_migration`,
`can_complete_migration`, `complete_migration`, `ensure_can_complete_migration`.  Proved about the GENERATED
code: the guard passes exactly while the flag is set, and one arming allows one migration.
-/
namespace OZ.Gen.Upgradeable
open OZ.Rs

def flag (st : Upgradeable.Store) : Bool := st.Migrating.getD false

def passes {α : Type} (c : Comp α) : Bool :=
  match c with
  | .ok _ => true
  | .panic => false

theorem can_complete_eq (envr : Upgradeable.Reads) (st : Upgradeable.Store) :
    Upgradeable.can_complete_migration envr st = .ok (flag st) := rfl

/-- the guard of `migrate` passes exactly while the flag is set -/
theorem gen_guard_iff (envr : Upgradeable.Reads) (st : Upgradeable.Store) :
    passes (Upgradeable.ensure_can_complete_migration envr st) = flag st := by
  unfold Upgradeable.ensure_can_complete_migration
  rw [can_complete_eq]
  cases flag st <;> rfl

theorem gen_enable (envr : Upgradeable.Reads) (st : Upgradeable.Store) :
    ∃ st', Upgradeable.enable_migration envr st = .ok ((), st') ∧ flag st' = true :=
  ⟨_, rfl, rfl⟩

theorem gen_complete (envr : Upgradeable.Reads) (st : Upgradeable.Store) :
    ∃ st', Upgradeable.complete_migration envr st = .ok ((), st') ∧ flag st' = false :=
  ⟨_, rfl, rfl⟩

/-- **one migration per arming**: after `enable_migration; complete_migration` the guard refuses, and a store
on which nothing was ever enabled refuses too -/
theorem gen_migrate_once (envr : Upgradeable.Reads) (st : Upgradeable.Store) :
    ((Upgradeable.enable_migration envr st).bind fun r1 =>
      (Upgradeable.ensure_can_complete_migration envr r1.2).bind fun _ =>
        (Upgradeable.complete_migration envr r1.2).bind fun r2 =>
          Comp.ok (passes (Upgradeable.ensure_can_complete_migration envr r2.2))) = .ok false ∧
    passes (Upgradeable.ensure_can_complete_migration envr ⟨none⟩) = false := by
  constructor <;> rfl

end OZ.Gen.Upgradeable
