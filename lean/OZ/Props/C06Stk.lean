import OZ.Lemmas.AccessStk
import OZ.Lemmas.Lists
/-
C06, machine `stk` — an entry point that stacks TWO role guards (`#[has_role]`, `#[only_role]`,
`#[has_any_role]`, `#[only_any_role]`, in any pairing, on the same or on different caller parameters) is
subject to BOTH, whatever the order in which the two attributes are written.

The model (OZ/Model/AccessStk.lean) mirrors the expansions of the attribute macros of
packages/macros/src/access_control.rs (each re-emits the attributes still attached to the function, so every
guard is injected; the guard written below runs first) on the harness contract `stk::Stacked2`, whose
sixteen entry points `<outer>_<inner>` are the ordered pairs of the four macros. `Guard.Holds s auth a b g`:
the account `g` names (`a` or `b`) holds (one of) the role(s) of `g`, and — for `only_role` /
`only_any_role` — is in `auth`. Every statement is for all states, all authorizing subsets, all arguments,
and — where it speaks about histories — all finite operation lists.
-/
namespace OZ.Access.Stk
open OZ.Access

/-- **C06 `stk`**: a stacked entry point is accepted exactly when the condition of EVERY guard
holds — the one written on top and the one written below it — (and the `i32` counter has room); for all
sixteen entry points -/
theorem stacked_accepted_iff (s : St) (auth : List Nat) (f : Fn) (a b : Nat) :
    (∃ s', s.call auth f a b = .ok s') ↔
      f.outerGuard.Holds s auth a b ∧ f.innerGuard.Holds s auth a b ∧ s.counter + 1 ≤ I32_MAX := by
  constructor
  · rintro ⟨s', h⟩
    obtain ⟨h1, h2, h3, -⟩ := call_iff.1 h
    exact ⟨h1, h2, h3⟩
  · rintro ⟨h1, h2, h3⟩
    exact ⟨_, call_iff.2 ⟨h1, h2, h3, rfl⟩⟩

/-- the same for any list of guards around the body: accepted exactly when ALL of them hold -/
theorem stacked_accepted_iff_all (s : St) (auth : List Nat) (gs : List Guard) (a b : Nat) :
    (∃ s', s.callWith auth gs a b = .ok s') ↔
      (∀ g ∈ gs, g.Holds s auth a b) ∧ s.counter + 1 ≤ I32_MAX := by
  constructor
  · rintro ⟨s', h⟩
    obtain ⟨h1, h2, -⟩ := callWith_iff.1 h
    exact ⟨h1, h2⟩
  · rintro ⟨h1, h2⟩
    exact ⟨_, callWith_iff.2 ⟨h1, h2, rfl⟩⟩

/-- **C06 `stk`**: an accepted call implies, for EACH of the two attributes, that the
account it names holds one of its roles and — if it is an `only_*` attribute — authorized the call; the
only effect is counter + 1 -/
theorem stacked_needs_every_guard (s s' : St) (auth : List Nat) (f : Fn) (a b : Nat)
    (h : s.call auth f a b = .ok s') :
    (∀ g ∈ f.guards,
      (∃ r ∈ g.roles, s.holds (g.who a b) r = true) ∧ (g.needsAuth = true → g.who a b ∈ auth)) ∧
    s' = { s with counter := s.counter + 1 } := by
  obtain ⟨h1, h2, -, e⟩ := call_iff.1 h
  refine ⟨?_, e⟩
  intro g hg
  simp only [Fn.guards, List.mem_cons, List.not_mem_nil, or_false] at hg
  rcases hg with rfl | rfl
  · exact h2
  · exact h1

/-- **C06 `stk`**: if the condition of ONE guard of an entry point fails — a role is
missing, or the authorization an `only_*` guard demands — the call is refused and changes nothing -/
theorem stacked_missing_guard_blocks (s : St) (auth : List Nat) (f : Fn) (a b : Nat) (g : Guard)
    (hg : g ∈ f.guards) (hn : ¬ g.Holds s auth a b) :
    (∀ s', s.call auth f a b ≠ .ok s') ∧ St.step s (auth, .call f a b) = s := by
  have h1 : ∀ s', s.call auth f a b ≠ .ok s' := by
    intro s' h
    exact hn ((callWith_iff.1 h).1 g hg)
  exact ⟨h1, step_of_error h1⟩

/-- history form: NO sequence of stacked calls each of which misses the condition of one of its guards
(in the state the sequence starts from) changes anything -/
theorem stacked_missing_guard_blocks_run (ops : List (List Nat × Fn × Nat × Nat)) (s : St)
    (hbad : ∀ x ∈ ops, ∃ g ∈ x.2.1.guards, ¬ g.Holds s x.1 x.2.2.1 x.2.2.2) :
    St.run s (ops.map fun x => (x.1, Op.call x.2.1 x.2.2.1 x.2.2.2)) = s := by
  unfold St.run
  rw [List.foldl_map]
  refine OZ.Lists.foldl_keeps (P := (· = s)) (Q := fun x => ∃ g ∈ x.2.1.guards, ¬ g.Holds s x.1 x.2.2.1 x.2.2.2)
    ?_ ops s rfl hbad
  rintro s1 x h1 ⟨g, hg, hn⟩
  rw [h1]
  exact (stacked_missing_guard_blocks s x.1 x.2.1 x.2.2.1 x.2.2.2 g hg hn).2

/-- **C06 `stk`**: a call the contract refuses (stacked entry point, grant or
revoke) leaves admin, role table and counter as they were -/
theorem stacked_rejected_changes_nothing (s : St) (auth : List Nat) (op : Op) (e : Err)
    (h : s.apply auth op = .error e) : St.step s (auth, op) = s :=
  step_of_error (fun s' h' => by rw [h] at h'; cases h')

/-- **C06 `stk`**: writing two guard attributes the other way round makes no difference -/
theorem stacked_order_irrelevant (s s' : St) (auth : List Nat) (g1 g2 : Guard) (a b : Nat) :
    s.callWith auth [g1, g2] a b = .ok s' ↔ s.callWith auth [g2, g1] a b = .ok s' := by
  rw [callWith_iff, callWith_iff]
  simp only [List.mem_cons, List.not_mem_nil, or_false, forall_eq_or_imp, forall_eq]
  constructor <;> (rintro ⟨⟨h1, h2⟩, h3⟩; exact ⟨⟨h2, h1⟩, h3⟩)

/-- the same for any number of stacked guards: any reordering of the attributes -/
theorem stacked_order_irrelevant_perm (s s' : St) (auth : List Nat) (gs gs' : List Guard) (a b : Nat)
    (hp : gs.Perm gs') : s.callWith auth gs a b = .ok s' ↔ s.callWith auth gs' a b = .ok s' := by
  rw [callWith_iff, callWith_iff]
  constructor
  · rintro ⟨h1, h2⟩; exact ⟨fun g hg => h1 g (hp.mem_iff.2 hg), h2⟩
  · rintro ⟨h1, h2⟩; exact ⟨fun g hg => h1 g (hp.mem_iff.1 hg), h2⟩

/-- for the entry points of the contract: `<outer>_<inner>` behaves like the function that runs the outer
attribute's statements first -/
theorem stacked_order_irrelevant_fn (s s' : St) (auth : List Nat) (f : Fn) (a b : Nat) :
    s.call auth f a b = .ok s' ↔ s.callWith auth [f.outerGuard, f.innerGuard] a b = .ok s' :=
  stacked_order_irrelevant s s' auth f.innerGuard f.outerGuard a b

/-- five of the sixteen entry points, spelled out -/
theorem stacked_named_entry_points (s : St) (auth : List Nat) (a b : Nat) :
    -- #[has_role(a, "minter")] #[only_role(b, "burner")]
    ((∃ s', s.call auth ⟨.has, .only⟩ a b = .ok s') ↔
      s.holds a MINTER = true ∧ (s.holds b BURNER = true ∧ b ∈ auth) ∧ s.counter + 1 ≤ I32_MAX) ∧
    -- #[only_role(a, "minter")] #[has_role(b, "burner")]
    ((∃ s', s.call auth ⟨.only, .has⟩ a b = .ok s') ↔
      (s.holds a MINTER = true ∧ a ∈ auth) ∧ s.holds b BURNER = true ∧ s.counter + 1 ≤ I32_MAX) ∧
    -- #[only_role(a, "minter")] #[only_role(b, "burner")]
    ((∃ s', s.call auth ⟨.only, .only⟩ a b = .ok s') ↔
      (s.holds a MINTER = true ∧ a ∈ auth) ∧ (s.holds b BURNER = true ∧ b ∈ auth) ∧
      s.counter + 1 ≤ I32_MAX) ∧
    -- #[has_any_role(a, ["minter", "r2"])] #[only_role(b, "burner")]
    ((∃ s', s.call auth ⟨.hasAny, .only⟩ a b = .ok s') ↔
      (s.holds a MINTER = true ∨ s.holds a R2 = true) ∧ (s.holds b BURNER = true ∧ b ∈ auth) ∧
      s.counter + 1 ≤ I32_MAX) ∧
    -- #[only_any_role(a, ["minter", "r2"])] #[has_role(a, "burner")]   (same parameter)
    ((∃ s', s.call auth ⟨.onlyAny, .has⟩ a b = .ok s') ↔
      ((s.holds a MINTER = true ∨ s.holds a R2 = true) ∧ a ∈ auth) ∧ s.holds a BURNER = true ∧
      s.counter + 1 ≤ I32_MAX) := by
  refine ⟨?_, ?_, ?_, ?_, ?_⟩ <;> rw [stacked_accepted_iff] <;>
    simp [Fn.outerGuard, Fn.innerGuard, mkGuard, sameParam, Guard.Holds, Guard.roles, Guard.needsAuth,
      Guard.who, Guard.onB, pick]

/-- **C06 `stk`**: `grant` is accepted exactly with the authorization of the stored admin (and one
of the three roles); it sets exactly that pair -/
theorem grant_needs_admin (s s' : St) (auth : List Nat) (acct role : Nat) :
    s.apply auth (.grant acct role) = .ok s' ↔
      (∃ ad, s.admin = some ad ∧ ad ∈ auth) ∧ role < 3 ∧
      s' = { s with holds := setHolds s.holds acct role true } :=
  grant_iff

/-- **C06 `stk`**: `revoke` is accepted exactly with the authorization of the stored admin, for a
pair that is held; it clears exactly that pair -/
theorem revoke_needs_admin (s s' : St) (auth : List Nat) (acct role : Nat) :
    s.apply auth (.revoke acct role) = .ok s' ↔
      (∃ ad, s.admin = some ad ∧ ad ∈ auth) ∧ role < 3 ∧ s.holds acct role = true ∧
      s' = { s with holds := setHolds s.holds acct role false } :=
  revoke_iff

/-- **C06 `stk`**: whenever a call changes whether an account holds a role, it was a
grant / revoke of exactly that pair, authorized by the stored admin — no stacked entry point, and nobody
else, changes the role table -/
theorem membership_change_needs_admin (s : St) (auth : List Nat) (op : Op) (acct role : Nat)
    (h : (St.step s (auth, op)).holds acct role ≠ s.holds acct role) :
    (∃ ad, s.admin = some ad ∧ ad ∈ auth) ∧ (op = .grant acct role ∨ op = .revoke acct role) := by
  cases hx : s.apply auth op with
  | error e => rw [stacked_rejected_changes_nothing s auth op e hx] at h; exact (h rfl).elim
  | ok s' =>
    rw [step_of_ok hx] at h
    cases op with
    | call f a b =>
      obtain ⟨-, -, -, e⟩ := call_iff.1 hx
      rw [e] at h
      exact (h rfl).elim
    | grant a r =>
      obtain ⟨had, -, e⟩ := grant_iff.1 hx
      rw [e] at h
      by_cases c : acct = a ∧ role = r
      · exact ⟨had, Or.inl (by rw [c.1, c.2])⟩
      · exact (h (by simp only [setHolds]; rw [if_neg c])).elim
    | revoke a r =>
      obtain ⟨had, -, -, e⟩ := revoke_iff.1 hx
      rw [e] at h
      by_cases c : acct = a ∧ role = r
      · exact ⟨had, Or.inr (by rw [c.1, c.2])⟩
      · exact (h (by simp only [setHolds]; rw [if_neg c])).elim

/-- **C06 `stk`**: no history changes the admin -/
theorem stacked_admin_fixed (ops : List (List Nat × Op)) (s : St) : (St.run s ops).admin = s.admin := by
  refine OZ.Lists.foldl_inv (P := fun s1 => s1.admin = s.admin) (fun s1 x h1 => ?_) ops s rfl
  unfold St.step
  cases hx : s1.apply x.1 x.2 with
  | error e => exact h1
  | ok s2 => exact (apply_keeps hx).trans h1

/-- **C06 `stk`**: no history of stacked calls changes who holds which role -/
theorem stacked_calls_keep_roles (ops : List (List Nat × Fn × Nat × Nat)) (s : St) :
    (St.run s (ops.map fun x => (x.1, Op.call x.2.1 x.2.2.1 x.2.2.2))).holds = s.holds := by
  unfold St.run
  rw [List.foldl_map]
  refine OZ.Lists.foldl_inv (P := fun s1 => s1.holds = s.holds) (fun s1 x h1 => ?_) ops s rfl
  unfold St.step
  cases hx : s1.apply x.1 (Op.call x.2.1 x.2.2.1 x.2.2.2) with
  | error e => exact h1
  | ok s2 => obtain ⟨-, -, -, e⟩ := call_iff.1 hx; rw [e]; exact h1

/-! ## non-vacuity: the guards decide as stated on a concrete role table -/

def isOk {ε α} : Except ε α → Bool
  | .ok _ => true
  | .error _ => false

/-- admin 0; 1 holds "minter", 2 holds "burner", 3 holds "r2" (granted by the admin; the grant of a
stranger and the grant of an unknown role are refused) -/
def demo : St :=
  St.run (St.construct 0)
    [([0], .grant 1 0), ([0], .grant 2 1), ([0], .grant 3 2), ([4], .grant 4 0), ([0], .grant 4 3)]

example : demo.holds 1 0 = true ∧ demo.holds 2 1 = true ∧ demo.holds 3 2 = true ∧ demo.holds 4 0 = false ∧
    demo.holds 4 3 = false := by decide

/-- both guards satisfied: accepted; only the outer, only the inner, neither, or the roles without the
authorization of an `only_*` guard: refused — in both orders of the attributes -/
example :
    isOk (demo.call [2] ⟨.has, .only⟩ 1 2) = true ∧ isOk (demo.call [1] ⟨.only, .has⟩ 1 2) = true ∧
    isOk (demo.call [0, 1, 2, 3, 4] ⟨.has, .only⟩ 1 4) = false ∧        -- only the outer
    isOk (demo.call [0, 1, 2, 3, 4] ⟨.has, .only⟩ 4 2) = false ∧        -- only the inner
    isOk (demo.call [0, 1, 2, 3, 4] ⟨.only, .has⟩ 1 4) = false ∧
    isOk (demo.call [0, 1, 2, 3, 4] ⟨.only, .has⟩ 4 2) = false ∧
    isOk (demo.call [0, 1, 2, 3, 4] ⟨.has, .has⟩ 4 4) = false ∧         -- neither
    isOk (demo.call [] ⟨.has, .only⟩ 1 2) = false ∧                      -- the roles, no authorization
    isOk (demo.call [1] ⟨.has, .only⟩ 1 2) = false ∧
    isOk (demo.call [2] ⟨.only, .has⟩ 1 2) = false ∧
    isOk (demo.call [1] ⟨.only, .only⟩ 1 2) = false ∧ isOk (demo.call [2] ⟨.only, .only⟩ 1 2) = false ∧
    isOk (demo.call [1, 2] ⟨.only, .only⟩ 1 2) = true ∧
    isOk (demo.call [2] ⟨.hasAny, .only⟩ 3 2) = true ∧                   -- "r2" passes the any-role guard
    isOk (demo.call [2] ⟨.has, .only⟩ 3 2) = false ∧
    isOk (demo.call [3] ⟨.onlyAny, .onlyAny⟩ 3 3) = true ∧               -- the same account as a and b
    isOk (demo.call [] ⟨.onlyAny, .onlyAny⟩ 3 3) = false ∧
    isOk (demo.call [1] ⟨.onlyAny, .has⟩ 1 2) = false ∧                  -- same parameter: 1 is no burner
    (St.step demo ([2], .call ⟨.has, .only⟩ 1 2)).counter = 1 ∧
    (St.step demo ([], .call ⟨.has, .only⟩ 1 2)).counter = 0 := by decide

/-- the hypotheses of `stacked_missing_guard_blocks` are met by a concrete call that would pass its OUTER
guard: `hr_or` with a = 1 (a minter) and b = 4 (no burner), everybody authorizing -/
example : Fn.innerGuard ⟨.has, .only⟩ ∈ Fn.guards ⟨.has, .only⟩ ∧
    isOk ((Fn.outerGuard ⟨.has, .only⟩).run demo [0, 1, 2, 3, 4] 1 4) = true ∧
    isOk ((Fn.innerGuard ⟨.has, .only⟩).run demo [0, 1, 2, 3, 4] 1 4) = false := by decide

end OZ.Access.Stk
