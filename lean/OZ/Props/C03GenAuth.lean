import OZ.Gen.CheckAuth
import OZ.Lemmas.Comp
/-
C03 — "succeeds only if every supplied signature verifies", re-checked on every run against what the SOURCE says now.

`lean/OZ/Gen/CheckAuth.lean` is regenerated by `/verif/tools/rs2lean.py --check-auth` from /repo's current
`packages/accounts/src/smart_account/storage.rs`: `authenticate` and `do_check_auth`. Of `authenticate`: the loop over
the supplied signature map, the `match` on the signer (`Signer` is the generated inductive type with its two tuple
variants), the verifier contract's `verify` (a function of the reads record that may trap) and
`require_auth_for_args((payload,))` for a delegated signer. Of `do_check_auth`: the call of `authenticate`, the loop that
validates the contexts (`get_validated_context` is a function of the reads record that may trap; what it computes is
the subject of OZ/Props/C03Gen.lean) and the two nested loops of `enforce` calls.
-/
namespace OZ.Gen.CheckAuth
open OZ.Rs

def Verified (envr : CheckAuth.Reads) (payload : B32) (x : Signer × List Nat) : Prop :=
  match x.1 with
  | .External v k => envr.VerifierClient_verify v payload k x.2 = .ok true
  | .Delegated a => envr.authorized_for_args a payload = true

/-- a `for` loop of calls (`Comp.forEach_eq`) -/
theorem loop_cons (envr : CheckAuth.Reads) (payload : B32) (all : List (Signer × List Nat)) (x : Signer × List Nat)
    (rest : List (Signer × List Nat)) :
    CheckAuth.authenticate.loop1 envr (x :: rest) payload all =
      Comp.bind (CheckAuth.authenticate.loop1 envr [x] payload all) fun _ =>
        CheckAuth.authenticate.loop1 envr rest payload all := by
  obtain ⟨sg, sig⟩ := x
  cases sg with
  | External v k =>
    simp only [CheckAuth.authenticate.loop1]
    cases envr.VerifierClient_verify v payload k sig with
    | panic => rfl
    | ok b => cases b <;> rfl
  | Delegated a =>
    simp only [CheckAuth.authenticate.loop1]
    split <;> rfl

theorem verified_iff (envr : CheckAuth.Reads) (payload : B32) (all : List (Signer × List Nat)) (x : Signer × List Nat) :
    CheckAuth.authenticate.loop1 envr [x] payload all = .ok () ↔ Verified envr payload x := by
  obtain ⟨sg, sig⟩ := x
  cases sg with
  | External v k =>
    simp only [CheckAuth.authenticate.loop1, Verified]
    cases envr.VerifierClient_verify v payload k sig with
    | panic => simp
    | ok b => cases b <;> simp
  | Delegated a =>
    simp only [CheckAuth.authenticate.loop1, Verified]
    split <;> simp [*]

theorem authenticate_eq (envr : CheckAuth.Reads) (payload : B32) (signers : List (Signer × List Nat)) :
    CheckAuth.authenticate envr payload signers =
      if ∀ x ∈ signers, CheckAuth.authenticate.loop1 envr [x] payload signers = .ok () then .ok () else .panic := by
  unfold CheckAuth.authenticate
  rw [Comp.forEach_eq (call := fun x => CheckAuth.authenticate.loop1 envr [x] payload signers)
    (f := fun xs _ => CheckAuth.authenticate.loop1 envr xs payload signers) (fun _ => rfl)
    (fun x rest _ => loop_cons envr payload signers x rest) signers ()]
  split <;> rfl

/-- **C03, first clause**: the generated `authenticate` succeeds exactly when every supplied signature verifies -/
theorem gen_authenticate_iff (envr : CheckAuth.Reads) (payload : B32) (signers : List (Signer × List Nat)) :
    CheckAuth.authenticate envr payload signers = .ok () ↔ ∀ x ∈ signers, Verified envr payload x := by
  rw [authenticate_eq]
  exact ⟨fun h x hx => (verified_iff envr payload signers x).1 ((Comp.require_eq_ok h).1 x hx),
    fun h => if_pos fun x hx => (verified_iff envr payload signers x).2 (h x hx)⟩

/-- it either succeeds or traps (there is no third outcome to mistake for success) -/
theorem gen_authenticate_total (envr : CheckAuth.Reads) (payload : B32) (signers : List (Signer × List Nat)) :
    CheckAuth.authenticate envr payload signers = .ok () ∨ CheckAuth.authenticate envr payload signers = .panic := by
  rw [authenticate_eq]
  split
  · exact .inl rfl
  · exact .inr rfl

/-- one bad entry fails the whole check, wherever it stands -/
theorem gen_one_bad_signature_fails (envr : CheckAuth.Reads) (payload : B32) (signers : List (Signer × List Nat))
    (x : Signer × List Nat) (hx : x ∈ signers) (hbad : ¬ Verified envr payload x) :
    CheckAuth.authenticate envr payload signers = .panic := by
  rcases gen_authenticate_total envr payload signers with h | h
  · exact absurd ((gen_authenticate_iff envr payload signers).1 h x hx) hbad
  · exact h

/-! ### `do_check_auth` -/

def Enforced (envr : CheckAuth.Reads) (v : CheckAuth.ContextRule × Nat × List Signer) : Prop :=
  ∀ p ∈ v.1.policies, envr.PolicyClient_enforce p v.2.1 v.2.2 v.1 envr.current_contract_address = .ok ()

theorem enforce_loop_iff (envr : CheckAuth.Reads) (a : List Nat) (sg : List Signer) (c : Nat) (pol : List Nat)
    (rule : CheckAuth.ContextRule) (pl : B32) (sigs : List (Signer × List Nat))
    (vc : List (CheckAuth.ContextRule × Nat × List Signer)) :
    ∀ (xs : List Nat),
      (CheckAuth.do_check_auth.loop3 envr xs a sg c pol rule pl sigs vc = .ok () ↔
        ∀ p ∈ xs, envr.PolicyClient_enforce p c sg rule envr.current_contract_address = .ok ()) := by
  exact Comp.forEach_ok_iff (call := fun p => envr.PolicyClient_enforce p c sg rule envr.current_contract_address)
    (F := fun xs => CheckAuth.do_check_auth.loop3 envr xs a sg c pol rule pl sigs vc) rfl (fun _ _ => rfl)

theorem contexts_loop_iff (envr : CheckAuth.Reads) (a : List Nat) (pl : B32) (sigs : List (Signer × List Nat))
    (vc : List (CheckAuth.ContextRule × Nat × List Signer)) :
    ∀ (xs : List (CheckAuth.ContextRule × Nat × List Signer)),
      (CheckAuth.do_check_auth.loop2 envr xs a pl sigs vc = .ok () ↔ ∀ v ∈ xs, Enforced envr v) := by
  intro xs
  rw [Comp.forEach_ok_iff
    (call := fun v => CheckAuth.do_check_auth.loop3 envr v.1.policies a v.2.2 v.2.1 v.1.policies v.1 pl sigs vc)
    (F := fun xs => CheckAuth.do_check_auth.loop2 envr xs a pl sigs vc) rfl (fun _ _ => rfl) xs]
  exact forall_congr' fun v => imp_congr_right fun _ => enforce_loop_iff envr a v.2.2 v.2.1 v.1.policies v.1 pl sigs vc v.1.policies

/-- the validated contexts, in order: every context validates, or the collection traps -/
def validateAll (envr : CheckAuth.Reads) (keys : List Signer) : List Nat →
    Option (List (CheckAuth.ContextRule × Nat × List Signer))
  | [] => some []
  | c :: rest =>
    match envr.get_validated_context c keys with
    | .panic => none
    | .ok v => (validateAll envr keys rest).map (v :: ·)

theorem validate_loop_eq (envr : CheckAuth.Reads) (a : List Nat) (pl : B32) (sigs : List (Signer × List Nat)) :
    ∀ (xs : List Nat), CheckAuth.do_check_auth.loop1 envr xs a pl sigs =
      match validateAll envr (sigs.map Prod.fst) xs with | some l => .ok l | none => .panic := by
  intro xs
  induction xs with
  | nil => rfl
  | cons c rest ih =>
    unfold CheckAuth.do_check_auth.loop1 validateAll
    cases hv : envr.get_validated_context c (sigs.map Prod.fst) with
    | panic => rfl
    | ok v =>
      simp only [Comp.bind_ok]
      rw [ih]
      cases validateAll envr (sigs.map Prod.fst) rest <;> rfl

/-- **C03, the whole check**: the generated `do_check_auth` returns `Ok(())` exactly when every supplied signature
verifies, every requested context validates (against the SUPPLIED signers: the keys of the signature map) and every
policy of every chosen rule lets its `enforce` call through; in every other case it traps — it never returns an error
value or a success without all three -/
theorem gen_do_check_auth_iff (envr : CheckAuth.Reads) (payload : B32) (sigs : List (Signer × List Nat)) (ctxs : List Nat) :
    CheckAuth.do_check_auth envr payload sigs ctxs = .ok (some ()) ↔
      (∀ x ∈ sigs, Verified envr payload x) ∧
      ∃ vs, validateAll envr (sigs.map Prod.fst) ctxs = some vs ∧ ∀ v ∈ vs, Enforced envr v := by
  unfold CheckAuth.do_check_auth
  rw [← gen_authenticate_iff]
  cases ha : CheckAuth.authenticate envr payload sigs with
  | panic => simp
  | ok u =>
    simp only [Comp.bind_ok, true_and]
    rw [validate_loop_eq]
    cases hv : validateAll envr (sigs.map Prod.fst) ctxs with
    | none => simp
    | some vs =>
      simp only [Comp.bind_ok, Option.some.injEq, exists_eq_left']
      rw [← contexts_loop_iff envr ctxs payload sigs vs vs]
      cases CheckAuth.do_check_auth.loop2 envr vs ctxs payload sigs vs with
      | panic => simp
      | ok w => simp

/-- the contexts are validated against the keys of the signature map and nothing else: one context that does not
validate fails the check, whatever the others do -/
theorem gen_unvalidated_context_fails (envr : CheckAuth.Reads) (payload : B32) (sigs : List (Signer × List Nat))
    (ctxs : List Nat) (c : Nat) (hc : c ∈ ctxs) (hbad : envr.get_validated_context c (sigs.map Prod.fst) = .panic) :
    CheckAuth.do_check_auth envr payload sigs ctxs ≠ .ok (some ()) := by
  intro h
  obtain ⟨_, vs, hv, _⟩ := (gen_do_check_auth_iff envr payload sigs ctxs).1 h
  have key : ∀ (xs : List Nat), c ∈ xs → validateAll envr (sigs.map Prod.fst) xs = none := by
    intro xs
    induction xs with
    | nil => intro hm; cases hm
    | cons x rest ih =>
      intro hm
      unfold validateAll
      rcases List.mem_cons.mp hm with rfl | hm'
      · rw [hbad]
      · cases envr.get_validated_context x (sigs.map Prod.fst) with
        | panic => rfl
        | ok v => simp only [ih hm', Option.map_none]
  rw [key ctxs hc] at hv; cases hv

/-- non-vacuity: verifier 5 accepts key [1] only; address 7 authorized the payload -/
def demoEnv : CheckAuth.Reads :=
  { VerifierClient_verify := fun v _ k _ => if v = 5 then .ok (decide (k = [1])) else .panic
    authorized_for_args := fun a _ => decide (a = 7)
    current_contract_address := 0
    get_validated_context := fun c all => if c = 3 then .panic else .ok (⟨c, 0, 0, all, [40 + c], none⟩, c, all)
    PolicyClient_enforce := fun p _ _ _ _ => if p = 42 then .panic else .ok () }

example : CheckAuth.authenticate demoEnv [0] [(.External 5 [1], [9]), (.Delegated 7, [])] = .ok () := by decide +kernel
example : CheckAuth.authenticate demoEnv [0] [(.External 5 [1], [9]), (.External 5 [2], [9])] = .panic := by decide +kernel
example : CheckAuth.authenticate demoEnv [0] [(.Delegated 8, []), (.External 5 [1], [9])] = .panic := by decide +kernel
example : CheckAuth.authenticate demoEnv [0] [(.External 6 [1], [9])] = .panic := by decide +kernel
example : CheckAuth.do_check_auth demoEnv [0] [(.Delegated 7, [])] [1, 4] = .ok (some ()) := by decide +kernel
example : CheckAuth.do_check_auth demoEnv [0] [(.Delegated 7, [])] [1, 3] = .panic := by decide +kernel      -- context 3 does not validate
example : CheckAuth.do_check_auth demoEnv [0] [(.Delegated 7, [])] [1, 2] = .panic := by decide +kernel      -- policy 42 refuses
example : CheckAuth.do_check_auth demoEnv [0] [(.Delegated 8, [])] [1] = .panic := by decide +kernel         -- bad signature

end OZ.Gen.CheckAuth
