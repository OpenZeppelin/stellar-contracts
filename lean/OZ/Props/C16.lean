import OZ.Lemmas.Gates
/-
C16 — Pause, allow / block lists, supply cap and migration flags cannot be bypassed.

About the library types and the example contracts of OZ/Model/Gates.lean; its fungible-allowlist routes `burn` /
`burn_from` through `AllowList`.
-/
namespace OZ.Gates
open OZ.Host OZ.Fungible

/-! ## Pause -/

/-- **paused_blocks** (fungible-pausable): while paused, every entry point declared pausable
(mint, transfer, transfer_from, burn, burn_from) fails — whatever the arguments and whoever
authorizes — and the call leaves the whole contract state unchanged -/
theorem paused_blocks (c : Cfg) (s : PTok) (auth : List Nat) (o : Fungible.Op)
    (hp : s.p.paused = true) (ho : pausableOp o = true) :
    PTok.apply c s auth (.tok o) = .error .gate ∧ PTok.step c s (auth, .tok o) = s := by
  have h : PTok.apply c s auth (.tok o) = .error .gate := by
    cases o <;> simp [pausableOp] at ho <;>
      simp only [PTok.apply, PTok.applyTok, whenNotPaused_true hp, bind_error]
  exact ⟨h, by simp only [PTok.step, h]⟩

/-- **paused_blocks**, history form: while paused, NO sequence of token calls (any entry
points, any arguments, any authorizations) moves a balance or the supply, and the contract
stays paused (only `approve`, which the example does not declare pausable, and the ledger
can change anything) -/
theorem paused_blocks_run (c : Cfg) (ops : List (List Nat × Fungible.Op)) (s : PTok)
    (hp : s.p.paused = true) :
    let s' := PTok.run c s (ops.map (fun x => (x.1, PTok.Op.tok x.2)))
    s'.tok.bal = s.tok.bal ∧ s'.tok.supply = s.tok.supply ∧ s'.p = s.p ∧ s'.owner = s.owner := by
  refine run_keeps_on (PTok.step_or c)
    (P := fun s1 => s1.tok.bal = s.tok.bal ∧ s1.tok.supply = s.tok.supply ∧ s1.p = s.p ∧ s1.owner = s.owner)
    (Q := fun op => ∃ o, op = .tok o) ?_ _ s ?_ ⟨rfl, rfl, rfl, rfl⟩
  · rintro s1 auth _ s2 ⟨o, rfl⟩ ⟨k1, k2, k3, k4⟩ hx
    obtain ⟨hnp, -, t, ht, rfl⟩ := ptok_tok_ok hx
    suffices t.bal = s1.tok.bal ∧ t.supply = s1.tok.supply from ⟨this.1.trans k1, this.2.trans k2, k3, k4⟩
    -- only the two entry points not declared pausable get past the guard
    cases o with
    | approve ow sp a lu => exact ⟨(approve_frame ht).2, (approve_frame ht).1⟩
    | advance n => rw [← Except.ok.inj ht]; exact ⟨rfl, rfl⟩
    | _ => exact absurd ((hnp rfl).symm.trans ((congrArg Pause.paused k3).trans hp)) Bool.false_ne_true
  · intro x hx
    obtain ⟨y, -, rfl⟩ := List.mem_map.1 hx
    exact ⟨_, rfl⟩

/-- **paused_blocks** (pausable counter): `increment` fails while paused, `emergency_reset`
(declared `when_paused`) fails while not paused; both without effect -/
theorem paused_blocks_counter (s : PCnt) (auth : List Nat) :
    (s.p.paused = true → PCnt.apply s auth .increment = .error .gate ∧ PCnt.step s (auth, .increment) = s) ∧
    (s.p.paused = false → PCnt.apply s auth .emergencyReset = .error .gate ∧
      PCnt.step s (auth, .emergencyReset) = s) := by
  constructor
  · intro hp
    have h : PCnt.apply s auth .increment = .error .gate := by
      simp only [PCnt.apply, PCnt.increment, whenNotPaused_true hp, bind_error]
    exact ⟨h, by simp only [PCnt.step, h]⟩
  · intro hp
    have h : PCnt.apply s auth .emergencyReset = .error .gate := by
      simp only [PCnt.apply, PCnt.emergencyReset, whenPaused_false hp, bind_error]
    exact ⟨h, by simp only [PCnt.step, h]⟩

/-- **unpause_restores**: an accepted `pause` followed by an accepted `unpause` gives back the
same token state, owner and flag (only the two events are added to the log), and every
fungible entry point then behaves exactly as it did before the pause -/
theorem unpause_restores (c : Cfg) (s s1 s2 : PTok) (a1 a2 : List Nat) (c1 c2 : Nat)
    (h1 : PTok.apply c s a1 (.pause c1) = .ok s1) (h2 : PTok.apply c s1 a2 (.unpause c2) = .ok s2) :
    s2.tok = s.tok ∧ s2.owner = s.owner ∧ s2.p.paused = s.p.paused ∧
    s2.p.log = s.p.log ++ [.paused, .unpaused] ∧
    ∀ auth o, PTok.applyTok c s2 auth o = PTok.applyTok c s auth o := by
  obtain ⟨e1, -, -, rfl⟩ := ownerPause_ok h1
  obtain ⟨-, -, -, rfl⟩ := ownerUnpause_ok h2
  refine ⟨rfl, rfl, e1.symm, List.append_assoc _ _ _, ?_⟩
  intro auth o
  cases o <;> simp only [PTok.applyTok, whenNotPaused, e1]

/-- **unpause_restores** for the counter -/
theorem unpause_restores_counter (s s1 s2 : PCnt) (a1 a2 : List Nat) (c1 c2 : Nat)
    (h1 : PCnt.apply s a1 (.pause c1) = .ok s1) (h2 : PCnt.apply s1 a2 (.unpause c2) = .ok s2) :
    s2.counter = s.counter ∧ s2.owner = s.owner ∧ s2.p.paused = s.p.paused ∧
    s2.p.log = s.p.log ++ [.paused, .unpaused] := by
  obtain ⟨e1, -, -, rfl⟩ := ownerPause_ok h1
  obtain ⟨-, -, -, rfl⟩ := ownerUnpause_ok h2
  exact ⟨rfl, rfl, e1.symm, List.append_assoc _ _ _⟩

/-- **pause_alternates**, one step: `pause` is refused while paused, `unpause` while not
paused, and either is accepted only from the owner with the owner's authorization -/
theorem pause_alternates_step (c : Cfg) (s s' : PTok) (auth : List Nat) (caller : Nat) :
    (PTok.apply c s auth (.pause caller) = .ok s' →
      s.p.paused = false ∧ s'.p.paused = true ∧ caller = s.owner ∧ s.owner ∈ auth) ∧
    (PTok.apply c s auth (.unpause caller) = .ok s' →
      s.p.paused = true ∧ s'.p.paused = false ∧ caller = s.owner ∧ s.owner ∈ auth) := by
  constructor
  · intro h
    obtain ⟨e1, hm, heq, rfl⟩ := ownerPause_ok h
    exact ⟨e1, rfl, heq.symm, heq ▸ hm⟩
  · intro h
    obtain ⟨e1, hm, heq, rfl⟩ := ownerUnpause_ok h
    exact ⟨e1, rfl, heq.symm, heq ▸ hm⟩

/-- **pause_alternates**, all histories of the pausable token: from deployment, the `paused` /
`unpaused` events of ANY operation list strictly alternate, starting with `paused`
(`flagAfter` replays them and is defined only on alternating logs), and the flag is what
the last of them says -/
theorem pause_alternates (c : Cfg) (now owner : Nat) (initial : Int) (s0 : PTok)
    (h0 : PTok.construct now owner initial = .ok s0) (ops : List (List Nat × PTok.Op)) :
    flagAfter (PTok.run c s0 ops).p.log = some (PTok.run c s0 ops).p.paused := by
  have hinit : flagAfter s0.p.log = some s0.p.paused := by
    obtain ⟨t, _, h⟩ := bind_eq_ok h0
    rw [← Except.ok.inj h]; rfl
  refine run_keeps (PTok.step_or c) (P := fun s => flagAfter s.p.log = some s.p.paused) ?_ ops s0 hinit
  intro s auth o s1 hs hx
  cases o with
  | tok o => obtain ⟨-, -, t, -, rfl⟩ := ptok_tok_ok hx; exact hs
  | pause caller =>
    obtain ⟨e1, -, -, rfl⟩ := ownerPause_ok hx
    exact flagAfter_paused (hs.trans (congrArg some e1))
  | unpause caller =>
    obtain ⟨e1, -, -, rfl⟩ := ownerUnpause_ok hx
    exact flagAfter_unpaused (hs.trans (congrArg some e1))

/-- **pause_alternates** for the counter example, all histories -/
theorem pause_alternates_counter (owner : Nat) (ops : List (List Nat × PCnt.Op)) :
    flagAfter (PCnt.run (PCnt.construct owner) ops).p.log =
      some (PCnt.run (PCnt.construct owner) ops).p.paused := by
  refine run_keeps PCnt.step_or (P := fun s => flagAfter s.p.log = some s.p.paused) ?_ ops _ rfl
  intro s auth o s1 hs hx
  cases o with
  | increment =>
    obtain ⟨_, _, h⟩ := bind_eq_ok hx
    split at h
    · cases h
    · rw [← Except.ok.inj h]; exact hs
  | emergencyReset =>
    obtain ⟨_, _, h⟩ := bind_eq_ok hx
    rw [← Except.ok.inj h]; exact hs
  | pause caller =>
    obtain ⟨e1, -, -, rfl⟩ := ownerPause_ok hx
    exact flagAfter_paused (hs.trans (congrArg some e1))
  | unpause caller =>
    obtain ⟨e1, -, -, rfl⟩ := ownerUnpause_ok hx
    exact flagAfter_unpaused (hs.trans (congrArg some e1))

/-! ## Allow list / block list -/

/-- **allowlist_gates**, library type: no `transfer`, `transfer_from`, `approve`, `burn`,
`burn_from` of `AllowList` succeeds unless every party it must vet (`from` and `to`; the
`owner` of an approval; the `from` of a burn) is allowed -/
theorem allowlist_gates (c : Cfg) (s s' : LTok) (auth : List Nat) (o : Fungible.Op)
    (h : ALib.apply c s auth (.tok o) = .ok s') : ∀ a ∈ vetted o, AllowList.allowed s a = true :=
  (alib_tok_ok h).1

/-- **allowlist_gates**, the example contract's exposed entry points (`burn` / `burn_from` routed
through `AllowList`; taken from `Base`: `allowlist_gates_example_counterexample`) -/
theorem allowlist_gates_example (c : Cfg) (s s' : LEx) (auth : List Nat) (o : Fungible.Op)
    (h : AEx.apply c s auth (.tok o) = .ok s') : ∀ a ∈ vetted o, AllowList.allowed s.t a = true := by
  obtain ⟨t, ht, -⟩ := aex_tok_ok h
  exact allowlist_gates c s.t t auth o ht

/-- **blocklist_gates**, library type: no `transfer`, `transfer_from`, `approve`, `burn`,
`burn_from` of `BlockList` succeeds if a party it must vet is blocked -/
theorem blocklist_gates (c : Cfg) (s s' : LTok) (auth : List Nat) (o : Fungible.Op)
    (h : BLib.apply c s auth (.tok o) = .ok s') : ∀ a ∈ vetted o, BlockList.blocked s a = false :=
  (blib_tok_ok h).1

/-- **blocklist_gates**, the example contract's exposed entry points (it exposes no burn) -/
theorem blocklist_gates_example (c : Cfg) (s s' : LEx) (auth : List Nat) (o : Fungible.Op)
    (h : BEx.apply c s auth (.tok o) = .ok s') : ∀ a ∈ vetted o, BlockList.blocked s.t a = false := by
  obtain ⟨t, ht, -⟩ := bex_tok_ok h
  exact blocklist_gates c s.t t auth o ht

/-- the lists can only be changed by an account holding the manager role that authorizes
the call (examples' `#[only_role(operator, "manager")]`) -/
theorem list_change_needs_manager (c : Cfg) (s s' : LEx) (auth : List Nat) (u operator : Nat) (on : Bool) :
    (AEx.apply c s auth (.setList u on operator) = .ok s' → s.isMgr operator = true ∧ operator ∈ auth) ∧
    (BEx.apply c s auth (.setList u on operator) = .ok s' → s.isMgr operator = true ∧ operator ∈ auth) :=
  ⟨fun h => onlyRole_ok (aex_set_ok h).1, fun h => onlyRole_ok (bex_set_ok h).1⟩

/-- **list_change_immediate_idempotent**: allowing / disallowing (blocking / unblocking) a
user changes exactly that user's status, at once (the very next check sees it), touches no
token state, and doing it a second time changes nothing at all (no second event either) -/
theorem list_change_immediate_idempotent (s : LTok) (u : Nat) :
    AllowList.allowed (AllowList.allowUser s u) u = true ∧
    AllowList.allowed (AllowList.disallowUser s u) u = false ∧
    BlockList.blocked (BlockList.blockUser s u) u = true ∧
    BlockList.blocked (BlockList.unblockUser s u) u = false ∧
    (∀ a, a ≠ u → (AllowList.allowUser s u).listed a = s.listed a ∧
      (AllowList.disallowUser s u).listed a = s.listed a ∧
      (BlockList.blockUser s u).listed a = s.listed a ∧
      (BlockList.unblockUser s u).listed a = s.listed a) ∧
    ((AllowList.allowUser s u).tok = s.tok ∧ (AllowList.disallowUser s u).tok = s.tok ∧
      (BlockList.blockUser s u).tok = s.tok ∧ (BlockList.unblockUser s u).tok = s.tok) ∧
    AllowList.allowUser (AllowList.allowUser s u) u = AllowList.allowUser s u ∧
    AllowList.disallowUser (AllowList.disallowUser s u) u = AllowList.disallowUser s u ∧
    BlockList.blockUser (BlockList.blockUser s u) u = BlockList.blockUser s u ∧
    BlockList.unblockUser (BlockList.unblockUser s u) u = BlockList.unblockUser s u := by
  -- each of the four is `Mon.setFn ak on`
  have at_u (ak on : Bool) : (Mon.setFn ak on s u).listed u = on := by rw [Mon.setFn_listed, upd_same]
  have off_u (ak on : Bool) (a : Nat) (ha : a ≠ u) : (Mon.setFn ak on s u).listed a = s.listed a := by
    rw [Mon.setFn_listed, upd_other _ _ _ _ ha]
  have twice (ak on : Bool) : Mon.setFn ak on (Mon.setFn ak on s u) u = Mon.setFn ak on s u :=
    Mon.setFn_noop (at_u ak on)
  exact ⟨at_u true true, at_u true false, at_u false true, at_u false false,
    fun a ha => ⟨off_u true true a ha, off_u true false a ha, off_u false true a ha, off_u false false a ha⟩,
    ⟨Mon.setFn_tok true true s u, Mon.setFn_tok true false s u, Mon.setFn_tok false true s u,
      Mon.setFn_tok false false s u⟩,
    twice true true, twice true false, twice false true, twice false false⟩

/-- immediacy seen from the entry points: right after an accepted `disallow_user(u)` resp.
`block_user(u)`, every call of the example that must vet `u` is refused; right after
`allow_user` / `unblock_user` the list no longer stands in the way of `u` -/
theorem list_change_immediate_example (c : Cfg) (s s1 : LEx) (a1 a2 : List Nat) (u operator : Nat)
    (o : Fungible.Op) (hu : u ∈ vetted o) :
    (AEx.apply c s a1 (.setList u false operator) = .ok s1 → ∀ s2, AEx.apply c s1 a2 (.tok o) ≠ .ok s2) ∧
    (BEx.apply c s a1 (.setList u true operator) = .ok s1 → ∀ s2, BEx.apply c s1 a2 (.tok o) ≠ .ok s2) ∧
    (AEx.apply c s a1 (.setList u true operator) = .ok s1 → AllowList.allowed s1.t u = true) ∧
    (BEx.apply c s a1 (.setList u false operator) = .ok s1 → BlockList.blocked s1.t u = false) := by
  have li := list_change_immediate_idempotent s.t u
  refine ⟨fun h s2 h2 => ?_, fun h s2 h2 => ?_, fun h => ?_, fun h => ?_⟩
  · rw [(aex_set_ok h).2] at h2
    exact Bool.false_ne_true (li.2.1.symm.trans (allowlist_gates_example c _ s2 a2 o h2 u hu))
  · rw [(bex_set_ok h).2] at h2
    exact Bool.false_ne_true ((blocklist_gates_example c _ s2 a2 o h2 u hu).symm.trans li.2.2.1)
  · rw [(aex_set_ok h).2]; exact li.1
  · rw [(bex_set_ok h).2]; exact li.2.2.2.1

def demoCfg : Cfg := ⟨1, 200000⟩

def isOk {ε α} : Except ε α → Bool
  | .ok _ => true
  | .error _ => false

/-! ### the example with `burn` / `burn_from` taken from `Base` (`AEx.applyLegacy`; DESIGN.md section 8, #5) -/

/-- admin 0 (allowed by the constructor) holds 1000; manager 1 allows user 2; 2 receives 100 and
approves 3 for 50; the manager disallows 2 -/
def demoAllowOps : List (List Nat × LOp) :=
  [([1], .setList 2 true 1), ([0], .tok (.transfer 0 2 100)), ([2], .tok (.approve 2 3 50 5000)),
   ([1], .setList 2 false 1)]

def demoAllowState : Option LEx :=
  match AEx.construct 100 0 1 1000 with
  | .ok s => some (runWith (AEx.apply demoCfg) s demoAllowOps)
  | .error _ => none

/-- with `impl FungibleBurnable for ExampleContract {}` (the trait's default `Base::burn*`: `AEx.applyLegacy`) the
statement of `allowlist_gates_example` is FALSE: after `demoAllowOps` the disallowed holder 2 burns, and
spender 3 burns from 2 -/
theorem allowlist_gates_example_counterexample :
    ∃ s : LEx, demoAllowState = some s ∧ AllowList.allowed s.t 2 = false ∧ s.t.tok.bal 2 = 100 ∧
      2 ∈ vetted (.burn 2 40) ∧ 2 ∈ vetted (.burnFrom 3 2 30) ∧
      isOk (AEx.applyLegacy demoCfg s [2] (.tok (.burn 2 40))) = true ∧
      isOk (AEx.applyLegacy demoCfg s [3] (.tok (.burnFrom 3 2 30))) = true ∧
      -- routed through `AllowList`, both are refused
      isOk (AEx.apply demoCfg s [2] (.tok (.burn 2 40))) = false ∧
      isOk (AEx.apply demoCfg s [3] (.tok (.burnFrom 3 2 30))) = false := by
  refine ⟨(demoAllowState.get (by decide)), by simp, ?_⟩
  decide

/-! ## Cap -/

/-- **cap_never_exceeded**, one mint: a mint that passed `check_cap` leaves the supply at or
below the cap, and `check_cap` refuses any amount whose sum with the supply leaves i128 -/
theorem check_cap_then_mint (s : CTok) (cap : Int) (hc : s.cap = some cap) (to : Nat) (amt : Int)
    (t' : Fungible.State) (h1 : checkCap s amt = .ok ()) (h2 : Fungible.mint s.tok to amt = .ok t') :
    t'.supply = s.tok.supply + amt ∧ t'.supply ≤ cap ∧ in128 (s.tok.supply + amt) := by
  unfold checkCap queryCap at h1
  rw [hc] at h1
  simp only [bind_ok] at h1
  unfold checkAgainst at h1
  split at h1
  · cases h1
  · rename_i hin
    split at h1
    · cases h1
    · rename_i hle
      -- `Base::mint` is `Fungible.apply` on `.mint`, whatever the configuration and the signers
      have hs : t'.supply = s.tok.supply + amt := apply_supply (c := ⟨0, 0⟩) (auth := []) (op := .mint to amt) h2
      exact ⟨hs, by omega, Decidable.of_not_not hin⟩

/-- `check_cap` does not pass an amount whose sum with the supply leaves i128 -/
theorem check_cap_overflow_refused (s : CTok) (amt : Int) (h : ¬ in128 (s.tok.supply + amt)) :
    checkCap s amt ≠ .ok () := by
  intro hc
  obtain ⟨cap, _, h2⟩ := bind_eq_ok hc
  unfold checkAgainst at h2
  rw [if_pos h] at h2
  cases h2

theorem cap_step {c : Cfg} {s s' : CTok} {auth : List Nat} {o : Fungible.Op} {cap : Int} (hc : s.cap = some cap)
    (h : CTok.apply c s auth o = .ok s') :
    s'.cap = some cap ∧ (s'.tok.supply = s.tok.supply ∨ s'.tok.supply ≤ cap) := by
  obtain ⟨hm, t, ht, rfl⟩ := ctok_ok h
  refine ⟨hc, ?_⟩
  cases o with
  | mint to amt => exact .inr (check_cap_then_mint s cap hc to amt t (hm _ _ rfl) ht).2.1
  | burn f amt => cases h
  | burnFrom sp f amt => cases h
  | _ => exact .inl ((apply_supply ht).trans (Int.add_zero _))

/-- `set_cap` refuses a negative cap; `check_cap` refuses when no cap was set -/
theorem cap_must_be_set (s : CTok) (cap amt : Int) :
    (cap < 0 → setCap s cap = .error .gate) ∧ (s.cap = none → checkCap s amt = .error .gate) := by
  constructor
  · intro h; simp [setCap, h]
  · intro h; simp [checkCap, queryCap, h, bind_error]

/-- **cap_never_exceeded**, all histories: on the capped example contract, deployed with any
cap, after ANY finite list of calls, whatever the arguments and authorizations, the cap is still
the one set at deployment and `total_supply ≤ cap` -/
theorem cap_never_exceeded (c : Cfg) (now : Nat) (cap : Int) (s0 : CTok)
    (h0 : CTok.construct now cap = .ok s0) (ops : List (List Nat × Fungible.Op)) :
    (runWith (CTok.apply c) s0 ops).cap = some cap ∧
    (runWith (CTok.apply c) s0 ops).tok.supply ≤ cap := by
  have hinit : s0.cap = some cap ∧ s0.tok.supply ≤ cap := by
    obtain ⟨hc, rfl⟩ := ctok_construct_ok h0
    exact ⟨rfl, hc⟩
  refine run_keeps (stepWith_or (CTok.apply c)) (P := fun s => s.cap = some cap ∧ s.tok.supply ≤ cap) ?_ ops s0 hinit
  intro s auth o s1 hs hx
  obtain ⟨h1, h2⟩ := cap_step hs.1 hx
  exact ⟨h1, h2.elim (fun e => e ▸ hs.2) id⟩

/-! ## Migration flag -/

/-- operations that arm the flag: `enable_migration` itself and the derived `upgrade` -/
def Mig.Op.arms : Mig.Op → Bool
  | .enable => true
  | .upgrade _ _ => true
  | _ => false

/-- one accepted `migrate`: the flag was set, the operator is the authorizing owner, and the
flag is cleared afterwards — so a second `migrate` right after it is refused, whoever calls -/
theorem migrate_consumes_flag (s s' : Mig) (auth : List Nat) (d : Nat × Nat) (operator : Nat)
    (h : Mig.migrate s auth d operator = .ok s') :
    s.migrating = true ∧ s'.migrating = false ∧ operator = s.owner ∧ operator ∈ auth ∧
    s'.data = some d ∧ ∀ a2 d2 o2 s2, Mig.migrate s' a2 d2 o2 ≠ .ok s2 := by
  obtain ⟨hm, hop, hau, rfl⟩ := migrate_ok h
  exact ⟨hm, rfl, hop, hau, rfl, fun a2 d2 o2 s2 h2 => Bool.false_ne_true (migrate_ok h2).1⟩

/-- an accepted `upgrade` (owner-authorized) arms the flag, and the owner's `migrate` is then
accepted — exactly once by `migrate_consumes_flag` -/
theorem upgrade_enables_one_migration (s s' : Mig) (auth : List Nat) (hash operator : Nat)
    (h : Mig.upgrade s auth hash operator = .ok s') :
    s'.migrating = true ∧ operator = s.owner ∧ operator ∈ auth ∧
    ∀ d, ∃ s2, Mig.migrate s' [s'.owner] d s'.owner = .ok s2 := by
  obtain ⟨hop, hau, rfl⟩ := upgrade_ok h
  exact ⟨rfl, hop, hau, fun d => ⟨_, migrate_by_owner _ rfl d⟩⟩

/-- the final state, the number of accepted `migrate` calls and that of accepted arming calls along a history -/
def Mig.tally (s : Mig) : List (List Nat × Mig.Op) → Mig × Nat × Nat
  | [] => (s, 0, 0)
  | x :: xs =>
    match Mig.apply s x.1 x.2 with
    | .error _ => Mig.tally s xs
    | .ok s' =>
      let r := Mig.tally s' xs
      (r.1, r.2.1 + (match x.2 with | .migrate _ _ => 1 | _ => 0), r.2.2 + (if x.2.arms then 1 else 0))

/-- by `rfl`: `unfold` / `simp` would first generate the equation lemmas of the structural recursion, which is slow to
check -/
theorem Mig.tally_cons (s : Mig) (x : List Nat × Mig.Op) (xs : List (List Nat × Mig.Op)) :
    Mig.tally s (x :: xs) =
      match Mig.apply s x.1 x.2 with
      | .error _ => Mig.tally s xs
      | .ok s' =>
        ((Mig.tally s' xs).1, (Mig.tally s' xs).2.1 + (match x.2 with | .migrate _ _ => 1 | _ => 0),
          (Mig.tally s' xs).2.2 + (if x.2.arms then 1 else 0)) := rfl

theorem mig_step_credit {s s' : Mig} {auth : List Nat} {o : Mig.Op} (h : Mig.apply s auth o = .ok s') :
    (match o with | .migrate _ _ => 1 | _ => 0) + (if s'.migrating then 1 else 0) ≤
      (if o.arms then 1 else 0) + (if s.migrating then 1 else 0) := by
  cases o with
  | enable => rw [← Except.ok.inj h]; exact Nat.le_add_right 1 _
  | ensure => obtain ⟨_, _, h⟩ := bind_eq_ok h; rw [← Except.ok.inj h]; exact Nat.le_refl _
  | complete => rw [← Except.ok.inj h]; exact Nat.zero_le _
  | migrate d operator =>
    obtain ⟨h1, h2, -⟩ := migrate_consumes_flag s s' auth d operator h
    rw [h1, h2]; exact Nat.le_refl 1
  | upgrade hsh operator =>
    rw [(upgrade_enables_one_migration s s' auth hsh operator h).1]; exact Nat.le_add_right 1 _

/-- **migrate_once_per_upgrade**, all histories: from a state whose flag is clear (a freshly
deployed contract), for ANY finite list of calls, with any arguments and authorizations,

    #accepted migrate  +  (1 if the flag is still set)  ≤  #accepted enable/upgrade

i.e. every completed migration consumed its own upgrade, never more than one per upgrade and
never without one. -/
theorem migrate_once_per_upgrade (ops : List (List Nat × Mig.Op)) (s : Mig) (hs : s.migrating = false) :
    (Mig.tally s ops).2.1 + (if (Mig.tally s ops).1.migrating then 1 else 0) ≤ (Mig.tally s ops).2.2 := by
  -- generalized: starting flag counted on the right
  suffices ∀ s : Mig, (Mig.tally s ops).2.1 + (if (Mig.tally s ops).1.migrating then 1 else 0) ≤
      (Mig.tally s ops).2.2 + (if s.migrating then 1 else 0) by
    have := this s; rw [hs] at this; exact this
  clear hs s
  induction ops with
  | nil => intro s; exact Nat.le_refl _
  | cons x xs ih =>
    intro s
    rw [Mig.tally_cons]
    cases hx : Mig.apply s x.1 x.2 with
    | error e => exact ih s
    | ok s' =>
      have h1 := ih s'
      have h2 := mig_step_credit hx
      simp only
      omega

/-- **never without an upgrade**: from a clear flag, a history that contains no accepted arming
call (no `enable_migration`, no `upgrade`) completes no migration at all: the flag stays
clear and `_migrate` never runs (the stored data is untouched) -/
theorem no_migration_without_upgrade (ops : List (List Nat × Mig.Op)) (s : Mig)
    (hs : s.migrating = false) (hno : ∀ x ∈ ops, x.2.arms = false) :
    (runWith Mig.apply s ops).migrating = false ∧ (runWith Mig.apply s ops).data = s.data ∧
    (Mig.tally s ops).2.1 = 0 := by
  induction ops generalizing s with
  | nil => exact ⟨hs, rfl, rfl⟩
  | cons x xs ih =>
    have hx0 := hno x (by simp)
    have hxs : ∀ y ∈ xs, y.2.arms = false := fun y hy => hno y (by simp [hy])
    rw [show runWith Mig.apply s (x :: xs) = runWith Mig.apply (stepWith Mig.apply s x) xs from rfl, Mig.tally_cons]
    unfold stepWith
    cases hx : Mig.apply s x.1 x.2 with
    | error e => exact ih s hs hxs
    | ok s' =>
      rcases x with ⟨auth, o⟩
      cases o with
      | enable => cases hx0
      | upgrade _ _ => cases hx0
      | ensure =>
        obtain ⟨_, he, _⟩ := bind_eq_ok hx
        exact absurd (hs ▸ ensureCanComplete_ok.1 he) Bool.false_ne_true
      | complete => obtain rfl := Except.ok.inj hx; exact ih _ rfl hxs
      | migrate d operator => exact absurd (hs ▸ (migrate_ok hx).1) Bool.false_ne_true

/-! ## non-vacuity -/

/-- a paused token with balances: the hypotheses of `paused_blocks` are met and the calls would
succeed if the contract were not paused -/
def demoPTok : Option PTok :=
  match PTok.construct 100 0 1000 with
  | .ok s => some (PTok.run demoCfg s [([0], .tok (.mint 1 500)), ([1], .tok (.approve 1 2 300 5000)),
      ([0], .pause 0)])
  | .error _ => none

example : ∃ s, demoPTok = some s ∧ s.p.paused = true ∧ s.tok.bal 1 = 500 ∧
    isOk (PTok.apply demoCfg s [1] (.tok (.transfer 1 3 10))) = false ∧
    isOk (PTok.apply demoCfg { s with p := { s.p with paused := false } } [1] (.tok (.transfer 1 3 10))) = true ∧
    isOk (PTok.apply demoCfg s [1] (.tok (.approve 1 2 5 5000))) = true ∧
    isOk (PTok.apply demoCfg s [0] (.unpause 0)) = true ∧
    isOk (PTok.apply demoCfg s [1] (.unpause 1)) = false := by
  refine ⟨demoPTok.get (by decide), by simp, ?_⟩
  decide

/-- list matrix on the library types: an allowed pair transfers, a disallowed / blocked party
is refused in each vetted position -/
example :
    let s : LTok := runWith (ALib.apply demoCfg) (LTok.empty 100)
      [([], .tok (.mint 0 1000)), ([], .setList 0 true 9), ([], .setList 1 true 9), ([0], .tok (.approve 0 2 50 5000))]
    isOk (ALib.apply demoCfg s [0] (.tok (.transfer 0 1 10))) = true ∧
    isOk (ALib.apply demoCfg s [0] (.tok (.transfer 0 2 10))) = false ∧
    isOk (ALib.apply demoCfg s [2] (.tok (.transferFrom 2 0 1 10))) = true ∧
    isOk (ALib.apply demoCfg s [2] (.tok (.transferFrom 2 0 2 10))) = false ∧
    isOk (ALib.apply demoCfg s [0] (.tok (.burn 0 10))) = true ∧
    isOk (ALib.apply demoCfg (AllowList.disallowUser s 0) [0] (.tok (.burn 0 10))) = false ∧
    isOk (ALib.apply demoCfg (AllowList.disallowUser s 0) [2] (.tok (.burnFrom 2 0 10))) = false := by
  decide

example :
    let s : LTok := runWith (BLib.apply demoCfg) (LTok.empty 100)
      [([], .tok (.mint 0 1000)), ([], .setList 3 true 9), ([0], .tok (.approve 0 2 50 5000))]
    isOk (BLib.apply demoCfg s [0] (.tok (.transfer 0 1 10))) = true ∧
    isOk (BLib.apply demoCfg s [0] (.tok (.transfer 0 3 10))) = false ∧
    isOk (BLib.apply demoCfg s [2] (.tok (.transferFrom 2 0 3 10))) = false ∧
    isOk (BLib.apply demoCfg (BlockList.blockUser s 0) [0] (.tok (.approve 0 1 10 5000))) = false ∧
    isOk (BLib.apply demoCfg (BlockList.blockUser s 0) [2] (.tok (.burnFrom 2 0 10))) = false ∧
    isOk (BLib.apply demoCfg (BlockList.unblockUser (BlockList.blockUser s 0) 0) [2] (.tok (.burnFrom 2 0 10))) = true := by
  decide

/-- cap 1000: 600 + 400 reaches the cap exactly, one more unit is refused, as is an amount
that would overflow i128; the hypotheses of `cap_never_exceeded` are met -/
example : ∃ s0, CTok.construct 100 1000 = .ok s0 ∧
    (runWith (CTok.apply demoCfg) s0 [([], .mint 1 600), ([], .mint 2 401), ([], .mint 2 400),
      ([], .mint 3 1), ([], .mint 3 I128_MAX), ([1], .transfer 1 4 100)]).tok.supply = 1000 := by
  refine ⟨_, rfl, ?_⟩
  decide

/-- a `migrate` before any arming call, one by a non-owner and one right after a completed migration are refused; two
`upgrade`s in a row arm the flag once: 2 accepted migrations, 3 accepted arming calls -/
example : (Mig.tally (Mig.init 0)
    [([0], .migrate (1, 2) 0), ([], .enable), ([1], .migrate (1, 2) 1), ([0], .migrate (3, 4) 0),
     ([0], .migrate (5, 6) 0), ([0], .upgrade 7 0), ([0], .upgrade 7 0), ([0], .migrate (7, 8) 0),
     ([0], .migrate (9, 10) 0)]).2 = (2, 3) := by decide

end OZ.Gates
