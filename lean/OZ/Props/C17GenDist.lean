import OZ.Gen.Distributor
import OZ.Props.C17Gen
import OZ.Lemmas.GatesGen
/-
C17 — the Merkle distributor's claim bookkeeping, re-checked on every run against the SOURCE as it stands.

`lean/OZ/Gen/Distributor.lean` is regenerated by `/verif/tools/rs2lean.py --dist` (state-passing mode) from
/repo's current `packages/contract-utils/src/merkle_distributor/storage.rs`: `get_root`, `is_claimed`,
`set_root`, `set_claimed`, `verify_and_set_claimed`, `verify_with_index_and_set_claimed`; the verifier calls
go to the generated `Merkle.verify` / `Merkle.verify_with_index` of OZ/Gen/Merkle.lean.  NOT translated,
hand-written in the translator's table and marked so in the generated file: `get_verification_args` (the
XDR encoding and hashing of the leaf) — it is the stand-in `root ← get_root; (root, leaf_hash leaf, leaf_index
leaf)` with `leaf_hash`, `leaf_index` parameters, the same abstraction the hand model makes.

The two generated claim functions are one text with two verifiers (`claimWith`); what is said of both is
proved of that text.
-/
namespace OZ.Gen.Distributor
open OZ.Rs OZ.Merkle

/-- the store read as the model's distributor state (a missing `Claimed` entry is `false`) -/
def Abs (st : Distributor.Store) (d : Dist B32) : Prop :=
  d.root = st.Root ∧ ∀ i, d.claimed i = (st.Claimed i).getD false

def readsOf (o : Ops B32) (leafHash : Nat → B32) (leafIndex : Nat → Nat) : Distributor.Reads :=
  ⟨OZ.Gen.Merkle.readsOf o, leafHash, leafIndex⟩

theorem is_claimed_eq (envr : Distributor.Reads) (st : Distributor.Store) (i : Nat) :
    Distributor.is_claimed envr st i = .ok ((st.Claimed i).getD false) := by
  unfold Distributor.is_claimed
  cases st.Claimed i <;> rfl

theorem abs_setClaimed {st : Distributor.Store} {d : Dist B32} (h : Abs st d) (i : Nat) :
    Abs (Distributor.Store.set_Claimed st i true) (d.setClaimed i) := by
  refine ⟨h.1, fun j => ?_⟩
  simp only [Dist.setClaimed, Distributor.Store.set_Claimed]
  by_cases hj : j = i
  · simp [hj]
  · simp [hj, h.2 j]

/-- the text the two generated claim functions share: read root, leaf hash and leaf index, refuse a
marked index, ask the verifier `V`, mark the index when it accepts -/
def claimWith (envr : Distributor.Reads) (st : Distributor.Store) (leaf : Nat) (V : B32 → B32 → Nat → Comp Bool) :
    Comp (Unit × Distributor.Store) :=
  Comp.bind (Distributor.get_verification_args envr st leaf) fun t1 =>
  Comp.bind (Distributor.is_claimed envr st t1.2.2) fun t2 =>
  if t2 = true then Comp.panic
  else Comp.bind (V t1.1 t1.2.1 t1.2.2) fun t3 =>
    if t3 = true then Comp.bind (Distributor.set_claimed envr st t1.2.2) fun t4 => Comp.ok ((), t4.2)
    else Comp.panic

theorem claimWith_ok (envr : Distributor.Reads) (st st' : Distributor.Store) (leaf : Nat)
    (V : B32 → B32 → Nat → Comp Bool) :
    claimWith envr st leaf V = .ok ((), st') ↔
      ∃ root, st.Root = some root ∧ (st.Claimed (envr.leaf_index leaf)).getD false = false ∧
        V root (envr.leaf_hash leaf) (envr.leaf_index leaf) = .ok true ∧
        st' = Distributor.Store.set_Claimed st (envr.leaf_index leaf) true := by
  unfold claimWith Distributor.get_verification_args Distributor.get_root
  cases st.Root with
  | none => simp
  | some root =>
    simp only [Comp.unwrap_some, Comp.bind_ok, is_claimed_eq, Option.some.injEq, exists_eq_left']
    cases (st.Claimed (envr.leaf_index leaf)).getD false with
    | true => simp
    | false =>
      cases V root (envr.leaf_hash leaf) (envr.leaf_index leaf) with
      | panic => simp
      | ok b => cases b <;> simp [Distributor.set_claimed, eq_comm]

/-- **C17, one claim per leaf, on the source as translated**: an accepted sorted-pair claim needs a stored
root, an index not yet marked, and a proof the (generated) verifier accepts against that root for the leaf's
hash; it marks exactly the leaf's index and writes nothing else -/
theorem gen_claim_sound (envr : Distributor.Reads) (st st' : Distributor.Store) (leaf : Nat) (proof : List B32)
    (h : Distributor.verify_and_set_claimed envr st leaf proof = .ok ((), st')) :
    ∃ root, st.Root = some root ∧ (st.Claimed (envr.leaf_index leaf)).getD false = false ∧
      Merkle.verify envr.merkle proof root (envr.leaf_hash leaf) = .ok true ∧
      st' = Distributor.Store.set_Claimed st (envr.leaf_index leaf) true :=
  (claimWith_ok envr st st' leaf fun root h _ => Merkle.verify envr.merkle proof root h).mp h

/-- a marked index refuses every further claim, whatever the proof (both forms) -/
theorem gen_claimed_refuses (envr : Distributor.Reads) (st : Distributor.Store) (leaf : Nat) (proof : List B32)
    (hc : (st.Claimed (envr.leaf_index leaf)).getD false = true) :
    ((Distributor.verify_and_set_claimed envr st leaf proof).bind fun _ => Comp.ok ()) = .panic ∧
    ((Distributor.verify_with_index_and_set_claimed envr st leaf proof).bind fun _ => Comp.ok ()) = .panic := by
  refine ⟨refused fun st' h => ?_, refused fun st' h => ?_⟩
  · obtain ⟨_, _, h2, _⟩ := gen_claim_sound envr st st' leaf proof h
    exact Bool.false_ne_true (h2.symm.trans hc)
  · obtain ⟨_, _, h2, _⟩ :=
      (claimWith_ok envr st st' leaf fun root h i => Merkle.verify_with_index envr.merkle proof root h i).mp h
    exact Bool.false_ne_true (h2.symm.trans hc)

/-- generated = model for one claim, whichever verifier: both sides accept under the same conditions,
which `Abs` and `hGM` translate, and both then set the same flag -/
theorem claim_eq_of_iffs {st : Distributor.Store} {d : Dist B32} (hA : Abs st d) (i : Nat)
    {gen : Comp (Unit × Distributor.Store)} {mod : Except DErr (Dist B32)} {G M : B32 → Prop}
    (hGM : ∀ root, G root ↔ M root) :
    (∀ st', gen = .ok ((), st') ↔ ∃ root, st.Root = some root ∧ (st.Claimed i).getD false = false ∧
      G root ∧ st' = Distributor.Store.set_Claimed st i true) →
    (∀ d', mod = .ok d' ↔ ∃ root, d.root = some root ∧ d.claimed i = false ∧ M root ∧ d' = d.setClaimed i) →
    match mod with
    | .ok d' => ∃ st', gen = .ok ((), st') ∧ Abs st' d'
    | .error _ => (gen.bind fun _ => Comp.ok ()) = .panic := by
  intro hgen hmod
  cases hm : mod with
  | ok d' =>
    obtain ⟨root, h1, h2, h3, rfl⟩ := (hmod d').mp hm
    exact ⟨_, (hgen _).mpr ⟨root, hA.1 ▸ h1, hA.2 _ ▸ h2, (hGM root).mpr h3, rfl⟩, abs_setClaimed hA _⟩
  | error e =>
    refine refused fun st' h => ?_
    obtain ⟨root, h1, h2, h3, _⟩ := (hgen st').mp h
    exact nomatch hm.symm.trans ((hmod _).mpr ⟨root, hA.1.trans h1, (hA.2 _).trans h2, (hGM root).mp h3, rfl⟩)

/-- **generated = model** (sorted-pair claims) -/
theorem verify_and_set_claimed_eq (o : Ops B32) (lh : Nat → B32) (li : Nat → Nat) (st : Distributor.Store)
    (d : Dist B32) (hA : Abs st d) (leaf : Nat) (proof : List B32) :
    match d.verifyAndSetClaimed o (lh leaf) (li leaf) proof with
    | .ok d' => ∃ st', Distributor.verify_and_set_claimed (readsOf o lh li) st leaf proof = .ok ((), st') ∧ Abs st' d'
    | .error _ => ((Distributor.verify_and_set_claimed (readsOf o lh li) st leaf proof).bind fun _ => Comp.ok ()) = .panic :=
  claim_eq_of_iffs hA (li leaf)
    (fun root => by
      rw [show (readsOf o lh li).merkle = OZ.Gen.Merkle.readsOf o from rfl, OZ.Gen.Merkle.verify_eq, Comp.ok.injEq]
      exact Iff.rfl)
    (fun st' => claimWith_ok (readsOf o lh li) st st' leaf fun root h _ => Merkle.verify _ proof root h)
    (fun d' => claim_ok o d d' (lh leaf) (li leaf) proof)

/-- **generated = model** (positional claims) -/
theorem verify_with_index_and_set_claimed_eq (o : Ops B32) (lh : Nat → B32) (li : Nat → Nat) (st : Distributor.Store)
    (d : Dist B32) (hA : Abs st d) (leaf : Nat) (proof : List B32) :
    match d.verifyWithIndexAndSetClaimed o (lh leaf) (li leaf) proof with
    | .ok d' => ∃ st', Distributor.verify_with_index_and_set_claimed (readsOf o lh li) st leaf proof = .ok ((), st') ∧ Abs st' d'
    | .error _ => ((Distributor.verify_with_index_and_set_claimed (readsOf o lh li) st leaf proof).bind fun _ => Comp.ok ()) = .panic :=
  claim_eq_of_iffs hA (li leaf)
    (fun root => by
      rw [show (readsOf o lh li).merkle = OZ.Gen.Merkle.readsOf o from rfl, OZ.Gen.Merkle.verify_with_index_eq]
      exact OZ.Gen.Merkle.toComp_eq_ok _ _)
    (fun st' => claimWith_ok (readsOf o lh li) st st' leaf fun root h i => Merkle.verify_with_index _ proof root h i)
    (fun d' => claimIndexed_ok o d d' (lh leaf) (li leaf) proof)

/-- a mark survives one call: neither `set_root` nor an accepted sorted-pair claim clears it (every history,
both claim forms: `gen_mark_forever` in OZ/Props/C17GenHist.lean) -/
theorem gen_marks_persist (envr : Distributor.Reads) (st st' : Distributor.Store) (j : Nat)
    (hj : (st.Claimed j).getD false = true) :
    (∀ r, Distributor.set_root envr st r = .ok ((), st') → (st'.Claimed j).getD false = true) ∧
    (∀ leaf proof, Distributor.verify_and_set_claimed envr st leaf proof = .ok ((), st') →
      (st'.Claimed j).getD false = true) := by
  constructor
  · intro r h
    unfold Distributor.set_root at h
    injection h with h'; injection h' with _ h''
    rw [← h'']; exact hj
  · intro leaf proof h
    obtain ⟨_, _, _, _, hst⟩ := gen_claim_sound envr st st' leaf proof h
    rw [hst]
    simp only [Distributor.Store.set_Claimed]
    by_cases hx : j = envr.leaf_index leaf
    · simp [hx]
    · simp [hx, hj]

end OZ.Gen.Distributor
