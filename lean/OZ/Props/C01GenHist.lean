import OZ.Props.C02Gen
/-
C01 — for EVERY finite history of the entry points AS TRANSLATED FROM THE SOURCE.

OZ/Props/C01Gen.lean proves that one generated `Base::update` keeps "balances sum to the supply".  Here the
statement is lifted to histories (`Call`, `run` and `run_ok`, the entry points as calls, are those of
OZ/Props/C02Gen.lean): any finite sequence of calls of the six generated state-changing entry points
(`transfer`, `transfer_from`, `approve`, `mint` of fungible/storage.rs; `burn`, `burn_from` of
extensions/burnable/storage.rs — lean/OZ/Gen/Fungible.lean, regenerated on every run), each at its own ledger
and under its own authorization predicate, with arbitrary arguments, a rejected call leaving the store as it
was (the host's rollback): if the balances of the start store are non-negative, zero outside the duplicate-free
universe `U` and sum to the stored supply, the same holds after the history (`gen_history_conserves`), and the
supply moved by exactly the accepted mints minus the accepted burns (`gen_history_supply`).  Induction over the
call list; nothing is bounded.
-/
namespace OZ.Gen.Fungible
open OZ.Rs OZ.Host

def parties : Call → List Nat
  | .transfer f t _ => [f, t]
  | .transferFrom _ f t _ => [f, t]
  | .burn f _ => [f]
  | .burnFrom _ f _ => [f]
  | .approve _ _ _ _ => []
  | .mint t _ => [t]

def supplyDelta : Call → Int
  | .mint _ a => a
  | .burn _ a => -a
  | .burnFrom _ _ a => -a
  | _ => 0

/-- the `update` a call makes, `(from, to, amount)`; `approve` makes none -/
def move? : Call → Option (Option Nat × Option Nat × Int)
  | .transfer f t a => some (some f, some t, a)
  | .transferFrom _ f t a => some (some f, some t, a)
  | .burn f a => some (some f, none, a)
  | .burnFrom _ f a => some (some f, none, a)
  | .mint t a => some (none, some t, a)
  | .approve _ _ _ _ => none

/-- only allowance entries may have been spent before the call's `update` -/
theorem run_update {envr : Fungible.Reads} {st st' : Fungible.Store} {c : Call} {f t : Option Nat} {a : Int}
    (h : run envr st c = .ok ((), st')) (hm : move? c = some (f, t, a)) :
    ∃ st1, st1.Balance = st.Balance ∧ st1.TotalSupply = st.TotalSupply ∧
      Fungible.update envr st1 f t a = .ok ((), st') := by
  have spent : ∀ {sp x : Nat} {to : Option Nat} {a : Int}, (envr.authorized sp = true ∧ ∃ st1,
      Fungible.spend_allowance envr st x sp a = .ok ((), st1) ∧ Fungible.update envr st1 (some x) to a = .ok ((), st')) →
      ∃ st1, st1.Balance = st.Balance ∧ st1.TotalSupply = st.TotalSupply ∧
        Fungible.update envr st1 (some x) to a = .ok ((), st') := by
    rintro sp x to a ⟨_, st1, hs, hu⟩
    obtain ⟨hb, hts, _⟩ := gen_spend_frame envr st st1 _ _ _ hs
    exact ⟨st1, hb, hts, hu⟩
  have := run_ok h
  cases c <;> cases hm
  · exact ⟨st, rfl, rfl, this.2⟩
  · exact spent this
  · exact ⟨st, rfl, rfl, this.2⟩
  · exact spent this
  · exact ⟨st, rfl, rfl, this⟩

theorem supplyDelta_move {c : Call} {f t : Option Nat} {a : Int} (hm : move? c = some (f, t, a)) :
    supplyDelta c = (if f = none then a else 0) - (if t = none then a else 0) := by
  cases c <;> cases hm <;> simp [supplyDelta]

theorem move_mem_parties {c : Call} {f t : Option Nat} {a : Int} (hm : move? c = some (f, t, a)) {x : Nat}
    (hx : f = some x ∨ t = some x) : x ∈ parties c := by
  cases c <;> cases hm <;> rcases hx with hx | hx <;> cases hx <;> simp [parties]

theorem storeState_of_frame {st st1 : Fungible.Store} (hb : st1.Balance = st.Balance) (hs : st1.TotalSupply = st.TotalSupply) :
    storeState st1 = storeState st := by
  unfold storeState; rw [hb, hs]

/-- **one accepted call** keeps the invariant and moves the supply by `supplyDelta` -/
theorem gen_call_conserves (envr : Fungible.Reads) {U : List Nat} (hn : U.Nodup) (st st' : Fungible.Store)
    (hR : InRange st) (hi : OZ.Fungible.Inv U (storeState st)) (c : Call) (hp : ∀ a ∈ parties c, a ∈ U)
    (h : run envr st c = .ok ((), st')) :
    InRange st' ∧ OZ.Fungible.Inv U (storeState st') ∧
    (storeState st').supply = (storeState st).supply + supplyDelta c := by
  cases hm : move? c with
  | some m =>
    obtain ⟨f, t, a⟩ := m
    obtain ⟨st1, hb, hts, hu⟩ := run_update h hm
    have hss : storeState st1 = storeState st := storeState_of_frame hb hts
    have hR1 : InRange st1 := ⟨by rw [hb]; exact hR.1, by rw [hts]; exact hR.2⟩
    obtain ⟨_, _, _, hR', _⟩ := update_ok_model envr hR1 hu
    obtain ⟨h1, h2⟩ := gen_update_conserves envr hn st1 st' hR1 (hss ▸ hi) f t a
      (fun x hx => hp x (move_mem_parties hm (.inl hx))) (fun x hx => hp x (move_mem_parties hm (.inr hx))) hu
    exact ⟨hR', h1, by rw [h2, hss, supplyDelta_move hm]; omega⟩
  | none =>
    cases c with
    | approve o sp a lu =>
      have hst := (gen_set_allowance_sound envr st st' o sp a lu (run_ok h).2).2.2.2
      have hss : storeState st' = storeState st := by rw [hst]; rfl
      refine ⟨?_, by rw [hss]; exact hi, by rw [hss]; simp [supplyDelta]⟩
      rw [hst]; exact ⟨hR.1, hR.2⟩
    | _ => cases hm

def step (st : Fungible.Store) (ec : Fungible.Reads × Call) : Fungible.Store :=
  match run ec.1 st ec.2 with
  | .ok r => r.2
  | .panic => st

def runAll (st : Fungible.Store) (cs : List (Fungible.Reads × Call)) : Fungible.Store := cs.foldl step st

/-- the supply change a history accounts for: the deltas of its ACCEPTED calls -/
def accounted : Fungible.Store → List (Fungible.Reads × Call) → Int
  | _, [] => 0
  | st, ec :: rest =>
    (match run ec.1 st ec.2 with
      | .ok _ => supplyDelta ec.2
      | .panic => 0) + accounted (step st ec) rest

theorem step_conserves {U : List Nat} (hn : U.Nodup) (st : Fungible.Store) (hR : InRange st)
    (hi : OZ.Fungible.Inv U (storeState st)) (ec : Fungible.Reads × Call) (hp : ∀ a ∈ parties ec.2, a ∈ U) :
    InRange (step st ec) ∧ OZ.Fungible.Inv U (storeState (step st ec)) ∧
    (storeState (step st ec)).supply = (storeState st).supply + accounted st [ec] := by
  unfold step accounted
  cases hr : run ec.1 st ec.2 with
  | panic => exact ⟨hR, hi, by simp [accounted]⟩
  | ok r => simpa [accounted] using gen_call_conserves ec.1 hn st r.2 hR hi ec.2 hp hr

/-- **C01 for every history of the generated entry points**: balances stay non-negative, zero outside `U`
and sum to the supply, whatever the calls, their arguments, ledgers and authorizations -/
theorem gen_history_conserves {U : List Nat} (hn : U.Nodup) (cs : List (Fungible.Reads × Call)) :
    ∀ (st : Fungible.Store), InRange st → OZ.Fungible.Inv U (storeState st) →
      (∀ ec ∈ cs, ∀ a ∈ parties ec.2, a ∈ U) →
      InRange (runAll st cs) ∧ OZ.Fungible.Inv U (storeState (runAll st cs)) ∧
      (storeState (runAll st cs)).supply = (storeState st).supply + accounted st cs := by
  induction cs with
  | nil => intro st hR hi _; exact ⟨hR, hi, by simp [runAll, accounted]⟩
  | cons ec rest ih =>
    intro st hR hi hp
    obtain ⟨hR', hi', hs⟩ := step_conserves hn st hR hi ec (hp ec List.mem_cons_self)
    obtain ⟨h1, h2, h3⟩ := ih (step st ec) hR' hi' fun e he => hp e (List.mem_cons_of_mem _ he)
    refine ⟨h1, h2, h3.trans ?_⟩
    rw [hs]
    simp only [accounted]; omega

/-- the supply part of `gen_history_conserves` on the stored entry: the start supply plus what the history accounts
for is the final supply (so a history without accepted mints and burns leaves it as it was) -/
theorem gen_history_supply {U : List Nat} (hn : U.Nodup) (cs : List (Fungible.Reads × Call)) (st : Fungible.Store)
    (hR : InRange st) (hi : OZ.Fungible.Inv U (storeState st)) (hp : ∀ ec ∈ cs, ∀ a ∈ parties ec.2, a ∈ U) :
    (st.TotalSupply.getD 0) + accounted st cs = (runAll st cs).TotalSupply.getD 0 :=
  ((gen_history_conserves hn cs st hR hi hp).2.2).symm

/-! ### non-vacuity: a history runs -/
example :
    let e : Fungible.Reads := ⟨5, 100, fun _ => true⟩
    let st := runAll ⟨fun _ => none, none, fun _ => none⟩
      [(e, .mint 1 100), (e, .transfer 1 2 30), (e, .approve 1 3 50 20), (e, .transferFrom 3 1 2 40),
       (e, .burn 2 10), (e, .transfer 2 1 1000)]
    (st.Balance 1, st.Balance 2, st.TotalSupply) = (some 30, some 60, some 90) := by decide

end OZ.Gen.Fungible
