import OZ.Gen.RulesW
import OZ.Lemmas.Comp
import OZ.Lemmas.Lists
/-
C20 — the smart account's context-rule registry: ALL its writers, re-checked on every run against the source.

`lean/OZ/Gen/RulesW.lean` is regenerated by `/verif/tools/rs2lean.py --rules-w` (state-passing mode) from /repo's current
`packages/accounts/src/smart_account/storage.rs`: `get_context_rule`, `validate_signers_and_policies`,
`validate_and_set_fingerprint`, `remove_fingerprint`, `update_context_rule_name`, `update_context_rule_valid_until`,
`add_signer`, `remove_signer`, `remove_context_rule` (its loop of `try_uninstall` calls to the rule's policy contracts
writes nothing here), `add_context_rule` (the policies' `install` calls are functions of the reads record that may trap),
`get_context_rules_count`, `add_policy`, `remove_policy` (+ `MAX_SIGNERS`, `MAX_POLICIES`, `MAX_CONTEXT_RULES` of
`mod.rs`). `compute_fingerprint` (sha256 over the sorted XDR of a rule's parts) is a function of the reads record;
signers, rule types and names are opaque identifiers.

On the generated code, for every fingerprint function `fp` the reads record computes (`hfp`: the fingerprint
computation returns; it is the only hypothesis, NO injectivity is assumed): the registry invariant `Inv` is `FpInv` —
the stored fingerprints are EXACTLY the fingerprints of the stored rules, and no two stored rules share one — together
with `Fresh` — no rule is stored at or beyond `NextId`: ids are never reused. `Move` lists what one call of the eight
writers can do to the store as far as the invariants see it; each such move keeps `Inv` and the limits (at most 15
signers, at most 5 policies, at least one signer or policy), hence every finite history does, from the empty registry
or any registry satisfying `Inv`, for every behaviour of the policy contracts. The hand model of the same registry is
OZ/Model/RegRules.lean (its properties: OZ/Props/C20d.lean); no theorem links the two.
-/
namespace OZ.Gen.RulesW
open OZ.Rs

abbrev Fp := Nat → List Nat → List Nat → B32

/-- the parts of rule `id` that enter its fingerprint: (type, signers, policies) -/
def ruleOf (st : RulesW.Store) (id : Nat) : Option (Nat × List Nat × List Nat) :=
  (st.Meta id).map (fun m => (m.context_type, (st.Signers id).getD [], (st.Policies id).getD []))

structure FpInv (fp : Fp) (st : RulesW.Store) : Prop where
  exact : ∀ f, (st.Fingerprint f).isSome = true ↔ ∃ id c s p, ruleOf st id = some (c, s, p) ∧ fp c s p = f
  inj : ∀ id1 id2 c1 s1 p1 c2 s2 p2, ruleOf st id1 = some (c1, s1, p1) → ruleOf st id2 = some (c2, s2, p2) →
    fp c1 s1 p1 = fp c2 s2 p2 → id1 = id2

def resign (fp : Fp) (st : RulesW.Store) (id c : Nat) (s s' p : List Nat) : RulesW.Store :=
  RulesW.Store.set_Signers (RulesW.Store.del_Fingerprint (RulesW.Store.set_Fingerprint st (fp c s' p) true) (fp c s p)) id s'

theorem ruleOf_resign (fp : Fp) (st : RulesW.Store) (id c : Nat) (s s' p : List Nat)
    (h : ruleOf st id = some (c, s, p)) (id' : Nat) :
    ruleOf (resign fp st id c s s' p) id' = if id' = id then some (c, s', p) else ruleOf st id' := by
  unfold ruleOf at h ⊢
  unfold resign
  by_cases hi : id' = id
  · subst hi
    cases hm : st.Meta id' with
    | none => simp [hm] at h
    | some m =>
      simp only [hm, Option.map_some, Option.some.injEq, Prod.mk.injEq] at h
      simp [RulesW.Store.set_Signers, RulesW.Store.del_Fingerprint, RulesW.Store.set_Fingerprint, hm, h.1, h.2.2]
  · simp [RulesW.Store.set_Signers, RulesW.Store.del_Fingerprint, RulesW.Store.set_Fingerprint, hi]

theorem fp_resign (fp : Fp) (st : RulesW.Store) (id c : Nat) (s s' p : List Nat) (f : B32) :
    (resign fp st id c s s' p).Fingerprint f =
      if f = fp c s p then none else if f = fp c s' p then some true else st.Fingerprint f := by
  simp [resign, RulesW.Store.set_Signers, RulesW.Store.del_Fingerprint, RulesW.Store.set_Fingerprint]

/-- rule `id` gets the parts `new` (or goes, for `none`) and every other rule stays. Replacing, removing and creating
a rule are the three instances. -/
theorem updated_inv {fp : Fp} {st st' : RulesW.Store} (h : FpInv fp st) (id : Nat) (new : Option (Nat × List Nat × List Nat))
    (hfree : ∀ c s p, new = some (c, s, p) → (st.Fingerprint (fp c s p)).isSome = false)
    (hR : ∀ id', ruleOf st' id' = if id' = id then new else ruleOf st id')
    (hF : ∀ f, (st'.Fingerprint f).isSome = true ↔ new.map (fun t => fp t.1 t.2.1 t.2.2) = some f ∨
      ((st.Fingerprint f).isSome = true ∧ (ruleOf st id).map (fun t => fp t.1 t.2.1 t.2.2) ≠ some f)) :
    FpInv fp st' := by
  refine ⟨fun f => ?_, fun id1 id2 c1 s1 p1 c2 s2 p2 h1 h2 he => ?_⟩
  · rw [hF]
    constructor
    · rintro (hn | ⟨hs, hno⟩)
      · obtain ⟨⟨c, s, p⟩, hn', rfl⟩ := Option.map_eq_some_iff.1 hn
        exact ⟨id, c, s, p, by rw [hR, if_pos rfl, hn'], rfl⟩
      · obtain ⟨id', c, s, p, hr', rfl⟩ := (h.exact f).1 hs
        have hi : id' ≠ id := by rintro rfl; exact hno (by rw [hr']; rfl)
        exact ⟨id', c, s, p, by rw [hR, if_neg hi, hr'], rfl⟩
    · rintro ⟨id', c, s, p, hr', rfl⟩
      rw [hR] at hr'
      by_cases hi : id' = id
      · rw [if_pos hi] at hr'; exact Or.inl (by rw [hr']; rfl)
      · rw [if_neg hi] at hr'
        refine Or.inr ⟨(h.exact _).2 ⟨id', c, s, p, hr', rfl⟩, fun ho => ?_⟩
        obtain ⟨⟨c', s', p'⟩, ho, he⟩ := Option.map_eq_some_iff.1 ho
        exact hi (h.inj id' id c s p c' s' p' hr' ho he.symm)
  · rw [hR] at h1 h2
    -- the fingerprint of `new` was free, so no rule that stays has it
    have hnot : ∀ {c s p id' c' s' p'}, new = some (c, s, p) → ruleOf st id' = some (c', s', p') →
        fp c s p ≠ fp c' s' p' := by
      intro c s p id' c' s' p' hn hr' he
      have := (h.exact _).2 ⟨id', c', s', p', hr', he.symm⟩
      rw [hfree c s p hn] at this; cases this
    by_cases e1 : id1 = id <;> by_cases e2 : id2 = id
    · rw [e1, e2]
    · rw [if_pos e1] at h1; rw [if_neg e2] at h2; exact absurd he (hnot h1 h2)
    · rw [if_neg e1] at h1; rw [if_pos e2] at h2; exact absurd he.symm (hnot h2 h1)
    · rw [if_neg e1] at h1; rw [if_neg e2] at h2; exact h.inj _ _ _ _ _ _ _ _ h1 h2 he

/-- replacing one rule's fingerprinted parts by parts whose fingerprint was free keeps the invariant (the common core
of `resign_inv` and `repolicy_inv`, stated on what the new store looks like) -/
theorem replaced_inv {fp : Fp} {st st' : RulesW.Store} (h : FpInv fp st) (id c : Nat) (s p s' p' : List Nat)
    (hr : ruleOf st id = some (c, s, p)) (hfree : (st.Fingerprint (fp c s' p')).isSome = false)
    (hR : ∀ id', ruleOf st' id' = if id' = id then some (c, s', p') else ruleOf st id')
    (hFp : ∀ f, st'.Fingerprint f = if f = fp c s p then none else if f = fp c s' p' then some true else st.Fingerprint f) :
    FpInv fp st' := by
  have hold : (st.Fingerprint (fp c s p)).isSome = true := (h.exact _).2 ⟨id, c, s, p, hr, rfl⟩
  have hne : fp c s' p' ≠ fp c s p := fun e => by rw [e, hold] at hfree; cases hfree
  refine updated_inv h id (some (c, s', p')) (by rintro _ _ _ ⟨⟩; exact hfree) hR fun f => ?_
  rw [hFp, hr]
  by_cases h0 : f = fp c s p
  · subst h0; simp [hne]
  · by_cases h1 : f = fp c s' p'
    · subst h1; simp [h0]
    · simp [h0, h1, Ne.symm h0, Ne.symm h1]

theorem resign_inv {fp : Fp} {st : RulesW.Store} (h : FpInv fp st) (id c : Nat) (s s' p : List Nat)
    (hr : ruleOf st id = some (c, s, p)) (hfree : (st.Fingerprint (fp c s' p)).isSome = false) :
    FpInv fp (resign fp st id c s s' p) :=
  replaced_inv h id c s p s' p hr hfree (ruleOf_resign fp st id c s s' p hr) (fp_resign fp st id c s s' p)

theorem get_context_rule_ok {envr : RulesW.Reads} {st : RulesW.Store} {id : Nat} {r : RulesW.ContextRule}
    (h : RulesW.get_context_rule envr st id = .ok r) :
    ruleOf st id = some (r.context_type, r.signers, r.policies) := by
  obtain ⟨m, hm, h⟩ := Comp.unwrap_eq_ok h
  cases h
  unfold ruleOf
  rw [hm]; rfl

theorem validate_ok {envr : RulesW.Reads} {st : RulesW.Store} {s p : List Nat}
    (h : RulesW.validate_signers_and_policies envr st s p = .ok ()) :
    s.length ≤ 15 ∧ p.length ≤ 5 ∧ ¬ (s = [] ∧ p = []) := by
  obtain ⟨h1, h⟩ := Comp.guard_eq_ok h
  obtain ⟨h2, h⟩ := Comp.guard_eq_ok h
  obtain ⟨h3, _⟩ := Comp.guard_eq_ok h
  refine ⟨Nat.le_of_not_gt h1, Nat.le_of_not_gt h2, ?_⟩
  rintro ⟨rfl, rfl⟩
  exact h3 ⟨rfl, rfl⟩

theorem validate_and_set_fingerprint_ok {envr : RulesW.Reads} {fp : Fp}
    (hfp : ∀ c s p, envr.compute_fingerprint c s p = .ok (fp c s p))
    {st : RulesW.Store} {c : Nat} {s p : List Nat} {t : Unit × RulesW.Store}
    (h : RulesW.validate_and_set_fingerprint envr st c s p = .ok t) :
    (st.Fingerprint (fp c s p)).isSome = false ∧ t = ((), RulesW.Store.set_Fingerprint st (fp c s p) true) := by
  unfold RulesW.validate_and_set_fingerprint at h
  rw [hfp, Comp.bind_ok] at h
  obtain ⟨hs, h⟩ := Comp.guard_eq_ok h
  exact ⟨Bool.eq_false_iff.2 hs, (Comp.ok.inj h).symm⟩

theorem remove_fingerprint_ok {envr : RulesW.Reads} {fp : Fp}
    (hfp : ∀ c s p, envr.compute_fingerprint c s p = .ok (fp c s p))
    {st : RulesW.Store} {c : Nat} {s p : List Nat} {t : Unit × RulesW.Store}
    (h : RulesW.remove_fingerprint envr st c s p = .ok t) : t = ((), RulesW.Store.del_Fingerprint st (fp c s p)) := by
  unfold RulesW.remove_fingerprint at h
  rw [hfp, Comp.bind_ok] at h
  exact (Comp.ok.inj h).symm

/-- the four writers that replace a rule's signer or policy list; `W` stores the new list -/
theorem refingerprint_core {envr : RulesW.Reads} {fp : Fp} (hfp : ∀ c s p, envr.compute_fingerprint c s p = .ok (fp c s p))
    {st st' : RulesW.Store} {c : Nat} {s p s' p' : List Nat} {W : Unit × RulesW.Store → RulesW.Store}
    (h : (Comp.bind (RulesW.validate_signers_and_policies envr st s' p') fun _ =>
      (Comp.bind (RulesW.validate_and_set_fingerprint envr st c s' p') fun t3 =>
      (Comp.bind (RulesW.remove_fingerprint envr t3.2 c s p) fun t4 =>
      Comp.ok ((), W t4)))) = .ok ((), st')) :
    (s'.length ≤ 15 ∧ p'.length ≤ 5 ∧ ¬ (s' = [] ∧ p' = [])) ∧
    (st.Fingerprint (fp c s' p')).isSome = false ∧
    st' = W ((), RulesW.Store.del_Fingerprint (RulesW.Store.set_Fingerprint st (fp c s' p') true) (fp c s p)) := by
  obtain ⟨_, hv, h⟩ := Comp.bind_eq_ok h
  obtain ⟨t3, h3, h⟩ := Comp.bind_eq_ok h
  obtain ⟨hfree, rfl⟩ := validate_and_set_fingerprint_ok hfp h3
  obtain ⟨t4, h4, h⟩ := Comp.bind_eq_ok h
  obtain rfl := remove_fingerprint_ok hfp h4
  exact ⟨validate_ok hv, hfree, (congrArg Prod.snd (Comp.ok.inj h)).symm⟩

/-- **`add_signer`, accepted**: the rule exists, the signer was not in it, the limits hold for the longer list, the new
fingerprint was free; exactly that signer is appended, the new fingerprint set and the old one released -/
theorem add_signer_ok {envr : RulesW.Reads} {fp : Fp} (hfp : ∀ c s p, envr.compute_fingerprint c s p = .ok (fp c s p))
    {st st' : RulesW.Store} {id x : Nat} (h : RulesW.add_signer envr st id x = .ok ((), st')) :
    ∃ c s p, ruleOf st id = some (c, s, p) ∧ x ∉ s ∧ (s ++ [x]).length ≤ 15 ∧
      (st.Fingerprint (fp c (s ++ [x]) p)).isSome = false ∧ st' = resign fp st id c s (s ++ [x]) p := by
  obtain ⟨r, hg, h⟩ := Comp.bind_eq_ok h
  obtain ⟨hm, h⟩ := Comp.guard_eq_ok h
  obtain ⟨⟨h1, _, _⟩, h4, h5⟩ := refingerprint_core hfp h
  exact ⟨_, _, _, get_context_rule_ok hg, fun hx => hm (decide_eq_true hx), h1, h4, h5⟩

/-- the LAST occurrence of the signer is removed (index `i`) -/
theorem remove_signer_ok {envr : RulesW.Reads} {fp : Fp} (hfp : ∀ c s p, envr.compute_fingerprint c s p = .ok (fp c s p))
    {st st' : RulesW.Store} {id x : Nat} (h : RulesW.remove_signer envr st id x = .ok ((), st')) :
    ∃ c s p i, ruleOf st id = some (c, s, p) ∧ listRPosition (fun y => decide (y = x)) s = some i ∧
      ¬ (s.eraseIdx (i % 4294967296) = [] ∧ p = []) ∧
      (st.Fingerprint (fp c (s.eraseIdx (i % 4294967296)) p)).isSome = false ∧
      st' = resign fp st id c s (s.eraseIdx (i % 4294967296)) p := by
  obtain ⟨r, hg, h⟩ := Comp.bind_eq_ok h
  obtain ⟨i, hp, h⟩ := optCase_panic_eq_ok h
  obtain ⟨⟨_, _, h3⟩, h4, h5⟩ := refingerprint_core hfp h
  exact ⟨_, _, _, i, get_context_rule_ok hg, hp, h3, h4, h5⟩

theorem set_Meta_ruleOf (st : RulesW.Store) (id : Nat) (m m' : RulesW.MetaS) (hm : st.Meta id = some m)
    (hc : m'.context_type = m.context_type) (id' : Nat) :
    ruleOf (RulesW.Store.set_Meta st id m') id' = ruleOf st id' := by
  unfold ruleOf
  by_cases hi : id' = id
  · subst hi; simp [RulesW.Store.set_Meta, hm, hc]
  · simp [RulesW.Store.set_Meta, hi]

theorem set_Meta_inv {fp : Fp} {st : RulesW.Store} (h : FpInv fp st) (id : Nat) (m m' : RulesW.MetaS)
    (hm : st.Meta id = some m) (hc : m'.context_type = m.context_type) :
    FpInv fp (RulesW.Store.set_Meta st id m') := by
  refine ⟨fun f => ?_, fun id1 id2 c1 s1 p1 c2 s2 p2 h1 h2 he => ?_⟩
  · simp only [set_Meta_ruleOf st id m m' hm hc]
    exact h.exact f
  · rw [set_Meta_ruleOf st id m m' hm hc] at h1 h2
    exact h.inj _ _ _ _ _ _ _ _ h1 h2 he

theorem update_context_rule_name_ok {envr : RulesW.Reads} {st st' : RulesW.Store} {id n : Nat} {r : RulesW.ContextRule}
    (h : RulesW.update_context_rule_name envr st id n = .ok (r, st')) :
    ∃ m, st.Meta id = some m ∧ st' = RulesW.Store.set_Meta st id ⟨n, m.context_type, m.valid_until⟩ := by
  obtain ⟨_, hg, h⟩ := Comp.bind_eq_ok h
  obtain ⟨m, hm, hg⟩ := Comp.unwrap_eq_ok hg
  cases hg
  exact ⟨m, hm, (congrArg Prod.snd (Comp.ok.inj h)).symm⟩

theorem update_context_rule_valid_until_ok {envr : RulesW.Reads} {st st' : RulesW.Store} {id : Nat} {vu : Option Nat}
    {r : RulesW.ContextRule} (h : RulesW.update_context_rule_valid_until envr st id vu = .ok (r, st')) :
    ∃ m, st.Meta id = some m ∧ st' = RulesW.Store.set_Meta st id ⟨m.name, m.context_type, vu⟩ := by
  obtain ⟨_, hg, h⟩ := Comp.bind_eq_ok h
  obtain ⟨m, hm, hg⟩ := Comp.unwrap_eq_ok hg
  cases hg
  exact ⟨m, hm, (congrArg Prod.snd (Comp.ok.inj (optCase_guard_eq_ok h))).symm⟩

/-- the ids list and the counter are bookkeeping outside `ruleOf`; they are the only difference between the two
branches on the position in the ids list -/
theorem remove_context_rule_fields {envr : RulesW.Reads} {fp : Fp} (hfp : ∀ c s p, envr.compute_fingerprint c s p = .ok (fp c s p))
    {st st' : RulesW.Store} {id : Nat} (h : RulesW.remove_context_rule envr st id = .ok ((), st')) :
    ∃ r, RulesW.get_context_rule envr st id = .ok r ∧
      st'.Meta = (RulesW.Store.del_Meta st id).Meta ∧ st'.Signers = (RulesW.Store.del_Signers st id).Signers ∧
      st'.Policies = (RulesW.Store.del_Policies st id).Policies ∧
      st'.Fingerprint = (RulesW.Store.del_Fingerprint st (fp r.context_type r.signers r.policies)).Fingerprint ∧
      st'.NextId = st.NextId := by
  obtain ⟨r, hg, h⟩ := Comp.bind_eq_ok h
  obtain ⟨st2, h2, h⟩ := Comp.bind_eq_ok h
  rw [Comp.forEach_skip (f := (RulesW.remove_context_rule.loop1 envr · · r id)) (fun _ => rfl) (fun _ _ _ => rfl)] at h2
  cases h2
  obtain ⟨t3, h3, h⟩ := Comp.bind_eq_ok h
  obtain rfl := remove_fingerprint_ok hfp h3
  refine ⟨r, hg, ?_⟩
  generalize listRPosition _ _ = o at h
  cases o with
  | some pos =>
    obtain ⟨v, _, h⟩ := Comp.unwrap_eq_ok h
    obtain ⟨t, _, h⟩ := Comp.bind_eq_ok h
    cases h
    exact ⟨rfl, rfl, rfl, rfl, rfl⟩
  | none =>
    obtain ⟨v, _, h⟩ := Comp.unwrap_eq_ok h
    obtain ⟨t, _, h⟩ := Comp.bind_eq_ok h
    cases h
    exact ⟨rfl, rfl, rfl, rfl, rfl⟩

/-- **`remove_context_rule`, accepted**: the rule existed; afterwards it is gone, every other rule is untouched, and
exactly its fingerprint is released (the ids list and the counter are bookkeeping outside `ruleOf`) -/
theorem remove_context_rule_ok {envr : RulesW.Reads} {fp : Fp} (hfp : ∀ c s p, envr.compute_fingerprint c s p = .ok (fp c s p))
    {st st' : RulesW.Store} {id : Nat} (h : RulesW.remove_context_rule envr st id = .ok ((), st')) :
    ∃ c s p, ruleOf st id = some (c, s, p) ∧
      (∀ id', ruleOf st' id' = if id' = id then none else ruleOf st id') ∧
      (∀ f, st'.Fingerprint f = if f = fp c s p then none else st.Fingerprint f) := by
  obtain ⟨r, hg, hM, hS, hP, hF, _⟩ := remove_context_rule_fields hfp h
  refine ⟨_, _, _, get_context_rule_ok hg, fun id' => ?_, fun f => by rw [hF]; rfl⟩
  unfold ruleOf
  rw [hM, hS, hP]
  by_cases hi : id' = id
  · simp [RulesW.Store.del_Meta, hi]
  · simp [RulesW.Store.del_Meta, RulesW.Store.del_Signers, RulesW.Store.del_Policies, hi]

theorem removed_rule_inv {fp : Fp} {st st' : RulesW.Store} (h : FpInv fp st) (id c : Nat) (s p : List Nat)
    (hr : ruleOf st id = some (c, s, p))
    (hR : ∀ id', ruleOf st' id' = if id' = id then none else ruleOf st id')
    (hF : ∀ f, st'.Fingerprint f = if f = fp c s p then none else st.Fingerprint f) : FpInv fp st' := by
  refine updated_inv h id none (by rintro _ _ _ ⟨⟩) hR fun f => ?_
  rw [hF, hr]
  by_cases h0 : f = fp c s p
  · subst h0; simp
  · simp [h0, Ne.symm h0]

theorem add_loop1_ok (envr : RulesW.Reads) (xs : List Nat) (st : RulesW.Store) (acc : List Nat) (c cnt id nm : Nat)
    (pol : List (Nat × Nat)) (ids sg : List Nat) (vu : Option Nat) (u : List Nat) (st2 : RulesW.Store)
    (h : RulesW.add_context_rule.loop1 envr xs st acc c cnt id nm pol ids sg vu = .ok (u, st2)) :
    u = acc ++ xs ∧ st2 = st := by
  induction xs generalizing acc with
  | nil =>
    unfold RulesW.add_context_rule.loop1 at h
    simp only [Comp.ok.injEq, Prod.mk.injEq] at h
    exact ⟨by rw [← h.1]; simp, h.2.symm⟩
  | cons a rest ih =>
    unfold RulesW.add_context_rule.loop1 at h
    split at h
    · cases h
    · have := ih _ h
      exact ⟨by rw [this.1]; simp, this.2⟩

theorem add_loop2_ok (envr : RulesW.Reads) (xs : List (Nat × Nat)) (st : RulesW.Store) (r : RulesW.ContextRule)
    (c cnt id : Nat) (m : RulesW.MetaS) (nm : Nat) (pol : List (Nat × Nat)) (pv ids sg us : List Nat) (vu : Option Nat)
    (st' : RulesW.Store) (h : RulesW.add_context_rule.loop2 envr xs st r c cnt id m nm pol pv ids sg us vu = .ok st') :
    st' = st := by
  rw [Comp.forEach_eq (call := fun a => envr.PolicyClient_install a.1 a.2 r envr.current_contract_address)
    (f := (RulesW.add_context_rule.loop2 envr · · r c cnt id m nm pol pv ids sg us vu)) (fun _ => rfl)
    (fun _ _ _ => rfl)] at h
  exact (Comp.ok.inj (Comp.require_eq_ok h).2).symm

/-- the two copies of the `install` loop (one per branch on `valid_until`) are the same function -/
theorem add_loop3_eq : @RulesW.add_context_rule.loop3 = @RulesW.add_context_rule.loop2 := by
  funext envr xs st r c cnt id m nm pol pv ids sg us vu
  induction xs with
  | nil => rfl
  | cons a rest ih => unfold RulesW.add_context_rule.loop3 RulesW.add_context_rule.loop2; rw [ih]

/-- the new id is the old `NextId` -/
def added (fp : Fp) (st : RulesW.Store) (c nm : Nat) (vu : Option Nat) (s p : List Nat) (n1 n2 : Nat) : RulesW.Store :=
  let id := st.NextId.getD 0
  RulesW.Store.set_Count (RulesW.Store.set_NextId
    (RulesW.Store.set_Ids (RulesW.Store.set_Policies (RulesW.Store.set_Signers (RulesW.Store.set_Meta
      (RulesW.Store.set_Fingerprint st (fp c s p) true) id ⟨nm, c, vu⟩) id s) id p) c ((st.Ids c).getD [] ++ [id])) n1) n2

/-- The other checks of the code (fewer than `MAX_CONTEXT_RULES` rules, no duplicate signer, every policy's `install`
returned) are passed too and are not part of the statement. -/
theorem add_context_rule_ok {envr : RulesW.Reads} {fp : Fp} (hfp : ∀ c s p, envr.compute_fingerprint c s p = .ok (fp c s p))
    {st st' : RulesW.Store} {c nm : Nat} {vu : Option Nat} {s : List Nat} {pol : List (Nat × Nat)} {r : RulesW.ContextRule}
    (h : RulesW.add_context_rule envr st c nm vu s pol = .ok (r, st')) :
    (st.Fingerprint (fp c s (pol.map Prod.fst))).isSome = false ∧
    (s.length ≤ 15 ∧ (pol.map Prod.fst).length ≤ 5 ∧ ¬ (s = [] ∧ pol.map Prod.fst = [])) ∧
    st' = added fp st c nm vu s (pol.map Prod.fst) (st.NextId.getD 0 + 1) (st.Count.getD 0 + 1) := by
  obtain ⟨_, h1, h⟩ := Comp.bind_eq_ok h
  cases h1
  obtain ⟨_, h⟩ := Comp.guard_eq_ok h
  obtain ⟨⟨u, st2⟩, hl, h⟩ := Comp.bind_eq_ok h
  obtain ⟨rfl, rfl⟩ := add_loop1_ok _ _ _ _ _ _ _ _ _ _ _ _ _ _ hl
  rw [add_loop3_eq] at h
  replace h := optCase_guard_eq_ok h
  obtain ⟨_, hv, h⟩ := Comp.bind_eq_ok h
  obtain ⟨t5, h5, h⟩ := Comp.bind_eq_ok h
  obtain ⟨hfree, rfl⟩ := validate_and_set_fingerprint_ok hfp h5
  obtain ⟨st7, h7, h⟩ := Comp.bind_eq_ok h
  obtain ⟨t8, h8, h⟩ := Comp.bind_eq_ok h
  obtain ⟨t9, h9, h⟩ := Comp.bind_eq_ok h
  rw [add_loop2_ok _ _ _ _ _ _ _ _ _ _ _ _ _ _ _ _ h7, uN_add_eq_ok h8, uN_add_eq_ok h9] at h
  exact ⟨hfree, validate_ok hv, (congrArg Prod.snd (Comp.ok.inj h)).symm⟩

theorem ruleOf_added (fp : Fp) (st : RulesW.Store) (c nm : Nat) (vu : Option Nat) (s p : List Nat) (n1 n2 id' : Nat) :
    ruleOf (added fp st c nm vu s p n1 n2) id' =
      if id' = st.NextId.getD 0 then some (c, s, p) else ruleOf st id' := by
  unfold ruleOf added
  by_cases hi : id' = st.NextId.getD 0
  · simp [hi, RulesW.Store.set_Count, RulesW.Store.set_NextId, RulesW.Store.set_Ids, RulesW.Store.set_Policies,
      RulesW.Store.set_Signers, RulesW.Store.set_Meta, RulesW.Store.set_Fingerprint]
  · simp [hi, RulesW.Store.set_Count, RulesW.Store.set_NextId, RulesW.Store.set_Ids, RulesW.Store.set_Policies,
      RulesW.Store.set_Signers, RulesW.Store.set_Meta, RulesW.Store.set_Fingerprint]

theorem fp_added (fp : Fp) (st : RulesW.Store) (c nm : Nat) (vu : Option Nat) (s p : List Nat) (n1 n2 : Nat) (f : B32) :
    (added fp st c nm vu s p n1 n2).Fingerprint f = if f = fp c s p then some true else st.Fingerprint f := by
  simp [added, RulesW.Store.set_Count, RulesW.Store.set_NextId, RulesW.Store.set_Ids, RulesW.Store.set_Policies,
    RulesW.Store.set_Signers, RulesW.Store.set_Meta, RulesW.Store.set_Fingerprint]

theorem added_inv {fp : Fp} {st : RulesW.Store} (h : FpInv fp st) (c nm : Nat) (vu : Option Nat) (s p : List Nat)
    (n1 n2 : Nat) (hnew : ruleOf st (st.NextId.getD 0) = none) (hfree : (st.Fingerprint (fp c s p)).isSome = false) :
    FpInv fp (added fp st c nm vu s p n1 n2) := by
  refine updated_inv h _ (some (c, s, p)) (by rintro _ _ _ ⟨⟩; exact hfree) (ruleOf_added fp st c nm vu s p n1 n2) fun f => ?_
  rw [fp_added, hnew]
  by_cases h1 : f = fp c s p
  · subst h1; simp
  · simp [h1, Ne.symm h1]

def repolicy (fp : Fp) (st : RulesW.Store) (id c : Nat) (s p p' : List Nat) : RulesW.Store :=
  RulesW.Store.set_Policies (RulesW.Store.del_Fingerprint (RulesW.Store.set_Fingerprint st (fp c s p') true) (fp c s p)) id p'

theorem ruleOf_repolicy (fp : Fp) (st : RulesW.Store) (id c : Nat) (s p p' : List Nat)
    (h : ruleOf st id = some (c, s, p)) (id' : Nat) :
    ruleOf (repolicy fp st id c s p p') id' = if id' = id then some (c, s, p') else ruleOf st id' := by
  unfold ruleOf at h ⊢
  unfold repolicy
  by_cases hi : id' = id
  · subst hi
    cases hm : st.Meta id' with
    | none => simp [hm] at h
    | some m =>
      simp only [hm, Option.map_some, Option.some.injEq, Prod.mk.injEq] at h
      simp [RulesW.Store.set_Policies, RulesW.Store.del_Fingerprint, RulesW.Store.set_Fingerprint, hm, h.1, h.2.1]
  · simp [RulesW.Store.set_Policies, RulesW.Store.del_Fingerprint, RulesW.Store.set_Fingerprint, hi]

theorem fp_repolicy (fp : Fp) (st : RulesW.Store) (id c : Nat) (s p p' : List Nat) (f : B32) :
    (repolicy fp st id c s p p').Fingerprint f =
      if f = fp c s p then none else if f = fp c s p' then some true else st.Fingerprint f := by
  simp [repolicy, RulesW.Store.set_Policies, RulesW.Store.del_Fingerprint, RulesW.Store.set_Fingerprint]

theorem repolicy_inv {fp : Fp} {st : RulesW.Store} (h : FpInv fp st) (id c : Nat) (s p p' : List Nat)
    (hr : ruleOf st id = some (c, s, p)) (hfree : (st.Fingerprint (fp c s p')).isSome = false) :
    FpInv fp (repolicy fp st id c s p p') :=
  replaced_inv h id c s p s p' hr hfree (ruleOf_repolicy fp st id c s p p' hr) (fp_repolicy fp st id c s p p')

/-- that the policy's `install` returned is not part of the statement -/
theorem add_policy_ok {envr : RulesW.Reads} {fp : Fp} (hfp : ∀ c s p, envr.compute_fingerprint c s p = .ok (fp c s p))
    {st st' : RulesW.Store} {id x prm : Nat} (h : RulesW.add_policy envr st id x prm = .ok ((), st')) :
    ∃ c s p, ruleOf st id = some (c, s, p) ∧ x ∉ p ∧ (p ++ [x]).length ≤ 5 ∧
      (st.Fingerprint (fp c s (p ++ [x]))).isSome = false ∧ st' = repolicy fp st id c s p (p ++ [x]) := by
  obtain ⟨r, hg, h⟩ := Comp.bind_eq_ok h
  obtain ⟨hm, h⟩ := Comp.guard_eq_ok h
  obtain ⟨_, _, h⟩ := Comp.bind_eq_ok h
  obtain ⟨⟨_, h1, _⟩, h4, h5⟩ := refingerprint_core hfp h
  exact ⟨_, _, _, get_context_rule_ok hg, fun hx => hm (decide_eq_true hx), h1, h4, h5⟩

/-- the LAST occurrence of the policy is removed (index `i`) -/
theorem remove_policy_ok {envr : RulesW.Reads} {fp : Fp} (hfp : ∀ c s p, envr.compute_fingerprint c s p = .ok (fp c s p))
    {st st' : RulesW.Store} {id x : Nat} (h : RulesW.remove_policy envr st id x = .ok ((), st')) :
    ∃ c s p i, ruleOf st id = some (c, s, p) ∧ listRPosition (fun y => decide (y = x)) p = some i ∧
      ¬ (s = [] ∧ p.eraseIdx (i % 4294967296) = []) ∧
      (st.Fingerprint (fp c s (p.eraseIdx (i % 4294967296)))).isSome = false ∧
      st' = repolicy fp st id c s p (p.eraseIdx (i % 4294967296)) := by
  obtain ⟨r, hg, h⟩ := Comp.bind_eq_ok h
  obtain ⟨i, hp, h⟩ := optCase_panic_eq_ok h
  obtain ⟨⟨_, _, h3⟩, h4, h5⟩ := refingerprint_core hfp h
  exact ⟨_, _, _, i, get_context_rule_ok hg, hp, h3, h4, h5⟩

/-- ids are never reused: no rule is stored at or beyond `NextId` -/
def Fresh (st : RulesW.Store) : Prop := ∀ id, st.NextId.getD 0 ≤ id → ruleOf st id = none

theorem fresh_update {st st' : RulesW.Store} (hF : Fresh st) (hN : st'.NextId = st.NextId) (id : Nat)
    (new : Option (Nat × List Nat × List Nat)) (hR : ∀ id', ruleOf st' id' = if id' = id then new else ruleOf st id')
    (hid : ruleOf st id ≠ none) : Fresh st' := by
  intro id' hge
  rw [hN] at hge
  rw [hR, if_neg]
  · exact hF _ hge
  · rintro rfl
    exact hid (hF _ hge)

theorem resign_fresh {fp : Fp} {st : RulesW.Store} (hF : Fresh st) (id c : Nat) (s s' p : List Nat)
    (hr : ruleOf st id = some (c, s, p)) : Fresh (resign fp st id c s s' p) :=
  fresh_update hF rfl id _ (ruleOf_resign fp st id c s s' p hr) (by rw [hr]; exact Option.some_ne_none _)

theorem repolicy_fresh {fp : Fp} {st : RulesW.Store} (hF : Fresh st) (id c : Nat) (s p p' : List Nat)
    (hr : ruleOf st id = some (c, s, p)) : Fresh (repolicy fp st id c s p p') :=
  fresh_update hF rfl id _ (ruleOf_repolicy fp st id c s p p' hr) (by rw [hr]; exact Option.some_ne_none _)

theorem set_Meta_fresh {st : RulesW.Store} (hF : Fresh st) (id : Nat) (m m' : RulesW.MetaS)
    (hm : st.Meta id = some m) (hc : m'.context_type = m.context_type) : Fresh (RulesW.Store.set_Meta st id m') := by
  intro id' hge
  have hN : (RulesW.Store.set_Meta st id m').NextId = st.NextId := rfl
  rw [hN] at hge
  rw [set_Meta_ruleOf st id m m' hm hc]
  exact hF _ hge

inductive Op where
  | addSigner (id x : Nat)
  | removeSigner (id x : Nat)
  | setName (id name : Nat)
  | setValidUntil (id : Nat) (vu : Option Nat)
  | removeRule (id : Nat)
  | addRule (c nm : Nat) (vu : Option Nat) (s : List Nat) (pol : List (Nat × Nat))
  | addPolicy (id x prm : Nat)
  | removePolicy (id x : Nat)

/-- a refused call (panic) is rolled back by the host -/
def step (envr : RulesW.Reads) (st : RulesW.Store) : Op → RulesW.Store
  | .addSigner id x => match RulesW.add_signer envr st id x with
      | .ok (_, st') => st'
      | .panic => st
  | .removeSigner id x => match RulesW.remove_signer envr st id x with
      | .ok (_, st') => st'
      | .panic => st
  | .setName id n => match RulesW.update_context_rule_name envr st id n with
      | .ok (_, st') => st'
      | .panic => st
  | .setValidUntil id vu => match RulesW.update_context_rule_valid_until envr st id vu with
      | .ok (_, st') => st'
      | .panic => st
  | .removeRule id => match RulesW.remove_context_rule envr st id with
      | .ok (_, st') => st'
      | .panic => st
  | .addRule c nm vu s pol => match RulesW.add_context_rule envr st c nm vu s pol with
      | .ok (_, st') => st'
      | .panic => st
  | .addPolicy id x prm => match RulesW.add_policy envr st id x prm with
      | .ok (_, st') => st'
      | .panic => st
  | .removePolicy id x => match RulesW.remove_policy envr st id x with
      | .ok (_, st') => st'
      | .panic => st

/-- the registry invariant: fingerprints exact and pairwise distinct, ids never reused -/
def Inv (fp : Fp) (st : RulesW.Store) : Prop := FpInv fp st ∧ Fresh st

/-- what one call does to the store, as far as the invariants can see: nothing (a refused call), the signer or the
policy list of one rule replaced (by a longer list within the limit, or by a shorter one), a meta entry rewritten with
the same type, one rule removed, one rule created under `NextId` -/
inductive Move (fp : Fp) (st : RulesW.Store) : RulesW.Store → Prop
  | refused : Move fp st st
  | resign (id c : Nat) (s s' p : List Nat) (hr : ruleOf st id = some (c, s, p))
      (hlen : s'.length ≤ 15 ∨ s'.length ≤ s.length) (hne : ¬ (s' = [] ∧ p = []))
      (hfree : (st.Fingerprint (fp c s' p)).isSome = false) : Move fp st (resign fp st id c s s' p)
  | repolicy (id c : Nat) (s p p' : List Nat) (hr : ruleOf st id = some (c, s, p))
      (hlen : p'.length ≤ 5 ∨ p'.length ≤ p.length) (hne : ¬ (s = [] ∧ p' = []))
      (hfree : (st.Fingerprint (fp c s p')).isSome = false) : Move fp st (repolicy fp st id c s p p')
  | setMeta (id : Nat) (m m' : RulesW.MetaS) (hm : st.Meta id = some m) (hc : m'.context_type = m.context_type) :
      Move fp st (RulesW.Store.set_Meta st id m')
  | removed (st' : RulesW.Store) (id c : Nat) (s p : List Nat) (hr : ruleOf st id = some (c, s, p))
      (hR : ∀ id', ruleOf st' id' = if id' = id then none else ruleOf st id')
      (hF : ∀ f, st'.Fingerprint f = if f = fp c s p then none else st.Fingerprint f)
      (hN : st'.NextId = st.NextId) : Move fp st st'
  | added (c nm : Nat) (vu : Option Nat) (s p : List Nat) (n2 : Nat)
      (hfree : (st.Fingerprint (fp c s p)).isSome = false)
      (hlim : s.length ≤ 15 ∧ p.length ≤ 5 ∧ ¬ (s = [] ∧ p = [])) :
      Move fp st (added fp st c nm vu s p (st.NextId.getD 0 + 1) n2)

theorem step_move {envr : RulesW.Reads} {fp : Fp} (hfp : ∀ c s p, envr.compute_fingerprint c s p = .ok (fp c s p))
    (st : RulesW.Store) (op : Op) : Move fp st (step envr st op) := by
  cases op with
  | addSigner id x =>
    simp only [step]
    split
    · rename_i u st' heq
      obtain ⟨c, s, p, hr, _, hlen, hfree, rfl⟩ := add_signer_ok hfp (show RulesW.add_signer envr st id x = .ok ((), st') from heq)
      exact .resign id c s _ p hr (.inl hlen) (by simp) hfree
    · exact .refused
  | removeSigner id x =>
    simp only [step]
    split
    · rename_i u st' heq
      obtain ⟨c, s, p, i, hr, _, hne, hfree, rfl⟩ := remove_signer_ok hfp (show RulesW.remove_signer envr st id x = .ok ((), st') from heq)
      exact .resign id c s _ p hr (.inr (List.length_eraseIdx_le _ _)) hne hfree
    · exact .refused
  | addPolicy id x prm =>
    simp only [step]
    split
    · rename_i u st' heq
      obtain ⟨c, s, p, hr, _, hlen, hfree, rfl⟩ := add_policy_ok hfp (show RulesW.add_policy envr st id x prm = .ok ((), st') from heq)
      exact .repolicy id c s p _ hr (.inl hlen) (by simp) hfree
    · exact .refused
  | removePolicy id x =>
    simp only [step]
    split
    · rename_i u st' heq
      obtain ⟨c, s, p, i, hr, _, hne, hfree, rfl⟩ := remove_policy_ok hfp (show RulesW.remove_policy envr st id x = .ok ((), st') from heq)
      exact .repolicy id c s p _ hr (.inr (List.length_eraseIdx_le _ _)) hne hfree
    · exact .refused
  | removeRule id =>
    simp only [step]
    split
    · rename_i u st' heq
      have heq' : RulesW.remove_context_rule envr st id = .ok ((), st') := heq
      obtain ⟨c, s, p, hr, hR, hFp⟩ := remove_context_rule_ok hfp heq'
      obtain ⟨_, _, _, _, _, _, hN⟩ := remove_context_rule_fields hfp heq'
      exact .removed st' id c s p hr hR hFp hN
    · exact .refused
  | addRule c nm vu s pol =>
    simp only [step]
    split
    · rename_i r st' heq
      obtain ⟨hfree, hlim, rfl⟩ := add_context_rule_ok hfp heq
      exact .added c nm vu s _ _ hfree hlim
    · exact .refused
  | setName id n =>
    simp only [step]
    split
    · rename_i u st' heq
      obtain ⟨m, hm, rfl⟩ := update_context_rule_name_ok heq
      exact .setMeta id m _ hm rfl
    · exact .refused
  | setValidUntil id vu =>
    simp only [step]
    split
    · rename_i u st' heq
      obtain ⟨m, hm, rfl⟩ := update_context_rule_valid_until_ok heq
      exact .setMeta id m _ hm rfl
    · exact .refused

theorem move_inv {fp : Fp} {st st' : RulesW.Store} (hI : Inv fp st) (hm : Move fp st st') : Inv fp st' := by
  obtain ⟨h, hF⟩ := hI
  cases hm with
  | refused => exact ⟨h, hF⟩
  | resign id c s s' p hr _ _ hfree => exact ⟨resign_inv h id c s s' p hr hfree, resign_fresh hF id c s s' p hr⟩
  | repolicy id c s p p' hr _ _ hfree => exact ⟨repolicy_inv h id c s p p' hr hfree, repolicy_fresh hF id c s p p' hr⟩
  | setMeta id m m' hm hc => exact ⟨set_Meta_inv h id m m' hm hc, set_Meta_fresh hF id m m' hm hc⟩
  | removed _ id c s p hr hR hFp hN =>
    exact ⟨removed_rule_inv h id c s p hr hR hFp,
      fresh_update hF hN id none hR (by rw [hr]; exact Option.some_ne_none _)⟩
  | added c nm vu s p n2 hfree _ =>
    refine ⟨added_inv h c nm vu s p _ _ (hF _ (Nat.le_refl _)) hfree, fun id' hge => ?_⟩
    have hge : st.NextId.getD 0 + 1 ≤ id' := hge
    rw [ruleOf_added, if_neg (by omega)]
    exact hF _ (by omega)

theorem step_inv {envr : RulesW.Reads} {fp : Fp} (hfp : ∀ c s p, envr.compute_fingerprint c s p = .ok (fp c s p))
    {st : RulesW.Store} (hI : Inv fp st) (op : Op) : Inv fp (step envr st op) :=
  move_inv hI (step_move hfp st op)

/-- the registry a fresh smart account starts from -/
def emptyStore : RulesW.Store := ⟨fun _ => none, fun _ => none, fun _ => none, fun _ => none, none, none, fun _ => none⟩

theorem empty_inv (fp : Fp) : Inv fp emptyStore :=
  ⟨⟨fun f => by simp [emptyStore, ruleOf], fun id1 id2 c1 s1 p1 c2 s2 p2 h1 _ _ => by simp [emptyStore, ruleOf] at h1⟩,
   fun id _ => by simp [emptyStore, ruleOf]⟩

/-- **every history of the eight writers** (rule creation and removal, signer and policy changes, renaming, re-dating;
accepted or refused, any arguments, any behaviour of the policy contracts) from any registry satisfying the invariant -
in particular from the empty one - keeps the stored fingerprints exactly the fingerprints of the stored rules, pairwise
distinct, and never reuses an id. -/
theorem run_inv {envr : RulesW.Reads} {fp : Fp} (hfp : ∀ c s p, envr.compute_fingerprint c s p = .ok (fp c s p))
    (ops : List Op) {st : RulesW.Store} (h : Inv fp st) : Inv fp (ops.foldl (step envr) st) :=
  OZ.Lists.foldl_inv (P := Inv fp) (fun _ op h => step_inv hfp h op) ops st h

/-- hence: two distinct rules never carry the same (type, signers, policies) -/
theorem gen_no_duplicate_rule {envr : RulesW.Reads} {fp : Fp} (hfp : ∀ c s p, envr.compute_fingerprint c s p = .ok (fp c s p))
    (ops : List Op) (id1 id2 c : Nat) (s p : List Nat)
    (h1 : ruleOf (ops.foldl (step envr) emptyStore) id1 = some (c, s, p))
    (h2 : ruleOf (ops.foldl (step envr) emptyStore) id2 = some (c, s, p)) : id1 = id2 :=
  (run_inv hfp ops (empty_inv fp)).1.inj _ _ _ _ _ _ _ _ h1 h2 rfl

/-- every stored rule has at most 15 signers and 5 policies, and at least one signer or policy -/
def Limits (st : RulesW.Store) : Prop :=
  ∀ id c s p, ruleOf st id = some (c, s, p) → s.length ≤ 15 ∧ p.length ≤ 5 ∧ ¬ (s = [] ∧ p = [])

theorem limits_update {st st' : RulesW.Store} (hL : Limits st) (id : Nat) (new : Option (Nat × List Nat × List Nat))
    (hR : ∀ id', ruleOf st' id' = if id' = id then new else ruleOf st id')
    (hnew : ∀ c s p, new = some (c, s, p) → s.length ≤ 15 ∧ p.length ≤ 5 ∧ ¬ (s = [] ∧ p = [])) : Limits st' := by
  intro id' c s p h'
  rw [hR] at h'
  split at h'
  · exact hnew _ _ _ h'
  · exact hL _ _ _ _ h'

theorem move_limits {fp : Fp} {st st' : RulesW.Store} (hL : Limits st) (hm : Move fp st st') : Limits st' := by
  cases hm with
  | refused => exact hL
  | resign id c s s' p hr hlen hne _ =>
    refine limits_update hL id _ (ruleOf_resign fp st id c s s' p hr) ?_
    rintro _ _ _ ⟨⟩
    have := hL id c s p hr
    exact ⟨by omega, this.2.1, hne⟩
  | repolicy id c s p p' hr hlen hne _ =>
    refine limits_update hL id _ (ruleOf_repolicy fp st id c s p p' hr) ?_
    rintro _ _ _ ⟨⟩
    have := hL id c s p hr
    exact ⟨this.1, by omega, hne⟩
  | setMeta id m m' hm hc =>
    intro id' c s p h'
    rw [set_Meta_ruleOf st id m m' hm hc] at h'
    exact hL _ _ _ _ h'
  | removed _ id c s p hr hR _ _ => exact limits_update hL id none hR (by rintro _ _ _ ⟨⟩)
  | added c nm vu s p n2 _ hlim =>
    refine limits_update hL _ _ (ruleOf_added fp st c nm vu s p _ _) ?_
    rintro _ _ _ ⟨⟩
    exact hlim

theorem step_limits {envr : RulesW.Reads} {fp : Fp} (hfp : ∀ c s p, envr.compute_fingerprint c s p = .ok (fp c s p))
    {st : RulesW.Store} (hL : Limits st) (op : Op) : Limits (step envr st op) :=
  move_limits hL (step_move hfp st op)

/-- **limits, every history** from the empty registry -/
theorem run_limits {envr : RulesW.Reads} {fp : Fp} (hfp : ∀ c s p, envr.compute_fingerprint c s p = .ok (fp c s p))
    (ops : List Op) : Limits (ops.foldl (step envr) emptyStore) :=
  OZ.Lists.foldl_inv (P := Limits) (fun _ op h => step_limits hfp h op) ops _ (fun id c s p h => by simp [emptyStore, ruleOf] at h)

/-! ### non-vacuity

A registry with one rule (type 0, signers [1], no policy) whose fingerprint is stored satisfies the invariant for the
fingerprint function `fun c s p => c :: s ++ p`; adding signer 2 is accepted and gives [1, 2]. -/

/-- non-vacuity: a registry with one rule (type 0, signers [1], no policy) whose fingerprint is stored satisfies the
invariant for the fingerprint function `fun c s p => c :: s ++ p`; adding signer 2 is accepted and gives [1, 2] -/
def fp0 : Fp := fun c s p => c :: (s ++ p)
def envr0 : RulesW.Reads := ⟨100, fun c s p => .ok (fp0 c s p), 9, fun _ _ _ => (), fun _ _ _ _ => .ok ()⟩
def st0 : RulesW.Store :=
  ⟨fun i => if i = 0 then some ⟨7, 0, none⟩ else none, fun i => if i = 0 then some [1] else none, fun _ => none,
   fun _ => none, some 1, some 1, fun f => if f = [0, 1] then some true else none⟩

example : FpInv fp0 st0 := by
  refine ⟨fun f => ?_, fun id1 id2 c1 s1 p1 c2 s2 p2 h1 h2 _ => ?_⟩
  · constructor
    · intro h
      have : f = [0, 1] := by
        by_cases e : f = [0, 1]
        · exact e
        · simp [st0, e] at h
      exact ⟨0, 0, [1], [], by simp [ruleOf, st0], by simp [fp0, this]⟩
    · rintro ⟨id, c, s, p, hr, rfl⟩
      by_cases e : id = 0
      · subst e
        simp only [ruleOf, st0, ↓reduceIte, Option.map_some, Option.getD_some, Option.getD_none, Option.some.injEq,
          Prod.mk.injEq] at hr
        obtain ⟨rfl, rfl, rfl⟩ := hr
        simp [st0, fp0]
      · simp [ruleOf, st0, e] at hr
  · have a1 : id1 = 0 := by
      by_cases e : id1 = 0
      · exact e
      · simp [ruleOf, st0, e] at h1
    have a2 : id2 = 0 := by
      by_cases e : id2 = 0
      · exact e
      · simp [ruleOf, st0, e] at h2
    rw [a1, a2]

example : ∃ st', RulesW.add_signer envr0 st0 0 2 = .ok ((), st') ∧ st'.Signers 0 = some [1, 2] ∧
    st'.Fingerprint [0, 1, 2] = some true ∧ st'.Fingerprint [0, 1] = none ∧
    RulesW.add_signer envr0 st' 0 2 = .panic :=
  ⟨_, rfl, by decide, by decide, by decide, by rfl⟩

/-- creation: from the empty registry a rule (type 0, signer 1, no policy) is created under id 0; the same
rule a second time is refused (state unchanged); another signer set is accepted under id 1 -/
example :
    let st1 := step envr0 emptyStore (.addRule 0 7 none [1] [])
    ruleOf st1 0 = some (0, [1], []) ∧ st1.NextId = some 1 ∧
    ruleOf (step envr0 st1 (.addRule 0 8 none [1] [])) 1 = none ∧
    ruleOf (step envr0 st1 (.addRule 0 8 none [2] [])) 1 = some (0, [2], []) := by decide

end OZ.Gen.RulesW
