import OZ.Gen.Vault
import OZ.Props.C05
import OZ.Props.C12Gen
import OZ.Lemmas.Sim
/-
C05 — the vault's conversions and previews, re-checked against the SOURCE on every run.

`lean/OZ/Gen/Vault.lean` is regenerated by `/verif/tools/rs2lean.py --vault` from /repo's current
`packages/tokens/src/vault/storage.rs` (`convert_to_shares_with_rounding`, `convert_to_assets_with_rounding`,
`convert_to_shares`, `convert_to_assets` and the four `preview_*`).  The three state getters these functions
read — `Self::total_supply(e)`, `Self::total_assets(e)`, `Self::get_decimals_offset(e)` — become the fields of
the record `Vault.Reads` (the translator rejects every other call); the arithmetic goes through the generated
`mul_div_i128` of OZ/Gen/Math.lean.  Proved here: for every state, amount and rounding mode the generated
functions return exactly what the hand-written model returns (a value, or a panic for the model's error),
hence the rounding theorems of OZ/Props/C05.lean speak about the code as translated.
-/
namespace OZ.Gen.Vault
open OZ.Rs OZ.MulDiv OZ.Vault

/-- the state as the translated functions read it -/
def readsOf (s : OZ.Vault.State) : Reads := ⟨totalShares s, totalAssets s, s.offset⟩

/-- a generated result / a model result as "value or failure" -/
def val (c : Comp Int) : Option Int :=
  match c with
  | .ok v => some v
  | .panic => none

def valE (x : Except OZ.Vault.Err Int) : Option Int :=
  match x with
  | .ok v => some v
  | .error _ => none

/-- `val c = valE x`: the generated code answers what the model does, `Sim` at equality -/
theorem val_eq_iff {c : Comp Int} {x : Except OZ.Vault.Err Int} : val c = valE x ↔ Sim Eq c x := by
  rw [Sim.eq_iff]
  cases c <;> cases x <;> simp [val, valE, Comp.ofExcept]

theorem chk_sim {β γ : Type} {Q : β → γ → Prop} (o : Option Int) {h : Int → Comp β} {k : Int → Except OZ.Vault.Err γ}
    (hk : ∀ v, Sim Q (h v) (k v)) : Sim Q (Comp.unwrap o h) (ofChk o >>= k) := by
  cases o with
  | none => rfl
  | some v => exact hk v

theorem mul_div_sim (x y d : Int) (r : Rs.Rounding) :
    Sim Eq (Comp.bind (I128.mul_div_i128 x y d r) fun t => Comp.ok t) (ofRes (mulDiv128 (rnd r) x y d)) := by
  rw [Sim.eq_iff, Comp.bind_ret, ← mul_div_i128_eq]
  cases I128.mul_div_i128 x y d r <;> rfl

/-- **`convert_to_shares_with_rounding`**: generated = model, for every state, amount, rounding -/
theorem convert_to_shares_eq (s : OZ.Vault.State) (a : Int) (r : Rs.Rounding) :
    val (convert_to_shares_with_rounding (readsOf s) a r) = valE (convertToShares s a (rnd r)) :=
  val_eq_iff.2 <| Sim.refuse _ Iff.rfl fun _ => Sim.ite Iff.rfl (fun _ => Sim.pure rfl) fun _ =>
    chk_sim _ fun _ => chk_sim _ fun y => chk_sim _ fun d => mul_div_sim a y d r

/-- **`convert_to_assets_with_rounding`** -/
theorem convert_to_assets_eq (s : OZ.Vault.State) (x : Int) (r : Rs.Rounding) :
    val (convert_to_assets_with_rounding (readsOf s) x r) = valE (convertToAssets s x (rnd r)) :=
  val_eq_iff.2 <| Sim.refuse _ Iff.rfl fun _ => Sim.ite Iff.rfl (fun _ => Sim.pure rfl) fun _ =>
    chk_sim _ fun y => chk_sim _ fun _ => chk_sim _ fun d => mul_div_sim x y d r

/-- **the four previews and the two plain conversions** use exactly the rounding direction the property
names: deposit / redeem / convert round DOWN (floor), mint / withdraw round UP (ceiling) -/
theorem preview_deposit_eq (s : OZ.Vault.State) (a : Int) :
    val (preview_deposit (readsOf s) a) = valE (previewDeposit s a) := by
  unfold preview_deposit previewDeposit; rw [Comp.bind_ret]; exact convert_to_shares_eq s a .Floor

theorem preview_mint_eq (s : OZ.Vault.State) (x : Int) :
    val (preview_mint (readsOf s) x) = valE (previewMint s x) := by
  unfold preview_mint previewMint; rw [Comp.bind_ret]; exact convert_to_assets_eq s x .Ceil

theorem preview_withdraw_eq (s : OZ.Vault.State) (a : Int) :
    val (preview_withdraw (readsOf s) a) = valE (previewWithdraw s a) := by
  unfold preview_withdraw previewWithdraw; rw [Comp.bind_ret]; exact convert_to_shares_eq s a .Ceil

theorem preview_redeem_eq (s : OZ.Vault.State) (x : Int) :
    val (preview_redeem (readsOf s) x) = valE (previewRedeem s x) := by
  unfold preview_redeem previewRedeem; rw [Comp.bind_ret]; exact convert_to_assets_eq s x .Floor

theorem convert_to_shares_q_eq (s : OZ.Vault.State) (a : Int) :
    val (convert_to_shares (readsOf s) a) = valE (convertToSharesQ s a) := by
  unfold convert_to_shares convertToSharesQ; rw [Comp.bind_ret]; exact convert_to_shares_eq s a .Floor

theorem convert_to_assets_q_eq (s : OZ.Vault.State) (x : Int) :
    val (convert_to_assets (readsOf s) x) = valE (convertToAssetsQ s x) := by
  unfold convert_to_assets convertToAssetsQ; rw [Comp.bind_ret]; exact convert_to_assets_eq s x .Floor

/-- **C05 conversion exactness on the source as translated**: for every state with `offset ≤ 10` and
non-negative total assets, the generated `convert_to_shares_with_rounding` is a failure for a negative
amount, `0` for `0`, a failure if `S + 10^offset` or `A + 1` leaves i128, and otherwise the exactly rounded
quotient `a·(S + 10^offset) / (A + 1)` when that fits in i128 (also when the product does not) -/
theorem gen_convert_to_shares_exact (s : OZ.Vault.State) (a : Int) (r : Rs.Rounding) (ha : in128 a)
    (hoff : s.offset ≤ 10) (hA : 0 ≤ totalAssets s) :
    val (convert_to_shares_with_rounding (readsOf s) a r) =
      valE (if a < 0 then .error .invalidAssets
        else if a = 0 then .ok 0
        else if ¬ in128 (totalShares s + 10 ^ s.offset) ∨ ¬ in128 (totalAssets s + 1) then .error .mathOverflow
        else roundedOrOverflow (rnd r) a (totalShares s + 10 ^ s.offset) (totalAssets s + 1)) := by
  rw [convert_to_shares_eq, convert_to_shares_exact s a (rnd r) ha hoff hA]

theorem gen_convert_to_assets_exact (s : OZ.Vault.State) (x : Int) (r : Rs.Rounding) (hx : in128 x)
    (hoff : s.offset ≤ 10) (hS : 0 ≤ totalShares s) :
    val (convert_to_assets_with_rounding (readsOf s) x r) =
      valE (if x < 0 then .error .invalidShares
        else if x = 0 then .ok 0
        else if ¬ in128 (totalAssets s + 1) ∨ ¬ in128 (totalShares s + 10 ^ s.offset) then .error .mathOverflow
        else roundedOrOverflow (rnd r) x (totalAssets s + 1) (totalShares s + 10 ^ s.offset)) := by
  rw [convert_to_assets_eq, convert_to_assets_exact s x (rnd r) hx hoff hS]

/-! ### the generated code runs -/
example : val (preview_deposit ⟨1000, 2000, 0⟩ 10) = some 5 := by decide
example : val (preview_mint ⟨1000, 2000, 0⟩ 5) = some 10 := by decide
example : val (preview_withdraw ⟨1000, 2000, 0⟩ 10) = some 6 := by decide
example : val (convert_to_shares_with_rounding ⟨1000, 2000, 0⟩ (-1) .Floor) = none := by decide

end OZ.Gen.Vault
