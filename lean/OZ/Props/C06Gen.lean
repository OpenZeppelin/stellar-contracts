import OZ.Gen.Access
import OZ.Lemmas.AccessGen
import OZ.Lemmas.AccessOps
/-
C06 — the authority decision of the role hierarchy, on the code generated from the SOURCE on every run.

`lean/OZ/Gen/Access.lean` is regenerated by `/verif/tools/rs2lean.py --access` (state-passing mode, readers
only) from /repo's `packages/access/src/access_control/storage.rs`: `has_role`, `get_admin`,
`get_role_admin`, `ensure_if_admin_or_admin_role` (the check behind `grant_role`, `revoke_role`,
`set_role_admin`) and `ensure_role` (behind `#[has_role]` / `#[only_role]`). For every store, role and caller:
the generated `ensure_if_admin_or_admin_role` passes EXACTLY when the caller is the stored admin or holds the
stored admin role of `role`, `ensure_role` exactly when the caller holds the role, and both agree with the
hand-written model's `ensureIfAdminOrAdminRole` / `ensureRole` on every model state whose three maps are the store's.
-/
namespace OZ.Gen.Access
open OZ.Rs

def passes (c : Comp Unit) : Bool :=
  match c with
  | .ok _ => true
  | .panic => false

/-- **the hierarchy's decision**: admin, or holder of the role's admin role — nothing else -/
theorem gen_ensure_iff (envr : Access.Reads) (st : Access.Store) (role caller : Nat) :
    passes (Access.ensure_if_admin_or_admin_role envr st role caller) = true ↔
      (st.Admin = some caller ∨ ∃ r', st.RoleAdmin role = some r' ∧ (st.HasRole caller r').isSome = true) := by
  rw [← OZ.Access.Gen.ensureC_iff st.Admin (st.RoleAdmin role) (st.HasRole caller) caller]
  show passes (OZ.Access.Gen.ensureC st.Admin (st.RoleAdmin role) (st.HasRole caller) caller) = true ↔ _
  cases OZ.Access.Gen.ensureC st.Admin (st.RoleAdmin role) (st.HasRole caller) caller with
  | ok u => exact ⟨fun _ => rfl, fun _ => rfl⟩
  | panic => exact ⟨fun h => (nomatch h), fun h => (nomatch h)⟩

/-- **`ensure_role`** (behind `#[has_role]` / `#[only_role]`) passes exactly for holders of the role -/
theorem gen_ensure_role_iff (envr : Access.Reads) (st : Access.Store) (role caller : Nat) :
    passes (Access.ensure_role envr st role caller) = true ↔ (st.HasRole caller role).isSome = true := by
  unfold Access.ensure_role Access.has_role
  simp only [Comp.bind_ok]
  cases st.HasRole caller role <;> simp [passes]

def Abs (st : Access.Store) (s : OZ.Access.State) : Prop :=
  s.adm.holder = st.Admin ∧ (∀ r, s.roleAdmin r = st.RoleAdmin r) ∧ (∀ a r, s.hasRole a r = st.HasRole a r)

/-- generated and hand-written `ensure_if_admin_or_admin_role` decide alike -/
theorem ensure_eq (envr : Access.Reads) (st : Access.Store) (s : OZ.Access.State) (hA : Abs st s) (role caller : Nat) :
    passes (Access.ensure_if_admin_or_admin_role envr st role caller) =
      (OZ.Access.ensureIfAdminOrAdminRole s role caller).isOk := by
  have hm : (OZ.Access.ensureIfAdminOrAdminRole s role caller).isOk = true ↔
      (st.Admin = some caller ∨ ∃ r', st.RoleAdmin role = some r' ∧ (st.HasRole caller r').isSome = true) := by
    unfold OZ.Access.ensureIfAdminOrAdminRole
    rw [OZ.Access.require_isOk, OZ.Access.mayAdminister_iff]
    show (s.adm.holder = some caller ∨ ∃ ar, s.roleAdmin role = some ar ∧ (s.hasRole caller ar).isSome = true) ↔ _
    rw [hA.1, hA.2.1 role]
    simp only [hA.2.2]
  have hg := gen_ensure_iff envr st role caller
  rw [Bool.eq_iff_iff, hg, hm]

theorem ensure_role_eq (envr : Access.Reads) (st : Access.Store) (s : OZ.Access.State) (hA : Abs st s) (role caller : Nat) :
    passes (Access.ensure_role envr st role caller) = (OZ.Access.ensureRole s role caller).isOk := by
  unfold Access.ensure_role Access.has_role OZ.Access.ensureRole OZ.Access.require OZ.Access.hasRoleQ
  rw [hA.2.2]
  simp only [Comp.bind_ok]
  cases st.HasRole caller role <;> simp [passes, Except.isOk, Except.toBool]

/-! ### non-vacuity: admin and holder of the admin role pass; a stranger, and a role without admin role, do not -/
def demo : Access.Store := ⟨fun a r => if a = 5 ∧ r = 9 then some 0 else none, some 1, fun r => if r = 7 then some 9 else none⟩
example : passes (Access.ensure_if_admin_or_admin_role ⟨⟩ demo 7 1) = true := by decide
example : passes (Access.ensure_if_admin_or_admin_role ⟨⟩ demo 7 5) = true := by decide
example : passes (Access.ensure_if_admin_or_admin_role ⟨⟩ demo 7 6) = false := by decide
example : passes (Access.ensure_if_admin_or_admin_role ⟨⟩ demo 8 5) = false := by decide

end OZ.Gen.Access
