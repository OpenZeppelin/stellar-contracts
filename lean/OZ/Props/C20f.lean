import OZ.Lemmas.RegIrs
/-
C20 (f): the identity registry storage (`Identity(account)`, `IdentityProfile(account)` with
its country-data vector, `RecoveredTo(old)`) represents the plain maps
  account ↦ identity,  account ↦ (type, country list),  old ↦ new
under ANY history of its seven mutators (arbitrary arguments, failed calls rolled back); a
recovered account is never registered again.
-/
namespace OZ.Props.C20f
open OZ.Reg OZ.RegIrs

/-- **irs_refines.** After any history: an account has a profile exactly when it has an
identity; `get_country_data_entries` is the profile's list (empty without profile) and holds
between 1 and `MAX_COUNTRY_ENTRIES = 15` valid entries; `get_country_data(i)` is its `i`-th
element and fails exactly from its length on; a recovered account has no identity. -/
theorem irs_refines (ops : List Op) (a : Nat) :
    let s := run init ops
    ((getIdentityProfile s a).isSome = (storedIdentity s a).isSome) ∧
    (getCountryDataEntries s a = ((getIdentityProfile s a).map (·.countries)).getD []) ∧
    (∀ p, getIdentityProfile s a = some p → 1 ≤ p.countries.length ∧ p.countries.length ≤ 15 ∧
        p.countries.all validCD = true) ∧
    (∀ i, (storedIdentity s a).isSome = true → getCountryData s a i = (getCountryDataEntries s a)[i]?) ∧
    (∀ i, (storedIdentity s a).isSome = false → getCountryData s a i = none) ∧
    ((getRecoveredTo s a).isSome = true → storedIdentity s a = none) := by
  intro s
  have hI : Inv s := inv_run inv_init ops
  refine ⟨hI.profDom a, ?_, ?_, fun i _ => getCountryData_eq_getElem s a i, ?_, hI.recNone a⟩
  · unfold getCountryDataEntries getIdentityProfile
    cases s.profile a <;> rfl
  · intro p hp
    exact ⟨(hI.cdLen a p hp).1, (hI.cdLen a p hp).2, hI.cdValid a p hp⟩
  · intro i hid
    unfold getCountryData
    rw [hI.profile_none (Option.not_isSome_iff_eq_none.1 (Bool.eq_false_iff.1 hid))]; rfl

/-- **irs_abs_step.** Every accepted mutator changes the three plain maps as its name says
and nothing else. -/
theorem irs_abs_step (s : State) (hs : Reachable s) :
    (∀ a ident ty cs s', addIdentity s a ident ty cs = .ok s' →
      s'.identity = updD s.identity a (some ident) ∧ s'.profile = updD s.profile a (some ⟨ty, cs⟩) ∧
      s'.recoveredTo = s.recoveredTo) ∧
    (∀ a ident s', modifyIdentity s a ident = .ok s' →
      s'.identity = updD s.identity a (some ident) ∧ s'.profile = s.profile ∧ s'.recoveredTo = s.recoveredTo) ∧
    (∀ a s', removeIdentity s a = .ok s' →
      s'.identity = updD s.identity a none ∧ s'.profile = updD s.profile a none ∧ s'.recoveredTo = s.recoveredTo) ∧
    (∀ old new s', recoverIdentity s old new = .ok s' →
      s'.identity = updD (updD s.identity new (s.identity old)) old none ∧
      s'.profile = updD (updD s.profile new (s.profile old)) old none ∧
      s'.recoveredTo = updD s.recoveredTo old (some new)) ∧
    (∀ a cs s', addCountryDataEntries s a cs = .ok s' →
      s'.identity = s.identity ∧ getCountryDataEntries s' a = getCountryDataEntries s a ++ cs ∧
      ∀ a', a' ≠ a → s'.profile a' = s.profile a') ∧
    (∀ a i c s', modifyCountryData s a i c = .ok s' →
      s'.identity = s.identity ∧ getCountryDataEntries s' a = (getCountryDataEntries s a).set i c ∧
      ∀ a', a' ≠ a → s'.profile a' = s.profile a') ∧
    (∀ a i s', deleteCountryData s a i = .ok s' →
      s'.identity = s.identity ∧ getCountryDataEntries s' a = (getCountryDataEntries s a).eraseIdx i ∧
      ∀ a', a' ≠ a → s'.profile a' = s.profile a') := by
  have hI := reachable_inv hs
  refine ⟨?_, ?_, ?_, ?_, ?_, ?_, ?_⟩
  · intro a ident ty cs s' h
    obtain ⟨_, _, _, _, _, rfl⟩ := (addIdentity_ok_iff s s' a ident ty cs).1 h; exact ⟨rfl, rfl, rfl⟩
  · intro a ident s' h
    obtain ⟨_, rfl⟩ := (modifyIdentity_ok_iff s s' a ident).1 h; exact ⟨rfl, rfl, rfl⟩
  · intro a s' h
    obtain ⟨_, rfl⟩ := (removeIdentity_ok_iff hI s' a).1 h; exact ⟨rfl, rfl, rfl⟩
  · intro old new s' h
    obtain ⟨ident, p, hio, hp, _, _, rfl⟩ := (recoverIdentity_ok_iff s s' old new).1 h
    rw [hio, hp]; exact ⟨rfl, rfl, rfl⟩
  · intro a cs s' h
    obtain ⟨p, hp, _, _, _, rfl⟩ := (addCountries_ok_iff s s' a cs).1 h
    refine ⟨rfl, ?_, fun a' ha => updD_other _ _ _ _ ha⟩
    simp [getCountryDataEntries, updD, hp]
  · intro a i c s' h
    obtain ⟨p, hp, _, _, rfl⟩ := (modifyCountry_ok_iff s s' a i c).1 h
    refine ⟨rfl, ?_, fun a' ha => updD_other _ _ _ _ ha⟩
    simp [getCountryDataEntries, updD, hp]
  · intro a i s' h
    obtain ⟨p, hp, _, _, rfl⟩ := (deleteCountry_ok_iff s s' a i).1 h
    refine ⟨rfl, ?_, fun a' ha => updD_other _ _ _ _ ha⟩
    simp [getCountryDataEntries, updD, hp]

/-- **irs_dup_refused.** An account that has an identity cannot be registered or be the target
of a recovery. -/
theorem irs_dup_refused (s : State) (hs : Reachable s) (a : Nat) (h : (storedIdentity s a).isSome = true) :
    (∀ ident ty cs, ∃ e, addIdentity s a ident ty cs = .error e) ∧
    (∀ old, ∃ e, recoverIdentity s old a = .error e) := by
  have hid : s.identity a ≠ none := Option.ne_none_iff_isSome.2 h
  exact ⟨fun ident ty cs => err_of_not_ok fun s' hok =>
      hid ((addIdentity_ok_iff s s' a ident ty cs).1 hok).2.2.2.2.1,
    fun old => err_of_not_ok fun s' hok => by
      obtain ⟨_, _, _, _, _, hin, _⟩ := (recoverIdentity_ok_iff s s' old a).1 hok
      exact hid hin⟩

/-- **irs_absent_refused.** Every operation that needs a registered account is refused for an
account without identity; an out-of-range country index is refused. -/
theorem irs_absent_refused (s : State) (hs : Reachable s) (a : Nat) :
    (storedIdentity s a = none →
      (∀ x, ∃ e, modifyIdentity s a x = .error e) ∧ (∃ e, removeIdentity s a = .error e) ∧
      (∀ n, ∃ e, recoverIdentity s a n = .error e) ∧ (∀ cs, ∃ e, addCountryDataEntries s a cs = .error e) ∧
      (∀ i c, ∃ e, modifyCountryData s a i c = .error e) ∧ (∀ i, ∃ e, deleteCountryData s a i = .error e)) ∧
    (∀ i c, (getCountryDataEntries s a).length ≤ i →
      (∃ e, modifyCountryData s a i c = .error e) ∧ ∃ e, deleteCountryData s a i = .error e) := by
  have hI := reachable_inv hs
  constructor
  · intro hid
    have hno : ¬ (s.identity a).isSome = true := Option.not_isSome_iff_eq_none.2 hid
    have hpr : ∀ p, s.profile a ≠ some p := fun p hp => by rw [hI.profile_none hid] at hp; cases hp
    exact ⟨fun x => err_of_not_ok fun s' hok => hno ((modifyIdentity_ok_iff s s' a x).1 hok).1,
      err_of_not_ok fun s' hok => hno ((removeIdentity_ok_iff hI s' a).1 hok).1,
      fun n => err_of_not_ok fun s' hok => by
        obtain ⟨_, _, h, _⟩ := (recoverIdentity_ok_iff s s' a n).1 hok; rw [h] at hno; exact hno rfl,
      fun cs => err_of_not_ok fun s' hok => by
        obtain ⟨p, h, _⟩ := (addCountries_ok_iff s s' a cs).1 hok; exact hpr p h,
      fun i c => err_of_not_ok fun s' hok => by
        obtain ⟨p, h, _⟩ := (modifyCountry_ok_iff s s' a i c).1 hok; exact hpr p h,
      fun i => err_of_not_ok fun s' hok => by
        obtain ⟨p, h, _⟩ := (deleteCountry_ok_iff s s' a i).1 hok; exact hpr p h⟩
  · intro i c hlen
    constructor
    · exact err_of_not_ok fun s' hok => by
        obtain ⟨p, hp, _, hi, _⟩ := (modifyCountry_ok_iff s s' a i c).1 hok
        rw [entries_of_profile hp] at hlen; exact Nat.not_lt.2 hlen hi
    · exact err_of_not_ok fun s' hok => by
        obtain ⟨p, hp, _, hi, _⟩ := (deleteCountry_ok_iff s s' a i).1 hok
        rw [entries_of_profile hp] at hlen; exact Nat.not_lt.2 hlen hi

/-- **irs_limit_exact.** With otherwise acceptable arguments: an identity is stored exactly when
its initial country list has between 1 and 15 entries; further entries are accepted exactly
while the total stays at most `MAX_COUNTRY_ENTRIES = 15` (the 15th accepted, the 16th refused);
the last remaining entry cannot be deleted. -/
theorem irs_limit_exact (s : State) (hs : Reachable s) (a : Nat) :
    (∀ ident ty cs, getRecoveredTo s a = none → storedIdentity s a = none → cs.all validCD = true →
      ((∃ s', addIdentity s a ident ty cs = .ok s') ↔ (1 ≤ cs.length ∧ cs.length ≤ 15))) ∧
    (∀ cs, (storedIdentity s a).isSome = true → cs ≠ [] → cs.all validCD = true →
      ((∃ s', addCountryDataEntries s a cs = .ok s') ↔ (getCountryDataEntries s a).length + cs.length ≤ 15)) ∧
    (∀ i, (getCountryDataEntries s a).length = 1 → ∃ e, deleteCountryData s a i = .error e) := by
  refine ⟨?_, ?_, ?_⟩
  · intro ident ty cs hr hid hv
    exact ⟨fun ⟨s', hok⟩ =>
        have h := (addIdentity_ok_iff s s' a ident ty cs).1 hok
        ⟨List.length_pos_iff.2 h.2.1, h.2.2.1⟩,
      fun ⟨h1, h2⟩ => ⟨_, (addIdentity_ok_iff s _ a ident ty cs).2
        ⟨hr, List.length_pos_iff.1 h1, h2, hv, hid, rfl⟩⟩⟩
  · intro cs hid hne hv
    obtain ⟨p, hp⟩ := (reachable_inv hs).profile_some hid
    rw [entries_of_profile hp, ← List.length_append]
    constructor
    · rintro ⟨s', hok⟩
      obtain ⟨p', hp', _, _, hl, _⟩ := (addCountries_ok_iff s s' a cs).1 hok
      cases hp.symm.trans hp'; exact hl
    · intro hl
      exact ⟨_, (addCountries_ok_iff s _ a cs).2 ⟨p, hp, hne, hv, hl, rfl⟩⟩
  · intro i h1
    exact err_of_not_ok fun s' hok => by
      obtain ⟨p, hp, hne, _⟩ := (deleteCountry_ok_iff s s' a i).1 hok
      rw [entries_of_profile hp] at h1; exact hne h1

/-- **irs_enumerates_once.** For a registered account `get_country_data` is defined exactly on
`0 .. len-1` and reads the entries in order (the registry deliberately allows equal entries, so
the enumeration is of positions, not of distinct values). -/
theorem irs_enumerates_once (s : State) (hs : Reachable s) (a : Nat) (h : (storedIdentity s a).isSome = true) :
    (∀ i, (getCountryData s a i).isSome = true ↔ i < (getCountryDataEntries s a).length) ∧
    (∀ i c, getCountryData s a i = some c ↔ (getCountryDataEntries s a)[i]? = some c) := by
  constructor
  · intro i
    rw [getCountryData_eq_getElem, isSome_getElem?]
  · intro i c; rw [getCountryData_eq_getElem]

/-- **recovered_never_registered_again.** Once `RecoveredTo(a)` is set in a reachable state, in
every later state of the history it is still set to the same account, `a` has no identity, and
every attempt to register `a` or to recover another identity into `a` is refused. -/
theorem recovered_never_registered_again (s : State) (hs : Reachable s) (a b : Nat)
    (h : getRecoveredTo s a = some b) (ops : List Op) :
    let s2 := run s ops
    getRecoveredTo s2 a = some b ∧ storedIdentity s2 a = none ∧
    (∀ ident ty cs, ∃ e, addIdentity s2 a ident ty cs = .error e) ∧
    (∀ old, ∃ e, recoverIdentity s2 old a = .error e) := by
  intro s2
  have hI := reachable_inv hs
  have hI2 : Inv s2 := inv_run hI ops
  have hr2 : s2.recoveredTo a = some b := recoveredTo_run hI ops a b h
  refine ⟨hr2, hI2.recNone a (by rw [hr2]; rfl), ?_, ?_⟩
  · intro ident ty cs
    exact err_of_not_ok fun s' hok => by
      have := ((addIdentity_ok_iff s2 s' a ident ty cs).1 hok).1; rw [hr2] at this; cases this
  · intro old
    exact err_of_not_ok fun s' hok => by
      obtain ⟨_, _, _, _, h1, _⟩ := (recoverIdentity_ok_iff s2 s' old a).1 hok; rw [hr2] at h1; cases h1

/-! ### non-vacuity -/

def okB (r : Except RErr State) : Bool := match r with | .ok _ => true | .error _ => false

example :
    let c : CD := ⟨840, 0, 0⟩
    let s := run init [.add 0 7 0 [c], .recover 0 1, .remove 1, .add 0 7 0 [c], .add 1 8 1 (List.replicate 15 c)]
    getRecoveredTo s 0 = some 1 ∧ storedIdentity s 0 = none ∧ storedIdentity s 1 = some 8 ∧
    (getCountryDataEntries s 1).length = 15 ∧ okB (addCountryDataEntries s 1 [c]) = false ∧
    okB (deleteCountryData s 1 14) = true := by decide +kernel

end OZ.Props.C20f
