import OZ.Lemmas.RoleTransfer
import OZ.Model.RoleTransferMon
/-
C07 — soundness of the MONITOR that decides the property on implementation traces.

`./check C07` reports a concrete violation exactly when `OZ.RoleTransfer.Mon.checkCore` (the
driver's monitor on parsed values) returns a message on the implementation's observations.
Here it is proved that on the observations of the MODEL the monitor never returns a message,
for every configuration, flavour, start state and finite history
(`monitor_accepts_every_model_trace`).  Consequences:

  * an implementation whose observations agree with the model's (the correspondence the
    check establishes by differential testing) can never raise a monitor alarm — a monitor
    failure is never a false alarm of the monitor itself;
  * every conclusion the monitor evaluates (accept only for the open, live, authorized offer
    of the then-holder; no accept window beyond the deadline, also through the probe;
    renounce refused while an offer is live; holder-only calls; rollback of rejected calls;
    nothing changes by the passage of time) is a THEOREM about the model, in the monitor's
    own executable wording.
-/
namespace OZ.RoleTransfer.Mon
open OZ.Host OZ.RoleTransfer

/-- the observation line the harness / the model driver print for a state -/
def modelObs (f : Flavor) (s : State) (ok : Bool) : Obs := ⟨ok, s.holder, pendNow f s, s.now⟩

structure Agree (c : Cfg) (f : Flavor) (m : Mon) (x : GS) : Prop where
  cfg : m.cfg = c
  g : m.g = x.g
  holder : m.holder = x.s.holder
  now : m.now = x.s.now
  pend : m.pend = pendNow f x.s

def accepted (c : Cfg) (f : Flavor) (s : State) (a : List Nat × Op) : Bool :=
  match apply c f s a.1 a.2 with
  | .ok _ => true
  | .error _ => false

theorem holderIn_some {a : Nat} {auth : List Nat} (h : a ∈ auth) : holderIn (some a) auth = true :=
  List.contains_iff_mem.mpr h

theorem holderIn_true {p : Option Nat} {auth : List Nat} (h : holderIn p auth = true) :
    ∃ a, p = some a ∧ a ∈ auth := by
  cases p with
  | none => cases h
  | some a => exact ⟨a, rfl, List.contains_iff_mem.mp h⟩

theorem probe_model {c : Cfg} (f : Flavor) {x : GS} (hi : Inv c x) :
    probe c x.g (pendNow f x.s) x.s.now = none := by
  cases hp : pendNow f x.s with
  | none => rfl
  | some p =>
    have hget : Temp.get? x.s.pending x.s.now = some p := by
      unfold pendNow at hp
      split at hp
      · cases hp
      · exact hp
    obtain ⟨off, h1, h2, h3⟩ := inv_get?_some hi hget
    unfold probe
    simp only [h1]
    rw [if_neg_not h2, if_neg (Nat.not_lt.mpr h3)]

theorem verdictRejected_model {c : Cfg} {f : Flavor} {m : Mon} {x : GS} (ha : Agree c f m x)
    {auth : List Nat} {op : Op} {e : Err} (hx : apply c f x.s auth op = .error e) :
    verdictRejected m auth op (modelObs f x.s false) = none := by
  obtain ⟨-, -, hh, -, hpd⟩ := ha
  unfold verdictRejected
  rw [if_neg_not (c := (modelObs f x.s false).holder = m.holder) hh.symm,
    if_neg_not (c := (modelObs f x.s false).pend = m.pend) hpd.symm]
  cases op with
  | guarded =>
    refine if_neg fun hin => ?_
    obtain ⟨h, h1, h2⟩ := holderIn_true hin
    exact nomatch hx.symm.trans (ok_of_step (.guarded h (hh.symm.trans h1) h2))
  | offer n l =>
    refine if_neg ?_
    rintro ⟨rfl, hin, hp⟩
    obtain ⟨h, h1, h2⟩ := holderIn_true hin
    have hhd := hh.symm.trans h1
    have hget : Temp.get? x.s.pending x.s.now = some n := by
      have hp' := hpd.symm.trans hp
      unfold pendNow at hp'
      rw [hhd] at hp'
      cases f <;> exact hp'
    exact nomatch hx.symm.trans (ok_of_step (.cancel h n hhd h2 hget))
  | _ => rfl

theorem verdictAccepted_model {c : Cfg} {f : Flavor} {m : Mon} {x : GS} (hi : Inv c x)
    (ha : Agree c f m x) {auth : List Nat} {op : Op} {s' : State}
    (hx : apply c f x.s auth op = .ok s') : verdictAccepted m auth op (modelObs f s' true) = none := by
  obtain ⟨hc, hg, hh, hn, -⟩ := ha
  have hin : ∀ {hd}, x.s.holder = some hd → hd ∈ auth → holderIn m.holder auth = true :=
    fun e1 e2 => by rw [hh, e1]; exact holderIn_some e2
  cases step_of_ok hx with
  | accept p hget hpa =>
    obtain ⟨off, hgo, hacct, hdl⟩ := inv_get?_some hi hget
    obtain ⟨-, -, -, ⟨h0, hth, hin'⟩, hkeep⟩ := hi.wf off hgo
    subst hacct
    show verdictAccept m auth _ = none
    unfold verdictAccept
    rw [hg, hgo]
    exact (if_neg_not (List.contains_iff_mem.mpr hpa)).trans <| (if_neg_not rfl).trans <|
      (if_neg_not (by rw [hth]; exact holderIn_some hin')).trans <|
      (if_neg_not ((hkeep hdl).symm.trans hh.symm)).trans <|
      if_neg (by rw [hn, hc]; exact Nat.not_lt.mpr hdl)
  | renounce hd hhd hau hgp =>
    -- an offer still live would have made `renounce` fail
    have e3 : liveAt m.g m.now = false := by
      rw [hg, hn]
      cases hgo : x.g with
      | none => rfl
      | some off =>
        refine decide_eq_false fun hl => ?_
        rw [inv_get?_of_open hi hgo (Nat.le_trans hl (Nat.le_max_left ..))] at hgp
        cases hgp
    exact (if_neg_not (hin hhd hau)).trans <| (if_neg_not rfl).trans (if_neg (Bool.eq_false_iff.mp e3))
  | cancel hd new hhd hau hcan =>
    refine (if_neg_not hh.symm).trans <| (if_neg_not (hin hhd hau)).trans <| (if_pos rfl).trans ?_
    obtain ⟨off, hgo, hacct, -⟩ := inv_get?_some hi hcan
    unfold verdictCancel
    rw [hg, hgo]
    exact if_neg_not hacct
  | offer hd new lu hhd hau h0 b1 b2 =>
    exact (if_neg_not hh.symm).trans <| (if_neg_not (hin hhd hau)).trans <|
      (if_neg h0).trans (if_neg (by rw [hn, hc]; omega))
  | guarded hd hhd hau => exact (if_neg_not hh.symm).trans (if_neg_not (hin hhd hau))
  | advance n => exact if_neg_not hh.symm

/-- **one call**: fed with the model's own observation of any call (accepted or rejected), the
monitor reports nothing and its state keeps describing the model's -/
theorem monitor_sound_step (c : Cfg) (f : Flavor) {m : Mon} {x : GS} (hi : Inv c x)
    (ha : Agree c f m x) (a : List Nat × Op) :
    (checkCore m a.1 a.2 (modelObs f (stepG c f x a).s (accepted c f x.s a))).2 = none ∧
    Agree c f (checkCore m a.1 a.2 (modelObs f (stepG c f x a).s (accepted c f x.s a))).1 (stepG c f x a) := by
  obtain ⟨auth, op⟩ := a
  have quiet : ∀ (ok : Bool) (s' : State), Inv c ⟨s', ghostStep x.g x.s.holder x.s.now auth op ok⟩ →
      verdict m auth op (modelObs f s' ok) = none →
      (checkCore m auth op (modelObs f s' ok)).2 = none ∧
      Agree c f (checkCore m auth op (modelObs f s' ok)).1 ⟨s', ghostStep x.g x.s.holder x.s.now auth op ok⟩ := by
    intro ok s' hi' hv
    have hg : ghostStep m.g m.holder m.now auth op ok = ghostStep x.g x.s.holder x.s.now auth op ok := by
      rw [ha.g, ha.holder, ha.now]
    refine ⟨?_, ha.cfg, hg, rfl, rfl, rfl⟩
    show firstSome (verdict m auth op _) (probe m.cfg (ghostStep m.g m.holder m.now auth op ok) _ _) = none
    rw [hv, ha.cfg, hg]
    exact probe_model f hi'
  have hi' := stepG_inv c f hi (auth, op)
  simp only [stepG, accepted] at hi' ⊢
  cases hx : apply c f x.s auth op with
  | error e => exact quiet false x.s hi (verdictRejected_model ha hx)
  | ok s' => exact quiet true s' (by rw [hx] at hi'; exact hi') (verdictAccepted_model hi ha hx)

/-- the monitor run over a whole history of model observations: first message, if any -/
def monitorRun (c : Cfg) (f : Flavor) : Mon → GS → List (List Nat × Op) → Option String
  | _, _, [] => none
  | m, x, a :: as =>
    match (checkCore m a.1 a.2 (modelObs f (stepG c f x a).s (accepted c f x.s a))).2 with
    | some msg => some msg
    | none => monitorRun c f (checkCore m a.1 a.2 (modelObs f (stepG c f x a).s (accepted c f x.s a))).1
        (stepG c f x a) as

/-- the monitor's initial state for a sequence (the record `minit` of OZ/Drv/C07.lean writes out) -/
def monInit (c : Cfg) (holder : Option Nat) (start : Nat) : Mon :=
  { cfg := c, g := none, holder := holder, now := start, pend := none }

/-- **monitor soundness**: for every configuration, flavour, initial holder, start ledger and
finite history — any callers, any authorizing subsets, any offers, any ledger movement — the
monitor reports nothing on the model's observations -/
theorem monitor_accepts_every_model_trace (c : Cfg) (f : Flavor) (holder : Option Nat) (start : Nat)
    (ops : List (List Nat × Op)) :
    monitorRun c f (monInit c holder start) (initG holder start) ops = none := by
  suffices ∀ m x, Inv c x → Agree c f m x → monitorRun c f m x ops = none from
    this _ _ (init_inv c holder start)
      ⟨rfl, rfl, rfl, rfl, by
        show none = pendNow f (init holder start)
        unfold pendNow init
        cases f <;> cases holder <;> rfl⟩
  induction ops with
  | nil => intro m x _ _; rfl
  | cons a as ih =>
    intro m x hi ha
    obtain ⟨h1, h2⟩ := monitor_sound_step c f hi ha a
    unfold monitorRun
    rw [h1]
    exact ih _ _ (stepG_inv c f hi a) h2

/-! ### non-vacuity: the monitor is not trivially silent — on the observation of `runLegacy` in
`transfer_role_override_counterexample` (OZ/Props/C07.lean: offer(1, 1100); offer(2, 110) at ledger 100;
account 2 accepts at ledger 500) it reports the expired accept -/

example :
    (checkCore { cfg := ⟨1, 200000⟩, g := some ⟨2, 110, 100, some 0, [0]⟩, holder := some 0, now := 500,
                 pend := some 2 } [2] .accept ⟨true, some 2, none, 500⟩).2.isSome = true := by decide

end OZ.RoleTransfer.Mon
