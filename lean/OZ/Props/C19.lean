import OZ.Lemmas.FeeForwarder
/-
C19 — Fee forwarding charges at most the authorized fee for the authorized call only.

The model (OZ/Model/FeeForwarder.lean) mirrors
packages/fee-abstraction/src/storage.rs and the `forward` entry points of the two
fee-forwarder examples; the fee token is the library `Base` token (OZ/Model/Fungible.lean).

All statements are universally quantified over the configuration (`Params`), the state, the call (`Call`:
arbitrary `Int`/`Nat`), the user, the fee recipient, the approval strategy, the target's behaviour and the
authorization presented; the allow-list theorems over all finite histories of allow / disallow operations.
-/
namespace OZ.FeeForwarder
open OZ.Host

/-! ### 1. a forward succeeds only with the user's authorization of exactly this call -/

/-- **success ⇒ the user authorized exactly that tuple** (fee token, maximum fee,
expiration ledger, target contract, function, arguments), and — whenever the forwarder
approves on the user's behalf / the target demands it — the nested `approve(user, forwarder,
max, expiration)` resp. the nested target call -/
theorem forward_requires_exact_user_auth {p : Params} {s s' : State} {au : Auth} {c : Call}
    {user rcp : Nat} {ap : Approval} {tgt : Target}
    (h : collectFeeAndInvoke p s au c user rcp ap tgt = .ok s') :
    ∃ ua, au.user = some ua ∧ ua.signer = user ∧
      ua.tuple = ⟨c.token, c.maxFee, c.expiration, c.target, c.fn, c.args⟩ ∧
      ((ap = .eager ∨ OZ.Fungible.allowance (tokAt s c.token) user p.self < c.maxFee) →
        approveInv p c.token user c.maxFee c.expiration ∈ ua.subs) ∧
      (tgt = .needsUser → targetInv c ∈ ua.subs) := by
  have pre := (forwarded h).1
  obtain ⟨ua, hua, hs, htp⟩ := (userSigned_iff _ _ _).mp pre.signed
  refine ⟨ua, hua, hs, htp, fun hap => subSigned_mem hua (pre.fee.approve hap).1, ?_⟩
  rintro rfl
  exact subSigned_mem hua (pre.target.elim nofun (·.2))

/-- contrapositive, component by component: an authorization that differs from the call in
the signer or in ANY of the six components makes the forward fail -/
theorem forward_rejects_other_authorization {p : Params} {s : State} {au : Auth} {c : Call}
    {user rcp : Nat} {ap : Approval} {tgt : Target}
    (hd : ∀ ua, au.user = some ua →
      ua.signer ≠ user ∨ ua.tuple.token ≠ c.token ∨ ua.tuple.maxFee ≠ c.maxFee ∨
      ua.tuple.expiration ≠ c.expiration ∨ ua.tuple.target ≠ c.target ∨ ua.tuple.fn ≠ c.fn ∨
      ua.tuple.args ≠ c.args) :
    ∃ e, collectFeeAndInvoke p s au c user rcp ap tgt = .error e := by
  cases hr : collectFeeAndInvoke p s au c user rcp ap tgt with
  | error e => exact ⟨e, rfl⟩
  | ok s' =>
    obtain ⟨ua, hua, hs, htp, _, _⟩ := forward_requires_exact_user_auth hr
    have := hd ua hua
    rw [htp] at this
    simp [hs] at this

/-- the permissionless example: additionally the relayer's own authorization; the relayer
is the fee recipient and the strategy is eager -/
theorem forwardPL_requires {p : Params} {s s' : State} {au : Auth} {c : Call} {user relayer : Nat}
    {tgt : Target} (h : forwardPermissionless p s au c user relayer tgt = .ok s') :
    relayer ∈ au.plain ∧ collectFeeAndInvoke p s au c user relayer .eager tgt = .ok s' :=
  forwardPL_eq_ok.mp h

/-- the permissioned example: additionally the executor role and the relayer's own
authorization; the contract itself is the fee recipient and the strategy is lazy -/
theorem forwardPD_requires {p : Params} {s s' : State} {au : Auth} {c : Call} {user relayer : Nat}
    {tgt : Target} (h : forwardPermissioned p s au c user relayer tgt = .ok s') :
    relayer ∈ p.executors ∧ relayer ∈ au.plain ∧
    collectFeeAndInvoke p s au c user p.self .lazy tgt = .ok s' :=
  forwardPD_eq_ok.mp h

/-! ### 2. it charges exactly the fee, which is positive and at most the maximum -/

/-- **success ⇒** `0 < fee ≤ max`, the user is not the forwarder, the fee token's balances
are the old ones with `fee` debited from the user and then credited to the recipient, its
supply is unchanged, no other token is touched, the only allowance that may change is
user → forwarder, the allow-list and the ledger are unchanged -/
theorem charges_exactly_fee {p : Params} {s s' : State} {au : Auth} {c : Call}
    {user rcp : Nat} {ap : Approval} {tgt : Target}
    (h : collectFeeAndInvoke p s au c user rcp ap tgt = .ok s') :
    0 < c.fee ∧ c.fee ≤ c.maxFee ∧ user ≠ p.self ∧ c.fee ≤ (s.toks c.token).bal user ∧
    (s'.toks c.token).bal =
      upd (upd (s.toks c.token).bal user ((s.toks c.token).bal user - c.fee)) rcp
        ((upd (s.toks c.token).bal user ((s.toks c.token).bal user - c.fee)) rcp + c.fee) ∧
    (s'.toks c.token).supply = (s.toks c.token).supply ∧
    (∀ t, t ≠ c.token → s'.toks t = s.toks t) ∧
    (∀ x y, ¬ (x = user ∧ y = p.self) → (s'.toks c.token).allow x y = (s.toks c.token).allow x y) ∧
    s'.al = s.al ∧ s'.now = s.now := by
  obtain ⟨⟨_, pre, _⟩, s1, post, rfl⟩ := forwarded h
  exact ⟨pre.feePos, pre.feeMax, fun e => pre.notSelf e.symm, pre.balance, post.bal, post.supply, post.others,
    post.allow, post.al, post.now⟩

/-- the usual case, user ≠ recipient: the user loses exactly `fee`, the recipient gains
exactly `fee`, nobody else's balance moves -/
theorem charge_distinct {p : Params} {s s' : State} {au : Auth} {c : Call}
    {user rcp : Nat} {ap : Approval} {tgt : Target} (hne : user ≠ rcp)
    (h : collectFeeAndInvoke p s au c user rcp ap tgt = .ok s') :
    (s'.toks c.token).bal user = (s.toks c.token).bal user - c.fee ∧
    (s'.toks c.token).bal rcp = (s.toks c.token).bal rcp + c.fee ∧
    (∀ x, x ≠ user → x ≠ rcp → (s'.toks c.token).bal x = (s.toks c.token).bal x) := by
  obtain ⟨_, _, _, _, hb, _⟩ := charges_exactly_fee h
  rw [hb]
  refine ⟨?_, ?_, ?_⟩
  · rw [upd_other _ _ _ _ hne, upd_same]
  · rw [upd_same, upd_other _ _ _ _ (Ne.symm hne)]
  · intro x hx hr; rw [upd_other _ _ _ _ hr, upd_other _ _ _ _ hx]

/-- user = recipient (possible in the permissionless example when the user relays for
himself): debit and credit cancel, no balance moves at all -/
theorem charge_self_recipient {p : Params} {s s' : State} {au : Auth} {c : Call}
    {user : Nat} {ap : Approval} {tgt : Target}
    (h : collectFeeAndInvoke p s au c user user ap tgt = .ok s') :
    ∀ x, (s'.toks c.token).bal x = (s.toks c.token).bal x := by
  obtain ⟨_, _, _, _, hb, _⟩ := charges_exactly_fee h
  intro x
  rw [hb]
  by_cases hx : x = user
  · subst hx; rw [upd_same, upd_same]; omega
  · rw [upd_other _ _ _ _ hx, upd_other _ _ _ _ hx]

/-- the collected fee is announced: exactly one `FeeCollected(user, recipient, token, fee)`
followed by one `ForwardExecuted(user, target, fn, args)` -/
theorem forward_events {p : Params} {s s' : State} {au : Auth} {c : Call}
    {user rcp : Nat} {ap : Approval} {tgt : Target}
    (h : collectFeeAndInvoke p s au c user rcp ap tgt = .ok s') :
    s'.events = s.events ++ [.feeCollected user rcp c.token c.fee,
                             .forwardExecuted user c.target c.fn c.args] := by
  obtain ⟨_, s1, post, rfl⟩ := forwarded h
  simp [emit, logCall, post.events]

/-! ### 3. it invokes exactly that target call once -/

theorem target_invoked_once {p : Params} {s s' : State} {au : Auth} {c : Call}
    {user rcp : Nat} {ap : Approval} {tgt : Target}
    (h : collectFeeAndInvoke p s au c user rcp ap tgt = .ok s') :
    s'.calls = s.calls ++ [⟨c.target, c.fn, c.args⟩] ∧ tgt ≠ .fail := by
  obtain ⟨pre, s1, post, rfl⟩ := forwarded h
  refine ⟨congrArg (· ++ _) post.calls, ?_⟩
  rintro rfl
  exact pre.target.elim nofun (nomatch ·.1)

/-! ### 4. atomicity: if any step fails nothing persists -/

/-- a failing invocation leaves the whole world (every token, the allow-list, the target's
call log, the events) exactly as it was: this is how `step` is defined (host rollback); the
correspondence check observes it on the real host after every failed call -/
theorem atomic (p : Params) (s : State) (au : Auth) (op : Op) (e : Err)
    (h : apply p s au op = .error e) : step p s (au, op) = s := by
  simp [step, h]

/-- a failing target makes the whole forward fail — so by `atomic` the fee that was already
transferred and the allowance that was already set do not persist -/
theorem target_failure_fails_forward (p : Params) (s : State) (au : Auth) (c : Call)
    (user rcp : Nat) (ap : Approval) :
    ∃ e, collectFeeAndInvoke p s au c user rcp ap .fail = .error e := by
  cases hr : collectFeeAndInvoke p s au c user rcp ap .fail with
  | error e => exact ⟨e, rfl⟩
  | ok s' => exact absurd rfl (target_invoked_once hr).2

theorem target_failure_reverts_fee (p : Params) (s : State) (au : Auth) (c : Call)
    (user relayer : Nat) :
    step p s (au, .forwardPL c user relayer .fail) = s ∧
    step p s (au, .forwardPD c user relayer .fail) = s := by
  constructor
  · cases hr : apply p s au (.forwardPL c user relayer .fail) with
    | error e => exact atomic _ _ _ _ _ hr
    | ok s' => exact absurd rfl (target_invoked_once (forwardPL_requires hr).2).2
  · cases hr : apply p s au (.forwardPD c user relayer .fail) with
    | error e => exact atomic _ _ _ _ _ hr
    | ok s' => exact absurd rfl (target_invoked_once (forwardPD_requires hr).2.2).2

/-- all or nothing: after a forward through the library function (which both examples call behind
their gates) the world is either untouched or the fee is charged AND the target call is logged
AND the user had authorized it -/
theorem forward_all_or_nothing (p : Params) (s : State) (au : Auth) (c : Call)
    (user rcp : Nat) (ap : Approval) (tgt : Target) :
    step p s (au, .forwardLib c user rcp ap tgt) = s ∨
    (let s' := step p s (au, .forwardLib c user rcp ap tgt)
     s'.calls = s.calls ++ [⟨c.target, c.fn, c.args⟩] ∧
     (s'.toks c.token).bal =
        upd (upd (s.toks c.token).bal user ((s.toks c.token).bal user - c.fee)) rcp
          ((upd (s.toks c.token).bal user ((s.toks c.token).bal user - c.fee)) rcp + c.fee) ∧
     userSigned au user (tupleOf c) = true) := by
  cases hr : apply p s au (.forwardLib c user rcp ap tgt) with
  | error e => exact .inl (atomic _ _ _ _ _ hr)
  | ok s' =>
    right
    have hs : step p s (au, .forwardLib c user rcp ap tgt) = s' := by simp [step, hr]
    rw [hs]
    exact ⟨(target_invoked_once hr).1, (charges_exactly_fee hr).2.2.2.2.1, (forwarded hr).1.signed⟩

/-! ### 5. a fee token is accepted only if the allow-list is empty or contains it -/

/-- `is_allowed_fee_token`: an empty allow-list accepts every token, a non-empty one exactly its members -/
theorem token_accepted_iff (al : AllowList) (t : Nat) :
    isAllowedFeeToken al t = true ↔ al.count = 0 ∨ (al.indexOf t).isSome = true := by
  unfold isAllowedFeeToken
  by_cases hc : al.count > 0
  · rw [if_pos hc]; constructor
    · intro h; exact .inr h
    · rintro (h | h)
      · omega
      · exact h
  · rw [if_neg hc]; simp; omega

/-- … in terms of the enumeration, for every well-formed (= every reachable) allow-list -/
theorem token_accepted_iff_enumerated {al : AllowList} (w : WF al) (t : Nat) :
    isAllowedFeeToken al t = true ↔ enumerate al = [] ∨ t ∈ enumerate al := by
  rw [token_accepted_iff, enumerate_nil_iff w, mem_enumerate w]

theorem forward_only_accepted_token {p : Params} {s s' : State} {au : Auth} {c : Call}
    {user rcp : Nat} {ap : Approval} {tgt : Target} (w : WF s.al)
    (h : collectFeeAndInvoke p s au c user rcp ap tgt = .ok s') :
    enumerate s.al = [] ∨ c.token ∈ enumerate s.al :=
  (token_accepted_iff_enumerated w _).mp (forwarded h).1.fee.token

/-! ### 6. the allow-list's enumeration is the set of tokens allowed and not since removed -/

/-- under the invariant the `count - 1` and the `.expect("last token to be present")` of the
swap-and-pop can never panic -/
theorem disallow_never_panics {al : AllowList} (w : WF al) (t : Nat) :
    disallowToken al t ≠ .error .panic :=
  (setAllowed_accepted_iff w t false nofun).1

/-- allowing is accepted iff the token is not yet in the list (duplicates refused) -/
theorem allow_accepted_iff {al : AllowList} (w : WF al) (hb : al.count < U32_MAX) (t : Nat) :
    (∃ al', allowToken al t = .ok al') ↔ t ∉ enumerate al := by
  rw [mem_enumerate w]
  exact (setAllowed_accepted_iff w t true fun _ => hb).2

/-- disallowing is accepted iff the token is in the list (absent refused) -/
theorem disallow_accepted_iff {al : AllowList} (w : WF al) (t : Nat) :
    (∃ al', disallowToken al t = .ok al') ↔ t ∈ enumerate al := by
  rw [mem_enumerate w]
  exact (setAllowed_accepted_iff w t false nofun).2.trans Bool.ne_false_iff

/-- one step of the allow-list machine refines one step of the plain set -/
theorem alStep_refines {al : AllowList} {S : Nat → Bool} (w : WF al)
    (hS : ∀ t, (al.indexOf t).isSome = true ↔ S t = true) (x : Nat × Bool)
    (hb : al.count + 1 ≤ U32_MAX) :
    WF (alStep al x) ∧ (alStep al x).count ≤ al.count + 1 ∧
    (∀ t, ((alStep al x).indexOf t).isSome = true ↔ specStep S x t = true) := by
  obtain ⟨t, a⟩ := x
  obtain ⟨hrefused, hdone⟩ := setAllowed_sim w t a (fun _ => hb)
  unfold alStep specStep
  dsimp only
  by_cases hm : mem al t = a
  · -- refused: the membership of `t` already is `a`
    obtain ⟨e, he, _⟩ := hrefused hm
    rw [he]
    refine ⟨w, Nat.le_succ _, fun x => ?_⟩
    by_cases hx : x = t
    · subst hx; rw [if_pos rfl, ← hm]; rfl
    · rw [if_neg hx]; exact hS x
  · obtain ⟨al', he, w', hc, hmem⟩ := hdone hm
    rw [he]
    refine ⟨w', by rw [hc]; split <;> omega, fun x => ?_⟩
    rw [show (al'.indexOf x).isSome = _ from hmem x]
    by_cases hx : x = t
    · rw [if_pos hx, if_pos hx]
    · rw [if_neg hx, if_neg hx]; exact hS x

theorem alRun_refines (ops : List (Nat × Bool)) : ∀ (al : AllowList) (S : Nat → Bool), WF al →
    (∀ t, (al.indexOf t).isSome = true ↔ S t = true) → al.count + ops.length ≤ U32_MAX →
    WF (alRun al ops) ∧ (∀ t, ((alRun al ops).indexOf t).isSome = true ↔ specRun S ops t = true) := by
  induction ops with
  | nil => intro al S w hS _; exact ⟨w, hS⟩
  | cons x xs ih =>
    intro al S w hS hb
    simp only [List.length_cons] at hb
    obtain ⟨w', hc, hS'⟩ := alStep_refines w hS x (by omega)
    simp only [alRun, specRun, List.foldl_cons]
    exact ih _ _ w' hS' (by omega)

/-- **after any allow / disallow history** (from the empty list; fewer than 2³² operations):
the enumeration `Token(0) … Token(count-1)` has no duplicates, has exactly `count` entries,
contains exactly the tokens allowed and not since removed, `Token` and `TokenIndex` are
mutually inverse, and exactly the indices below `count` are occupied (no gaps, no stale
entries) -/
theorem allowlist_refines_set (ops : List (Nat × Bool)) (hlen : ops.length ≤ U32_MAX) :
    (enumerate (alRun AllowList.empty ops)).Nodup ∧
    (enumerate (alRun AllowList.empty ops)).length = (alRun AllowList.empty ops).count ∧
    (∀ t, t ∈ enumerate (alRun AllowList.empty ops) ↔ specRun (fun _ => false) ops t = true) ∧
    (∀ i t, (alRun AllowList.empty ops).tokenAt i = some t ↔ (alRun AllowList.empty ops).indexOf t = some i) ∧
    (∀ i, i < (alRun AllowList.empty ops).count ↔ ((alRun AllowList.empty ops).tokenAt i).isSome = true) := by
  obtain ⟨w, hS⟩ := alRun_refines ops AllowList.empty (fun _ => false) wf_empty
    (by intro t; simp [AllowList.empty]) (by simpa [AllowList.empty] using hlen)
  refine ⟨enumerate_nodup w, enumerate_length w, ?_, ?_, ?_⟩
  · intro t; rw [mem_enumerate w]; exact hS t
  · intro i t; exact ⟨fun h => (w.fwd i t h).2, fun h => (w.bwd t i h).2⟩
  · intro i
    constructor
    · intro h; obtain ⟨t, ht⟩ := w.full i h; rw [ht]; rfl
    · intro h
      cases ht : (alRun AllowList.empty ops).tokenAt i with
      | none => rw [ht] at h; cases h
      | some t => exact (w.fwd i t ht).1

/-- in the whole world machine (forwards, sweeps, token operations, ledger movement
interleaved in any way, any authorizations) the allow-list stays well-formed, so
`token_accepted_iff_enumerated` and `disallow_never_panics` apply in every reachable state -/
theorem allowlist_wf_reachable (p : Params) (now : Nat) (ops : List (Auth × Op)) :
    WF (run p (init now) ops).al := by
  suffices ∀ s, WF s.al → WF (run p s ops).al from this _ wf_empty
  induction ops with
  | nil => intro s hs; exact hs
  | cons x xs ih =>
    intro s hs
    simp only [run, List.foldl_cons]
    apply ih
    unfold step
    cases hx : apply p s x.1 x.2 with
    | error e => exact hs
    | ok s' =>
      rcases apply_al hx with h | ⟨t, a, h⟩
      · dsimp only; rw [h]; exact hs
      · exact setAllowed_wf hs h

/-! ### 7. fee and expiry bounds are exact -/

theorem fee_bounds_exact (fee max : Int) :
    validateFeeBounds fee max = .ok () ↔ (0 < fee ∧ fee ≤ max) :=
  validateFeeBounds_eq_ok

theorem expiry_check_exact (now exp : Nat) :
    validateExpirationLedger now exp = .ok () ↔ now ≤ exp :=
  validateExpirationLedger_eq_ok

/-- a forward never succeeds with an expiration ledger in the past, whichever strategy and
whichever branch (token `approve` or the explicit check of the lazy no-approve branch); on
the approve branch the expiration is also bounded by the host's maximum lifetime -/
theorem forward_not_expired {p : Params} {s s' : State} {au : Auth} {c : Call}
    {user rcp : Nat} {ap : Approval} {tgt : Target}
    (h : collectFeeAndInvoke p s au c user rcp ap tgt = .ok s') :
    s.now ≤ c.expiration ∧
    ((ap = .eager ∨ OZ.Fungible.allowance (tokAt s c.token) user p.self < c.maxFee) →
      c.expiration ≤ p.cfg.maxLiveUntil s.now) := by
  have pre := (forwarded h).1.fee
  exact ⟨pre.notExpired, fun ha => (pre.approve ha).2⟩

/-! ### 8. the allowance the code leaves behind, exactly -/

/-- **the stored allowance record user → forwarder after a successful forward, for both
strategies, exactly as the code leaves it**: if the forwarder approved (Eager always; Lazy when
the old allowance was below the maximum) the record is `{max_fee − fee, live_until = the quoted
expiration}`; otherwise (Lazy with a sufficient old allowance) it is the old record lowered by
`fee` with its old `live_until_ledger`. Every other allowance of the fee token reads as before,
and every other token is untouched. -/
theorem allowance_after_forward {p : Params} {s s' : State} {au : Auth} {c : Call}
    {user rcp : Nat} {ap : Approval} {tgt : Target}
    (h : collectFeeAndInvoke p s au c user rcp ap tgt = .ok s') :
    OZ.Fungible.allowanceData (tokAt s' c.token) user p.self =
      (if ap = .eager ∨ OZ.Fungible.allowance (tokAt s c.token) user p.self < c.maxFee
       then ⟨c.maxFee - c.fee, c.expiration⟩
       else ⟨(OZ.Fungible.allowanceData (tokAt s c.token) user p.self).amount - c.fee,
             (OZ.Fungible.allowanceData (tokAt s c.token) user p.self).liveUntilLedger⟩) ∧
    (∀ x y, ¬ (x = user ∧ y = p.self) →
      OZ.Fungible.allowanceData (tokAt s' c.token) x y = OZ.Fungible.allowanceData (tokAt s c.token) x y) ∧
    (∀ t, t ≠ c.token → tokAt s' t = tokAt s t) := by
  obtain ⟨_, s1, post, rfl⟩ := forwarded h
  refine ⟨post.allowanceData, ?_, ?_⟩
  · intro x y hxy
    exact OZ.Fungible.allowanceData_congr_entry (s := tokAt s c.token) (s' := tokAt s1 c.token)
      (post.allow x y hxy) post.now
  · intro t ht
    show ({ s1.toks t with now := s1.now } : OZ.Fungible.State) = { s.toks t with now := s.now }
    rw [post.others t ht, post.now]

/-- the getter `allowance(user, forwarder)` after a successful forward -/
theorem allowance_getter_after_forward {p : Params} {s s' : State} {au : Auth} {c : Call}
    {user rcp : Nat} {ap : Approval} {tgt : Target}
    (h : collectFeeAndInvoke p s au c user rcp ap tgt = .ok s') :
    OZ.Fungible.allowance (tokAt s' c.token) user p.self =
      (if ap = .eager ∨ OZ.Fungible.allowance (tokAt s c.token) user p.self < c.maxFee
       then c.maxFee else OZ.Fungible.allowance (tokAt s c.token) user p.self) - c.fee ∧
    0 ≤ OZ.Fungible.allowance (tokAt s' c.token) user p.self := by
  obtain ⟨d, _, _⟩ := allowance_after_forward h
  obtain ⟨f0, fm, _⟩ := charges_exactly_fee h
  unfold OZ.Fungible.allowance at *
  rw [d]
  split
  · exact ⟨rfl, by dsimp only; omega⟩
  · rename_i hn
    refine ⟨rfl, ?_⟩
    have : ¬ (OZ.Fungible.allowanceData (tokAt s c.token) user p.self).amount < c.maxFee :=
      fun h' => hn (.inr h')
    dsimp only; omega

/-- Eager (the permissionless example): always `max_fee − fee`, live until the quoted expiration -/
theorem eager_allowance_after {p : Params} {s s' : State} {au : Auth} {c : Call}
    {user rcp : Nat} {tgt : Target}
    (h : collectFeeAndInvoke p s au c user rcp .eager tgt = .ok s') :
    OZ.Fungible.allowanceData (tokAt s' c.token) user p.self = ⟨c.maxFee - c.fee, c.expiration⟩ := by
  have := (allowance_after_forward h).1
  rw [if_pos (.inl rfl)] at this
  exact this

/-- Lazy (the permissioned example): `old − fee` with the old expiry when the old allowance
sufficed (`old ≥ max`), else `max_fee − fee` with the quoted expiration -/
theorem lazy_allowance_after {p : Params} {s s' : State} {au : Auth} {c : Call}
    {user rcp : Nat} {tgt : Target}
    (h : collectFeeAndInvoke p s au c user rcp .lazy tgt = .ok s') :
    (c.maxFee ≤ OZ.Fungible.allowance (tokAt s c.token) user p.self →
      OZ.Fungible.allowanceData (tokAt s' c.token) user p.self =
        ⟨OZ.Fungible.allowance (tokAt s c.token) user p.self - c.fee,
         (OZ.Fungible.allowanceData (tokAt s c.token) user p.self).liveUntilLedger⟩) ∧
    (OZ.Fungible.allowance (tokAt s c.token) user p.self < c.maxFee →
      OZ.Fungible.allowanceData (tokAt s' c.token) user p.self = ⟨c.maxFee - c.fee, c.expiration⟩) := by
  have := (allowance_after_forward h).1
  constructor
  · intro hge
    rw [if_neg (by rintro (h' | h'); cases h'; omega)] at this
    exact this
  · intro hlt
    rw [if_pos (.inr hlt)] at this
    exact this

/-! ### 9. completeness: a forward fails only when it must -/

/-- **a forward succeeds IF AND ONLY IF** every one of these holds (`ForwardConditions`,
`FeeConditions` in Lemmas/FeeForwarder.lean):
the user signed exactly (token, max fee, expiration, target, fn, args); the token is accepted
by the allow-list; user ≠ forwarder; `0 < fee ≤ max`; `now ≤ expiration`; when the forwarder
approves (Eager, or Lazy with allowance < max) the user signed the nested
`approve(user, forwarder, max, expiration)` and the token accepts the expiration
(`≤ max live until`); otherwise the existing allowance record is rewritable (its expiry
`≤ max live until` — true in every reachable state with a fixed ledger configuration); the
user's balance covers the fee; the recipient's credit stays in i128 (automatic under the
token's supply invariant, `forward_credit_never_overflows`); the target call goes through
(and the user signed it if the target demands that). The allowance is then always
sufficient (`fee ≤ max ≤` effective allowance), so it is not a separate condition. -/
theorem forward_succeeds_iff (p : Params) (s : State) (au : Auth) (c : Call) (user rcp : Nat)
    (ap : Approval) (tgt : Target) :
    (∃ s', collectFeeAndInvoke p s au c user rcp ap tgt = .ok s') ↔
      ForwardConditions p s au c user rcp ap tgt :=
  ⟨fun ⟨_, h⟩ => (forwarded h).1, collectFeeAndInvoke_succeeds⟩

/-- the same as one flat conjunction -/
theorem forward_succeeds_iff_flat (p : Params) (s : State) (au : Auth) (c : Call) (user rcp : Nat)
    (ap : Approval) (tgt : Target) :
    (∃ s', collectFeeAndInvoke p s au c user rcp ap tgt = .ok s') ↔
      ((∃ ua, au.user = some ua ∧ ua.signer = user ∧
          ua.tuple = ⟨c.token, c.maxFee, c.expiration, c.target, c.fn, c.args⟩) ∧
       (s.al.count = 0 ∨ (s.al.indexOf c.token).isSome = true) ∧
       p.self ≠ user ∧ 0 < c.fee ∧ c.fee ≤ c.maxFee ∧ s.now ≤ c.expiration ∧
       ((ap = .eager ∨ OZ.Fungible.allowance (tokAt s c.token) user p.self < c.maxFee) →
          subSigned au user (approveInv p c.token user c.maxFee c.expiration) = true ∧
          c.expiration ≤ p.cfg.maxLiveUntil s.now) ∧
       (¬ (ap = .eager ∨ OZ.Fungible.allowance (tokAt s c.token) user p.self < c.maxFee) →
          (OZ.Fungible.allowanceData (tokAt s c.token) user p.self).liveUntilLedger ≤ p.cfg.maxLiveUntil s.now) ∧
       c.fee ≤ (s.toks c.token).bal user ∧
       in128 ((upd (s.toks c.token).bal user ((s.toks c.token).bal user - c.fee)) rcp + c.fee) ∧
       (tgt = .ok ∨ (tgt = .needsUser ∧ subSigned au user (targetInv c) = true))) := by
  rw [forward_succeeds_iff]
  constructor
  · intro ⟨h1, ⟨f1, f2, f3, f4, f5, f6, f7, f8, f9⟩, h3⟩
    exact ⟨(userSigned_iff _ _ _).mp h1, (token_accepted_iff _ _).mp f1, f2, f3, f4, f5, f6, f7, f8, f9, h3⟩
  · intro ⟨h1, f1, f2, f3, f4, f5, f6, f7, f8, f9, h3⟩
    exact ⟨(userSigned_iff _ _ _).mpr h1, ⟨(token_accepted_iff _ _).mpr f1, f2, f3, f4, f5, f6, f7, f8, f9⟩, h3⟩

/-- the permissionless example: additionally (and only) the relayer's authorization -/
theorem forwardPL_succeeds_iff (p : Params) (s : State) (au : Auth) (c : Call) (user relayer : Nat)
    (tgt : Target) :
    (∃ s', forwardPermissionless p s au c user relayer tgt = .ok s') ↔
      (relayer ∈ au.plain ∧ ForwardConditions p s au c user relayer .eager tgt) := by
  simp only [forwardPL_eq_ok, exists_and_left, forward_succeeds_iff]

/-- the permissioned example: additionally (and only) the executor role and the relayer's
authorization -/
theorem forwardPD_succeeds_iff (p : Params) (s : State) (au : Auth) (c : Call) (user relayer : Nat)
    (tgt : Target) :
    (∃ s', forwardPermissioned p s au c user relayer tgt = .ok s') ↔
      (relayer ∈ p.executors ∧ relayer ∈ au.plain ∧ ForwardConditions p s au c user p.self .lazy tgt) := by
  simp only [forwardPD_eq_ok, exists_and_left, forward_succeeds_iff]

/-- the overflow condition of `forward_succeeds_iff` is automatic whenever the fee token
satisfies the supply invariant of C01 (every reachable token state does) -/
theorem forward_credit_never_overflows {U : List Nat} (hn : U.Nodup) {ts : OZ.Fungible.State}
    (hi : OZ.Fungible.Inv U ts) (user rcp : Nat) (fee : Int) (h0 : 0 < fee) (hb : fee ≤ ts.bal user) :
    in128 ((upd ts.bal user (ts.bal user - fee)) rcp + fee) :=
  credit_in128_of_inv hn hi user rcp fee (by omega) hb

/-- under the conditions the effective allowance always covers the fee -/
theorem forward_allowance_suffices {p : Params} {s : State} {au : Auth} {c : Call} {user rcp : Nat}
    {ap : Approval} {tgt : Target} (hc : ForwardConditions p s au c user rcp ap tgt) :
    c.fee ≤ (if ap = .eager ∨ OZ.Fungible.allowance (tokAt s c.token) user p.self < c.maxFee
              then c.maxFee else OZ.Fungible.allowance (tokAt s c.token) user p.self) := by
  have := hc.fee.feeMax
  split
  · exact this
  · rename_i hn
    have : ¬ OZ.Fungible.allowance (tokAt s c.token) user p.self < c.maxFee := fun h => hn (.inr h)
    omega

/-! ### non-vacuity: concrete successful and failing forwards through both examples -/

def p0 : Params := { cfg := ⟨16, 200000⟩, self := 6, managers := [1], executors := [2, 3] }
def c0 : Call := { token := 8, fee := 5, maxFee := 10, expiration := 120, target := 7, fn := 2, args := [.i128 7] }
def ua0 : UserAuth := { signer := 4, tuple := tupleOf c0, subs := [approveInv p0 8 4 10 120] }
def au0 : Auth := { plain := [2], user := some ua0 }

def demoOps : List (Auth × Op) :=
  [ (⟨[], none⟩, .mint 8 4 1000),
    (au0, .forwardPL c0 4 2 .ok),                                           -- accepted
    (au0, .forwardPL { c0 with maxFee := 11 } 4 2 .ok),                     -- user signed max = 10
    (au0, .forwardPL { c0 with fee := 11 } 4 2 .ok),                        -- fee > max
    (au0, .forwardPL c0 4 2 .fail),                                         -- target fails
    (⟨[], some ua0⟩, .forwardPL c0 4 2 .ok),                                -- relayer did not sign
    (au0, .forwardPD c0 4 2 .ok) ]                                          -- accepted (lazy, allowance 5 < 10)

example : ((run p0 (init 100) demoOps).toks 8).bal 4 = 990 ∧
    ((run p0 (init 100) demoOps).toks 8).bal 2 = 5 ∧
    ((run p0 (init 100) demoOps).toks 8).bal 6 = 5 ∧
    (run p0 (init 100) demoOps).calls.length = 2 ∧
    OZ.Fungible.allowance (tokAt (run p0 (init 100) demoOps) 8) 4 6 = 5 := by decide

/-- swap-and-pop: allow 8, 9, 10, 11, remove 8 (11 moves to slot 0), remove 8 again (refused),
remove 11 (10 moves to slot 0), allow 9 again (refused), re-add 8 -/
def demoAl : List (Nat × Bool) :=
  [(8, true), (9, true), (10, true), (11, true), (8, false), (8, false), (11, false), (9, true), (8, true)]

example : enumerate (alRun AllowList.empty demoAl) = [10, 9, 8] ∧
    (alRun AllowList.empty demoAl).indexOf 10 = some 0 ∧
    (alRun AllowList.empty demoAl).indexOf 11 = none ∧
    specRun (fun _ => false) demoAl 11 = false ∧ specRun (fun _ => false) demoAl 8 = true := by decide

example : demoAl.length ≤ U32_MAX := by decide

/-- the conditions of `forward_succeeds_iff` are met by the first demo forward … -/
example : ForwardConditions p0 (step p0 (init 100) (⟨[], none⟩, .mint 8 4 1000)) au0 c0 4 2 .eager .ok :=
  (forward_succeeds_iff _ _ _ _ _ _ _ _).mp (by
    have h : (collectFeeAndInvoke p0 (step p0 (init 100) (⟨[], none⟩, .mint 8 4 1000)) au0 c0 4 2
        .eager .ok).toBool = true := by decide
    cases hr : collectFeeAndInvoke p0 (step p0 (init 100) (⟨[], none⟩, .mint 8 4 1000)) au0 c0 4 2
        .eager .ok with
    | ok s' => exact ⟨s', rfl⟩
    | error e => rw [hr] at h; cases h)

/-- … and not by the one whose signed maximum differs -/
example : ¬ ForwardConditions p0 (step p0 (init 100) (⟨[], none⟩, .mint 8 4 1000)) au0
    { c0 with maxFee := 11 } 4 2 .eager .ok := by
  intro h; have := h.signed; revert this; decide

/-- the allowance the first demo forward leaves behind: `max − fee = 5` until ledger 120 -/
example : OZ.Fungible.allowanceData (tokAt (run p0 (init 100) (demoOps.take 2)) 8) 4 6 = ⟨5, 120⟩ := by decide

/-- lazy with a sufficient old allowance (50 until ledger 150): `50 − 5`, the old expiry is kept -/
example : OZ.Fungible.allowanceData (tokAt (run p0 (init 100)
    [(⟨[], none⟩, .mint 8 4 1000), (⟨[4], none⟩, .approve 8 4 6 50 150),
     (⟨[2], some { ua0 with subs := [] }⟩, .forwardPD c0 4 2 .ok)]) 8) 4 6 = ⟨45, 150⟩ := by decide

end OZ.FeeForwarder
