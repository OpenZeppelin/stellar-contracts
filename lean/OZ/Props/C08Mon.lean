import OZ.Lemmas.TimelockMon
/-
C08 — soundness of the MONITOR that decides the property on implementation traces.

`./check C08` reports a concrete violation exactly when `OZ.Timelock.Mon.checkCore` (the driver's
monitor on parsed values, OZ/Model/TimelockMon.lean) returns a message on the implementation's
observations (or when an observation line cannot be parsed at all). Here it is proved that on the
observations of the MODEL the monitor never returns a message, for every start ledger of the
property's regime (2 ≤ start ≤ u32::MAX) and every finite history of trace lines — definitions of
operation tuples, schedule / set_execute / execute / cancel / set_min_delay calls with arbitrary
indices, references, delays and target oracles, accepted or rejected, and ledger advances
(`monitor_accepts_every_model_trace`). Consequences:

  * an implementation whose observations agree with the model's (the correspondence the check
    establishes by differential testing) can never raise a monitor alarm — a monitor failure is
    never a false alarm of the monitor itself;
  * every conclusion the monitor evaluates (execution only of a scheduled, not since cancelled,
    not yet executed operation whose delay has elapsed and whose predecessor is zero or executed;
    schedule only of an Unset id with delay ≥ the minimum delay in force; cancel only of a pending
    id; every reported state / ledger value / predicate of every id as the accepted history
    prescribes; the target invoked exactly once by an accepted execute and by nothing else;
    nothing but Waiting → Ready over an idle gap; rollback of rejected calls; id-equality ⇔
    tuple-equality) is a THEOREM about the model, in the monitor's own executable wording.

The model side (`MS`, `modelObs`, `modelStep`, in OZ/Lemmas/TimelockMon.lean) is the structured
content of what the driver's `op` (`OZ.Drv.C08.stepLine` / `showState` / `showId` / `showCalls`)
prints for the model: per id of `defs ++ [zero, raw 1]` the state letter, `get_operation_ledger` and
the four predicates as `0`/`1` flags; `now`; the minimum delay; per target 0, 1 the number of calls
and function / first argument of the last one; on a definition line the indices of the earlier
definitions with the same id; `err` with the unchanged state for a rejected call and for an
`advance` beyond `HORIZON`. Lines for which the model driver prints `bad-op` (unknown kind,
index / reference that does not resolve) have no model observation and are skipped by `monitorRun`.
-/
namespace OZ.Timelock.Mon
open OZ.Host OZ.Timelock

/-- **the state check**: in every state satisfying the reachable-state invariant, whatever the
universe of defined operations, the triple (state, ledger value, predicates) the model reports for
every id is exactly what the monitor derives from its own ghost log — `expected` is
`state_reported_correctly` (Props/C08) in the monitor's executable wording, saturated corner
included -/
theorem monitor_state_check_sound (m : Mon) (x : MS) (hi : Inv x.s) (ha : Agree m x) (ok : Bool)
    (eq : Option (List Nat)) :
    checkStates m (modelObs x ok eq) = none ∧
    ∀ id, expected (m.get (some id)) x.s.now = idObs x.s id := by
  have h : ∀ id, expected (m.get (some id)) x.s.now = idObs x.s id := by
    intro id; rw [ha.ghost]; exact expected_toG hi id
  refine ⟨checkStates_quiet m _ (idObs x.s) h ?_, h⟩
  show modelSt x = _
  unfold modelSt
  rw [ha.defs]

/-- **one line**: fed with the model's own observation of any trace line (a definition, or a call
the model accepts or rejects), the monitor reports nothing, its state keeps describing the
model's, and the model state stays inside the invariant -/
theorem monitor_sound_step (m : Mon) (x : MS) (hi : Inv x.s) (ha : Agree m x) (ln : Line) (x' : MS) (o : Obs)
    (h : modelStep x ln = some (x', o)) :
    (checkCore m ln o).2 = none ∧ Agree (checkCore m ln o).1 x' ∧ Inv x'.s := by
  cases ln with
  | badDef => cases h
  | defn t f args p s =>
    cases hp : refKey x.defs p with
    | none => simp [modelStep, hp] at h
    | some pid =>
      simp only [modelStep, hp, Option.map_some, Option.some.injEq] at h
      have h1 : x' = (modelDef x ⟨t, f, args, pid, s⟩).1 := by rw [h]
      have h2 : o = (modelDef x ⟨t, f, args, pid, s⟩).2 := by rw [h]
      subst h1; subst h2
      rw [checkCore_defn _ _ _ _ _ _ _ (show 2 ≤ x.s.now from hi.nowLo)]
      obtain ⟨a, b⟩ := def_sound m x hi ha t f args p s pid hp
      exact ⟨a, b, hi⟩
  | call c =>
    cases hr : resolveCall x.defs c with
    | none => simp [modelStep, hr] at h
    | some op =>
      simp only [modelStep, hr, Option.map_some, Option.some.injEq] at h
      unfold modelCall at h
      by_cases hout : outside x.s op = true
      · rw [if_pos hout] at h
        injection h with h1 h2; subst h1; subst h2
        rw [checkCore_call _ _ _ (show 2 ≤ x.s.now from hi.nowLo), if_pos (by simp [modelObs])]
        obtain ⟨a, b⟩ := rejected_sound m x hi ha
        exact ⟨a, b, hi⟩
      · rw [if_neg hout] at h
        cases hx : apply x.s op with
        | error e =>
          rw [hx] at h
          injection h with h1 h2; subst h1; subst h2
          rw [checkCore_call _ _ _ (show 2 ≤ x.s.now from hi.nowLo), if_pos (by simp [modelObs])]
          obtain ⟨a, b⟩ := rejected_sound m x hi ha
          exact ⟨a, b, hi⟩
        | ok s' =>
          rw [hx] at h
          injection h with h1 h2; subst h1; subst h2
          have hi' : Inv s' := apply_inv hi hx
          rw [checkCore_call _ _ _ (show 2 ≤ s'.now from hi'.nowLo), if_neg (by simp [modelObs])]
          obtain ⟨a, b⟩ := accepted_sound m x hi ha c op hr s' hx
          exact ⟨a, b, hi'⟩

/-- the monitor run over a whole history of model observations: first message, if any (lines the
model driver answers with `bad-op` carry no model observation and are skipped) -/
def monitorRun : Mon → MS → List Line → Option String
  | _, _, [] => none
  | m, x, ln :: rest =>
    match modelStep x ln with
    | none => monitorRun m x rest
    | some (x', o) =>
      match (checkCore m ln o).2 with
      | some msg => some msg
      | none => monitorRun (checkCore m ln o).1 x' rest

/-- **monitor soundness**: for every start ledger of the regime (`monInit start` is what the
driver's `minit` builds from the label, `initMS start` what its `init` builds; both read the same
`start=` parameter) and every finite history of trace lines, the monitor reports nothing on the
model's observations -/
theorem monitor_accepts_every_model_trace (start : Nat) (h2 : 2 ≤ start) (hm : start ≤ U32_MAX)
    (lines : List Line) :
    monitorRun (monInit start) (initMS start) lines = none := by
  suffices ∀ m x, Inv x.s → Agree m x → monitorRun m x lines = none from
    this _ _ (init_inv h2 hm) ⟨rfl, fun _ => rfl, rfl, rfl, rfl, fun p hp => by cases hp⟩
  induction lines with
  | nil => intro m x _ _; rfl
  | cons ln rest ih =>
    intro m x hi ha
    unfold monitorRun
    cases hs : modelStep x ln with
    | none => exact ih m x hi ha
    | some r =>
      obtain ⟨x', o⟩ := r
      obtain ⟨h1, h2, h3⟩ := monitor_sound_step m x hi ha ln x' o hs
      simp only [h1]
      exact ih _ _ h3 h2

/-- the regime hypothesis `2 ≤ start` is necessary, and deliberately so: below ledger 2 (where 0 and
1 are the Unset / Done sentinels, `sentinels_need_ledger_ge_two`) the monitor reports that the trace
left the property's regime, on the model's own observation as well -/
theorem monitor_reports_regime_below_two :
    monitorRun (monInit 1) (initMS 1) [.call (.min (some 0))] = some "site=timelock.regime ledger below 2" := by
  simp [monitorRun, modelStep, resolveCall, modelCall, outside, apply, checkCore, modelObs, setMinDelay,
    initMS, init, fin, firstSome]

/-! ### non-vacuity: the monitor is not trivially silent -/

/-- an execution reported as accepted although the operation was never scheduled -/
example :
    ((checkCore { defs := [⟨0, 0, [7], Id.zero, 0⟩], ghost := [], prev := none, start := 100 }
        (.call (.exec 0 1))
        { ok := true, eq := none, now := 100, min := some 10,
          st := [⟨"D", 1, "1001"⟩, ⟨"U", 0, "0000"⟩, ⟨"U", 0, "0000"⟩],
          calls := [⟨1, some 0, some 7⟩, ⟨0, none, none⟩] }).2.getD "").startsWith
      "site=timelock.execute.unscheduled" = true := by
  simp [checkCore, checkAccepted, fin, firstSome, execCond, keyOf, Mon.get, Mon.set]
  decide

/-- an execution one ledger before the delay has elapsed (scheduled at 100 with delay 10) -/
example :
    (checkCore { defs := [⟨0, 0, [7], Id.zero, 0⟩],
                 ghost := [(some (Operation.id ⟨0, 0, [7], Id.zero, 0⟩), .pending 100 10)],
                 prev := none, start := 100 }
        (.call (.setexec 0))
        { ok := true, eq := none, now := 109, min := some 10,
          st := [⟨"D", 1, "1001"⟩, ⟨"U", 0, "0000"⟩, ⟨"U", 0, "0000"⟩],
          calls := [⟨0, none, none⟩, ⟨0, none, none⟩] }).2.isSome = true := by
  simp [checkCore, checkAccepted, fin, firstSome, execCond, keyOf, Mon.get, Mon.set, Operation.id]

/-- a state reported Ready one ledger early -/
example :
    (checkStates { defs := [⟨0, 0, [7], Id.zero, 0⟩],
                   ghost := [(some (Operation.id ⟨0, 0, [7], Id.zero, 0⟩), .pending 100 10)],
                   prev := none, start := 100 }
        { ok := true, eq := none, now := 109, min := some 10,
          st := [⟨"R", 110, "1110"⟩, ⟨"U", 0, "0000"⟩, ⟨"U", 0, "0000"⟩],
          calls := [⟨0, none, none⟩, ⟨0, none, none⟩] }).isSome = true := by
  simp [checkStates, universeKeys, idUniverse, isBad, expected, Mon.get, Operation.id, Id.zero, satU32]

/-- the model's own observations of a concrete history (define, set the minimum delay, schedule, wait,
execute, try again): an instance of `monitor_accepts_every_model_trace`, not an evaluation -/
example :
    monitorRun (monInit 100) (initMS 100)
      [.defn 0 0 [7] .z 0, .call (.min (some 10)), .call (.sched 0 10), .call (.exec 0 1),
       .call (.advance 10), .call (.exec 0 1), .call (.exec 0 1), .call (.cancel (.op 0))] = none :=
  monitor_accepts_every_model_trace 100 (by decide) (by decide) _

end OZ.Timelock.Mon
