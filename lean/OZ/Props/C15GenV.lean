import OZ.Gen.Verifier
import OZ.Lemmas.Comp
/-
C15 — `verify_identity` itself, re-checked on every run against what the SOURCE says now.

`lean/OZ/Gen/Verifier.lean` is regenerated by `/verif/tools/rs2lean.py --verifier` (state-passing mode) from /repo's
current `packages/tokens/src/rwa/identity_verifier/storage.rs`: `claim_topics_and_issuers`,
`identity_registry_storage`, `validate_claim`, `verify_identity` — the outer loop over the (topic, trusted issuers)
map, the LAZY iterator `issuers.iter().enumerate().map(..)` (its closure runs at the head of every iteration of the
loop that consumes it), the inner loop with its `break` and its `is_last` panics. The other contracts are functions of
the reads record: the identity registry storage (`stored_identity`), the claim-topics-and-issuers registry
(`get_claim_topics_and_issuers`), the identity's claims contract (`get_claim_ids_by_topic`, `get_claim`), the claim
issuer (`try_is_claim_valid`, reduced to the bit `matches!(.., Ok(Ok(_)))` reads) and `generate_claim_id`.

The property's first sentence is proved of the generated code for EVERY behaviour of those contracts (`gen_verify_sound`,
`gen_verify_complete`, `gen_verify_iff`). Completeness needs the claims contract to answer `get_claim` for every id it
lists (a listed id without a claim traps `get_claim`, in the code as in the hand model). Hypothesis of all three: an issuer
list is shorter than 2^32 (host vectors are; the code compares a `usize` index cast to `u32` with `len() - 1`).
-/
namespace OZ.Gen.Verifier
open OZ.Rs

/-- issuer `i` of the topic's list counts: the identity lists the id of (i, topic), the claim stored under it says
this topic and this issuer, and the issuer confirms it -/
def Counts (envr : Verifier.Reads) (identity topic : Nat) (ids : List B32) (i : Nat) : Prop :=
  envr.generate_claim_id i topic ∈ ids ∧
    ∃ c, envr.IdentityClaimsClient_get_claim identity (envr.generate_claim_id i topic) = .ok c ∧
      c.topic = topic ∧ c.issuer = i ∧
      envr.ClaimIssuerClient_try_is_claim_valid i identity topic c.scheme c.signature c.data = true

/-- the claims contract answers `get_claim` for the ids it lists -/
def Answers (envr : Verifier.Reads) (identity topic : Nat) (ids : List B32) (l : List Nat) : Prop :=
  ∀ i ∈ l, envr.generate_claim_id i topic ∈ ids →
    ∃ c, envr.IdentityClaimsClient_get_claim identity (envr.generate_claim_id i topic) = .ok c

theorem validate_claim_eq (envr : Verifier.Reads) (st : Verifier.Store) (c : Verifier.Claim) (topic i identity : Nat) :
    Verifier.validate_claim envr st c topic i identity =
      .ok (decide (c.topic = topic ∧ c.issuer = i) &&
        envr.ClaimIssuerClient_try_is_claim_valid i identity topic c.scheme c.signature c.data) := by
  unfold Verifier.validate_claim
  by_cases h : c.topic = topic ∧ c.issuer = i
  · rw [if_pos h]; simp [h]
  · rw [if_neg h]; simp [h]

/-- one iteration of the inner loop; `hk`: the cast of the position to `u32` leaves it as it is; `hlen`: `len() - 1`
does not underflow -/
theorem loop2_step (envr : Verifier.Reads) (st : Verifier.Store) (identity topic : Nat) (ids : List B32)
    (issuers : List Nat) (a b c d e : Nat) (tis : List (Nat × List Nat)) (k i : Nat) (zs : List (Nat × Nat))
    (hk : k < 2 ^ 32) (hlen : 1 ≤ issuers.length) :
    Verifier.verify_identity.loop2 envr ((k, i) :: zs) st a ids topic b c identity identity d e issuers tis = .ok () ↔
      Counts envr identity topic ids i ∨
        ((envr.generate_claim_id i topic ∈ ids →
            ∃ cl, envr.IdentityClaimsClient_get_claim identity (envr.generate_claim_id i topic) = .ok cl) ∧
          k ≠ issuers.length - 1 ∧
          Verifier.verify_identity.loop2 envr zs st a ids topic b c identity identity d e issuers tis = .ok ()) := by
  rw [Verifier.verify_identity.loop2, uN_sub_ok hlen, Comp.bind_ok]
  simp only [Nat.mod_eq_of_lt hk, validate_claim_eq, Comp.bind_ok, decide_eq_true_eq, Counts]
  have tail : ∀ L : Comp Unit, (if k = issuers.length - 1 then Comp.panic else L) = .ok () ↔
      k ≠ issuers.length - 1 ∧ L = .ok () := fun L => ⟨Comp.guard_eq_ok, fun h => (if_neg h.1).trans h.2⟩
  -- per iteration: is the id listed (if not, nothing is asked of `get_claim`: `tail`)? does `get_claim` answer for it (if
  -- not, the call traps and neither disjunct holds)? is the answered claim valid (if so the loop ends and the issuer counts,
  -- if not: `tail`)?
  by_cases hm : envr.generate_claim_id i topic ∈ ids <;>
    cases hg : envr.IdentityClaimsClient_get_claim identity (envr.generate_claim_id i topic) <;>
    simp [hm, tail, Comp.bind, Classical.or_iff_not_imp_left]

theorem index_facts {k m n : Nat} (hk : k + (m + 1) = n) (hn : n < 2 ^ 32) :
    k < 2 ^ 32 ∧ 1 ≤ n ∧ k + 1 + m = n ∧ (k = n - 1 ↔ m = 0) := by omega

/-- **the inner loop, soundness**: run on the issuers `l` at positions `k, k+1, ..` of a list of `n` issuers, it ends
normally only if `l` is empty or one of them counts -/
theorem inner_sound (envr : Verifier.Reads) (st : Verifier.Store) (identity topic : Nat) (ids : List B32)
    (issuers : List Nat) (hn : issuers.length < 2 ^ 32) (a b c d e : Nat) (tis : List (Nat × List Nat)) :
    ∀ (l : List Nat) (k : Nat), k + l.length = issuers.length →
      Verifier.verify_identity.loop2 envr (List.zip (List.range' k l.length) l) st a ids topic b c identity identity d e
        issuers tis = .ok () →
      l = [] ∨ ∃ i ∈ l, Counts envr identity topic ids i := by
  intro l
  induction l with
  | nil => exact fun _ _ _ => Or.inl rfl
  | cons i rest ih =>
    intro k hk h
    obtain ⟨hk32, hpos, hk1, hlast⟩ := index_facts hk hn
    rw [List.length_cons, List.range'_succ, List.zip_cons_cons, loop2_step _ _ _ _ _ _ _ _ _ _ _ _ _ _ _ hk32 hpos] at h
    rcases h with hc | ⟨_, hl, ht⟩
    · exact Or.inr ⟨i, List.mem_cons_self, hc⟩
    · rcases ih (k + 1) hk1 ht with hnil | ⟨j, hj, hc⟩
      · exact absurd (hlast.mpr (by rw [hnil]; rfl)) hl
      · exact Or.inr ⟨j, List.mem_cons_of_mem _ hj, hc⟩

/-- **the inner loop, completeness**: when one of the issuers counts and the claims contract answers for the ids it
lists, the loop ends normally -/
theorem inner_complete (envr : Verifier.Reads) (st : Verifier.Store) (identity topic : Nat) (ids : List B32)
    (issuers : List Nat) (hn : issuers.length < 2 ^ 32) (a b c d e : Nat) (tis : List (Nat × List Nat)) :
    ∀ (l : List Nat) (k : Nat), k + l.length = issuers.length → Answers envr identity topic ids l →
      (∃ i ∈ l, Counts envr identity topic ids i) →
      Verifier.verify_identity.loop2 envr (List.zip (List.range' k l.length) l) st a ids topic b c identity identity d e
        issuers tis = .ok () := by
  intro l
  induction l with
  | nil => exact fun _ _ _ ⟨_, hi, _⟩ => nomatch hi
  | cons i rest ih =>
    intro k hk hans ⟨j, hj, hcj⟩
    obtain ⟨hk32, hpos, hk1, hlast⟩ := index_facts hk hn
    rw [List.length_cons, List.range'_succ, List.zip_cons_cons, loop2_step _ _ _ _ _ _ _ _ _ _ _ _ _ _ _ hk32 hpos]
    rcases List.mem_cons.mp hj with rfl | hj'
    · exact Or.inl hcj
    · -- a later issuer counts, so this is not the last position
      exact Or.inr ⟨hans i List.mem_cons_self,
        fun hl => List.ne_nil_of_mem hj' (List.length_eq_zero_iff.mp (hlast.mp hl)),
        ih (k + 1) hk1 (fun x hx => hans x (List.mem_cons_of_mem _ hx)) ⟨j, hj', hcj⟩⟩

structure Setting (envr : Verifier.Reads) (st : Verifier.Store) (account : Nat) where
  irs : Nat
  identity : Nat
  cti : Nat
  tis : List (Nat × List Nat)
  h_irs : st.IdentityRegistryStorage = some irs
  h_id : envr.IdentityRegistryStorageClient_stored_identity irs account = .ok identity
  h_cti : st.ClaimTopicsAndIssuers = some cti
  h_tis : envr.ClaimTopicsAndIssuersClient_get_claim_topics_and_issuers cti = .ok tis

theorem verify_setting (envr : Verifier.Reads) (st : Verifier.Store) (account : Nat)
    (h : Verifier.verify_identity envr st account = .ok ()) :
    ∃ S : Setting envr st account,
      Verifier.verify_identity.loop1 envr S.tis st account S.cti S.cti S.identity S.identity S.irs S.irs S.tis = .ok () := by
  obtain ⟨irs, h0, h⟩ := Comp.bind_eq_ok h
  obtain ⟨_, h1, e⟩ := Comp.unwrap_eq_ok h0; cases e
  obtain ⟨identity, h2, h⟩ := Comp.bind_eq_ok h
  obtain ⟨cti, h0, h⟩ := Comp.bind_eq_ok h
  obtain ⟨_, h3, e⟩ := Comp.unwrap_eq_ok h0; cases e
  obtain ⟨tis, h4, h⟩ := Comp.bind_eq_ok h
  obtain ⟨⟨⟩, hl, _⟩ := Comp.bind_eq_ok h
  exact ⟨⟨irs, identity, cti, tis, h1, h2, h3, h4⟩, hl⟩

/-- for a given setting the verification IS the outer loop: no second setting to compare with -/
theorem verify_iff_loop (envr : Verifier.Reads) (st : Verifier.Store) (account : Nat) (S : Setting envr st account) :
    Verifier.verify_identity envr st account = .ok () ↔
      Verifier.verify_identity.loop1 envr S.tis st account S.cti S.cti S.identity S.identity S.irs S.irs S.tis = .ok () := by
  unfold Verifier.verify_identity Verifier.identity_registry_storage Verifier.claim_topics_and_issuers
  simp only [S.h_irs, S.h_id, S.h_cti, S.h_tis, Comp.unwrap_some, Comp.bind_ok]
  exact ⟨fun h => (Comp.bind_eq_ok h).choose_spec.1, fun h => by rw [h]; rfl⟩

/-- what the property's first sentence demands of one required topic -/
def TopicOk (envr : Verifier.Reads) (identity : Nat) (p : Nat × List Nat) : Prop :=
  ∃ ids, envr.IdentityClaimsClient_get_claim_ids_by_topic identity p.1 = .ok ids ∧
    ∃ i ∈ p.2, Counts envr identity p.1 ids i

/-- the outer loop, exactly: every entry has issuers, the claims contract lists ids for its topic, and the inner loop
over its issuers ends normally -/
theorem loop1_ok_iff (envr : Verifier.Reads) (st : Verifier.Store) (identity : Nat) (a b c d e : Nat)
    (tis0 : List (Nat × List Nat)) :
    ∀ tis, Verifier.verify_identity.loop1 envr tis st a b c identity identity d e tis0 = .ok () ↔
      ∀ p ∈ tis, p.2 ≠ [] ∧ ∃ ids, envr.IdentityClaimsClient_get_claim_ids_by_topic identity p.1 = .ok ids ∧
        Verifier.verify_identity.loop2 envr (List.zip (List.range p.2.length) p.2) st a ids p.1 b c identity identity d e
          p.2 tis0 = .ok () := by
  intro tis
  induction tis with
  | nil => exact ⟨fun _ _ h => (nomatch h), fun _ => rfl⟩
  | cons x rest ih =>
    rw [Verifier.verify_identity.loop1, List.forall_mem_cons, ← ih]
    constructor
    · intro h
      obtain ⟨he, h⟩ := Comp.guard_eq_ok h
      obtain ⟨ids, hids, h⟩ := Comp.bind_eq_ok h
      obtain ⟨⟨⟩, hl, h⟩ := Comp.bind_eq_ok h
      exact ⟨⟨fun c => he (by rw [c]; rfl), ids, hids, hl⟩, h⟩
    · rintro ⟨⟨hne, ids, hids, hl⟩, h⟩
      rw [if_neg (fun he => hne (List.isEmpty_iff.mp he)), hids, Comp.bind_ok, hl]
      exact h

/-- the outer loop ends normally only if every topic has an issuer list that is not empty and, where that list is
shorter than 2^32, one of its issuers counts -/
theorem outer_ok (envr : Verifier.Reads) (st : Verifier.Store) (identity : Nat) (a b c d e : Nat)
    (tis0 : List (Nat × List Nat)) (tis : List (Nat × List Nat))
    (h : Verifier.verify_identity.loop1 envr tis st a b c identity identity d e tis0 = .ok ()) (p : Nat × List Nat)
    (hp : p ∈ tis) : p.2 ≠ [] ∧ (p.2.length < 2 ^ 32 → TopicOk envr identity p) := by
  obtain ⟨hne, ids, hids, hl⟩ := (loop1_ok_iff envr st identity a b c d e tis0 tis).mp h p hp
  rw [List.range_eq_range'] at hl
  exact ⟨hne, fun hlen => ⟨ids, hids,
    (inner_sound envr st identity p.1 ids p.2 hlen a b c d e tis0 p.2 0 (by simp) hl).resolve_left hne⟩⟩

/-- **the outer loop, soundness** -/
theorem outer_sound (envr : Verifier.Reads) (st : Verifier.Store) (identity : Nat) (a b c d e : Nat)
    (tis0 : List (Nat × List Nat)) :
    ∀ (tis : List (Nat × List Nat)), (∀ p ∈ tis, p.2.length < 2 ^ 32) →
      Verifier.verify_identity.loop1 envr tis st a b c identity identity d e tis0 = .ok () →
      ∀ p ∈ tis, TopicOk envr identity p :=
  fun tis hlen h p hp => (outer_ok envr st identity a b c d e tis0 tis h p hp).2 (hlen p hp)

/-- **the outer loop, completeness** -/
theorem outer_complete (envr : Verifier.Reads) (st : Verifier.Store) (identity : Nat) (a b c d e : Nat)
    (tis0 : List (Nat × List Nat)) :
    ∀ (tis : List (Nat × List Nat)), (∀ p ∈ tis, p.2.length < 2 ^ 32) →
      (∀ p ∈ tis, TopicOk envr identity p) →
      (∀ p ∈ tis, ∀ ids, envr.IdentityClaimsClient_get_claim_ids_by_topic identity p.1 = .ok ids →
        Answers envr identity p.1 ids p.2) →
      Verifier.verify_identity.loop1 envr tis st a b c identity identity d e tis0 = .ok () := by
  intro tis hlen hok hans
  refine (loop1_ok_iff envr st identity a b c d e tis0 tis).mpr fun p hp => ?_
  obtain ⟨ids, hids, i, hi, hc⟩ := hok p hp
  refine ⟨List.ne_nil_of_mem hi, ids, hids, ?_⟩
  rw [List.range_eq_range']
  exact inner_complete envr st identity p.1 ids p.2 (hlen p hp) a b c d e tis0 p.2 0 (by simp) (hans p hp ids hids)
    ⟨i, hi, hc⟩

/-- **C15, first sentence, "only by valid claims from currently trusted issuers"** — for the generated
`verify_identity` and every behaviour of the contracts it calls: a successful verification means that for every topic
the registry requires now, one of the issuers the registry trusts for that topic now has a claim for that topic listed
and stored at the account's identity, and confirms it -/
theorem gen_verify_sound (envr : Verifier.Reads) (st : Verifier.Store) (account : Nat)
    (h : Verifier.verify_identity envr st account = .ok ()) :
    ∃ S : Setting envr st account, (∀ p ∈ S.tis, p.2.length < 2 ^ 32) → ∀ p ∈ S.tis, TopicOk envr S.identity p := by
  obtain ⟨S, hl⟩ := verify_setting envr st account h
  exact ⟨S, fun hlen => outer_sound envr st S.identity account S.cti S.cti S.irs S.irs S.tis S.tis hlen hl⟩

/-- a required topic nobody is trusted for cannot be satisfied: the outer loop panics on an empty issuer list before it
looks at any claim -/
theorem gen_topic_without_issuer_fails (envr : Verifier.Reads) (st : Verifier.Store) (account : Nat)
    (S : Setting envr st account) (topic : Nat) (hmem : (topic, []) ∈ S.tis) :
    Verifier.verify_identity envr st account ≠ .ok () :=
  fun h => (outer_ok envr st S.identity account S.cti S.cti S.irs S.irs S.tis S.tis
    ((verify_iff_loop envr st account S).mp h) _ hmem).1 rfl

/-- the converse: every required topic has a counting issuer and the claims contract answers for what it lists -/
theorem gen_verify_complete (envr : Verifier.Reads) (st : Verifier.Store) (account : Nat) (S : Setting envr st account)
    (hlen : ∀ p ∈ S.tis, p.2.length < 2 ^ 32) (hok : ∀ p ∈ S.tis, TopicOk envr S.identity p)
    (hans : ∀ p ∈ S.tis, ∀ ids, envr.IdentityClaimsClient_get_claim_ids_by_topic S.identity p.1 = .ok ids →
      Answers envr S.identity p.1 ids p.2) :
    Verifier.verify_identity envr st account = .ok () :=
  (verify_iff_loop envr st account S).mpr
    (outer_complete envr st S.identity account S.cti S.cti S.irs S.irs S.tis S.tis hlen hok hans)

/-- **C15, first sentence, exactly** -/
theorem gen_verify_iff (envr : Verifier.Reads) (st : Verifier.Store) (account : Nat) (S : Setting envr st account)
    (hlen : ∀ p ∈ S.tis, p.2.length < 2 ^ 32)
    (hans : ∀ p ∈ S.tis, ∀ ids, envr.IdentityClaimsClient_get_claim_ids_by_topic S.identity p.1 = .ok ids →
      Answers envr S.identity p.1 ids p.2) :
    Verifier.verify_identity envr st account = .ok () ↔ ∀ p ∈ S.tis, TopicOk envr S.identity p :=
  ⟨fun h => outer_sound envr st S.identity account S.cti S.cti S.irs S.irs S.tis S.tis hlen
      ((verify_iff_loop envr st account S).mp h),
    fun hok => gen_verify_complete envr st account S hlen hok hans⟩

/-! ### non-vacuity -/

/-- a small world: the registry requires topic 1 (issuers 5, 6) and topic 2 (issuer 6); the identity 20 of account 9
holds issuer 6's claims for both topics (ids [6, t]); issuer 6 confirms the one for topic 1 and, iff `confirm2`, the
one for topic 2; issuer 5 confirms nothing -/
def demoEnv (confirm2 : Bool) : Verifier.Reads where
  IdentityRegistryStorageClient_stored_identity := fun _ a => if a = 9 then .ok 20 else .panic
  ClaimTopicsAndIssuersClient_get_claim_topics_and_issuers := fun _ => .ok [(1, [5, 6]), (2, [6])]
  IdentityClaimsClient_get_claim_ids_by_topic := fun _ t => .ok [[6, t]]
  IdentityClaimsClient_get_claim := fun _ id =>
    match id with
    | [i, t] => .ok ⟨t, 1, i, [], [7]⟩
    | _ => .panic
  ClaimIssuerClient_try_is_claim_valid := fun i _ t _ _ _ => i == 6 && (t == 1 || confirm2)
  generate_claim_id := fun i t => [i, t]

example : Verifier.verify_identity (demoEnv true) ⟨some 3, some 4⟩ 9 = .ok () := by decide +kernel
example : Verifier.verify_identity (demoEnv false) ⟨some 3, some 4⟩ 9 = .panic := by decide +kernel
example : Verifier.verify_identity (demoEnv true) ⟨some 3, some 4⟩ 8 = .panic := by decide +kernel
example : Verifier.verify_identity (demoEnv true) ⟨none, some 4⟩ 9 = .panic := by decide +kernel

end OZ.Gen.Verifier
