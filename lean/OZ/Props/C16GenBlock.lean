import OZ.Gen.BlockTok
import OZ.Lemmas.GatesGen
/-
C16 — the block-list gates, re-checked on every run against what the SOURCE says now.

`lean/OZ/Gen/BlockTok.lean` is regenerated by `/verif/tools/rs2lean.py --blocklist` (state-passing mode) from
/repo's current `packages/tokens/src/fungible/extensions/blocklist/storage.rs` (`blocked`, `block_user`,
`unblock_user`, gated `transfer`, `transfer_from`, `approve`, `burn`, `burn_from`, prefixed `bl_`) together
with the `Base` functions they delegate to, over one store.  Theorems about the GENERATED code: an accepted
gated call needs every vetted party NOT blocked and is then exactly the ungated `Base` call; a blocked party
refuses the call whatever else holds; `block_user` / `unblock_user` set / clear exactly this account's entry,
touch no token entry and are idempotent.
-/
namespace OZ.Gen.BlockTok
open OZ.Rs

def isBlocked (st : BlockTok.Store) (a : Nat) : Bool := (st.Blocked a).isSome

theorem blocked_eq (envr : BlockTok.Reads) (st : BlockTok.Store) (a : Nat) :
    BlockTok.bl_blocked envr st a = .ok (isBlocked st a) := by
  unfold BlockTok.bl_blocked isBlocked
  cases (st.Blocked a).isSome <;> rfl

theorem gen_gate_transfer (envr : BlockTok.Reads) (st st' : BlockTok.Store) (f t : Nat) (amount : Int)
    (h : BlockTok.bl_transfer envr st f t amount = .ok ((), st')) :
    isBlocked st f = false ∧ isBlocked st t = false ∧ BlockTok.transfer envr st f t amount = .ok ((), st') := by
  unfold BlockTok.bl_transfer at h
  rw [blocked_eq, blocked_eq] at h
  simp only [Comp.bind_ok] at h
  obtain ⟨hf, h⟩ := guardNot_ok h
  obtain ⟨ht, h⟩ := guardNot_ok h
  exact ⟨hf, ht, snd_ok h⟩

theorem gen_gate_transfer_from (envr : BlockTok.Reads) (st st' : BlockTok.Store) (sp f t : Nat) (amount : Int)
    (h : BlockTok.bl_transfer_from envr st sp f t amount = .ok ((), st')) :
    isBlocked st f = false ∧ isBlocked st t = false ∧ BlockTok.transfer_from envr st sp f t amount = .ok ((), st') := by
  unfold BlockTok.bl_transfer_from at h
  rw [blocked_eq, blocked_eq] at h
  simp only [Comp.bind_ok] at h
  obtain ⟨hf, h⟩ := guardNot_ok h
  obtain ⟨ht, h⟩ := guardNot_ok h
  exact ⟨hf, ht, snd_ok h⟩

theorem gen_gate_approve (envr : BlockTok.Reads) (st st' : BlockTok.Store) (o sp : Nat) (amount : Int) (lu : Nat)
    (h : BlockTok.bl_approve envr st o sp amount lu = .ok ((), st')) :
    isBlocked st o = false ∧ BlockTok.approve envr st o sp amount lu = .ok ((), st') := by
  unfold BlockTok.bl_approve at h
  rw [blocked_eq] at h
  simp only [Comp.bind_ok] at h
  obtain ⟨hf, h⟩ := guardNot_ok h
  exact ⟨hf, snd_ok h⟩

theorem gen_gate_burn (envr : BlockTok.Reads) (st st' : BlockTok.Store) (f : Nat) (amount : Int)
    (h : BlockTok.bl_burn envr st f amount = .ok ((), st')) :
    isBlocked st f = false ∧ BlockTok.burn envr st f amount = .ok ((), st') := by
  unfold BlockTok.bl_burn at h
  rw [blocked_eq] at h
  simp only [Comp.bind_ok] at h
  obtain ⟨hf, h⟩ := guardNot_ok h
  exact ⟨hf, snd_ok h⟩

theorem gen_gate_burn_from (envr : BlockTok.Reads) (st st' : BlockTok.Store) (sp f : Nat) (amount : Int)
    (h : BlockTok.bl_burn_from envr st sp f amount = .ok ((), st')) :
    isBlocked st f = false ∧ BlockTok.burn_from envr st sp f amount = .ok ((), st') := by
  unfold BlockTok.bl_burn_from at h
  rw [blocked_eq] at h
  simp only [Comp.bind_ok] at h
  obtain ⟨hf, h⟩ := guardNot_ok h
  exact ⟨hf, snd_ok h⟩

/-- a blocked party refuses the call, whatever the balances, allowances and authorizations -/
theorem gen_blocked_refused (envr : BlockTok.Reads) (st : BlockTok.Store) (sp f t : Nat) (amount : Int) (lu : Nat)
    (h : isBlocked st f = true) :
    ((BlockTok.bl_transfer envr st f t amount).bind fun _ => Comp.ok ()) = .panic ∧
    ((BlockTok.bl_transfer envr st t f amount).bind fun _ => Comp.ok ()) = .panic ∧
    ((BlockTok.bl_transfer_from envr st sp f t amount).bind fun _ => Comp.ok ()) = .panic ∧
    ((BlockTok.bl_transfer_from envr st sp t f amount).bind fun _ => Comp.ok ()) = .panic ∧
    ((BlockTok.bl_approve envr st f sp amount lu).bind fun _ => Comp.ok ()) = .panic ∧
    ((BlockTok.bl_burn envr st f amount).bind fun _ => Comp.ok ()) = .panic ∧
    ((BlockTok.bl_burn_from envr st sp f amount).bind fun _ => Comp.ok ()) = .panic :=
  ⟨refused fun s' hx => Bool.false_ne_true ((gen_gate_transfer envr st s' f t amount hx).1.symm.trans h),
   refused fun s' hx => Bool.false_ne_true ((gen_gate_transfer envr st s' t f amount hx).2.1.symm.trans h),
   refused fun s' hx => Bool.false_ne_true ((gen_gate_transfer_from envr st s' sp f t amount hx).1.symm.trans h),
   refused fun s' hx => Bool.false_ne_true ((gen_gate_transfer_from envr st s' sp t f amount hx).2.1.symm.trans h),
   refused fun s' hx => Bool.false_ne_true ((gen_gate_approve envr st s' f sp amount lu hx).1.symm.trans h),
   refused fun s' hx => Bool.false_ne_true ((gen_gate_burn envr st s' f amount hx).1.symm.trans h),
   refused fun s' hx => Bool.false_ne_true ((gen_gate_burn_from envr st s' sp f amount hx).1.symm.trans h)⟩

theorem gen_block_user (envr : BlockTok.Reads) (st : BlockTok.Store) (u : Nat) :
    ∃ st', BlockTok.bl_block_user envr st u = .ok ((), st') ∧ isBlocked st' u = true ∧
      (∀ a, a ≠ u → st'.Blocked a = st.Blocked a) ∧
      st'.Balance = st.Balance ∧ st'.TotalSupply = st.TotalSupply ∧ st'.Allowance = st.Allowance ∧
      BlockTok.bl_block_user envr st' u = .ok ((), st') := by
  unfold BlockTok.bl_block_user
  cases h : (st.Blocked u).isSome with
  | true =>
    simp only [if_true]
    exact ⟨st, rfl, h, fun _ _ => rfl, rfl, rfl, rfl, by simp [h]⟩
  | false =>
    simp only [Bool.false_eq_true, if_false]
    refine ⟨_, rfl, by simp [isBlocked, BlockTok.Store.set_Blocked], fun a ha => by simp [BlockTok.Store.set_Blocked, ha], rfl, rfl, rfl, ?_⟩
    simp [BlockTok.Store.set_Blocked]

theorem gen_unblock_user (envr : BlockTok.Reads) (st : BlockTok.Store) (u : Nat) :
    ∃ st', BlockTok.bl_unblock_user envr st u = .ok ((), st') ∧ isBlocked st' u = false ∧
      (∀ a, a ≠ u → st'.Blocked a = st.Blocked a) ∧
      st'.Balance = st.Balance ∧ st'.TotalSupply = st.TotalSupply ∧ st'.Allowance = st.Allowance ∧
      BlockTok.bl_unblock_user envr st' u = .ok ((), st') := by
  unfold BlockTok.bl_unblock_user
  cases h : (st.Blocked u).isSome with
  | false =>
    simp only [Bool.false_eq_true, if_false]
    exact ⟨st, rfl, h, fun _ _ => rfl, rfl, rfl, rfl, by simp [h]⟩
  | true =>
    simp only [if_true]
    refine ⟨_, rfl, by simp [isBlocked, BlockTok.Store.del_Blocked], fun a ha => by simp [BlockTok.Store.del_Blocked, ha], rfl, rfl, rfl, ?_⟩
    simp [BlockTok.Store.del_Blocked]

end OZ.Gen.BlockTok
