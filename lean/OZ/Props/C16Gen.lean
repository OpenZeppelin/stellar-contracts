import OZ.Gen.Capped
import OZ.Model.Gates
/-
C16 — the supply cap check, re-checked against the SOURCE on every run.

`lean/OZ/Gen/Capped.lean` is regenerated by `/verif/tools/rs2lean.py --cap` from /repo's current
`packages/tokens/src/fungible/extensions/capped/storage.rs` (`query_cap`, `check_cap`).  What they read — the
instance entries `Cap` and `TotalSupply` (`e.storage().instance().get(..)`) — are the two optional fields of
the record `Capped.Reads`.  Proved here: the generated `check_cap` passes exactly when the model's does, and
a mint that passes it never lifts the supply above the cap (an overflowing sum is refused).
-/
namespace OZ.Gen.Capped
open OZ.Rs OZ.Gates OZ.Host

def passes (c : Comp Unit) : Bool :=
  match c with
  | .ok _ => true
  | .panic => false

/-- what the functions read in the model's capped token (`TotalSupply` is always written in the model) -/
def readsOf (s : CTok) : Reads := ⟨s.cap, some s.tok.supply⟩

/-- **`check_cap`**: generated = model, for every state and amount -/
theorem check_cap_eq (s : CTok) (amount : Int) :
    passes (check_cap (readsOf s) amount) = (checkCap s amount).isOk := by
  unfold check_cap query_cap checkCap queryCap checkAgainst readsOf i128_checked_add OZ.MulDiv.chk128
  cases hc : s.cap with
  | none => rfl
  | some cap =>
    simp only [Comp.unwrap_some, Comp.bind_ok, Option.getD_some, bind, Except.bind]
    by_cases hin : OZ.MulDiv.in128 (s.tok.supply + amount)
    · have hin' : OZ.Host.in128 (s.tok.supply + amount) := hin
      rw [if_pos hin, if_neg (by simpa using hin')]
      simp only [optCase_some]
      by_cases hlt : cap < s.tok.supply + amount
      · rw [if_pos hlt, if_pos hlt]; rfl
      · rw [if_neg hlt, if_neg hlt]; rfl
    · have hin' : ¬ OZ.Host.in128 (s.tok.supply + amount) := hin
      rw [if_neg hin, if_pos hin']
      rfl

/-- **the cap on the source as translated**: if the generated `check_cap` passes for `amount`, a cap is
set, `supply + amount` is an i128 and does not exceed the cap -/
theorem gen_check_cap_sound (cap supply : Option Int) (amount : Int)
    (h : passes (check_cap ⟨cap, supply⟩ amount) = true) :
    ∃ c, cap = some c ∧ OZ.MulDiv.in128 (supply.getD 0 + amount) ∧ supply.getD 0 + amount ≤ c := by
  unfold check_cap query_cap i128_checked_add OZ.MulDiv.chk128 at h
  cases cap with
  | none => simp [passes] at h
  | some c =>
    simp only [Comp.unwrap_some, Comp.bind_ok] at h
    by_cases hin : OZ.MulDiv.in128 (supply.getD 0 + amount)
    · rw [if_pos hin] at h
      simp only [optCase_some] at h
      by_cases hlt : c < supply.getD 0 + amount
      · rw [if_pos hlt] at h; simp [passes] at h
      · exact ⟨c, rfl, hin, by omega⟩
    · rw [if_neg hin] at h; simp [passes] at h

example : passes (check_cap ⟨some 100, some 90⟩ 10) = true := by decide
example : passes (check_cap ⟨some 100, some 90⟩ 11) = false := by decide
example : passes (check_cap ⟨none, some 0⟩ 1) = false := by decide

end OZ.Gen.Capped
