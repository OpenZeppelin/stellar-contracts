import OZ.Lemmas.FeeForwarderMon
/-
C19 — soundness of the MONITOR that decides the property on implementation traces.

`./check C19` reports a concrete violation exactly when `OZ.FeeForwarder.Mon.checkCore` (the
driver's monitor on parsed values; the driver OZ/Drv/C19.lean only parses) returns a message on the
implementation's observations. Here it is proved that on the observations of the MODEL the monitor
never returns a message, for every ledger configuration, start ledger, contract variant (= all
parameters of a sequence label) and every finite history of op lines over the observed universe
(`monitor_accepts_every_model_trace`). Consequences:

  * an implementation whose observations agree with the model's (the correspondence the check
    establishes by differential testing) can never raise a monitor alarm — a monitor failure is
    never a false alarm of the monitor itself;
  * every conclusion the monitor evaluates is a THEOREM about the model, in the monitor's own
    executable wording: an accepted forward has `0 < fee ≤ max`, an expiration that has not passed,
    user ≠ forwarder, a fee token the ghost allowed-set accepts; exactly `fee` moved from the user to
    the recipient and no other balance, token or foreign allowance moved; the allowance
    user → forwarder ends in `[0, max(old, max_fee) − fee]`; the target's log grew by exactly this
    call; `env.auths()` holds exactly one entry of the user with exactly the call's tuple and only
    the two legitimate nested calls, and the relayer's entry (executor in the permissioned
    example); with exactly presented authorizations the relayer signed and the user signed exactly
    this call; a rejected call changed nothing; only a forward invokes the target; the passing of
    time changes neither the allow-list getters nor a balance; allow / disallow refuse duplicates
    and absent tokens and are manager-gated; a sweep moves exactly the forwarder's balance and is
    manager-gated; after EVERY call the allow-list getters describe exactly the ghost set (count,
    duplicate-free enumeration, no stale entry, inverse index map, `is_allowed_fee_token`, enabled
    flag).

The whole monitor is covered: no check remains outside `checkCore`.

`modelObs` (OZ/Model/FeeForwarderMon.lean) is the same data the driver's `op` prints for the model:
`stepLine` prints `showState` of `(mstep …).1` — `now=`, `al=` (`showAl`: count, `Token(i)` cells,
`TokenIndex(t)` cells, `is_allowed_fee_token` flags, enabled flag = the fields `alCount`, `alAt`,
`alIdx`, `alAllowed`, `alEnabled`, `alRaw` of `obsOf`), `t8= … t11=` (`tokObs`: balances and
allowances to the forwarder of holders 0..7), `calls=` (`callsN`, `callsFn`, `callsArgs`) — and
`dem=` = `showDem (modelDem …)`, i.e. the entries of `modelDem` in the order `sortEntries`, each
printed by `showEntry`; a rejected call prints `dem=-` (no entries). `ev=` is printed too but the
monitor does not look at it.
-/
namespace OZ.FeeForwarder.Mon
open OZ.Host OZ.FeeForwarder

/-- an op line over the OBSERVED universe: the fee token of a forward / allow / sweep is one of the
four observed tokens 8..11 and the forwarded-to contract is the observed target 7 (the model itself
is defined for any addresses; balances, allow-list cells and call logs outside this universe are
not printed, so no monitor could judge them) -/
def Valid : In → Prop
  | .forward _ _ _ c _ _ _ _ _ _ => (TOK0 ≤ c.token ∧ c.token < TOK0 + NTOK) ∧ c.target = TGT
  | .allow _ _ tok _ _ => TOK0 ≤ tok ∧ tok < TOK0 + NTOK
  | .sweep _ _ tok _ _ => TOK0 ≤ tok ∧ tok < TOK0 + NTOK
  | _ => True

/-- the verdict on an accepted call is `verdictAccepted` with the advanced ghost set -/
theorem checkCore_accepted (m : Mon) (i : In) (s' : State) (dem : List DemEntry) :
    (checkCore m i (obsOf s' true dem)).2 =
      verdictAccepted m (ghostStep m.allowed i true) i (obsOf s' true dem) := by
  rw [checkCore_snd]
  exact verdict_accepted m _ i rfl

/-- after any call the new monitor state describes the new model state as soon as the advanced
ghost set describes the new allow-list -/
theorem agree_next {v : Var} {m : Mon} (hv : m.var = v) (i : In) (s' : State) (dem : List DemEntry)
    (hg : Good s'.al (ghostStep m.allowed i true)) : Agree v (checkCore m i (obsOf s' true dem)).1 s' := by
  rw [checkCore_fst]
  exact agree_obsOf true dem hv hg

/-- **one call**: fed with the model's own observation of any op line of the observed universe
(accepted or rejected, through whichever of the three contracts), the monitor reports nothing and
its state keeps describing the model's -/
theorem monitor_sound_step (cfg : Cfg) (v : Var) {m : Mon} {s : State} (ha : Agree v m s) (i : In)
    (hv : Valid i) :
    (checkCore m i (modelObs (params cfg) v s i)).2 = none ∧
    Agree v (checkCore m i (modelObs (params cfg) v s i)).1 (mstep (params cfg) v s i).1 := by
  rcases mstep_cases (params cfg) v s i with hm | ⟨au, op, s', hx, hy, hm⟩
  · rw [modelObs_eq hm, hm]
    exact rejected_sound ha i
  rw [modelObs_eq hm, hm, checkCore_accepted]
  suffices key : verdictAccepted m (ghostStep m.allowed i true) i
        (obsOf s' true (sortEntries (modelDem (params cfg) v s i))) = none ∧
      Good s'.al (ghostStep m.allowed i true) from ⟨key.1, agree_next ha.var i s' _ key.2⟩
  cases i with
  | bad => cases hx
  | mint tok to amt =>
    cases hx
    exact noCall_checkAllowlist_model ha hy _
  | approve pl tok o sp amt lu =>
    cases hx
    exact noCall_checkAllowlist_model ha hy _
  | advance n =>
    cases hx
    injection hy with hy
    subst hy
    exact ⟨verdictAdvance_model ha n _, ha.good⟩
  | forward all pl ua c user rel tgt eager a b =>
    cases hx
    exact verdictForward_model ha a b hy hv.1 hv.2
  | allow all pl tok oper allowed =>
    obtain ⟨hset, hgate⟩ := managed_ok hx hy rfl fun _ => managerSetAllowed_eq_ok.mp
    exact verdictAllow_model ha hset (ha.var ▸ hgate) hv _
  | sweep all pl tok to oper =>
    obtain ⟨hsw, hgate⟩ := managed_ok hx hy rfl fun _ => managerSweep_eq_ok.mp
    exact verdictSweep_model ha hsw (ha.var ▸ hgate) hv _

/-- the monitor run over a whole history of model observations: first message, if any -/
def monitorRun (cfg : Cfg) (v : Var) : Mon → State → List In → Option String
  | _, _, [] => none
  | m, s, i :: is =>
    match (checkCore m i (modelObs (params cfg) v s i)).2 with
    | some msg => some msg
    | none => monitorRun cfg v (checkCore m i (modelObs (params cfg) v s i)).1 (mstep (params cfg) v s i).1 is

/-- the monitor's initial state for a sequence (what the driver's `minit` builds from the label:
`v` = `parseVar label`, the same value the driver's `init` gives the model side) -/
def monInit (v : Var) : Mon := { prev := zeroObs, allowed := [], var := v }

/-- the initial monitor state describes the initial model state -/
theorem monInit_agree (v : Var) (start : Nat) : Agree v (monInit v) (init start) :=
  ⟨rfl, rfl, (toksObs_init start).symm, rfl, rfl, rfl, good_empty⟩

/-- **monitor soundness**: for every ledger configuration (`min_temp=`, `max_ttl=`), start ledger
(`start=`) and contract variant (`v=`: permissionless example, permissioned example, library
pass-through, anything else) — i.e. all parameters of a sequence label; `params cfg` / `init start`
are what the driver's `init` builds, `monInit v` what its `minit` builds — and every finite history
of op lines over the observed universe (`Valid`) — any users, relayers, operators, fees, maxima,
expirations, target functions and arguments, target behaviours, strategies, any presented
authorization (exact trees, perturbed in any component, or recording mode), mints, direct approvals,
allow / disallow / sweep, any ledger movement — the monitor reports nothing on the model's
observations -/
theorem monitor_accepts_every_model_trace (cfg : Cfg) (start : Nat) (v : Var) (ops : List In)
    (hv : ∀ i ∈ ops, Valid i) :
    monitorRun cfg v (monInit v) (init start) ops = none := by
  suffices ∀ m s, Agree v m s → monitorRun cfg v m s ops = none from this _ _ (monInit_agree v start)
  induction ops with
  | nil => intro m s _; rfl
  | cons i is ih =>
    intro m s ha
    obtain ⟨h1, h2⟩ := monitor_sound_step cfg v ha i (hv i List.mem_cons_self)
    unfold monitorRun
    rw [h1]
    exact ih (fun j hj => hv j (List.mem_cons_of_mem _ hj)) _ _ h2

/-- on a rejected call the monitor does not look at the op line at all: whatever the driver parsed
from a (possibly malformed) line, the verdict and the next monitor state are the same -/
theorem rejected_ignores_op (m : Mon) (i j : In) (o : Obs) (h : o.ok = false) :
    checkCore m i o = checkCore m j o := by
  unfold checkCore verdict
  rw [h, ghostStep_false, ghostStep_false]
  simp

/-! ### non-vacuity: the monitor is not trivially silent -/

def cBad : Call := { token := 8, fee := 11, maxFee := 10, expiration := 120, target := 7, fn := 2, args := [.i128 7] }
def cOk : Call := { cBad with fee := 5 }

/-- an accepted forward with `fee = 11 > max = 10` is reported (`site=ff.bounds`) -/
example :
    (checkCore (monInit .pl) (.forward false [2] none cBad 4 2 .ok true "-" "-") zeroObs).2.isSome = true := by
  decide

/-- an accepted forward with `fee = 5` after which NO balance moved is reported (`site=ff.charge`) -/
example :
    (checkCore { monInit .pl with prev := { zeroObs with now := 100 } }
      (.forward false [2] none cOk 4 2 .ok true "-" "-") { zeroObs with now := 100 }).2.isSome = true := by
  decide

/-- a rejected call after which the target's log grew is reported (`site=ff.rollback`) -/
example :
    (checkCore (monInit .pd) .bad { zeroObs with ok := false, callsN := 1 }).2.isSome = true := by
  decide

/-! ### op lines outside the harness's universe whose raw fields differ from what the model prints.
The model side of the driver works on PARSED values (`fnId`, `parseVals`,
`String.toNat?`, the `v=` parameter with a default). A monitor that compared the implementation's
strings with the RAW fields of the op line would fire on the model's own observations of such lines,
which the harness never writes. Each `example` shows the model accepting the call and printing
something a raw comparison would reject; `checkCore` compares with what the model's own printing
functions print (`fnName c.fn`, `showVals "," c.args`, the parsed signature `ua`, `needsRelayer v`) and
is silent on them (`monitor_accepts_every_model_trace`). Replays: notes/C19.md. -/

def pDemo : Params := params ⟨16, 6312000⟩
def sDemo : State := (mstep pDemo .pl (init 100) (.mint 8 4 1000)).1
def uaDemo (c : Call) : UserAuth := { signer := 4, tuple := tupleOf c, subs := [approveInv pDemo 8 4 7 150] }

/-- (a) `fn=zzz`: the driver's `fnId "zzz"` is 0, the model logs the call and prints `fnName 0 = "?"`;
a raw comparison demands `callsFn = "zzz"` (`site=ff.target-call`) -/
def cZzz : Call := { token := 8, fee := 3, maxFee := 7, expiration := 150, target := 7, fn := 0, args := [] }
example : (mstep pDemo .pl sDemo (.forward false [2] (some (uaDemo cZzz)) cZzz 4 2 .ok true "4" "8:7:150:7:zzz:-")).2 = true ∧
    (modelObs pDemo .pl sDemo (.forward false [2] (some (uaDemo cZzz)) cZzz 4 2 .ok true "4" "8:7:150:7:zzz:-")).callsFn ≠ "zzz" := by
  decide

/-- (b) `args=i07`: `parseVals "i07" = [.i128 7]`, the model prints `i7`; a raw comparison demands
`callsArgs = "i07"` (`site=ff.target-call`) -/
def cI07 : Call := { token := 8, fee := 3, maxFee := 7, expiration := 150, target := 7, fn := 2, args := [.i128 7] }
example : (mstep pDemo .pl sDemo (.forward false [2] (some (uaDemo cI07)) cI07 4 2 .ok true "4" "8:7:150:7:add:i07")).2 = true ∧
    (modelObs pDemo .pl sDemo (.forward false [2] (some (uaDemo cI07)) cI07 4 2 .ok true "4" "8:7:150:7:add:i07")).callsArgs ≠ "i07" := by
  decide

/-- (c) label `v=xx` (neither pl, pd nor lib): the model forwards through the library function, which
demands no relayer authorization; demanding the relayer's entry in `dem=` for every
`v ≠ "lib"` would fire (`site=ff.relayer-auth`) -/
def cPing : Call := { token := 8, fee := 3, maxFee := 7, expiration := 150, target := 7, fn := 1, args := [] }
example : (mstep pDemo .other sDemo (.forward false [] (some (uaDemo cPing)) cPing 4 2 .ok true "4" "8:7:150:7:ping:-")).2 = true ∧
    relEntry cPing 4 2 ∉   -- `dem=` is this list in the order `sortEntries`
      modelDem pDemo .other sDemo (.forward false [] (some (uaDemo cPing)) cPing 4 2 .ok true "4" "8:7:150:7:ping:-") := by
  decide

/-- (d) `uat=08:7:150:7:ping:-`: the driver parses the signed tuple to exactly the call's tuple and the
model accepts; a raw comparison demands the field to equal the canonical `8:7:150:7:ping:-`
(`site=ff.accepted-with-wrong-auth`) -/
example : (mstep pDemo .pl sDemo (.forward false [2] (some (uaDemo cPing)) cPing 4 2 .ok true "4" "08:7:150:7:ping:-")).2 = true ∧
    uaMatches (some (uaDemo cPing)) 4 cPing = true ∧ "08:7:150:7:ping:-" ≠ "8:7:150:7:ping:-" := by
  decide

end OZ.FeeForwarder.Mon
