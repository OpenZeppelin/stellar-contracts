import OZ.Gen.Ownable
import OZ.Lemmas.RoleTransferGen
/-
C07 — REFINEMENT of the Ownable module, on the code generated from the SOURCE on every run.

`lean/OZ/Gen/Ownable.lean` is regenerated by `/verif/tools/rs2lean.py --ownable` (state-passing mode) from /repo's
`packages/access/src/role_transfer/storage.rs` (`transfer_role`, `accept_transfer`, their generic key
parameters resolved to the two Ownable keys) and `packages/access/src/ownable/storage.rs` (`get_owner`,
`enforce_owner_auth`, `transfer_ownership`, `accept_ownership`, `renounce_ownership`); `Owner` is an instance
entry, `PendingOwner` a TEMPORARY entry carrying its lifetime (host rules of OZ/Model/Host.lean).

Every generated entry point computes exactly the step of the hand model (OZ/Model/RoleTransfer.lean,
flavour `owner`) under the abstraction map `Abs`, every finite history of generated calls and ledger movements
follows the model's `run`, and a holder once renounced stays gone on the generated store.
Hypothesis: minimum temporary lifetime ≥ 1.
-/
namespace OZ.Gen.Ownable
open OZ.Rs OZ.Host OZ.RoleTransfer.Gen

def cfgOf (envr : Ownable.Reads) : Cfg := ⟨envr.min_temp_ttl, envr.max_ttl⟩

def Abs (envr : Ownable.Reads) (st : Ownable.Store) (s : OZ.RoleTransfer.State) : Prop :=
  s.pending = st.PendingOwner ∧ s.holder = st.Owner ∧ s.now = envr.ledger_sequence

/-! The generated functions are those of the library on the fields of the store. -/

theorem transfer_role_lib (envr : Ownable.Reads) (st : Ownable.Store) (new lu : Nat) :
    Ownable.transfer_role envr st new lu =
      transferRoleC (cfgOf envr) envr.ledger_sequence st.PendingOwner new lu
        fun p => Comp.ok ((), ⟨p, st.Owner⟩) := rfl

theorem accept_transfer_lib (envr : Ownable.Reads) (st : Ownable.Store) :
    Ownable.accept_transfer envr st =
      acceptTransferC envr.ledger_sequence st.PendingOwner envr.authorized
        fun v => Comp.ok (v, ⟨none, some v⟩) := rfl

theorem enforce_owner_auth_lib (envr : Ownable.Reads) (st : Ownable.Store) :
    Ownable.enforce_owner_auth envr st = enforceAuthC st.Owner envr.authorized := rfl

/-- **generated = model** for `transfer_role` (offer, replacement, cancellation) -/
theorem transfer_role_eq (envr : Ownable.Reads) (st : Ownable.Store) (s : OZ.RoleTransfer.State)
    (hA : Abs envr st s) (hmin : 1 ≤ envr.min_temp_ttl) (new lu : Nat) :
    match OZ.RoleTransfer.transferRole (cfgOf envr) s new lu with
    | .ok s' => ∃ st', Ownable.transfer_role envr st new lu = .ok ((), st') ∧ Abs envr st' s'
    | .error _ => ((Ownable.transfer_role envr st new lu).bind fun _ => Comp.ok ()) = .panic := by
  obtain ⟨hp, hh, hn⟩ := hA
  rw [transfer_role_lib, ← hp, ← hn, transferRoleC_eq (cfgOf envr) hmin]
  cases hx : OZ.RoleTransfer.transferRole (cfgOf envr) s new lu with
  | error e => rfl
  | ok s' =>
    obtain ⟨h1, h2⟩ := RoleTransfer.transferRole_frame hx
    exact ⟨_, rfl, rfl, h1.trans hh, h2.trans hn⟩

/-- **generated = model** for `accept_transfer`, the authorization predicate being membership in `auth` -/
theorem accept_transfer_eq (envr : Ownable.Reads) (st : Ownable.Store) (s : OZ.RoleTransfer.State)
    (hA : Abs envr st s) (auth : List Nat) (hauth : ∀ a, envr.authorized a = decide (a ∈ auth)) :
    match OZ.RoleTransfer.acceptTransfer s auth with
    | .ok (s', p) => ∃ st', Ownable.accept_transfer envr st = .ok (p, st') ∧ Abs envr st' s'
    | .error _ => ((Ownable.accept_transfer envr st).bind fun _ => Comp.ok ()) = .panic := by
  obtain ⟨hp, hh, hn⟩ := hA
  rw [accept_transfer_lib, ← hp, ← hn, acceptTransferC_eq s auth _ hauth]
  cases hx : OZ.RoleTransfer.acceptTransfer s auth with
  | error e => rfl
  | ok r =>
    obtain ⟨-, -, h3⟩ := OZ.RoleTransfer.acceptTransfer_ok hx
    exact ⟨_, rfl, by rw [h3], by rw [h3], by rw [h3]; exact hn⟩

/-! ## the Ownable entry points -/

/-- generated `enforce_owner_auth` = the model's -/
theorem enforce_owner_auth_ref (envr : Ownable.Reads) (st : Ownable.Store) (s : OZ.RoleTransfer.State) (hA : Abs envr st s)
    (auth : List Nat) (hauth : ∀ a, envr.authorized a = decide (a ∈ auth)) :
    Ownable.enforce_owner_auth envr st = match OZ.RoleTransfer.enforceHolderAuth s auth with
      | .ok h => .ok h
      | .error _ => .panic := by
  rw [enforce_owner_auth_lib, ← hA.2.1]
  exact enforceAuthC_eq s auth _ hauth

/-- **`transfer_ownership`**: generated = the model's `offer` -/
theorem offer_ref (envr : Ownable.Reads) (st : Ownable.Store) (s : OZ.RoleTransfer.State) (hA : Abs envr st s)
    (hmin : 1 ≤ envr.min_temp_ttl) (auth : List Nat) (hauth : ∀ a, envr.authorized a = decide (a ∈ auth)) (new lu : Nat) :
    match OZ.RoleTransfer.offer (cfgOf envr) s auth new lu with
    | .ok s' => ∃ st', Ownable.transfer_ownership envr st new lu = .ok ((), st') ∧ Abs envr st' s'
    | .error _ => Ownable.transfer_ownership envr st new lu = .panic := by
  unfold Ownable.transfer_ownership OZ.RoleTransfer.offer
  rw [enforce_owner_auth_ref envr st s hA auth hauth]
  obtain ⟨hp, hh, hn⟩ := hA
  rw [transfer_role_lib, ← hp, ← hn, transferRoleC_eq (cfgOf envr) hmin]
  cases he : OZ.RoleTransfer.enforceHolderAuth s auth with
  | error e => rfl
  | ok h =>
    cases hx : OZ.RoleTransfer.transferRole (cfgOf envr) s new lu with
    | error e => rfl
    | ok s1 =>
      obtain ⟨h1, h2⟩ := RoleTransfer.transferRole_frame hx
      exact ⟨_, rfl, rfl, h1.trans hh, h2.trans hn⟩

/-- **`accept_ownership`**: generated = the model's `acceptOwner` -/
theorem accept_ref (envr : Ownable.Reads) (st : Ownable.Store) (s : OZ.RoleTransfer.State) (hA : Abs envr st s)
    (auth : List Nat) (hauth : ∀ a, envr.authorized a = decide (a ∈ auth)) :
    match OZ.RoleTransfer.acceptOwner s auth with
    | .ok s' => ∃ st', Ownable.accept_ownership envr st = .ok ((), st') ∧ Abs envr st' s'
    | .error _ => Ownable.accept_ownership envr st = .panic := by
  obtain ⟨hp, hh, hn⟩ := hA
  unfold Ownable.accept_ownership OZ.RoleTransfer.acceptOwner
  rw [accept_transfer_lib, ← hp, ← hn, acceptTransferC_eq s auth _ hauth]
  cases hx : OZ.RoleTransfer.acceptTransfer s auth with
  | error e => rfl
  | ok r =>
    obtain ⟨-, -, h3⟩ := OZ.RoleTransfer.acceptTransfer_ok hx
    exact ⟨_, rfl, by rw [h3]; rfl, by rw [h3]; rfl, by rw [h3]; exact hn⟩

/-- **`renounce_ownership`**: generated = the model's `renounce` -/
theorem renounce_ref (envr : Ownable.Reads) (st : Ownable.Store) (s : OZ.RoleTransfer.State) (hA : Abs envr st s)
    (auth : List Nat) (hauth : ∀ a, envr.authorized a = decide (a ∈ auth)) :
    match OZ.RoleTransfer.renounce s auth with
    | .ok s' => ∃ st', Ownable.renounce_ownership envr st = .ok ((), st') ∧ Abs envr st' s'
    | .error _ => Ownable.renounce_ownership envr st = .panic := by
  unfold Ownable.renounce_ownership OZ.RoleTransfer.renounce OZ.RoleTransfer.refuseIfPending
  rw [enforce_owner_auth_ref envr st s hA auth hauth]
  obtain ⟨hp, hh, hn⟩ := hA
  rw [hp, hn]
  cases he : OZ.RoleTransfer.enforceHolderAuth s auth with
  | error e => rfl
  | ok h =>
    cases hg : Temp.get? st.PendingOwner envr.ledger_sequence with
    | some p => rfl
    | none => exact ⟨_, rfl, rfl, rfl, rfl⟩

/-- the generated entry point of a model operation (`guarded`: a function behind `#[only_owner]`, i.e.
`enforce_owner_auth` and nothing else) -/
def genCall (envr : Ownable.Reads) (st : Ownable.Store) : OZ.RoleTransfer.Op → Comp (Unit × Ownable.Store)
  | .offer new lu => Ownable.transfer_ownership envr st new lu
  | .accept => Ownable.accept_ownership envr st
  | .renounce => Ownable.renounce_ownership envr st
  | .guarded => Comp.bind (Ownable.enforce_owner_auth envr st) fun _ => Comp.ok ((), st)
  | .advance _ => Comp.ok ((), st)

/-- **every generated entry point = the model's step** (flavour `owner`) -/
theorem step_refines (envr : Ownable.Reads) (st : Ownable.Store) (s : OZ.RoleTransfer.State) (hA : Abs envr st s)
    (hmin : 1 ≤ envr.min_temp_ttl) (auth : List Nat) (hauth : ∀ a, envr.authorized a = decide (a ∈ auth))
    (op : OZ.RoleTransfer.Op) (hna : ∀ n, op ≠ .advance n) :
    match OZ.RoleTransfer.apply (cfgOf envr) .owner s auth op with
    | .ok s' => ∃ st', genCall envr st op = .ok ((), st') ∧ Abs envr st' s'
    | .error _ => genCall envr st op = .panic := by
  cases op with
  | advance n => exact absurd rfl (hna n)
  | offer new lu => exact offer_ref envr st s hA hmin auth hauth new lu
  | accept => exact accept_ref envr st s hA auth hauth
  | renounce => exact renounce_ref envr st s hA auth hauth
  | guarded =>
    simp only [OZ.RoleTransfer.apply, OZ.RoleTransfer.guarded, genCall, bind, Except.bind]
    rw [enforce_owner_auth_ref envr st s hA auth hauth]
    cases he : OZ.RoleTransfer.enforceHolderAuth s auth with
    | error e => rfl
    | ok h => exact ⟨st, rfl, hA⟩

def envrOf (c : Cfg) (now : Nat) (auth : List Nat) : Ownable.Reads :=
  ⟨now, c.minTempTtl, c.maxTtl, fun a => decide (a ∈ auth)⟩

def genStep (c : Cfg) (x : Nat × Ownable.Store) (ao : List Nat × OZ.RoleTransfer.Op) : Nat × Ownable.Store :=
  match ao.2 with
  | .advance n => (x.1 + n, x.2)
  | op => (x.1, match genCall (envrOf c x.1 ao.1) x.2 op with
      | .ok r => r.2
      | .panic => x.2)

def genRun (c : Cfg) (x : Nat × Ownable.Store) (ops : List (List Nat × OZ.RoleTransfer.Op)) : Nat × Ownable.Store :=
  ops.foldl (genStep c) x

theorem genStep_refines (c : Cfg) (hmin : 1 ≤ c.minTempTtl) (now : Nat) (st : Ownable.Store)
    (s : OZ.RoleTransfer.State) (ao : List Nat × OZ.RoleTransfer.Op) (hA : Abs (envrOf c now []) st s) :
    Abs (envrOf c (genStep c (now, st) ao).1 []) (genStep c (now, st) ao).2
      (OZ.RoleTransfer.step c .owner s ao) := by
  obtain ⟨auth, op⟩ := ao
  -- `Abs` reads only the ledger of the reads, so it does not see `auth`
  have h := step_refines (envrOf c now auth) st s hA hmin auth (fun _ => rfl) op
  rw [show cfgOf (envrOf c now auth) = c from rfl] at h
  cases op with
  | advance n => exact ⟨hA.1, hA.2.1, congrArg (· + n) hA.2.2⟩
  | _ =>
    replace h := h fun _ => OZ.RoleTransfer.Op.noConfusion
    split at h
    · next hm => obtain ⟨st', h1, h2⟩ := h; simp only [genStep, OZ.RoleTransfer.step, hm, h1]; exact h2
    · next hm => simp only [genStep, OZ.RoleTransfer.step, hm, h]; exact hA

/-- **every history**: the generated Ownable module follows the model's `run` (flavour `owner`) -/
theorem run_refines (c : Cfg) (hmin : 1 ≤ c.minTempTtl) (ops : List (List Nat × OZ.RoleTransfer.Op)) :
    ∀ (now : Nat) (st : Ownable.Store) (s : OZ.RoleTransfer.State), Abs (envrOf c now []) st s →
      Abs (envrOf c (genRun c (now, st) ops).1 []) (genRun c (now, st) ops).2 (OZ.RoleTransfer.run c .owner s ops) :=
  run_refines_of_step c .owner (fun now st s => Abs (envrOf c now []) st s) (genStep c)
    (fun now st s ao => genStep_refines c hmin now st s ao) ops

theorem abs_init (c : Cfg) (h0 : Option Nat) (now : Nat) :
    Abs (envrOf c now []) ⟨none, h0⟩ (OZ.RoleTransfer.init h0 now) := ⟨rfl, rfl, rfl⟩

open OZ.RoleTransfer in
/-- **C07 for the generated Ownable module: a renounced ownership is final.**  If after a history of generated
calls and ledger movements from deployment the store holds no owner, it holds none after ANY continuation -/
theorem gen_renounced_is_final (c : Cfg) (hmin : 1 ≤ c.minTempTtl) (h0 : Option Nat) (start : Nat)
    (ops rest : List (List Nat × Op))
    (hn : (genRun c (start, ⟨none, h0⟩) ops).2.Owner = none) :
    (genRun c (start, ⟨none, h0⟩) (ops ++ rest)).2.Owner = none := by
  have h1 := run_refines c hmin ops start ⟨none, h0⟩ _ (abs_init c h0 start)
  have h2 := run_refines c hmin (ops ++ rest) start ⟨none, h0⟩ _ (abs_init c h0 start)
  rw [← h2.2.1]
  exact run_holder_none_final c .owner h0 start ops rest (by rw [h1.2.1]; exact hn)

/-! ### non-vacuity: the generated module runs the handshake -/

def demoOps : List (List Nat × OZ.RoleTransfer.Op) :=
  [([1], .offer 2 500), ([3], .accept), ([], .advance 10), ([2], .accept), ([1], .offer 3 600), ([2], .renounce)]

example : (genRun ⟨16, 6312000⟩ (100, ⟨none, some 1⟩) (demoOps.take 2)).2.Owner = some 1 := by decide   -- 3 is not the invitee
example : (genRun ⟨16, 6312000⟩ (100, ⟨none, some 1⟩) (demoOps.take 4)).2.Owner = some 2 := by decide
example : (genRun ⟨16, 6312000⟩ (100, ⟨none, some 1⟩) (demoOps.take 5)).2.PendingOwner = none := by decide  -- 1 is no owner any more
example : (genRun ⟨16, 6312000⟩ (100, ⟨none, some 1⟩) demoOps).2.Owner = none := by decide

end OZ.Gen.Ownable
