import OZ.Gen.Topics
import OZ.Lemmas.RegList
/-
C20 — the claim-topic registry, re-checked on every run against the source.

`lean/OZ/Gen/Topics.lean` is regenerated by `/verif/tools/rs2lean.py --topics` (state-passing mode) from
/repo's current `packages/tokens/src/rwa/claim_topics_and_issuers/storage.rs` (`get_claim_topics`,
`add_claim_topic`) and the limit constant of its `mod.rs`.  Proved here about the GENERATED code, for every
store and topic: `add_claim_topic` is accepted EXACTLY when the topic is not registered yet and fewer than
`MAX_CLAIM_TOPICS = 15` topics are (so the 15th is accepted and the 16th refused); an accepted call appends
exactly this topic, creates its empty issuer list and changes nothing else; a duplicate-free list stays
duplicate-free, i.e. the list IS the set it represents.
-/
namespace OZ.Gen.Topics
open OZ.Rs

def topics (st : Topics.Store) : List Nat := st.ClaimTopics.getD []

def passes {α : Type} (c : Comp α) : Bool :=
  match c with
  | .ok _ => true
  | .panic => false

theorem get_claim_topics_eq (envr : Topics.Reads) (st : Topics.Store) :
    Topics.get_claim_topics envr st = .ok (topics st) := by
  unfold Topics.get_claim_topics topics; cases st.ClaimTopics <;> rfl

theorem add_claim_topic_eq (envr : Topics.Reads) (st : Topics.Store) (t : Nat) :
    Topics.add_claim_topic envr st t =
      if (topics st).length < 15 ∧ t ∉ topics st then
        .ok ((), Topics.Store.set_ClaimTopicIssuers (Topics.Store.set_ClaimTopics st (topics st ++ [t])) t [])
      else .panic := by
  unfold Topics.add_claim_topic
  rw [get_claim_topics_eq, Comp.bind_ok]
  by_cases hl : (topics st).length ≥ 15
  · rw [if_pos hl, if_neg fun h => Nat.not_lt.2 hl h.1]
  · rw [if_neg hl]
    by_cases hm : t ∈ topics st
    · rw [if_pos (decide_eq_true hm), if_neg fun h => h.2 hm]
    · rw [if_neg (mt of_decide_eq_true hm), if_pos ⟨Nat.lt_of_not_le hl, hm⟩]

/-- **accepted exactly within the limit and without duplicates** -/
theorem gen_add_topic_iff (envr : Topics.Reads) (st : Topics.Store) (t : Nat) :
    passes (Topics.add_claim_topic envr st t) = true ↔ ((topics st).length < 15 ∧ t ∉ topics st) := by
  rw [add_claim_topic_eq]
  split
  · exact iff_of_true rfl ‹_›
  · exact iff_of_false (fun h => nomatch h) ‹_›

/-- **what an accepted call writes** -/
theorem gen_add_topic_sound (envr : Topics.Reads) (st st' : Topics.Store) (t : Nat)
    (h : Topics.add_claim_topic envr st t = .ok ((), st')) :
    (topics st).length < 15 ∧ t ∉ topics st ∧ topics st' = topics st ++ [t] ∧
    st'.ClaimTopicIssuers t = some [] ∧ ∀ x, x ≠ t → st'.ClaimTopicIssuers x = st.ClaimTopicIssuers x := by
  rw [add_claim_topic_eq] at h
  split at h
  · rename_i hc
    cases h
    exact ⟨hc.1, hc.2, rfl, if_pos rfl, fun x hx => if_neg hx⟩
  · cases h

/-- the list is the set: no accepted call introduces a duplicate, and membership afterwards is membership
before or being the new topic -/
theorem gen_add_topic_nodup (envr : Topics.Reads) (st st' : Topics.Store) (t : Nat) (hn : (topics st).Nodup)
    (h : Topics.add_claim_topic envr st t = .ok ((), st')) :
    (topics st').Nodup ∧ (topics st').length = (topics st).length + 1 ∧
    ∀ x, x ∈ topics st' ↔ (x ∈ topics st ∨ x = t) := by
  obtain ⟨_, hm, he, _, _⟩ := gen_add_topic_sound envr st st' t h
  rw [he]
  exact ⟨OZ.Reg.nodup_append_singleton hn hm, List.length_append, fun x => by rw [List.mem_append, List.mem_singleton]⟩

/-! ### non-vacuity: the 15th topic is accepted, the 16th is refused, a registered topic is refused -/
example : passes (Topics.add_claim_topic ⟨⟩ ⟨some (List.range 14), fun _ => none⟩ 99) = true := by decide
example : passes (Topics.add_claim_topic ⟨⟩ ⟨some (List.range 15), fun _ => none⟩ 99) = false := by decide
example : passes (Topics.add_claim_topic ⟨⟩ ⟨some [1, 2, 3], fun _ => none⟩ 2) = false := by decide

end OZ.Gen.Topics
