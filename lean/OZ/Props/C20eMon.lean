import OZ.Lemmas.RegDocsMon
/-
C20 (e) — soundness of the `docs` MONITOR that decides the property on implementation traces.

`./check C20` reports a concrete violation in a `docs` sequence exactly when
`OZ.RegDocs.Mon.checkCore` (the sub-driver's monitor on parsed values, OZ/Model/RegDocsMon.lean)
returns a message on the implementation's observations. Here it is proved that on the observations
of the MODEL the monitor never returns a message, for every label parameter `u` and every finite
history of commands — `set_document` / `remove_document` with arbitrary arguments, `fill a b` (the
names a..b-1 set one by one, the accepted ones committed) and the state injection `preload n` (the
names 0..n-1 set one by one) — `monitor_accepts_every_model_trace`. Consequences: a monitor failure
is never a false alarm of the monitor itself, and every conclusion it evaluates (absent names
refused; a URI of 200 accepted and of 201 refused; the 5 000th document accepted, the next new name
refused while updates in place stay accepted; the count, the order-independent sums of the names,
the printed enumeration, `get_document` over the probes, `get_document_by_index` succeeding exactly
below the count with a stored name, bucket i holding min(50, n - 50 i) entries) is a THEOREM about
the model, in the monitor's own executable wording.

`modelObs s u c ok` is the data the model driver prints for state `s` after command `c`
(`stepLine` / `showState` of OZ/Drv/C20Docs.lean): the tag (`ok` iff every op of the command was
accepted), `n=` `getDocumentCount`, `sum=` / `sq=` the sums of the names of the concatenated buckets
0..nBuckets n - 1, `list=` those entries in full when there are at most 16 (a digest otherwise, which
the monitor does not read), `g=` / `at=` the graphs of `getDocument` and of the name of
`getDocumentByIndex` over the probe names / indices `probes u c n`, `bk=` the lengths of the buckets
0..nBuckets n.
-/
namespace OZ.RegDocs.Mon
open OZ.Reg OZ.RegMon OZ.RegDocs

/-- the entries the driver enumerates: buckets 0..nBuckets n - 1 concatenated -/
def flat (s : State) : List Entry := (List.range (nBuckets (getDocumentCount s))).flatMap (getDocuments s)

/-- the observation the harness / the model driver print for a state -/
def modelObs (s : State) (u : Nat) (c : Cmd) (ok : Bool) : Obs :=
  { ok := ok,
    n := getDocumentCount s,
    sum := sum1 ((flat s).map (·.1)),
    sq := sumSq ((flat s).map (·.1)),
    full := if (flat s).length ≤ 16 then some ((flat s).map (fun e => (e.1, some e.2))) else none,
    gp := (probes u c (getDocumentCount s)).1.map (fun nm => (nm, getDocument s nm)),
    atL := (probes u c (getDocumentCount s)).2.map (fun i => (i, (getDocumentByIndex s i).map (·.1))),
    bk := (List.range (nBuckets (getDocumentCount s) + 1)).map (fun b => (getDocuments s b).length) }

/-- the model's state after a command: the accepted ops are committed one by one -/
def nextC (s : State) (c : Cmd) : State := ((cmdOps c).foldl mstep (s, true)).1

def accepted (s : State) (c : Cmd) : Bool := ((cmdOps c).foldl mstep (s, true)).2

theorem getters_quiet {g : Mon} {s : State} {u : Nat} (ha : Agree g s u) (c : Cmd) (ok : Bool) :
    firstFail (getters g (modelObs s u c ok)) = none := by
  obtain ⟨l, hl⟩ := ha.list
  have hfl : flat s = l := rep_flat hl.rep
  have hcnt : getDocumentCount s = l.length := hl.rep.count
  have hlen : l.length = g.map.length := hl.len.symm
  have hnames : (names g).Perm (l.map (·.1)) := hl.perm.map _
  apply firstFail_all_none
  intro x hx
  simp only [getters, List.mem_cons, List.not_mem_nil, or_false] at hx
  rcases hx with rfl | rfl | rfl | rfl | rfl | rfl
  · exact chk_decide (by show getDocumentCount s = _; rw [hcnt, hlen]) _
  · refine chk_decide ?_ _
    show sum1 ((flat s).map (·.1)) = _ ∧ sumSq ((flat s).map (·.1)) = _
    rw [hfl]
    exact ⟨(sum1_perm hnames).symm, (sumSq_perm hnames).symm⟩
  · show (match (if (flat s).length ≤ 16 then some ((flat s).map (fun e => (e.1, some e.2))) else none) with
      | some l => chk (fullOk g l) _
      | none => none) = none
    split
    · rename_i l' hl'
      split at hl'
      · injection hl' with hl'; subst hl'
        rw [hfl]
        exact chk_of (fullOk_model hl) _
      · cases hl'
    · rfl
  · exact chk_of (all_graph _ _ _ (fun n _ => gpOk_model hl n)) _
  · refine chk_of ?_ _
    show ((probes u c (getDocumentCount s)).2.map (fun i => (i, (getDocumentByIndex s i).map (·.1)))).all
      (atOk g (getDocumentCount s)) = true
    rw [hcnt]
    exact all_graph _ _ _ (fun i _ => atOk_model hl i)
  · refine chk_decide ?_ _
    show (List.range (nBuckets (getDocumentCount s) + 1)).map (fun b => (getDocuments s b).length) =
      bkWant (getDocumentCount s)
    rw [hcnt]
    exact bk_model hl.rep

/-- **one command**: fed with the model's own observation of any command (every op accepted, or
some refused), the monitor reports nothing and its plain map keeps describing the model's state -/
theorem monitor_sound_step {g : Mon} {s : State} {u : Nat} (ha : Agree g s u) (c : Cmd) :
    (checkCore g c (modelObs (nextC s c) u c (accepted s c))).2 = none ∧
    Agree (checkCore g c (modelObs (nextC s c) u c (accepted s c))).1 (nextC s c) u := by
  obtain ⟨ha', hok⟩ := fold_agree (cmdOps c) g s u true "" false ha
  have q := getters_quiet ha' c (accepted s c)
  refine ⟨?_, ha'⟩
  show firstFail (acceptFail (accepted s c) c (foldPlain g c) :: getters (foldPlain g c).1 _) = none
  have : acceptFail (accepted s c) c (foldPlain g c) = none := by
    unfold acceptFail
    exact if_pos hok.symm
  rw [this, firstFail_none_cons]
  exact q

def monitorRun (u : Nat) : Mon → State → List Cmd → Option String
  | _, _, [] => none
  | g, s, c :: cs =>
    match (checkCore g c (modelObs (nextC s c) u c (accepted s c))).2 with
    | some msg => some msg
    | none => monitorRun u (checkCore g c (modelObs (nextC s c) u c (accepted s c))).1 (nextC s c) cs

/-- the monitor's initial state for a sequence (what `minit` builds from the label) -/
def monInit (u : Nat) : Mon := { map := [], u := u }

/-- **monitor soundness**: for every label parameter `u` and every finite history of commands —
`set_document` / `remove_document` with any names, URI lengths, hashes and timestamps, fills and
preloads of any size, accepted or refused — the monitor that the sub-driver's `minit` builds reports
nothing on the observations of the model that the sub-driver's `initM` builds -/
theorem monitor_accepts_every_model_trace (u : Nat) (cs : List Cmd) :
    monitorRun u (monInit u) init cs = none :=
  OZ.RegMon.run_quiet (R := fun g s => Agree g s u) (fun _ _ => rfl) (fun _ _ _ _ h => by rw [monitorRun, h]) cs
    (fun c _ _ _ ha => monitor_sound_step ha c) _ _ ⟨rfl, [], rep_init, List.nodup_nil, fun x => Iff.rfl⟩

/-! ### non-vacuity: the monitor is not trivially silent -/

/-- an accepted removal of an absent name, a refused valid document, a wrong count, a name listed
twice, a wrong document, an index beyond the count and wrong bucket lengths are reported -/
example :
    (checkCore (monInit 1) (.one (.remove 3)) ⟨true, 0, 0, 0, some [], [], [], [0]⟩).2.isSome = true ∧
    (checkCore (monInit 1) (.one (.set 3 1 1 1)) ⟨false, 0, 0, 0, some [], [], [], [0]⟩).2.isSome = true ∧
    (checkCore (monInit 1) (.one (.set 3 1 1 1)) ⟨true, 2, 4, 16, none, [], [], [2, 0]⟩).2.isSome = true ∧
    fullOk { map := [(3, ⟨1, 1, 1⟩)], u := 1 } [(3, some ⟨1, 1, 1⟩), (3, some ⟨1, 1, 1⟩)] = false ∧
    gpOk { map := [(3, ⟨1, 1, 1⟩)], u := 1 } (3, some ⟨2, 1, 1⟩) = false ∧
    atOk { map := [(3, ⟨1, 1, 1⟩)], u := 1 } 1 (1, some 3) = false ∧
    bkWant 51 ≠ [50, 0, 0] := by
  refine ⟨by decide, by decide, by decide, by decide, by decide, by decide, by decide⟩

end OZ.RegDocs.Mon
