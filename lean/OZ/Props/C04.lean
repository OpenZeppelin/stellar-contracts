import OZ.Lemmas.RwaModules
import OZ.Props.C01
/-
C04 — RWA tokens never move past the compliance, identity, freeze and pause gates.

The model (OZ/Model/Rwa.lean) mirrors `impl RWA` of packages/tokens/src/rwa/storage.rs, in which
`transfer_from` calls `validate_transfer` (without that call: `legacyRun`, at the end of this file),
the pause flag of contract-utils/pausable, and the wiring of the harness
token (operator = admin + `require_auth`). The compliance contract is the library's modular
compliance (packages/tokens/src/rwa/compliance/storage.rs): per hook an ordered registry of
modules, `can_transfer` / `can_create` = the loop over the registered modules that stops at the
first rejection, `transferred` / `created` / `destroyed` = fan-out to the registered modules for a
bound token. The identity verifier and the compliance MODULES are oracles: arbitrary functions in
the state, replaced at will by `env*` operations, so every statement holds for every behaviour
of those contracts. `s` is always the state BEFORE the
call, `s'` the state after; amounts are arbitrary integers; `auth` is an arbitrary set of
authorizing addresses; histories are arbitrary finite lists of operations.
-/
namespace OZ.Rwa
open OZ.Host OZ.Fungible

/-- **compliance_approves_iff_all_modules**: `compliance::can_transfer` answers `true` iff EVERY
module registered for the CanTransfer hook approves this (from, to, amount) — a rejection by any
module, wherever it sits in the registration order, is a rejection; likewise `can_create`. -/
theorem compliance_approves_iff_all_modules (s : State) (f t : Nat) (amt : Int) :
    ((compCanTransfer s f t amt).2 = true ↔ ∀ m ∈ s.mods .canTransfer, s.modCanTransfer m f t amt = true) ∧
    ((compCanCreate s t amt).2 = true ↔ ∀ m ∈ s.mods .canCreate, s.modCanCreate m t amt = true) :=
  ⟨consult_true_iff _ _, consult_true_iff _ _⟩

/-- which modules the verdict loop calls: all of them, in registration order, when it approves;
otherwise exactly the approving prefix followed by the FIRST rejecting module (short-circuit) -/
theorem compliance_consults (s : State) (f t : Nat) (amt : Int) :
    ((compCanTransfer s f t amt).2 = true → (compCanTransfer s f t amt).1 = s.mods .canTransfer) ∧
    ((compCanTransfer s f t amt).2 = false → ∃ pre m post, s.mods .canTransfer = pre ++ m :: post ∧
      (∀ x ∈ pre, s.modCanTransfer x f t amt = true) ∧ s.modCanTransfer m f t amt = false ∧
      (compCanTransfer s f t amt).1 = pre ++ [m]) :=
  ⟨consult_called_all _ _, consult_called_until_veto _ _⟩

/-- **holder_move_gated**: a successful `transfer` OR `transfer_from` of `amt` from `f` to `t`
implies: not paused, neither party's address frozen, `amt` within the unfrozen balance of `f`,
both parties verified, and EVERY compliance module registered for CanTransfer approved it
(and the token is bound to the compliance contract). -/
theorem holder_move_gated (c : Cfg) (s s' : State) (auth : List Nat) (op : Op) (f t : Nat) (amt : Int)
    (hop : op.holderMove = some (f, t, amt)) (h : apply c s auth op = .ok s') :
    s.paused = false ∧ s.addrFrozen f = false ∧ s.addrFrozen t = false ∧
    amt ≤ s.base.bal f - s.frozen f ∧ s.idOk f = true ∧ s.idOk t = true ∧
    (∀ m ∈ s.mods .canTransfer, s.modCanTransfer m f t amt = true) ∧ s.bound = true := by
  have p := apply_holderMove hop h
  have g := p.gates
  exact ⟨g.notPaused, g.fromNotFrozen, g.toNotFrozen, g.free, g.fromVerified, g.toVerified,
    (consult_true_iff _ _).mp g.compliant, p.bound⟩

/-- who stands behind a holder move: the holder itself, or a spender with a sufficient
unexpired allowance -/
theorem holder_move_authorized (c : Cfg) (s s' : State) (auth : List Nat) (sp f t : Nat) (amt : Int) :
    (apply c s auth (.transfer f t amt) = .ok s' → f ∈ auth) ∧
    (apply c s auth (.transferFrom sp f t amt) = .ok s' →
      sp ∈ auth ∧ amt ≤ Fungible.allowance s.base f sp) :=
  ⟨fun h => (transfer_ok (apply_ok h)).1,
   fun h => ⟨(transferFrom_ok (apply_ok h)).1, (transferFrom_ok (apply_ok h)).2.1⟩⟩

/-- a holder move moves exactly `amt` from `f` to `t`, nothing else, and leaves the freeze
bookkeeping and the pause flag alone -/
theorem holder_move_effect (c : Cfg) (s s' : State) (auth : List Nat) (op : Op) (f t : Nat) (amt : Int)
    (hop : op.holderMove = some (f, t, amt)) (h : apply c s auth op = .ok s') :
    0 ≤ amt ∧ s'.base.supply = s.base.supply ∧
    (f ≠ t → s'.base.bal f = s.base.bal f - amt ∧ s'.base.bal t = s.base.bal t + amt) ∧
    (f = t → s'.base.bal f = s.base.bal f) ∧
    (∀ x, x ≠ f → x ≠ t → s'.base.bal x = s.base.bal x) ∧
    s'.frozen = s.frozen ∧ s'.addrFrozen = s.addrFrozen ∧ s'.paused = s.paused := by
  have p := apply_holderMove hop h
  obtain ⟨m1, m2⟩ := moved_apart p.bal
  refine ⟨p.nonneg, p.supply, m1, ?_, m2, p.frozen, p.addrFrozen, p.paused⟩
  intro hft; subst hft; rw [p.bal f, if_pos rfl, if_pos rfl]; omega

/-- **mint_gated**: a successful mint implies a verified recipient, the approval of EVERY module
registered for CanCreate, and (harness policy) an authorizing operator who is the admin -/
theorem mint_gated (c : Cfg) (s s' : State) (auth : List Nat) (t op : Nat) (amt : Int)
    (h : apply c s auth (.mint t amt op) = .ok s') :
    s.idOk t = true ∧ (∀ m ∈ s.mods .canCreate, s.modCanCreate m t amt = true) ∧
    op ∈ auth ∧ op = s.admin := by
  obtain ⟨⟨ha, hb⟩, hm⟩ := apply_ok h
  have p := (mint_ok hm).1
  exact ⟨p.verified, (consult_true_iff _ _).mp p.compliant, ha, hb⟩

/-- every supervisory entry point of the harness token needs the admin's authorization -/
theorem supervisory_needs_admin (c : Cfg) (s s' : State) (auth : List Nat) (op : Op)
    (hs : op.required ≠ [] ∧ op.holderMove = none ∧ (∀ o sp a lu, op ≠ .approve o sp a lu))
    (h : apply c s auth op = .ok s') : op.required = [s.admin] ∧ s.admin ∈ auth := by
  cases op with
  | transfer f t a => simp [Op.holderMove] at hs
  | transferFrom sp f t a => simp [Op.holderMove] at hs
  | approve o sp a lu => exact absurd rfl (hs.2.2 o sp a lu)
  | advance | envIdOk | envRecTarget | envModule => exact absurd rfl hs.1
  | _ => obtain ⟨⟨ha, rfl⟩, -⟩ := apply_ok h; exact ⟨rfl, ha⟩

/-! ### 0 ≤ frozen ≤ balance -/

theorem apply_frozenInv (c : Cfg) {s s' : State} (hi : FrozenInv s) (auth : List Nat) (op : Op)
    (h : apply c s auth op = .ok s') : FrozenInv s' :=
  (apply_step h).elim fun _ st => st.frozenInv hi

/-- **frozen_le_balance**: in every reachable state — after any finite history of mint /
transfer / transfer_from / approve / forced_transfer / burn / recover_balance / freeze /
unfreeze / set_address_frozen / pause / unpause calls, registration and removal of compliance
modules, binding and unbinding of the token, ledger movement and arbitrary changes of the identity
verifier's and the compliance modules' answers, with arbitrary amounts and authorizing sets —
every account has `0 ≤ frozen tokens ≤ balance`. -/
theorem frozen_le_balance (c : Cfg) (now admin : Nat) (ops : List (List Nat × Op)) (a : Nat) :
    0 ≤ (run c (init now admin) ops).frozen a ∧
    (run c (init now admin) ops).frozen a ≤ (run c (init now admin) ops).base.bal a :=
  run_induction (P := FrozenInv) (fun x _ _ _ hi h => apply_frozenInv c hi x.1 x.2 h)
    (by intro x; simp [init, Fungible.init]) a

/-- consequently the free balance `balance − frozen` that `validate_transfer` compares against is
never negative (that its subtraction stays within i128 is `free_tokens_no_panic`) -/
theorem free_tokens_nonneg (c : Cfg) (now admin : Nat) (ops : List (List Nat × Op)) (a : Nat) :
    0 ≤ (run c (init now admin) ops).base.bal a - (run c (init now admin) ops).frozen a := by
  have := frozen_le_balance c now admin ops a; omega

/-- the code's comment "frozen tokens cannot be greater than total balance" is true, so the
unchecked `total_balance - frozen_tokens` of `get_free_tokens` is a non-negative i128 and never
panics (given the invariants, which hold in every reachable state) -/
theorem free_tokens_no_panic {U : List Nat} (hn : U.Nodup) {s : State} (hi : Inv U s.base)
    (hf : FrozenInv s) (a : Nat) : getFreeTokens s a = .ok (s.base.bal a - s.frozen a) := by
  unfold getFreeTokens
  apply chk_in
  have h1 := hf a; have h2 := bal_le_supply hn hi a; have h3 := hi.supHi
  unfold in128 I128_MIN; constructor <;> omega

/-- the "unfreeze if needed" block of `forced_transfer` / `burn` never panics in its unchecked
subtractions once the balance check `amount ≤ balance` has passed -/
theorem supervisory_unfreeze_no_panic {U : List Nat} (hn : U.Nodup) {s : State} (hi : Inv U s.base)
    (hf : FrozenInv s) (a : Nat) (amt : Int) (hle : amt ≤ s.base.bal a) :
    ∃ s', unfreezeFor s a amt = .ok s' := by
  unfold unfreezeFor
  rw [free_tokens_no_panic hn hi hf a, ok_bind]
  have h1 := hf a; have h2 := bal_le_supply hn hi a; have h3 := hi.supHi
  split
  · rename_i hlt
    have r1 : in128 (amt - (s.base.bal a - s.frozen a)) := by
      unfold in128 I128_MIN; constructor <;> omega
    rw [chk_in r1, ok_bind]
    have r2 : in128 (s.frozen a - (amt - (s.base.bal a - s.frozen a))) := by
      unfold in128 I128_MIN; constructor <;> omega
    rw [chk_in r2, ok_bind]
    exact ⟨_, rfl⟩
  · exact ⟨_, rfl⟩

/-! ### supervisory operations unfreeze only the minimum -/

/-- **forced_unfreezes_minimum**: after a forced transfer of `amt` out of `f`,
`frozen' f = min (frozen f) (balance f − amt)`; nobody else's frozen amount changes -/
theorem forced_unfreezes_minimum (c : Cfg) (s s' : State) (auth : List Nat) (f t op : Nat) (amt : Int)
    (h : apply c s auth (.forcedTransfer f t amt op) = .ok s') :
    s'.frozen f = min (s.frozen f) (s.base.bal f - amt) ∧ (∀ x, x ≠ f → s'.frozen x = s.frozen x) ∧
    s'.addrFrozen = s.addrFrozen ∧ s'.paused = s.paused := by
  have p := (forcedTransfer_ok (apply_ok h).2).1
  refine ⟨?_, ?_, p.addrFrozen, p.paused⟩
  · rw [p.frozen f, if_pos rfl, frozenAfter_eq_min]
  · intro x hx; rw [p.frozen x, if_neg hx]

/-- **burn_unfreezes_minimum**: likewise for `burn` -/
theorem burn_unfreezes_minimum (c : Cfg) (s s' : State) (auth : List Nat) (a op : Nat) (amt : Int)
    (h : apply c s auth (.burn a amt op) = .ok s') :
    s'.frozen a = min (s.frozen a) (s.base.bal a - amt) ∧ (∀ x, x ≠ a → s'.frozen x = s.frozen x) ∧
    s'.addrFrozen = s.addrFrozen ∧ s'.paused = s.paused := by
  have p := (burn_ok (apply_ok h).2).1
  refine ⟨?_, ?_, p.addrFrozen, p.paused⟩
  · rw [p.frozen a, if_pos rfl, frozenAfter_eq_min]
  · intro x hx; rw [p.frozen x, if_neg hx]

/-- the balances a forced transfer / burn leaves: exactly `amt` moved / destroyed, only if the
holder had that much -/
theorem supervisory_move_effect (c : Cfg) (s s' : State) (auth : List Nat) (f t op : Nat) (amt : Int) :
    (apply c s auth (.forcedTransfer f t amt op) = .ok s' →
      0 ≤ amt ∧ amt ≤ s.base.bal f ∧ s'.base.supply = s.base.supply ∧
      (f ≠ t → s'.base.bal f = s.base.bal f - amt ∧ s'.base.bal t = s.base.bal t + amt) ∧
      (∀ x, x ≠ f → x ≠ t → s'.base.bal x = s.base.bal x)) ∧
    (apply c s auth (.burn f amt op) = .ok s' →
      0 ≤ amt ∧ amt ≤ s.base.bal f ∧ s'.base.supply = s.base.supply - amt ∧
      s'.base.bal f = s.base.bal f - amt ∧ (∀ x, x ≠ f → s'.base.bal x = s.base.bal x)) := by
  constructor
  · intro h
    have p := (forcedTransfer_ok (apply_ok h).2).1
    obtain ⟨h0, hle, hs, -, -, hb⟩ := update_move p.update
    exact ⟨h0, hle, hs, moved_apart hb⟩
  · intro h
    have p := (burn_ok (apply_ok h).2).1
    obtain ⟨h0, hle, hs, -, -, hb⟩ := update_burn p.update
    refine ⟨h0, hle, hs, ?_, ?_⟩
    · rw [hb f, if_pos rfl]
    · intro x hx; rw [hb x, if_neg hx]

/-- recovery is possible only towards the verified, registered recovery target of the old
account, and only for the admin -/
theorem recover_only_to_target (c : Cfg) (s s' : State) (auth : List Nat) (old new op : Nat)
    (h : apply c s auth (.recover old new op) = .ok s') :
    s.recTarget old = some new ∧ s.idOk new = true ∧ op ∈ auth ∧ op = s.admin := by
  obtain ⟨⟨ha, hb⟩, r, hr⟩ := apply_ok h
  obtain ⟨h1, h2, -⟩ := recoverBalance_ok hr
  exact ⟨h2, h1, ha, hb⟩

/-- **recover_moves_everything**: a recovery that returns `true` (there was something to recover)
moves the WHOLE balance, the partially frozen amount and the address-freeze status of the old
account to the new one and changes nothing else: no other balance, no other frozen amount, no
other address flag, not the supply. (`0 ≤ frozen old` holds in every reachable state.) -/
theorem recover_moves_everything (c : Cfg) (s s' : State) (auth : List Nat) (old new op : Nat)
    (hne : old ≠ new) (hf : 0 ≤ s.frozen old)
    (h : applyRet c s auth (.recover old new op) = .ok (s', true)) :
    s.base.bal old ≠ 0 ∧
    s'.base.bal old = 0 ∧ s'.base.bal new = s.base.bal new + s.base.bal old ∧
    (∀ x, x ≠ old → x ≠ new → s'.base.bal x = s.base.bal x) ∧ s'.base.supply = s.base.supply ∧
    s'.frozen old = 0 ∧ s'.frozen new = s.frozen new + s.frozen old ∧
    (∀ x, x ≠ old → x ≠ new → s'.frozen x = s.frozen x) ∧
    s'.addrFrozen new = (s.addrFrozen new || s.addrFrozen old) ∧
    (∀ x, x ≠ new → s'.addrFrozen x = s.addrFrozen x) ∧ s'.paused = s.paused := by
  cases applyRet_step h with
  | quiet hq => cases hq
  | recoverMove _ _ hnz p =>
    obtain ⟨h0, hle, hs, -, -, hb⟩ := update_move p.update
    obtain ⟨m1, m2⟩ := moved_apart hb
    obtain ⟨f1, f2⟩ := moved_apart (p.frozen_moved hf)
    refine ⟨hnz, by have := (m1 hne).1; omega, (m1 hne).2, m2, hs, by have := (f1 hne).1; omega, (f1 hne).2, f2,
      ?_, ?_, p.paused⟩
    · rw [p.addrFrozen new, if_pos rfl]
    · intro x hx; rw [p.addrFrozen x, if_neg hx]

/-- a recovery onto the same account, or one that returns `false` (nothing to recover), changes
no balance, no frozen amount, no address flag -/
theorem recover_degenerate (c : Cfg) (s s' : State) (auth : List Nat) (old new op : Nat) (r : Bool)
    (hf : 0 ≤ s.frozen old ∧ s.frozen old ≤ s.base.bal old) (hd : old = new ∨ r = false)
    (h : applyRet c s auth (.recover old new op) = .ok (s', r)) :
    (r = false ↔ s.base.bal old = 0) ∧
    (∀ x, s'.base.bal x = s.base.bal x) ∧ (∀ x, s'.frozen x = s.frozen x) ∧
    (∀ x, s'.addrFrozen x = s.addrFrozen x) := by
  cases applyRet_step h with
  | quiet hq => cases hq
  | recoverNone _ _ hz => exact ⟨⟨fun _ => hz, fun _ => rfl⟩, fun _ => rfl, fun _ => rfl, fun _ => rfl⟩
  | recoverMove _ _ hnz p =>
    rcases hd with hon | hd
    · subst hon
      obtain ⟨h0, hle, hs, -, -, hb⟩ := update_move p.update
      refine ⟨⟨fun h => (by cases h), fun h => absurd h hnz⟩, ?_, ?_, ?_⟩
      · intro x; rw [hb x]; split
        · rename_i hx; subst hx; rw [if_pos rfl]; omega
        · rfl
      · intro x; rw [p.frozen_moved hf.1 x]; split
        · rename_i hx; subst hx; rw [if_pos rfl]; omega
        · rfl
      · intro x; rw [p.addrFrozen x]; split
        · rename_i hx; subst hx; simp
        · rfl
    · cases hd

/-! ### the compliance contract is notified exactly once -/

/-- **compliance_notified_once**: a successful invocation appends to the compliance
notification log exactly what it owes — one `transferred(from, to, amount)` for transfer /
transfer_from / forced_transfer / recovery (whole balance), one `created(to, amount)` for mint,
one `destroyed(from, amount)` for burn — and nothing for any other operation -/
theorem compliance_notified_once (c : Cfg) (s s' : State) (auth : List Nat) (op : Op)
    (h : apply c s auth op = .ok s') : s'.notes = s.notes ++ op.owedNotes s :=
  (apply_step h).elim fun _ st => st.logs.1

/-- a failed invocation notifies nobody (it is rolled back as a whole) -/
theorem failed_not_notified (c : Cfg) (s : State) (auth : List Nat) (op : Op) (e : Err)
    (h : apply c s auth op = .error e) : (step c s (auth, op)).notes = s.notes := by
  simp [step, h]

/-- over a whole history: the notification log is exactly the list of owed notifications of the
accepted operations, in order — none missing, none duplicated, none invented -/
theorem notifications_of_history (c : Cfg) (s : State) (ops : List (List Nat × Op)) :
    (run c s ops).notes = s.notes ++ owedRun c s ops := by
  induction ops generalizing s with
  | nil => simp [run, owedRun]
  | cons x xs ih =>
    have hrun : run c s (x :: xs) = run c (step c s x) xs := rfl
    have e1 : owedRun c s (x :: xs) = (match apply c s x.1 x.2 with
      | .ok s' => x.2.owedNotes s ++ owedRun c s' xs
      | .error _ => owedRun c s xs) := rfl
    rw [hrun, ih (step c s x), e1]
    unfold step
    cases hx : apply c s x.1 x.2 with
    | error e => rfl
    | ok s' =>
      show s'.notes ++ owedRun c s' xs = s.notes ++ (x.2.owedNotes s ++ owedRun c s' xs)
      rw [compliance_notified_once c s s' x.1 x.2 hx, List.append_assoc]

/-! ### the hooks fan out to the registered modules, exactly once each -/

/-- the module registry never holds a module twice for a hook, after any history of
`add_module_to` / `remove_module_from` (and everything else) -/
theorem registry_nodup (c : Cfg) (now admin : Nat) (ops : List (List Nat × Op)) (h : Hook) :
    ((run c (init now admin) ops).mods h).Nodup :=
  run_induction (P := ModsNodup) (fun _ _ _ _ hi h => (apply_step h).elim fun _ st => st.modsNodup hi)
    (by intro k; simp [init]) h

/-- what the registry operations do: `add_module_to` appends (refusing a registered module and
the 21st one), `remove_module_from` removes exactly that module and keeps the order of the rest;
both need the admin and touch no other hook -/
theorem registry_ops (c : Cfg) (s s' : State) (auth : List Nat) (hk : Hook) (m op : Nat) :
    (apply c s auth (.addModule hk m op) = .ok s' →
      m ∉ s.mods hk ∧ (s.mods hk).length < MAX_MODULES ∧ s'.mods hk = s.mods hk ++ [m] ∧
      (∀ k, k ≠ hk → s'.mods k = s.mods k) ∧ op ∈ auth ∧ op = s.admin) ∧
    (apply c s auth (.removeModule hk m op) = .ok s' →
      m ∈ s.mods hk ∧ s'.mods hk = (s.mods hk).erase m ∧
      (∀ k, k ≠ hk → s'.mods k = s.mods k) ∧ op ∈ auth ∧ op = s.admin) := by
  constructor
  · intro h
    obtain ⟨⟨ha, hb⟩, hm⟩ := apply_ok h
    obtain ⟨h1, h2, e⟩ := addModule_ok hm
    subst e
    exact ⟨h1, h2, by simp [emit], fun k hk' => by simp [emit, hk'], ha, hb⟩
  · intro h
    obtain ⟨⟨ha, hb⟩, hm⟩ := apply_ok h
    obtain ⟨h1, e⟩ := removeModule_ok hm
    subst e
    exact ⟨h1, by simp [emit], fun k hk' => by simp [emit, hk'], ha, hb⟩

/-- **hooks_fan_out_exactly_once**: a successful invocation delivers to the compliance modules
exactly `op.owedModCalls`: for transfer / transfer_from the `can_transfer` query to the consulted
verdict modules, then ONE `on_transfer(from, to, amount)` to every module registered for the
Transferred hook, in registration order; forced_transfer / recovery: one `on_transfer` each;
mint: the `can_create` queries, then one `on_created` per Created module; burn: one
`on_destroyed` per Destroyed module; every other operation: nothing. -/
theorem hooks_fan_out_exactly_once (c : Cfg) (s s' : State) (auth : List Nat) (op : Op)
    (h : apply c s auth op = .ok s') : s'.modCalls = s.modCalls ++ op.owedModCalls s :=
  (apply_step h).elim fun _ st => st.logs.2.1

/-- ... so that, the registry being duplicate-free, module `m` receives from a successful holder
move exactly: one `can_transfer` query iff it is registered for CanTransfer, then one
`on_transfer` iff it is registered for Transferred — never two, never one it is not registered
for -/
theorem holder_move_module_view (c : Cfg) (s s' : State) (auth : List Nat) (op : Op) (f t : Nat) (amt : Int)
    (hn : ModsNodup s) (hop : op.holderMove = some (f, t, amt)) (h : apply c s auth op = .ok s') (m : Nat) :
    (op.owedModCalls s).filter (fun x => x.1 = m) =
      (if m ∈ s.mods .canTransfer then [(m, ModCall.canTransfer f t amt)] else []) ++
      (if m ∈ s.mods .transferred then [(m, ModCall.onTransfer f t amt)] else []) := by
  have hall : (compCanTransfer s f t amt).1 = s.mods .canTransfer :=
    consult_called_all _ _ (apply_holderMove hop h).gates.compliant
  have e : op.owedModCalls s = callsTo (compCanTransfer s f t amt).1 (.canTransfer f t amt) ++
      callsTo (s.mods .transferred) (.onTransfer f t amt) := by
    cases op with
    | transfer | transferFrom => cases hop; rfl
    | _ => cases hop
  rw [e, hall, List.filter_append, callsTo_filter _ _ _ (hn _), callsTo_filter _ _ _ (hn _)]

/-- the calls a forced transfer / burn owes (`Op.owedModCalls`; an accepted one delivers exactly these,
`hooks_fan_out_exactly_once`) reach each registered module exactly once and nobody else (the same
shape holds for mint's `on_created`) -/
theorem supervisory_module_view (s : State) (hn : ModsNodup s) (f t x op m : Nat) (amt : Int) :
    ((Op.forcedTransfer f t amt op).owedModCalls s).filter (fun y => y.1 = m) =
      (if m ∈ s.mods .transferred then [(m, ModCall.onTransfer f t amt)] else []) ∧
    ((Op.burn x amt op).owedModCalls s).filter (fun y => y.1 = m) =
      (if m ∈ s.mods .destroyed then [(m, ModCall.onDestroyed x amt)] else []) :=
  ⟨callsTo_filter _ _ _ (hn _), callsTo_filter _ _ _ (hn _)⟩

/-- a token that is not bound to the compliance contract cannot notify it, hence cannot move,
mint or burn at all -/
theorem moves_need_bound_token (c : Cfg) (s s' : State) (auth : List Nat) (op : Op)
    (hop : op.owedNotes s ≠ []) (h : apply c s auth op = .ok s') : s.bound = true :=
  (apply_step h).elim fun _ st => st.logs.2.2 hop

/-! ### C01 for this flavour: conservation and replay -/

/-- one successful invocation preserves "supply = Σ balances, balances ≥ 0, supply a
non-negative i128" and changes the supply by exactly `+amount` (mint), `−amount` (burn), `0`
(everything else, including forced transfers and recovery) -/
theorem apply_inv {U : List Nat} (hn : U.Nodup) (c : Cfg) {s s' : State} (hi : Inv U s.base)
    (auth : List Nat) (op : Op) (hU : ∀ a ∈ op.addrs, a ∈ U) (h : apply c s auth op = .ok s') :
    Inv U s'.base ∧ s'.base.supply = s.base.supply + supplyDelta op :=
  (apply_step h).elim fun _ st => st.inv hn hi hU

/-- conservation in every reachable state of the RWA token -/
theorem inv_reachable (c : Cfg) (now admin : Nat) (U : List Nat) (hn : U.Nodup)
    (ops : List (List Nat × Op)) (hU : ∀ x ∈ ops, ∀ a ∈ x.2.addrs, a ∈ U) :
    Inv U (run c (init now admin) ops).base :=
  run_induction (P := fun s => Inv U s.base) (fun x hx _ _ hi h => (apply_inv hn c hi x.1 x.2 (hU x hx) h).1)
    (init_inv U now)

/-- replaying the mint / burn / transfer events the token emitted (including those of forced
transfers and recoveries) from the empty map reproduces every balance, after any history -/
theorem replay_events (c : Cfg) (now admin : Nat) (ops : List (List Nat × Op)) :
    replay (run c (init now admin) ops).events = (run c (init now admin) ops).base.bal :=
  run_induction (P := ReplayOK) (fun _ _ _ _ hi h => (apply_step h).elim fun _ st => st.replayOK hi)
    (by simp [ReplayOK, init, Fungible.init, replay])

/-! ### `transfer_from` without `validate_transfer` (`legacyRun`) against the model (`run`) -/

/-- DESIGN §8-1: mint 100 to account 1, approve 80 to spender 3, freeze 90 of them, freeze the
address, fail its identity, register a CanTransfer module that denies, pause — then
`transfer_from(3, 1, 2, 50)`. -/
def defectOps : List (List Nat × Op) :=
  [([0], .mint 1 100 0), ([1], .approve 1 3 80 5000), ([0], .freezePartial 1 90 0),
   ([0], .setAddressFrozen 1 true 0), ([], .envIdOk 1 false),
   ([0], .addModule .canTransfer 0 0), ([], .envModule 0 (fun _ _ _ => false) (fun _ _ => true)),
   ([0], .pause 0), ([3], .transferFrom 3 1 2 50)]

/-- with a `transfer_from` that does not call `validate_transfer` (`legacyTransferFrom`) the history
above moves 50 tokens through five closed gates and leaves balance 50 < frozen 90 -/
theorem legacy_transferFrom_counterexample :
    (legacyRun ⟨1, 200000⟩ (init 100 0) defectOps).paused = true ∧
    (legacyRun ⟨1, 200000⟩ (init 100 0) defectOps).addrFrozen 1 = true ∧
    (legacyRun ⟨1, 200000⟩ (init 100 0) defectOps).idOk 1 = false ∧
    (legacyRun ⟨1, 200000⟩ (init 100 0) defectOps).base.bal 1 = 50 ∧
    (legacyRun ⟨1, 200000⟩ (init 100 0) defectOps).base.bal 2 = 50 ∧
    (legacyRun ⟨1, 200000⟩ (init 100 0) defectOps).frozen 1 = 90 ∧
    (legacyRun ⟨1, 200000⟩ (init 100 0) defectOps).notes =
      [.created 1 100, .transferred 1 2 50] := by decide

/-- the model's transition rejects that call: nothing moves -/
theorem fixed_transferFrom_rejects :
    (run ⟨1, 200000⟩ (init 100 0) defectOps).base.bal 1 = 100 ∧
    (run ⟨1, 200000⟩ (init 100 0) defectOps).base.bal 2 = 0 ∧
    (run ⟨1, 200000⟩ (init 100 0) defectOps).notes = [.created 1 100] := by decide

/-! ### non-vacuity: concrete histories meet the hypotheses -/

/-- all gates open: holder transfer, allowance transfer at the exact free balance, forced transfer
that has to unfreeze, burn, recovery with a partial freeze and an address freeze -/
def demoOps : List (List Nat × Op) :=
  [([0], .mint 1 1000 0), ([0], .mint 2 10 0), ([1], .approve 1 3 500 5000),
   ([0], .freezePartial 1 700 0), ([1], .transfer 1 2 100), ([3], .transferFrom 3 1 2 200),
   ([3], .transferFrom 3 1 2 1), ([0], .forcedTransfer 1 4 300 0), ([0], .burn 1 50 0),
   ([0], .setAddressFrozen 1 true 0), ([], .envRecTarget 1 (some 2)), ([0], .recover 1 2 0),
   ([2], .transfer 2 4 1)]

example :
    (run ⟨1, 200000⟩ (init 100 0) demoOps).base.bal 1 = 0 ∧
    (run ⟨1, 200000⟩ (init 100 0) demoOps).base.bal 2 = 660 ∧
    (run ⟨1, 200000⟩ (init 100 0) demoOps).base.bal 4 = 300 ∧
    (run ⟨1, 200000⟩ (init 100 0) demoOps).base.supply = 960 ∧
    (run ⟨1, 200000⟩ (init 100 0) demoOps).frozen 1 = 0 ∧
    (run ⟨1, 200000⟩ (init 100 0) demoOps).frozen 2 = 350 ∧
    (run ⟨1, 200000⟩ (init 100 0) demoOps).addrFrozen 2 = true ∧
    (run ⟨1, 200000⟩ (init 100 0) demoOps).notes =
      [.created 1 1000, .created 2 10, .transferred 1 2 100, .transferred 1 2 200,
       .transferred 1 4 300, .destroyed 1 50, .transferred 1 2 350] := by decide

/- the next three examples: the hypotheses of `holder_move_gated` / `forced_unfreezes_minimum` /
`recover_moves_everything` are met by prefixes of that history -/
example : isOk (apply ⟨1, 200000⟩ (run ⟨1, 200000⟩ (init 100 0) (demoOps.take 5)) [3] (.transferFrom 3 1 2 200)) = true := by
  decide
example : isOk (apply ⟨1, 200000⟩ (run ⟨1, 200000⟩ (init 100 0) (demoOps.take 7)) [0] (.forcedTransfer 1 4 300 0)) = true ∧
    (run ⟨1, 200000⟩ (init 100 0) (demoOps.take 7)).frozen 1 = 700 ∧
    (run ⟨1, 200000⟩ (init 100 0) (demoOps.take 8)).frozen 1 = 400 := by decide
example : (match applyRet ⟨1, 200000⟩ (run ⟨1, 200000⟩ (init 100 0) (demoOps.take 11)) [0] (.recover 1 2 0) with
    | .ok (_, r) => r | .error _ => false) = true := by decide
example : ∀ x ∈ demoOps, ∀ a ∈ x.2.addrs, a ∈ [0, 1, 2, 3, 4] := by decide

/-- three CanTransfer modules [0, 1, 2], Transferred modules [1, 2]: a veto of the MIDDLE module
(flat, then by an amount cap) blocks transfer and transfer_from although the last module approves;
an approved transfer consults all three and notifies modules 1 and 2 once each -/
def moduleOps : List (List Nat × Op) :=
  [([0], .mint 1 1000 0), ([1], .approve 1 3 500 5000),
   ([0], .addModule .canTransfer 0 0), ([0], .addModule .canTransfer 1 0), ([0], .addModule .canTransfer 1 0),
   ([0], .addModule .canTransfer 2 0), ([0], .addModule .transferred 1 0), ([0], .addModule .transferred 2 0),
   ([], .envModule 1 (fun _ _ _ => false) (fun _ _ => true)),
   ([1], .transfer 1 2 10), ([3], .transferFrom 3 1 2 10),
   ([], .envModule 1 (fun _ _ a => decide (a ≤ 10)) (fun _ _ => true)),
   ([1], .transfer 1 2 11), ([1], .transfer 1 2 10),
   ([0], .removeModule .canTransfer 0 0), ([0], .unbindToken 0), ([1], .transfer 1 2 1)]

example :
    (run ⟨1, 200000⟩ (init 100 0) moduleOps).base.bal 1 = 990 ∧
    (run ⟨1, 200000⟩ (init 100 0) moduleOps).base.bal 2 = 10 ∧
    (run ⟨1, 200000⟩ (init 100 0) moduleOps).mods .canTransfer = [1, 2] ∧
    (run ⟨1, 200000⟩ (init 100 0) moduleOps).bound = false ∧
    (run ⟨1, 200000⟩ (init 100 0) moduleOps).notes = [.created 1 1000, .transferred 1 2 10] ∧
    (run ⟨1, 200000⟩ (init 100 0) moduleOps).modCalls =
      [(0, .canTransfer 1 2 10), (1, .canTransfer 1 2 10), (2, .canTransfer 1 2 10),
       (1, .onTransfer 1 2 10), (2, .onTransfer 1 2 10)] := by decide

/-- the verdict loop on [allow, deny, allow]: rejected, and the third module is never asked -/
example : consult (fun m => m != 1) [0, 1, 2] = ([0, 1], false) ∧
    consult (fun _ => true) [0, 1, 2] = ([0, 1, 2], true) ∧ consult (fun _ => false) [] = ([], true) := by decide

end OZ.Rwa
