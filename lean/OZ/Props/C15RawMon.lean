import OZ.Model.OpaqueVerify
/-
C15 — soundness of the monitor of the opaque-issuer run (OZ/Model/OpaqueVerify.lean, harness/src/bin/c15raw.rs,
driver OZ/Drv/C15Raw.lean).  The monitor's ghost state is a model `State` and its `ghostStep` is the model's `step`, so the
soundness statement `monRun_quiet` (`monRun s s ops = none`) says that the model agrees with itself; what the check adds is
the comparison of the implementation's `ver` bit with `verifyM` of that state.
-/
namespace OZ.OpaqueVerify
open OZ.Reg OZ.RegTopics

/-- **C15, first sentence, on the model**: verification succeeds exactly when every registered topic has at least
one trusted issuer and, among its trusted issuers, one whose claim for that topic the issuer confirms -/
theorem verifyM_iff (s : State) (l : List (Nat × List Nat)) (h : getClaimTopicsAndIssuers s.reg = some l) :
    verifyM s = true ↔ ∀ p ∈ l, p.2 ≠ [] ∧ ∃ i ∈ p.2, counts s i p.1 = true := by
  unfold verifyM
  rw [h]
  simp only [List.all_eq_true, Bool.and_eq_true, Bool.not_eq_true', List.isEmpty_eq_false_iff, List.any_eq_true]

def monRun : State → State → List Op → Option String
  | _, _, [] => none
  | g, s, op :: rest =>
    match apply s op with
    | some s' =>
      (match (checkCore g op (modelObs s' true)).2 with
       | some m => some m
       | none => monRun (checkCore g op (modelObs s' true)).1 s' rest)
    | none =>
      (match (checkCore g op (modelObs s false)).2 with
       | some m => some m
       | none => monRun (checkCore g op (modelObs s false)).1 s rest)

theorem monRun_quiet (ops : List Op) : ∀ s, monRun s s ops = none := by
  induction ops with
  | nil => intro s; rfl
  | cons op rest ih =>
    intro s
    unfold monRun
    cases ha : apply s op with
    | some s' =>
      have hg : ghostStep s op true = s' := by simp [ghostStep, step, ha]
      simp only [checkCore, modelObs, hg, ne_eq, not_true_eq_false, ↓reduceIte]
      exact ih s'
    | none =>
      have hg : ghostStep s op false = s := rfl
      simp only [checkCore, modelObs, hg, ne_eq, not_true_eq_false, ↓reduceIte]
      exact ih s

/-- **monitor soundness**: for every start time and every finite history, the monitor reports nothing on the
model's observations -/
theorem monitor_accepts_every_model_trace (ts0 : Nat) (ops : List Op) : monRun (init ts0) (init ts0) ops = none :=
  monRun_quiet ops _

/-- non-vacuity: a claim with opaque data counts while its issuer is trusted for the topic and confirms it -/
example :
    let ops := [Op.topic 1 true, .trust 0 [1], .confirm 0 1 1 true, .claim 0 1 1, .time 5000000]
    verifyM (ops.foldl step (init 1000000)) = true ∧
    verifyM ((ops ++ [Op.confirm 0 1 1 false]).foldl step (init 1000000)) = false ∧
    verifyM ((ops ++ [Op.trust 0 []]).foldl step (init 1000000)) = false := by
  decide +kernel

end OZ.OpaqueVerify
