import OZ.Gen.AllowTok
import OZ.Lemmas.GatesGen
/-
C16 — the allow-list gates, re-checked on every run against what the SOURCE says now.

`lean/OZ/Gen/AllowTok.lean` is regenerated by `/verif/tools/rs2lean.py --allowlist` (state-passing mode) from
/repo's current `packages/tokens/src/fungible/extensions/allowlist/storage.rs` — `allowed`, `allow_user`,
`disallow_user` and the gated `transfer`, `transfer_from`, `approve`, `burn`, `burn_from` of `AllowList`
(prefixed `al_` in the generated file) — together with the `Base` functions of `fungible/storage.rs` and
`extensions/burnable/storage.rs` they delegate to, over ONE store (the token's entries plus `Allowed(account)`).

Theorems about the GENERATED code, for every store, ledger, authorization predicate and argument: an accepted gated
call needs every vetted party on the list and is then exactly the ungated `Base` call on the same store (so the list
never changes what an allowed call does); a list change sets / clears exactly this account's entry, touches no token
entry, and is idempotent.
-/
namespace OZ.Gen.AllowTok
open OZ.Rs

def listed (st : AllowTok.Store) (a : Nat) : Bool := (st.Allowed a).isSome

theorem allowed_eq (envr : AllowTok.Reads) (st : AllowTok.Store) (a : Nat) :
    AllowTok.al_allowed envr st a = .ok (listed st a) := by
  unfold AllowTok.al_allowed listed
  cases (st.Allowed a).isSome <;> rfl

/-- `transfer`: both parties listed, then exactly `Base::transfer` -/
theorem gen_gate_transfer (envr : AllowTok.Reads) (st st' : AllowTok.Store) (f t : Nat) (amount : Int)
    (h : AllowTok.al_transfer envr st f t amount = .ok ((), st')) :
    listed st f = true ∧ listed st t = true ∧ AllowTok.transfer envr st f t amount = .ok ((), st') := by
  unfold AllowTok.al_transfer at h
  rw [allowed_eq, allowed_eq] at h
  simp only [Comp.bind_ok] at h
  obtain ⟨hf, h⟩ := Comp.require_eq_ok h
  obtain ⟨ht, h⟩ := Comp.require_eq_ok h
  exact ⟨hf, ht, snd_ok h⟩

/-- `transfer_from`: both parties listed (the spender need not be), then exactly `Base::transfer_from` -/
theorem gen_gate_transfer_from (envr : AllowTok.Reads) (st st' : AllowTok.Store) (sp f t : Nat) (amount : Int)
    (h : AllowTok.al_transfer_from envr st sp f t amount = .ok ((), st')) :
    listed st f = true ∧ listed st t = true ∧ AllowTok.transfer_from envr st sp f t amount = .ok ((), st') := by
  unfold AllowTok.al_transfer_from at h
  rw [allowed_eq, allowed_eq] at h
  simp only [Comp.bind_ok] at h
  obtain ⟨hf, h⟩ := Comp.require_eq_ok h
  obtain ⟨ht, h⟩ := Comp.require_eq_ok h
  exact ⟨hf, ht, snd_ok h⟩

/-- `approve`: the owner listed -/
theorem gen_gate_approve (envr : AllowTok.Reads) (st st' : AllowTok.Store) (o sp : Nat) (amount : Int) (lu : Nat)
    (h : AllowTok.al_approve envr st o sp amount lu = .ok ((), st')) :
    listed st o = true ∧ AllowTok.approve envr st o sp amount lu = .ok ((), st') := by
  unfold AllowTok.al_approve at h
  rw [allowed_eq] at h
  simp only [Comp.bind_ok] at h
  obtain ⟨hf, h⟩ := Comp.require_eq_ok h
  exact ⟨hf, snd_ok h⟩

/-- `burn` / `burn_from`: the account burnt from listed -/
theorem gen_gate_burn (envr : AllowTok.Reads) (st st' : AllowTok.Store) (f : Nat) (amount : Int)
    (h : AllowTok.al_burn envr st f amount = .ok ((), st')) :
    listed st f = true ∧ AllowTok.burn envr st f amount = .ok ((), st') := by
  unfold AllowTok.al_burn at h
  rw [allowed_eq] at h
  simp only [Comp.bind_ok] at h
  obtain ⟨hf, h⟩ := Comp.require_eq_ok h
  exact ⟨hf, snd_ok h⟩

theorem gen_gate_burn_from (envr : AllowTok.Reads) (st st' : AllowTok.Store) (sp f : Nat) (amount : Int)
    (h : AllowTok.al_burn_from envr st sp f amount = .ok ((), st')) :
    listed st f = true ∧ AllowTok.burn_from envr st sp f amount = .ok ((), st') := by
  unfold AllowTok.al_burn_from at h
  rw [allowed_eq] at h
  simp only [Comp.bind_ok] at h
  obtain ⟨hf, h⟩ := Comp.require_eq_ok h
  exact ⟨hf, snd_ok h⟩

/-- a missing party refuses the call, whatever the balances, allowances and authorizations -/
theorem gen_not_listed_refused (envr : AllowTok.Reads) (st : AllowTok.Store) (sp f t : Nat) (amount : Int) (lu : Nat)
    (h : listed st f = false) :
    ((AllowTok.al_transfer envr st f t amount).bind fun _ => Comp.ok ()) = .panic ∧
    ((AllowTok.al_transfer envr st t f amount).bind fun _ => Comp.ok ()) = .panic ∧
    ((AllowTok.al_transfer_from envr st sp f t amount).bind fun _ => Comp.ok ()) = .panic ∧
    ((AllowTok.al_transfer_from envr st sp t f amount).bind fun _ => Comp.ok ()) = .panic ∧
    ((AllowTok.al_approve envr st f sp amount lu).bind fun _ => Comp.ok ()) = .panic ∧
    ((AllowTok.al_burn envr st f amount).bind fun _ => Comp.ok ()) = .panic ∧
    ((AllowTok.al_burn_from envr st sp f amount).bind fun _ => Comp.ok ()) = .panic :=
  ⟨refused fun s' hx => Bool.false_ne_true (h.symm.trans (gen_gate_transfer envr st s' f t amount hx).1),
   refused fun s' hx => Bool.false_ne_true (h.symm.trans (gen_gate_transfer envr st s' t f amount hx).2.1),
   refused fun s' hx => Bool.false_ne_true (h.symm.trans (gen_gate_transfer_from envr st s' sp f t amount hx).1),
   refused fun s' hx => Bool.false_ne_true (h.symm.trans (gen_gate_transfer_from envr st s' sp t f amount hx).2.1),
   refused fun s' hx => Bool.false_ne_true (h.symm.trans (gen_gate_approve envr st s' f sp amount lu hx).1),
   refused fun s' hx => Bool.false_ne_true (h.symm.trans (gen_gate_burn envr st s' f amount hx).1),
   refused fun s' hx => Bool.false_ne_true (h.symm.trans (gen_gate_burn_from envr st s' sp f amount hx).1)⟩

/-- `allow_user`: exactly this account becomes listed, nothing else changes, and it is idempotent -/
theorem gen_allow_user (envr : AllowTok.Reads) (st : AllowTok.Store) (u : Nat) :
    ∃ st', AllowTok.al_allow_user envr st u = .ok ((), st') ∧ listed st' u = true ∧
      (∀ a, a ≠ u → st'.Allowed a = st.Allowed a) ∧
      st'.Balance = st.Balance ∧ st'.TotalSupply = st.TotalSupply ∧ st'.Allowance = st.Allowance ∧
      AllowTok.al_allow_user envr st' u = .ok ((), st') := by
  unfold AllowTok.al_allow_user
  cases h : (st.Allowed u).isSome with
  | true =>
    simp only [if_true]
    exact ⟨st, rfl, h, fun _ _ => rfl, rfl, rfl, rfl, by simp [h]⟩
  | false =>
    simp only [Bool.false_eq_true, if_false]
    refine ⟨_, rfl, by simp [listed, AllowTok.Store.set_Allowed], fun a ha => by simp [AllowTok.Store.set_Allowed, ha], rfl, rfl, rfl, ?_⟩
    simp [AllowTok.Store.set_Allowed]

/-- `disallow_user`: exactly this account leaves the list, nothing else changes, and it is idempotent -/
theorem gen_disallow_user (envr : AllowTok.Reads) (st : AllowTok.Store) (u : Nat) :
    ∃ st', AllowTok.al_disallow_user envr st u = .ok ((), st') ∧ listed st' u = false ∧
      (∀ a, a ≠ u → st'.Allowed a = st.Allowed a) ∧
      st'.Balance = st.Balance ∧ st'.TotalSupply = st.TotalSupply ∧ st'.Allowance = st.Allowance ∧
      AllowTok.al_disallow_user envr st' u = .ok ((), st') := by
  unfold AllowTok.al_disallow_user
  cases h : (st.Allowed u).isSome with
  | false =>
    simp only [Bool.false_eq_true, if_false]
    exact ⟨st, rfl, h, fun _ _ => rfl, rfl, rfl, rfl, by simp [h]⟩
  | true =>
    simp only [if_true]
    refine ⟨_, rfl, by simp [listed, AllowTok.Store.del_Allowed], fun a ha => by simp [AllowTok.Store.del_Allowed, ha], rfl, rfl, rfl, ?_⟩
    simp [AllowTok.Store.del_Allowed]

end OZ.Gen.AllowTok
