import OZ.Gen.Votes
import OZ.Props.C13
import OZ.Lemmas.Comp
/-
C13 — the checkpoint lookup (binary search), re-checked on every run against what the SOURCE says now.

`lean/OZ/Gen/Votes.lean` is regenerated by `/verif/tools/rs2lean.py --votes` from /repo's current
`packages/governance/src/votes/storage.rs` (`lookup_checkpoint_at`) every time `./check C13` runs: the
`while low < high` loop over the mutable `low`, `high` becomes a fuel-bounded recursive definition, every
`u32` addition / subtraction an operation that can panic, `get_checkpoint(e, checkpoint_type, i)` a
function `Nat → Comp Checkpoint` of the reads record (it may panic: entry not found).  This file proves
that the GENERATED lookup, given enough fuel, computes exactly the hand-written model
`OZ.Votes.lookupCheckpointAt` (whose binary search is a well-founded recursion) on every timeline with a
`u32` counter, and restates the property's lookup clause for the generated code: on every well-formed
timeline it never fails and returns the votes of the last checkpoint at or before the queried ledger.
-/
namespace OZ.Gen.Votes
open OZ.Rs OZ.Votes

/-- the reads record of a model timeline: `get_checkpoint` panics exactly on a missing entry -/
def readsOf (t : Timeline) : Votes.Reads :=
  ⟨fun i => match t.cp i with
    | some c => .ok ⟨c.ledger, c.votes⟩
    | none => .panic⟩

/-- the model's result as a computation (every error of the model is a contract panic) -/
def toComp : Except Err Nat → Comp Nat
  | .ok v => .ok v
  | .error _ => .panic

theorem div_ceil2_eq (x : Nat) : uN_div_ceil x 2 = divCeil2 x := by
  unfold uN_div_ceil divCeil2
  split <;> omega

/-- **the loop**: with more fuel than `high - low`, the generated loop followed by any continuation of
the final `low` is the model's `bsearch` followed by the same continuation -/
theorem loop1_eq (t : Timeline) (ledger num : Nat) (first latest : Checkpoint) (K : Nat → Comp Nat) :
    ∀ (fuel low high : Nat), high - low < fuel → high < 2 ^ 32 →
      Comp.bind (Votes.lookup_checkpoint_at.loop1 fuel (readsOf t) high low first latest ledger num)
          (fun st => K st.2) =
        match bsearch t.cp ledger low high with
        | .ok l => K l
        | .error _ => .panic := by
  intro fuel
  induction fuel with
  | zero => intro low high h; omega
  | succ f ih =>
    intro low high hf hh
    unfold Votes.lookup_checkpoint_at.loop1
    rw [bsearch]
    by_cases hlt : low < high
    · rw [if_pos hlt, if_pos hlt]
      rw [uN_sub_ok (Nat.le_of_lt hlt)]; simp only [Comp.bind_ok]
      rw [div_ceil2_eq, uN_add_ok (Nat.lt_of_le_of_lt (mid_le hlt) hh), ← mid]; simp only [Comp.bind_ok]
      cases hc : t.cp (mid low high) with
      | none => simp [readsOf, hc]
      | some c =>
        simp only [readsOf, hc, Comp.bind_ok]
        by_cases hle : c.ledger ≤ ledger
        · rw [if_pos hle, if_pos hle]
          exact ih (mid low high) high
            (Nat.lt_of_lt_of_le (Nat.sub_lt_sub_left hlt (mid_gt hlt)) (Nat.le_of_lt_succ hf)) hh
        · rw [if_neg hle, if_neg hle]
          rw [uN_sub_ok (mid_pos hlt)]; simp only [Comp.bind_ok]
          exact ih low (mid low high - 1)
            (Nat.lt_of_lt_of_le (Nat.sub_lt_sub_right (le_mid_pred hlt) (mid_pred_lt hlt)) (Nat.le_of_lt_succ hf))
            (Nat.lt_trans (mid_pred_lt hlt) hh)
    · rw [if_neg hlt, if_neg hlt]; simp

/-- **generated = model**: for every timeline whose counter is a `u32`, every queried ledger and enough
fuel, the generated `lookup_checkpoint_at` is the model's `lookupCheckpointAt` -/
theorem lookup_checkpoint_at_eq (t : Timeline) (ledger fuel : Nat) (hn : t.num < 2 ^ 32) (hf : t.num ≤ fuel) :
    Votes.lookup_checkpoint_at fuel (readsOf t) ledger t.num = toComp (lookupCheckpointAt t ledger) := by
  unfold Votes.lookup_checkpoint_at lookupCheckpointAt
  by_cases h0 : t.num = 0
  · rw [if_pos h0, if_pos h0]; rfl
  · rw [if_neg h0, if_neg h0]
    rw [uN_sub_ok (Nat.pos_of_ne_zero h0)]; simp only [Comp.bind_ok]
    cases hl : t.cp (t.num - 1) with
    | none => simp [readsOf, hl, toComp]
    | some last =>
      simp only [readsOf, hl, Comp.bind_ok]
      by_cases hle : last.ledger ≤ ledger
      · rw [if_pos hle, if_pos hle]; rfl
      · rw [if_neg hle, if_neg hle]
        unfold lookupFirst
        cases h1 : t.cp 0 with
        | none => simp [toComp]
        | some first =>
          simp only [Comp.bind_ok]
          by_cases hgt : first.ledger > ledger
          · rw [if_pos hgt, if_pos hgt]; rfl
          · rw [if_neg hgt, if_neg hgt]
            have hloop := loop1_eq t ledger t.num ⟨first.ledger, first.votes⟩ ⟨last.ledger, last.votes⟩
              (fun l => Comp.bind ((readsOf t).get_checkpoint l) fun c => Comp.ok c.votes)
              fuel 0 (t.num - 1) (Nat.lt_of_lt_of_le (Nat.sub_lt (Nat.pos_of_ne_zero h0) Nat.one_pos : t.num - 1 < t.num) hf)
              (Nat.lt_of_le_of_lt (Nat.sub_le _ _) hn)
            simp only [readsOf] at hloop
            rw [hloop]
            unfold lookupSearch
            cases hb : bsearch t.cp ledger 0 (t.num - 1) with
            | error e => simp [toComp]
            | ok low =>
              simp only
              cases hlow : t.cp low with
              | none => simp [toComp]
              | some c => simp [toComp]

/-- **C13, lookup clause, on the source as translated**: on every well-formed timeline (what every
reachable state has: `checkpoints_sorted`) the generated lookup never panics; it returns 0 when no
checkpoint lies at or before the queried ledger `q`, and otherwise the votes of the LAST checkpoint at or
before `q` — for EVERY queried ledger -/
theorem gen_lookup_correct {t : Timeline} {now : Nat} (hw : WF t now) (q fuel : Nat)
    (hn : t.num < 2 ^ 32) (hf : t.num ≤ fuel) :
    ((∀ i c, i < t.num → t.cp i = some c → q < c.ledger) →
      Votes.lookup_checkpoint_at fuel (readsOf t) q t.num = .ok 0) ∧
    (∀ i c, i < t.num → t.cp i = some c → c.ledger ≤ q →
      (∀ j cj, i < j → j < t.num → t.cp j = some cj → q < cj.ledger) →
      Votes.lookup_checkpoint_at fuel (readsOf t) q t.num = .ok c.votes) := by
  rw [lookup_checkpoint_at_eq t q fuel hn hf]
  obtain ⟨h1, h2⟩ := lookup_correct hw q
  exact ⟨fun h => by rw [h1 h]; rfl, fun i c hi hc hle hgt => by rw [h2 i c hi hc hle hgt]; rfl⟩

/-! ### non-vacuity: the generated code runs -/

/-- a three-entry timeline: ledgers 5, 8, 13 with votes 10, 20, 30 -/
def demo : Timeline :=
  ⟨3, fun i => if i = 0 then some ⟨5, 10⟩ else if i = 1 then some ⟨8, 20⟩ else if i = 2 then some ⟨13, 30⟩ else none⟩

example : Votes.lookup_checkpoint_at 3 (readsOf demo) 9 3 = .ok 20 := by decide
example : Votes.lookup_checkpoint_at 3 (readsOf demo) 4 3 = .ok 0 := by decide
example : Votes.lookup_checkpoint_at 3 (readsOf demo) 8 3 = .ok 20 := by decide
/-- a counter that points past the stored entries: the read panics, as `get_checkpoint` does -/
example : Votes.lookup_checkpoint_at 4 (readsOf ⟨4, demo.cp⟩) 9 4 = .panic := by decide

end OZ.Gen.Votes
