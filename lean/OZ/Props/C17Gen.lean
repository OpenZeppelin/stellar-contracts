import OZ.Gen.Merkle
import OZ.Props.C17
import OZ.Lemmas.Comp
/-
C17 — the two Merkle verifiers, re-checked on every run against the SOURCE as it stands.

`lean/OZ/Gen/Merkle.lean` is regenerated by `/verif/tools/rs2lean.py --merkle` from /repo's current
`packages/contract-utils/src/crypto/merkle.rs` (`Verifier::verify`, `Verifier::verify_with_index`) and
`crypto/hashable.rs` (`commutative_hash_pair`) every time `./check C17` runs: each `for hash in proof` loop
over the mutable `leaf` (and `index`) becomes a structural recursion on the proof, `1 << len` a `u32` shift
that can panic, `hash_pair(a, b, H::new(e))` and the byte-string order `a > b` the two fields of the reads
record (the hash function is a parameter, exactly as in the hand model's `Ops`).  This file proves that the
GENERATED verifiers compute exactly the hand-written model (`OZ.Merkle.verify`, `OZ.Merkle.verifyWithIndex`)
for every hash function, every order, every proof, root, leaf and index, and restates completeness (a proof
extracted from a tree verifies) for the generated code.
-/
namespace OZ.Gen.Merkle
open OZ.Rs OZ.Merkle

def readsOf (o : Ops B32) : Merkle.Reads := ⟨fun a b => .ok (o.hp a b), o.gt⟩

/-- the model's result as a computation (every error of the model is a contract panic) -/
def toComp : Except VErr Bool → Comp Bool
  | .ok v => .ok v
  | .error _ => .panic

theorem toComp_eq_ok (x : Except VErr Bool) (b : Bool) : toComp x = .ok b ↔ x = .ok b := by
  cases x <;> simp [toComp]

theorem commutative_hash_pair_eq (o : Ops B32) (a b : B32) :
    Merkle.commutative_hash_pair (readsOf o) a b = .ok (chp o a b) := by
  unfold Merkle.commutative_hash_pair chp readsOf
  simp only
  cases o.gt a b <;> rfl

/-- the sorted-pair loop is the model's fold -/
theorem verify_loop_eq (o : Ops B32) (proof' : List B32) (root : B32) :
    ∀ (xs : List B32) (leaf : B32),
      Merkle.verify.loop1 (readsOf o) xs leaf proof' root = .ok (foldSorted o leaf xs) := by
  intro xs
  induction xs with
  | nil => intro leaf; rfl
  | cons h rest ih =>
    intro leaf
    unfold Merkle.verify.loop1
    rw [commutative_hash_pair_eq]
    simp only [Comp.bind_ok, foldSorted]
    exact ih _

/-- **generated = model** (sorted-pair verifier), for every hash function and order -/
theorem verify_eq (o : Ops B32) (proof : List B32) (root leaf : B32) :
    Merkle.verify (readsOf o) proof root leaf = .ok (OZ.Merkle.verify o proof root leaf) := by
  unfold Merkle.verify OZ.Merkle.verify
  rw [verify_loop_eq]
  rfl

/-- the positional loop is the model's fold (the final `index` is not used afterwards) -/
theorem verify_with_index_loop_eq (o : Ops B32) (len : Nat) (proof' : List B32) (root : B32) :
    ∀ (xs : List B32) (index : Nat) (leaf : B32),
      ∃ i', Merkle.verify_with_index.loop1 (readsOf o) xs index leaf len proof' root =
        .ok (i', foldIndexed o leaf index xs) := by
  intro xs
  induction xs with
  | nil => intro index leaf; exact ⟨index, rfl⟩
  | cons h rest ih =>
    intro index leaf
    -- the two branches of the source's `if` are the model's `stepIndexed`
    obtain ⟨i', hi⟩ := ih (index / 2) (stepIndexed o leaf index h)
    refine ⟨i', ?_⟩
    unfold Merkle.verify_with_index.loop1
    rw [foldIndexed, ← hi]
    unfold stepIndexed
    split <;> rfl

/-- **generated = model** (positional verifier): same verdict, and a panic exactly on the two
out-of-bounds errors, for every `u32` index -/
theorem verify_with_index_eq (o : Ops B32) (proof : List B32) (root leaf : B32) (index : Nat) :
    Merkle.verify_with_index (readsOf o) proof root leaf index =
      toComp (OZ.Merkle.verifyWithIndex o proof root leaf index) := by
  unfold Merkle.verify_with_index OZ.Merkle.verifyWithIndex
  by_cases hl : proof.length ≥ 32
  · rw [if_pos hl, if_pos hl]; rfl
  · rw [if_neg hl, if_neg hl, uN_shl_one (Nat.not_le.mp hl)]
    simp only [Comp.bind_ok]
    by_cases hi : index ≥ 2 ^ proof.length
    · rw [if_pos hi, if_pos hi]; rfl
    · rw [if_neg hi, if_neg hi]
      obtain ⟨i', h⟩ := verify_with_index_loop_eq o proof.length proof root proof index leaf
      rw [h]
      rfl

/-- **C17, completeness, on the source as translated**: for a tree of ANY shape over 32-byte strings,
any hash function and any total order, the proof extracted for a leaf makes the generated sorted-pair
verifier return `true` against the tree's root -/
theorem gen_complete (o : Ops B32) (hgt : TotalGt o) (t : Tree B32) (p : List Bool) (v : B32)
    (π : List B32) (h : t.proofWith (chp o) p = some (v, π)) :
    Merkle.verify (readsOf o) π (t.rootS o) v = .ok true := by
  rw [verify_eq, complete o hgt t p v π h]

/-- the same for the positional verifier (paths shorter than 32, the index built from the path) -/
theorem gen_complete_indexed (o : Ops B32) (t : Tree B32) (p : List Bool) (v : B32) (π : List B32)
    (h : t.proofWith o.hp p = some (v, π)) (hdepth : p.length < 32) :
    Merkle.verify_with_index (readsOf o) π (t.rootI o) v (indexOf p) = .ok true := by
  rw [verify_with_index_eq, complete_indexed o t p v π h hdepth]; rfl

/-! ### non-vacuity: the generated code runs -/

/-- a toy hash on byte lists: concatenation (collision-free on equal-length inputs) -/
def toy : Ops B32 := ⟨fun a b => a ++ b, fun a b => decide (a.headD 0 > b.headD 0)⟩

example : Merkle.verify (readsOf toy) [[2], [1]] [1, 2, 3] [3] = .ok true := by decide
example : Merkle.verify (readsOf toy) [[2], [1]] [3, 2, 1] [3] = .ok false := by decide
example : Merkle.verify_with_index (readsOf toy) [[2], [1]] [1, 2, 3] [3] 3 = .ok true := by decide
example : Merkle.verify_with_index (readsOf toy) [[2], [1]] [1, 2, 3] [3] 4 = .panic := by decide

end OZ.Gen.Merkle
