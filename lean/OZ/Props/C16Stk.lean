import OZ.Lemmas.GatesStk
/-
C16, machine `stk` — an entry point that stacks an authorization guard (`#[only_owner]`, `#[only_admin]`,
`#[only_role(caller, "op")]`) and a pause guard (`#[when_not_paused]`, `#[when_paused]`) is subject to BOTH,
whatever the order in which the two attributes are written.

The model (OZ/Model/GatesStk.lean) mirrors the expansions of the attribute macros of packages/macros (each re-emits the attributes still attached to
the function, so every guard is injected; the guard written below runs first) on the harness contract
`stk::Stacked`: `inc_a`/`inc_b`/`reset_a`/`reset_b` (owner), `inc_c`/`inc_d`/`reset_c`/`reset_d` (admin),
`inc_r`/`inc_r2`/`reset_r`/`reset_r2` (role "op"); `_a`, `_c`, `_r`: authorization guard on top, `_b`, `_d`,
`_r2`: pause guard on top.
-/
namespace OZ.Gates.Stk
open OZ.Host OZ.Fungible OZ.Gates

/-- **stacked_accepted_iff**: a guarded entry point is accepted exactly when the contract is in the pause
state its pause attribute names AND the principal of its authorization attribute authorized (and, for an
`inc_*`, the `i32` counter has room) — for all twelve entry points, i.e. for both orders of the attributes -/
theorem stacked_accepted_iff (s : Stk) (auth : List Nat) (f : Fn) (caller : Nat) :
    (∃ s', s.call auth f caller = .ok s') ↔
      s.p.paused = f.spec.needPaused ∧ Authorized s auth caller f.spec.who ∧
      (f.isInc = true → s.counter + 1 ≤ I32_MAX) := by
  constructor
  · rintro ⟨s', h⟩
    obtain ⟨h1, h2, hb⟩ := call_iff.1 h
    exact ⟨h1, h2, (body_iff.1 hb).1⟩
  · rintro ⟨h1, h2, h3⟩
    exact ⟨_, call_iff.2 ⟨h1, h2, body_iff.2 ⟨h3, rfl⟩⟩⟩

/-- **stacked_inc_needs_both**: an accepted `inc_*` implies NOT paused and the principal's authorization;
its only effect is counter + 1 -/
theorem stacked_inc_needs_both (s s' : Stk) (auth : List Nat) (f : Fn) (caller : Nat) (hf : f.isInc = true)
    (h : s.call auth f caller = .ok s') :
    s.p.paused = false ∧ Authorized s auth caller f.spec.who ∧ s' = { s with counter := s.counter + 1 } := by
  obtain ⟨h1, h2, hb⟩ := call_iff.1 h
  refine ⟨?_, h2, (body_iff.1 hb).2.trans (by rw [hf]; rfl)⟩
  rw [h1, needPaused_eq, hf]; rfl

/-- **stacked_reset_needs_both**: an accepted `reset_*` implies paused and the principal's authorization;
its only effect is counter := 0 -/
theorem stacked_reset_needs_both (s s' : Stk) (auth : List Nat) (f : Fn) (caller : Nat) (hf : f.isInc = false)
    (h : s.call auth f caller = .ok s') :
    s.p.paused = true ∧ Authorized s auth caller f.spec.who ∧ s' = { s with counter := 0 } := by
  obtain ⟨h1, h2, hb⟩ := call_iff.1 h
  refine ⟨?_, h2, (body_iff.1 hb).2.trans (by rw [hf]; rfl)⟩
  rw [h1, needPaused_eq, hf]; rfl

/-- **stacked_paused_blocks**: while paused NO `inc_*` is accepted — whoever authorizes, whatever the order
of the attributes — and while not paused no `reset_*`; the refused call changes nothing -/
theorem stacked_paused_blocks (s : Stk) (auth : List Nat) (f : Fn) (caller : Nat) :
    (s.p.paused = true → f.isInc = true →
      (∀ s', s.call auth f caller ≠ .ok s') ∧ Stk.step s (auth, .call f caller) = s) ∧
    (s.p.paused = false → f.isInc = false →
      (∀ s', s.call auth f caller ≠ .ok s') ∧ Stk.step s (auth, .call f caller) = s) := by
  have key : s.p.paused ≠ f.spec.needPaused →
      (∀ s', s.call auth f caller ≠ .ok s') ∧ Stk.step s (auth, .call f caller) = s := by
    intro hne
    have h1 : ∀ s', s.call auth f caller ≠ .ok s' := fun s' h => hne (call_iff.1 h).1
    exact ⟨h1, (Stk.step_or s (auth, .call f caller)).resolve_right (h1 _)⟩
  constructor
  · intro hp hf
    exact key (by rw [hp, needPaused_eq, hf]; decide)
  · intro hp hf
    exact key (by rw [hp, needPaused_eq, hf]; decide)

/-- **stacked_paused_blocks**, history form: while paused, NO sequence of `inc_*` calls (any of the six
entry points, any callers, any authorizations) changes anything -/
theorem stacked_paused_blocks_run (ops : List (List Nat × Fn × Nat)) (s : Stk) (hp : s.p.paused = true)
    (hinc : ∀ x ∈ ops, x.2.1.isInc = true) :
    Stk.run s (ops.map fun x => (x.1, Op.call x.2.1 x.2.2)) = s := by
  unfold Stk.run
  rw [List.foldl_map]
  refine OZ.Lists.foldl_keeps (P := (· = s)) (Q := fun x => x.2.1.isInc = true) ?_ ops s rfl hinc
  intro s1 x h1 hf
  rw [h1]
  exact ((stacked_paused_blocks s x.1 x.2.1 x.2.2).1 hp hf).2

/-- **stacked_order_irrelevant**: two entry points with the same principal, the same pause attribute and
the same body behave identically — the order of the attributes makes no difference (`inc_a` vs `inc_b`,
`reset_a` vs `reset_b`, `inc_c` vs `inc_d`, `inc_r` vs `inc_r2`, …) -/
theorem stacked_order_irrelevant (s s' : Stk) (auth : List Nat) (f g : Fn) (caller : Nat)
    (hw : f.spec.who = g.spec.who) (hp : f.spec.needPaused = g.spec.needPaused) (hb : f.isInc = g.isInc) :
    s.call auth f caller = .ok s' ↔ s.call auth g caller = .ok s' := by
  have hbody : s.body f = s.body g := by unfold Stk.body; rw [hb]
  rw [call_iff, call_iff, hw, hp, hbody]

/-- six of the entry points, spelled out: `inc_a` = `#[only_owner]` above
`#[when_not_paused]`, `inc_b` the other way round, `reset_a` / `reset_b` with `#[when_paused]`, `inc_r` =
`#[only_role(caller, "op")]` above `#[when_not_paused]`, `inc_r2` the other way round -/
theorem stacked_named_entry_points (s : Stk) (auth : List Nat) (caller : Nat) :
    ((∃ s', s.call auth .incA caller = .ok s') ↔
      s.p.paused = false ∧ (∃ o, s.owner = some o ∧ o ∈ auth) ∧ s.counter + 1 ≤ I32_MAX) ∧
    ((∃ s', s.call auth .incB caller = .ok s') ↔
      s.p.paused = false ∧ (∃ o, s.owner = some o ∧ o ∈ auth) ∧ s.counter + 1 ≤ I32_MAX) ∧
    ((∃ s', s.call auth .resetA caller = .ok s') ↔ s.p.paused = true ∧ (∃ o, s.owner = some o ∧ o ∈ auth)) ∧
    ((∃ s', s.call auth .resetB caller = .ok s') ↔ s.p.paused = true ∧ (∃ o, s.owner = some o ∧ o ∈ auth)) ∧
    ((∃ s', s.call auth .incR caller = .ok s') ↔
      s.p.paused = false ∧ (s.isOp caller = true ∧ caller ∈ auth) ∧ s.counter + 1 ≤ I32_MAX) ∧
    ((∃ s', s.call auth .incR2 caller = .ok s') ↔
      s.p.paused = false ∧ (s.isOp caller = true ∧ caller ∈ auth) ∧ s.counter + 1 ≤ I32_MAX) := by
  refine ⟨?_, ?_, ?_, ?_, ?_, ?_⟩ <;> rw [stacked_accepted_iff] <;>
    simp [Fn.spec, Fn.isInc, Authorized]

/-- **stacked_pause_alternates**, one step: `pause` is accepted exactly while not paused, `unpause` exactly
while paused, either exactly when the caller is the owner and authorized; they flip the flag and nothing else -/
theorem stacked_pause_alternates_step (s s' : Stk) (auth : List Nat) (caller : Nat) :
    (s.apply auth (.pause caller) = .ok s' ↔
      s.p.paused = false ∧ s.owner = some caller ∧ caller ∈ auth ∧
      s' = { s with p := { paused := true, log := s.p.log ++ [.paused] } }) ∧
    (s.apply auth (.unpause caller) = .ok s' ↔
      s.p.paused = true ∧ s.owner = some caller ∧ caller ∈ auth ∧
      s' = { s with p := { paused := false, log := s.p.log ++ [.unpaused] } }) :=
  ⟨pause_iff, unpause_iff⟩

/-- **stacked_pause_alternates**, all histories: from deployment, the `paused` / `unpaused` events of ANY
operation list strictly alternate, starting with `paused`, and the flag is what the last of them says -/
theorem stacked_pause_alternates (owner admin opr : Nat) (ops : List (List Nat × Op)) :
    flagAfter (Stk.run (Stk.construct owner admin opr) ops).p.log =
      some (Stk.run (Stk.construct owner admin opr) ops).p.paused := by
  refine run_keeps Stk.step_or (P := fun s => flagAfter s.p.log = some s.p.paused) ?_ ops _ rfl
  intro s auth o s1 hs hx
  cases o with
  | call f c => rw [(body_iff.1 (call_iff.1 hx).2.2).2]; exact hs
  | pause c =>
    obtain ⟨hp, -, -, rfl⟩ := pause_iff.1 hx
    exact flagAfter_paused (hs.trans (congrArg some hp))
  | unpause c =>
    obtain ⟨hp, -, -, rfl⟩ := unpause_iff.1 hx
    exact flagAfter_unpaused (hs.trans (congrArg some hp))

/-- **stacked_unpause_restores**: an accepted `pause` followed by an accepted `unpause` gives back the same
counter, principals and flag (only the two events are added to the log), and every guarded entry point is
then accepted exactly when it was before the pause -/
theorem stacked_unpause_restores (s s1 s2 : Stk) (a1 a2 : List Nat) (c1 c2 : Nat)
    (h1 : s.apply a1 (.pause c1) = .ok s1) (h2 : s1.apply a2 (.unpause c2) = .ok s2) :
    s2.counter = s.counter ∧ s2.owner = s.owner ∧ s2.admin = s.admin ∧ s2.isOp = s.isOp ∧
    s2.p.paused = s.p.paused ∧ s2.p.log = s.p.log ++ [.paused, .unpaused] ∧
    ∀ auth f c, (∃ s', s2.call auth f c = .ok s') ↔ (∃ s', s.call auth f c = .ok s') := by
  obtain ⟨hp, -, -, e1⟩ := pause_iff.1 h1
  obtain ⟨-, -, -, e2⟩ := unpause_iff.1 h2
  subst e1; subst e2
  refine ⟨rfl, rfl, rfl, rfl, hp.symm, List.append_assoc _ _ _, ?_⟩
  intro auth f c
  -- the guards read the flag and the principals only, and those are as before
  rw [stacked_accepted_iff, stacked_accepted_iff, hp]
  exact Iff.rfl

/-- **stacked_principals_fixed**: no history changes the owner, the admin or the holder of the role -/
theorem stacked_principals_fixed (ops : List (List Nat × Op)) (s : Stk) :
    (Stk.run s ops).owner = s.owner ∧ (Stk.run s ops).admin = s.admin ∧ (Stk.run s ops).isOp = s.isOp :=
  run_keeps Stk.step_or (P := fun s' => s'.owner = s.owner ∧ s'.admin = s.admin ∧ s'.isOp = s.isOp)
    (fun hs hx => have k := apply_keeps hx; ⟨k.1.trans hs.1, k.2.1.trans hs.2.1, k.2.2.trans hs.2.2⟩)
    ops s ⟨rfl, rfl, rfl⟩

/-! ## non-vacuity -/

def isOk {ε α} : Except ε α → Bool
  | .ok _ => true
  | .error _ => false

/-- owner 0, admin 2, role holder 1 -/
def demo : Stk := Stk.construct 0 2 1

/-- not paused: every `inc_*` is open to its principal and closed to everybody else, in both orders of the
attributes; every `reset_*` is closed even to its principal -/
example :
    isOk (demo.call [0] .incA 9) = true ∧ isOk (demo.call [0] .incB 9) = true ∧
    isOk (demo.call [2] .incA 9) = false ∧ isOk (demo.call [] .incB 9) = false ∧
    isOk (demo.call [2] .incC 9) = true ∧ isOk (demo.call [2] .incD 9) = true ∧
    isOk (demo.call [0] .incC 9) = false ∧
    isOk (demo.call [1] .incR 1) = true ∧ isOk (demo.call [1] .incR2 1) = true ∧
    isOk (demo.call [3] .incR 3) = false ∧ isOk (demo.call [0] .incR2 1) = false ∧
    isOk (demo.call [0] .resetA 9) = false ∧ isOk (demo.call [0] .resetB 9) = false ∧
    isOk (demo.call [1] .resetR 1) = false := by decide

/-- `demo` after three accepted increments, a `pause` by the role holder (refused) and one by the owner -/
def demoPaused : Stk :=
  Stk.run demo [([0], .call .incA 0), ([1], .call .incR 1), ([2], .call .incD 0), ([1], .pause 1), ([0], .pause 0)]

/-- the hypotheses of `stacked_paused_blocks` are met, the calls would be accepted if the contract were not
paused, and the resets are open to their principals only -/
example :
    demoPaused.p.paused = true ∧ demoPaused.counter = 3 ∧
    isOk (demoPaused.call [0] .incA 9) = false ∧ isOk (demoPaused.call [0] .incB 9) = false ∧
    isOk (demoPaused.call [2] .incC 9) = false ∧ isOk (demoPaused.call [1] .incR 1) = false ∧
    isOk (demoPaused.call [1] .incR2 1) = false ∧
    isOk (demoPaused.call [0] .resetA 9) = true ∧ isOk (demoPaused.call [0] .resetB 9) = true ∧
    isOk (demoPaused.call [2] .resetA 9) = false ∧ isOk (demoPaused.call [] .resetB 9) = false ∧
    isOk (demoPaused.call [2] .resetD 9) = true ∧ isOk (demoPaused.call [1] .resetR2 1) = true ∧
    (Stk.step demoPaused ([0], .call .resetA 0)).counter = 0 ∧
    isOk (demoPaused.apply [0] (.pause 0)) = false ∧ isOk (demoPaused.apply [0] (.unpause 0)) = true ∧
    isOk (demoPaused.apply [2] (.unpause 2)) = false ∧
    (Stk.run demoPaused [([0], .unpause 0), ([0], .call .incB 0)]).counter = 4 := by decide

end OZ.Gates.Stk
