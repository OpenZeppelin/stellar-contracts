import OZ.Gen.NftT
import OZ.Lemmas.NftGen
/-
C11 — the approval rules WITH the temporary entries' lifetimes, re-checked on every run against the SOURCE.

`lean/OZ/Gen/NftT.lean` is regenerated by `/verif/tools/rs2lean.py --nft-ttl` (state-passing mode, both
`Approval(token)` and `ApprovalForAll(owner, operator)` declared TEMPORARY WITH THEIR LIFETIME; host rules of
OZ/Model/Host.lean) from /repo's current `packages/tokens/src/non_fungible/storage.rs`.
The GENERATED `get_approved`, `is_approved_for_all`,
`check_spender_approval`, `approve_for_all`, `approve_for_owner`, TTL included, are proved to BE the hand
model's `getApproved`, `isApprovedForAll`, `checkSpenderApproval`, `approveForAll`, `approveForOwner` — same
answers, same acceptance, same stored entries with the same lifetimes — for every host configuration with a
minimum temporary lifetime ≥ 1, every store, ledger and argument.
-/
namespace OZ.Gen.NftT
open OZ.Rs OZ.Host

def cfgOf (envr : NftT.Reads) : Cfg := ⟨envr.min_temp_ttl, envr.max_ttl⟩
def conv (d : NftT.ApprovalData) : OZ.Nft.ApprovalData := ⟨d.approved, d.live_until_ledger⟩
def convT (t : Temp NftT.ApprovalData) : Temp OZ.Nft.ApprovalData := ⟨conv t.val, t.liveUntil⟩

/-- store and reads seen as the approval part of the model's core -/
def Abs (envr : NftT.Reads) (st : NftT.Store) (c : OZ.Nft.Core) : Prop :=
  c.now = envr.ledger_sequence ∧ (∀ id, c.approval id = (st.Approval id).map convT) ∧
  (∀ o p, c.operator o p = st.ApprovalForAll o p)

def passes {α : Type} (x : Comp α) : Bool :=
  match x with
  | .ok _ => true
  | .panic => false

/-- **generated = model**: `get_approved` -/
theorem get_approved_eq (envr : NftT.Reads) (st : NftT.Store) (c : OZ.Nft.Core) (hA : Abs envr st c) (id : Nat) :
    NftT.get_approved envr st id = .ok (OZ.Nft.getApproved c id) :=
  getApproved_shape conv (hA.2.1 id) hA.1

/-- **generated = model**: `is_approved_for_all` -/
theorem is_approved_for_all_eq (envr : NftT.Reads) (st : NftT.Store) (c : OZ.Nft.Core) (hA : Abs envr st c) (o p : Nat) :
    NftT.is_approved_for_all envr st o p = .ok (OZ.Nft.isApprovedForAll c o p) :=
  isApprovedForAll_shape (hA.2.2 o p) hA.1

/-- **generated = model**: `check_spender_approval` -/
theorem check_spender_approval_eq (envr : NftT.Reads) (st : NftT.Store) (c : OZ.Nft.Core) (hA : Abs envr st c)
    (spender owner id : Nat) :
    passes (NftT.check_spender_approval envr st spender owner id) = (OZ.Nft.checkSpenderApproval c spender owner id).isOk := by
  rw [show NftT.check_spender_approval envr st spender owner id = _ from
    checkSpender_shape (get_approved_eq envr st c hA id) (is_approved_for_all_eq envr st c hA owner spender)]
  exact passes_ofExcept _ passes (fun _ => rfl) rfl

theorem approve_for_all_ref {envr : NftT.Reads} {st : NftT.Store} {c : OZ.Nft.Core} (hA : Abs envr st c)
    (hmin : 1 ≤ envr.min_temp_ttl) {auth : List Nat} (hauth : ∀ a, envr.authorized a = decide (a ∈ auth))
    (owner operator lu : Nat) :
    Sim (onStore (Abs envr)) (NftT.approve_for_all envr st owner operator lu)
      (OZ.Nft.approveForAll (cfgOf envr) c auth owner operator lu) := by
  unfold NftT.approve_for_all OZ.Nft.approveForAll
  refine Sim.test (auth_iff hauth owner) fun _ => ?_
  rw [storeOperator_eq, hA.2.2 owner operator, ← hA.1]
  refine writeOrClear_sim (cfgOf envr) hmin _ c.now lu lu (if_pos ⟨rfl, rfl⟩)
    (AbsCells.operator hA owner operator none) fun e => ?_
  -- the code writes the cell twice: what `set` left, then the extended entry over it
  rw [← upd2_upd2 c.operator owner operator (some (Temp.set (cfgOf envr) (st.ApprovalForAll owner operator) c.now lu))]
  exact AbsCells.operator (AbsCells.operator hA owner operator _) owner operator (some e)

/-- **generated = model**: `approve_for_all` (the authorization predicate being membership in `auth`) -/
theorem approve_for_all_eq (envr : NftT.Reads) (st : NftT.Store) (c : OZ.Nft.Core) (hA : Abs envr st c)
    (hmin : 1 ≤ envr.min_temp_ttl) (auth : List Nat) (hauth : ∀ a, envr.authorized a = decide (a ∈ auth))
    (owner operator lu : Nat) :
    match OZ.Nft.approveForAll (cfgOf envr) c auth owner operator lu with
    | .ok c' => ∃ st', NftT.approve_for_all envr st owner operator lu = .ok ((), st') ∧ Abs envr st' c'
    | .error _ => ((NftT.approve_for_all envr st owner operator lu).bind fun _ => Comp.ok ()) = .panic := by
  have h := approve_for_all_ref hA hmin hauth owner operator lu
  split
  · exact h.of_ok_store ‹_›
  · rw [h.of_error ‹_›]; rfl

theorem approve_for_owner_ref {envr : NftT.Reads} {st : NftT.Store} {c : OZ.Nft.Core} (hA : Abs envr st c)
    (hmin : 1 ≤ envr.min_temp_ttl) (owner approver approved id lu : Nat) :
    Sim (onStore (Abs envr)) (NftT.approve_for_owner envr st owner approver approved id lu)
      (OZ.Nft.approveForOwner (cfgOf envr) c owner approver approved id lu) := by
  unfold NftT.approve_for_owner OZ.Nft.approveForOwner
  refine approverGate_sim (is_approved_for_all_eq envr st c hA owner approver) ?_
  rw [storeApproval_mapT conv _ c id (hA.2.1 id) (⟨approved, lu⟩ : NftT.ApprovalData) ⟨approved, lu⟩ rfl, ← hA.1]
  refine writeOrClear_sim (cfgOf envr) hmin _ c.now lu _ (if_pos rfl) (AbsCells.approval hA id none) fun e => ?_
  rw [← upd_upd c.approval id (some (convT (Temp.set (cfgOf envr) (st.Approval id) c.now (⟨approved, lu⟩ : NftT.ApprovalData))))]
  exact AbsCells.approval (AbsCells.approval hA id (some _)) id (some e)

/-- **generated = model**: `approve_for_owner` -/
theorem approve_for_owner_eq (envr : NftT.Reads) (st : NftT.Store) (c : OZ.Nft.Core) (hA : Abs envr st c)
    (hmin : 1 ≤ envr.min_temp_ttl) (owner approver approved id lu : Nat) :
    match OZ.Nft.approveForOwner (cfgOf envr) c owner approver approved id lu with
    | .ok c' => ∃ st', NftT.approve_for_owner envr st owner approver approved id lu = .ok ((), st') ∧ Abs envr st' c'
    | .error _ => ((NftT.approve_for_owner envr st owner approver approved id lu).bind fun _ => Comp.ok ()) = .panic := by
  have h := approve_for_owner_ref hA hmin owner approver approved id lu
  split
  · exact h.of_ok_store ‹_›
  · rw [h.of_error ‹_›]; rfl

end OZ.Gen.NftT
