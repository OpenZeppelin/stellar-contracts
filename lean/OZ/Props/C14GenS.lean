import OZ.Gen.SpendingLimit
import OZ.Props.C14
import OZ.Lemmas.Sim
/-
C14 — the spending-limit policy, re-checked on every run against what the SOURCE says now.

`lean/OZ/Gen/SpendingLimit.lean` is regenerated by `/verif/tools/rs2lean.py --spending-limit` (state-passing mode) from
/repo's current `packages/accounts/src/policies/spending_limit.rs`: `get_spending_limit_data`, `can_enforce` (the
`match` on the authorization context, the scan of the history with its loop-carried total, its `break` and its
`return false`), `enforce`, `cleanup_old_entries` (a `&mut Vec` parameter, `while let Some(e) = v.get(0)` with
`pop_front` and `break`, on fuel), `set_spending_limit`, `install`, `uninstall`. The authorization context is the
generated inductive type `Context` (`Contract { contract, fn_name, args }` or a create-contract context); the host's
`i128::try_from_val` is a function of the reads record.

REFINEMENT to the hand model (OZ/Model/Policies.lean, namespace `Spend`) under the abstraction map `Abs` and the
context abstraction `ctxOf` (which generated contexts are a `transfer` of which amount): the two loops are the model's
`scanExpired` / `cleanup`, every entry point is the model's, every finite history of generated calls and ledger
movements follows the model's history (`run_refines`; the history of an entry never exceeds 1000 entries, so the
fuel 1001 always suffices), and the model's history theorems are restated on the generated store
(`gen_spend_entry_valid`, `gen_spend_enforce_iff_model`).
-/
namespace OZ.Gen.SpendingLimit
open OZ.Rs OZ.Host OZ.Policies OZ.Policies.Spend

/-- the model's outcome as a value-or-panic computation (error kinds are not part of the generated code) -/
def toComp {α : Type} : Except Err α → Comp α
  | .ok a => .ok a
  | .error _ => .panic

@[simp] theorem toComp_ok {α : Type} (a : α) : toComp (.ok a : Except Err α) = .ok a := rfl
@[simp] theorem toComp_error {α : Type} (e : Err) : toComp (.error e : Except Err α) = .panic := rfl

theorem toComp_eq {α : Type} (x : Except Err α) : toComp x = Comp.ofExcept x := by cases x <;> rfl

/-- i128 arithmetic under `overflow-checks`: the trap of the generated code is the model's `chk` -/
theorem chk_eq (x : Int) : orTrap (OZ.MulDiv.chk128 x) = toComp (chk x) := by
  unfold OZ.MulDiv.chk128 chk
  by_cases h : OZ.MulDiv.in128 x
  · have h' : OZ.Host.in128 x := h
    rw [if_pos h, if_pos h']; rfl
  · have h' : ¬ OZ.Host.in128 x := h
    rw [if_neg h, if_neg h']; rfl

theorem add_eq (a b : Int) : i128_add a b = toComp (chk (a + b)) := chk_eq (a + b)

theorem sub_eq (a b : Int) : i128_sub a b = toComp (chk (a - b)) := chk_eq (a - b)

/-! ### the abstraction map -/

def toE (e : SpendingEntry) : Entry := ⟨e.amount, e.ledger_sequence⟩
def ofE (e : Entry) : SpendingEntry := ⟨e.amount, e.ledger⟩
def toD (g : SpendingLimitData) : Data :=
  ⟨g.spending_limit, g.period_ledgers, g.spending_history.map toE, g.cached_total_spent⟩
def mrule (r : SpendingLimit.ContextRule) : Rule := ⟨r.id, r.signers⟩

@[simp] theorem ofE_toE (e : SpendingEntry) : ofE (toE e) = e := rfl
@[simp] theorem toE_ofE (e : Entry) : toE (ofE e) = e := rfl

theorem map_ofE_toE (l : List SpendingEntry) : (l.map toE).map ofE = l :=
  (List.map_map ..).trans (List.map_id l)

theorem map_toE_ofE (l : List Entry) : (l.map ofE).map toE = l :=
  (List.map_map ..).trans (List.map_id l)

/-- `symbol_short!("transfer")` as the translator numbers symbols -/
abbrev transferSym : Nat := 8390876182755042674

/-- which generated contexts the policy reads as a transfer of which amount (the model's `Ctx`) -/
def ctxOf (envr : SpendingLimit.Reads) : SpendingLimit.Context → Ctx
  | .Contract p =>
    if p.fn_name = transferSym then
      match p.args[2]? with
      | some v =>
        (match envr.i128_try_from_val v with
         | some a => .transfer a
         | none => .malformed)
      | none => .malformed
    else .otherCall
  | _ => .createContract

theorem caseContract_eq {α : Type} (envr : SpendingLimit.Reads) (ctx : SpendingLimit.Context)
    (K : Int → Comp α) (Z : Comp α) :
    SpendingLimit.Context.caseContract ctx
      (fun p => if p.fn_name = transferSym then
        optCase p.args[2]? (fun v => optCase (envr.i128_try_from_val v) K Z) Z else Z) Z =
    match ctxOf envr ctx with
    | .transfer amt => K amt
    | _ => Z := by
  cases ctx with
  | Contract p =>
    simp only [SpendingLimit.Context.caseContract, ctxOf]
    split
    · cases p.args[2]? with
      | none => rfl
      | some v =>
        simp only [optCase_some]
        cases envr.i128_try_from_val v <;> rfl
    · rfl
  | CreateContractHostFn => rfl
  | CreateContractWithCtorHostFn => rfl

/-- the generated store represents the model state (events are not part of the generated state) -/
structure Abs (envr : SpendingLimit.Reads) (st : SpendingLimit.Store) (s : State) : Prop where
  store : ∀ a r, (st.AccountContext a r).map toD = s.store a r
  now : envr.ledger_sequence = s.now

/-- the authorization predicate of the generated code is the set of addresses authorizing the invocation -/
def AuthIs (envr : SpendingLimit.Reads) (auth : List Nat) : Prop := ∀ a, envr.authorized a = true ↔ a ∈ auth

theorem AuthIs.iff {envr : SpendingLimit.Reads} {auth : List Nat} (h : AuthIs envr auth) (a : Nat) :
    envr.authorized a = true ↔ requireAuth auth a = .ok () := (h a).trans requireAuth_iff.symm

theorem data_eq {envr : SpendingLimit.Reads} {st : SpendingLimit.Store} {s : State} (hA : Abs envr st s) (a r : Nat) :
    Comp.ofExcept (getData s r a) = Comp.ofOption ((st.AccountContext a r).map toD) := by
  unfold getData; rw [← hA.store a r]; cases st.AccountContext a r <;> rfl

/-! ### the two loops -/

/-- the outcome of the scan as the generated loop reports it: the expired total, or `return false` -/
def scanOut : Except Err (Option Int) → Comp (Sum Int Bool)
  | .ok (some x) => .ok (Sum.inl x)
  | .ok none => .ok (Sum.inr false)
  | .error _ => .panic

/-- the history scan of `can_enforce` is the model's `scanExpired` -/
theorem scan_loop_eq (envr : SpendingLimit.Reads) (st : SpendingLimit.Store) (amt : Int) (av : Nat) (args sg : List Nat)
    (ctx : SpendingLimit.Context) (rule : SpendingLimit.ContextRule) (cur cutoff : Nat) (data : SpendingLimitData) (fn acct : Nat)
    (hn : data.spending_history.length < 2 ^ 32) :
    ∀ (l : List SpendingEntry) (k : Nat) (acc : Int), k + l.length = data.spending_history.length →
      SpendingLimit.can_enforce.loop1 envr (List.zip (List.range' k l.length) l) st acc amt av args sg ctx rule cur cutoff data fn acct =
        scanOut (scanExpired cutoff (l.map toE) acc) := by
  intro l
  induction l with
  | nil => intro k acc _; rfl
  | cons e rest ih =>
    intro k acc hk
    simp only [List.length_cons, List.range'_succ, List.zip_cons_cons, List.map_cons]
    unfold SpendingLimit.can_enforce.loop1 scanExpired
    have h32 : (2 : Nat) ^ 32 = 4294967296 := by decide
    rw [h32] at hn
    simp only [List.length_cons] at hk
    have hkm : k % 4294967296 = k := Nat.mod_eq_of_lt (by omega)
    by_cases hle : e.ledger_sequence ≤ cutoff
    · have hle' : (toE e).ledger ≤ cutoff := hle
      simp only [hle, hle', ↓reduceIte]
      rw [add_eq]
      show _ = scanOut (Except.bind (chk (acc + e.amount)) fun acc' => scanExpired cutoff (List.map toE rest) acc')
      cases chk (acc + e.amount) with
      | error er => rfl
      | ok v =>
        simp only [toComp_ok, Comp.bind_ok, Except.bind]
        exact ih (k + 1) v (by omega)
    · have hle' : ¬ (toE e).ledger ≤ cutoff := hle
      simp only [hle, hle', ↓reduceIte, hkm]
      rw [uN_sub_ok (by omega), Comp.bind_ok]
      have hlen : data.spending_history.length - k = (toE e :: List.map toE rest).length := by
        simp only [List.length_cons, List.length_map]; omega
      rw [hlen]
      by_cases hm : MAX_HISTORY_ENTRIES ≤ (toE e :: List.map toE rest).length
      · have : (toE e :: List.map toE rest).length ≥ 1000 := hm
        simp only [this, hm, ↓reduceIte]; rfl
      · have : ¬ (toE e :: List.map toE rest).length ≥ 1000 := hm
        simp only [this, hm, ↓reduceIte]; rfl

/-- the outcome of the clean-up as the generated function reports it: (removed total, what is left) -/
def cleanOut : Except Err (List Entry × Int) → Comp (Int × List SpendingEntry)
  | .ok (h, r) => .ok (r, h.map ofE)
  | .error _ => .panic

theorem cleanOut_eq (x : Except Err (List Entry × Int)) :
    cleanOut x = Comp.ofExcept (x >>= fun p => pure (p.2, p.1.map ofE)) := by
  cases x with
  | ok p => rfl
  | error e => rfl

/-- the loop of `cleanup_old_entries` is the model's `cleanup`, with enough fuel -/
theorem cleanup_loop_eq (envr : SpendingLimit.Reads) (st : SpendingLimit.Store) (cur cutoff period : Nat) :
    ∀ (l : List SpendingEntry) (fuel : Nat) (acc : Int), l.length < fuel →
      SpendingLimit.cleanup_old_entries.loop1 fuel envr st acc l cur cutoff period = cleanOut (cleanup cutoff (l.map toE) acc) := by
  intro l
  induction l with
  | nil =>
    intro fuel acc hf
    cases fuel with
    | zero => cases hf
    | succ f => rfl
  | cons e rest ih =>
    intro fuel acc hf
    cases fuel with
    | zero => cases hf
    | succ f =>
      simp only [List.map_cons]
      unfold SpendingLimit.cleanup_old_entries.loop1 cleanup
      simp only [List.getElem?_cons_zero, optCase_some, List.drop_succ_cons, List.drop_zero]
      by_cases hle : e.ledger_sequence ≤ cutoff
      · have hle' : (toE e).ledger ≤ cutoff := hle
        simp only [hle, hle', ↓reduceIte]
        rw [add_eq]
        show _ = cleanOut (Except.bind (chk (acc + e.amount)) fun acc' => cleanup cutoff (List.map toE rest) acc')
        cases chk (acc + e.amount) with
        | error er => rfl
        | ok v =>
          simp only [toComp_ok, Comp.bind_ok, Except.bind]
          exact ih f v (by simp only [List.length_cons] at hf; omega)
      · have hle' : ¬ (toE e).ledger ≤ cutoff := hle
        simp only [hle, hle', ↓reduceIte, cleanOut, List.map_cons, ofE_toE, map_ofE_toE]

theorem cleanup_eq (envr : SpendingLimit.Reads) (st : SpendingLimit.Store) (l : List SpendingEntry) (cur period fuel : Nat)
    (hf : l.length < fuel) :
    SpendingLimit.cleanup_old_entries fuel envr st l cur period = cleanOut (cleanup (cur - period) (l.map toE) 0) := by
  unfold SpendingLimit.cleanup_old_entries
  rw [cleanup_loop_eq envr st cur _ period l fuel 0 hf]
  have : uN_saturating_sub 32 cur period = cur - period := rfl
  rw [this]
  cases cleanup (cur - period) (List.map toE l) 0 with
  | error e => rfl
  | ok p => obtain ⟨h, r⟩ := p; rfl

/-! ### `can_enforce` and `enforce` -/

/-- every stored history is shorter than 2^32 (a host vector is; the code casts an index to `u32`) -/
def Short (st : SpendingLimit.Store) : Prop :=
  ∀ a r g, st.AccountContext a r = some g → g.spending_history.length < 2 ^ 32

/-- **generated = model** for `can_enforce` (an arithmetic overflow is a trap of both) -/
theorem can_enforce_ref (envr : SpendingLimit.Reads) (st : SpendingLimit.Store) (s : State) (hA : Abs envr st s)
    (hS : Short st) (ctx : SpendingLimit.Context) (sg : List Nat) (rule : SpendingLimit.ContextRule) (acct : Nat) :
    SpendingLimit.can_enforce envr st ctx sg rule acct = toComp (canEnforce s (ctxOf envr ctx) sg (mrule rule) acct) := by
  unfold SpendingLimit.can_enforce canEnforce
  by_cases he : sg.isEmpty = true
  · simp only [he, ↓reduceIte]; rfl
  · simp only [he, Bool.false_eq_true, ↓reduceIte]
    simp only [mrule]
    rw [← hA.store acct rule.id]
    cases hg : st.AccountContext acct rule.id with
    | none => rfl
    | some g =>
      rw [optCase_some]
      simp only [List.range_eq_range', scan_loop_eq envr st _ _ _ sg ctx rule _ _ g _ acct (hS _ _ g hg)
        g.spending_history 0 0 (by simp)]
      rw [caseContract_eq envr ctx]
      cases ctxOf envr ctx with
      | malformed => rfl
      | otherCall => rfl
      | createContract => rfl
      | transfer amt =>
        have hsat : uN_saturating_sub 32 envr.ledger_sequence g.period_ledgers = s.now - g.period_ledgers := by
          rw [← hA.now]; rfl
        rw [hsat]
        show _ = toComp (canCtx s.now (toD g) (.transfer amt))
        unfold canCtx
        simp only [bind, Except.bind, toD]
        cases scanExpired (s.now - g.period_ledgers) (List.map toE g.spending_history) 0 with
        | error e => rfl
        | ok r =>
          cases r with
          | none => rfl
          | some ex =>
            rw [toComp_eq]
            exact Sim.eq_iff.1 (Sim.read ((sub_eq _ _).trans (toComp_eq _)) fun t _ =>
              Sim.read ((add_eq _ _).trans (toComp_eq _)) fun u _ => Sim.pure rfl)

def Sim (envr : SpendingLimit.Reads) (c : Comp (Unit × SpendingLimit.Store)) (m : Except Err State) : Prop :=
  match m with
  | .ok s' => ∃ st', c = Comp.ok ((), st') ∧ Abs envr st' s'
  | .error _ => c = Comp.panic

/-- one entry written or removed, on both sides: `Store.set_AccountContext` and `Store.del_AccountContext` are the point
update `upd2` at `some g` and at `none`, by `rfl`; `od` is what the model stores, the image of `o` -/
theorem abs_upd {envr : SpendingLimit.Reads} {st : SpendingLimit.Store} {s : State} (hA : Abs envr st s) (a r : Nat)
    (o : Option SpendingLimitData) (od : Option Data) (ho : o.map toD = od) (ev : List Event) :
    Abs envr ⟨upd2 st.AccountContext a r o⟩ { s with store := upd2 s.store a r od, events := ev } := by
  refine ⟨fun x y => ?_, hA.now⟩
  show (upd2 st.AccountContext a r o x y).map toD = upd2 s.store a r od x y
  unfold upd2
  split
  · exact ho
  · exact hA.store x y

theorem sim_iff {envr : SpendingLimit.Reads} {c : Comp (Unit × SpendingLimit.Store)} {m : Except Err State} :
    Sim envr c m ↔ Rs.Sim (onStore (Abs envr)) c m := by
  cases m with
  | ok s' => exact Rs.Sim.store_ok_iff.symm
  | error e => exact Iff.rfl

/-- **generated = model** for `enforce`, with fuel beyond the length of the stored history -/
theorem enforce_ref (envr : SpendingLimit.Reads) (st : SpendingLimit.Store) (s : State) (hA : Abs envr st s)
    (auth : List Nat) (hauth : AuthIs envr auth) (ctx : SpendingLimit.Context) (sg : List Nat)
    (rule : SpendingLimit.ContextRule) (acct fuel : Nat)
    (hf : ∀ g, st.AccountContext acct rule.id = some g → g.spending_history.length < fuel) :
    Sim envr (SpendingLimit.enforce fuel envr st ctx sg rule acct)
      (Spend.enforce s auth (ctxOf envr ctx) sg (mrule rule) acct) := by
  refine sim_iff.2 (Sim.test (hauth.iff acct) fun _ => Sim.refuse _ Iff.rfl fun _ =>
    Sim.lookup rfl (data_eq hA acct rule.id) fun g hg => ?_)
  rw [caseContract_eq envr ctx]
  cases ctxOf envr ctx with
  | malformed => rfl
  | otherCall => rfl
  | createContract => rfl
  | transfer amt =>
    rw [cleanup_eq envr st g.spending_history envr.ledger_sequence g.period_ledgers fuel (hf g hg), hA.now]
    refine Sim.readMap (cleanOut_eq _) fun c _ => Sim.read ((sub_eq _ _).trans (toComp_eq _)) fun t _ =>
      Sim.read ((add_eq _ _).trans (toComp_eq _)) fun u hu => Sim.refuse _ Iff.rfl fun _ =>
        Sim.refuse _ (by rw [List.length_map]; exact Iff.rfl) fun _ => ?_
    rw [add_eq]
    show Rs.Sim _ (Comp.bind (toComp (chk (t + amt))) _) _
    rw [hu]
    refine Sim.pure (abs_upd hA _ _ (some _) _ (congrArg some ?_) _)
    simp only [toD, List.map_append, map_toE_ofE, List.map_cons, List.map_nil]
    rfl

/-- **generated = model** for `uninstall` -/
theorem uninstall_ref (envr : SpendingLimit.Reads) (st : SpendingLimit.Store) (s : State) (hA : Abs envr st s)
    (auth : List Nat) (hauth : AuthIs envr auth) (rule : SpendingLimit.ContextRule) (acct : Nat) :
    Sim envr (SpendingLimit.uninstall envr st rule acct) (Spend.uninstall s auth (mrule rule) acct) :=
  sim_iff.2 <| Sim.test (hauth.iff acct) fun _ => Sim.pure (abs_upd hA acct rule.id none none rfl s.events)

/-- **generated = model** for `install` -/
theorem install_ref (envr : SpendingLimit.Reads) (st : SpendingLimit.Store) (s : State) (hA : Abs envr st s)
    (auth : List Nat) (hauth : AuthIs envr auth) (limit : Int) (period : Nat) (rule : SpendingLimit.ContextRule) (acct : Nat) :
    Sim envr (SpendingLimit.install envr st ⟨limit, period⟩ rule acct) (Spend.install s auth limit period (mrule rule) acct) := by
  exact sim_iff.2 <| Sim.test (hauth.iff acct) fun _ => Sim.refuse _ Iff.rfl fun _ =>
    Sim.refuse _ (by rw [← Option.isSome_map (f := toD), hA.store acct rule.id]; exact Iff.rfl) fun _ =>
      Sim.pure (abs_upd hA acct rule.id (some _) (some ⟨limit, period, [], 0⟩) rfl s.events)

/-- **generated = model** for `set_spending_limit` -/
theorem set_spending_limit_ref (envr : SpendingLimit.Reads) (st : SpendingLimit.Store) (s : State) (hA : Abs envr st s)
    (auth : List Nat) (hauth : AuthIs envr auth) (limit : Int) (rule : SpendingLimit.ContextRule) (acct : Nat) :
    Sim envr (SpendingLimit.set_spending_limit envr st limit rule acct) (Spend.setSpendingLimit s auth limit (mrule rule) acct) := by
  exact sim_iff.2 <| Sim.test (hauth.iff acct) fun _ => Sim.refuse _ Iff.rfl fun _ =>
    Sim.lookup rfl (data_eq hA acct rule.id) fun g _ => Sim.pure (abs_upd hA acct rule.id (some _) _ rfl s.events)

/-! ### the machine: every history -/

inductive GOp
  | install (acct : Nat) (rule : SpendingLimit.ContextRule) (limit : Int) (period : Nat)
  | setLimit (acct : Nat) (rule : SpendingLimit.ContextRule) (limit : Int)
  | uninstall (acct : Nat) (rule : SpendingLimit.ContextRule)
  | enforce (acct : Nat) (rule : SpendingLimit.ContextRule) (ctx : SpendingLimit.Context) (signers : List Nat)
  | advance (n : Nat)

structure GS where
  st : SpendingLimit.Store
  now : Nat

/-- the environment of one invocation: who authorizes it, the ledger, the host's value conversion -/
def envOf (tf : Nat → Option Int) (auth : List Nat) (now : Nat) : SpendingLimit.Reads := ⟨fun a => decide (a ∈ auth), now, tf⟩

theorem envOf_auth (tf : Nat → Option Int) (auth : List Nat) (now : Nat) : AuthIs (envOf tf auth now) auth :=
  fun a => by simp [envOf]

def mop (tf : Nat → Option Int) : GOp → Op
  | .install a r l p => .install a (mrule r) l p
  | .setLimit a r l => .setLimit a (mrule r) l
  | .uninstall a r => .uninstall a (mrule r)
  | .enforce a r c sg => .enforce a (mrule r) (ctxOf (envOf tf [] 0) c) sg
  | .advance n => .advance n

/-- fuel for `cleanup_old_entries`: beyond every history the policy ever stores (at most 1000 entries) -/
def FUEL : Nat := 1001

def genCall (tf : Nat → Option Int) (g : GS) (auth : List Nat) : GOp → Option (Comp (Unit × SpendingLimit.Store))
  | .install a r l p => some (SpendingLimit.install (envOf tf auth g.now) g.st ⟨l, p⟩ r a)
  | .setLimit a r l => some (SpendingLimit.set_spending_limit (envOf tf auth g.now) g.st l r a)
  | .uninstall a r => some (SpendingLimit.uninstall (envOf tf auth g.now) g.st r a)
  | .enforce a r c sg => some (SpendingLimit.enforce FUEL (envOf tf auth g.now) g.st c sg r a)
  | .advance _ => none

/-- a failed invocation is rolled back by the host; `advance` moves the ledger -/
def genStep (tf : Nat → Option Int) (g : GS) (x : List Nat × GOp) : GS :=
  match x.2 with
  | .advance n => ⟨g.st, g.now + n⟩
  | op =>
    match genCall tf g x.1 op with
    | some (Comp.ok (_, st')) => ⟨st', g.now⟩
    | _ => g

def genRun (tf : Nat → Option Int) (g : GS) (ops : List (List Nat × GOp)) : GS := ops.foldl (genStep tf) g

def Bounded (s : State) : Prop := ∀ a r d, s.store a r = some d → d.history.length ≤ MAX_HISTORY_ENTRIES

theorem fuel_suffices {envr : SpendingLimit.Reads} {st : SpendingLimit.Store} {s : State} (hA : Abs envr st s)
    (hB : Bounded s) {a r : Nat} {gd : SpendingLimitData} (h : st.AccountContext a r = some gd) :
    gd.spending_history.length < FUEL := by
  have hs := hA.store a r
  rw [h] at hs
  have hb := hB a r (toD gd) hs.symm
  have : (toD gd).history.length = gd.spending_history.length := List.length_map _
  unfold FUEL
  unfold MAX_HISTORY_ENTRIES at hb
  omega

theorem ctxOf_env (tf : Nat → Option Int) (auth : List Nat) (now : Nat) (c : SpendingLimit.Context) :
    ctxOf (envOf tf auth now) c = ctxOf (envOf tf [] 0) c := by
  cases c <;> rfl

/-- the model keeps every history within the capacity -/
theorem bounded_step (s : State) (hB : Bounded s) (x : List Nat × Op) : Bounded (step s x) := by
  obtain ⟨auth, op⟩ := x
  cases hm : apply s auth op with
  | error e => rw [step_eq_err hm]; exact hB
  | ok s' =>
    rw [step_eq_ok hm]
    -- an entry of the new state is an old entry, or the one just written
    have upd : ∀ (a r : Nat) (od : Option Data) (ev : List Event),
        (∀ d, od = some d → d.history.length ≤ MAX_HISTORY_ENTRIES) →
        Bounded { s with store := upd2 s.store a r od, events := ev } := fun a r od ev hd =>
      upd2_forall (Q := fun _ _ (o : Option Data) => ∀ d, o = some d → d.history.length ≤ MAX_HISTORY_ENTRIES)
        (fun x y _ => hB x y) hd
    cases op with
    | install a r l p =>
      obtain ⟨_, _, _, _, rfl⟩ := install_ok_iff.mp hm
      exact upd a r.id _ s.events (fun d hd => by injection hd with hd; subst hd; exact Nat.zero_le _)
    | setLimit a r l =>
      obtain ⟨_, _, d, hd, rfl⟩ := setLimit_ok_iff.mp hm
      exact upd a r.id _ s.events (fun d' hd' => by injection hd' with hd'; subst hd'; exact hB a r.id d hd)
    | uninstall a r =>
      obtain ⟨_, rfl⟩ := uninstall_ok_iff.mp hm
      exact upd a r.id none s.events (fun d hd => by cases hd)
    | enforce a r c sg =>
      obtain ⟨_, _, d, amt, h', rr, _, _, _, _, _, _, hlen, rfl⟩ := enforce_ok hm
      refine upd a r.id _ _ (fun d' hd' => ?_)
      injection hd' with hd'
      subst hd'
      show (h' ++ [(⟨amt, s.now⟩ : Entry)]).length ≤ MAX_HISTORY_ENTRIES
      rw [List.length_append]
      exact hlen
    | advance n =>
      injection hm with hm
      subst hm
      exact hB

/-- a call and the model's, with the rollback of both, as `genStep` and `step` spell it (`genStep` matches on the
`Option` that `genCall` returns, hence `match some c`); the abstraction does not depend on who authorizes, hence the
free `auth'` -/
theorem call_refines (tf : Nat → Option Int) {g : GS} {auth : List Nat} (auth' : List Nat) {s : State}
    (hA : Abs (envOf tf auth g.now) g.st s) {c : Comp (Unit × SpendingLimit.Store)} {m : Except Err State} :
    Sim (envOf tf auth g.now) c m →
      Abs (envOf tf auth' (match some c with | some (Comp.ok (_, st')) => (⟨st', g.now⟩ : GS) | _ => g).now)
        (match some c with | some (Comp.ok (_, st')) => (⟨st', g.now⟩ : GS) | _ => g).st
        (match m with | .ok s' => s' | .error _ => s) := by
  cases m with
  | error e => intro h; rw [show c = Comp.panic from h]; exact ⟨hA.store, hA.now⟩
  | ok s' => rintro ⟨st', h1, h2⟩; rw [h1]; exact ⟨h2.store, h2.now⟩

/-- **one step**: generated call = model step, with the host's rollback -/
theorem step_refines (tf : Nat → Option Int) (g : GS) (s : State) (hA : ∀ auth, Abs (envOf tf auth g.now) g.st s) (hB : Bounded s)
    (x : List Nat × GOp) :
    (∀ auth, Abs (envOf tf auth (genStep tf g x).now) (genStep tf g x).st (step s (x.1, mop tf x.2))) ∧
      Bounded (step s (x.1, mop tf x.2)) := by
  refine ⟨?_, bounded_step s hB _⟩
  obtain ⟨auth, op⟩ := x
  intro auth'
  cases op with
  | advance n =>
    show Abs (envOf tf auth' (g.now + n)) g.st (step s (auth, .advance n))
    refine ⟨(hA auth').store, ?_⟩
    show g.now + n = s.now + n
    rw [show g.now = s.now from (hA auth').now]
  | install a r l p =>
    exact call_refines tf auth' (hA auth)
      (install_ref _ g.st s (hA auth) auth (envOf_auth tf auth g.now) l p r a)
  | setLimit a r l =>
    exact call_refines tf auth' (hA auth)
      (set_spending_limit_ref _ g.st s (hA auth) auth (envOf_auth tf auth g.now) l r a)
  | uninstall a r =>
    exact call_refines tf auth' (hA auth)
      (uninstall_ref _ g.st s (hA auth) auth (envOf_auth tf auth g.now) r a)
  | enforce a r c sg =>
    have h := enforce_ref _ g.st s (hA auth) auth (envOf_auth tf auth g.now) c sg r a FUEL (fun _ => fuel_suffices (hA auth) hB)
    rw [ctxOf_env] at h
    exact call_refines tf auth' (hA auth) h

/-- **every history**: whatever finite sequence of install / set_spending_limit / uninstall / enforce calls and ledger
movements is made, by whatever authorizing sets and with whatever authorization contexts, the generated store follows
the model state -/
theorem run_refines (tf : Nat → Option Int) (ops : List (List Nat × GOp)) :
    ∀ (g : GS) (s : State), (∀ auth, Abs (envOf tf auth g.now) g.st s) → Bounded s →
      (∀ auth, Abs (envOf tf auth (genRun tf g ops).now) (genRun tf g ops).st (run s (ops.map fun x => (x.1, mop tf x.2)))) ∧
        Bounded (run s (ops.map fun x => (x.1, mop tf x.2))) := by
  induction ops with
  | nil => intro g s h hb; exact ⟨h, hb⟩
  | cons x xs ih =>
    intro g s h hb
    obtain ⟨h1, h2⟩ := step_refines tf g s h hb x
    exact ih _ _ h1 h2

theorem store0_abs (tf : Nat → Option Int) (now0 : Nat) (auth : List Nat) :
    Abs (envOf tf auth now0) ⟨fun _ _ => none⟩ (init now0) := ⟨fun _ _ => rfl, rfl⟩

theorem init_bounded (now0 : Nat) : Bounded (init now0) := fun _ _ _ h => by cases h

/-! ### the model's history theorems, read off the generated store -/

def gsum (l : List SpendingEntry) : Int := (l.map (·.amount)).sum

theorem isum_map_toE (l : List SpendingEntry) : isum (l.map toE) = gsum l := by
  induction l with
  | nil => rfl
  | cons e r ih => simp only [List.map_cons, isum, gsum, List.sum_cons] at *; rw [ih]; rfl

/-- **the cached total is the sum of the stored history**, the history is ordered by ledger, not from the future and
never longer than 1000 entries, limit and period are positive — after every history of generated calls from a fresh
policy contract (at a ledger ≥ 1) -/
theorem gen_spend_entry_valid (tf : Nat → Option Int) (now0 : Nat) (h0 : 1 ≤ now0) (ops : List (List Nat × GOp)) (a r : Nat)
    (gd : SpendingLimitData) (h : (genRun tf ⟨⟨fun _ _ => none⟩, now0⟩ ops).st.AccountContext a r = some gd) :
    gd.cached_total_spent = gsum gd.spending_history ∧
    gd.spending_history.Pairwise (fun x y => x.ledger_sequence ≤ y.ledger_sequence) ∧
    (∀ e ∈ gd.spending_history, e.ledger_sequence ≤ (genRun tf ⟨⟨fun _ _ => none⟩, now0⟩ ops).now) ∧
    gd.spending_history.length ≤ 1000 ∧ 0 < gd.spending_limit ∧ 0 < gd.period_ledgers := by
  obtain ⟨hA, _⟩ := run_refines tf ops ⟨⟨fun _ _ => none⟩, now0⟩ (init now0) (store0_abs tf now0) (init_bounded now0)
  have hs := (hA []).store a r
  rw [h] at hs
  have hnow : (genRun tf ⟨⟨fun _ _ => none⟩, now0⟩ ops).now = (run (init now0) (ops.map fun x => (x.1, mop tf x.2))).now :=
    (hA []).now
  have hc := cached_eq_sum_history now0 h0 _ a r (toD gd) hs.symm
  obtain ⟨hsorted, hle, hlen⟩ := history_sorted now0 h0 _ a r (toD gd) hs.symm
  obtain ⟨hl, hp⟩ := spend_config_valid now0 h0 _ a r (toD gd) hs.symm
  refine ⟨?_, ?_, ?_, ?_, hl, hp⟩
  · rw [← isum_map_toE]; exact hc
  · have : (toD gd).history = gd.spending_history.map toE := rfl
    rw [this, List.pairwise_map] at hsorted
    exact hsorted
  · intro e he
    rw [hnow]
    exact hle (toE e) (List.mem_map_of_mem he)
  · have : (toD gd).history.length = gd.spending_history.length := by simp [toD]
    rw [← this]; exact hlen

/-- **accepted exactly when the model accepts**: an `enforce` call on the generated policy after any history is
accepted exactly when the model's `enforce` is — so the model's log of authorized transfers (`window_bound`,
`window_any` of OZ/Props/C14.lean: the amounts authorized within any window of `period_ledgers` ledgers never exceed
the limit) is the log of the transfers the generated code authorized -/
theorem gen_spend_enforce_iff_model (tf : Nat → Option Int) (now0 : Nat) (ops : List (List Nat × GOp)) (auth : List Nat)
    (a : Nat) (r : SpendingLimit.ContextRule) (c : SpendingLimit.Context) (sg : List Nat) :
    let g := genRun tf ⟨⟨fun _ _ => none⟩, now0⟩ ops
    let s := run (init now0) (ops.map fun x => (x.1, mop tf x.2))
    (∃ st', SpendingLimit.enforce FUEL (envOf tf auth g.now) g.st c sg r a = .ok ((), st')) ↔
      (∃ s', Spend.enforce s auth (ctxOf (envOf tf [] 0) c) sg (mrule r) a = .ok s') := by
  intro g s
  obtain ⟨hA, hB⟩ := run_refines tf ops ⟨⟨fun _ _ => none⟩, now0⟩ (init now0) (store0_abs tf now0) (init_bounded now0)
  have h := enforce_ref _ g.st s (hA auth) auth (envOf_auth tf auth g.now) c sg r a FUEL
    (fun _ => fuel_suffices (hA auth) hB)
  rw [ctxOf_env] at h
  cases hm : Spend.enforce s auth (ctxOf (envOf tf [] 0) c) sg (mrule r) a with
  | error e =>
    rw [hm] at h
    have hc : SpendingLimit.enforce FUEL (envOf tf auth g.now) g.st c sg r a = Comp.panic := h
    rw [hc]
    constructor
    · rintro ⟨_, h'⟩; cases h'
    · rintro ⟨_, h'⟩; cases h'
  | ok s' =>
    rw [hm] at h
    obtain ⟨st', h1, _⟩ := h
    exact ⟨fun _ => ⟨s', rfl⟩, fun _ => ⟨st', h1⟩⟩

/-- non-vacuity: limit 100 per 10 ledgers; 60 is authorized, a further 50 in the same window is refused, and accepted
once the first has left the window -/
example :
    let tf : Nat → Option Int := fun v => some (Int.ofNat v)
    let rule : SpendingLimit.ContextRule := ⟨1, [10]⟩
    let xfer (n : Nat) : SpendingLimit.Context := .Contract ⟨5, transferSym, [0, 0, n]⟩
    let g1 := genRun tf ⟨⟨fun _ _ => none⟩, 100⟩ [([7], .install 7 rule 100 10), ([7], .enforce 7 rule (xfer 60) [10])]
    (g1.st.AccountContext 7 1).map (·.cached_total_spent) = some 60 ∧
    SpendingLimit.can_enforce (envOf tf [] g1.now) g1.st (xfer 50) [10] rule 7 = .ok false ∧
    SpendingLimit.can_enforce (envOf tf [] g1.now) g1.st (xfer 40) [10] rule 7 = .ok true ∧
    SpendingLimit.can_enforce (envOf tf [] (g1.now + 10)) g1.st (xfer 50) [10] rule 7 = .ok true ∧
    SpendingLimit.can_enforce (envOf tf [] g1.now) g1.st (xfer 40) [] rule 7 = .ok false := by
  decide

end OZ.Gen.SpendingLimit
