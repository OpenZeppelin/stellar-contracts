import OZ.Gen.WebAuthnFlags
import OZ.Props.C18
/-
C18 — the authenticator-flag tests of the WebAuthn verifier, re-checked against the SOURCE on every run.

`lean/OZ/Gen/WebAuthnFlags.lean` is regenerated by `/verif/tools/rs2lean.py --webauthn` from /repo's current
`packages/accounts/src/verifiers/webauthn.rs` (`validate_user_present_bit_set`,
`validate_user_verified_bit_set`, `validate_backup_eligibility_and_state`, with the `AUTH_DATA_FLAGS_*`
constants as the source defines them).  Proved here: each generated function panics exactly when the
hand-written model's function fails, and the three together accept exactly the flag bytes the property
names: user present, user verified, and not (backup state without backup eligibility).
-/
namespace OZ.Gen.WebAuthn
open OZ.Rs OZ.WebAuthn

def accepts (c : Comp Unit) : Bool :=
  match c with
  | .ok _ => true
  | .panic => false

theorem up_eq (flags : OZ.B64.Byte) :
    accepts (validate_user_present_bit_set flags.toNat) = (validateUserPresentBitSet flags).isOk := by
  unfold validate_user_present_bit_set validateUserPresentBitSet AUTH_DATA_FLAGS_UP
  split <;> rfl

theorem uv_eq (flags : OZ.B64.Byte) :
    accepts (validate_user_verified_bit_set flags.toNat) = (validateUserVerifiedBitSet flags).isOk := by
  unfold validate_user_verified_bit_set validateUserVerifiedBitSet AUTH_DATA_FLAGS_UV
  split <;> rfl

theorem backup_eq (flags : OZ.B64.Byte) :
    accepts (validate_backup_eligibility_and_state flags.toNat) = (validateBackupEligibilityAndState flags).isOk := by
  unfold validate_backup_eligibility_and_state validateBackupEligibilityAndState AUTH_DATA_FLAGS_BE AUTH_DATA_FLAGS_BS
  split <;> rfl

theorem isOk_iff_ok {ε} (x : Except ε Unit) : x.isOk = true ↔ x = .ok () := by
  cases x with
  | ok u => exact iff_of_true rfl rfl
  | error e => exact iff_of_false nofun nofun

def bit (flags : OZ.B64.Byte) (k : Nat) : Bool := flags.toNat / 2 ^ k % 2 = 1

/-- **the flag gate on the source as translated**: the three generated checks all pass exactly when the
user-present bit (0) and the user-verified bit (2) are set and the backup-state bit (4) is not set without
the backup-eligibility bit (3) — for every one of the 256 flag bytes -/
theorem gen_flags_accept_iff (flags : OZ.B64.Byte) :
    (accepts (validate_user_present_bit_set flags.toNat) &&
     accepts (validate_user_verified_bit_set flags.toNat) &&
     accepts (validate_backup_eligibility_and_state flags.toNat)) =
    (bit flags 0 && bit flags 2 && !(bit flags 4 && !bit flags 3)) := by
  obtain ⟨hup, huv, hbe, hbs⟩ := flag_bits flags
  rw [up_eq, uv_eq, backup_eq, Bool.eq_iff_iff]
  simp only [Bool.and_eq_true, Bool.not_eq_true', ← Bool.not_eq_true, isOk_iff_ok, validateUP_ok, validateUV_ok,
    validateBackup_ok, hup, huv, hbe, hbs, bit, decide_eq_true_eq, Nat.pow_zero, Nat.div_one, Nat.reducePow]
  exact and_congr_right fun _ => not_congr and_comm

/-! ### non-vacuity -/
example : accepts (validate_backup_eligibility_and_state 0x15) = false := by decide   -- BS without BE
example : accepts (validate_backup_eligibility_and_state 0x1d) = true := by decide    -- BE and BS
example : accepts (validate_user_present_bit_set 0x04) = false := by decide

end OZ.Gen.WebAuthn
