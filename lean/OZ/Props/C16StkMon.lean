import OZ.Props.C16Stk
import OZ.Lemmas.GatesStkMon
/-
C16, machine `stk` (stacked guards) — soundness of the MONITOR that decides the property on
implementation traces.

For the sequences labelled `kind=stk` the driver feeds `OZ.Gates.Stk.Mon.checkCore` (the monitor on parsed
values, OZ/Model/GatesStkMon.lean) with the implementation's observations of the harness contract
`stk::Stacked`; `./check C16` reports a violation there exactly when it returns a message. Here it is
proved that on the observations of the MODEL the monitor never returns a message, for every label (any
owner, admin, role holder, start ledger) and every finite history (`monitor_accepts_every_model_trace`).
Together with OZ/Props/C16Mon.lean (the other eight machines) every machine the driver runs is covered.
Consequences:

  * an implementation whose observations agree with the model's can never raise a monitor alarm — a
    monitor failure is never a false alarm of the monitor itself;
  * every conclusion the monitor evaluates (an entry point declared `when_not_paused` / `when_paused` is
    accepted only in that pause state — `site=stacked.bypass.pause.<fn>`; only with the authorization of
    the principal of its authorization attribute — `site=stacked.bypass.auth.<fn>`; it is NOT refused when
    both hold — `site=stacked.refused.<fn>`; pause / unpause alternate, need the authorizing owner and are
    accepted then; counter and `paused()` follow the accepted calls and nothing else, an accepted `inc_*`
    returns the new counter — `site=stacked.effect`; a rejected call changes no getter) is a THEOREM about
    the model, in the monitor's own executable wording.

The model observation used here IS the data the driver's model side prints: `OZ.Drv.C16.StkIO.stepLine` runs
`stepM` on the parsed op and `StkIO.obsLine` prints the tag and the fields of `modelObs` of the resulting
state (`ret`, `now`, `counter`, `paused`); `lineOf auth op` is what `StkIO.parseLine` reads from the op line
`StkIO.parseOp` builds `(auth, op)` from. `monInit p` / `initM p` are what the driver's `minitAny` / `initAny`
build from the label parameters `p` (`StkIO.paramsOf (parseLabel label)`).
-/
namespace OZ.Gates.Stk.Mon
open OZ.Host OZ.Fungible OZ.Gates OZ.Gates.Stk

structure Agree (m : Mon) (x : MSt) : Prop where
  prev : m.prev = none ∨ m.prev = some (stableOf x)
  paused : m.paused = x.s.p.paused
  counter : m.counter = x.s.counter
  owner : x.s.owner = some m.owner
  admin : x.s.admin = some m.admin
  isOp : x.s.isOp = fun a => a == m.opr

/-- the monitor's reading of "the principal authorized" is the model's guard condition -/
theorem authorized_iff {m : Mon} {x : MSt} (ha : Agree m x) (auth : List Nat) (f : Fn) (c : Nat) :
    authorized m (lineOf auth (.op (.call f c))) f.spec.who = true ↔ Authorized x.s auth c f.spec.who := by
  cases hw : f.spec.who
  · simp [authorized, lineOf, Authorized, ha.owner]
  · simp [authorized, lineOf, Authorized, ha.admin]
  · simp only [authorized, lineOf, callerArg, hw, Authorized, ha.isOp]
    simp only [if_true, List.head?_cons, Bool.and_eq_true, beq_iff_eq, List.contains_iff_mem]
    constructor
    · rintro ⟨h1, h2⟩
      injection h1 with h1
      subst h1
      exact ⟨rfl, h2⟩
    · rintro ⟨h1, h2⟩
      subst h1
      exact ⟨rfl, h2⟩

/-- the monitor's reading of "every guard holds" is exactly acceptance by the model -/
theorem guardsHold_iff {m : Mon} {x : MSt} (ha : Agree m x) (auth : List Nat) (f : Fn) (c : Nat) :
    guardsHold m (lineOf auth (.op (.call f c))) f = true ↔ ∃ s', x.s.call auth f c = .ok s' := by
  rw [stacked_accepted_iff, ← authorized_iff ha]
  unfold guardsHold
  rw [ha.paused, ha.counter]
  cases hf : f.isInc <;> simp [and_assoc]

/-- the monitor's reading of "the owner is the authorizing caller" -/
theorem byOwner_iff {m : Mon} {x : MSt} (ha : Agree m x) (auth : List Nat) (c : Nat) (call : Call) :
    byOwner m ⟨call, [c], auth, 0⟩ = true ↔ x.s.owner = some c ∧ c ∈ auth := by
  simp only [byOwner, ha.owner, List.head?_cons, Bool.and_eq_true, beq_iff_eq, List.contains_iff_mem]
  constructor
  · rintro ⟨h1, h2⟩
    injection h1 with h1
    subst h1
    exact ⟨rfl, h2⟩
  · rintro ⟨h1, h2⟩
    injection h1 with h1
    subst h1
    exact ⟨rfl, h2⟩

/-- **a rejected call**: the monitor is silent on the (unchanged) getters and keeps describing the state -/
theorem rejected_sound {m : Mon} {x : MSt} (ha : Agree m x) (auth : List Nat) (op : SOp)
    (hr : applyModel x.s auth op = none) :
    (checkCore m (lineOf auth op) (modelObs x false op)).2 = none ∧
    Agree (checkCore m (lineOf auth op) (modelObs x false op)).1 x := by
  refine ⟨verdict_none (vRollback_none fun _ => ha.prev) ?_
      (vEffect_none ha.counter.symm ha.paused.symm (fun h => by cases h)),
    ⟨Or.inr rfl, ha.paused, ha.counter, ha.owner, ha.admin, ha.isOp⟩⟩
  cases op with
  | advance n => cases hr
  | op o =>
    have hno := applyModel_op_none hr
    cases o with
    | call f c =>
      exact vFn_none nofun fun _ => Bool.eq_false_iff.2 fun h =>
        let ⟨s', hs'⟩ := (guardsHold_iff ha auth f c).1 h; hno s' hs'
    | pause c =>
      refine vToggle_none (b := false) rfl nofun fun _ h => ?_
      obtain ⟨h1, h2⟩ := (byOwner_iff ha auth c .pause).1 h.2
      exact hno _ (pause_iff.2 ⟨ha.paused.symm.trans h.1, h1, h2, rfl⟩)
    | unpause c =>
      refine vToggle_none (b := true) rfl nofun fun _ h => ?_
      obtain ⟨h1, h2⟩ := (byOwner_iff ha auth c .unpause).1 h.2
      exact hno _ (unpause_iff.2 ⟨ha.paused.symm.trans h.1, h1, h2, rfl⟩)

/-- **an accepted call**: the monitor is silent on the new getters and its ghost flag / ghost counter
describe the new state -/
theorem accepted_sound {m : Mon} {x : MSt} (ha : Agree m x) (auth : List Nat) (op : SOp) {s' : Stk}
    (hs : applyModel x.s auth op = some s') :
    (checkCore m (lineOf auth op) (modelObs ⟨s', nowStep x.now op⟩ true op)).2 = none ∧
    Agree (checkCore m (lineOf auth op) (modelObs ⟨s', nowStep x.now op⟩ true op)).1 ⟨s', nowStep x.now op⟩ := by
  -- flag, counter and principals move as the ghost does, whatever the call; what is left is its decision check
  obtain ⟨e1, e2, k1, k2, k3⟩ := apply_effect hs
  have hcnt : s'.counter = counterStep m (lineOf auth op) true := by rw [e1, ← ha.counter]; rfl
  have hpz : s'.p.paused = pausedStep m (lineOf auth op) true := by rw [e2, ← ha.paused]; rfl
  refine ⟨verdict_none (l := lineOf auth op) (o := modelObs ⟨s', nowStep x.now op⟩ true op) (vRollback_none nofun) ?_
      (vEffect_none hcnt hpz fun _ hc => ?_),
    ⟨Or.inr rfl, hpz.symm, hcnt.symm, k1.trans ha.owner, k2.trans ha.admin, k3.trans ha.isOp⟩⟩
  · cases op with
    | advance n => exact vToggle_other nofun nofun
    | op o =>
      have hx := applyModel_op_some hs
      cases o with
      | call f c =>
        obtain ⟨h1, h2, -⟩ := call_iff.1 hx
        exact vFn_none (fun _ => ⟨ha.paused.trans h1, (authorized_iff ha auth f c).2 h2⟩) nofun
      | pause c =>
        obtain ⟨h1, h2, h3, -⟩ := pause_iff.1 hx
        exact vToggle_none (b := false) rfl
          (fun _ => ⟨ha.paused.trans h1, (byOwner_iff ha auth c .pause).2 ⟨h2, h3⟩⟩) nofun
      | unpause c =>
        obtain ⟨h1, h2, h3, -⟩ := unpause_iff.1 hx
        exact vToggle_none (b := true) rfl
          (fun _ => ⟨ha.paused.trans h1, (byOwner_iff ha auth c .unpause).2 ⟨h2, h3⟩⟩) nofun
  · cases op with
    | advance n => cases hc
    | op o =>
      cases o with
      | call f c => exact if_pos ⟨rfl, hc⟩
      | _ => cases hc

/-- **one call**: fed with the model's own observation of any call (accepted or rejected), the monitor
reports nothing and its state keeps describing the model's -/
theorem monitor_sound_step {m : Mon} {x : MSt} (ha : Agree m x) (auth : List Nat) (op : SOp) :
    (checkCore m (lineOf auth op) (modelObs (stepM x auth op).1 (stepM x auth op).2 op)).2 = none ∧
    Agree (checkCore m (lineOf auth op) (modelObs (stepM x auth op).1 (stepM x auth op).2 op)).1
      (stepM x auth op).1 := by
  cases hap : applyModel x.s auth op with
  | none => rw [stepM_none hap]; exact rejected_sound ha auth op hap
  | some s' => rw [stepM_some hap]; exact accepted_sound ha auth op hap

abbrev Item := List Nat × SOp

/-- the monitor run over a whole history of model observations: first message, if any -/
def monitorRun : Mon → MSt → List Item → Option String
  | _, _, [] => none
  | m, x, a :: as =>
    match (checkCore m (lineOf a.1 a.2) (modelObs (stepM x a.1 a.2).1 (stepM x a.1 a.2).2 a.2)).2 with
    | some msg => some msg
    | none => monitorRun
        (checkCore m (lineOf a.1 a.2) (modelObs (stepM x a.1 a.2).1 (stepM x a.1 a.2).2 a.2)).1
        (stepM x a.1 a.2).1 as

/-- the states the driver builds from a `kind=stk` label agree -/
theorem init_agree (p : Params) : Agree (monInit p) (initM p) :=
  ⟨Or.inl rfl, rfl, rfl, rfl, rfl, rfl⟩

/-- **monitor soundness**, machine `stk`: for every sequence label (any owner, admin, role holder and start
ledger — distinct or coinciding principals) and every finite history — any of the twelve guarded entry
points, pause, unpause, ledger movement, any callers, any authorizing subsets — the monitor reports
nothing on the model's observations -/
theorem monitor_accepts_every_model_trace (p : Params) (ops : List Item) :
    monitorRun (monInit p) (initM p) ops = none := by
  suffices ∀ m x, Agree m x → monitorRun m x ops = none from this _ _ (init_agree p)
  induction ops with
  | nil => intro m x _; rfl
  | cons a as ih =>
    intro m x ha
    obtain ⟨h1, h2⟩ := monitor_sound_step ha a.1 a.2
    unfold monitorRun
    rw [h1]
    exact ih _ _ h2

/-! ### non-vacuity: the monitor is not trivially silent -/

/-- an authorization macro that drops the pause guard stacked below it: `inc_a` (`#[only_owner]` above
`#[when_not_paused]`) accepted with the owner's authorization while the ghost flag says paused —
`site=stacked.bypass.pause.inc_a` -/
example :
    (checkCore { owner := 0, admin := 2, opr := 1, paused := true, counter := 12, prev := none }
      ⟨.fn .incA, [], [0], 0⟩
      ⟨true, some 13, { now := 100, counter := 13, paused := true }⟩).2.isSome = true := by
  decide

/-- `reset_a` (`#[only_owner]` above `#[when_paused]`) accepted while not paused —
`site=stacked.bypass.pause.reset_a` -/
example :
    (checkCore { owner := 0, admin := 2, opr := 1, paused := false, counter := 4, prev := none }
      ⟨.fn .resetA, [], [0], 0⟩
      ⟨true, none, { now := 100, counter := 0, paused := false }⟩).2.isSome = true := by
  decide

/-- `inc_b` accepted with only a stranger's authorization — `site=stacked.bypass.auth.inc_b` -/
example :
    (checkCore { owner := 0, admin := 2, opr := 1, paused := false, counter := 4, prev := none }
      ⟨.fn .incB, [], [3], 0⟩
      ⟨true, some 5, { now := 100, counter := 5, paused := false }⟩).2.isSome = true := by
  decide

/-- the role holder's authorized `inc_r2` refused while not paused — `site=stacked.refused.inc_r2` -/
example :
    (checkCore { owner := 0, admin := 2, opr := 1, paused := false, counter := 4,
                 prev := some { now := 100, counter := 4, paused := false } }
      ⟨.fn .incR2, [1], [1], 0⟩
      ⟨false, none, { now := 100, counter := 4, paused := false }⟩).2.isSome = true := by
  decide

/-- an accepted `inc_c` after which the counter did not move — `site=stacked.effect` -/
example :
    (checkCore { owner := 0, admin := 2, opr := 1, paused := false, counter := 4, prev := none }
      ⟨.fn .incC, [], [2], 0⟩
      ⟨true, some 4, { now := 100, counter := 4, paused := false }⟩).2.isSome = true := by
  decide

end OZ.Gates.Stk.Mon
