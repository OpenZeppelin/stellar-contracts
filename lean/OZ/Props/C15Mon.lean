import OZ.Lemmas.IdentityMonChecks
/-
C15 — soundness of the MONITOR that decides the property on implementation traces.

`./check C15` (and `./check C04`, which also runs this harness and counts `site=identity.verify.*`)
reports a concrete violation exactly when `OZ.Identity.Mon.checkCore` (the driver's monitor on parsed
values, OZ/Model/IdentityMon.lean) returns a message on the implementation's observations. Here it is
proved that on the observations of the MODEL the monitor never returns a message, for every finite
history of operations of the whole stack — any registry add / remove / update, identity registry
writes, claims added / removed / written raw (also under ids whose topic they do not carry), keys,
nonces, revocations, clock moves, re-wiring, `valid` and `verify` queries, accepted or rejected
(`monitor_accepts_every_model_trace`). Consequences:

  * an implementation whose observations agree with the model's (the correspondence the check
    establishes by differential testing) can never raise a monitor alarm;
  * every conclusion the monitor evaluates is a THEOREM about the model, in the monitor's own
    executable wording, layer by layer:
      - `monitor_verifies_iff`   every `ver=` entry and every `verify` outcome = the property's first
                                 sentence on the ghost state (∀ required topic ∃ trusted issuer with a
                                 held, matching, confirmed claim); the converse unless the account's
                                 identity contract is `loose`;
      - `monitor_confirms_iff`   every `valid` outcome = the property's second sentence on the ghost
                                 state (well-formed, signed over exactly (network, issuer, identity, topic,
                                 current nonce, data) — the signature itself is the oracle `symVerify` —,
                                 key allowed for the topic, unexpired, unrevoked);
      - `monitor_add_claim_sound`, `monitor_rollback_sound`, `ghost_tracks_model`.

The ghost state never goes through the model's transition function; the link is the relation
`AgreeW` (OZ/Lemmas/IdentityMon.lean), preserved by `update` for every accepted operation.

The observation fed to the monitor, `modelObs`, is the data the model side of the driver prints
(OZ/Drv/C15.lean `stepLine`: tag = `(stepM m op).2`, the text after the tag = `dump` of the new driver
state `(stepM m op).1`, whose `ver=` field is `verOf`). The text after the tag is compared only for
equality, so it is modelled as an ARBITRARY function `render` of the driver state. Not covered
(string level, trusted): `parseOp` / `parseClaim` / `parseObs` of the driver.

Why `checkCore` tracks `G.loose`: the strict monitor (`checkCoreLegacy`), which demands the converse for every
account, raises an alarm on a model trace outside the harness universe (`legacy_monitor_false_alarm`); `checkCore`
does not.
-/
namespace OZ.Identity.Mon
open OZ.Host OZ.Identity OZ.ClaimIssuer

/-- the observation the model driver prints for its state after an op: tag, dump, `ver=` -/
def modelObs (render : M → String) (m : M) (ok : Bool) : Obs := ⟨ok, render m, verOf m.w⟩

structure Agree (render : M → String) (g : G) (m : M) : Prop where
  w : AgreeW g m.w
  prev : g.prev = "" ∨ g.prev = render m

/-! ### the layers -/

/-- **the ghost update mirrors the model**: after any accepted operation the ghost state agrees with
the model's new world -/
theorem ghost_tracks_model {g : G} {W W' : World SymSig} (op : Op SymSig) (h : AgreeW g W)
    (e : applyOp symVerify W op = .ok W') : AgreeW (update g op) W' := agree_update op h e

/-- **verify_identity**: in every world the ghost state agrees with, the model's `verify_identity`
accepts an account only if the monitor's condition holds, and — unless the account's identity
contract is `loose` — if it holds -/
theorem monitor_verifies_iff {g : G} {W : World SymSig} (h : AgreeW g W) (a : Nat) :
    (verifyIdentity symVerify W a = .ok () → g.verifies a = true) ∧
    (g.verifies a = true → g.looseAcct a = false → verifyIdentity symVerify W a = .ok ()) :=
  ⟨verifies_of_model h a, model_of_verifies h a⟩

/-- **is_claim_valid**: the monitor's condition equals the model's issuer outcome, with the signature
check as the oracle `symVerify` -/
theorem monitor_confirms_iff {g : G} {W : World SymSig} (h : AgreeW g W) (i d t scheme : Nat)
    (sd : SigData SymSig) (data : List Nat) :
    g.confirms i d t scheme sd data = true ↔ issuerConfirms symVerify W i d t scheme sd data = true := by
  rw [confirms_eq h]

theorem verdictVer_quiet {g1 : G} {W : World SymSig} (h : AgreeW g1 W) (ok : Bool) (rest : String) :
    verdictVer false g1 ⟨ok, rest, verOf W⟩ = none := by
  unfold verdictVer verOf expOf
  rw [zip_maps, Option.map_eq_none_iff, List.find?_eq_none]
  intro x hx
  obtain ⟨a, _, rfl⟩ := List.mem_map.mp hx
  rw [verEntry_quiet h a]
  exact Bool.false_ne_true

/-- **add_claim**: an accepted `add_claim` of the model passes the monitor's check (in the ghost state
BEFORE the call) -/
theorem monitor_add_claim_sound {g : G} {W W' : World SymSig} (h : AgreeW g W) (d : Nat) (c : Claim SymSig)
    (e : applyOp symVerify W (.addClaim d c) = .ok W') : verdictAddClaim g d c = none := by
  simp only [applyOp] at e
  obtain ⟨st, _, hc, _⟩ := addClaim_unpack e
  unfold verdictAddClaim
  rw [confirms_eq h, hc, if_pos rfl]

/-- **rollback**: a rejected operation of the model leaves the driver state, hence every observable,
as it was (but for the displayed revocation triples of a `revoke` line) -/
theorem monitor_rollback_sound (render : M → String) {g : G} {m : M} (ha : Agree render g m) (op : Op SymSig) :
    verdictRollback g op (modelObs render (stepM m op).1 (stepM m op).2) = none := by
  unfold verdictRollback
  apply if_neg
  rintro ⟨h1, h2, h3, h4⟩
  unfold stepM at h1 h4
  cases hx : applyOp symVerify m.w op with
  | ok w' => rw [hx] at h1; exact h1 rfl
  | error er =>
    rw [hx] at h4
    have hrv : trackRv m.rv op = m.rv := by
      cases op <;> first | rfl | exact absurd rfl h3
    apply h4
    show render { w := m.w, rv := trackRv m.rv op } = g.prev
    rw [hrv]
    rcases ha.prev with hp | hp
    · exact absurd hp h2
    · exact hp.symm

/-! ### one call -/

theorem ghostAfter_agrees {g : G} {m : M} (h : AgreeW g m.w) (op : Op SymSig) :
    AgreeW (ghostAfter g op (stepM m op).2) (stepM m op).1.w := by
  unfold ghostAfter stepM
  cases hx : applyOp symVerify m.w op with
  | ok w' => exact agree_update op h hx
  | error er => exact h

theorem verdictLen_quiet (render : M → String) (m : M) (ok : Bool) : verdictLen (modelObs render m ok) = none := by
  unfold verdictLen
  refine if_neg fun c => c ?_
  show (verOf m.w).length = ACCOUNTS.length
  unfold verOf; rw [List.length_map]

theorem verdictValid_quiet {g : G} {m : M} (h : AgreeW g m.w) (op : Op SymSig) :
    verdictValid (ghostAfter g op (stepM m op).2) op (stepM m op).2 = none := by
  have hA := ghostAfter_agrees h op
  cases op with
  | valid i d t scheme sd data =>
    obtain ⟨h2, hw⟩ := stepM_valid m i d t scheme sd data
    rw [hw] at hA
    unfold verdictValid
    simp only
    rw [confirms_eq hA i d t scheme sd data, h2]
    cases issuerConfirms symVerify m.w i d t scheme sd data <;> simp
  | _ => rfl

theorem verdictKind_quiet {g : G} {m : M} (h : AgreeW g m.w) (op : Op SymSig) :
    verdictKind false g (ghostAfter g op (stepM m op).2) op (stepM m op).2 = none := by
  cases op with
  | verify a =>
    obtain ⟨h2, _⟩ := stepM_verify m a
    show verdictVerifyOp false _ a _ = none
    rw [ghostAfter_verify, h2]
    exact verdictVerifyOp_quiet h a
  | addClaim d c =>
    show (if (stepM m (.addClaim d c)).2 = true then verdictAddClaim g d c else none) = none
    unfold stepM
    cases hx : applyOp symVerify m.w (.addClaim d c) with
    | ok w' => exact (if_pos rfl).trans (monitor_add_claim_sound h d c hx)
    | error er => rfl
  | _ => rfl

/-- **one call**: fed with the model's own observation of any call (accepted or rejected), the
monitor reports nothing and its state keeps describing the model's -/
theorem monitor_sound_step (render : M → String) {g : G} {m : M} (ha : Agree render g m) (op : Op SymSig) :
    (checkCore g op (modelObs render (stepM m op).1 (stepM m op).2)).2 = none ∧
    Agree render (checkCore g op (modelObs render (stepM m op).1 (stepM m op).2)).1 (stepM m op).1 := by
  have hA := ghostAfter_agrees ha.w op
  exact ⟨verdict_none (monitor_rollback_sound render ha op) (verdictLen_quiet ..) (verdictValid_quiet ha.w op)
    (verdictVer_quiet hA _ _) (verdictKind_quiet ha.w op), agreeW_prev hA _, .inr rfl⟩

/-! ### whole histories -/

/-- the monitor (`strict`: `checkCoreLegacy`) run over a whole history of model observations: first
message, if any -/
def monitorRunWith (strict : Bool) (render : M → String) : G → M → List (Op SymSig) → Option String
  | _, _, [] => none
  | g, m, op :: ops =>
    match (checkCoreWith strict g op (modelObs render (stepM m op).1 (stepM m op).2)).2 with
    | some msg => some msg
    | none => monitorRunWith strict render
        (checkCoreWith strict g op (modelObs render (stepM m op).1 (stepM m op).2)).1 (stepM m op).1 ops

/-- `strict := false`: `checkCore`, the monitor the driver runs -/
def monitorRun (render : M → String) : G → M → List (Op SymSig) → Option String := monitorRunWith false render

/-- from any monitor state and driver state that describe the same point of a history, the monitor reports nothing on
the model's observations of what follows -/
theorem monitorRun_quiet (render : M → String) (ops : List (Op SymSig)) :
    ∀ {g : G} {m : M}, Agree render g m → monitorRun render g m ops = none := by
  induction ops with
  | nil => intro g m _; rfl
  | cons op ops ih =>
    intro g m ha
    obtain ⟨h1, h2⟩ := monitor_sound_step render ha op
    unfold monitorRun monitorRunWith
    have h1' : (checkCoreWith false g op (modelObs render (stepM m op).1 (stepM m op).2)).2 = none := h1
    rw [h1']
    exact ih h2

/-- **monitor soundness**: started in the states the driver builds (`minit` = `G.init`, `init` =
`initM`: the freshly deployed stack of two registries, identity registry storage, verifier, three
claim issuers and two identity contracts), for EVERY finite history of operations — any addresses,
topics, claims, signatures, keys, schemes, data, timestamps, accepted or rejected — and every
rendering of the state dump, the monitor reports nothing on the model's observations -/
theorem monitor_accepts_every_model_trace (render : M → String) (ops : List (Op SymSig)) :
    monitorRun render G.init initM ops = none :=
  monitorRun_quiet render ops ⟨agreeW_init, .inl rfl⟩

/-! ### the strict monitor raises an alarm on a model trace

History (outside the harness universe, whose generator uses the library's `remove_claim` only on
claims carrying the topic of their id): registry 0 requires topic 1 and trusts issuers 4 and 5 for it
(in that order); issuer 5 allows key 1 and its genuine claim is added to identity 8 of account 11.
The identity contract also writes, raw, under the id (4, 1) a claim that says topic 2, and then calls
the library's `remove_claim` on that id: the claim is deleted but the index of topic 1 keeps the id
(`remove_claim` de-indexes under the CLAIM's topic, 2). From then on the model's — and the code's —
`verify_identity(11)` panics in `get_claim` when it meets issuer 4's dangling id before reaching
issuer 5, although topic 1 does have a valid claim of the trusted issuer 5. The strict monitor demands
acceptance there (`site=identity.verify.rejects`); the property's theorems (OZ/Props/C15.lean) state the
iff for well-formed identity stores only. `checkCore` remembers such identity contracts
(`G.loose`) and demands only "verified ONLY by valid claims" for their accounts. -/

def cexData : List Nat := [0, 0, 0, 0, 0, 0, 0, 0, 0, 0, 0, 0, 0, 0, 255, 255]

def cexSig (i t : Nat) : SigData SymSig :=
  { len := 96, pk := 1,
    sig := { ok := true, ns := 101, tag := 0,
             msg := { network := 0, issuer := i, identity := 8, topic := t, nonce := 0, data := cexData } } }

def cexOps : List (Op SymSig) :=
  [ .setIrs, .setCti 0, .reg 0 (.addTopic 1), .reg 0 (.addIssuer 4 [1]),
    .reg 0 (.addIssuer 5 [1]), .allowKey 5 1 101 0 1, .irsAdd 11 8, .time 5,
    .addClaim 8 { topic := 1, scheme := 101, issuer := 5, sig := cexSig 5 1, data := cexData },
    .rawPut 8 4 1 { topic := 2, scheme := 101, issuer := 4, sig := cexSig 4 1, data := cexData },
    .removeClaim 8 4 1 ]

/-- the strict monitor reports a failure on this MODEL trace … -/
theorem legacy_monitor_false_alarm :
    (monitorRunWith true (fun _ => "") G.init initM cexOps).isSome = true := by decide +kernel

/-- … before the last operation it is silent (the false alarm is the `remove_claim`'s) … -/
example : monitorRunWith true (fun _ => "") G.init initM cexOps.dropLast = none := by decide +kernel

/-- … and the monitor the driver runs is silent on it (an instance of the soundness theorem) -/
example : monitorRun (fun _ => "") G.init initM cexOps = none := monitor_accepts_every_model_trace _ _

/-! ### non-vacuity: the monitor is not trivially silent -/

-- the observation of DESIGN.md §8-4, which the model does not produce: topic 7 required, nobody trusted for it,
-- yet `ver=1,0,0` observed
example :
    (checkCore { G.init with virs := true, cti := some 0, ident := [(11, 8)] } (.reg 0 (.addTopic 7))
      ⟨true, "", [1, 0, 0]⟩).2.isSome = true := by decide +kernel

-- a refusal where the condition holds (no required topic, identity registered, verifier wired)
example :
    (checkCore { G.init with virs := true, cti := some 0, ident := [(11, 8)] } (.time 7)
      ⟨true, "", [0, 0, 0]⟩).2.isSome = true := by decide +kernel

-- `is_claim_valid` accepting a claim signed by a key that is not allowed
example :
    (checkCore G.init (.valid 4 8 1 101 (cexSig 4 1) cexData) ⟨true, "", [0, 0, 0]⟩).2.isSome = true := by decide +kernel

-- a rejected call that changed the dump
example :
    (checkCore { G.init with prev := "a" } (.verify 11) ⟨false, "b", [0, 0, 0]⟩).2.isSome = true := by decide +kernel

end OZ.Identity.Mon
