import OZ.Props.C02
import OZ.Lemmas.FungibleMon
/-
C02 — soundness of the MONITOR that decides the property on implementation traces.

`./check C02` reports a concrete violation of the Base-token part exactly when
`OZ.FungibleMon.Auth.checkCore` (the driver's monitor on parsed values, OZ/Model/FungibleMon.lean)
returns a message on the implementation's observations (apart from the two string-level alarms
`getter_trap` / `parse` of the driver). Here it is proved that on the observations of the MODEL
the monitor never returns a message, for every host configuration (`min_temp`, `max_ttl`), every
start ledger, every size `n` of the observed universe and every finite history whose addresses
lie in that universe (`monitor_accepts_every_model_trace`). Consequences:

  * an implementation whose observations agree with the model's (the correspondence the check
    establishes by differential testing) can never raise a monitor alarm — a monitor failure is
    never a false alarm of the monitor itself;
  * every conclusion the monitor evaluates — (0) rollback of rejected calls; (1) a balance goes
    down only in a transfer / burn of its authorizing holder or in a transfer_from / burn_from by
    an authorizing spender whose last approval has not expired, covers the amount and drops by
    exactly the amount; (2) an allowance rises only by the owner's approve, to exactly the amount,
    never above approved − spent, never negative; (3) it reads 0 once the last approval's
    live_until passed and exactly approved − spent until then; (4) approve is rejected iff it must
    be; (5) nothing is debited while only the ledger moves — is a THEOREM about the model, in the
    monitor's own executable wording, with the monitor's own ghost counters.

The model observation `OZ.FungibleMon.stepObs` used here IS the data the driver's model side
prints: `FungibleIO.stepLine` is `showObs (stepObs cfg n s auth op mauth)` after parsing the op
line, and `lineOf auth op` is what `FungibleIO.parseLine` reads from that op line (kind, `a=`,
`auth=`, `amt=`, and `lu=` of an approve).

Hypothesis `hU` (all addresses of the history are < n): the observation prints the allowances of
the universe 0..n-1 only; the monitor reads the spender's allowance from it, so a spender outside
the universe would look uncovered (`spend_needs_observed_spender`). The harness draws every
address from that universe.
-/
namespace OZ.FungibleMon.Auth
open OZ.Host OZ.Fungible OZ.FungibleMon

/-- monitor state and model state describe the same point of a history: the previous observation
(or the empty token before the first call) shows the model's balances and allowances, the label
parameters agree, and the monitor's ghost counters are related to the stored allowance entries as
the ghost bookkeeping of OZ/Lemmas/FungibleAuth.lean (`GInv`) -/
structure Agree (c : Cfg) (n : Nat) (m : Mon) (s : State) : Prop where
  size : m.n = n
  ttl : m.maxTtl = c.maxTtl
  bal : ∀ now, (prevOf m now).bal = balList n s
  allow : ∀ now, (prevOf m now).allow = allowList n s
  ghost : GInv s (toGhost m.g)

theorem allowance_nonneg_of_ginv {s : State} {g : Nat → Nat → Ghost} (hi : GInv s g) (o sp : Nat) :
    0 ≤ allowance s o sp := by
  rw [allowance_of_grel (hi o sp)]
  have := (hi o sp).1
  split <;> omega

/-- **(4)** the approve-bounds piece is silent on the model's observation of an approve -/
theorem approve_piece_sound (c : Cfg) (n : Nat) (s : State) (auth : List Nat) (o sp : Nat) (amt : Int)
    (lu : Nat) (mauth : Option Nat) :
    vApprove c.maxTtl auth o amt lu (stepObs c n s auth (.approve o sp amt lu) mauth).2 = none := by
  apply vApprove_none
  have hb := approve_bounds c s auth o sp amt lu
  have hg : applyG c s auth (.approve o sp amt lu) mauth = apply c s auth (.approve o sp amt lu) := rfl
  unfold stepObs
  rw [hg]
  cases hx : apply c s auth (.approve o sp amt lu) with
  | error e =>
    show (false = false) ↔ _
    exact ⟨fun _ => hb.mp ⟨e, hx⟩, fun _ => rfl⟩
  | ok s' =>
    obtain ⟨_, _, _, _, hnow, _⟩ := apply_approve hx
    show (true = false) ↔ (_ ∨ _ ∨ lu > s'.now + c.maxTtl - 1 ∨ (_ ∧ lu < s'.now))
    rw [hnow]
    constructor
    · intro h; cases h
    · intro h
      obtain ⟨e, he⟩ := hb.mpr h
      rw [hx] at he; cases he

/-- **(1)+(5)** the debit piece is silent on every holder of the universe after an accepted call -/
theorem debit_piece_sound {c : Cfg} {n : Nat} {m : Mon} {s s' : State} (ha : Agree c n m s)
    {auth : List Nat} {op : Op} (mauth : Option Nat) (hU : ∀ a ∈ op.addrs, a < n)
    (hap : apply c s auth op = .ok s') (h : Nat) (hh : h < n) :
    vDebit (prevOf m s'.now) (obsOk n s s' op mauth) m.g (kindOf op) op.addrs auth (amtOf op) h = none := by
  by_cases hdec : balAt (obsOk n s s' op mauth).bal h < balAt (prevOf m s'.now).bal h
  · have hdec' : s'.bal h < s.bal h := by
      have hb : (obsOk n s s' op mauth).bal = balList n s' := rfl
      rw [ha.bal, hb, balAt_balList s' hh, balAt_balList s hh] at hdec
      exact hdec
    unfold vDebit
    rw [if_pos hdec]
    rcases debit_authorized c s s' auth op h hap hdec' with ⟨hin, hop⟩ | ⟨sp, amt, hop, hin, hp, _, hle, hex⟩
    · rcases hop with ⟨t, amt, rfl⟩ | ⟨amt, rfl⟩
      · rw [if_pos (.inl rfl)]; exact vDebitDirect_none rfl hin
      · rw [if_pos (.inr rfl)]; exact vDebitDirect_none rfl hin
    · have hs : op.spend? = some (h, sp, amt) := by rcases hop with ⟨t, rfl⟩ | rfl <;> rfl
      have hspn : sp < n := hU sp (by rcases hop with ⟨t, rfl⟩ | rfl <;> simp [Op.addrs])
      obtain ⟨_, _, _, _, hnow, _⟩ := apply_spend hap hs
      have hprev : (prevOf m s'.now).allowOf h sp = allowance s h sp := allowOf_allowList (ha.allow _) hh hspn
      have hcur : (obsOk n s s' op mauth).allowOf h sp = allowance s' h sp := allowOf_allowList rfl hh hspn
      have hlive : (obsOk n s s' op mauth).now ≤ (gOf m.g h sp).lu := by
        show s'.now ≤ _
        rw [hnow, ← toGhost_lu]
        have hal := allowance_of_grel (ha.ghost h sp)
        apply Classical.byContradiction
        intro hnot
        rw [if_neg hnot] at hal
        omega
      rw [← hprev] at hle
      rw [← hcur, ← hprev] at hex
      rcases hop with ⟨t, rfl⟩ | rfl
      · rw [if_neg (by simp [kindOf]), if_pos (.inl rfl)]; exact vDebitSpend_none hin hlive hle hex
      · rw [if_neg (by simp [kindOf]), if_pos (.inr rfl)]; exact vDebitSpend_none hin hlive hle hex
  · exact vDebit_none_of_ge hdec

/-- **(2)** the raise piece is silent on every pair of the universe, accepted or rejected -/
theorem raise_piece_sound {c : Cfg} {n : Nat} {m : Mon} {s : State} (ha : Agree c n m s)
    (auth : List Nat) (op : Op) (mauth : Option Nat) (p : Nat × Nat) (hp : p ∈ pairs n) :
    vRaise (prevOf m (stepObs c n s auth op mauth).2.now) (stepObs c n s auth op mauth).2 (kindOf op) op.addrs auth
      (amtOf op) p = none := by
  obtain ⟨h1, h2⟩ := mem_pairs hp
  rcases stepObs_cases c n s auth op mauth with hs | ⟨s', hap, hs⟩ <;> rw [hs]
  · apply vRaise_none_of_le
    rw [allowOf_allowList (ha.allow _) h1 h2, allowOf_allowList (o := obsErr n s) rfl h1 h2]
    exact Int.lt_irrefl _
  · by_cases hup : (obsOk n s s' op mauth).allowOf p.1 p.2 > (prevOf m (obsOk n s s' op mauth).now).allowOf p.1 p.2
    · have hcur : (obsOk n s s' op mauth).allowOf p.1 p.2 = allowance s' p.1 p.2 := allowOf_allowList rfl h1 h2
      have hup' : allowance s p.1 p.2 < allowance s' p.1 p.2 := by
        rw [allowOf_allowList (ha.allow _) h1 h2, hcur] at hup
        exact hup
      obtain ⟨amt, lu, rfl, hin, hv, _⟩ :=
        allowance_write_authorized c s s' auth op p.1 p.2 hap (allowance_nonneg_of_ginv ha.ghost _ _) hup'
      exact vRaise_none_of_approve rfl hin (by rw [hcur]; exact hv)
    · exact vRaise_none_of_le hup

/-- **one call**: fed with the model's own observation of any call (accepted or rejected, with or
without the mint guard), the monitor reports nothing and its state keeps describing the model's -/
theorem monitor_sound_step (c : Cfg) (n : Nat) {m : Mon} {s : State} (ha : Agree c n m s)
    (auth : List Nat) (op : Op) (mauth : Option Nat) (hU : ∀ a ∈ op.addrs, a < n) :
    (checkCore m (lineOf auth op) (stepObs c n s auth op mauth).2).2 = none ∧
    Agree c n (checkCore m (lineOf auth op) (stepObs c n s auth op mauth).2).1 (stepObs c n s auth op mauth).1 := by
  have hn := ha.size
  subst hn
  have hbounds : vBounds m.maxTtl (lineOf auth op) (stepObs c m.n s auth op mauth).2 = none := by
    refine vBounds_none fun hk => ?_
    rw [ha.ttl]
    -- the approve case by name: in the case of another operation `exact approve_piece_sound ..` fails only after the unifier has run the model
    cases op with
    | approve o sp amt lu => exact approve_piece_sound c _ s auth o sp amt lu mauth
    | _ => cases hk
  have hraise := fun p hp => raise_piece_sound ha auth op mauth p hp
  -- below, the pieces in the order of `verdict`: (0) rollback, (4) bounds, (1)+(5) debits, (2) raises, (2)+(3) ghost
  rcases stepObs_cases c m.n s auth op mauth with hs | ⟨s', hap, hs⟩ <;> rw [hs] at hbounds hraise ⊢
  · have hg : GInv s (toGhost (ghostStep m.g false (lineOf auth op))) := by rw [ghostStep_rejected]; exact ha.ghost
    refine ⟨verdict_none (vRollback_none fun _ => ⟨(ha.bal _).symm, (ha.allow _).symm⟩) hbounds (fun h => by cases h) ?_ ?_,
      ha.size, ha.ttl, fun _ => rfl, fun _ => rfl, hg⟩
    · exact firstSome_none _ _ hraise
    · exact checkGhost_none hg rfl rfl
  · have hg := ginv_ghostStep ha.ghost hap
    refine ⟨verdict_none (vRollback_none fun h => by cases h) hbounds (fun _ => ?_) ?_ ?_,
      ha.size, ha.ttl, fun _ => rfl, fun _ => rfl, hg⟩
    · exact firstSome_none _ _ fun h hh => debit_piece_sound ha mauth hU hap h (List.mem_range.mp hh)
    · exact firstSome_none _ _ hraise
    · exact checkGhost_none hg rfl rfl

/-- `lineOf` puts `lu := 0` on every op line but an approve's, whatever the harness printed there:
the monitor reads `lu=` for an approve only -/
theorem lu_read_for_approve_only (m : Mon) (l : Line) (lu : Nat) (o : Obs) (hk : l.kind ≠ .approve) :
    checkCore m { l with lu := lu } o = checkCore m l o := by
  unfold checkCore verdict vBounds
  rw [ghostStep_lu_irrelevant _ _ _ _ hk]
  simp only [if_neg hk]

/-- the monitor run over a whole history of model observations: first message, if any. A history
item is (authorizing addresses, operation, `mauth=` guard of the line if any). -/
def monitorRun (c : Cfg) (n : Nat) : Mon → State → List (List Nat × Op × Option Nat) → Option String
  | _, _, [] => none
  | m, s, x :: xs =>
    match (checkCore m (lineOf x.1 x.2.1) (stepObs c n s x.1 x.2.1 x.2.2).2).2 with
    | some msg => some msg
    | none => monitorRun c n (checkCore m (lineOf x.1 x.2.1) (stepObs c n s x.1 x.2.1 x.2.2).2).1
        (stepObs c n s x.1 x.2.1 x.2.2).1 xs

/-- the monitor's initial state for a sequence (what the driver's `minit` builds from the label:
`n` = `n=` of the label, default 5; `maxTtl` = `max_ttl=` of the label, default 200000 — the same
values the driver's `init` puts into the model's universe size and `Cfg`) -/
def monInit (c : Cfg) (n : Nat) : Mon := { prev := none, g := [], n := n, maxTtl := c.maxTtl }

/-- **monitor soundness**: for every host configuration, start ledger, universe size and finite
history over that universe — any amounts, any live_until values, any authorizing subsets, guarded
or unguarded mints, any ledger movement (also past the storage TTL of allowance entries) — the
monitor reports nothing on the model's observations -/
theorem monitor_accepts_every_model_trace (c : Cfg) (start n : Nat)
    (ops : List (List Nat × Op × Option Nat)) (hU : ∀ x ∈ ops, ∀ a ∈ x.2.1.addrs, a < n) :
    monitorRun c n (monInit c n) (init start) ops = none := by
  suffices ∀ m s, Agree c n m s → monitorRun c n m s ops = none from
    this _ _ ⟨rfl, rfl, fun _ => (balList_init n start).symm, fun _ => (allowList_init n start).symm,
      ginv_init start⟩
  induction ops with
  | nil => intro m s _; rfl
  | cons x xs ih =>
    intro m s ha
    obtain ⟨h1, h2⟩ := monitor_sound_step c n ha x.1 x.2.1 x.2.2 (hU x List.mem_cons_self)
    unfold monitorRun
    rw [h1]
    exact ih (fun y hy => hU y (List.mem_cons_of_mem _ hy)) _ _ h2

/-! ### the hypothesis `hU` is needed -/

/-- the hypothesis that the history stays inside the observed universe cannot be dropped: a
covered transfer_from by spender 9 with only accounts 0..4 observed lowers account 0's balance
while the printed allowances (universe only) show none for the spender — the monitor (rightly,
from what it sees) reports `site=fungible.auth.spend_uncovered` -/
theorem spend_needs_observed_spender :
    (monitorRun ⟨1, 200000⟩ 5 (monInit ⟨1, 200000⟩ 5) (init 100)
      [([], .mint 0 10, none), ([0], .approve 0 9 5 200, none), ([9], .transferFrom 9 0 1 5, none)]).isSome = true := by
  decide

/-! ### non-vacuity: the monitor is not trivially silent — on an
observation in which an unauthorized transfer moved tokens, and on one in which an expired
allowance still reads non-zero, it fires -/

example :
    (checkCore { prev := some ⟨true, 10, [10, 0, 0, 0, 0], [], 100, [], []⟩, g := [], n := 5, maxTtl := 200000 }
      (lineOf [1] (.transfer 0 1 4)) ⟨true, 10, [6, 4, 0, 0, 0], [], 100, [.transfer 0 1 4], [0]⟩).2.isSome = true := by
  decide

example :
    (checkCore { prev := some ⟨true, 10, [10, 0, 0, 0, 0], [(0, 1, 5)], 120, [], []⟩, g := [(0, 1, ⟨5, 120⟩)], n := 5,
                 maxTtl := 200000 }
      (lineOf [] (.advance 1)) ⟨true, 10, [10, 0, 0, 0, 0], [(0, 1, 5)], 121, [], []⟩).2.isSome = true := by
  decide

end OZ.FungibleMon.Auth
