import OZ.Props.C16
import OZ.Lemmas.GatesMon
/-
C16 — soundness of the MONITOR that decides the property on implementation traces.

`./check C16` reports a concrete violation exactly when `OZ.Gates.Mon.checkCore` (the driver's
monitor on parsed values, OZ/Model/GatesMon.lean) returns a message on the implementation's
observations. Here it is proved that on the observations of the MODEL the monitor never returns a
message, for every host configuration, every sequence label whose constructor the model accepts
and every finite history (`monitor_accepts_every_model_trace`) — for the EIGHT machines the driver
runs through `OZ.Gates.Mon.checkCore` (the ninth, `stk`, has its own monitor core and soundness theorem:
OZ/Props/C16StkMon.lean): the pausable token (`ptok`), the pausable counter (`pcnt`), the AllowList / BlockList
library types (`alib`, `blib`), the two list examples (`aex`, `bex`), the capped token (`cap`) and
the migration contracts (`mig`, all three executables). Consequences:

  * an implementation whose observations agree with the model's (the correspondence the check
    establishes by differential testing) can never raise a monitor alarm — a monitor failure is
    never a false alarm of the monitor itself;
  * every conclusion the monitor evaluates (no pausable entry point accepted while paused,
    `emergency_reset` only while paused, pause / unpause alternate and need the authorizing owner,
    `paused()` follows the accepted pause / unpause calls and nothing else, not even the passage of
    time; `allowed()` / `blocked()` of every observed party equal the list built from the accepted
    list changes; every accepted transfer / transfer_from / approve / burn / burn_from had all its
    vetted parties allowed resp. not blocked; list changes of the examples need the authorizing
    manager; an accepted list change that does not flip the status of the account emits no list event
    and changes no getter, one that does emits exactly the matching event, nothing else emits a list
    event (`vListEv`: `site=list.idempotent.<machine>`, `site=list.event.<machine>`); the cap moves only by
    an accepted `set_cap`, which leaves it set and not negative, and no call lifts total_supply above the cap
    (the library accepts a `set_cap` below the supply: the supply then stays above the cap and `vCap` says
    nothing); migrate / ensure accepted only after an
    enable / upgrade not yet consumed, `Migrating` follows the accepted calls, migrate / upgrade
    need the authorizing owner; a rejected call changes no getter) is a THEOREM about the model,
    in the monitor's own executable wording.

The model observation used here IS the data the driver's model side prints: `OZ.Drv.C16.stepLine`
runs `stepM` (below `OZ.Gates.Mon`) on the parsed op and `obsLine` prints the tag and the fields of
`stableOf` of the resulting state plus, under `ev=`, the events the call added to the module's log
(`newEvents`; `modelObs` keeps the list-change events among them, which is what `parseObs` reads back from
that word); `lineOf w auth op` is what `OZ.Drv.C16.parseLine`
reads from the op line `parseAny` builds `(auth, op)` from (`w`: the `block` / `unblock` wording of
a list change). `monInit p` / `initM p` are what the driver's `minitM` / `initM` build from the
label parameters `p` (`paramsOf (parseLabel label)`).

Hypothesis `initSt p ≠ .bad`: a label whose constructor the model rejects (negative initial supply
or cap) describes no contract at all; the driver then prints `bad` lines, which correspond to no
observation of the harness.
-/
namespace OZ.Gates.Mon
open OZ.Host OZ.Fungible OZ.Gates
open OZ.FungibleMon (Kind orElse)

/-! ## what the model does, in the monitor's terms (one theorem per machine) -/

/-- **pausable token**: every accepted call keeps the owner and satisfies the pause conclusions -/
theorem ptok_facts (cfg : Cfg) (s : PTok) (w : Bool) (auth : List Nat) (op : GOp) {st' : St}
    (h : applyPTok cfg s auth op = some st') :
    ∃ s', st' = .ptok s' ∧ s'.owner = s.owner ∧ PauseFacts s.p.paused s.owner (lineOf w auth op) s'.p.paused := by
  cases op <;> simp only [applyPTok] at h <;> try cases h
  case tok o =>
    obtain ⟨s', hx, rfl⟩ := okSt_some h
    obtain ⟨hnp, -, t, -, rfl⟩ := ptok_tok_ok hx
    refine ⟨_, rfl, rfl, fun hp => ?_, nofun, nofun, nofun, rfl⟩
    show isPausable (.fungible (kindOf o)) = false
    rw [isPausable_tok]
    cases hpo : pausableOp o
    · rfl
    · exact absurd ((hnp hpo).symm.trans hp) Bool.false_ne_true
  case pause c =>
    obtain ⟨s', hx, rfl⟩ := okSt_some h
    obtain ⟨hp, hm, rfl, rfl⟩ := ownerPause_ok hx
    exact ⟨_, rfl, rfl, fun _ => rfl, nofun, fun _ => ⟨hp, rfl, hm⟩, nofun, rfl⟩
  case unpause c =>
    obtain ⟨s', hx, rfl⟩ := okSt_some h
    obtain ⟨hp, hm, rfl, rfl⟩ := ownerUnpause_ok hx
    exact ⟨_, rfl, rfl, fun _ => rfl, nofun, nofun, fun _ => ⟨hp, rfl, hm⟩, rfl⟩

/-- **pausable counter** -/
theorem pcnt_facts (s : PCnt) (w : Bool) (auth : List Nat) (op : GOp) {st' : St}
    (h : applyPCnt s auth op = some st') :
    ∃ s', st' = .pcnt s' ∧ s'.owner = s.owner ∧ PauseFacts s.p.paused s.owner (lineOf w auth op) s'.p.paused := by
  cases op <;> simp only [applyPCnt] at h
  case tok o =>
    cases o <;> cases h
    exact ⟨s, rfl, rfl, fun _ => rfl, nofun, nofun, nofun, rfl⟩
  case increment =>
    obtain ⟨s', hx, rfl⟩ := okSt_some h
    obtain ⟨_, hg, hx⟩ := bind_eq_ok hx
    split at hx
    · cases hx
    · obtain rfl := Except.ok.inj hx
      exact ⟨_, rfl, rfl, fun hp => Bool.noConfusion ((whenNotPaused_ok hg).symm.trans hp), nofun, nofun, nofun, rfl⟩
  case reset =>
    obtain ⟨s', hx, rfl⟩ := okSt_some h
    obtain ⟨_, hg, hx⟩ := bind_eq_ok hx
    obtain rfl := Except.ok.inj hx
    exact ⟨_, rfl, rfl, fun _ => rfl, fun _ => whenPaused_ok hg, nofun, nofun, rfl⟩
  case pause c =>
    obtain ⟨s', hx, rfl⟩ := okSt_some h
    obtain ⟨hp, hm, rfl, rfl⟩ := ownerPause_ok hx
    exact ⟨_, rfl, rfl, fun _ => rfl, nofun, fun _ => ⟨hp, rfl, hm⟩, nofun, rfl⟩
  case unpause c =>
    obtain ⟨s', hx, rfl⟩ := okSt_some h
    obtain ⟨hp, hm, rfl, rfl⟩ := ownerUnpause_ok hx
    exact ⟨_, rfl, rfl, fun _ => rfl, nofun, nofun, fun _ => ⟨hp, rfl, hm⟩, rfl⟩
  all_goals cases h

/-- **AllowList library type**: every accepted call had its vetted parties allowed and moves the
list exactly as the op line says -/
theorem alib_facts (cfg : Cfg) (s : LTok) (mgr : Nat) (w : Bool) (auth : List Nat) (op : GOp) {st' : St}
    (h : applyALib cfg s auth op = some st') :
    ∃ s', st' = .alib s' ∧ ListFacts true false mgr s.listed (lineOf w auth op) s'.listed ∧
      ListEvFacts true s.listed (lineOf w auth op) ((s'.log.drop s.log.length).filter isListEv) (s' = s) := by
  cases op <;> simp only [applyALib] at h <;> try cases h
  case tok o =>
    obtain ⟨s', hx, rfl⟩ := okSt_some h
    obtain ⟨hv, t, -, rfl⟩ := alib_tok_ok hx
    exact ⟨_, rfl, tok_listFacts w auth s.log _ hv⟩
  case setList u on x =>
    obtain ⟨s', hx, rfl⟩ := okSt_some h
    cases alib_set_eq hx
    exact ⟨_, rfl, set_listFacts w auth s u on x _ (fun he => by cases he) setFn_noop⟩

/-- **BlockList library type** -/
theorem blib_facts (cfg : Cfg) (s : LTok) (mgr : Nat) (w : Bool) (auth : List Nat) (op : GOp) {st' : St}
    (h : applyBLib cfg s auth op = some st') :
    ∃ s', st' = .blib s' ∧ ListFacts false false mgr s.listed (lineOf w auth op) s'.listed ∧
      ListEvFacts false s.listed (lineOf w auth op) ((s'.log.drop s.log.length).filter isListEv) (s' = s) := by
  cases op <;> simp only [applyBLib] at h <;> try cases h
  case tok o =>
    obtain ⟨s', hx, rfl⟩ := okSt_some h
    obtain ⟨hv, t, -, rfl⟩ := blib_tok_ok hx
    exact ⟨_, rfl, tok_listFacts w auth s.log _ hv⟩
  case setList u on x =>
    obtain ⟨s', hx, rfl⟩ := okSt_some h
    cases blib_set_eq hx
    exact ⟨_, rfl, set_listFacts w auth s u on x _ (fun he => by cases he) setFn_noop⟩

/-- **fungible-allowlist example**: additionally a list change needs the authorizing manager, and
the manager set is fixed -/
theorem aex_facts (cfg : Cfg) (s : LEx) (mgr : Nat) (hm : s.isMgr = fun a => a == mgr) (w : Bool)
    (auth : List Nat) (op : GOp) {st' : St} (h : applyAEx cfg s auth op = some st') :
    ∃ s', st' = .aex s' ∧ s'.isMgr = s.isMgr ∧ ListFacts true true mgr s.t.listed (lineOf w auth op) s'.t.listed ∧
      ListEvFacts true s.t.listed (lineOf w auth op) ((s'.t.log.drop s.t.log.length).filter isListEv) (s' = s) := by
  cases op <;> simp only [applyAEx] at h <;> try cases h
  case tok o =>
    obtain ⟨s', hx, rfl⟩ := okSt_some h
    obtain ⟨t, ht, rfl⟩ := aex_tok_ok hx
    obtain ⟨hv, t', -, rfl⟩ := alib_tok_ok ht
    exact ⟨_, rfl, rfl, tok_listFacts w auth s.t.log _ hv⟩
  case setList u on x =>
    cases x <;> simp only at h <;> try cases h
    rename_i operator
    obtain ⟨s', hx, rfl⟩ := okSt_some h
    obtain ⟨h1, h2⟩ := (list_change_needs_manager cfg s s' auth u operator on).1 hx
    have hop : operator = mgr := by rw [hm] at h1; exact beq_iff_eq.1 h1
    cases aex_set_eq hx
    exact ⟨_, rfl, rfl, set_listFacts w auth s.t u on (some operator) _ (fun _ => ⟨congrArg some hop, hop ▸ h2⟩)
      (fun hg => by rw [setFn_noop hg])⟩

/-- **fungible-blocklist example** -/
theorem bex_facts (cfg : Cfg) (s : LEx) (mgr : Nat) (hm : s.isMgr = fun a => a == mgr) (w : Bool)
    (auth : List Nat) (op : GOp) {st' : St} (h : applyBEx cfg s auth op = some st') :
    ∃ s', st' = .bex s' ∧ s'.isMgr = s.isMgr ∧ ListFacts false true mgr s.t.listed (lineOf w auth op) s'.t.listed ∧
      ListEvFacts false s.t.listed (lineOf w auth op) ((s'.t.log.drop s.t.log.length).filter isListEv) (s' = s) := by
  cases op <;> simp only [applyBEx] at h <;> try cases h
  case tok o =>
    obtain ⟨s', hx, rfl⟩ := okSt_some h
    obtain ⟨t, ht, rfl⟩ := bex_tok_ok hx
    obtain ⟨hv, t', -, rfl⟩ := blib_tok_ok ht
    exact ⟨_, rfl, rfl, tok_listFacts w auth s.t.log _ hv⟩
  case setList u on x =>
    cases x <;> simp only at h <;> try cases h
    rename_i operator
    obtain ⟨s', hx, rfl⟩ := okSt_some h
    obtain ⟨h1, h2⟩ := (list_change_needs_manager cfg s s' auth u operator on).2 hx
    have hop : operator = mgr := by rw [hm] at h1; exact beq_iff_eq.1 h1
    cases bex_set_eq hx
    exact ⟨_, rfl, rfl, set_listFacts w auth s.t u on (some operator) _ (fun _ => ⟨congrArg some hop, hop ▸ h2⟩)
      (fun hg => by rw [setFn_noop hg])⟩

/-- **capped token**, one call of the token: the cap stays, and the call either leaves the supply where it was
or (a mint, which is checked against the cap) leaves it at or below the cap -/
theorem cap_facts (cfg : Cfg) (s : CTok) (cap : Int) (hc : s.cap = some cap)
    (auth : List Nat) (o : Fungible.Op) {st' : St} (h : applyCap cfg s auth (.tok o) = some st') :
    ∃ s', st' = .cap s' ∧ s'.cap = some cap ∧ (s'.tok.supply = s.tok.supply ∨ s'.tok.supply ≤ cap) := by
  simp only [applyCap] at h
  obtain ⟨s', hx, e⟩ := okSt_some h
  exact ⟨s', e, cap_step hc hx⟩

/-- **`set_cap` called again**: accepted exactly for a non-negative cap, which it installs; the token is untouched -/
theorem setcap_facts (cfg : Cfg) (s : CTok) (auth : List Nat) (c : Int) {st' : St}
    (h : applyCap cfg s auth (.setCap c) = some st') :
    0 ≤ c ∧ st' = .cap { s with cap := some c } := by
  simp only [applyCap] at h
  obtain ⟨s', hx, e⟩ := okSt_some h
  unfold setCap at hx
  by_cases hn : c < 0
  · rw [if_pos hn] at hx; cases hx
  · rw [if_neg hn] at hx
    injection hx with hx
    subst hx
    exact ⟨by omega, e⟩

/-- **migration contracts** (harness contract, v1 example, prebuilt v2 wasm) -/
theorem mig_facts (s : Mig) (v : Nat) (w : Bool) (auth : List Nat) (op : GOp) {st' : St}
    (h : applyMig s v auth op = some st') :
    ∃ s' v', st' = .mig s' v' ∧ s'.owner = s.owner ∧ MigFacts s.migrating s.owner (lineOf w auth op) s'.migrating := by
  cases op <;> simp only [applyMig] at h
  case tok o =>
    cases o <;> cases h
    exact ⟨s, v, rfl, rfl, nofun, nofun, rfl⟩
  case enable =>
    split at h
    · obtain ⟨s', hx, rfl⟩ := okSt_some h
      obtain rfl := Except.ok.inj hx
      exact ⟨_, _, rfl, rfl, nofun, nofun, rfl⟩
    · cases h
  case ensure =>
    split at h
    · obtain ⟨s', hx, rfl⟩ := okSt_some h
      obtain ⟨_, he, hx⟩ := bind_eq_ok hx
      obtain rfl := Except.ok.inj hx
      exact ⟨_, _, rfl, rfl, fun _ => ensureCanComplete_ok.1 he, nofun, rfl⟩
    · cases h
  case complete =>
    split at h
    · obtain ⟨s', hx, rfl⟩ := okSt_some h
      obtain rfl := Except.ok.inj hx
      exact ⟨_, _, rfl, rfl, nofun, nofun, rfl⟩
    · cases h
  case migrate d o =>
    split at h
    · cases h
    · obtain ⟨s', hx, rfl⟩ := okSt_some h
      obtain ⟨hm, rfl, hau, rfl⟩ := migrate_ok hx
      exact ⟨_, _, rfl, rfl, fun _ => hm, fun _ => ⟨rfl, hau⟩, rfl⟩
  case upgrade o =>
    obtain ⟨s', hx, rfl⟩ := okSt_some h
    obtain ⟨rfl, hau, rfl⟩ := upgrade_ok hx
    exact ⟨_, _, rfl, rfl, nofun, fun _ => ⟨rfl, hau⟩, rfl⟩
  all_goals cases h

/-! ## monitor state ↔ model state -/

/-- the monitor's ghost state describes the machine -/
def AgreeSt (m : Mon) : St → Prop
  | .ptok s => m.kind = .ptok ∧ m.paused = s.p.paused ∧ m.owner = s.owner
  | .pcnt s => m.kind = .pcnt ∧ m.paused = s.p.paused ∧ m.owner = s.owner
  | .alib s => m.kind = .alib ∧ m.ghost = s.listed
  | .blib s => m.kind = .blib ∧ m.ghost = s.listed
  | .aex s => m.kind = .aex ∧ m.ghost = s.t.listed ∧ s.isMgr = (fun a => a == m.mgr)
  | .bex s => m.kind = .bex ∧ m.ghost = s.t.listed ∧ s.isMgr = (fun a => a == m.mgr)
  | .cap s => m.kind = .cap ∧ s.cap = some m.cap ∧ m.sup = s.tok.supply
  | .mig s _ => m.kind = .mig ∧ m.credit = s.migrating ∧ m.owner = s.owner
  | .bad => False

structure Agree (m : Mon) (x : MSt) : Prop where
  prev : m.prev = none ∨ m.prev = some (stableOf x)
  st : AgreeSt m x.st

def Quiet (m : Mon) (l : Line) (o : Obs) (st' : St) : Prop := Silent m l o ∧ AgreeSt (checkCore m l o).1 st'

theorem rejected_quiet {m : Mon} {st : St} (ha : AgreeSt m st) (l : Line) (now : Nat) (ev : List GEvent) :
    Quiet m l (modelObs ⟨st, now⟩ false ev) st := by
  -- a rejected call moves no ghost field, so the monitor's new state describes `st` because the old one did
  cases st with
  | ptok s => exact ⟨pause_silent (.inl ha.1) (pause_rejected rfl ha.2.1.symm), ha⟩
  | pcnt s => exact ⟨pause_silent (.inr ha.1) (pause_rejected rfl ha.2.1.symm), ha⟩
  | alib s =>
    exact ⟨list_silent (.inl ha.1) (list_rejected rfl (congrArg statusList ha.2.symm)) (vListEv_rejected rfl), ha⟩
  | blib s =>
    exact ⟨list_silent (.inr (.inl ha.1)) (list_rejected rfl (congrArg statusList ha.2.symm)) (vListEv_rejected rfl), ha⟩
  | aex s =>
    exact ⟨list_silent (.inr (.inr (.inl ha.1))) (list_rejected rfl (congrArg statusList ha.2.1.symm))
      (vListEv_rejected rfl), ha⟩
  | bex s =>
    exact ⟨list_silent (.inr (.inr (.inr ha.1))) (list_rejected rfl (congrArg statusList ha.2.1.symm))
      (vListEv_rejected rfl), ha⟩
  | cap s => exact cap_quiet ⟨ha.1, ha.2.2⟩ (fun h => by cases h.1) ha.2.1 (.inl rfl) rfl rfl
  | mig s v => exact ⟨mig_silent ha.1 (mig_rejected rfl ha.2.1.symm), ha⟩
  | bad => exact ha.elim

theorem accepted_quiet (cfg : Cfg) {m : Mon} {st : St} (ha : AgreeSt m st) (now0 : Nat)
    (hprev : m.prev = none ∨ m.prev = some (stableOf ⟨st, now0⟩)) (w : Bool) (auth : List Nat) (op : GOp)
    {st' : St} (hap : applyModel cfg st auth op = some st') (now : Nat) :
    Quiet m (lineOf w auth op) (modelObs ⟨st', now⟩ true (newEvents st st')) st' := by
  -- per machine: its facts, then the lemma of its group, whose conclusion is `Quiet` unfolded at that machine
  cases st with
  | ptok s =>
    obtain ⟨s', rfl, ho', F⟩ := ptok_facts cfg s w auth op hap
    exact pause_quiet (.inl rfl) ha ho' F rfl rfl
  | pcnt s =>
    obtain ⟨s', rfl, ho', F⟩ := pcnt_facts s w auth op hap
    exact pause_quiet (.inr rfl) ha ho' F rfl rfl
  | alib s =>
    obtain ⟨s', rfl, F, E⟩ := alib_facts cfg s m.mgr w auth op hap
    exact list_quiet (.inl rfl) ha F E rfl rfl (fun e => e ▸ hprev)
  | blib s =>
    obtain ⟨s', rfl, F, E⟩ := blib_facts cfg s m.mgr w auth op hap
    exact list_quiet (.inr (.inl rfl)) ha F E rfl rfl (fun e => e ▸ hprev)
  | aex s =>
    obtain ⟨s', rfl, hm', F, E⟩ := aex_facts cfg s m.mgr ha.2.2 w auth op hap
    exact And.imp_right (fun h => ⟨h.1, h.2, hm'.trans ha.2.2⟩)
      (list_quiet (.inr (.inr (.inl rfl))) ⟨ha.1, ha.2.1⟩ F E rfl rfl (fun e => e ▸ hprev))
  | bex s =>
    obtain ⟨s', rfl, hm', F, E⟩ := bex_facts cfg s m.mgr ha.2.2 w auth op hap
    exact And.imp_right (fun h => ⟨h.1, h.2, hm'.trans ha.2.2⟩)
      (list_quiet (.inr (.inr (.inr rfl))) ⟨ha.1, ha.2.1⟩ F E rfl rfl (fun e => e ▸ hprev))
  | cap s =>
    cases op with
    | tok o =>
      obtain ⟨s', rfl, hc', hs'⟩ := cap_facts cfg s m.cap ha.2.1 auth o hap
      exact cap_quiet ⟨ha.1, ha.2.2⟩ (fun h => by cases h.2) hc' hs' rfl rfl
    | setCap c =>
      obtain ⟨h0, rfl⟩ := setcap_facts cfg s auth c hap
      exact ⟨cap_silent ha.1 (vCap_setcap rfl rfl c rfl h0), ha.1, rfl, rfl⟩
    | _ => cases hap
  | mig s v =>
    obtain ⟨s', v', rfl, ho', F⟩ := mig_facts s v w auth op hap
    exact mig_quiet ha ho' F rfl rfl
  | bad => exact ha.elim

/-- **the model never refuses the owner's unpause of a paused contract** (so the monitor's `vUnpause` is silent on a
call the model rejects) -/
theorem vUnpause_rejected (cfg : Cfg) {m : Mon} {st : St} (ha : AgreeSt m st) (w : Bool) (auth : List Nat) (op : GOp)
    (hap : applyModel cfg st auth op = none) (o : Obs) : vUnpause m (lineOf w auth op) o = none := by
  unfold vUnpause
  rw [if_neg]
  rintro ⟨hk, -, hc, hp, ho, hau⟩
  cases op
  case setList u on o => cases o <;> cases on <;> cases w <;> cases hc
  case unpause c =>
    obtain rfl : c = m.owner := Option.some.inj ho
    have hmem : m.owner ∈ auth := List.contains_iff_mem.1 hau
    cases st with
    | ptok s =>
      obtain ⟨_, hp', ho'⟩ := ha
      simp only [applyModel, applyPTok] at hap
      rw [ho'] at hap hmem
      rw [show PTok.apply cfg s auth (.unpause s.owner) = _ from ownerUnpause_accepted _ (hp'.symm.trans hp) hmem] at hap
      cases hap
    | pcnt s =>
      obtain ⟨_, hp', ho'⟩ := ha
      simp only [applyModel, applyPCnt] at hap
      rw [ho'] at hap hmem
      rw [show PCnt.apply s auth (.unpause s.owner) = _ from ownerUnpause_accepted _ (hp'.symm.trans hp) hmem] at hap
      cases hap
    | bad => exact ha.elim
    | _ => rw [ha.1] at hk; cases hk
  all_goals cases hc

theorem vUnpause_accepted {m : Mon} {l : Line} {o : Obs} (hok : o.ok = true) : vUnpause m l o = none := by
  unfold vUnpause
  rw [if_neg]
  rintro ⟨-, h, -⟩
  exact h hok

/-- **one call**: fed with the model's own observation of any call (accepted or rejected) of any of
the eight machines, the monitor reports nothing and its state keeps describing the model's -/
theorem monitor_sound_step (cfg : Cfg) {m : Mon} {x : MSt} (ha : Agree m x) (w : Bool) (auth : List Nat) (op : GOp) :
    (checkCore m (lineOf w auth op) (modelObs (stepM cfg x auth op).1 (stepM cfg x auth op).2
      (newEvents x.st (stepM cfg x auth op).1.st))).2 = none ∧
    Agree (checkCore m (lineOf w auth op) (modelObs (stepM cfg x auth op).1 (stepM cfg x auth op).2
      (newEvents x.st (stepM cfg x auth op).1.st))).1 (stepM cfg x auth op).1 := by
  obtain ⟨st, now⟩ := x
  cases hap : applyModel cfg st auth op with
  | none =>
    rw [stepM_none hap]
    obtain ⟨q, q'⟩ := rejected_quiet ha.st (lineOf w auth op) now (newEvents st st)
    exact ⟨verdict_none (vRollback_none (fun _ => ha.prev)) q (vUnpause_rejected cfg ha.st w auth op hap _),
      ⟨Or.inr rfl, q'⟩⟩
  | some st' =>
    rw [stepM_some hap]
    obtain ⟨q, q'⟩ := accepted_quiet cfg ha.st now ha.prev w auth op hap (nowStep now op)
    exact ⟨verdict_none (vRollback_none (fun h => by cases h)) q (vUnpause_accepted rfl), ⟨Or.inr rfl, q'⟩⟩

/-- one item of a history: the authorizing addresses, the call, and the wording of a list change on
the op line (`true`: `block` / `unblock`, `false`: `allow` / `disallow`) -/
abbrev Item := List Nat × GOp × Bool

/-- the monitor run over a whole history of model observations: first message, if any -/
def monitorRun (cfg : Cfg) : Mon → MSt → List Item → Option String
  | _, _, [] => none
  | m, x, a :: as =>
    match (checkCore m (lineOf a.2.2 a.1 a.2.1)
        (modelObs (stepM cfg x a.1 a.2.1).1 (stepM cfg x a.1 a.2.1).2
          (newEvents x.st (stepM cfg x a.1 a.2.1).1.st))).2 with
    | some msg => some msg
    | none => monitorRun cfg
        (checkCore m (lineOf a.2.2 a.1 a.2.1) (modelObs (stepM cfg x a.1 a.2.1).1 (stepM cfg x a.1 a.2.1).2
          (newEvents x.st (stepM cfg x a.1 a.2.1).1.st))).1
        (stepM cfg x a.1 a.2.1).1 as

theorem ofExcept_agree {α : Type} {f : α → St} {r : Except Err α} {m : Mon} (h0 : ofExcept f r ≠ .bad)
    (h : ∀ a, r = .ok a → AgreeSt m (f a)) : AgreeSt m (ofExcept f r) := by
  cases r with
  | error e => exact (h0 rfl).elim
  | ok a => exact h a rfl

/-- the states the driver's `minitM` and `initM` build from a label agree, whenever the model's
constructor accepts the label's parameters -/
theorem init_agree (p : Params) (h0 : initSt p ≠ .bad) : Agree (monInit p) (initM p) := by
  refine ⟨Or.inl rfl, ?_⟩
  show AgreeSt (monInit p) (initSt p)
  unfold initSt at h0 ⊢
  cases hk : p.kind <;> rw [hk] at h0
  case ptok =>
    refine ofExcept_agree h0 fun s0 hc => ?_
    obtain ⟨t, _, h⟩ := bind_eq_ok hc
    rw [← Except.ok.inj h]
    exact ⟨hk, rfl, rfl⟩
  case pcnt => exact ⟨hk, rfl, rfl⟩
  case alib => exact ⟨hk, funext fun i => by simp [monInit, hk, LTok.empty, emptyList]⟩
  case blib => exact ⟨hk, funext fun i => by simp [monInit, hk, LTok.empty, emptyList]⟩
  case aex =>
    refine ofExcept_agree h0 fun s0 hc => ?_
    obtain ⟨t, _, h⟩ := bind_eq_ok hc
    rw [← Except.ok.inj h]
    exact ⟨hk, funext fun i => by simp [monInit, hk, AllowList.allowUser, emptyList, upd], rfl⟩
  case bex =>
    refine ofExcept_agree h0 fun s0 hc => ?_
    obtain ⟨t, _, h⟩ := bind_eq_ok hc
    rw [← Except.ok.inj h]
    exact ⟨hk, funext fun i => by simp [monInit, hk, emptyList], rfl⟩
  case cap =>
    refine ofExcept_agree h0 fun s0 hc => ?_
    obtain ⟨-, rfl⟩ := ctok_construct_ok hc
    exact ⟨hk, rfl, rfl⟩
  case mig => exact ⟨hk, rfl, rfl⟩
  case other s => exact (h0 rfl).elim

/-- **monitor soundness**: for every host configuration, every sequence label (kind of contract,
owner, manager, initial supply, cap, executable version, start ledger) whose constructor the model
accepts, and every finite history — any entry points, any arguments, any callers, any authorizing
subsets, any accounts (inside or outside the observed universe), any ledger movement — the monitor
reports nothing on the model's observations -/
theorem monitor_accepts_every_model_trace (cfg : Cfg) (p : Params) (h0 : initSt p ≠ .bad) (ops : List Item) :
    monitorRun cfg (monInit p) (initM p) ops = none := by
  suffices ∀ m x, Agree m x → monitorRun cfg m x ops = none from this _ _ (init_agree p h0)
  induction ops with
  | nil => intro m x _; rfl
  | cons a as ih =>
    intro m x ha
    obtain ⟨h1, h2⟩ := monitor_sound_step cfg ha a.2.2 a.1 a.2.1
    unfold monitorRun
    rw [h1]
    exact ih _ _ h2

/-! ### a ghost list of five entries raises a false alarm

Kept as a `List Bool` of five entries, one per account of the harness's universe, the ghost list is left
untouched by a list change for an address ≥ 5 (`legacySetAt`), and the status of such a party reads as `false`
(`getD p false` in `legacyBypass`, the condition of `site=list.bypass.*` on such a list). For an ALLOW list that
is "not allowed": on the model trace below — mint to account 7, allow 7, allow 0, then 7 transfers to 0 with its
own authorization, all accepted by the model of the `AllowList` library type — `legacyBypass` holds, i.e. the
five-entry condition of `site=list.bypass.alib.transfer` raises an alarm on a model trace. (Same for an `aex`
label whose `owner` is ≥ 5: the constructor allows the admin, a five-entry initial ghost does not.) The monitor
keeps the status of every address (`Mon.ghost : Nat → Bool`) and is silent on this trace by
`monitor_accepts_every_model_trace`; for parties 0..4 (all the harness uses) both conditions coincide. For a
BLOCK list the five-entry condition is too weak outside the universe (a blocked party ≥ 5 reads as "not
blocked"); `vList` demands exactly the property there too. -/

def legacySetAt (l : List Bool) (i : Nat) (v : Bool) : List Bool := l.mapIdx (fun j x => if j = i then v else x)

/-- the condition of `site=list.bypass.*` read off a ghost list of five entries (`ak`: allow list) -/
def legacyBypass (ghost : List Bool) (ak : Bool) (ps : List Nat) : Bool :=
  ps.any (fun p => (ghost.getD p false) ≠ ak)

def outsideParams : Params := ⟨.alib, 0, 1, 0, 0, 0, 100⟩

def outsideHist : List Item :=
  [([], .tok (.mint 7 100), false), ([], .setList 7 true none, false), ([], .setList 0 true none, false)]

def outsideCall : Item := ([7], .tok (.transfer 7 0 50), false)

theorem legacy_monitor_false_alarm_outside_universe :
    -- the model accepts the transfer 7 → 0 after the history
    (stepM demoCfg (outsideHist.foldl (fun x a => (stepM demoCfg x a.1 a.2.1).1) (initM outsideParams))
      outsideCall.1 outsideCall.2.1).2 = true ∧
    -- the legacy ghost list after the two accepted list changes, and the legacy condition on it
    legacySetAt (legacySetAt (List.replicate 5 false) 7 true) 0 true = [true, false, false, false, false] ∧
    legacyBypass [true, false, false, false, false] true
      (vettedOfCall (lineOf false [7] outsideCall.2.1).call (lineOf false [7] outsideCall.2.1).a) = true ∧
    -- the monitor with `Mon.ghost`
    monitorRun demoCfg (monInit outsideParams) (initM outsideParams) (outsideHist ++ [outsideCall]) = none := by
  refine ⟨by decide, by decide, by decide,
    monitor_accepts_every_model_trace _ _ (by simp [initSt, outsideParams]) _⟩

/-! ### non-vacuity: the monitor is not trivially silent -/

/-- the fungible-allowlist example burning through `Base::burn` (DESIGN.md section 8, #5): the disallowed
holder 2 burns — `site=list.bypass.aex.burn` -/
example :
    (checkCore { kind := .aex, owner := 0, mgr := 1, cap := 0, sup := 0, paused := false, ghost := fun i => i == 0,
                 credit := false, prev := none }
      ⟨.fungible .burn, [2], [2], 0⟩
      ⟨true, { sup := 960, bal := [900, 0, 60, 0, 0], allow := [], now := 100, paused := false, counter := 0,
               list := [true, false, false, false, false], cap := none, migrating := false, data := none,
               wasm := false }, []⟩).2.isSome = true := by
  decide

/-- a transfer accepted while the ghost flag says paused — `site=pausable.bypass.ptok.transfer` -/
example :
    (checkCore { kind := .ptok, owner := 0, mgr := 0, cap := 0, sup := 0, paused := true, ghost := fun _ => false,
                 credit := false, prev := none }
      ⟨.fungible .transfer, [1, 3], [1], 0⟩
      ⟨true, { sup := 1500, bal := [1000, 490, 0, 10, 0], allow := [], now := 100, paused := true, counter := 0,
               list := [], cap := none, migrating := false, data := none, wasm := false }, []⟩).2.isSome = true := by
  decide

/-- total supply one above the cap — `site=capped.exceeded` -/
example :
    (checkCore { kind := .cap, owner := 0, mgr := 0, cap := 1000, sup := 0, paused := false, ghost := fun _ => false,
                 credit := false, prev := none }
      ⟨.fungible .mint, [2], [], 0⟩
      ⟨true, { sup := 1001, bal := [0, 500, 501, 0, 0], allow := [], now := 100, paused := false, counter := 0,
               list := [], cap := some 1000, migrating := false, data := none, wasm := false }, []⟩).2.isSome = true := by
  decide

/-- a migrate accepted with no enable / upgrade since the last completion —
`site=migration.without_upgrade.migrate` -/
example :
    (checkCore { kind := .mig, owner := 0, mgr := 0, cap := 0, sup := 0, paused := false, ghost := fun _ => false,
                 credit := false, prev := none }
      ⟨.gate .migrate, [0], [0], 0⟩
      ⟨true, { sup := 0, bal := [], allow := [], now := 100, paused := false, counter := 0, list := [], cap := none,
               migrating := false, data := some (1, 2), wasm := false }, []⟩).2.isSome = true := by
  decide

/-- a rejected call after which `paused()` reads differently — `site=gates.rollback.pcnt` -/
example :
    (checkCore { kind := .pcnt, owner := 2, mgr := 0, cap := 0, sup := 0, paused := true, ghost := fun _ => false, credit := false,
                 prev := some { sup := 0, bal := [], allow := [], now := 100, paused := true, counter := 2, list := [],
                                cap := none, migrating := false, data := none, wasm := false } }
      ⟨.gate .increment, [], [], 0⟩
      ⟨false, { sup := 0, bal := [], allow := [], now := 100, paused := false, counter := 2, list := [], cap := none,
                migrating := false, data := none, wasm := false }, []⟩).2.isSome = true := by
  decide

/-- a redundant allow-list change announced again: account 2 is already allowed, `allow 2` is accepted,
leaves `allowed()` as it was and emits `allowed:2` once more — `site=list.idempotent.alib` -/
example :
    (checkCore { kind := .alib, owner := 0, mgr := 1, cap := 0, sup := 0, paused := false, ghost := fun i => i == 2,
                 credit := false, prev := none }
      ⟨.gate .allow, [2], [], 0⟩
      ⟨true, { sup := 0, bal := [0, 0, 0, 0, 0], allow := [], now := 100, paused := false, counter := 0,
               list := [false, false, true, false, false], cap := none, migrating := false, data := none,
               wasm := false }, [.userAllowed 2]⟩).2.isSome = true := by
  decide

/-- a real change (`block 3` of a not-blocked account) that emits nothing — `site=list.event.blib` -/
example :
    (checkCore { kind := .blib, owner := 0, mgr := 1, cap := 0, sup := 0, paused := false, ghost := fun _ => false,
                 credit := false, prev := none }
      ⟨.gate .block, [3], [], 0⟩
      ⟨true, { sup := 0, bal := [0, 0, 0, 0, 0], allow := [], now := 100, paused := false, counter := 0,
               list := [false, false, false, true, false], cap := none, migrating := false, data := none,
               wasm := false }, []⟩).2.isSome = true := by
  decide

end OZ.Gates.Mon
