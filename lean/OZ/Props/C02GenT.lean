import OZ.Gen.FungibleT
import OZ.Lemmas.TokenStore
/-
C02 — the allowance primitives WITH the temporary entry's lifetime, re-checked on every run against the SOURCE.

`lean/OZ/Gen/FungibleT.lean` is regenerated by `/verif/tools/rs2lean.py --fungible-ttl` (state-passing mode,
the `Allowance` entry declared TEMPORARY WITH ITS LIFETIME: `get` = `Temp.get?` at the current ledger, `set` =
`Temp.set`, `extend_ttl` = `tempExtend`; host rules of OZ/Model/Host.lean) from /repo's current
`packages/tokens/src/fungible/storage.rs`: `allowance_data`, `allowance`, `set_allowance`, `spend_allowance`.
OZ/Props/C02Gen.lean proves the property's sentences on a store without TTL; this file closes the remaining
gap: the GENERATED functions, TTL included, ARE the hand-written model's `allowanceData`, `setAllowance`,
`spendAllowance` — same result, same stored entry with the same lifetime, same refusals — for every host
configuration with a minimum temporary lifetime ≥ 1, every store of i128 amounts, ledger, pair and amount
(`allowance_data_eq`, `set_allowance_eq`, `spend_allowance_eq`).  Every theorem of OZ/Props/C02.lean about
allowances (expiry, TTL never outliving `live_until_ledger`, spends) therefore speaks about this code.
-/
namespace OZ.Gen.FungibleT
open OZ.Rs OZ.Host

def cfgOf (envr : FungibleT.Reads) : Cfg := ⟨envr.min_temp_ttl, envr.max_ttl⟩

def conv (d : FungibleT.AllowanceData) : OZ.Fungible.AllowanceData := ⟨d.amount, d.live_until_ledger⟩
def convT (t : Temp FungibleT.AllowanceData) : Temp OZ.Fungible.AllowanceData := ⟨conv t.val, t.liveUntil⟩

def Abs (envr : FungibleT.Reads) (st : FungibleT.Store) (s : OZ.Fungible.State) : Prop :=
  s.now = envr.ledger_sequence ∧ ∀ o sp, s.allow o sp = (st.Allowance ⟨o, sp⟩).map convT

theorem abs_set {envr : FungibleT.Reads} {st : FungibleT.Store} {s : OZ.Fungible.State} (hA : Abs envr st s)
    (o sp : Nat) (e : Temp FungibleT.AllowanceData) :
    Abs envr (FungibleT.Store.set_Allowance st ⟨o, sp⟩ e) { s with allow := upd2 s.allow o sp (some (convT e)) } :=
  ⟨hA.1, upd2_map_key (key := fun o sp => (⟨o, sp⟩ : FungibleT.AllowanceKey))
    (fun h => by injection h with h1 h2; exact ⟨h1, h2⟩) hA.2 o sp e⟩

def InRange (st : FungibleT.Store) : Prop := ∀ k e, st.Allowance k = some e → OZ.MulDiv.in128 e.val.amount

/-- `FungibleT.allowance_data`, `set_allowance`, `spend_allowance` are those of `aops envr` up to unfolding -/
def aops (envr : FungibleT.Reads) : AllowOps FungibleT.Store FungibleT.AllowanceData where
  now := envr.ledger_sequence
  cfg := ⟨envr.min_temp_ttl, envr.max_ttl⟩
  get st o sp := st.Allowance ⟨o, sp⟩
  set st o sp e := FungibleT.Store.set_Allowance st ⟨o, sp⟩ e
  mkData a l := ⟨a, l⟩
  amount := (·.amount)
  lu := (·.live_until_ledger)

theorem allowRef (envr : FungibleT.Reads) : AllowRef (aops envr) (Abs envr) where
  now h := h.1
  allow h := h.2
  set h := abs_set h
  get_set _ _ _ _ := by simp [aops, FungibleT.Store.set_Allowance]
  conv_mkData _ _ := rfl

theorem allowRange (envr : FungibleT.Reads) : AllowRange (aops envr) InRange OZ.MulDiv.in128 where
  set h o sp e he := forall_some_set h ⟨o, sp⟩ e he
  get h _ _ e he := h _ e he
  rv _ h := h

/-- **generated = model**: `allowance_data` -/
theorem allowance_data_eq (envr : FungibleT.Reads) (st : FungibleT.Store) (s : OZ.Fungible.State)
    (hA : Abs envr st s) (o sp : Nat) :
    ∃ d, FungibleT.allowance_data envr st o sp = .ok d ∧ conv d = OZ.Fungible.allowanceData s o sp :=
  (allowRef envr).allowance_data hA o sp

/-- **generated = model**: `set_allowance` (value, lifetime, refusals) -/
theorem set_allowance_eq (envr : FungibleT.Reads) (st : FungibleT.Store) (s : OZ.Fungible.State)
    (hA : Abs envr st s) (hmin : 1 ≤ envr.min_temp_ttl) (o sp : Nat) (amount : Int) (lu : Nat) :
    match OZ.Fungible.setAllowance (cfgOf envr) s o sp amount lu with
    | .ok s' => ∃ st', FungibleT.set_allowance envr st o sp amount lu = .ok ((), st') ∧ Abs envr st' s'
    | .error _ => ((FungibleT.set_allowance envr st o sp amount lu).bind fun _ => Comp.ok ()) = .panic := by
  -- no range is claimed: the trivial predicate on stores is kept by every write
  have h := (allowRef envr).set_allowance (R := fun _ => True) (Rv := fun _ => True) (fun _ _ _ _ _ => trivial)
    hA trivial hmin o sp amount lu trivial
  split
  · next hm => obtain ⟨st', h1, h2, _⟩ := h.of_ok_store hm; exact ⟨st', h1, h2⟩
  · next hm => exact h.weak hm

/-- **generated = model**: `spend_allowance` -/
theorem spend_allowance_eq (envr : FungibleT.Reads) (st : FungibleT.Store) (s : OZ.Fungible.State)
    (hA : Abs envr st s) (hR : InRange st) (hmin : 1 ≤ envr.min_temp_ttl) (o sp : Nat) (amount : Int) :
    match OZ.Fungible.spendAllowance (cfgOf envr) s o sp amount with
    | .ok s' => ∃ st', FungibleT.spend_allowance envr st o sp amount = .ok ((), st') ∧ Abs envr st' s'
    | .error _ => ((FungibleT.spend_allowance envr st o sp amount).bind fun _ => Comp.ok ()) = .panic := by
  have h := (allowRef envr).spend_allowance (allowRange envr) hA hR hmin o sp amount
  split
  · next hm => obtain ⟨st', h1, h2, _⟩ := h.of_ok_store hm; exact ⟨st', h1, h2⟩
  · next hm => exact h.weak hm

end OZ.Gen.FungibleT
