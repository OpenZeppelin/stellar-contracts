import OZ.Gen.Controller
import OZ.Lemmas.Comp
/-
C09 — the controller's `__check_auth`, re-checked on every run against what the SOURCE says now.

`lean/OZ/Gen/Controller.lean` is regenerated by `/verif/tools/rs2lean.py --controller` (state-passing mode)
from /repo's current `examples/timelock-controller/src/contract.rs` (`__check_auth` of the
`CustomAccountInterface` impl), `packages/governance/src/timelock/storage.rs` (`set_execute_operation` and the
views it reads) and `packages/access/src/access_control/storage.rs` (`has_role`, `ensure_role`,
`get_role_member_count`), over ONE store.  `for (context, meta) in auth_contexts.iter().zip(context_meta)`
becomes a structural recursion over the list of pairs that carries the store; the `match` on
`Context::Contract(ContractContext { contract, fn_name, args })` the named eliminator of an inductive type
`Context`; `Err(..)` is `none`, `Ok(())` is `some ()`; `executor.require_auth_for_args(args)` a test of the
function `authorized_for_args` of the reads record on the translated argument tuple; symbols are the numbers
whose base-256 digits are their characters.

Theorems about the GENERATED code, for every store, ledger, hash function, authorization predicate and every
pair of vectors:
* `gen_check_auth_sound` — an accepted check consumed, context by context and in order, exactly the operation
  (controller, function, arguments, predecessor, salt) of EVERY context (`Consumed`): every context is a
  contract call on the controller itself; when executors are configured the descriptor names an executor that
  holds the role and authorized exactly `("execute_op", controller, function, args, predecessor, salt)`; and
  `set_execute_operation` accepted that operation in the store left by the contexts before it;
* `gen_foreign_context_refused`, `gen_non_contract_context_refused` — the loop of the check
  (`__check_auth.loop1`), arrived at a context on another contract or at a contract-creation context, panics
  (stated with that context first; nothing is stated for `__check_auth` itself).

`led` … `gen_execute_sound` repeat OZ/Props/C08GenSt.lean: `Controller` is a translation of its own, with its
own `Store`, `Reads` and `OperationState`.
-/
namespace OZ.Gen.Controller
open OZ.Rs

/-- `symbol_short!("executor")` -/
def EXECUTOR : Nat := 7311705472882732914
/-- `Symbol::new(e, "execute_op")` -/
def EXECUTE_OP : Nat := 479179929870842615263088

example : EXECUTOR = "executor".toUTF8.foldl (fun a b => a * 256 + b.toNat) 0 := by decide
example : EXECUTE_OP = "execute_op".toUTF8.foldl (fun a b => a * 256 + b.toNat) 0 := by decide

/-- the stored ready ledger of an id (`UNSET_LEDGER = 0` when there is no entry) -/
def led (st : Controller.Store) (id : B32) : Nat := (st.OperationLedger id).getD 0

/-- the `match` of `get_operation_state` -/
def stateAt (ready now : Nat) : Controller.OperationState :=
  if ready = 0 then .Unset else if ready = 1 then .Done else if ready > now then .Waiting else .Ready

theorem get_operation_ledger_eq (envr : Controller.Reads) (st : Controller.Store) (id : B32) :
    Controller.get_operation_ledger envr st id = .ok (led st id) := by
  unfold Controller.get_operation_ledger led
  cases st.OperationLedger id <;> rfl

theorem get_operation_state_eq (envr : Controller.Reads) (st : Controller.Store) (id : B32) :
    Controller.get_operation_state envr st id = .ok (stateAt (led st id) envr.ledger_sequence) := by
  unfold Controller.get_operation_state stateAt
  rw [get_operation_ledger_eq]
  simp only [Comp.bind_ok]
  by_cases h0 : led st id = 0
  · rw [if_pos h0, if_pos h0]
  · rw [if_neg h0, if_neg h0]
    by_cases h1 : led st id = 1
    · rw [if_pos h1, if_pos h1]
    · rw [if_neg h1, if_neg h1]
      by_cases h2 : led st id > envr.ledger_sequence
      · rw [if_pos h2, if_pos h2]
      · rw [if_neg h2, if_neg h2]

theorem ready_eq (envr : Controller.Reads) (st : Controller.Store) (id : B32) :
    Controller.is_operation_ready envr st id = .ok (decide (stateAt (led st id) envr.ledger_sequence = .Ready)) := by
  unfold Controller.is_operation_ready; rw [get_operation_state_eq]; rfl
theorem done_eq (envr : Controller.Reads) (st : Controller.Store) (id : B32) :
    Controller.is_operation_done envr st id = .ok (decide (stateAt (led st id) envr.ledger_sequence = .Done)) := by
  unfold Controller.is_operation_done; rw [get_operation_state_eq]; rfl

theorem stateAt_ready {r now : Nat} : stateAt r now = .Ready ↔ (r ≠ 0 ∧ r ≠ 1 ∧ r ≤ now) := by
  unfold stateAt
  by_cases h0 : r = 0
  · simp [h0]
  · by_cases h1 : r = 1
    · simp [h1]
    · by_cases h2 : r > now
      · simp [h0, h1, h2]; try omega
      · simp [h0, h1, h2]; try omega

theorem stateAt_done {r now : Nat} : stateAt r now = .Done ↔ r = 1 := by
  unfold stateAt
  by_cases h0 : r = 0
  · simp [h0]
  · by_cases h1 : r = 1
    · simp [h1]
    · by_cases h2 : r > now <;> simp [h0, h1, h2]

/-- **execute**: only a Ready operation whose predecessor (if it names one) is Done; marks exactly it Done -/
theorem gen_execute_sound (envr : Controller.Reads) (st st' : Controller.Store) (op : Controller.Operation)
    (h : Controller.set_execute_operation envr st op = .ok ((), st')) :
    let id := envr.hash_operation op
    (led st id ≠ 0 ∧ led st id ≠ 1 ∧ led st id ≤ envr.ledger_sequence) ∧
    (op.predecessor ≠ List.replicate 32 0 → led st op.predecessor = 1) ∧
    st' = Controller.Store.set_OperationLedger st id 1 := by
  intro id
  unfold Controller.set_execute_operation at h
  rw [ready_eq, Comp.bind_ok] at h
  obtain ⟨hr, h⟩ := Comp.require_eq_ok h
  have hr := stateAt_ready.mp (of_decide_eq_true hr)
  by_cases hp : op.predecessor ≠ List.replicate 32 0
  · rw [if_pos hp, done_eq, Comp.bind_ok] at h
    obtain ⟨hd, h⟩ := Comp.require_eq_ok h
    cases h
    exact ⟨hr, fun _ => stateAt_done.mp (of_decide_eq_true hd), rfl⟩
  · rw [if_neg hp] at h
    cases h
    exact ⟨hr, fun hne => absurd hne hp, rfl⟩

def opOf (cc : Controller.ContractContext) (m : Controller.OperationMeta) : Controller.Operation :=
  ⟨cc.contract, cc.fn_name, cc.args, m.predecessor, m.salt⟩

/-- the executor gate: when any executor is configured, the descriptor names an executor that holds the role
and authorized exactly this execution -/
def ExecOk (envr : Controller.Reads) (st : Controller.Store) (cc : Controller.ContractContext) (m : Controller.OperationMeta) : Prop :=
  (st.RoleAccountsCount EXECUTOR).getD 0 ≠ 0 →
    ∃ ex, m.executor = some ex ∧ (st.HasRole ex EXECUTOR).isSome = true ∧
      envr.authorized_for_args ex (EXECUTE_OP, cc.contract, cc.fn_name, cc.args, m.predecessor, m.salt) = true

/-- context by context, in order: a contract call on the controller itself, the executor gate, and
`set_execute_operation` accepting the named operation in the store left by the contexts before it -/
inductive Consumed (envr : Controller.Reads) : Controller.Store → List (Controller.Context × Controller.OperationMeta) → Controller.Store → Prop
  | nil (st) : Consumed envr st [] st
  | cons {st st1 st' : Controller.Store} {cc : Controller.ContractContext} {m : Controller.OperationMeta}
      {rest : List (Controller.Context × Controller.OperationMeta)} :
      cc.contract = envr.current_contract_address → ExecOk envr st cc m →
      Controller.set_execute_operation envr st (opOf cc m) = .ok ((), st1) →
      Consumed envr st1 rest st' → Consumed envr st ((.Contract cc, m) :: rest) st'

theorem get_role_member_count_eq (envr : Controller.Reads) (st : Controller.Store) (r : Nat) :
    Controller.get_role_member_count envr st r = .ok ((st.RoleAccountsCount r).getD 0) := by
  unfold Controller.get_role_member_count
  cases st.RoleAccountsCount r <;> rfl

theorem ensure_role_eq (envr : Controller.Reads) (st : Controller.Store) (r a : Nat) :
    Controller.ensure_role envr st r a = if (st.HasRole a r).isSome then .ok () else .panic := by
  unfold Controller.ensure_role Controller.has_role
  cases st.HasRole a r <;> rfl

theorem loop_step (envr : Controller.Reads) (st st' : Controller.Store) (c : Controller.Context) (m : Controller.OperationMeta)
    (rest : List (Controller.Context × Controller.OperationMeta)) (a : List Controller.Context) (b : List Controller.OperationMeta)
    (h : Controller.__check_auth.loop1 envr ((c, m) :: rest) st a b = .ok st') :
    ∃ cc st1, c = .Contract cc ∧ cc.contract = envr.current_contract_address ∧ ExecOk envr st cc m ∧
      Controller.set_execute_operation envr st (opOf cc m) = .ok ((), st1) ∧
      Controller.__check_auth.loop1 envr rest st1 a b = .ok st' := by
  unfold Controller.__check_auth.loop1 at h
  cases c with
  | CreateContractHostFn | CreateContractWithCtorHostFn => cases h
  | Contract cc =>
    obtain ⟨hc, h⟩ := Comp.guard_eq_ok (c := cc.contract ≠ envr.current_contract_address) h
    rw [get_role_member_count_eq, Comp.bind_ok] at h
    -- `EXECUTOR` as the literal of the generated code: `rw [if_pos hn]` has to find it as written there
    by_cases hn : (st.RoleAccountsCount (7311705472882732914 : Nat)).getD 0 ≠ 0
    · rw [if_pos hn] at h
      obtain ⟨ex, hex, h⟩ := Comp.unwrap_eq_ok h
      obtain ⟨_, h1, h⟩ := Comp.bind_eq_ok h
      rw [ensure_role_eq] at h1
      obtain ⟨hau, h⟩ := Comp.require_eq_ok h
      obtain ⟨⟨_, st1⟩, hs, hl⟩ := Comp.bind_eq_ok h
      exact ⟨cc, st1, rfl, Decidable.not_not.mp hc, fun _ => ⟨ex, hex, (Comp.require_eq_ok h1).1, hau⟩, hs, hl⟩
    · rw [if_neg hn] at h
      obtain ⟨⟨_, st1⟩, hs, hl⟩ := Comp.bind_eq_ok h
      exact ⟨cc, st1, rfl, Decidable.not_not.mp hc, fun hne => absurd hne hn, hs, hl⟩

theorem loop_consumed (envr : Controller.Reads) (a : List Controller.Context) (b : List Controller.OperationMeta) :
    ∀ (xs : List (Controller.Context × Controller.OperationMeta)) (st st' : Controller.Store),
      Controller.__check_auth.loop1 envr xs st a b = .ok st' → Consumed envr st xs st' := by
  intro xs
  induction xs with
  | nil =>
    intro st st' h
    unfold Controller.__check_auth.loop1 at h
    injection h with h; subst h
    exact .nil st
  | cons x rest ih =>
    intro st st' h
    obtain ⟨c, m⟩ := x
    obtain ⟨cc, st1, rfl, hc, he, hs, hl⟩ := loop_step envr st st' c m rest a b h
    exact .cons hc he hs (ih st1 st' hl)

/-- **a descriptor vector of the wrong length is refused**: empty, short or long — `Err`, store unchanged -/
theorem gen_short_payload_refused (envr : Controller.Reads) (st : Controller.Store) (metas : List Controller.OperationMeta)
    (ctxs : List Controller.Context) (h : metas.length ≠ ctxs.length) :
    Controller.__check_auth envr st metas ctxs = .ok (none, st) := by
  unfold Controller.__check_auth
  rw [if_pos h]

/-- **an accepted check consumed one ready operation for exactly each context** -/
theorem gen_check_auth_sound (envr : Controller.Reads) (st st' : Controller.Store) (metas : List Controller.OperationMeta)
    (ctxs : List Controller.Context) (r : Option Unit) (h : Controller.__check_auth envr st metas ctxs = .ok (r, st')) :
    (r = none ∧ st' = st ∧ metas.length ≠ ctxs.length) ∨
    (r = some () ∧ metas.length = ctxs.length ∧ (ctxs.zip metas).length = ctxs.length ∧
      Consumed envr st (ctxs.zip metas) st') := by
  unfold Controller.__check_auth at h
  by_cases hl : metas.length ≠ ctxs.length
  · rw [if_pos hl] at h
    injection h with h; injection h with h1 h2
    exact .inl ⟨h1.symm, h2.symm, hl⟩
  · rw [if_neg hl] at h
    have hl' : metas.length = ctxs.length := Decidable.not_not.mp hl
    cases hloop : Controller.__check_auth.loop1 envr (ctxs.zip metas) st ctxs metas with
    | panic => rw [hloop] at h; cases h
    | ok s1 =>
      rw [hloop] at h
      simp only [Comp.bind_ok] at h
      injection h with h; injection h with h1 h2
      subst h2
      exact .inr ⟨h1.symm, hl', by simp [List.length_zip, hl'], loop_consumed envr ctxs metas _ st _ hloop⟩

/-- what `Consumed` says about every single pair: a contract context on the controller, whose operation was
Ready (stored ready ledger neither `UNSET` nor `DONE` and REACHED) with its predecessor Done in the store at
that moment, and passed the executor gate there -/
theorem consumed_forall (envr : Controller.Reads) :
    ∀ (xs : List (Controller.Context × Controller.OperationMeta)) (st st' : Controller.Store), Consumed envr st xs st' →
      ∀ x ∈ xs, ∃ cc sti, x.1 = .Contract cc ∧ cc.contract = envr.current_contract_address ∧ ExecOk envr sti cc x.2 ∧
        (led sti (envr.hash_operation (opOf cc x.2)) ≠ 0 ∧ led sti (envr.hash_operation (opOf cc x.2)) ≠ 1 ∧
          led sti (envr.hash_operation (opOf cc x.2)) ≤ envr.ledger_sequence) ∧
        ((opOf cc x.2).predecessor ≠ List.replicate 32 0 → led sti (opOf cc x.2).predecessor = 1) := by
  intro xs st st' hc
  induction hc with
  | nil st => intro x hx; cases hx
  | cons hself hex hset _ ih =>
    intro x hx
    rcases List.mem_cons.mp hx with rfl | hx
    · have := gen_execute_sound envr _ _ _ hset
      exact ⟨_, _, rfl, hself, hex, this.1, this.2.1⟩
    · exact ih x hx

/-- **C09, on the source as translated**: when the generated `__check_auth` answers `Ok`, EVERY authorized
context (position by position: the descriptor vector has the contexts' length) is a call on the controller
itself whose operation — (controller, function, arguments, descriptor's predecessor and salt) — was scheduled,
had become ready, was not yet executed, had its predecessor done, and was consumed by this check; with
executors configured, an executor holding the role authorized exactly that execution -/
theorem gen_every_context_consumes_a_ready_operation (envr : Controller.Reads) (st st' : Controller.Store)
    (metas : List Controller.OperationMeta) (ctxs : List Controller.Context)
    (h : Controller.__check_auth envr st metas ctxs = .ok (some (), st')) :
    metas.length = ctxs.length ∧
    ∀ x ∈ ctxs.zip metas, ∃ cc sti, x.1 = .Contract cc ∧ cc.contract = envr.current_contract_address ∧ ExecOk envr sti cc x.2 ∧
      (led sti (envr.hash_operation (opOf cc x.2)) ≠ 0 ∧ led sti (envr.hash_operation (opOf cc x.2)) ≠ 1 ∧
        led sti (envr.hash_operation (opOf cc x.2)) ≤ envr.ledger_sequence) ∧
      ((opOf cc x.2).predecessor ≠ List.replicate 32 0 → led sti (opOf cc x.2).predecessor = 1) := by
  rcases gen_check_auth_sound envr st st' metas ctxs _ h with ⟨hr, _⟩ | ⟨_, hl, _, hc⟩
  · cases hr
  · exact ⟨hl, consumed_forall envr _ _ _ hc⟩

/-- the loop of the check, arrived at a context on ANOTHER contract, panics, whatever follows it -/
theorem gen_foreign_context_refused (envr : Controller.Reads) (st : Controller.Store) (cc : Controller.ContractContext)
    (m : Controller.OperationMeta) (rest : List (Controller.Context × Controller.OperationMeta))
    (a : List Controller.Context) (b : List Controller.OperationMeta) (hc : cc.contract ≠ envr.current_contract_address) :
    Controller.__check_auth.loop1 envr ((.Contract cc, m) :: rest) st a b = .panic := by
  unfold Controller.__check_auth.loop1
  simp only [Controller.Context.caseContract]
  rw [if_pos hc]

/-- the loop of the check, arrived at a contract-creation context, panics -/
theorem gen_non_contract_context_refused (envr : Controller.Reads) (st : Controller.Store) (c : Controller.Context)
    (m : Controller.OperationMeta) (rest : List (Controller.Context × Controller.OperationMeta))
    (a : List Controller.Context) (b : List Controller.OperationMeta) (hc : ∀ cc, c ≠ .Contract cc) :
    Controller.__check_auth.loop1 envr ((c, m) :: rest) st a b = .panic := by
  unfold Controller.__check_auth.loop1
  cases c with
  | Contract cc => exact absurd rfl (hc cc)
  | CreateContractHostFn => rfl
  | CreateContractWithCtorHostFn => rfl

/-- the same operation cannot be consumed twice: once Done, `set_execute_operation` refuses it -/
theorem gen_consumed_once (envr : Controller.Reads) (st st1 : Controller.Store) (op : Controller.Operation)
    (h : Controller.set_execute_operation envr st op = .ok ((), st1)) :
    Controller.set_execute_operation envr st1 op = .panic := by
  have hs := (gen_execute_sound envr st st1 op h).2.2
  have hled : led st1 (envr.hash_operation op) = 1 := by
    rw [hs]; simp [led, Controller.Store.set_OperationLedger]
  unfold Controller.set_execute_operation
  rw [ready_eq]
  simp only [Comp.bind_ok]
  have : decide (stateAt (led st1 (envr.hash_operation op)) envr.ledger_sequence = .Ready) = false := by
    rw [hled]; simp [stateAt]
  rw [this]; simp

/-! ### non-vacuity: the generated check runs and accepts a ready self-call -/

def demoEnv : Controller.Reads := ⟨50, fun op => List.replicate 31 0 ++ [op.function], 9, fun _ _ => true⟩
def demoSt : Controller.Store :=
  ⟨some 5, fun id => if id = List.replicate 31 0 ++ [7] then some 40 else none, fun _ _ => none, some 9, fun _ => none, fun _ => none⟩
def z32 : B32 := List.replicate 32 0

/-- the verdict of a check, without the store, which has no decidable equality: for `decide` below -/
def verdict (c : Comp (Option Unit × Controller.Store)) : Comp (Option Unit) := Comp.bind c fun p => Comp.ok p.1

example : verdict (Controller.__check_auth demoEnv demoSt [⟨z32, z32, none⟩] [.Contract ⟨9, 7, 0⟩]) = .ok (some ()) := by decide
example : verdict (Controller.__check_auth demoEnv demoSt [] [.Contract ⟨9, 7, 0⟩]) = .ok none := by decide
example : verdict (Controller.__check_auth demoEnv demoSt [⟨z32, z32, none⟩] [.Contract ⟨8, 7, 0⟩]) = .panic := by decide
/-- the same operation named by two contexts of one check: the second finds it Done -/
example : verdict (Controller.__check_auth demoEnv demoSt [⟨z32, z32, none⟩, ⟨z32, z32, none⟩]
    [.Contract ⟨9, 7, 0⟩, .Contract ⟨9, 7, 0⟩]) = .panic := by decide

end OZ.Gen.Controller
