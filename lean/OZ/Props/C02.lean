import OZ.Lemmas.FungibleAuth
/-
C02 — Tokens move only with the holder's authorization or a live allowance.

The model (OZ/Model/Fungible.lean + OZ/Model/Host.lean) mirrors `impl Base` of
packages/tokens/src/fungible/storage.rs and extensions/burnable/storage.rs line by line,
including the temporary-entry TTL behaviour of the allowance entry.

Step theorems hold for EVERY state (not only reachable ones), every host configuration,
every operation with arbitrary `Int` amounts / `Nat` ledgers and every authorizing set
`auth`. History theorems hold for every finite list of operations from the empty token,
with arbitrary authorizing sets and arbitrary ledger advancement in between (also past the
storage TTL of the allowance entry).

`Unexpired s o sp` (Lemmas): the entry of (o, sp) is still kept by the host at `s.now` and
`s.now ≤ live_until_ledger` of the stored record.
-/
namespace OZ.Fungible
open OZ.Host

/-! ### (1) a balance goes down only with the holder's authorization or a live allowance -/

/-- **C02, debit**: if an accepted invocation lowers `h`'s balance then either `h`
authorized it and it is a `transfer` / `burn` naming `h` as `from`, or it is a
`transfer_from` / `burn_from` from `h` by a spender `sp ∈ auth` whose allowance entry is
unexpired, `allowance(h, sp) ≥ amount`, and afterwards `allowance(h, sp)` is exactly
`amount` less. (`mint`, `approve`, ledger movement never lower a balance.) -/
theorem debit_authorized (c : Cfg) (s s' : State) (auth : List Nat) (op : Op) (h : Nat)
    (hok : apply c s auth op = .ok s') (hdec : s'.bal h < s.bal h) :
    (h ∈ auth ∧ ((∃ t amt, op = .transfer h t amt) ∨ (∃ amt, op = .burn h amt))) ∨
    (∃ sp amt, ((∃ t, op = .transferFrom sp h t amt) ∨ op = .burnFrom sp h amt) ∧
      sp ∈ auth ∧ 0 < amt ∧ Unexpired s h sp ∧ amt ≤ allowance s h sp ∧
      allowance s' h sp = allowance s h sp - amt) := by
  rcases op_trichotomy op with ⟨o, sp, amt, lu, rfl⟩ | ⟨f, sp, amt, hs⟩ | ⟨hs, hap⟩
  · obtain ⟨_, _, _, _, _, hb⟩ := apply_approve hok
    rw [hb] at hdec
    exact absurd hdec (Int.lt_irrefl _)
  · obtain ⟨ha, s0, h0, hal, hnow, hb⟩ := apply_spend hok hs
    obtain ⟨rfl, hp⟩ := hb h hdec
    obtain ⟨e, he, hl, hx, -⟩ := spendAllowance_unexpired h0 hp
    obtain ⟨_, _, en, _, _⟩ := spendAllowance_ok h0
    refine .inr ⟨sp, amt, spend?_eq hs, ha, hp, ⟨e, he, hl, hx⟩, (spendAllowance_cases h0).2.1, ?_⟩
    rw [allowance_congr hal (by rw [hnow, en]), spendAllowance_exact h0]
  · obtain ⟨_, _, _, hb⟩ := apply_other hok hs hap
    exact .inl (hb h hdec)

/-- a rejected invocation debits nobody: it changes no balance (host rollback; this is how
`step` is defined and what the correspondence observes) -/
theorem rejected_no_debit (c : Cfg) (s : State) (auth : List Nat) (op : Op) (e : Err)
    (h : apply c s auth op = .error e) (a : Nat) : (step c s (auth, op)).bal a = s.bal a := by
  simp [step, h]

/-- **C02, spend**: an accepted `transfer_from` / `burn_from` of `amt` needs the spender's
authorization and `0 ≤ amt ≤ allowance(from, spender)`, lowers that allowance by exactly
`amt` and leaves every other allowance as it was. (For `amt = 0` the code does not rewrite
the entry; the equation still holds.) -/
theorem spend_exact (c : Cfg) (s s' : State) (auth : List Nat) (op : Op) (f sp : Nat) (amt : Int)
    (hop : (∃ t, op = .transferFrom sp f t amt) ∨ op = .burnFrom sp f amt)
    (hok : apply c s auth op = .ok s') :
    sp ∈ auth ∧ 0 ≤ amt ∧ amt ≤ allowance s f sp ∧
    allowance s' f sp = allowance s f sp - amt ∧
    ∀ o x, ¬ (o = f ∧ x = sp) → allowance s' o x = allowance s o x := by
  have hs : op.spend? = some (f, sp, amt) := by
    rcases hop with ⟨t, rfl⟩ | rfl <;> rfl
  obtain ⟨ha, s0, h0, hal, hnow, _⟩ := apply_spend hok hs
  obtain ⟨_, _, en, _, _⟩ := spendAllowance_ok h0
  obtain ⟨hge, hle, _⟩ := spendAllowance_cases h0
  have hcong : ∀ o x, allowance s' o x = allowance s0 o x :=
    fun o x => allowance_congr hal (by rw [hnow, en]) o x
  exact ⟨ha, hge, hle, by rw [hcong, spendAllowance_exact h0],
    fun o x hox => by rw [hcong]; exact spendAllowance_others h0 o x hox⟩

/-! ### (2) an allowance is created / raised only by `approve` with the owner's authorization -/

/-- **C02, approve takes effect**: after an accepted `approve(o, sp, amt, lu)` the getter
reads exactly `amt` -/
theorem approve_sets_allowance (c : Cfg) (s s' : State) (auth : List Nat) (o sp : Nat) (amt : Int)
    (lu : Nat) (hok : apply c s auth (.approve o sp amt lu) = .ok s') : allowance s' o sp = amt := by
  obtain ⟨_, s0, hset, hal, hnow, _⟩ := apply_approve hok
  obtain ⟨_, _, en, _, _⟩ := setAllowance_ok hset
  rw [allowance_congr hal (by rw [hnow, en]), setAllowance_allowance hset]

/-- **C02, allowance entry write** (storage level, every state, no premise): the stored
allowance entry of `(o, sp)` changes only in an `approve(o, sp, …)` authorized by `o`, or
in a `transfer_from` / `burn_from` of a positive amount from `o` by `sp ∈ auth` that the
unexpired allowance covers (which lowers it, `spend_exact`). -/
theorem allowance_entry_write_authorized (c : Cfg) (s s' : State) (auth : List Nat) (op : Op)
    (o sp : Nat) (hok : apply c s auth op = .ok s') (hch : s'.allow o sp ≠ s.allow o sp) :
    (∃ amt lu, op = .approve o sp amt lu ∧ o ∈ auth) ∨
    (∃ amt, ((∃ t, op = .transferFrom sp o t amt) ∨ op = .burnFrom sp o amt) ∧ sp ∈ auth ∧
      0 < amt ∧ Unexpired s o sp ∧ amt ≤ allowance s o sp) := by
  rcases op_trichotomy op with ⟨o', sp', amt, lu, rfl⟩ | ⟨f, sp', amt, hs⟩ | ⟨hs, hap⟩
  · obtain ⟨ha, s0, hset, hal, _, _⟩ := apply_approve hok
    obtain ⟨_, _, _, _, hother⟩ := setAllowance_ok hset
    by_cases hxy : o = o' ∧ sp = sp'
    · obtain ⟨rfl, rfl⟩ := hxy
      exact .inl ⟨amt, lu, rfl, ha⟩
    · rw [hal, hother o sp hxy] at hch
      exact absurd rfl hch
  · obtain ⟨ha, s0, hsp, hal, _, _⟩ := apply_spend hok hs
    obtain ⟨_, _, _, _, hother⟩ := spendAllowance_ok hsp
    by_cases hxy : o = f ∧ sp = sp'
    · obtain ⟨rfl, rfl⟩ := hxy
      obtain ⟨_, hle, hc⟩ := spendAllowance_cases hsp
      rcases hc with ⟨hp, _⟩ | ⟨_, rfl⟩
      · obtain ⟨e, he, hl, hx, -⟩ := spendAllowance_unexpired hsp hp
        exact .inr ⟨amt, spend?_eq hs, ha, hp, ⟨e, he, hl, hx⟩, hle⟩
      · rw [hal] at hch
        exact absurd rfl hch
    · rw [hal, hother o sp hxy] at hch
      exact absurd rfl hch
  · obtain ⟨hal, _, _, _⟩ := apply_other hok hs hap
    rw [hal] at hch
    exact absurd rfl hch

/-- **C02, allowance write**: if an accepted invocation raises `allowance(o, sp)` then it is
`approve(o, sp, amt, lu)` authorized by the owner `o`, the new value is exactly `amt`, and
`lu` has not passed. The premise `0 ≤ allowance s o sp` holds in every reachable state
(`allowance_nonneg_reachable`); it only excludes artificial states holding a negative
stored amount, which "rise" to 0 by expiring. -/
theorem allowance_write_authorized (c : Cfg) (s s' : State) (auth : List Nat) (op : Op) (o sp : Nat)
    (hok : apply c s auth op = .ok s') (h0 : 0 ≤ allowance s o sp)
    (hup : allowance s o sp < allowance s' o sp) :
    ∃ amt lu, op = .approve o sp amt lu ∧ o ∈ auth ∧ allowance s' o sp = amt ∧ s.now ≤ lu := by
  by_cases hch : s'.allow o sp = s.allow o sp
  · -- the entry is as it was: only the ledger can have moved, which never raises an allowance
    rcases allowance_later hch (apply_now_le hok) with h | h <;> omega
  · rcases allowance_entry_write_authorized c s s' auth op o sp hok hch with
      ⟨amt, lu, rfl, ha⟩ | ⟨amt, hop, _, _, _, _⟩
    · obtain ⟨_, s0, hset, _⟩ := apply_approve hok
      obtain ⟨_, _, hlu, _⟩ := setAllowance_entry hset
      have hv := approve_sets_allowance c s s' auth o sp amt lu hok
      exact ⟨amt, lu, rfl, ha, hv, hlu (by omega)⟩
    · -- a spend lowers it
      have := (spend_exact c s s' auth op o sp amt hop hok).2.2.2.1
      omega

/-! ### (3) expiry: worth zero after `live_until_ledger`, usable up to and including it -/

/-- **C02, expiry**: once the ledger has passed the stored `live_until_ledger` the allowance
reads 0 — whether or not the host still keeps the storage entry alive (`e.liveUntil` is
unconstrained): this is the explicit comparison in `Base::allowance_data`. Hence a
`transfer_from` / `burn_from` of a positive amount is rejected then (`debit_authorized`). -/
theorem allowance_zero_after_expiry (s : State) (o sp : Nat) (e : Temp AllowanceData)
    (he : s.allow o sp = some e) (hx : e.val.liveUntilLedger < s.now) : allowance s o sp = 0 := by
  unfold allowance
  rw [allowanceData_expired he hx]

/-- an owner/spender pair without a storage entry has allowance 0 -/
theorem allowance_zero_without_entry (s : State) (o sp : Nat) (he : s.allow o sp = none) :
    allowance s o sp = 0 :=
  allowance_none he

/-- **C02, the other half of "live allowance"**: after an accepted `approve` of a positive
amount the host keeps the storage entry at least until `lu` (it never expires earlier than
the allowance), so the allowance stays readable with its full amount at every ledger up to
AND INCLUDING `lu`, and reads 0 at every later ledger. -/
theorem allowance_live_until (c : Cfg) (s s' : State) (auth : List Nat) (o sp : Nat) (amt : Int)
    (lu : Nat) (hok : apply c s auth (.approve o sp amt lu) = .ok s') (hp : 0 < amt) :
    (∃ e', s'.allow o sp = some e' ∧ e'.val = ⟨amt, lu⟩ ∧ lu ≤ e'.liveUntil) ∧
    ∀ n s'', apply c s' [] (.advance n) = .ok s'' →
      allowance s'' o sp = if s''.now ≤ lu then amt else 0 := by
  obtain ⟨_, s0, hset, hal, hnow, _⟩ := apply_approve hok
  obtain ⟨_, _, _, e', he', hv', hlu', _⟩ := setAllowance_entry hset
  rw [← hal] at he'
  refine ⟨⟨e', he', hv', hlu' hp⟩, ?_⟩
  intro n s'' hadv
  injection hadv with hadv; subst hadv
  have he'' : ({ s' with now := s'.now + n } : State).allow o sp = some e' := he'
  by_cases hn : s'.now + n ≤ lu
  · rw [if_pos hn]
    unfold allowance
    rw [allowanceData_live he'' (by have := hlu' hp; show s'.now + n ≤ _; omega)
      (by rw [hv']; exact hn), hv']
  · rw [if_neg hn]
    exact allowance_zero_after_expiry _ o sp e' he'' (by rw [hv']; show lu < s'.now + n; omega)

/-! ### (4) `approve` is rejected exactly when it must be -/

/-- the `extend_ttl` call inside `set_allowance` can never fail: the code's comment
"cannot revert because of the check above" is true -/
theorem setAllowance_extend_cannot_fail (c : Cfg) (s : State) (o sp : Nat) (amt : Int) (lu : Nat) :
    setAllowance c s o sp amt lu ≠ .error .hostError := by
  intro h
  by_cases h1 : amt < 0
  · unfold setAllowance at h; rw [if_pos h1] at h; cases h
  · by_cases h2 : lu > c.maxLiveUntil s.now ∨ (amt > 0 ∧ lu < s.now)
    · unfold setAllowance at h; rw [if_neg h1, if_pos h2] at h; cases h
    · obtain ⟨s', hs'⟩ := (setAllowance_succeeds_iff c s o sp amt lu).2 ⟨by omega, by omega, fun _ => by omega⟩
      rw [hs'] at h; cases h

/-- **C02, approve bounds**: `approve(owner, spender, amount, live_until_ledger)` is rejected
if and only if the owner did not authorize it, or `amount < 0`, or `live_until_ledger`
exceeds `now + max_entry_ttl − 1`, or `amount > 0` and `live_until_ledger < now`. Nothing
else (no storage / TTL failure) can reject it. -/
theorem approve_bounds (c : Cfg) (s : State) (auth : List Nat) (o sp : Nat) (amt : Int) (lu : Nat) :
    (∃ e, apply c s auth (.approve o sp amt lu) = .error e) ↔
    (o ∉ auth ∨ amt < 0 ∨ lu > s.now + c.maxTtl - 1 ∨ (0 < amt ∧ lu < s.now)) := by
  show (∃ e, approve c s auth o sp amt lu = .error e) ↔ _
  -- the negation of `approve_exists_ok_iff`
  have hx : (∃ e, approve c s auth o sp amt lu = .error e) ↔ ¬ ∃ s', approve c s auth o sp amt lu = .ok s' := by
    cases approve c s auth o sp amt lu with
    | ok v => exact ⟨nofun, fun hn => absurd ⟨v, rfl⟩ hn⟩
    | error e => exact ⟨fun _ => nofun, fun _ => ⟨e, rfl⟩⟩
  rw [hx, approve_exists_ok_iff]
  unfold Cfg.maxLiveUntil
  constructor
  · intro hn
    by_cases ha : o ∈ auth
    · by_cases h1 : amt < 0
      · exact .inr (.inl h1)
      · by_cases h2 : lu > s.now + c.maxTtl - 1
        · exact .inr (.inr (.inl h2))
        · by_cases h3 : 0 < amt ∧ lu < s.now
          · exact .inr (.inr (.inr h3))
          · exact absurd ⟨ha, Int.not_lt.1 h1, Nat.not_lt.1 h2, fun hp => Nat.not_lt.1 fun hl => h3 ⟨hp, hl⟩⟩ hn
    · exact .inl ha
  · rintro (h | h | h | ⟨hp, hl⟩) ⟨ha, h0, hm, hn⟩
    · exact h ha
    · exact Int.not_le.2 h h0
    · exact Nat.not_le.2 h hm
    · exact Nat.not_le.2 hl (hn hp)

/-! ### history level: ghost counters

`ghost c now ops o sp` (Lemmas) is computed from the history alone: `approved` = amount of
the last ACCEPTED `approve(o, sp, …)`, `lu` = its `live_until_ledger`, `spent` = sum of the
amounts of the ACCEPTED `transfer_from` / `burn_from` from `o` by `sp` since then. -/

/-- **C02, exact characterisation over histories**: after ANY history the allowance of every
pair equals (last approved − spent since) while the ledger has not passed the last
approval's `live_until_ledger`, and 0 afterwards. -/
theorem allowance_eq_ghost (c : Cfg) (now : Nat) (ops : List (List Nat × Op)) (o sp : Nat) :
    allowance (run c (init now) ops) o sp =
      if (run c (init now) ops).now ≤ (ghost c now ops o sp).lu
      then (ghost c now ops o sp).approved - (ghost c now ops o sp).spent else 0 := by
  have hi := ginv_grun c (init now, ghost0) ops (ginv_init now)
  have h := allowance_of_grel (hi o sp)
  rw [grun_fst] at h
  exact h

/-- **C02, allowance never exceeds what was approved minus what was spent**, after any
history; and it is never negative -/
theorem allowance_le_approved_minus_spent (c : Cfg) (now : Nat) (ops : List (List Nat × Op))
    (o sp : Nat) :
    0 ≤ allowance (run c (init now) ops) o sp ∧
    allowance (run c (init now) ops) o sp ≤
      (ghost c now ops o sp).approved - (ghost c now ops o sp).spent := by
  have hi := ginv_grun c (init now, ghost0) ops (ginv_init now)
  have h0 : 0 ≤ (ghost c now ops o sp).rem := (hi o sp).1
  simp only [Ghost.rem] at h0
  rw [allowance_eq_ghost]
  split <;> omega

/-- the premise of `allowance_write_authorized` holds in every reachable state -/
theorem allowance_nonneg_reachable (c : Cfg) (now : Nat) (ops : List (List Nat × Op)) (o sp : Nat) :
    0 ≤ allowance (run c (init now) ops) o sp :=
  (allowance_le_approved_minus_spent c now ops o sp).1

/-- **C02, expiry over histories**: once the ledger has passed the `live_until_ledger` of the
last accepted approval of `(o, sp)`, the allowance is 0, whatever happened in between and
however long the storage entry lives -/
theorem allowance_zero_after_last_approval_expired (c : Cfg) (now : Nat)
    (ops : List (List Nat × Op)) (o sp : Nat)
    (hx : (ghost c now ops o sp).lu < (run c (init now) ops).now) :
    allowance (run c (init now) ops) o sp = 0 := by
  rw [allowance_eq_ghost, if_neg (by omega)]

/-- **C02, liveness over histories**: until that ledger (inclusive) the full remainder
(last approved − spent since) is available, however far the ledger moved -/
theorem allowance_live_through_last_approval (c : Cfg) (now : Nat)
    (ops : List (List Nat × Op)) (o sp : Nat)
    (hx : (run c (init now) ops).now ≤ (ghost c now ops o sp).lu) :
    allowance (run c (init now) ops) o sp =
      (ghost c now ops o sp).approved - (ghost c now ops o sp).spent := by
  rw [allowance_eq_ghost, if_pos hx]

/-! ### non-vacuity: concrete histories meet the hypotheses -/

/-- min_temp_entry_ttl = 16: approve 500 until 5000, replace by 400 until 120 (the storage
entry keeps living until 5000), spend 100 at the last live ledger, then one ledger later -/
def demoAuth : List (List Nat × Op) :=
  [([], .mint 0 1000), ([0], .approve 0 1 500 5000), ([0], .approve 0 1 400 120),
   ([], .advance 20), ([1], .transferFrom 1 0 2 100)]

-- debit through a live allowance at `now = live_until_ledger`: hypotheses of `debit_authorized`
example : (run ⟨16, 200000⟩ (init 100) demoAuth).bal 0 = 900 ∧
    allowance (run ⟨16, 200000⟩ (init 100) demoAuth) 0 1 = 300 ∧
    (run ⟨16, 200000⟩ (init 100) demoAuth).now = 120 := by decide

-- one ledger later: the storage entry is still alive (5000) but the allowance reads 0
example : ((run ⟨16, 200000⟩ (init 100) (demoAuth ++ [([], .advance 1)])).allow 0 1).map
      (fun e => (e.liveUntil, e.val.amount, e.val.liveUntilLedger)) = some (5000, 300, 120) ∧
    allowance (run ⟨16, 200000⟩ (init 100) (demoAuth ++ [([], .advance 1)])) 0 1 = 0 := by decide

-- the owner signing instead of the spender, or nobody, does not move tokens
example : (run ⟨16, 200000⟩ (init 100) (demoAuth ++ [([0], .transferFrom 1 0 2 100)])).bal 0 = 900 ∧
    (run ⟨16, 200000⟩ (init 100) (demoAuth ++ [([], .transfer 0 2 1)])).bal 0 = 900 ∧
    (run ⟨16, 200000⟩ (init 100) (demoAuth ++ [([1, 2], .burn 0 1)])).bal 0 = 900 := by decide

-- ghost counters of that history
example : ghost ⟨16, 200000⟩ 100 demoAuth 0 1 = ⟨400, 100, 120⟩ := by decide

-- approve bounds: lu = now accepted, lu = now - 1 rejected for a positive amount but
-- accepted for 0, lu = max accepted, max + 1 rejected
example : (run ⟨1, 200000⟩ (init 100) [([0], .approve 0 1 5 100)]).events.length = 1 ∧
    (run ⟨1, 200000⟩ (init 100) [([0], .approve 0 1 5 99)]).events.length = 0 ∧
    (run ⟨1, 200000⟩ (init 100) [([0], .approve 0 1 0 99)]).events.length = 1 ∧
    (run ⟨1, 200000⟩ (init 100) [([0], .approve 0 1 5 200099)]).events.length = 1 ∧
    (run ⟨1, 200000⟩ (init 100) [([0], .approve 0 1 5 200100)]).events.length = 0 ∧
    (run ⟨1, 200000⟩ (init 100) [([1], .approve 0 1 5 100)]).events.length = 0 := by decide

end OZ.Fungible
