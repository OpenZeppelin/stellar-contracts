import OZ.Gen.Math
import OZ.Props.C12
import OZ.Lemmas.Comp
/-
C12 — the theorems, re-checked against the SOURCE on every run.

`lean/OZ/Gen/Math.lean` is regenerated by `/verif/tools/rs2lean.py` from /repo's current
`packages/contract-utils/src/math/{i128_fixed_point,i256_fixed_point,wad}.rs` every time `./check C12`
runs.  This file proves, function by function, that the GENERATED definitions compute exactly what the
hand-written model `OZ.MulDiv` computes (`*_eq`), and restates the property theorems of
OZ/Props/C12.lean for the generated definitions (`gen_*`).  Three translated functions have no counterpart
in the model and no theorem here: `Wad::to_integer`, `raw`, `from_raw`.  A change of the Rust source therefore changes
`OZ.Gen.*` and these proofs are re-run against it: a semantic change of a translated function breaks an
`*_eq` obligation here (in addition to the model/implementation correspondence of the differential run).

The tie is the translator (trusted: tools/rs2lean.py and the primitive semantics in
OZ/Model/RustSem.lean).  `Wad::checked_pow` (a `while` loop with `mut` state) is translated with an
explicit fuel argument and proved equal to the model's `powLoop` for every u32 exponent.  Not translated:
the operator-trait impls of `Wad`.
-/
namespace OZ.Gen
open OZ.Rs OZ.MulDiv

/-- outcome of a generated `-> i128 / I256 / Wad` function as the model's three-valued result -/
def resI (c : Comp Int) : Res :=
  match c with
  | .ok v => .ok v
  | .panic => .panic

/-- outcome of a generated `-> Option<…>` function -/
def resO (c : Comp (Option Int)) : Res :=
  match c with
  | .ok (some v) => .ok v
  | .ok none => .none
  | .panic => .panic

def rnd : Rs.Rounding → MulDiv.Rounding
  | .Floor => .floor
  | .Ceil => .ceil
  | .Truncate => .trunc

/-! ### the primitives of the prelude are the primitives of the model -/
theorem prim_rem (a b : Int) : i128_checked_rem_euclid a b = checkedRemEuclid128 a b := rfl
theorem prim_div (a b : Int) : i128_checked_div a b = checkedDiv128 a b := rfl
theorem prim_mul (a b : Int) : i128_checked_mul a b = checkedMul128 a b := rfl
theorem prim_mul256 (a b : Int) : i256_mul a b = orTrap (mul256 a b) := rfl
theorem prim_div256 (a b : Int) : i256_div a b = orTrap (div256 a b) := rfl
theorem prim_rem256 (a b : Int) : i256_rem_euclid a b = orTrap (remEuclid256 a b) := rfl

/-! ### i256_fixed_point.rs -/

theorem i256_div_floor_eq (r z : Int) : resO (I256.div_floor r z) = divFloor256 r z := by
  unfold I256.div_floor divFloor256
  rw [prim_rem256, prim_div256]
  split
  · cases remEuclid256 r z with
    | none => rfl
    | some rem =>
      cases div256 r z with
      | none => rfl
      | some q =>
        simp only [orTrap, Comp.bind_ok, i256_sub]
        cases chk256 (q - if rem > 0 then 1 else 0) <;> rfl
  · cases div256 r z <;> rfl

theorem i256_div_ceil_eq (r z : Int) : resO (I256.div_ceil r z) = divCeil256 r z := by
  unfold I256.div_ceil divCeil256
  rw [prim_rem256, prim_div256]
  split
  · cases div256 r z <;> rfl
  · cases remEuclid256 r z with
    | none => rfl
    | some rem =>
      cases div256 r z with
      | none => rfl
      | some q =>
        simp only [orTrap, Comp.bind_ok, i256_add]
        cases chk256 (q + if rem > 0 then 1 else 0) <;> rfl

/-- a generated `Option`-returning helper followed by `.unwrap_or_else(panic)` -/
theorem unwrap_eq (c : Comp (Option Int)) :
    resI (Comp.bind c fun t => Comp.unwrap t fun v => Comp.ok v) = (resO c).orPanic := by
  cases c with
  | panic => rfl
  | ok o => cases o <;> rfl

theorem i256_mul_div_floor_eq (x y d : Int) : resI (I256.mul_div_floor x y d) = mulDiv256 .floor x y d := by
  unfold I256.mul_div_floor mulDiv256
  split
  · rfl
  · rw [prim_mul256]
    cases mul256 x y with
    | none => rfl
    | some r => simp only [orTrap, Comp.bind_ok]; rw [unwrap_eq, i256_div_floor_eq]

theorem i256_mul_div_ceil_eq (x y d : Int) : resI (I256.mul_div_ceil x y d) = mulDiv256 .ceil x y d := by
  unfold I256.mul_div_ceil mulDiv256
  split
  · rfl
  · rw [prim_mul256]
    cases mul256 x y with
    | none => rfl
    | some r => simp only [orTrap, Comp.bind_ok]; rw [unwrap_eq, i256_div_ceil_eq]

theorem i256_mul_div_eq (x y d : Int) : resI (I256.mul_div x y d) = mulDiv256 .trunc x y d := by
  unfold I256.mul_div mulDiv256
  split
  · rfl
  · rw [prim_mul256]
    cases mul256 x y with
    | none => rfl
    | some r =>
      simp only [orTrap, Comp.bind_ok, prim_div256]
      cases div256 r d <;> rfl

theorem i256_checked_mul_div_floor_eq (x y d : Int) :
    resO (I256.checked_mul_div_floor x y d) = checkedMulDiv256 .floor x y d := by
  unfold I256.checked_mul_div_floor checkedMulDiv256
  split
  · rfl
  · rw [prim_mul256]
    cases mul256 x y with
    | none => rfl
    | some r => simp only [orTrap, Comp.bind_ok]; rw [Comp.bind_ret, i256_div_floor_eq]

theorem i256_checked_mul_div_ceil_eq (x y d : Int) :
    resO (I256.checked_mul_div_ceil x y d) = checkedMulDiv256 .ceil x y d := by
  unfold I256.checked_mul_div_ceil checkedMulDiv256
  split
  · rfl
  · rw [prim_mul256]
    cases mul256 x y with
    | none => rfl
    | some r => simp only [orTrap, Comp.bind_ok]; rw [Comp.bind_ret, i256_div_ceil_eq]

theorem i256_checked_mul_div_eq (x y d : Int) :
    resO (I256.checked_mul_div x y d) = checkedMulDiv256 .trunc x y d := by
  unfold I256.checked_mul_div checkedMulDiv256
  split
  · rfl
  · rw [prim_mul256]
    cases mul256 x y with
    | none => rfl
    | some r =>
      simp only [orTrap, Comp.bind_ok, prim_div256]
      cases div256 r d <;> rfl

theorem mul_div_i256_eq (x y d : Int) (r : Rs.Rounding) :
    resI (I256.mul_div_i256 x y d r) = mulDiv256 (rnd r) x y d := by
  cases r <;> simp only [I256.mul_div_i256, rnd, Rounding.pick] <;> rw [Comp.bind_ret]
  · exact i256_mul_div_floor_eq x y d
  · exact i256_mul_div_ceil_eq x y d
  · exact i256_mul_div_eq x y d

theorem checked_mul_div_i256_eq (x y d : Int) (r : Rs.Rounding) :
    resO (I256.checked_mul_div_i256 x y d r) = checkedMulDiv256 (rnd r) x y d := by
  cases r <;> simp only [I256.checked_mul_div_i256, rnd, Rounding.pick] <;> rw [Comp.bind_ret]
  · exact i256_checked_mul_div_floor_eq x y d
  · exact i256_checked_mul_div_ceil_eq x y d
  · exact i256_checked_mul_div_eq x y d

/-! ### i128_fixed_point.rs -/

theorem i128_div_floor_eq (r z : Int) : resO (I128.div_floor r z) = divFloor128 r z := by
  unfold I128.div_floor divFloor128
  rw [prim_rem, prim_div]
  split
  · cases checkedRemEuclid128 r z with
    | none => rfl
    | some rem =>
      simp only [Comp.tryOpt_some, i128_div, prim_div]
      cases checkedDiv128 r z with
      | none => rfl
      | some q =>
        simp only [orTrap, Comp.bind_ok, i128_checked_sub]
        cases chk128 (q - if rem > 0 then 1 else 0) <;> rfl
  · cases checkedDiv128 r z <;> rfl

theorem i128_div_ceil_eq (r z : Int) : resO (I128.div_ceil r z) = divCeil128 r z := by
  unfold I128.div_ceil divCeil128
  rw [prim_rem, prim_div]
  split
  · cases checkedDiv128 r z <;> rfl
  · cases checkedRemEuclid128 r z with
    | none => rfl
    | some rem =>
      simp only [Comp.tryOpt_some, i128_div, prim_div]
      cases checkedDiv128 r z with
      | none => rfl
      | some q =>
        simp only [orTrap, Comp.bind_ok, i128_checked_add]
        cases chk128 (q + if rem > 0 then 1 else 0) <;> rfl

/-- the I256 fallback of the plain variants: `res.to_i128().unwrap_or_else(panic)` -/
theorem narrow_plain_eq (c : Comp Int) :
    resI (Comp.bind c fun t => Comp.unwrap (i256_to_i128 t) fun v => Comp.ok v) =
      narrowPlain (resI c) := by
  cases c with
  | panic => rfl
  | ok v =>
    simp only [Comp.bind_ok, resI, narrowPlain, i256_to_i128]
    cases chk128 v <;> rfl

/-- the I256 fallback of the checked variants: `res.map(|r| r.to_i128())?` -/
theorem narrow_checked_eq (c : Comp (Option Int)) :
    resO (Comp.bind c fun t => Comp.tryOpt (Option.map (fun r => i256_to_i128 r) t) fun v => Comp.ok v) =
      narrowChecked (resO c) := by
  cases c with
  | panic => rfl
  | ok o =>
    cases o with
    | none => rfl
    | some v =>
      simp only [Comp.bind_ok, Option.map_some, Comp.tryOpt_some, resO, narrowChecked, i256_to_i128]
      cases chk128 v <;> rfl

theorem i128_mul_div_floor_eq (x y d : Int) : resI (I128.mul_div_floor x y d) = mulDiv128 .floor x y d := by
  unfold I128.mul_div_floor mulDiv128
  split
  · rfl
  · rw [prim_mul]
    cases checkedMul128 x y with
    | some r => simp only [optCase_some]; rw [unwrap_eq, i128_div_floor_eq]
    | none => simp only [optCase_none]; rw [narrow_plain_eq, i256_mul_div_floor_eq]

theorem i128_mul_div_ceil_eq (x y d : Int) : resI (I128.mul_div_ceil x y d) = mulDiv128 .ceil x y d := by
  unfold I128.mul_div_ceil mulDiv128
  split
  · rfl
  · rw [prim_mul]
    cases checkedMul128 x y with
    | some r => simp only [optCase_some]; rw [unwrap_eq, i128_div_ceil_eq]
    | none => simp only [optCase_none]; rw [narrow_plain_eq, i256_mul_div_ceil_eq]

theorem i128_mul_div_eq (x y d : Int) : resI (I128.mul_div x y d) = mulDiv128 .trunc x y d := by
  unfold I128.mul_div mulDiv128
  split
  · rfl
  · rw [prim_mul]
    cases checkedMul128 x y with
    | some r =>
      simp only [optCase_some, i128_div, prim_div]
      cases checkedDiv128 r d <;> rfl
    | none => simp only [optCase_none]; rw [narrow_plain_eq, i256_mul_div_eq]

theorem i128_checked_mul_div_floor_eq (x y d : Int) :
    resO (I128.checked_mul_div_floor x y d) = checkedMulDiv128 .floor x y d := by
  unfold I128.checked_mul_div_floor checkedMulDiv128
  rw [prim_mul]
  cases checkedMul128 x y with
  | some r => simp only [optCase_some]; rw [Comp.bind_ret, i128_div_floor_eq]
  | none => simp only [optCase_none]; rw [narrow_checked_eq, i256_checked_mul_div_floor_eq]

theorem i128_checked_mul_div_ceil_eq (x y d : Int) :
    resO (I128.checked_mul_div_ceil x y d) = checkedMulDiv128 .ceil x y d := by
  unfold I128.checked_mul_div_ceil checkedMulDiv128
  rw [prim_mul]
  cases checkedMul128 x y with
  | some r => simp only [optCase_some]; rw [Comp.bind_ret, i128_div_ceil_eq]
  | none => simp only [optCase_none]; rw [narrow_checked_eq, i256_checked_mul_div_ceil_eq]

theorem i128_checked_mul_div_eq (x y d : Int) :
    resO (I128.checked_mul_div x y d) = checkedMulDiv128 .trunc x y d := by
  unfold I128.checked_mul_div checkedMulDiv128
  rw [prim_mul]
  cases checkedMul128 x y with
  | some r =>
    simp only [optCase_some, prim_div]
    cases checkedDiv128 r d <;> rfl
  | none => simp only [optCase_none]; rw [narrow_checked_eq, i256_checked_mul_div_eq]

theorem mul_div_i128_eq (x y d : Int) (r : Rs.Rounding) :
    resI (I128.mul_div_i128 x y d r) = mulDiv128 (rnd r) x y d := by
  cases r <;> simp only [I128.mul_div_i128, rnd, Rounding.pick] <;> rw [Comp.bind_ret]
  · exact i128_mul_div_floor_eq x y d
  · exact i128_mul_div_ceil_eq x y d
  · exact i128_mul_div_eq x y d

theorem checked_mul_div_i128_eq (x y d : Int) (r : Rs.Rounding) :
    resO (I128.checked_mul_div_i128 x y d r) = checkedMulDiv128 (rnd r) x y d := by
  cases r <;> simp only [I128.checked_mul_div_i128, rnd, Rounding.pick] <;> rw [Comp.bind_ret]
  · exact i128_checked_mul_div_floor_eq x y d
  · exact i128_checked_mul_div_ceil_eq x y d
  · exact i128_checked_mul_div_eq x y d

/-! ### wad.rs (loop-free arithmetic of `impl Wad`) -/

theorem wad_const : (1000000000000000000 : Int) = WAD := rfl

theorem wad_checked_mul_eq (a b : Int) : resO (Wad.checked_mul a b) = wadCheckedMul a b := by
  unfold Wad.checked_mul wadCheckedMul
  rw [Comp.bind_ret, wad_const, i128_checked_mul_div_eq]

theorem wad_checked_div_eq (a b : Int) : resO (Wad.checked_div a b) = wadCheckedDiv a b := by
  unfold Wad.checked_div wadCheckedDiv
  split
  · rfl
  · rw [Comp.bind_ret, wad_const, i128_checked_mul_div_eq]

theorem wad_from_ratio_eq (n d : Int) : resI (Wad.from_ratio n d) = wadFromRatio n d := by
  unfold Wad.from_ratio wadFromRatio
  split
  · rfl
  · rw [unwrap_eq, wad_const, i128_checked_mul_div_eq]

theorem wad_from_integer_eq (n : Int) : resI (Wad.from_integer n) = wadFromInteger n := by
  unfold Wad.from_integer wadFromInteger
  rw [prim_mul, wad_const]
  cases checkedMul128 n WAD <;> rfl

theorem wad_checked_mul_int_eq (a n : Int) : resO (Wad.checked_mul_int a n) = wadCheckedMulInt a n := by
  unfold Wad.checked_mul_int wadCheckedMulInt
  rw [prim_mul]
  cases checkedMul128 a n <;> rfl

theorem wad_checked_div_int_eq (a n : Int) : resO (Wad.checked_div_int a n) = wadCheckedDivInt a n := by
  unfold Wad.checked_div_int wadCheckedDivInt
  split
  · rfl
  · rename_i h
    simp only [i128_div, i128_checked_div, if_neg h]
    cases chk128 (Int.tdiv a n) <;> rfl

theorem wad_checked_add_eq (a b : Int) : resO (Wad.checked_add a b) = wadCheckedAdd a b := by
  unfold Wad.checked_add wadCheckedAdd i128_checked_add
  cases chk128 (a + b) <;> rfl

theorem wad_checked_sub_eq (a b : Int) : resO (Wad.checked_sub a b) = wadCheckedSub a b := by
  unfold Wad.checked_sub wadCheckedSub i128_checked_sub
  cases chk128 (a - b) <;> rfl

/-! ### wad.rs: `checked_pow` (the `while` loop, translated with an explicit fuel) and `pow` -/

/-- outcome of the generated loop: the loop-carried `(base, exponent, result)`, or `None` when the body
left the function through `?` -/
def resL (c : Comp (Option (Int × Nat × Int))) : Res :=
  match c with
  | .ok (some st) => .ok st.2.2
  | .ok none => .none
  | .panic => .panic

theorem resL_tryOpt (c : Comp (Option Int)) (k : Int → Comp (Option (Int × Nat × Int))) :
    resL (Comp.bind c fun t => Comp.tryOpt t k) =
      match resO c with
      | .ok v => resL (k v)
      | .none => .none
      | .panic => .panic := by
  cases c with
  | panic => rfl
  | ok o => cases o <;> rfl

/-- **the loop**: with one unit of fuel per bit of the exponent (plus one), the generated loop is the
model's `powLoop` -/
theorem wad_pow_loop_eq (fuel : Nat) :
    ∀ (n : Nat) (b r s : Int), n < 2 ^ fuel →
      resL (Wad.checked_pow.loop1 (fuel + 1) b n r s) = powLoop (fuel + 1) n b r := by
  induction fuel with
  | zero =>
    intro n b r s hn
    have : n = 0 := by omega
    subst this
    simp [Wad.checked_pow.loop1, powLoop, resL]
  | succ f ih =>
    intro n b r s hn
    have hhalf : n / 2 < 2 ^ f := by
      have : 2 ^ (f + 1) = 2 * 2 ^ f := by rw [Nat.pow_succ]; omega
      omega
    unfold Wad.checked_pow.loop1 powLoop
    by_cases hn0 : n = 0
    · subst hn0; simp [resL]
    · rw [if_pos (by omega), if_neg hn0]
      simp only [wad_const]
      by_cases hodd : n % 2 = 1
      · rw [if_pos hodd, if_pos hodd, resL_tryOpt, i128_checked_mul_div_eq]
        cases h1 : checkedMulDiv128 .trunc r b WAD with
        | panic => rfl
        | none => rfl
        | ok r' =>
          simp only
          by_cases hpos : n / 2 > 0
          · rw [if_pos hpos, if_pos hpos, resL_tryOpt, i128_checked_mul_div_eq]
            cases h2 : checkedMulDiv128 .trunc b b WAD with
            | panic => rfl
            | none => rfl
            | ok b' => simp only; exact ih (n / 2) b' r' s hhalf
          · rw [if_neg hpos, if_neg hpos]; exact ih (n / 2) b r' s hhalf
      · rw [if_neg hodd, if_neg hodd]
        simp only
        by_cases hpos : n / 2 > 0
        · rw [if_pos hpos, if_pos hpos, resL_tryOpt, i128_checked_mul_div_eq]
          cases h2 : checkedMulDiv128 .trunc b b WAD with
          | panic => rfl
          | none => rfl
          | ok b' => simp only; exact ih (n / 2) b' r s hhalf
        · rw [if_neg hpos, if_neg hpos]; exact ih (n / 2) b r s hhalf

/-- the model's `checked_pow` with `WAD` written out, as the generated code has it -/
theorem wadCheckedPow_unfold (a : Int) (n : Nat) :
    wadCheckedPow a n =
      if n = 0 then .ok 1000000000000000000
      else if n = 1 then .ok a
      else if a = 0 then .ok 0
      else if a = 1000000000000000000 then .ok a
      else powLoop 33 n a 1000000000000000000 := rfl

/-- **`Wad::checked_pow`**: for every base and every u32 exponent, with fuel 33 (one per bit, plus one) -/
theorem wad_checked_pow_eq (a : Int) (n : Nat) (hn : n < 2 ^ 32) :
    resO (Wad.checked_pow 33 a n) = wadCheckedPow a n := by
  rw [wadCheckedPow_unfold]
  unfold Wad.checked_pow
  by_cases h0 : n = 0
  · rw [if_pos h0, if_pos h0]; rfl
  rw [if_neg h0, if_neg h0]
  by_cases h1 : n = 1
  · rw [if_pos h1, if_pos h1]; rfl
  rw [if_neg h1, if_neg h1]
  by_cases ha0 : a = 0
  · rw [if_pos ha0, if_pos ha0]; rfl
  rw [if_neg ha0, if_neg ha0]
  by_cases haw : a = 1000000000000000000
  · rw [if_pos haw, if_pos haw]; rfl
  rw [if_neg haw, if_neg haw]
  have hl := wad_pow_loop_eq 32 n a 1000000000000000000 a hn
  cases hc : Wad.checked_pow.loop1 33 a n 1000000000000000000 a with
  | panic => rw [hc] at hl; rw [← hl]; rfl
  | ok o =>
    rw [hc] at hl
    cases o with
    | none => rw [← hl]; rfl
    | some st => rw [← hl]; rfl

/-- **`Wad::pow`** -/
theorem wad_pow_eq (a : Int) (n : Nat) (hn : n < 2 ^ 32) : resI (Wad.pow 33 a n) = wadPow a n := by
  unfold Wad.pow wadPow
  rw [unwrap_eq, wad_checked_pow_eq a n hn]

/-- `pow` fails exactly when `checked_pow` returns no value — for the generated code -/
theorem gen_wad_pow_iff_checked_pow (a : Int) (n : Nat) (ha : in128 a) (hn : n < 2 ^ 32) :
    (resI (Wad.pow 33 a n) = .panic ↔ resO (Wad.checked_pow 33 a n) = .none) ∧
    (∀ v, resI (Wad.pow 33 a n) = .ok v ↔ resO (Wad.checked_pow 33 a n) = .ok v) := by
  rw [wad_pow_eq a n hn, wad_checked_pow_eq a n hn]
  exact wad_pow_iff_checked_pow a n ha

/-! ## the property, stated for the generated code -/

/-- **C12 on the source as translated**: for all i128 `x y d`, every rounding, `mul_div_i128` returns the
exactly rounded quotient when `d ≠ 0` and it fits — even when `x·y` does not — and panics otherwise -/
theorem gen_mul_div_i128_spec (x y d : Int) (r : Rs.Rounding) (hx : in128 x) (hy : in128 y) (hd : in128 d) :
    resI (I128.mul_div_i128 x y d r) = spec128 .panic (rnd r) x y d := by
  rw [mul_div_i128_eq]; exact mul_div_i128_spec (rnd r) x y d hx hy hd

/-- … and `checked_mul_div_i128` returns `None` exactly in those cases and never panics -/
theorem gen_checked_mul_div_i128_spec (x y d : Int) (r : Rs.Rounding) (hx : in128 x) (hy : in128 y) (hd : in128 d) :
    resO (I128.checked_mul_div_i128 x y d r) = spec128 .none (rnd r) x y d := by
  rw [checked_mul_div_i128_eq]; exact checked_mul_div_i128_spec (rnd r) x y d hx hy hd

/-- the I256 variants are exact whenever the product fits in 256 bits -/
theorem gen_mul_div_i256_spec (x y d : Int) (r : Rs.Rounding) (hp : in256 (x * y)) :
    resI (I256.mul_div_i256 x y d r) =
      if d = 0 then .panic
      else if in256 (exactQ (rnd r) x y d) then .ok (exactQ (rnd r) x y d) else .panic := by
  rw [mul_div_i256_eq]; exact mul_div_i256_spec (rnd r) x y d hp

theorem gen_checked_mul_div_i256_spec (x y d : Int) (r : Rs.Rounding) (hp : in256 (x * y)) :
    resO (I256.checked_mul_div_i256 x y d r) =
      if d = 0 then .none
      else if in256 (exactQ (rnd r) x y d) then .ok (exactQ (rnd r) x y d) else .panic := by
  rw [checked_mul_div_i256_eq]; exact checked_mul_div_i256_spec (rnd r) x y d hp

/-- `Wad::checked_mul` / `checked_div` / `from_ratio`: the exact rational result truncated toward zero,
or no value exactly when it does not fit (or the divisor is zero) -/
theorem gen_wad_checked_mul_exact (a b : Int) (ha : in128 a) (hb : in128 b) :
    resO (Wad.checked_mul a b) = spec128 .none .trunc a b WAD := by
  rw [wad_checked_mul_eq]; exact wad_checked_mul_exact a b ha hb

theorem gen_wad_checked_div_exact (a b : Int) (ha : in128 a) (hb : in128 b) :
    resO (Wad.checked_div a b) = spec128 .none .trunc a WAD b := by
  rw [wad_checked_div_eq]; exact wad_checked_div_exact a b ha hb

theorem gen_wad_from_ratio_exact (n d : Int) (hn : in128 n) (hd : in128 d) :
    resI (Wad.from_ratio n d) = spec128 .panic .trunc n WAD d := by
  rw [wad_from_ratio_eq]; exact wad_from_ratio_exact n d hn hd

/-! ### the generated code runs -/

example : resI (I128.mul_div_i128 I128_MAX I128_MAX I128_MAX .Floor) = .ok I128_MAX := by decide
example : resO (I128.checked_mul_div_i128 (-7) 3 2 .Floor) = .ok (-11) := by decide
example : resO (I128.checked_mul_div_i128 I128_MIN 1 (-1) .Truncate) = .none := by decide
example : resI (I128.mul_div_i128 5 5 0 .Ceil) = .panic := by decide

end OZ.Gen
