import OZ.Gen.WeightedThreshold
import OZ.Props.C14
import OZ.Lemmas.Sim
/-
C14 — the weighted-threshold policy, re-checked on every run against what the SOURCE says now.

`lean/OZ/Gen/WeightedThreshold.lean` is regenerated by `/verif/tools/rs2lean.py --weighted-threshold` (state-passing
mode) from /repo's current `packages/accounts/src/policies/weighted_threshold.rs`: `get_threshold`,
`get_signer_weights`, `calculate_weight`, `calculate_total_weight`, `can_enforce`, `enforce`, `set_threshold`,
`set_signer_weight`, `install`, `uninstall`. The store is the one map
`AccountContext(smart_account, rule id) → { signer_weights : Map<Signer, u32>, threshold }`; a host map is the
association list sorted by key (`mapGet` / `mapSet` of the prelude — the very functions `lookup` / `mset` of the hand
model, `mapGet_eq` / `mapSet_eq`); `smart_account.require_auth()` is a test of the authorization predicate; the context
and the emitted event play no part.

REFINEMENT: every generated function computes exactly the hand model's (OZ/Model/Policies.lean, namespace
`Weighted`) under the abstraction map `Abs` (the two loops are the checked sums), every finite history of generated
calls follows the model's history (`run_refines`), and the property's sentences are restated on the generated code
(`gen_weighted_…`).
-/
namespace OZ.Gen.WeightedThreshold
open OZ.Rs OZ.Host OZ.Policies OZ.Policies.Weighted

theorem mapGet_eq (m : WMap) (k : Nat) : mapGet m k = lookup m k := by
  induction m with
  | nil => rfl
  | cons p r ih => obtain ⟨a, w⟩ := p; simp only [mapGet, lookup, ih]

theorem mapSet_eq (m : WMap) (k v : Nat) : mapSet m k v = mset m k v := by
  induction m with
  | nil => rfl
  | cons p r ih => obtain ⟨a, w⟩ := p; simp only [mapSet, mset, ih]

/-- the model's outcome as a value-or-panic computation (error kinds are not part of the generated code) -/
def toComp {α : Type} : Except Err α → Comp α
  | .ok a => .ok a
  | .error _ => .panic

@[simp] theorem toComp_ok {α : Type} (a : α) : toComp (.ok a : Except Err α) = .ok a := rfl
@[simp] theorem toComp_error {α : Type} (e : Err) : toComp (.error e : Except Err α) = .panic := rfl

theorem toComp_eq {α : Type} (x : Except Err α) : toComp x = Comp.ofExcept x := by cases x <;> rfl

theorem checked_add_eq (a b : Nat) :
    uN_checked_add 32 a b = if a + b ≤ U32_MAX then some (a + b) else none :=
  ite_congr (propext Nat.lt_succ_iff) (fun _ => rfl) fun _ => rfl

/-- the loop of `calculate_total_weight` is the model's checked sum -/
theorem total_loop_eq (envr : WeightedThreshold.Reads) (st : WeightedThreshold.Store) (m : List (Nat × Nat)) :
    ∀ (ws : List Nat) (acc : Nat),
      WeightedThreshold.calculate_total_weight.loop1 envr ws st acc m = toComp (csum acc ws) := by
  intro ws
  induction ws with
  | nil => intro acc; rfl
  | cons w ws ih =>
    intro acc
    unfold WeightedThreshold.calculate_total_weight.loop1 csum
    rw [checked_add_eq]
    by_cases h : acc + w ≤ U32_MAX
    · simp only [h, ↓reduceIte, Comp.unwrap_some]; exact ih _
    · simp only [h, ↓reduceIte, Comp.unwrap_none, toComp_error]

/-- the loop of `calculate_weight` is the model's checked sum over the configured weights of the signers -/
theorem weight_loop_eq (envr : WeightedThreshold.Reads) (st : WeightedThreshold.Store) (rule : ContextRule)
    (m : List (Nat × Nat)) (sg0 : List Nat) (acct : Nat) :
    ∀ (xs : List Nat) (acc : Nat),
      WeightedThreshold.calculate_weight.loop1 envr xs st acc rule m sg0 acct =
        toComp (csum acc (xs.filterMap (lookup m))) := by
  intro xs
  induction xs with
  | nil => intro acc; rfl
  | cons x xs ih =>
    intro acc
    unfold WeightedThreshold.calculate_weight.loop1
    rw [mapGet_eq]
    cases hl : lookup m x with
    | none => simp only [optCase_none, List.filterMap_cons, hl]; exact ih _
    | some w =>
      simp only [optCase_some, List.filterMap_cons, hl]
      unfold csum
      rw [checked_add_eq]
      by_cases h : acc + w ≤ U32_MAX
      · simp only [h, ↓reduceIte, Comp.unwrap_some]; exact ih _
      · simp only [h, ↓reduceIte, Comp.unwrap_none, toComp_error]

theorem calculate_total_weight_eq (envr : WeightedThreshold.Reads) (st : WeightedThreshold.Store) (m : List (Nat × Nat)) :
    WeightedThreshold.calculate_total_weight envr st m = toComp (totalWeight m) := by
  unfold WeightedThreshold.calculate_total_weight totalWeight
  rw [total_loop_eq]
  exact Comp.bind_ret _

/-! ### the abstraction map -/

def toP (g : WeightedThresholdAccountParams) : Params := ⟨g.signer_weights, g.threshold⟩
def ofP (p : Params) : WeightedThresholdAccountParams := ⟨p.weights, p.threshold⟩
def mrule (r : ContextRule) : Rule := ⟨r.id, r.signers⟩

@[simp] theorem toP_ofP (p : Params) : toP (ofP p) = p := rfl
@[simp] theorem ofP_toP (g : WeightedThresholdAccountParams) : ofP (toP g) = g := rfl

/-- the generated store represents the model state (events are not part of the generated state) -/
def Abs (st : WeightedThreshold.Store) (s : State) : Prop :=
  ∀ a r, (st.AccountContext a r).map toP = s.par a r

/-- the authorization predicate of the generated code is the set of addresses authorizing the invocation -/
def AuthIs (envr : WeightedThreshold.Reads) (auth : List Nat) : Prop := ∀ a, envr.authorized a = true ↔ a ∈ auth

theorem AuthIs.iff {envr : WeightedThreshold.Reads} {auth : List Nat} (h : AuthIs envr auth) (a : Nat) :
    envr.authorized a = true ↔ requireAuth auth a = .ok () := (h a).trans requireAuth_iff.symm

theorem params_eq {st : WeightedThreshold.Store} {s : State} (hA : Abs st s) (a r : Nat) :
    Comp.ofExcept (getParams s r a) = Comp.ofOption ((st.AccountContext a r).map toP) := by
  unfold getParams; rw [← hA a r]; cases st.AccountContext a r <;> rfl

theorem calculate_weight_eq (envr : WeightedThreshold.Reads) (st : WeightedThreshold.Store) (sg : List Nat)
    (rule : ContextRule) (acct : Nat) (g : WeightedThresholdAccountParams)
    (h : st.AccountContext acct rule.id = some g) :
    WeightedThreshold.calculate_weight envr st sg rule acct = toComp (calcWeight g.signer_weights sg) := by
  unfold WeightedThreshold.calculate_weight WeightedThreshold.get_signer_weights calcWeight
  rw [h]
  simp only [Option.map_some, Comp.unwrap_some, Comp.bind_ok]
  rw [weight_loop_eq]
  exact Comp.bind_ret _

/-- **generated = model** for `can_enforce` (a `MathOverflow` of the sum is a trap of both) -/
theorem can_enforce_ref (envr : WeightedThreshold.Reads) (st : WeightedThreshold.Store) (s : State) (hA : Abs st s)
    (ctx : Ctx) (sg : List Nat) (rule : ContextRule) (acct : Nat) :
    WeightedThreshold.can_enforce envr st sg rule acct = toComp (canEnforce s ctx sg (mrule rule) acct) := by
  unfold WeightedThreshold.can_enforce canEnforce
  simp only [mrule]
  rw [← hA acct rule.id]
  cases hg : st.AccountContext acct rule.id with
  | none => rfl
  | some g =>
    rw [optCase_some, calculate_weight_eq envr st sg rule acct g hg]
    show _ = toComp (meets (toP g) sg)
    unfold meets
    show _ = toComp (calcWeight g.signer_weights sg >>= _)
    cases calcWeight g.signer_weights sg with
    | error e => rfl
    | ok w => rfl

/-- **generated = model** for `enforce` -/
theorem enforce_ref (envr : WeightedThreshold.Reads) (st : WeightedThreshold.Store) (s : State) (hA : Abs st s)
    (auth : List Nat) (hauth : AuthIs envr auth) (ctx : Ctx) (sg : List Nat) (rule : ContextRule) (acct : Nat) :
    WeightedThreshold.enforce envr st sg rule acct =
      toComp ((Weighted.enforce s auth ctx sg (mrule rule) acct).map fun _ => ()) := by
  have h : Rs.Sim (fun _ _ => True) (WeightedThreshold.enforce envr st sg rule acct)
      (Weighted.enforce s auth ctx sg (mrule rule) acct) :=
    Sim.test (hauth.iff acct) fun _ => Sim.unwrap (params_eq hA acct rule.id) fun g hg => by
      rw [calculate_weight_eq envr st sg rule acct g hg, toComp_eq]
      exact Sim.read rfl fun w _ => Sim.require _ Iff.rfl fun _ => Sim.pure trivial
  cases hm : Weighted.enforce s auth ctx sg (mrule rule) acct with
  | ok s' => obtain ⟨u, hu, -⟩ := h.of_ok hm; exact hu
  | error e => exact h.of_error hm

/-! ### the writers -/

def Sim (c : Comp (Unit × WeightedThreshold.Store)) (m : Except Err State) : Prop :=
  match m with
  | .ok s' => ∃ st', c = Comp.ok ((), st') ∧ Abs st' s'
  | .error _ => c = Comp.panic

/-- one entry written or removed, on both sides: `Store.set_AccountContext` and `Store.del_AccountContext` are the point
update `upd2` at `some g` and at `none`, by `rfl` -/
theorem abs_upd {st : WeightedThreshold.Store} {s : State} (hA : Abs st s) (a r : Nat)
    (o : Option WeightedThresholdAccountParams) :
    Abs ⟨upd2 st.AccountContext a r o⟩ { s with par := upd2 s.par a r (o.map toP) } := by
  intro x y
  show (upd2 st.AccountContext a r o x y).map toP = upd2 s.par a r (o.map toP) x y
  unfold upd2
  split
  · rfl
  · exact hA x y

theorem sim_iff {c : Comp (Unit × WeightedThreshold.Store)} {m : Except Err State} :
    Sim c m ↔ Rs.Sim (onStore Abs) c m := by
  cases m with
  | ok s' => exact Rs.Sim.store_ok_iff.symm
  | error e => exact Iff.rfl

/-- **generated = model** for `uninstall` -/
theorem uninstall_ref (envr : WeightedThreshold.Reads) (st : WeightedThreshold.Store) (s : State) (hA : Abs st s)
    (auth : List Nat) (hauth : AuthIs envr auth) (rule : ContextRule) (acct : Nat) :
    Sim (WeightedThreshold.uninstall envr st rule acct) (Weighted.uninstall s auth (mrule rule) acct) :=
  sim_iff.2 <| Sim.test (hauth.iff acct) fun _ => Sim.pure (abs_upd hA acct rule.id none)

/-- **generated = model** for `install` (the generated code receives the map the model builds from the pairs) -/
theorem install_ref (envr : WeightedThreshold.Reads) (st : WeightedThreshold.Store) (s : State) (hA : Abs st s)
    (auth : List Nat) (hauth : AuthIs envr auth) (pairs : List (Nat × Nat)) (t : Nat) (rule : ContextRule) (acct : Nat) :
    Sim (WeightedThreshold.install envr st ⟨mkMap pairs, t⟩ rule acct)
      (Weighted.install s auth pairs t (mrule rule) acct) :=
  sim_iff.2 <| Sim.test (hauth.iff acct) fun _ =>
    Sim.refuse _ (by rw [← Option.isSome_map (f := toP), hA acct rule.id]; exact Iff.rfl) fun _ =>
      Sim.read ((calculate_total_weight_eq _ _ _).trans (toComp_eq _)) fun _ _ =>
        Sim.refuse _ Iff.rfl fun _ => Sim.pure (abs_upd hA acct rule.id (some ⟨mkMap pairs, t⟩))

/-- the common tail of `set_threshold` and `set_signer_weight` -/
theorem sim_checkAndStore {st : WeightedThreshold.Store} {s : State} (hA : Abs st s) (envr : WeightedThreshold.Reads)
    (q : WeightedThresholdAccountParams) (rule : ContextRule) (acct : Nat) :
    Rs.Sim (onStore Abs) (Comp.bind (WeightedThreshold.calculate_total_weight envr st q.signer_weights) fun t2 =>
        if q.threshold > t2 then Comp.panic
        else Comp.ok ((), WeightedThreshold.Store.set_AccountContext st acct rule.id q))
      (checkAndStore s (toP q) (mrule rule) acct) :=
  Sim.read ((calculate_total_weight_eq _ _ _).trans (toComp_eq _)) fun _ _ =>
    Sim.refuse _ Iff.rfl fun _ => Sim.pure (abs_upd hA acct rule.id (some q))

/-- **generated = model** for `set_threshold` -/
theorem set_threshold_ref (envr : WeightedThreshold.Reads) (st : WeightedThreshold.Store) (s : State) (hA : Abs st s)
    (auth : List Nat) (hauth : AuthIs envr auth) (t : Nat) (rule : ContextRule) (acct : Nat) :
    Sim (WeightedThreshold.set_threshold envr st t rule acct) (Weighted.setThreshold s auth t (mrule rule) acct) :=
  sim_iff.2 <| Sim.test (hauth.iff acct) fun _ =>
    Sim.refuse _ Iff.rfl fun _ =>
      Sim.unwrap (params_eq hA acct rule.id) fun g _ => sim_checkAndStore hA envr { g with threshold := t } rule acct

/-- **generated = model** for `set_signer_weight` -/
theorem set_signer_weight_ref (envr : WeightedThreshold.Reads) (st : WeightedThreshold.Store) (s : State) (hA : Abs st s)
    (auth : List Nat) (hauth : AuthIs envr auth) (signer w : Nat) (rule : ContextRule) (acct : Nat) :
    Sim (WeightedThreshold.set_signer_weight envr st signer w rule acct)
      (Weighted.setSignerWeight s auth signer w (mrule rule) acct) :=
  sim_iff.2 <| Sim.test (hauth.iff acct) fun _ =>
    Sim.unwrap (params_eq hA acct rule.id) fun g _ => by
      rw [mapSet_eq]
      exact sim_checkAndStore hA envr { g with signer_weights := mset g.signer_weights signer w } rule acct

/-! ### the machine: every history -/

def grule (r : Rule) : ContextRule := ⟨r.id, r.signers⟩
@[simp] theorem mrule_grule (r : Rule) : mrule (grule r) = r := rfl

def envOf (auth : List Nat) : WeightedThreshold.Reads := ⟨fun a => decide (a ∈ auth)⟩

theorem envOf_auth (auth : List Nat) : AuthIs (envOf auth) auth := fun a => by simp [envOf]

/-- one invocation of the generated policy, by the model's operation names -/
def genCall (st : WeightedThreshold.Store) (auth : List Nat) : Op → Comp (Unit × WeightedThreshold.Store)
  | .install a r ps t => WeightedThreshold.install (envOf auth) st ⟨mkMap ps, t⟩ (grule r) a
  | .setThreshold a r t => WeightedThreshold.set_threshold (envOf auth) st t (grule r) a
  | .setSignerWeight a r sg w => WeightedThreshold.set_signer_weight (envOf auth) st sg w (grule r) a
  | .uninstall a r => WeightedThreshold.uninstall (envOf auth) st (grule r) a
  | .enforce a r _ sg => Comp.bind (WeightedThreshold.enforce (envOf auth) st sg (grule r) a) fun _ => Comp.ok ((), st)

/-- a failed invocation is rolled back by the host -/
def genStep (st : WeightedThreshold.Store) (x : List Nat × Op) : WeightedThreshold.Store :=
  match genCall st x.1 x.2 with
  | .ok (_, st') => st'
  | .panic => st

def genRun (st : WeightedThreshold.Store) (ops : List (List Nat × Op)) : WeightedThreshold.Store := ops.foldl genStep st

theorem call_refines {st : WeightedThreshold.Store} {s : State} (hA : Abs st s) {c : Comp (Unit × WeightedThreshold.Store)}
    {m : Except Err State} : Sim c m →
      Abs (match c with | .ok (_, st') => st' | .panic => st) (match m with | .ok s' => s' | .error _ => s) := by
  cases m with
  | error e => intro h; rw [show c = Comp.panic from h]; exact hA
  | ok s' => rintro ⟨st', h1, h2⟩; rw [h1]; exact h2

/-- **one step**: generated call = model step, with the host's rollback -/
theorem step_refines (st : WeightedThreshold.Store) (s : State) (hA : Abs st s) (x : List Nat × Op) :
    Abs (genStep st x) (step s x) := by
  obtain ⟨auth, op⟩ := x
  unfold genStep step
  cases op with
  | install a r ps t => exact call_refines hA (install_ref _ st s hA auth (envOf_auth auth) ps t (grule r) a)
  | setThreshold a r t => exact call_refines hA (set_threshold_ref _ st s hA auth (envOf_auth auth) t (grule r) a)
  | setSignerWeight a r sg w => exact call_refines hA (set_signer_weight_ref _ st s hA auth (envOf_auth auth) sg w (grule r) a)
  | uninstall a r => exact call_refines hA (uninstall_ref _ st s hA auth (envOf_auth auth) (grule r) a)
  | enforce a r c sg =>
    simp only [genCall, apply]
    rw [enforce_ref _ st s hA auth (envOf_auth auth) c sg (grule r) a, mrule_grule]
    cases hm : Weighted.enforce s auth c sg r a with
    | error e => exact hA
    | ok s' =>
      simp only [Except.map, toComp_ok, Comp.bind_ok]
      -- an accepted `enforce` changes the event log only
      rw [enforce_events hm]
      exact hA

/-- **every history**: whatever finite sequence of install / set_threshold / set_signer_weight / uninstall / enforce
calls is made, by whatever authorizing sets, the generated store follows the model state -/
theorem run_refines (ops : List (List Nat × Op)) :
    ∀ (st : WeightedThreshold.Store) (s : State), Abs st s → Abs (genRun st ops) (run s ops) := by
  induction ops with
  | nil => intro st s h; exact h
  | cons x xs ih => intro st s h; exact ih _ _ (step_refines st s h x)

theorem store0_abs : Abs ⟨fun _ _ => none⟩ init := fun _ _ => rfl

/-! ### the property's sentences on the generated code -/

/-- **weights, exactly**: `can_enforce` answers `true` exactly when the policy is installed for this account and
rule and the checked sum of the configured weights of the authenticated signers (signers without a configured weight
count nothing) succeeds and reaches the threshold -/
theorem gen_weighted_can_enforce_iff (envr : WeightedThreshold.Reads) (st : WeightedThreshold.Store) (sg : List Nat)
    (rule : ContextRule) (acct : Nat) :
    WeightedThreshold.can_enforce envr st sg rule acct = .ok true ↔
      ∃ g w, st.AccountContext acct rule.id = some g ∧
        csum 0 (sg.filterMap (mapGet g.signer_weights)) = .ok w ∧ g.threshold ≤ w := by
  unfold WeightedThreshold.can_enforce
  cases hg : st.AccountContext acct rule.id with
  | none => simp
  | some g =>
    rw [optCase_some, calculate_weight_eq envr st sg rule acct g hg]
    have hf : (fun k => mapGet g.signer_weights k) = lookup g.signer_weights := funext (mapGet_eq _)
    unfold calcWeight
    constructor
    · intro h
      cases hc : csum 0 (List.filterMap (lookup g.signer_weights) sg) with
      | error e => rw [hc] at h; simp at h
      | ok w =>
        rw [hc] at h
        simp only [toComp_ok, Comp.bind_ok, Comp.ok.injEq, decide_eq_true_eq, ge_iff_le] at h
        exact ⟨g, w, rfl, by rw [show mapGet g.signer_weights = lookup g.signer_weights from hf]; exact hc, h⟩
    · rintro ⟨g', w, h1, h2, h3⟩
      cases h1
      rw [show mapGet g.signer_weights = lookup g.signer_weights from hf] at h2
      rw [h2]
      simp only [toComp_ok, Comp.bind_ok, ge_iff_le, h3, decide_true]

def passes {α : Type} (c : Comp α) : Bool :=
  match c with
  | .ok _ => true
  | .panic => false

/-- **`enforce` and `can_enforce` agree**, and `enforce` additionally needs the account's authorization -/
theorem gen_weighted_enforce_iff (envr : WeightedThreshold.Reads) (st : WeightedThreshold.Store) (sg : List Nat)
    (rule : ContextRule) (acct : Nat) :
    passes (WeightedThreshold.enforce envr st sg rule acct) = true ↔
      (envr.authorized acct = true ∧ WeightedThreshold.can_enforce envr st sg rule acct = .ok true) := by
  unfold WeightedThreshold.enforce WeightedThreshold.can_enforce
  by_cases ha : envr.authorized acct = true
  · rw [if_pos ha]
    cases hg : st.AccountContext acct rule.id with
    | none => simp [passes]
    | some g =>
      simp only [Comp.unwrap_some, optCase_some, ha, true_and]
      cases WeightedThreshold.calculate_weight envr st sg rule acct with
      | panic => simp [passes]
      | ok w =>
        simp only [Comp.bind_ok]
        by_cases hw : w ≥ g.threshold
        · simp [passes, hw]
        · simp [passes, hw]
  · rw [if_neg ha]; simp [passes, ha]

/-- **a zero or unreachable threshold is refused at installation**, and so is a second installation and a call the
account did not authorize -/
theorem gen_weighted_install_refuses (envr : WeightedThreshold.Reads) (st : WeightedThreshold.Store)
    (p : WeightedThresholdAccountParams) (rule : ContextRule) (acct : Nat)
    (h : passes (WeightedThreshold.install envr st p rule acct) = true) :
    envr.authorized acct = true ∧ st.AccountContext acct rule.id = none ∧
      ∃ tot, totalWeight p.signer_weights = .ok tot ∧ 1 ≤ p.threshold ∧ p.threshold ≤ tot := by
  unfold WeightedThreshold.install at h
  by_cases ha : envr.authorized acct = true
  · rw [if_pos ha] at h
    cases hg : st.AccountContext acct rule.id with
    | some g => rw [hg] at h; simp [passes] at h
    | none =>
      rw [hg] at h
      simp only [Option.isSome_none, Bool.false_eq_true, ↓reduceIte] at h
      rw [calculate_total_weight_eq] at h
      cases ht : totalWeight p.signer_weights with
      | error e => rw [ht] at h; simp [passes] at h
      | ok tot =>
        rw [ht] at h
        simp only [toComp_ok, Comp.bind_ok] at h
        by_cases hc : p.threshold = 0 ∨ p.threshold > tot
        · rw [if_pos hc] at h; simp [passes] at h
        · exact ⟨ha, rfl, tot, rfl, by omega, by omega⟩
  · rw [if_neg ha] at h; simp [passes] at h

/-- **configuration stays valid**: after every history of generated calls from a fresh policy contract, every
installed entry has a threshold ≥ 1 that the total configured weight reaches -/
theorem gen_weighted_config_valid (ops : List (List Nat × Op)) (a r : Nat) (g : WeightedThresholdAccountParams)
    (h : (genRun ⟨fun _ _ => none⟩ ops).AccountContext a r = some g) :
    1 ≤ g.threshold ∧ g.threshold ≤ total g.signer_weights ∧ total g.signer_weights ≤ U32_MAX := by
  have hA := run_refines ops _ _ store0_abs a r
  rw [h] at hA
  exact weighted_threshold_config_valid ops a r (toP g) hA.symm

/-- **weights, exactly, in plain arithmetic**: after every history of generated calls from a fresh policy contract,
for a duplicate-free list of authenticated signers `can_enforce` ANSWERS (never traps), and answers `true` exactly
when the plain sum of their configured weights reaches the threshold -/
theorem gen_weighted_can_enforce_plain (ops : List (List Nat × Op)) (sg : List Nat) (hnd : sg.Nodup)
    (rule : ContextRule) (acct : Nat) (g : WeightedThresholdAccountParams)
    (h : (genRun ⟨fun _ _ => none⟩ ops).AccountContext acct rule.id = some g) :
    WeightedThreshold.can_enforce (envOf []) (genRun ⟨fun _ _ => none⟩ ops) sg rule acct =
      .ok (decide (g.threshold ≤ wsum g.signer_weights sg)) := by
  have hA := run_refines ops _ _ store0_abs
  rw [can_enforce_ref _ _ _ hA .otherCall sg rule acct]
  have hp : (run init ops).par acct (mrule rule).id = some (toP g) := by
    have := hA acct rule.id; rw [h] at this; exact this.symm
  have hi := weighted_threshold_config_valid ops acct (mrule rule).id (toP g) hp
  have hle := wsum_le_total (toP g).weights sg hnd
  unfold canEnforce
  rw [hp]
  show toComp (meets (toP g) sg) = _
  unfold meets
  rw [calcWeight_eq, if_pos (by omega)]
  rfl

/-- non-vacuity: weights 3 and 2 under threshold 4 — both signers pass, one does not, a signer without a configured
weight counts nothing, and `enforce` additionally needs the account's authorization -/
example :
    let st := genRun ⟨fun _ _ => none⟩ [([7], Op.install 7 ⟨1, [10, 11]⟩ [(10, 3), (11, 2)] 4)]
    WeightedThreshold.can_enforce (envOf []) st [10, 11] ⟨1, [10, 11]⟩ 7 = .ok true ∧
    WeightedThreshold.can_enforce (envOf []) st [10] ⟨1, [10, 11]⟩ 7 = .ok false ∧
    WeightedThreshold.can_enforce (envOf []) st [12, 11] ⟨1, [10, 11]⟩ 7 = .ok false ∧
    passes (WeightedThreshold.enforce (envOf []) st [10, 11] ⟨1, [10, 11]⟩ 7) = false ∧
    passes (WeightedThreshold.enforce (envOf [7]) st [10, 11] ⟨1, [10, 11]⟩ 7) = true := by
  decide

end OZ.Gen.WeightedThreshold
