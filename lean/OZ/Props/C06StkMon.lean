import OZ.Props.C06Stk
import OZ.Lemmas.AccessStkMon
/-
C06, machine `stk` (stacked role guards) — soundness of the MONITOR that decides the property on
implementation traces.

For the sequences labelled `kind=stk` the driver feeds `OZ.Access.Stk.Mon.checkCore` (the monitor on parsed
values, OZ/Model/AccessStkMon.lean) with the implementation's observations of the harness contract
`stk::Stacked2`; `./check C06` reports a violation there exactly when it returns a message. Here it is proved
that on the observations of the MODEL the monitor never returns a message, for every label (any admin) and
every finite history (`monitor_accepts_every_model_trace`). Together with OZ/Props/C06Mon.lean (the machines
lib / nft / own) every machine the driver runs is covered. Consequences:

  * an implementation whose observations agree with the model's can never raise a monitor alarm — a
    monitor failure is never a false alarm of the monitor itself;
  * every conclusion the monitor evaluates (a stacked entry point is accepted only if the account EACH of
    its two guards names holds one of that guard's roles — `site=stacked.bypass.role.<fn>`; only with the
    authorization every `only_*` guard demands — `site=stacked.bypass.auth.<fn>`; it is NOT refused when all
    of this holds — `site=stacked.refused.<fn>`; grant / revoke are accepted only with the admin's
    authorization and not refused when due — `site=stacked.admin.*`, `site=stacked.refused.grant|revoke`;
    counter, role table and return value follow the accepted calls and nothing else — `site=stacked.effect`;
    a rejected call changes no getter — `site=stacked.rollback`) is a THEOREM about the model, in the
    monitor's own executable wording.

The model observation used here IS the data the driver's model side prints: `OZ.Drv.C06.StkIO.stepLine` runs
`stepM` on the parsed op and `StkIO.obsLine` prints the tag and the fields of `modelObs` of the resulting
state (`ret`, `counter`, the role table of roles 0..2 x accounts 0..4); the monitor is called with the same
`(auth, op)` that `StkIO.parseOp` builds for the model side. `monInit p` / `initM p` are what the driver's
`minitAny` / `initAny` build from the label parameter `p` (`StkIO.paramsOf label`).
-/
namespace OZ.Access.Stk.Mon
open OZ.Access OZ.Access.Stk

structure Agree (m : Mon) (x : St) : Prop where
  prev : m.prev = none ∨ m.prev = some (stableOf x)
  holds : m.holds = x.holds
  counter : m.counter = x.counter
  admin : x.admin = some m.admin

/-- the monitor's reading of "every guard holds" is exactly acceptance by the model -/
theorem guardsHold_iff {m : Mon} {x : St} (ha : Agree m x) (auth : List Nat) (f : Fn) (a b : Nat) :
    guardsHold m auth f a b = true ↔ ∃ s', x.call auth f a b = .ok s' := by
  unfold St.call
  rw [stacked_accepted_iff_all, ← guardsOk_iff ha.holds]
  unfold guardsHold
  rw [ha.counter]
  simp [and_assoc]

/-- the monitor's reading of "the admin authorized" -/
theorem adminAuth_iff {m : Mon} {x : St} (ha : Agree m x) (auth : List Nat) :
    auth.contains m.admin = true ↔ ∃ ad, x.admin = some ad ∧ ad ∈ auth := by
  rw [ha.admin, List.contains_iff_mem]
  exact ⟨fun h => ⟨_, rfl, h⟩, fun ⟨ad, h1, h2⟩ => by injection h1 with h1; rw [h1]; exact h2⟩

/-- the monitor's reading of "this grant / revoke is due" is exactly acceptance by the model -/
theorem adminOpDue_iff {m : Mon} {x : St} (ha : Agree m x) (auth : List Nat) (op : Op)
    (hop : isCall op = false) : adminOpDue m auth op = true ↔ ∃ s', x.apply auth op = .ok s' := by
  cases op with
  | call f a b => cases hop
  | grant acct role =>
    simp only [adminOpDue, Bool.and_eq_true, decide_eq_true_eq, adminAuth_iff ha]
    constructor
    · rintro ⟨h1, h2⟩; exact ⟨_, grant_iff.2 ⟨h1, h2, rfl⟩⟩
    · rintro ⟨s', h⟩; obtain ⟨h1, h2, -⟩ := grant_iff.1 h; exact ⟨h1, h2⟩
  | revoke acct role =>
    simp only [adminOpDue, Bool.and_eq_true, decide_eq_true_eq, adminAuth_iff ha, ha.holds]
    constructor
    · rintro ⟨⟨h1, h2⟩, h3⟩; exact ⟨_, revoke_iff.2 ⟨h1, h2, h3, rfl⟩⟩
    · rintro ⟨s', h⟩; obtain ⟨h1, h2, h3, -⟩ := revoke_iff.1 h; exact ⟨⟨h1, h2⟩, h3⟩

theorem due_iff {m : Mon} {x : St} (ha : Agree m x) (auth : List Nat) :
    ∀ op, due m auth op = true ↔ ∃ s', x.apply auth op = .ok s'
  | .call f a b => guardsHold_iff ha auth f a b
  | .grant a r => adminOpDue_iff ha auth (.grant a r) rfl
  | .revoke a r => adminOpDue_iff ha auth (.revoke a r) rfl

/-- **a rejected call**: the monitor is silent on the (unchanged) getters and keeps describing the state -/
theorem rejected_sound {m : Mon} {x : St} (ha : Agree m x) (auth : List Nat) (op : Op) {e : Err}
    (hr : x.apply auth op = .error e) :
    (checkCore m auth op (modelObs x false op)).2 = none ∧
    Agree (checkCore m auth op (modelObs x false op)).1 x := by
  -- the monitor would refuse the call too, and nothing moved
  have hd : due m auth op = false := Bool.eq_false_iff.2 fun hd => by
    obtain ⟨s', hs'⟩ := (due_iff ha auth op).1 hd
    rw [hr] at hs'; cases hs'
  exact ⟨verdict_none (vRollback_none fun _ => ha.prev) (vCall_none hd.symm)
      (vEffect_none ha.counter.symm (congrArg tableOf ha.holds.symm) nofun),
    ⟨Or.inr rfl, ha.holds, ha.counter, ha.admin⟩⟩

/-- **an accepted call**: the monitor is silent on the new getters and its ghost role table / ghost
counter describe the new state -/
theorem accepted_sound {m : Mon} {x : St} (ha : Agree m x) (auth : List Nat) (op : Op) {s' : St}
    (hs : x.apply auth op = .ok s') :
    (checkCore m auth op (modelObs s' true op)).2 = none ∧
    Agree (checkCore m auth op (modelObs s' true op)).1 s' := by
  -- the monitor would accept the call too, and counter and table move as its ghost does
  obtain ⟨e1, e2⟩ := apply_effect hs
  have hcnt : s'.counter = counterStep m op true := by rw [e1, ← ha.counter]; rfl
  have hhol : s'.holds = holdsStep m op true := by rw [e2, ← ha.holds]; rfl
  refine ⟨verdict_none (o := modelObs s' true op) (vRollback_none nofun)
      (vCall_none ((due_iff ha auth op).2 ⟨s', hs⟩).symm) (vEffect_none hcnt (congrArg tableOf hhol) fun _ hc => ?_),
    ⟨Or.inr rfl, hhol.symm, hcnt.symm, (apply_keeps hs).trans ha.admin⟩⟩
  cases op with
  | call f a b => rfl
  | _ => cases hc

/-- **one call**: fed with the model's own observation of any call (accepted or rejected), the monitor
reports nothing and its state keeps describing the model's -/
theorem monitor_sound_step {m : Mon} {x : St} (ha : Agree m x) (auth : List Nat) (op : Op) :
    (checkCore m auth op (modelObs (stepM x auth op).1 (stepM x auth op).2 op)).2 = none ∧
    Agree (checkCore m auth op (modelObs (stepM x auth op).1 (stepM x auth op).2 op)).1
      (stepM x auth op).1 := by
  cases hap : x.apply auth op with
  | error e => rw [stepM_none hap]; exact rejected_sound ha auth op hap
  | ok s' => rw [stepM_some hap]; exact accepted_sound ha auth op hap

abbrev Item := List Nat × Op

/-- the monitor run over a whole history of model observations: first message, if any -/
def monitorRun : Mon → St → List Item → Option String
  | _, _, [] => none
  | m, x, a :: as =>
    match (checkCore m a.1 a.2 (modelObs (stepM x a.1 a.2).1 (stepM x a.1 a.2).2 a.2)).2 with
    | some msg => some msg
    | none => monitorRun
        (checkCore m a.1 a.2 (modelObs (stepM x a.1 a.2).1 (stepM x a.1 a.2).2 a.2)).1
        (stepM x a.1 a.2).1 as

/-- the states the driver builds from a `kind=stk` label agree -/
theorem init_agree (p : Params) : Agree (monInit p) (initM p) :=
  ⟨Or.inl rfl, rfl, rfl, rfl⟩

/-- **monitor soundness**, machine `stk`: for every sequence label (any admin) and every finite history —
any of the sixteen stacked entry points with any arguments, grants and revokes of any pair, any authorizing
subsets — the monitor reports nothing on the model's observations -/
theorem monitor_accepts_every_model_trace (p : Params) (ops : List Item) :
    monitorRun (monInit p) (initM p) ops = none := by
  suffices ∀ m x, Agree m x → monitorRun m x ops = none from this _ _ (init_agree p)
  induction ops with
  | nil => intro m x _; rfl
  | cons a as ih =>
    intro m x ha
    obtain ⟨h1, h2⟩ := monitor_sound_step ha a.1 a.2
    unfold monitorRun
    rw [h1]
    exact ih _ _ h2

/-! ### non-vacuity: the monitor is not trivially silent -/

/-- ghost table of the examples: 1 holds "minter", 2 holds "burner" -/
def demoMon : Mon :=
  { admin := 0, holds := fun a r => (a == 1 && r == 0) || (a == 2 && r == 1), counter := 4, prev := none }

/-- an observation in which the guard written below is skipped (what a role-guard macro that dropped the attributes
still attached to the function would produce): `hr_or`
(`#[has_role(a, "minter")]` above `#[only_role(b, "burner")]`) accepted for a = 1 (a minter) and b = 4 (NO
burner) — `site=stacked.bypass.role.hr_or` -/
example :
    (checkCore demoMon [0, 1, 2, 3, 4] (.call ⟨.has, .only⟩ 1 4)
      ⟨true, some 5, { counter := 5, roles := tableOf demoMon.holds }⟩).2.isSome = true := by decide

/-- the same entry point accepted for a = 1, b = 2 (the burner) with NOBODY authorizing —
`site=stacked.bypass.auth.hr_or` -/
example :
    (checkCore demoMon [] (.call ⟨.has, .only⟩ 1 2)
      ⟨true, some 5, { counter := 5, roles := tableOf demoMon.holds }⟩).2.isSome = true := by decide

/-- `or_hr` refused although 1 is a minter and authorized and 2 is a burner — `site=stacked.refused.or_hr` -/
example :
    (checkCore demoMon [1] (.call ⟨.only, .has⟩ 1 2)
      ⟨false, none, { counter := 4, roles := tableOf demoMon.holds }⟩).2.isSome = true := by decide

/-- a grant accepted with only a stranger's authorization — `site=stacked.admin.grant` -/
example :
    (checkCore demoMon [3] (.grant 3 0)
      ⟨true, none, { counter := 4, roles := tableOf (setHolds demoMon.holds 3 0 true) }⟩).2.isSome = true := by decide

/-- an accepted call after which the counter did not move — `site=stacked.effect` -/
example :
    (checkCore demoMon [2] (.call ⟨.has, .only⟩ 1 2)
      ⟨true, some 4, { counter := 4, roles := tableOf demoMon.holds }⟩).2.isSome = true := by decide

end OZ.Access.Stk.Mon
