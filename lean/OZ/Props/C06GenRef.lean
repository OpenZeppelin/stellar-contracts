import OZ.Gen.AccessF
import OZ.Lemmas.AccessGen
import OZ.Lemmas.AccessOps
import OZ.Lemmas.RegGen
import OZ.Lemmas.Sim
/-
C06 — REFINEMENT of the access-control storage module, on the code generated from the SOURCE on every run.

`lean/OZ/Gen/AccessF.lean` is regenerated by `/verif/tools/rs2lean.py --access-full` (state-passing mode) from
/repo's `packages/access/src/access_control/storage.rs`: the getters, `grant_role(_no_auth)`,
`revoke_role(_no_auth)`, `renounce_role`, `set_role_admin(_no_auth)`, `remove_role_admin_no_auth`,
`remove_role_accounts_count_no_auth`, the guards `ensure_if_admin_or_admin_role` / `ensure_role` /
`enforce_admin_auth`, and the enumeration bookkeeping `add_to_role_enumeration` / `remove_from_role_enumeration`
(swap-with-last removal, `ExistingRoles` maintenance with its `position` / `remove(pos as u32)`), over a store
with one cell per storage key variant.

Every generated state-changing function computes exactly its counterpart of the hand model
(OZ/Model/Access.lean) under the abstraction map `Abs` — accepted together with the same successor state, refused
together — and every finite history of the ten role operations of `genCall` follows the model's history; likewise the
getters, `ensure_role` and the enumeration functions. No theorem speaks of the stand-alone `enforce_admin_auth`
(`set_role_admin` is printed with the test inlined). Therefore the theorems of OZ/Props/C06.lean, proved about the
hand model, hold of the generated code: the `gen_*` theorems below restate three of them on the generated store.
The admin hand-over (`transfer_admin_role` / `accept_admin_transfer` / `renounce_admin`) is tied by `--access-admin`
in OZ/Props/C07GenRefAdmin.lean; events are compared by the correspondence run.
-/
namespace OZ.Gen.AccessF
open OZ.Rs OZ.Host OZ.Access

/-- the generated store seen as a model state (the admin is the holder of the admin hand-over machine) -/
structure Abs (st : AccessF.Store) (s : State) : Prop where
  hasRole : st.HasRole = s.hasRole
  count : st.RoleAccountsCount = s.count
  accounts : ∀ r i, st.RoleAccounts ⟨r, i⟩ = s.accounts r i
  roleAdmin : st.RoleAdmin = s.roleAdmin
  existing : st.ExistingRoles.getD [] = s.existing
  admin : st.Admin = s.adm.holder

def Sim (c : Comp (Unit × AccessF.Store)) (m : Except Err State) : Prop :=
  match m with
  | .ok s' => ∃ st', c = Comp.ok ((), st') ∧ Abs st' s'
  | .error _ => c = Comp.panic

def SimU (c : Comp Unit) (m : Except Err Unit) : Prop :=
  match m with
  | .ok _ => c = Comp.ok ()
  | .error _ => c = Comp.panic

def envOf (auth : List Nat) : AccessF.Reads := ⟨fun a => auth.contains a⟩

theorem sim_iff {c : Comp (Unit × AccessF.Store)} {m : Except Err State} : Sim c m ↔ Rs.Sim (onStore Abs) c m := by
  cases m with
  | ok s' => exact Rs.Sim.store_ok_iff.symm
  | error e => exact Iff.rfl

theorem simU_iff {c : Comp Unit} {m : Except Err Unit} : SimU c m ↔ c = Comp.ofExcept m := by
  cases m <;> exact Iff.rfl

theorem authorized_iff (auth : List Nat) (a : Nat) : (envOf auth).authorized a = true ↔ requireAuth auth a = .ok () :=
  require_iff.symm

theorem authorized_eq (auth : List Nat) (a : Nat) : ((envOf auth).authorized a = true) ↔ auth.contains a = true := Iff.rfl

theorem ensure_ref (auth : List Nat) (st : AccessF.Store) (s : State) (hA : Abs st s) (role caller : Nat) :
    SimU (AccessF.ensure_if_admin_or_admin_role (envOf auth) st role caller) (ensureIfAdminOrAdminRole s role caller) := by
  have hg := OZ.Access.Gen.ensureC_iff st.Admin (st.RoleAdmin role) (st.HasRole caller) caller
  change AccessF.ensure_if_admin_or_admin_role (envOf auth) st role caller = Comp.ok () ↔ _ at hg
  rw [hA.admin, hA.roleAdmin, hA.hasRole] at hg
  have hm : ensureIfAdminOrAdminRole s role caller = .ok () ↔ _ :=
    require_iff.trans (mayAdminister_iff s role caller)
  unfold SimU
  cases hx : ensureIfAdminOrAdminRole s role caller with
  | ok u => exact hg.mpr (hm.mp hx)
  | error e =>
    rcases unit_cases (AccessF.ensure_if_admin_or_admin_role (envOf auth) st role caller) with h | h
    · rw [hm.mpr (hg.mp h)] at hx; cases hx
    · exact h

theorem ensure_role_ref (auth : List Nat) (st : AccessF.Store) (s : State) (hA : Abs st s) (role caller : Nat) :
    SimU (AccessF.ensure_role (envOf auth) st role caller) (ensureRole s role caller) := by
  unfold AccessF.ensure_role AccessF.has_role ensureRole hasRoleQ require SimU
  rw [hA.hasRole]
  cases s.hasRole caller role <;> simp [optCase]

theorem existing_read {st : AccessF.Store} {s : State} (h : Abs st s) (auth : List Nat) :
    AccessF.get_existing_roles (envOf auth) st = Comp.ok s.existing := by
  unfold AccessF.get_existing_roles; rw [← h.existing]; cases st.ExistingRoles <;> rfl

theorem getters_ref (auth : List Nat) (st : AccessF.Store) (s : State) (hA : Abs st s) (a r i : Nat) :
    AccessF.has_role (envOf auth) st a r = Comp.ok (hasRoleQ s a r) ∧
    AccessF.get_admin (envOf auth) st = Comp.ok (getAdmin s) ∧
    AccessF.get_role_member_count (envOf auth) st r = Comp.ok (cnt s r) ∧
    AccessF.get_role_admin (envOf auth) st r = Comp.ok (getRoleAdmin s r) ∧
    AccessF.get_existing_roles (envOf auth) st = Comp.ok (getExistingRoles s) ∧
    (match getRoleMember s r i with
     | .ok m => AccessF.get_role_member (envOf auth) st r i = Comp.ok m
     | .error _ => AccessF.get_role_member (envOf auth) st r i = Comp.panic) := by
  refine ⟨by simp [AccessF.has_role, hasRoleQ, hA.hasRole], by simp [AccessF.get_admin, getAdmin, hA.admin], ?_,
    by simp [AccessF.get_role_admin, getRoleAdmin, hA.roleAdmin], ?_, ?_⟩
  · unfold AccessF.get_role_member_count cnt; rw [hA.count]; cases s.count r <;> rfl
  · exact existing_read hA auth
  · unfold getRoleMember AccessF.get_role_member; rw [hA.accounts]; cases s.accounts r i <;> rfl

/-! ### the abstraction map follows every store update -/

theorem Abs.setHasRole {st : AccessF.Store} {s : State} (h : Abs st s) (a r v : Nat) :
    Abs (AccessF.Store.set_HasRole st a r v) { s with hasRole := upd2 s.hasRole a r (some v) } :=
  ⟨congrArg (fun f => upd2 f a r (some v)) h.hasRole, h.count, h.accounts, h.roleAdmin, h.existing, h.admin⟩

theorem Abs.delHasRole {st : AccessF.Store} {s : State} (h : Abs st s) (a r : Nat) :
    Abs (AccessF.Store.del_HasRole st a r) { s with hasRole := upd2 s.hasRole a r none } :=
  ⟨congrArg (fun f => upd2 f a r none) h.hasRole, h.count, h.accounts, h.roleAdmin, h.existing, h.admin⟩

theorem Abs.setAccounts {st : AccessF.Store} {s : State} (h : Abs st s) (r i v : Nat) :
    Abs (AccessF.Store.set_RoleAccounts st ⟨r, i⟩ v) { s with accounts := upd2 s.accounts r i (some v) } :=
  ⟨h.hasRole, h.count, fun r' i' => by
    simp only [AccessF.Store.set_RoleAccounts, upd2, AccessF.RoleAccountKey.mk.injEq]
    rw [h.accounts], h.roleAdmin, h.existing, h.admin⟩

theorem Abs.delAccounts {st : AccessF.Store} {s : State} (h : Abs st s) (r i : Nat) :
    Abs (AccessF.Store.del_RoleAccounts st ⟨r, i⟩) { s with accounts := upd2 s.accounts r i none } :=
  ⟨h.hasRole, h.count, fun r' i' => by
    simp only [AccessF.Store.del_RoleAccounts, upd2, AccessF.RoleAccountKey.mk.injEq]
    rw [h.accounts], h.roleAdmin, h.existing, h.admin⟩

theorem Abs.setCount {st : AccessF.Store} {s : State} (h : Abs st s) (r v : Nat) :
    Abs (AccessF.Store.set_RoleAccountsCount st r v) { s with count := upd s.count r (some v) } :=
  ⟨h.hasRole, congrArg (fun f => upd f r (some v)) h.count, h.accounts, h.roleAdmin, h.existing, h.admin⟩

theorem Abs.delCount {st : AccessF.Store} {s : State} (h : Abs st s) (r : Nat) :
    Abs (AccessF.Store.del_RoleAccountsCount st r) { s with count := upd s.count r none } :=
  ⟨h.hasRole, congrArg (fun f => upd f r none) h.count, h.accounts, h.roleAdmin, h.existing, h.admin⟩

theorem Abs.setRoleAdmin {st : AccessF.Store} {s : State} (h : Abs st s) (r v : Nat) :
    Abs (AccessF.Store.set_RoleAdmin st r v) { s with roleAdmin := upd s.roleAdmin r (some v) } :=
  ⟨h.hasRole, h.count, h.accounts, congrArg (fun f => upd f r (some v)) h.roleAdmin, h.existing, h.admin⟩

theorem Abs.delRoleAdmin {st : AccessF.Store} {s : State} (h : Abs st s) (r : Nat) :
    Abs (AccessF.Store.del_RoleAdmin st r) { s with roleAdmin := upd s.roleAdmin r none } :=
  ⟨h.hasRole, h.count, h.accounts, congrArg (fun f => upd f r none) h.roleAdmin, h.existing, h.admin⟩

theorem Abs.setExisting {st : AccessF.Store} {s : State} (h : Abs st s) (l : List Nat) :
    Abs (AccessF.Store.set_ExistingRoles st l) { s with existing := l } :=
  ⟨h.hasRole, h.count, h.accounts, h.roleAdmin, rfl, h.admin⟩

theorem Abs.emit {st : AccessF.Store} {s : State} (h : Abs st s) (ev : Event) : Abs st (emit s ev) :=
  ⟨h.hasRole, h.count, h.accounts, h.roleAdmin, h.existing, h.admin⟩

/-- the three `set`s both arms of `add_to_role_enumeration` end in: `count + 1` in `u32` arithmetic overflows exactly when
the model's `storeMember` refuses -/
theorem storeMember_ref (st1 : AccessF.Store) (m1 : State) (hA1 : Abs st1 m1) (account role n : Nat) :
    Sim (Comp.bind (uN_add 32 n 1) fun t =>
        Comp.ok ((), AccessF.Store.set_RoleAccountsCount
          (AccessF.Store.set_HasRole (AccessF.Store.set_RoleAccounts st1 ⟨role, n⟩ account) account role n) role t))
      (storeMember m1 account role n) := by
  unfold storeMember uN_add U32_MAX
  by_cases h : n + 1 < 2 ^ 32
  · rw [if_pos h, if_neg (by omega)]
    exact ⟨_, rfl, ((hA1.setAccounts _ _ _).setHasRole _ _ _).setCount _ _⟩
  · rw [if_neg h, if_pos (by omega)]; rfl

/-- **generated = model** for `add_to_role_enumeration` -/
theorem add_ref (auth : List Nat) (st : AccessF.Store) (s : State) (hA : Abs st s) (account role : Nat) :
    Sim (AccessF.add_to_role_enumeration (envOf auth) st account role) (addToRoleEnumeration s account role) := by
  unfold AccessF.add_to_role_enumeration addToRoleEnumeration noteFirst pushExisting MAX_ROLES
  rw [existing_read hA, hA.count, Comp.bind_ok]
  have hc : (s.count role).getD 0 = cnt s role := rfl
  rw [hc]
  by_cases h0 : cnt s role = 0
  · rw [if_pos h0, if_pos h0]
    by_cases hl : s.existing.length = 256
    · rw [if_pos hl, if_pos hl]; rfl
    · rw [if_neg hl, if_neg hl, ok_bind]
      exact storeMember_ref _ _ (hA.setExisting _) account role _
  · rw [if_neg h0, if_neg h0, ok_bind]
    exact storeMember_ref _ _ hA account role _

/-- the `if last_index == 0` tail of `remove_from_role_enumeration` -/
theorem forgetIf_ref (auth : List Nat) (st1 : AccessF.Store) (m1 : State) (hA1 : Abs st1 m1)
    (hlen : m1.existing.length ≤ MAX_ROLES) (role last : Nat) :
    Sim (if last = 0 then
        (Comp.bind (AccessF.get_existing_roles (envOf auth) st1) fun t4 =>
          (optCase (List.findIdx? (fun r_5 => decide (r_5 = role)) t4)
            (fun pos_6 => Comp.ok ((), (AccessF.Store.set_ExistingRoles st1 (List.eraseIdx t4 (pos_6 % 4294967296)))))
            (Comp.ok ((), st1))))
      else Comp.ok ((), st1))
      (.ok (forgetIfEmpty m1 role last)) := by
  unfold forgetIfEmpty
  by_cases hl0 : last = 0
  · rw [if_pos hl0, if_pos hl0, existing_read hA1, Comp.bind_ok]
    cases hf : List.findIdx? (fun x => decide (x = role)) m1.existing with
    | none => exact ⟨_, rfl, (List.erase_of_not_mem (RegGen.position_eq_none_iff.1 hf)).symm ▸ hA1⟩
    | some p =>
      obtain ⟨he, hp, -⟩ := RegGen.eraseIdx_of_findIdx?_eq_some hf
      rw [optCase_some, Nat.mod_eq_of_lt (Nat.lt_of_lt_of_le hp (Nat.le_trans hlen (by decide))), he]
      exact ⟨_, rfl, hA1.setExisting _⟩
  · rw [if_neg hl0, if_neg hl0]; exact ⟨_, rfl, hA1⟩

/-- `hlen` (`Inv.exLen` of every reachable state) makes the `usize → u32` cast of the position lose nothing -/
theorem remove_ref (auth : List Nat) (st : AccessF.Store) (s : State) (hA : Abs st s) (hlen : s.existing.length ≤ MAX_ROLES)
    (account role : Nat) :
    Sim (AccessF.remove_from_role_enumeration (envOf auth) st account role) (removeFromRoleEnumeration s account role) := by
  unfold AccessF.remove_from_role_enumeration removeFromRoleEnumeration
  rw [hA.count, hA.hasRole]
  have hc : (s.count role).getD 0 = cnt s role := rfl
  rw [hc]
  by_cases h0 : cnt s role = 0
  · rw [if_pos h0, if_pos h0]; rfl
  · rw [if_neg h0, if_neg h0]
    cases hidx : s.hasRole account role with
    | none => rfl
    | some idx =>
      rw [uN_sub_ok (Nat.one_le_iff_ne_zero.mpr h0)]
      simp only [Comp.unwrap_some, Comp.bind_ok, removeIdx, removeAt, swapLast]
      by_cases hne : idx ≠ cnt s role - 1
      · rw [if_pos hne, if_pos hne, hA.accounts]
        cases hla : s.accounts role (cnt s role - 1) with
        | none => rfl
        | some la =>
          exact forgetIf_ref auth _ _ (((((hA.setAccounts role idx la).setHasRole la role idx).delAccounts role
            _).delHasRole account role).setCount role _) hlen role _
      · rw [if_neg hne, if_neg hne]
        exact forgetIf_ref auth _ _ (((hA.delAccounts role _).delHasRole account role).setCount role _) hlen role _

theorem grant_no_auth_ref (auth : List Nat) (st : AccessF.Store) (s : State) (hA : Abs st s) (account role caller : Nat) :
    Sim (AccessF.grant_role_no_auth (envOf auth) st account role caller) (grantRoleNoAuth s account role caller) := by
  unfold AccessF.grant_role_no_auth AccessF.has_role grantRoleNoAuth hasRoleQ
  rw [hA.hasRole, Comp.bind_ok]
  cases s.hasRole account role with
  | some i => exact ⟨_, rfl, hA⟩
  | none => exact sim_iff.2 ((sim_iff.1 (add_ref auth st s hA account role)).map _ _ fun _ _ h => Abs.emit h _)

theorem revoke_no_auth_ref (auth : List Nat) (st : AccessF.Store) (s : State) (hA : Abs st s)
    (hlen : s.existing.length ≤ MAX_ROLES) (account role caller : Nat) :
    Sim (AccessF.revoke_role_no_auth (envOf auth) st account role caller) (revokeRoleNoAuth s account role caller) := by
  unfold AccessF.revoke_role_no_auth AccessF.has_role revokeRoleNoAuth hasRoleQ
  rw [hA.hasRole, Comp.bind_ok]
  cases s.hasRole account role with
  | none => rfl
  | some i =>
    exact sim_iff.2 ((sim_iff.1 (remove_ref auth st s hA hlen account role)).map
      (fun t => ((), AccessF.Store.del_HasRole t.2 account role)) _ fun _ _ h => (Abs.delHasRole h account role).emit _)

/-- **generated = model** for `grant_role` -/
theorem grant_ref (auth : List Nat) (st : AccessF.Store) (s : State) (hA : Abs st s) (account role caller : Nat) :
    Sim (AccessF.grant_role (envOf auth) st account role caller) (grantRole s auth account role caller) :=
  sim_iff.2 <| Sim.test (authorized_iff auth caller) fun _ =>
    Sim.read (simU_iff.1 (ensure_ref auth st s hA role caller)) fun _ _ =>
      (sim_iff.1 (grant_no_auth_ref auth st s hA account role caller)).tail

/-- **generated = model** for `revoke_role` -/
theorem revoke_ref (auth : List Nat) (st : AccessF.Store) (s : State) (hA : Abs st s) (hlen : s.existing.length ≤ MAX_ROLES)
    (account role caller : Nat) :
    Sim (AccessF.revoke_role (envOf auth) st account role caller) (revokeRole s auth account role caller) :=
  sim_iff.2 <| Sim.test (authorized_iff auth caller) fun _ =>
    Sim.read (simU_iff.1 (ensure_ref auth st s hA role caller)) fun _ _ =>
      (sim_iff.1 (revoke_no_auth_ref auth st s hA hlen account role caller)).tail

/-- the generated code repeats the body of `revoke_role_no_auth` -/
theorem renounce_ref (auth : List Nat) (st : AccessF.Store) (s : State) (hA : Abs st s) (hlen : s.existing.length ≤ MAX_ROLES)
    (role caller : Nat) :
    Sim (AccessF.renounce_role (envOf auth) st role caller) (renounceRole s auth role caller) :=
  sim_iff.2 <| Sim.test (authorized_iff auth caller) fun _ => sim_iff.1 (revoke_no_auth_ref auth st s hA hlen caller role caller)

theorem set_role_admin_no_auth_ref (auth : List Nat) (st : AccessF.Store) (s : State) (hA : Abs st s) (role adminRole : Nat) :
    Sim (AccessF.set_role_admin_no_auth (envOf auth) st role adminRole) (.ok (setRoleAdminNoAuth s role adminRole)) :=
  ⟨_, rfl, (hA.setRoleAdmin role adminRole).emit _⟩

/-- **generated = model** for `set_role_admin` (admin's authorization) -/
theorem set_role_admin_ref (auth : List Nat) (st : AccessF.Store) (s : State) (hA : Abs st s) (role adminRole : Nat) :
    Sim (AccessF.set_role_admin (envOf auth) st role adminRole) (setRoleAdmin s auth role adminRole) := by
  unfold AccessF.set_role_admin AccessF.get_admin setRoleAdmin enforceAdminAuth OZ.RoleTransfer.enforceHolderAuth
  rw [hA.admin, Comp.bind_ok]
  cases s.adm.holder with
  | none => rfl
  | some ad =>
    rw [optCase_some]
    by_cases ha : ad ∈ auth
    · rw [if_pos ((authorized_eq auth ad).mpr (List.contains_iff_mem.mpr ha))]
      simp only [if_pos ha]
      exact sim_iff.2 (sim_iff.1 (set_role_admin_no_auth_ref auth st s hA role adminRole)).tail
    · rw [if_neg (fun h => ha (List.contains_iff_mem.mp ((authorized_eq auth ad).mp h)))]
      simp only [if_neg ha]
      rfl

theorem remove_role_admin_ref (auth : List Nat) (st : AccessF.Store) (s : State) (hA : Abs st s) (role : Nat) :
    Sim (AccessF.remove_role_admin_no_auth (envOf auth) st role) (removeRoleAdminNoAuth s role) := by
  unfold AccessF.remove_role_admin_no_auth removeRoleAdminNoAuth
  rw [hA.roleAdmin]
  cases s.roleAdmin role with
  | none => rfl
  | some ar => exact ⟨_, rfl, hA.delRoleAdmin role⟩

theorem remove_count_ref (auth : List Nat) (st : AccessF.Store) (s : State) (hA : Abs st s) (role : Nat) :
    Sim (AccessF.remove_role_accounts_count_no_auth (envOf auth) st role) (removeRoleAccountsCountNoAuth s role) := by
  unfold AccessF.remove_role_accounts_count_no_auth removeRoleAccountsCountNoAuth
  rw [hA.count]
  cases s.count role with
  | none => rfl
  | some c =>
    rw [optCase_some]
    by_cases h0 : c = 0
    · simp only [if_pos h0]; exact ⟨_, rfl, hA.delCount role⟩
    · simp only [if_neg h0]; rfl

/-! ### the machine: one generated call per role operation of the model -/

/-- the generated entry point for a role operation of the model's machine (`none`: the operation belongs to the
admin / owner hand-over machines or to a macro guard — tied elsewhere, see the file header) -/
def genCall (st : AccessF.Store) (auth : List Nat) : Op → Option (Comp (Unit × AccessF.Store))
  | .grant a r k => some (AccessF.grant_role (envOf auth) st a r k)
  | .revoke a r k => some (AccessF.revoke_role (envOf auth) st a r k)
  | .renounce r k => some (AccessF.renounce_role (envOf auth) st r k)
  | .grantNoAuth a r k => some (AccessF.grant_role_no_auth (envOf auth) st a r k)
  | .revokeNoAuth a r k => some (AccessF.revoke_role_no_auth (envOf auth) st a r k)
  | .setRoleAdmin r ar => some (AccessF.set_role_admin (envOf auth) st r ar)
  | .setRoleAdminNoAuth r ar => some (AccessF.set_role_admin_no_auth (envOf auth) st r ar)
  | .removeRoleAdminNoAuth r => some (AccessF.remove_role_admin_no_auth (envOf auth) st r)
  | .removeCountNoAuth r => some (AccessF.remove_role_accounts_count_no_auth (envOf auth) st r)
  | .ensureAdminOrRole r k =>
    some (Comp.bind (AccessF.ensure_if_admin_or_admin_role (envOf auth) st r k) fun _ => Comp.ok ((), st))
  | _ => none

def RoleOp (op : Op) : Prop := ∀ st auth, (genCall st auth op).isSome

/-- a failed invocation is rolled back by the host -/
def genStep (st : AccessF.Store) (x : List Nat × Op) : AccessF.Store :=
  match genCall st x.1 x.2 with
  | some (Comp.ok (_, st')) => st'
  | _ => st

def genRun (st : AccessF.Store) (ops : List (List Nat × Op)) : AccessF.Store := ops.foldl genStep st

/-- **one call**: the generated entry point and the model's `apply` agree on every role operation, in every state
satisfying the storage invariant -/
theorem call_refines (c : Cfg) (st : AccessF.Store) (s : State) (hA : Abs st s) (hi : Inv s) (auth : List Nat) (op : Op)
    (g : Comp (Unit × AccessF.Store)) (hg : genCall st auth op = some g) : Sim g (apply c s auth op) := by
  cases op with
  | grant a r k => cases hg; exact grant_ref auth st s hA a r k
  | revoke a r k => cases hg; exact revoke_ref auth st s hA hi.exLen a r k
  | renounce r k => cases hg; exact renounce_ref auth st s hA hi.exLen r k
  | grantNoAuth a r k => cases hg; exact grant_no_auth_ref auth st s hA a r k
  | revokeNoAuth a r k => cases hg; exact revoke_no_auth_ref auth st s hA hi.exLen a r k
  | setRoleAdmin r ar => cases hg; exact set_role_admin_ref auth st s hA r ar
  | setRoleAdminNoAuth r ar => cases hg; exact set_role_admin_no_auth_ref auth st s hA r ar
  | removeRoleAdminNoAuth r => cases hg; exact remove_role_admin_ref auth st s hA r
  | removeCountNoAuth r => cases hg; exact remove_count_ref auth st s hA r
  | ensureAdminOrRole r k =>
    cases hg
    have h := simU_iff.1 (ensure_ref auth st s hA r k)
    show Sim (Comp.bind (AccessF.ensure_if_admin_or_admin_role (envOf auth) st r k) _) (keep s (ensureIfAdminOrAdminRole s r k))
    rw [h]
    cases ensureIfAdminOrAdminRole s r k with
    | error e => rfl
    | ok u => exact ⟨_, rfl, hA⟩
  | _ => cases hg

/-- **one step**: `genStep` follows the model's `step` (both with the host's rollback); the invariant goes along -/
theorem step_refines (c : Cfg) (st : AccessF.Store) (s : State) (hA : Abs st s) (hi : Inv s) (x : List Nat × Op)
    (hx : RoleOp x.2) : Abs (genStep st x) (step c s x) ∧ Inv (step c s x) := by
  obtain ⟨g, hg⟩ := Option.isSome_iff_exists.mp (hx st x.1)
  have h := sim_iff.1 (call_refines c st s hA hi x.1 x.2 g hg)
  unfold genStep step
  rw [hg]
  cases hm : apply c s x.1 x.2 with
  | error e => rw [h.of_error hm]; exact ⟨hA, hi⟩
  | ok s' => obtain ⟨b, h1, h2⟩ := h.of_ok hm; rw [h1]; exact ⟨h2, (apply_effect hi hm).1⟩

/-- **every history**: whatever finite sequence of role operations (granted, revoked, renounced, with and without
authorization, role admins set and removed, counts removed) with whatever signers is run, the generated store
follows the model state -/
theorem run_refines (c : Cfg) (ops : List (List Nat × Op)) (hops : ∀ x ∈ ops, RoleOp x.2) :
    ∀ (st : AccessF.Store) (s : State), Abs st s → Inv s → Abs (genRun st ops) (run c s ops) ∧ Inv (run c s ops) := by
  induction ops with
  | nil => intro st s hA hi; exact ⟨hA, hi⟩
  | cons x xs ih =>
    intro st s hA hi
    obtain ⟨h1, h2⟩ := step_refines c st s hA hi x (hops x List.mem_cons_self)
    exact ih (fun y hy => hops y (List.mem_cons_of_mem _ hy)) _ _ h1 h2

/-- the store of a freshly deployed contract whose admin was set -/
def store0 (admin : Option Nat) : AccessF.Store := ⟨fun _ _ => none, admin, fun _ => none, fun _ => none, fun _ => none, none⟩

theorem store0_abs (admin owner : Option Nat) (now : Nat) : Abs (store0 admin) (init admin owner now) :=
  ⟨rfl, rfl, fun _ _ => rfl, rfl, rfl, rfl⟩

/-- **C06 on the generated code, index map and enumeration are inverse and gap-free**: after every history of role
operations on a fresh contract, `HasRole(a, r) = i` iff `i < RoleAccountsCount(r)` and `RoleAccounts(r, i) = a`, and no
slot at or beyond the count is occupied -/
theorem gen_enumeration_mirrors_membership (admin : Option Nat) (ops : List (List Nat × Op)) (hops : ∀ x ∈ ops, RoleOp x.2)
    (a r i : Nat) :
    ((genRun (store0 admin) ops).HasRole a r = some i ↔
      (i < ((genRun (store0 admin) ops).RoleAccountsCount r).getD 0 ∧ (genRun (store0 admin) ops).RoleAccounts ⟨r, i⟩ = some a)) ∧
    (((genRun (store0 admin) ops).RoleAccountsCount r).getD 0 ≤ i → (genRun (store0 admin) ops).RoleAccounts ⟨r, i⟩ = none) := by
  -- any `Cfg`, owner and ledger serve: the role operations read none of them
  obtain ⟨hA, hi⟩ := run_refines ⟨16, 100⟩ ops hops _ _ (store0_abs admin none 0) (init_inv admin none 0)
  rw [hA.hasRole, hA.count, hA.accounts]
  have hr := hi.role r
  refine ⟨⟨fun h => hr.back a i h, fun ⟨h1, h2⟩ => ?_⟩, fun h => hr.beyond i h⟩
  obtain ⟨b, hb1, hb2⟩ := hr.fwd i h1
  rw [hb1] at h2; injection h2 with h2; subst h2; exact hb2

/-- **C06 on the generated code, existing roles**: the stored list of existing roles has no repetition, at most
MAX_ROLES entries, and lists exactly the roles with at least one member -/
theorem gen_existing_roles_exact (admin : Option Nat) (ops : List (List Nat × Op)) (hops : ∀ x ∈ ops, RoleOp x.2) :
    (((genRun (store0 admin) ops).ExistingRoles).getD []).Nodup ∧
    (((genRun (store0 admin) ops).ExistingRoles).getD []).length ≤ 256 ∧
    ∀ r, r ∈ ((genRun (store0 admin) ops).ExistingRoles).getD [] ↔ 0 < ((genRun (store0 admin) ops).RoleAccountsCount r).getD 0 := by
  obtain ⟨hA, hi⟩ := run_refines ⟨16, 100⟩ ops hops _ _ (store0_abs admin none 0) (init_inv admin none 0)
  rw [hA.existing, hA.count]
  exact ⟨hi.exNodup, hi.exLen, hi.exIff⟩

/-- **C06 on the generated code, a role changes hands only with authorization**: an accepted `grant_role` /
`revoke_role` was authorized by its caller, and the caller is the admin or holds the admin role of the role -/
theorem gen_role_change_authorized (auth : List Nat) (st st' : AccessF.Store) (a r k : Nat)
    (h : AccessF.grant_role (envOf auth) st a r k = Comp.ok ((), st') ∨ AccessF.revoke_role (envOf auth) st a r k = Comp.ok ((), st')) :
    k ∈ auth ∧ (st.Admin = some k ∨ ∃ ar, st.RoleAdmin r = some ar ∧ (st.HasRole k ar).isSome) := by
  -- both entry points are `require_auth`, the guard, then a body that plays no part
  have key : ∀ (body : Comp (Unit × AccessF.Store)),
      (if ((envOf auth).authorized k = true) then
        (Comp.bind (AccessF.ensure_if_admin_or_admin_role (envOf auth) st r k) fun _ => body) else Comp.panic) = Comp.ok ((), st') →
      k ∈ auth ∧ (st.Admin = some k ∨ ∃ ar, st.RoleAdmin r = some ar ∧ (st.HasRole k ar).isSome) := by
    intro body hb
    obtain ⟨hk, hb⟩ := Comp.require_eq_ok hb
    obtain ⟨_, he, -⟩ := Comp.bind_eq_ok hb
    exact ⟨List.contains_iff_mem.mp hk, (OZ.Access.Gen.ensureC_iff st.Admin (st.RoleAdmin r) (st.HasRole k) k).mp he⟩
  exact h.elim (key _) (key _)

/-! ### non-vacuity: a history on the generated store -/

def demoOps : List (List Nat × Op) :=
  [([1], .grant 5 7 1), ([1], .grant 6 7 1), ([1], .setRoleAdmin 8 7), ([5], .grant 9 8 5), ([1], .revoke 5 7 1), ([9], .renounce 8 9)]

example : (∀ x ∈ demoOps, RoleOp x.2) := by
  intro x hx
  simp only [demoOps, List.mem_cons, List.not_mem_nil, or_false] at hx
  rcases hx with h | h | h | h | h | h <;> subst h <;> intro st auth <;> rfl

example : (genRun (store0 (some 1)) demoOps).HasRole 6 7 = some 0 ∧ (genRun (store0 (some 1)) demoOps).HasRole 5 7 = none ∧
    (genRun (store0 (some 1)) demoOps).RoleAccountsCount 7 = some 1 ∧ (genRun (store0 (some 1)) demoOps).ExistingRoles = some [7] := by
  decide

end OZ.Gen.AccessF
