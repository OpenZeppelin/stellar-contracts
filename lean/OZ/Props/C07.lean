import OZ.Lemmas.RoleTransfer
/-
C07 — Admin and ownership change hands only through a live two-step handshake.

The model (OZ/Model/RoleTransfer.lean) mirrors `transfer_role` /
`accept_transfer` (role_transfer/storage.rs) and their two users, `Ownable`
(`Flavor.owner`) and the admin of `AccessControl` (`Flavor.admin`). `transfer_role` removes the
pending entry before it stores an offer.

All statements hold for both flavours, every host configuration `c` (minimum temporary
lifetime, maximum lifetime), every initial holder and start ledger, and EVERY finite history
`ops` of offer / cancel / accept / renounce / holder-only calls / ledger advances, each issued
with an arbitrary authorizing subset. `runG` runs the model and, beside it, the ghost log
`ghostStep` of the open offer (latest accepted offer, dropped when a cancellation or an
accept is accepted), which looks at calls and their outcomes only.
-/
namespace OZ.RoleTransfer
open OZ.Host

/-- **C07, core (general form)**: whenever `accept` succeeds — after any history — the log
holds an open offer `o` (made, and not since cancelled, replaced or accepted) such that: the
invited account authorizes this accept and is the one who becomes holder; the offer was made
by the account that was holder then, with its authorization; that account is still the
holder (nobody else got control in between); and the current ledger is not past
`max o.lu (o.madeAt + minTempTtl - 1)` — the offer's `live_until_ledger`, or the end of the
minimum lifetime of a fresh temporary entry where that is later (the documented caveat, exact). -/
theorem accept_requires_live_offer (c : Cfg) (f : Flavor) (h0 : Option Nat) (start : Nat)
    (ops : List (List Nat × Op)) (auth : List Nat) (s' : State)
    (h : accept f (runG c f (initG h0 start) ops).s auth = .ok s') :
    ∃ o hd, (runG c f (initG h0 start) ops).g = some o ∧
      o.acct ∈ auth ∧ s'.holder = some o.acct ∧ s'.pending = none ∧
      o.lu ≠ 0 ∧ o.holderThen = some hd ∧ hd ∈ o.auth ∧
      (runG c f (initG h0 start) ops).s.holder = some hd ∧
      o.madeAt ≤ (runG c f (initG h0 start) ops).s.now ∧
      (runG c f (initG h0 start) ops).s.now ≤ max o.lu (o.madeAt + c.minTempTtl - 1) := by
  have hi := reachable_inv c f h0 start ops
  obtain ⟨p, hg, hp, hh, hpe, -, -⟩ := accept_ok h
  obtain ⟨o, ho, ha, hl⟩ := inv_get?_some hi hg
  obtain ⟨w1, -, w3, ⟨hd, w4, w5⟩, w6⟩ := hi.wf o ho
  subst ha
  exact ⟨o, hd, ho, hp, hh, hpe, w1, w4, w5, by rw [w6 hl, w4], w3, hl⟩

/-- **C07, core (the property's observation regime, minimum temporary lifetime 1)**: an
accepted `accept` happens at a ledger `≤ live_until_ledger` of the open offer: an offer whose
`live_until_ledger` has passed can never be accepted. -/
theorem accept_requires_live_offer_min1 (c : Cfg) (hmin : c.minTempTtl = 1) (f : Flavor)
    (h0 : Option Nat) (start : Nat) (ops : List (List Nat × Op)) (auth : List Nat) (s' : State)
    (h : accept f (runG c f (initG h0 start) ops).s auth = .ok s') :
    ∃ o hd, (runG c f (initG h0 start) ops).g = some o ∧
      o.acct ∈ auth ∧ s'.holder = some o.acct ∧ o.holderThen = some hd ∧ hd ∈ o.auth ∧
      (runG c f (initG h0 start) ops).s.holder = some hd ∧
      (runG c f (initG h0 start) ops).s.now ≤ o.lu := by
  obtain ⟨o, hd, h1, h2, h3, -, -, h6, h7, h8, -, h10⟩ :=
    accept_requires_live_offer c f h0 start ops auth s' h
  have hi := reachable_inv c f h0 start ops
  obtain ⟨-, w2, -, -, -⟩ := hi.wf o h1
  exact ⟨o, hd, h1, h2, h3, h6, h7, h8, by rw [hmin] at h10; omega⟩

/-- **C07, exactness**: `accept` succeeds if and only if the log holds an open offer whose
invited account authorizes the call and whose acceptance window has not passed. -/
theorem accept_iff (c : Cfg) (f : Flavor) (h0 : Option Nat) (start : Nat)
    (ops : List (List Nat × Op)) (auth : List Nat) :
    (∃ s', accept f (runG c f (initG h0 start) ops).s auth = .ok s') ↔
    ∃ o, (runG c f (initG h0 start) ops).g = some o ∧ o.acct ∈ auth ∧
      (runG c f (initG h0 start) ops).s.now ≤ deadline c o := by
  have hi := reachable_inv c f h0 start ops
  constructor
  · rintro ⟨s', h⟩
    obtain ⟨o, hd, h1, h2, -, -, -, -, -, -, -, h10⟩ :=
      accept_requires_live_offer c f h0 start ops auth s' h
    exact ⟨o, h1, h2, h10⟩
  · rintro ⟨o, ho, ha, hl⟩
    obtain ⟨-, -, -, ⟨hd, w4, -⟩, w6⟩ := hi.wf o ho
    exact ⟨_, ok_of_step (c := c) (.accept o.acct (inv_get?_of_open hi ho hl) ha fun _ => by rw [w6 hl, w4]; simp)⟩

/-- **C07**: an accepted offer cannot be accepted again, nor can a cancelled one: after a
successful accept (or cancellation), however many calls other than offers follow, by anyone,
every further `accept` fails until a new offer is made. -/
theorem no_double_accept (c : Cfg) (f : Flavor) (s s' : State) (auth : List Nat)
    (h : accept f s auth = .ok s' ∨ ∃ new, offer c s auth new 0 = .ok s')
    (rest : List (List Nat × Op)) (hr : ∀ a ∈ rest, a.2.isOffer = false) (auth2 : List Nat) :
    ∃ e, accept f (run c f s' rest) auth2 = .error e := by
  have hp : s'.pending = none := by
    rcases h with h | ⟨new, h⟩
    · cases step_of_ok (c := c) (op := .accept) h; rfl
    · cases step_of_ok (f := f) (op := .offer new 0) h with
      | cancel => rfl
      | offer _ _ _ _ _ h0 => exact absurd rfl h0
  exact accept_none_fails f
    (OZ.Lists.foldl_keeps (P := fun s => s.pending = none) (fun _ a hs ha => step_no_offer_pending hs a ha) rest s' hp hr) auth2

/-- **C07**: the holder changes only through `accept` (to the live pending account, which
authorizes) or through `renounce` (to nobody, authorized by the holder, refused while a
pending entry is live). No other call, by anyone, with any authorization, moves it. -/
theorem holder_changes_only_by_handshake (c : Cfg) (f : Flavor) (s s' : State) (auth : List Nat)
    (op : Op) (h : apply c f s auth op = .ok s') (hne : s'.holder ≠ s.holder) :
    (op = .accept ∧ ∃ p, Temp.get? s.pending s.now = some p ∧ p ∈ auth ∧ s'.holder = some p) ∨
    (op = .renounce ∧ s'.holder = none ∧ Temp.get? s.pending s.now = none ∧
      ∃ hd, s.holder = some hd ∧ hd ∈ auth) := by
  cases step_of_ok h with
  | accept p hg ha => exact Or.inl ⟨rfl, p, hg, ha, rfl⟩
  | renounce hd hh ha hg => exact Or.inr ⟨rfl, rfl, hg, hd, hh, ha⟩
  | _ => exact absurd rfl hne

/-- **C07**: until acceptance the current holder keeps full control. Over any history without
an accepted accept / renounce the holder is unchanged, a holder-only function passes exactly
with the holder's authorization (whatever is pending), and the holder can replace the pending
offer by any offer within the lifetime bounds (after which exactly the new account, with the
new lifetime, is pending). -/
theorem holder_keeps_control_until_accept (c : Cfg) (f : Flavor) (s : State)
    (ops : List (List Nat × Op)) (hno : ∀ a ∈ ops, a.2.isHandover = false) :
    (run c f s ops).holder = s.holder ∧
    (∀ auth, (∃ s', guarded (run c f s ops) auth = .ok s') ↔ ∃ hd, s.holder = some hd ∧ hd ∈ auth) ∧
    (∀ auth hd new lu, s.holder = some hd → hd ∈ auth → lu ≠ 0 → (run c f s ops).now ≤ lu →
      lu ≤ c.maxLiveUntil (run c f s ops).now →
      ∃ s', offer c (run c f s ops) auth new lu = .ok s' ∧ s'.holder = s.holder ∧
        s'.pending = some ⟨new, max lu ((run c f s ops).now + c.minTempTtl - 1)⟩) := by
  have hh : (run c f s ops).holder = s.holder := by
    refine OZ.Lists.foldl_keeps (P := fun s' => s'.holder = s.holder) (fun s' a hs ha => ?_) ops s rfl hno
    rw [← hs]
    unfold step
    cases hx : apply c f s' a.1 a.2 with
    | error e => rfl
    | ok s'' =>
      apply Classical.byContradiction
      intro hne
      rcases holder_changes_only_by_handshake c f s' s'' a.1 a.2 hx hne with ⟨e, -⟩ | ⟨e, -⟩ <;>
        rw [e] at ha <;> cases ha
  refine ⟨hh, ?_, ?_⟩
  · intro auth
    rw [← hh]
    constructor
    · rintro ⟨s', h⟩
      cases step_of_ok (c := c) (f := f) (op := .guarded) h with
      | guarded hd h1 h2 => exact ⟨hd, h1, h2⟩
    · rintro ⟨hd, h1, h2⟩
      exact ⟨_, ok_of_step (c := c) (f := f) (.guarded hd h1 h2)⟩
  · intro auth hd new lu h1 h2 h3 h4 h5
    exact ⟨_, ok_of_step (f := f) (.offer hd new lu (hh.trans h1) h2 h3 h4 h5), hh, rfl⟩

/-- **C07**: renouncing is refused while an offer is pending: with an open offer whose
acceptance window has not passed (in particular: whose `live_until_ledger` has not passed),
`renounce` fails for every authorizing set. -/
theorem renounce_refused_while_pending (c : Cfg) (f : Flavor) (h0 : Option Nat) (start : Nat)
    (ops : List (List Nat × Op)) (o : Offer)
    (ho : (runG c f (initG h0 start) ops).g = some o)
    (hl : (runG c f (initG h0 start) ops).s.now ≤ o.lu) (auth : List Nat) :
    ∃ e, renounce (runG c f (initG h0 start) ops).s auth = .error e := by
  have hi := reachable_inv c f h0 start ops
  cases h : renounce (runG c f (initG h0 start) ops).s auth with
  | error e => exact ⟨e, rfl⟩
  | ok s' =>
    have hd : (runG c f (initG h0 start) ops).s.now ≤ deadline c o := by
      unfold deadline; omega
    cases step_of_ok (c := c) (f := f) (op := .renounce) h with
    | renounce _ _ _ hg => rw [inv_get?_of_open hi ho hd] at hg; cases hg

/-- **C07**: after the holder renounced nobody ever holds the role again: no offer, accept or
other call in any later history installs a holder. -/
theorem renounced_is_final (c : Cfg) (f : Flavor) (h0 : Option Nat) (start : Nat)
    (ops rest : List (List Nat × Op))
    (hn : (runG c f (initG h0 start) ops).s.holder = none) :
    (runG c f (initG h0 start) (ops ++ rest)).s.holder = none := by
  have hi := reachable_inv c f h0 start ops
  simp only [runG, List.foldl_append]
  exact holder_none_final c f rest _ hi hn

/-- **C07, offers**: an accepted offer is authorized by the current holder, its
`live_until_ledger` lies between the current ledger and the maximum lifetime, it leaves the
holder in place, and afterwards exactly the offered account is pending with the lifetime
`max lu (now + minTempTtl - 1)` — whatever was pending before (a replaced offer leaves no
trace). An accepted cancellation names the live pending account and clears it. -/
theorem offer_bounds (c : Cfg) (s s' : State) (auth : List Nat) (new lu : Nat)
    (h : offer c s auth new lu = .ok s') :
    (∃ hd, s.holder = some hd ∧ hd ∈ auth) ∧ s'.holder = s.holder ∧ s'.now = s.now ∧
    (lu ≠ 0 → s.now ≤ lu ∧ lu ≤ s.now + c.maxTtl - 1 ∧
      s'.pending = some ⟨new, max lu (s.now + c.minTempTtl - 1)⟩) ∧
    (lu = 0 → Temp.get? s.pending s.now = some new ∧ s'.pending = none) := by
  -- `offer` is the same for both flavours: any `f` serves
  cases step_of_ok (f := .owner) (op := .offer new lu) h with
  | offer hd _ _ hh ha h0 h1 h2 => exact ⟨⟨hd, hh, ha⟩, rfl, rfl, fun _ => ⟨h1, h2, rfl⟩, fun e => absurd e h0⟩
  | cancel hd _ hh ha hg => exact ⟨⟨hd, hh, ha⟩, rfl, rfl, fun e => absurd rfl e, fun _ => ⟨hg, rfl⟩⟩

/-- with the minimum temporary lifetime 1 the pending entry of an accepted offer lives
exactly until the offer's `live_until_ledger` -/
theorem offer_liveUntil_min1 (c : Cfg) (hmin : c.minTempTtl = 1) (s s' : State) (auth : List Nat)
    (new lu : Nat) (hlu : lu ≠ 0) (h : offer c s auth new lu = .ok s') :
    s'.pending = some ⟨new, lu⟩ := by
  obtain ⟨-, -, -, hb, -⟩ := offer_bounds c s s' auth new lu h
  obtain ⟨b1, -, hp⟩ := hb hlu
  rw [hp, hmin]
  have : max lu (s.now + 1 - 1) = lu := by omega
  rw [this]

/-- **C07, rollback**: a rejected call changes nothing (`step` is the call under the host's rollback) -/
theorem failed_no_effect (c : Cfg) (f : Flavor) (s : State) (auth : List Nat) (op : Op) (e : Err)
    (h : apply c f s auth op = .error e) : step c f s (auth, op) = s := by
  unfold step; simp only [h]

/-! ### `set` on top of a live pending entry: a regression witness (DESIGN.md section 8, defect 2)

`transferRoleLegacy` stores an offer on top of the live pending entry, which keeps the older, longer lifetime.
Minimum temporary lifetime 1, ledger 100: the owner 0 offers to 1 until 1100, then to 2 until 110; at ledger 500
account 2 accepts and becomes the owner under `runLegacy`, 390 ledgers after its offer expired; `run` refuses. -/

def overrideOps : List (List Nat × Op) :=
  [([0], .offer 1 1100), ([0], .offer 2 110), ([], .advance 400), ([2], .accept)]

theorem transfer_role_override_counterexample :
    (runLegacy ⟨1, 200000⟩ .owner (init (some 0) 100) overrideOps).holder = some 2 ∧
    (runLegacy ⟨1, 200000⟩ .owner (init (some 0) 100) overrideOps).now = 500 ∧
    (runLegacy ⟨1, 200000⟩ .admin (init (some 0) 100) overrideOps).holder = some 2 := by decide

theorem transfer_role_override_fixed :
    (run ⟨1, 200000⟩ .owner (init (some 0) 100) overrideOps).holder = some 0 ∧
    (run ⟨1, 200000⟩ .admin (init (some 0) 100) overrideOps).holder = some 0 := by decide

/-! ### non-vacuity: concrete histories -/

/-- offer, replacement by a shorter offer, a refused renounce, a
rejected accept by the replaced account, accept by the invited one at the last ledger -/
def demoOps : List (List Nat × Op) :=
  [([0], .offer 1 1100), ([0], .offer 2 110), ([0], .renounce), ([], .advance 10), ([1], .accept)]

example : (runG ⟨1, 200000⟩ .owner (initG (some 0) 100) demoOps).g = some ⟨2, 110, 100, some 0, [0]⟩ ∧
    (runG ⟨1, 200000⟩ .owner (initG (some 0) 100) demoOps).s.holder = some 0 ∧
    (runG ⟨1, 200000⟩ .owner (initG (some 0) 100) demoOps).s.now = 110 := by decide

-- the hypothesis of `accept_requires_live_offer` is met at ledger 110 (and not at 111)
example : (accept .owner (runG ⟨1, 200000⟩ .owner (initG (some 0) 100) demoOps).s [2]).toOption.map (·.holder)
    = some (some 2) := by decide
example : (accept .admin (runG ⟨1, 200000⟩ .admin (initG (some 0) 100) (demoOps ++ [([], .advance 1)])).s [2]).toOption.map (·.holder)
    = none := by decide

-- minimum lifetime 16: an offer until 103 made at 100 is acceptable through 115, not at 116
example : (run ⟨16, 200000⟩ .owner (init (some 0) 100) [([0], .offer 1 103), ([], .advance 15), ([1], .accept)]).holder = some 1 ∧
    (run ⟨16, 200000⟩ .owner (init (some 0) 100) [([0], .offer 1 103), ([], .advance 16), ([1], .accept)]).holder = some 0 := by decide

-- hypotheses of `no_double_accept` / `renounce_refused_while_pending` / `renounced_is_final`
example : ∀ a ∈ [([0], Op.offer 1 0), ([1], Op.accept), ([], Op.advance 3)], a.2.isOffer = false := by decide
example : (runG ⟨1, 200000⟩ .owner (initG (some 0) 100) [([0], .renounce)]).s.holder = none := by decide

end OZ.RoleTransfer
