import OZ.Props.C18
import OZ.Lemmas.VerifiersMon
/-
C18 — soundness of the MONITOR that decides the property on implementation traces.

`./check C18` reports a concrete violation exactly when `OZ.Verifiers.Mon.checkCore` (the driver's
monitor on parsed values) returns a message on the implementation's answers. C18 is a property of
pure functions: a "trace" is a list of op lines, each answered independently, and the monitor has
no state. Proved here: for EVERY finite list of op lines — WebAuthn verify with any payload, key
length, client data, parser answer, authenticator data, flags and signature-oracle bit, through the
library or the example contract; Ed25519 verify; base64url encoding of ANY byte string into a
buffer of ANY length; any 256-group block — the monitor fed with the MODEL's own answer reports
nothing (`monitor_accepts_every_model_trace`). Consequences:

  * an implementation whose answers agree with the model's (the correspondence the check
    establishes by differential testing) can never raise a monitor alarm;
  * every conclusion the monitor evaluates is a THEOREM about the model in the monitor's own
    executable wording:
      wa      "accepted ⇔ `waDefect` finds no defect; never `ok false`" — the monitor's chain (own
              RFC 4648 encoder `rfc4648`, arithmetic flag tests, the oracle bits of the op line)
              is the model's acceptance condition: `webauthn_monitor_spec_eq_model_lib` / `_ex`,
              from `webauthn_accepts_iff`, `webauthn_example_accepts_iff`, `flag_bits`,
              `webauthn_never_false` of OZ/Props/C18.lean;
      ed      "accepted ⇔ the oracle bit; never `ok false`" — `ed25519_accepts_iff`, `ed25519_never_false`;
      enc     "destination buffer = rfc4648(src) ‖ untouched rest; panic iff too short" — the
              encoder MODEL equals the independent RFC 4648 §5 SPECIFICATION for every byte string
              (`base64url_eq_rfc4648`, `base64url_into_buffer`): `enc_monitor_spec_eq_model`;
      encblk  the same on 256 three-byte groups: `encblk_monitor_spec_eq_model`.

Cryptographic facts (SHA-256, P-256, Ed25519), JSON parsing and XDR decoding are ORACLES. They stay
explicit parameters: the per-call theorems (`webauthn_monitor_sound_lib`, `webauthn_monitor_sound_ex`,
`ed25519_monitor_sound`) hold for EVERY oracle behaviour `O` / `ed` and every call, provided the op
line states the oracles' answers for that call truthfully (`WaDescribes`, `sv = 1 ↔ …`); the driver's
constant oracles built from the op line (`driverOracles`, `driverEd`) are one instance
(`driver_describes`).

Not covered (string level, in the driver): `parseOp` with `ofHex`, and the `site=c18.parse` report for
a line that does not parse. Covered string-level fact: the three answer lines are read back as the
answers (`ofLine_line`); encoder lines are compared as whole lines, so nothing is read back there.
-/
namespace OZ.Verifiers.Mon
open OZ.B64 OZ.Verifiers OZ.WebAuthn

/-- The structured observation of the model's answer to an op line: the driver's model side prints
`modelLine op` (`OZ.Drv.C18.evalOp`), and its monitor side reads an observation line with `readObs`
(`OZ.Drv.C18.monitor`) — the same two functions, composed. -/
def modelObs (op : Op) : Obs := readObs (modelLine op)

/-! ## WebAuthn: the monitor's chain is the model's acceptance condition, for every oracle -/

/-- the op line `w` truthfully describes the call `webauthn::verify(payload, key, sd)` under the
oracles `O`: its fields are the call's arguments and the oracles' answers for this call -/
structure WaDescribes (O : Oracles) (payload key : Bytes) (sd : SigData) (w : WaOp) : Prop where
  pl : w.pl = payload
  cd : w.cd = sd.clientData
  ad : w.ad = sd.authenticatorData
  /-- `parse= ty= ch=`: the JSON parser's answer on the client data -/
  parse : O.parse sd.clientData = if w.parseOk then some { challenge := w.ch, typeField := w.ty } else none
  /-- `sv=`: the curve oracle's answer on (key, sha256(ad ‖ sha256 cd), signature) -/
  sv : w.sv = 1 ↔ O.p256Verify key (O.sha256 (sd.authenticatorData ++ O.sha256 sd.clientData)) sd.signature = true

/-- **the monitor's arithmetic flag tests are the model's mask tests** on the flags byte of
authenticator data of at least 37 bytes -/
theorem monitor_flag_tests_eq_model (ad : Bytes) (h : 37 ≤ ad.length) :
    (∃ f, ad[32]? = some f ∧ flagSet f AUTH_DATA_FLAGS_UP = true ∧ flagSet f AUTH_DATA_FLAGS_UV = true ∧
      ¬ (flagSet f AUTH_DATA_FLAGS_BE = false ∧ flagSet f AUTH_DATA_FLAGS_BS = true)) ↔
    (flagsOf ad % 2 = 1 ∧ flagsOf ad / 4 % 2 = 1 ∧ ¬ (flagsOf ad / 8 % 2 = 0 ∧ flagsOf ad / 16 % 2 = 1)) := by
  obtain ⟨hup, huv, hbe, hbs⟩ := flag_bits (ad.getD 32 0)
  unfold flagsOf
  rw [flags_get ad h]
  -- "BE clear" is `¬ … = 1` on the model's side and `… = 0` on the monitor's: a remainder mod 2 that is not 1 is 0
  simp only [Option.some.injEq, exists_eq_left', hup, huv, hbs, ← Bool.not_eq_true, hbe, Nat.mod_two_ne_one]

theorem webauthn_monitor_conjunction_eq_model (O : Oracles) (payload key : Bytes) (sd : SigData) (w : WaOp)
    (hd : WaDescribes O payload key sd w) :
    (w.cd.length ≤ 1024 ∧ w.parseOk = true ∧ w.ty = webauthnGet ∧ w.pl.length = 32 ∧ w.ch = rfc4648 w.pl ∧
      37 ≤ w.ad.length ∧ flagsOf w.ad % 2 = 1 ∧ flagsOf w.ad / 4 % 2 = 1 ∧
      ¬ (flagsOf w.ad / 8 % 2 = 0 ∧ flagsOf w.ad / 16 % 2 = 1) ∧ w.sv = 1) ↔
    verify O payload key sd = .ok true := by
  obtain ⟨hpl, hcd, had, hparse, hsv⟩ := hd
  rw [webauthn_accepts_iff, ← hsv, hparse, ← hpl, ← hcd, ← had, webauthnGet_eq]
  cases w.parseOk
  · simp
  · simp only [↓reduceIte, Option.some.injEq, exists_eq_left', true_and]
    constructor
    · rintro ⟨h1, h3, h4, h5, h6, h7, h8, h9, h10⟩
      exact ⟨h1, ⟨h3, h5⟩, h4, h6, (monitor_flag_tests_eq_model w.ad h6).mpr ⟨h7, h8, h9⟩, h10⟩
    · rintro ⟨h1, ⟨h3, h5⟩, h4, h6, hf, h10⟩
      obtain ⟨h7, h8, h9⟩ := (monitor_flag_tests_eq_model w.ad h6).mp hf
      exact ⟨h1, h3, h4, h5, h6, h7, h8, h9, h10⟩

/-- **library verifier**: on a truthful op line the monitor finds no defect exactly when the model
accepts — for every parser / hash / curve oracle and every call -/
theorem webauthn_monitor_spec_eq_model_lib (O : Oracles) (payload key : Bytes) (sd : SigData) (w : WaOp)
    (hc : w.c = .lib) (hd : WaDescribes O payload key sd w) :
    waDefect w = none ↔ verify O payload key sd = .ok true := by
  rw [waDefect_none_iff, ← webauthn_monitor_conjunction_eq_model O payload key sd w hd]
  constructor
  · rintro ⟨-, h⟩; exact h
  · intro h; exact ⟨fun he => (by rw [hc] at he; cases he), h⟩

/-- **example verifier contract** `verify(payload, key_data, sig_data)`: `xdr=` states whether the
signature data decodes (to `sd`), `kl=` is the length of the key data, and the rest of the line
describes the inner call with the first 65 bytes of the key data -/
theorem webauthn_monitor_spec_eq_model_ex (O : Oracles) (payload keyData sigData : Bytes) (sd : SigData) (w : WaOp)
    (hc : w.c = .ex) (hkl : w.kl = keyData.length)
    (hx : O.fromXdr sigData = if w.xdr = 1 then some sd else none)
    (hd : w.xdr = 1 → WaDescribes O payload (keyData.take 65) sd w) :
    waDefect w = none ↔ exampleVerify O payload keyData sigData = .ok true := by
  rw [waDefect_none_iff, webauthn_example_accepts_iff, hx]
  by_cases hx1 : w.xdr = 1
  · simp only [hc, hx1, hkl, ↓reduceIte, Option.some.injEq, exists_eq_left', forall_const, true_and,
      webauthn_monitor_conjunction_eq_model O payload _ sd w (hd hx1)]
  · simp [hc, hx1]

/-- **one call of the library verifier**: the monitor applied to the model's answer reports
nothing, for every oracle behaviour -/
theorem webauthn_monitor_sound_lib (O : Oracles) (payload key : Bytes) (sd : SigData) (w : WaOp)
    (hc : w.c = .lib) (hd : WaDescribes O payload key sd w) :
    verdictWa w (ansOf (verify O payload key sd)) = none :=
  verdictWa_quiet w _ (webauthn_monitor_spec_eq_model_lib O payload key sd w hc hd)
    (webauthn_never_false O payload key sd)

theorem webauthn_example_never_false (O : Oracles) (payload keyData sigData : Bytes) :
    exampleVerify O payload keyData sigData ≠ .ok false :=
  fun h => let ⟨_, _, _, h'⟩ := (exampleVerify_eq_ok O payload keyData sigData false).mp h
    webauthn_never_false O _ _ _ h'

/-- **one call of the example verifier contract**, under the hypotheses of `webauthn_monitor_spec_eq_model_ex` -/
theorem webauthn_monitor_sound_ex (O : Oracles) (payload keyData sigData : Bytes) (sd : SigData) (w : WaOp)
    (hc : w.c = .ex) (hkl : w.kl = keyData.length)
    (hx : O.fromXdr sigData = if w.xdr = 1 then some sd else none)
    (hd : w.xdr = 1 → WaDescribes O payload (keyData.take 65) sd w) :
    verdictWa w (ansOf (exampleVerify O payload keyData sigData)) = none :=
  verdictWa_quiet w _ (webauthn_monitor_spec_eq_model_ex O payload keyData sigData sd w hc hkl hx hd)
    (webauthn_example_never_false O payload keyData sigData)

/-- the driver's oracles (constant functions built from the op line) with the driver's arguments
are described by the op line they were built from — whatever key is passed -/
theorem driver_describes (w : WaOp) (key : Bytes) : WaDescribes (driverOracles w) w.pl key (driverSig w) w where
  pl := rfl
  cd := rfl
  ad := rfl
  parse := rfl
  sv := by simp [driverOracles]

/-! ## Ed25519 -/

/-- **one call of the Ed25519 verifier** (library or example contract: the same function), for
every behaviour `ed` of the host verification whose answer for this call the op line states -/
theorem ed25519_monitor_sound (ed : Bytes → Bytes → Bytes → Bool) (payload key sig : Bytes) (d : EdOp)
    (hsv : d.sv = 1 ↔ ed key payload sig = true) :
    verdictEd d (ansOf (OZ.Ed25519Verifier.verify ed payload key sig)) = none :=
  verdictEd_quiet d _ (hsv.trans (OZ.Ed25519Verifier.ed25519_accepts_iff ed payload key sig).symm)
    (OZ.Ed25519Verifier.ed25519_never_false ed payload key sig)

/-! ## base64url: the encoder model equals the monitor's RFC 4648 specification -/

/-- **`enc` lines**: the line the monitor demands (computed from the RFC 4648 §5 specification
`rfc4648` alone) is the line the model prints (the coded encoder writing into a buffer of `n` bytes
0xAA) — for every byte string and every buffer length, the too-short buffers included -/
theorem enc_monitor_spec_eq_model (src : Bytes) (n : Nat) :
    encExpect src n = encLine (encodeInto (List.replicate n 0xAA) src) := by
  rw [base64url_into_buffer, List.length_replicate, ← base64url_length]
  unfold encExpect encExpectOf
  by_cases h : n < (rfc4648 src).length
  · rw [if_pos h, if_pos h]; rfl
  · rw [if_neg h, if_neg h, List.drop_replicate]; rfl

/-- **`encblk` lines**: the same for the text written for the 256 groups (a, b, 0) … (a, b, 255) -/
theorem encblk_monitor_spec_eq_model (a b : Nat) :
    encblkExpect a b = "ok " ++ toAscii (encode (blkSrc a b)) := by
  unfold encblkExpect
  rw [base64url_eq_rfc4648]

/-! ## every op line -/

/-- **one op line**: fed with the model's own answer, the monitor reports nothing -/
theorem monitor_sound_line (op : Op) (hv : op.valid) : checkCore op (modelObs op) = none := by
  cases op with
  | wa w =>
    have hv' : w.c ≠ .other := hv
    show verdictWa w (Ans.ofLine (ansLine (modelWa w))) = none
    unfold modelWa
    cases hc : w.c with
    | other => exact absurd hc hv'
    | lib =>
      show verdictWa w (Ans.ofLine (Ans.line _)) = none
      rw [ofLine_line]
      exact webauthn_monitor_sound_lib _ _ _ _ w hc (driver_describes w _)
    | ex =>
      show verdictWa w (Ans.ofLine (Ans.line _)) = none
      rw [ofLine_line]
      exact webauthn_monitor_sound_ex (driverOracles w) w.pl (driverKey w) [] (driverSig w) w hc
        (by simp [driverKey]) rfl (fun _ => driver_describes w _)
  | ed d =>
    obtain ⟨hc, hp⟩ : d.c ≠ .other ∧ d.pl ≠ none := hv
    -- the example contract's `verify` is the library's
    have key (pl : Bytes) : verdictEd d (Ans.ofLine (Ans.line
        (ansOf (OZ.Ed25519Verifier.verify (driverEd d) pl [] [])))) = none := by
      rw [ofLine_line]
      exact ed25519_monitor_sound (driverEd d) pl [] [] d (by simp [driverEd])
    show verdictEd d (Ans.ofLine (ansLine (modelEd d))) = none
    unfold modelEd
    cases hpl : d.pl with
    | none => exact absurd hpl hp
    | some pl =>
      cases hcc : d.c with
      | other => exact absurd hcc hc
      | lib => exact key pl
      | ex => exact key pl
  | enc src n =>
    show verdictEnc src n (encLine (encodeInto (List.replicate n 0xAA) src)) = none
    unfold verdictEnc
    rw [if_pos (enc_monitor_spec_eq_model src n).symm]
  | encblk a b =>
    show verdictEncblk a b ("ok " ++ toAscii (encode (blkSrc a b))) = none
    unfold verdictEncblk
    rw [if_pos (encblk_monitor_spec_eq_model a b).symm]

/-- the monitor run over a whole list of op lines answered by the model: first message, if any.
The monitor has no state: the driver's `minit` builds `()` from every label, and so does the model
side's `init`. -/
def monitorRun : List Op → Option String
  | [] => none
  | op :: ops =>
    match checkCore op (modelObs op) with
    | some msg => some msg
    | none => monitorRun ops

/-- **monitor soundness**: for every finite list of op lines denoting calls — WebAuthn and Ed25519
verifications through either contract with any arguments and any oracle answers, encodings of any
byte strings into buffers of any length — the monitor reports nothing on the model's answers -/
theorem monitor_accepts_every_model_trace (ops : List Op) (hv : ∀ op ∈ ops, Op.valid op) :
    monitorRun ops = none := by
  induction ops with
  | nil => rfl
  | cons op ops ih =>
    unfold monitorRun
    rw [monitor_sound_line op (hv op (List.mem_cons_self ..))]
    exact ih (fun o ho => hv o (List.mem_cons_of_mem _ ho))

/-! ### non-vacuity: the monitor is not trivially silent -/

/-- a genuine assertion over `exPayload` as an op line (flags 0x1D, 37 bytes of authenticator data) -/
def exWa : WaOp :=
  { c := .lib, pl := exPayload, kl := 65, xdr := 1, cd := [], parseOk := true, ty := WEBAUTHN_GET,
    ch := exChallenge, ad := exAuthData, sv := 1 }

/-- it has no defect, is accepted by the model, and rejecting it is reported -/
example : waDefect exWa = none ∧ modelLine (.wa exWa) = "ok true" ∧
    checkCore (.wa exWa) (readObs "err") =
      some "site=webauthn.reject.genuine a genuine, well-formed assertion was rejected" := by
  decide +kernel

/-- a 40-byte payload whose challenge encodes the first 32 bytes (`legacy_accepts_long_payload_counterexample`):
the monitor finds the defect `payload_len`, so the answer `ok true` (that of `verifyLegacy`) is reported and the
answer `err` is not -/
example : (checkCore (.wa { exWa with pl := exPayload ++ [32, 33, 34, 35, 36, 37, 38, 39] }) (readObs "ok true")).isSome = true
    ∧ waDefect { exWa with pl := exPayload ++ [32, 33, 34, 35, 36, 37, 38, 39] } = some "payload_len"
    ∧ checkCore (.wa { exWa with pl := exPayload ++ [32, 33, 34, 35, 36, 37, 38, 39] }) (readObs "err") = none := by
  decide +kernel

/-- UV cleared; BS without BE; key data of 64 bytes for the example contract; `false` as an answer -/
example : waDefect { exWa with ad := List.replicate 32 0 ++ [0x19, 0, 0, 0, 1] } = some "uv"
    ∧ waDefect { exWa with ad := List.replicate 32 0 ++ [0x15, 0, 0, 0, 1] } = some "backup_state"
    ∧ waDefect { exWa with c := .ex, kl := 64 } = some "key_data_len"
    ∧ (checkCore (.wa exWa) (readObs "ok false")).isSome = true
    ∧ (checkCore (.ed ⟨.lib, some [], 0⟩) (readObs "ok true")).isSome = true
    ∧ (checkCore (.ed ⟨.ex, some [], 1⟩) (readObs "err")).isSome = true := by
  decide +kernel

/-- the encoder: "foobar" into a buffer of 10 bytes; a wrong last character, a clobbered rest of the
buffer and a missing panic are reported -/
example : modelLine (.enc [102, 111, 111, 98, 97, 114] 10) = "ok 5a6d3976596d4679aaaa"
    ∧ checkCore (.enc [102, 111, 111, 98, 97, 114] 10) (readObs "ok 5a6d3976596d4679aaaa") = none
    ∧ (checkCore (.enc [102, 111, 111, 98, 97, 114] 10) (readObs "ok 5a6d3976596d4678aaaa")).isSome = true
    ∧ (checkCore (.enc [102, 111, 111, 98, 97, 114] 10) (readObs "ok 5a6d3976596d467900aa")).isSome = true
    ∧ modelLine (.enc [102, 111, 111, 98, 97, 114] 7) = "panic"
    ∧ (checkCore (.enc [102, 111, 111, 98, 97, 114] 7) (readObs "ok 5a6d3976596d46")).isSome = true := by
  decide +kernel

/-- the validity hypothesis is needed: a `wa` line with `c=` neither `lib` nor `ex` is not an op line
of the protocol — the model side prints `bad-op` for it (and no harness writes it), while the monitor
reads it as a library call -/
example : ¬ Op.valid (.wa { exWa with c := .other }) ∧ modelLine (.wa { exWa with c := .other }) = "bad-op"
    ∧ (checkCore (.wa { exWa with c := .other }) (modelObs (.wa { exWa with c := .other }))).isSome = true :=
  ⟨fun h => h rfl, by decide, by decide⟩

end OZ.Verifiers.Mon
