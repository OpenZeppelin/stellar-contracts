import OZ.Lemmas.Merkle
/-
C17 — Merkle proofs verify only true membership and each leaf is claimed once.

`o : Ops α` packs the pair hash `hp` and the comparison `gt`; everything is proved for EVERY hash function:
completeness for any tree shape; soundness relative to collision resistance (two different accepted
(leaf, proof) of equal length for the same root exhibit an explicit collision of the pair hash, in the sorted
form up to the node/sibling exchange that is inherent to sorted-pair trees); and in the free-hash (symbolic)
model, where the pair hash is a constructor, exactly the honest (leaf, proof[, index]) are accepted.
-/
namespace OZ.Merkle
variable {α : Type}

/-- every leaf of every tree has a path, hence an extracted proof -/
theorem every_leaf_has_proof (comb : α → α → α) (t : Tree α) (v : α) (h : v ∈ t.leaves) :
    ∃ p π, t.proofWith comb p = some (v, π) :=
  let ⟨p, π, hp⟩ := mem_leaves_has_proof comb t v h
  ⟨p, π, proofWith_eq_some.mpr hp⟩

/-- **sorted-pair form**: every leaf of every tree (any shape) with the proof extracted for it
verifies against the tree's root — for any pair hash, and any comparison that orders two
different values one way round -/
theorem complete [DecidableEq α] (o : Ops α) (hgt : TotalGt o) (t : Tree α) (p : List Bool) (v : α)
    (π : List α) (h : t.proofWith (chp o) p = some (v, π)) : verify o π (t.rootS o) v = true :=
  (verify_eq_true ..).mpr (foldSorted_proof o hgt t p v π h)

/-- the byte instance (`BytesN<32>` compared lexicographically) for any hash function `H` -/
theorem complete_bytes (H : List UInt8 → List UInt8) (t : Tree (List UInt8)) (p : List Bool)
    (v : List UInt8) (π : List (List UInt8))
    (h : t.proofWith (chp (bytesOps H)) p = some (v, π)) :
    verify (bytesOps H) π (t.rootS (bytesOps H)) v = true :=
  complete (bytesOps H) (bytesOps_total H) t p v π h

/-- **positional form**: every leaf of every tree of depth < 32 with its extracted proof and
the index of its path verifies — for any pair hash -/
theorem complete_indexed [DecidableEq α] (o : Ops α) (t : Tree α) (p : List Bool) (v : α) (π : List α)
    (h : t.proofWith o.hp p = some (v, π)) (hdepth : p.length < 32) :
    verifyWithIndex o π (t.rootI o) v (indexOf p) = .ok true := by
  have hl := (proofWith_eq_some.mp h).length
  exact (verifyWithIndex_ok_true ..).mpr ⟨hl ▸ hdepth, hl ▸ indexOf_lt p, foldIndexed_proof o t p v π h⟩

/-- another root is rejected: an honest (leaf, proof) verifies against the tree's root only -/
theorem reject_other_root [DecidableEq α] (o : Ops α) (hgt : TotalGt o) (t : Tree α) (p : List Bool) (v : α)
    (π : List α) (h : t.proofWith (chp o) p = some (v, π)) (root' : α) (hne : root' ≠ t.rootS o) :
    verify o π root' v = false :=
  Bool.eq_false_iff.mpr fun hv => hne (((verify_eq_true ..).mp hv).symm.trans (foldSorted_proof o hgt t p v π h))

theorem reject_other_root_indexed [DecidableEq α] (o : Ops α) (t : Tree α) (p : List Bool) (v : α)
    (π : List α) (h : t.proofWith o.hp p = some (v, π)) (root' : α) (hne : root' ≠ t.rootI o) :
    verifyWithIndex o π root' v (indexOf p) ≠ .ok true :=
  fun hv => hne (((verifyWithIndex_ok_true ..).mp hv).2.2.symm.trans (foldIndexed_proof o t p v π h))

/-! ### soundness relative to collision resistance -/

/-- **positional form**: two different (leaf, proof) of equal length accepted for the same
root and index yield an explicit collision of the pair hash (among values satisfying any
invariant `P` of the inputs that the hash preserves) -/
theorem sound_indexed [DecidableEq α] (o : Ops α) (P : α → Prop) (hP : ∀ a b, P a → P b → P (o.hp a b))
    (root : α) (i : Nat) (v₁ v₂ : α) (π₁ π₂ : List α)
    (hv₁ : P v₁) (hv₂ : P v₂) (hπ₁ : ∀ x ∈ π₁, P x) (hπ₂ : ∀ x ∈ π₂, P x)
    (hlen : π₁.length = π₂.length) (hne : (v₁, π₁) ≠ (v₂, π₂))
    (h₁ : verifyWithIndex o π₁ root v₁ i = .ok true) (h₂ : verifyWithIndex o π₂ root v₂ i = .ok true) :
    Collision o P := by
  have e₁ := ((verifyWithIndex_ok_true ..).mp h₁).2.2
  have e₂ := ((verifyWithIndex_ok_true ..).mp h₂).2.2
  exact sound_indexed_aux o P hP π₁ π₂ hlen v₁ v₂ i hv₁ hv₂ hπ₁ hπ₂ hne (e₁.trans e₂.symm)

/-- **sorted-pair form**: likewise, up to the node/sibling exchange inherent to sorted pairs -/
theorem sound_sorted [DecidableEq α] (o : Ops α) (P : α → Prop) (hP : ∀ a b, P a → P b → P (o.hp a b))
    (root : α) (v₁ v₂ : α) (π₁ π₂ : List α)
    (hv₁ : P v₁) (hv₂ : P v₂) (hπ₁ : ∀ x ∈ π₁, P x) (hπ₂ : ∀ x ∈ π₂, P x)
    (hlen : π₁.length = π₂.length) (hne : (v₁, π₁) ≠ (v₂, π₂))
    (h₁ : verify o π₁ root v₁ = true) (h₂ : verify o π₂ root v₂ = true) :
    Collision o P ∨ Exchange o v₁ π₁ v₂ π₂ := by
  have e₁ := (verify_eq_true ..).mp h₁
  have e₂ := (verify_eq_true ..).mp h₂
  exact sound_sorted_aux o P hP π₁ π₂ hlen v₁ v₂ hv₁ hv₂ hπ₁ hπ₂ hne (e₁.trans e₂.symm)

/-- in the byte instance with a 32-byte hash, a collision of the pair hash among 32-byte
nodes is a collision of `H` on two different 64-byte inputs -/
theorem collision_bytes (H : List UInt8 → List UInt8)
    (h : Collision (bytesOps H) (fun x => x.length = 32)) :
    ∃ x y : List UInt8, x.length = 64 ∧ y.length = 64 ∧ x ≠ y ∧ H x = H y := by
  obtain ⟨a, b, c, d, ha, hb, hc, hd, hne, heq⟩ := h
  refine ⟨a ++ b, c ++ d, by simp [ha, hb], by simp [hc, hd], ?_, heq⟩
  intro e
  have := List.append_inj e (by rw [ha, hc])
  exact hne (by rw [this.1, this.2])

/-- **positional form, bytes**: for any `H` with 32-byte output, two different accepted
(leaf, proof) of 32-byte values give two different 64-byte inputs with the same hash -/
theorem sound_indexed_bytes (H : List UInt8 → List UInt8) (hH : ∀ x, (H x).length = 32)
    (root : List UInt8) (i : Nat) (v₁ v₂ : List UInt8) (π₁ π₂ : List (List UInt8))
    (hv₁ : v₁.length = 32) (hv₂ : v₂.length = 32)
    (hπ₁ : ∀ x ∈ π₁, x.length = 32) (hπ₂ : ∀ x ∈ π₂, x.length = 32)
    (hlen : π₁.length = π₂.length) (hne : (v₁, π₁) ≠ (v₂, π₂))
    (h₁ : verifyWithIndex (bytesOps H) π₁ root v₁ i = .ok true)
    (h₂ : verifyWithIndex (bytesOps H) π₂ root v₂ i = .ok true) :
    ∃ x y : List UInt8, x.length = 64 ∧ y.length = 64 ∧ x ≠ y ∧ H x = H y :=
  collision_bytes H (sound_indexed (bytesOps H) (fun x => x.length = 32) (fun a b _ _ => hH (a ++ b))
    root i v₁ v₂ π₁ π₂ hv₁ hv₂ hπ₁ hπ₂ hlen hne h₁ h₂)

theorem sound_sorted_bytes (H : List UInt8 → List UInt8) (hH : ∀ x, (H x).length = 32)
    (root : List UInt8) (v₁ v₂ : List UInt8) (π₁ π₂ : List (List UInt8))
    (hv₁ : v₁.length = 32) (hv₂ : v₂.length = 32)
    (hπ₁ : ∀ x ∈ π₁, x.length = 32) (hπ₂ : ∀ x ∈ π₂, x.length = 32)
    (hlen : π₁.length = π₂.length) (hne : (v₁, π₁) ≠ (v₂, π₂))
    (h₁ : verify (bytesOps H) π₁ root v₁ = true) (h₂ : verify (bytesOps H) π₂ root v₂ = true) :
    (∃ x y : List UInt8, x.length = 64 ∧ y.length = 64 ∧ x ≠ y ∧ H x = H y) ∨
      Exchange (bytesOps H) v₁ π₁ v₂ π₂ := by
  rcases sound_sorted (bytesOps H) (fun x => x.length = 32) (fun a b _ _ => hH (a ++ b))
    root v₁ v₂ π₁ π₂ hv₁ hv₂ hπ₁ hπ₂ hlen hne h₁ h₂ with h | h
  · exact Or.inl (collision_bytes H h)
  · exact Or.inr h

/-! ### the free-hash (symbolic) model: only honest (leaf, proof[, index]) are accepted -/

/-- sorted form: accepted ⇔ honest, in a tree whose leaves are atoms -/
theorem sym_accept_iff_honest (gt : HTerm → HTerm → Bool) (hgt : TotalGt (freeOps gt)) (t : Tree HTerm)
    (hat : AtomLeaves t) (n : Nat) (π : List HTerm) :
    verify (freeOps gt) π (t.rootS (freeOps gt)) (HTerm.atom n) = true ↔
      ∃ p, t.proofWith (chp (freeOps gt)) p = some (HTerm.atom n, π) :=
  ⟨fun h => (sym_sorted_honest gt t hat n π ((verify_eq_true ..).mp h)).imp fun _ => proofWith_eq_some.mpr,
   fun ⟨p, hp⟩ => complete (freeOps gt) hgt t p _ π hp⟩

/-- a value that is not in the tree is rejected with every proof -/
theorem reject_non_member (gt : HTerm → HTerm → Bool) (t : Tree HTerm) (hat : AtomLeaves t) (n : Nat)
    (hn : HTerm.atom n ∉ t.leaves) (π : List HTerm) :
    verify (freeOps gt) π (t.rootS (freeOps gt)) (HTerm.atom n) = false := by
  refine Bool.eq_false_iff.mpr fun hv => ?_
  obtain ⟨p, hp⟩ := sym_sorted_honest gt t hat n π ((verify_eq_true ..).mp hv)
  exact hn hp.mem

/-- with pairwise different leaves, EVERY proof other than the honest one is rejected —
whether altered, reordered, truncated or extended -/
theorem reject_other_proof (gt : HTerm → HTerm → Bool) (t : Tree HTerm) (hat : AtomLeaves t)
    (hnd : t.leaves.Nodup) (p : List Bool) (n : Nat) (π π' : List HTerm)
    (h : t.proofWith (chp (freeOps gt)) p = some (HTerm.atom n, π)) (hne : π' ≠ π) :
    verify (freeOps gt) π' (t.rootS (freeOps gt)) (HTerm.atom n) = false := by
  refine Bool.eq_false_iff.mpr fun hv => ?_
  obtain ⟨p', hp'⟩ := sym_sorted_honest gt t hat n π' ((verify_eq_true ..).mp hv)
  exact hne (hp'.unique hnd (proofWith_eq_some.mp h)).2

theorem reject_altered_proof (gt : HTerm → HTerm → Bool) (t : Tree HTerm) (hat : AtomLeaves t)
    (hnd : t.leaves.Nodup) (p : List Bool) (n : Nat) (π : List HTerm)
    (h : t.proofWith (chp (freeOps gt)) p = some (HTerm.atom n, π))
    (k : Nat) (hk : k < π.length) (x : HTerm) (hx : x ≠ π[k]) :
    verify (freeOps gt) (π.set k x) (t.rootS (freeOps gt)) (HTerm.atom n) = false :=
  reject_other_proof gt t hat hnd p n π _ h fun e => hx (by simpa [hk] using congrArg (·[k]?) e)

theorem reject_truncated_proof (gt : HTerm → HTerm → Bool) (t : Tree HTerm) (hat : AtomLeaves t)
    (hnd : t.leaves.Nodup) (p : List Bool) (n : Nat) (π : List HTerm)
    (h : t.proofWith (chp (freeOps gt)) p = some (HTerm.atom n, π)) (k : Nat) (hk : k < π.length) :
    verify (freeOps gt) (π.take k) (t.rootS (freeOps gt)) (HTerm.atom n) = false :=
  reject_other_proof gt t hat hnd p n π _ h fun e => by
    have := congrArg List.length e
    rw [List.length_take] at this
    omega

theorem reject_extended_proof (gt : HTerm → HTerm → Bool) (t : Tree HTerm) (hat : AtomLeaves t)
    (hnd : t.leaves.Nodup) (p : List Bool) (n : Nat) (π extra : List HTerm)
    (h : t.proofWith (chp (freeOps gt)) p = some (HTerm.atom n, π)) (hex : extra ≠ []) :
    verify (freeOps gt) (π ++ extra) (t.rootS (freeOps gt)) (HTerm.atom n) = false :=
  reject_other_proof gt t hat hnd p n π _ h fun e => hex (List.append_right_eq_self.mp e)

/-- positional form: accepted ⇒ honest proof at the path with exactly that index -/
theorem sym_indexed_accept_honest (gt : HTerm → HTerm → Bool) (t : Tree HTerm) (hat : AtomLeaves t) (n : Nat)
    (π : List HTerm) (i : Nat)
    (h : verifyWithIndex (freeOps gt) π (t.rootI (freeOps gt)) (HTerm.atom n) i = .ok true) :
    ∃ p, t.proofWith (freeOps gt).hp p = some (HTerm.atom n, π) ∧ i = indexOf p := by
  obtain ⟨_, hi, hf⟩ := (verifyWithIndex_ok_true ..).mp h
  exact (sym_indexed_honest gt t hat n π i hi hf).imp fun _ h => ⟨proofWith_eq_some.mpr h.1, h.2⟩

/-- a wrong index is rejected (returns false or fails) -/
theorem reject_wrong_index (gt : HTerm → HTerm → Bool) (t : Tree HTerm) (hat : AtomLeaves t)
    (hnd : t.leaves.Nodup) (p : List Bool) (n : Nat) (π : List HTerm)
    (h : t.proofWith (freeOps gt).hp p = some (HTerm.atom n, π)) (i : Nat) (hi : i ≠ indexOf p) :
    verifyWithIndex (freeOps gt) π (t.rootI (freeOps gt)) (HTerm.atom n) i ≠ .ok true := by
  intro hv
  obtain ⟨p', hp', hidx⟩ := sym_indexed_accept_honest gt t hat n π i hv
  have := ((proofWith_eq_some.mp hp').unique hnd (proofWith_eq_some.mp h)).1
  subst this
  exact hi hidx

/-- positional form: a non-member and every other proof are rejected as well -/
theorem reject_non_member_indexed (gt : HTerm → HTerm → Bool) (t : Tree HTerm) (hat : AtomLeaves t) (n : Nat)
    (hn : HTerm.atom n ∉ t.leaves) (π : List HTerm) (i : Nat) :
    verifyWithIndex (freeOps gt) π (t.rootI (freeOps gt)) (HTerm.atom n) i ≠ .ok true := by
  intro hv
  obtain ⟨p, hp, _⟩ := sym_indexed_accept_honest gt t hat n π i hv
  exact hn (proofWith_eq_some.mp hp).mem

theorem reject_other_proof_indexed (gt : HTerm → HTerm → Bool) (t : Tree HTerm) (hat : AtomLeaves t)
    (hnd : t.leaves.Nodup) (p : List Bool) (n : Nat) (π π' : List HTerm)
    (h : t.proofWith (freeOps gt).hp p = some (HTerm.atom n, π)) (hne : π' ≠ π) (i : Nat) :
    verifyWithIndex (freeOps gt) π' (t.rootI (freeOps gt)) (HTerm.atom n) i ≠ .ok true := by
  intro hv
  obtain ⟨p', hp', _⟩ := sym_indexed_accept_honest gt t hat n π' i hv
  exact hne ((proofWith_eq_some.mp hp').unique hnd (proofWith_eq_some.mp h)).2

/-! ### the distributor and the airdrop example -/

/-- **an index is marked only after a valid proof against the current root**: over every
history, a set flag that was not set initially was set by a claim for exactly that index,
executed when the flag was clear, whose proof verified against the root of that moment -/
theorem claimed_only_after_valid_proof [DecidableEq α] (o : Ops α) (ops : List (DOp α)) (d : Dist α) (i : Nat)
    (h : (Dist.run o d ops).claimed i = true) :
    d.claimed i = true ∨
      ∃ pre op post, ops = pre ++ op :: post ∧ (Dist.run o d pre).claimed i = false ∧
        ClaimsIndex o (Dist.run o d pre) i op := by
  induction ops generalizing d with
  | nil => exact Or.inl h
  | cons op rest ih =>
    rcases ih (d.apply o op) h with h' | ⟨pre, op', post, e, h1, h2⟩
    · rcases apply_claimed o d op i h' with h'' | ⟨h1, h2⟩
      · exact Or.inl h''
      · exact Or.inr ⟨[], op, rest, rfl, h1, h2⟩
    · exact Or.inr ⟨op :: pre, op', post, by rw [e]; rfl, h1, h2⟩

/-- **claimed forever**: no operation — claim, failed claim, root change — clears a flag -/
theorem claimed_forever [DecidableEq α] (o : Ops α) (d : Dist α) (ops : List (DOp α)) (i : Nat)
    (h : d.claimed i = true) : (Dist.run o d ops).claimed i = true := by
  induction ops generalizing d with
  | nil => exact h
  | cons op rest ih => exact ih _ (apply_keeps_claimed o d op i h)

/-- **every further claim for a claimed index is refused**, after any history, with any leaf
and proof (valid or not), in both forms -/
theorem further_claims_refused [DecidableEq α] (o : Ops α) (d : Dist α) (ops : List (DOp α)) (i : Nat)
    (h : d.claimed i = true) (lh : α) (π : List α) :
    (∀ d', (Dist.run o d ops).verifyAndSetClaimed o lh i π ≠ .ok d') ∧
    (∀ d', (Dist.run o d ops).verifyWithIndexAndSetClaimed o lh i π ≠ .ok d') := by
  have hc := claimed_forever o d ops i h
  constructor
  · intro d' e
    obtain ⟨_, _, h2, _⟩ := (claim_ok o _ d' lh i π).mp e
    rw [hc] at h2; cases h2
  · intro d' e
    obtain ⟨_, _, h2, _⟩ := (claimIndexed_ok o _ d' lh i π).mp e
    rw [hc] at h2; cases h2

/-- **a successful claim marks exactly its own index** and leaves the root alone -/
theorem claim_marks_only_its_index [DecidableEq α] (o : Ops α) (d d' : Dist α) (lh : α) (i : Nat) (π : List α)
    (h : d.verifyAndSetClaimed o lh i π = .ok d' ∨ d.verifyWithIndexAndSetClaimed o lh i π = .ok d') :
    d'.root = d.root ∧ d.claimed i = false ∧ ∀ j, d'.claimed j = (decide (j = i) || d.claimed j) := by
  rcases h with h | h
  · obtain ⟨_, _, h2, _, rfl⟩ := (claim_ok o d d' lh i π).mp h
    exact ⟨rfl, h2, fun j => setClaimed_claimed d i j⟩
  · obtain ⟨_, _, h2, _, rfl⟩ := (claimIndexed_ok o d d' lh i π).mp h
    exact ⟨rfl, h2, fun j => setClaimed_claimed d i j⟩

/-- **a failed claim marks nothing**: a claim whose proof does not verify against the current
root fails, and a failed operation leaves the root and every flag as they were -/
theorem failed_claim_marks_nothing [DecidableEq α] (o : Ops α) (d : Dist α) (lh : α) (i : Nat) (π : List α)
    (root : α) (hr : d.root = some root) (hv : verify o π root lh = false) :
    (∀ d', d.verifyAndSetClaimed o lh i π ≠ .ok d') ∧ d.apply o (.claim lh i π) = d := by
  have h1 : ∀ d', d.verifyAndSetClaimed o lh i π ≠ .ok d' := by
    intro d' e
    obtain ⟨root', hr', _, h3, _⟩ := (claim_ok o d d' lh i π).mp e
    rw [hr] at hr'; cases hr'
    rw [hv] at h3; cases h3
  exact ⟨h1, apply_of_not_ok o d _ h1⟩

theorem failed_indexed_claim_marks_nothing [DecidableEq α] (o : Ops α) (d : Dist α) (lh : α) (i : Nat)
    (π : List α) (root : α) (hr : d.root = some root) (hv : verifyWithIndex o π root lh i ≠ .ok true) :
    (∀ d', d.verifyWithIndexAndSetClaimed o lh i π ≠ .ok d') ∧ d.apply o (.claimIndexed lh i π) = d := by
  have h1 : ∀ d', d.verifyWithIndexAndSetClaimed o lh i π ≠ .ok d' := by
    intro d' e
    obtain ⟨root', hr', _, h3, _⟩ := (claimIndexed_ok o d d' lh i π).mp e
    rw [hr] at hr'; cases hr'
    exact hv h3
  exact ⟨h1, apply_of_not_ok o d _ h1⟩

/-- **a root change keeps the claims** (`set_root` writes the `Root` entry only) -/
theorem root_change_keeps_claims [DecidableEq α] (o : Ops α) (d : Dist α) (r : α) :
    (d.apply o (.setRoot r)).claimed = d.claimed ∧ (d.apply o (.setRoot r)).root = some r :=
  ⟨rfl, rfl⟩

/-- the airdrop example: a successful `claim` marks the index, which was clear, its proof
verified against the root, and exactly `amount` moved from the contract to the receiver -/
theorem airdrop_claim_effect [DecidableEq α] (o : Ops α) (a a' : Airdrop α) (lh : α) (i rcv : Nat) (amount : Int)
    (π : List α) (h : a.claim o lh i rcv amount π = .ok a') :
    (∃ root, a.dist.root = some root ∧ verify o π root lh = true) ∧
    a.dist.claimed i = false ∧ a'.dist = a.dist.setClaimed i ∧
    0 ≤ amount ∧ amount ≤ a.pool ∧ a'.pool = a.pool - amount ∧ a'.bal rcv = a.bal rcv + amount ∧
    ∀ j, j ≠ rcv → a'.bal j = a.bal j := by
  obtain ⟨root, hr, hc, hv, h0, hle, rfl⟩ := (airClaim_ok ..).mp h
  exact ⟨⟨root, hr, hv⟩, hc, rfl, h0, hle, rfl, if_pos rfl, fun j hj => if_neg hj⟩

/-! ### non-vacuity: a concrete tree in the free-hash model -/

/-- comparison used in the examples: atoms by number, every node above every atom, nodes
lexicographically (the rejection theorems hold for any function; the examples need a concrete one) -/
def exGt : HTerm → HTerm → Bool
  | .atom a, .atom b => decide (a > b)
  | .node _ _, .atom _ => true
  | .atom _, .node _ _ => false
  | .node a b, .node c d => exGt a c || (decide (a = c) && exGt b d)

/-- three leaves, unbalanced: ((1, 2), 3) -/
def exTree : Tree HTerm := .node (.node (.leaf (.atom 1)) (.leaf (.atom 2))) (.leaf (.atom 3))

example : exTree.proofWith (chp (freeOps exGt)) [false, true] = some (.atom 2, [.atom 1, .atom 3]) := by decide
example : verify (freeOps exGt) [.atom 1, .atom 3] (exTree.rootS (freeOps exGt)) (.atom 2) = true := by decide
example : verify (freeOps exGt) [.atom 3, .atom 1] (exTree.rootS (freeOps exGt)) (.atom 2) = false := by decide
example : verify (freeOps exGt) [.atom 1] (exTree.rootS (freeOps exGt)) (.atom 2) = false := by decide
example : verify (freeOps exGt) [.atom 1, .atom 3] (exTree.rootS (freeOps exGt)) (.atom 4) = false := by decide
example : verifyWithIndex (freeOps exGt) [.atom 1, .atom 3] (exTree.rootI (freeOps exGt)) (.atom 2) 1 = .ok true := by decide
example : verifyWithIndex (freeOps exGt) [.atom 1, .atom 3] (exTree.rootI (freeOps exGt)) (.atom 2) 0 = .ok false := by decide
example : verifyWithIndex (freeOps exGt) [.atom 1, .atom 3] (exTree.rootI (freeOps exGt)) (.atom 2) 4 =
    .error .merkleIndexOutOfBounds := by decide
example : exTree.leaves.Nodup ∧ AtomLeaves exTree := by
  refine ⟨by decide, ?_⟩
  intro x hx
  simp [exTree, Tree.leaves] at hx
  rcases hx with rfl | rfl | rfl <;> exact ⟨_, rfl⟩
/-- the model's two tree builders: `buildBalanced` makes a tree over exactly the given leaves … -/
example : (buildBalanced (HTerm.atom 0) 8 [.atom 1, .atom 2, .atom 3, .atom 4, .atom 5]).leaves =
    [.atom 1, .atom 2, .atom 3, .atom 4, .atom 5] := by decide
/-- … and the proof extracted for the last leaf of the comb `buildComb` makes -/
example : (buildComb (HTerm.atom 0) [.atom 1, .atom 2, .atom 3]).proofWith (chp (freeOps exGt)) [true, true] =
    some (.atom 3, [.atom 2, .atom 1]) := by decide
/-- a distributor history: claim index 1 (valid), claim it again (refused), claim index 2 with a proof that
does not verify (refused), change the root: 1 is marked, 2 is not -/
example :
    let d0 : Dist HTerm := Dist.empty.setRoot (exTree.rootS (freeOps exGt))
    let ops : List (DOp HTerm) := [.claim (.atom 2) 1 [.atom 1, .atom 3], .claim (.atom 2) 1 [.atom 1, .atom 3],
      .claim (.atom 3) 2 [.atom 9], .setRoot (.atom 7)]
    (Dist.run (freeOps exGt) d0 ops).claimed 1 = true ∧ (Dist.run (freeOps exGt) d0 ops).claimed 2 = false := by
  decide

end OZ.Merkle
