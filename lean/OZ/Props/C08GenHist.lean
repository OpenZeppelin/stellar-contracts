import OZ.Props.C08GenSt
/-
C08 — "runs once", for EVERY finite history of the timelock functions AS TRANSLATED FROM THE SOURCE.

Histories of the generated `schedule_operation`, `set_execute_operation`, `cancel_operation`, `set_min_delay`
(lean/OZ/Gen/TimelockSt.lean, regenerated on every run), each call at its own ledger, all with the same hash
function, a rejected call leaving the store unchanged.  Proved by induction over the call list: Done is for ever
(`gen_done_forever`), an id is executed at most once (`gen_executes_at_most_once`), and an id that is not Unset at
the end of a history (as an accepted execution requires, `gen_execute_sound`) was scheduled in it
(`gen_execute_needs_schedule`).
-/
namespace OZ.Gen.TimelockSt
open OZ.Rs

inductive TOp where
  | schedule (op : Operation) (delay : Nat)
  | execute (op : Operation)
  | cancel (id : B32)
  | setMinDelay (d : Nat)

/-- the store after a call (unchanged when the call is rejected) and whether it was accepted -/
def stepT (st : TimelockSt.Store) (ec : TimelockSt.Reads × TOp) : TimelockSt.Store × Bool :=
  match ec.2 with
  | .schedule op d => match TimelockSt.schedule_operation ec.1 st op d with
      | .ok r => (r.2, true) | .panic => (st, false)
  | .execute op => match TimelockSt.set_execute_operation ec.1 st op with
      | .ok r => (r.2, true) | .panic => (st, false)
  | .cancel id => match TimelockSt.cancel_operation ec.1 st id with
      | .ok r => (r.2, true) | .panic => (st, false)
  | .setMinDelay d => match TimelockSt.set_min_delay ec.1 st d with
      | .ok r => (r.2, true) | .panic => (st, false)

def runT (st : TimelockSt.Store) (cs : List (TimelockSt.Reads × TOp)) : TimelockSt.Store :=
  cs.foldl (fun s ec => (stepT s ec).1) st

theorem led_set (st : TimelockSt.Store) (i j : B32) (v : Nat) :
    led (TimelockSt.Store.set_OperationLedger st i v) j = if j = i then v else led st j := by
  unfold led TimelockSt.Store.set_OperationLedger
  by_cases h : j = i <;> simp [h]

theorem led_del (st : TimelockSt.Store) (i j : B32) :
    led (TimelockSt.Store.del_OperationLedger st i) j = if j = i then 0 else led st j := by
  unfold led TimelockSt.Store.del_OperationLedger
  by_cases h : j = i <;> simp [h]

/-- one call, whatever it is: the ready ledgers stay, or exactly one changes: an Unset one by an accepted
`schedule_operation` of that id, or a pending one (neither Unset nor Done) to Done or Unset -/
theorem stepT_led (st : TimelockSt.Store) (ec : TimelockSt.Reads × TOp) :
    (∀ j, led (stepT st ec).1 j = led st j) ∨
    ∃ i v, (∀ j, led (stepT st ec).1 j = if j = i then v else led st j) ∧
      ((led st i = 0 ∧ ∃ o d st', ec.2 = .schedule o d ∧ TimelockSt.schedule_operation ec.1 st o d = .ok (i, st')) ∨
       (led st i ≠ 0 ∧ led st i ≠ 1 ∧ v ≤ 1)) := by
  obtain ⟨envr, op⟩ := ec
  cases op with
  | schedule o d =>
    cases hx : TimelockSt.schedule_operation envr st o d with
    | panic => exact .inl fun j => by simp only [stepT, hx]
    | ok r =>
      obtain ⟨i, st'⟩ := r
      obtain ⟨_, h0, _, rfl⟩ := gen_schedule_sound envr st st' o d i hx
      exact .inr ⟨i, uN_saturating_add 32 envr.ledger_sequence d, fun j => by simp only [stepT, hx, led_set],
        .inl ⟨h0, o, d, _, rfl, hx⟩⟩
  | execute o =>
    cases hx : TimelockSt.set_execute_operation envr st o with
    | panic => exact .inl fun j => by simp only [stepT, hx]
    | ok r =>
      obtain ⟨u, st'⟩ := r
      obtain ⟨hr, _, rfl⟩ := gen_execute_sound envr st st' o hx
      exact .inr ⟨_, 1, fun j => by simp only [stepT, hx, led_set], .inr ⟨hr.1, hr.2.1, Nat.le_refl 1⟩⟩
  | cancel i =>
    cases hx : TimelockSt.cancel_operation envr st i with
    | panic => exact .inl fun j => by simp only [stepT, hx]
    | ok r =>
      obtain ⟨u, st'⟩ := r
      obtain ⟨h0, h1, rfl⟩ := gen_cancel_sound envr st st' i hx
      exact .inr ⟨i, 0, fun j => by simp only [stepT, hx, led_del], .inr ⟨h0, h1, Nat.zero_le 1⟩⟩
  | setMinDelay d => exact .inl fun j => rfl

theorem step_keeps_done (st : TimelockSt.Store) (ec : TimelockSt.Reads × TOp) (id : B32) (hd : led st id = 1) :
    led (stepT st ec).1 id = 1 := by
  rcases stepT_led st ec with hs | ⟨i, v, hs, hi⟩
  · rw [hs, hd]
  · rw [hs]
    split
    · next e => subst e; omega
    · exact hd

/-- **Done is for ever**, over every history -/
theorem gen_done_forever (cs : List (TimelockSt.Reads × TOp)) :
    ∀ (st : TimelockSt.Store) (id : B32), led st id = 1 → led (runT st cs) id = 1 := by
  induction cs with
  | nil => intro st id h; exact h
  | cons ec rest ih =>
    intro st id h
    exact ih (stepT st ec).1 id (step_keeps_done st ec id h)

/-- **at most once**: after an accepted execution of an operation, no later call of any history executes an
operation with the same id again -/
theorem gen_executes_at_most_once (envr : TimelockSt.Reads) (st st1 : TimelockSt.Store) (op : Operation)
    (h1 : TimelockSt.set_execute_operation envr st op = .ok ((), st1))
    (cs : List (TimelockSt.Reads × TOp)) (envr2 : TimelockSt.Reads) (op2 : Operation)
    (hid : envr2.hash_operation op2 = envr.hash_operation op) :
    ((TimelockSt.set_execute_operation envr2 (runT st1 cs) op2).bind fun _ => Comp.ok ()) = .panic := by
  have hd := gen_executed_is_done envr st st1 op h1
  have hd' := gen_done_forever cs st1 _ hd
  exact gen_not_ready_refused envr2 (runT st1 cs) op2 (Or.inr (Or.inl (by rw [hid]; exact hd')))

/-- the history, run from `st`, contains an accepted `schedule_operation` that returns `id` -/
def scheduledIn (st : TimelockSt.Store) (id : B32) : List (TimelockSt.Reads × TOp) → Prop
  | [] => False
  | ec :: rest =>
    (∃ o d st', ec.2 = .schedule o d ∧ TimelockSt.schedule_operation ec.1 st o d = .ok (id, st')) ∨
    scheduledIn (stepT st ec).1 id rest

theorem step_sets_only_by_schedule (st : TimelockSt.Store) (ec : TimelockSt.Reads × TOp) (id : B32)
    (h0 : led st id = 0) (h1 : led (stepT st ec).1 id ≠ 0) :
    ∃ o d st', ec.2 = .schedule o d ∧ TimelockSt.schedule_operation ec.1 st o d = .ok (id, st') := by
  rcases stepT_led st ec with hs | ⟨i, v, hs, hi⟩
  · exact absurd ((hs id).trans h0) h1
  · rw [hs] at h1
    split at h1
    · next e =>
      subst e
      rcases hi with ⟨_, hw⟩ | ⟨hn, _⟩
      · exact hw
      · exact absurd h0 hn
    · exact absurd h0 h1

/-- **nothing runs that was not scheduled**: if an id is Unset at the start of a history and not Unset at its end
(which `gen_execute_sound` requires of an execution accepted then), the history contains an accepted
`schedule_operation` of that id -/
theorem gen_execute_needs_schedule (cs : List (TimelockSt.Reads × TOp)) :
    ∀ (st : TimelockSt.Store) (id : B32), led st id = 0 → led (runT st cs) id ≠ 0 → scheduledIn st id cs := by
  induction cs with
  | nil => intro st id h0 h1; exact absurd h0 h1
  | cons ec rest ih =>
    intro st id h0 h1
    by_cases hs : led (stepT st ec).1 id = 0
    · exact Or.inr (ih (stepT st ec).1 id hs h1)
    · exact Or.inl (step_sets_only_by_schedule st ec id h0 hs)

end OZ.Gen.TimelockSt
