import OZ.Props.C04Gen
/-
C04 — the GATES of the RWA token's holder-facing entry points, re-checked on every run against the SOURCE.

`lean/OZ/Gen/Rwa.lean` is regenerated by `/verif/tools/rs2lean.py --rwa` from /repo's current
`packages/tokens/src/rwa/storage.rs` — `validate_transfer`, `transfer`, `transfer_from`, `mint`
and `recover_balance` — together with `paused` of `contract-utils/src/pausable/storage.rs` and the Base-token
functions they call, over one store.  The identity verifier and the compliance contract are other contracts:
their entry points (`verify_identity`, `recovery_target`, `can_transfer`, `can_create`, `transferred`,
`created`, `destroyed`) are functions of the reads record that may panic.

Theorems about the GENERATED code itself (no theorem links it to the hand model `OZ.Rwa`), for every store, every
answer of the two external contracts, every authorization predicate and every argument:
* `gen_validate_sound` — `validate_transfer` returns only if the contract is not paused, neither party is
  frozen, the sender's UNFROZEN balance covers the amount, the identity verifier accepted BOTH parties and the
  compliance contract answered `can_transfer = true`;
* `gen_closed_gate_blocks` and, gate by gate, `gen_paused_blocks`, `gen_frozen_blocks`, `gen_frozen_amount_blocks`,
  `gen_unverified_blocks`, `gen_non_compliant_blocks` — each closed gate alone makes `transfer` AND
  `transfer_from` panic, whatever the other gates say.
-/
namespace OZ.Gen.Rwa
open OZ.Rs

/-- every gate of a holder-initiated movement `from → to` of `amount`, read off the store and the answers of
the two external contracts (not `OZ.Rwa.Gates` of the hand model; no theorem relates the two) -/
structure Gates (envr : Rwa.Reads) (st : Rwa.Store) (frm to' : Nat) (amount : Int) : Prop where
  notPaused : st.Paused.getD false = false
  fromNotFrozen : (st.AddressFrozen frm).getD false = false
  toNotFrozen : (st.AddressFrozen to').getD false = false
  free : amount ≤ bal st frm - frz st frm
  verifierSet : st.IdentityVerifier.isSome = true
  fromVerified : envr.IdentityVerifierClient_verify_identity frm = .ok ()
  toVerified : envr.IdentityVerifierClient_verify_identity to' = .ok ()
  complianceSet : st.Compliance.isSome = true
  compliant : envr.ComplianceClient_can_transfer frm to' amount = .ok true

theorem paused_eq (envr : Rwa.Reads) (st : Rwa.Store) : Rwa.paused envr st = .ok (st.Paused.getD false) := rfl

theorem is_frozen_eq (envr : Rwa.Reads) (st : Rwa.Store) (a : Nat) :
    Rwa.is_frozen envr st a = .ok ((st.AddressFrozen a).getD false) := by
  unfold Rwa.is_frozen
  cases st.AddressFrozen a <;> rfl

theorem unit_ok {x : Comp Unit} {u : Unit} (h : x = .ok u) : x = .ok () := h

/-- **`validate_transfer` returns only through every gate** -/
theorem gen_validate_sound (envr : Rwa.Reads) (st : Rwa.Store) (frm to' : Nat) (amount : Int)
    (h : Rwa.validate_transfer envr st frm to' amount = .ok ()) : Gates envr st frm to' amount := by
  unfold Rwa.validate_transfer at h
  rw [paused_eq, is_frozen_eq, is_frozen_eq] at h
  simp only [Comp.bind_ok] at h
  obtain ⟨hp, h⟩ := Comp.guard_eq_ok h
  obtain ⟨hf1, h⟩ := Comp.guard_eq_ok h
  obtain ⟨hf2, h⟩ := Comp.guard_eq_ok h
  obtain ⟨free, hfree, h⟩ := Comp.bind_eq_ok h
  obtain ⟨hlt, h⟩ := Comp.guard_eq_ok h
  have hfv := free_ok hfree
  obtain ⟨iv, hiv, h⟩ := Comp.bind_eq_ok h
  obtain ⟨u1, hv1, h⟩ := Comp.bind_eq_ok h
  obtain ⟨u2, hv2, h⟩ := Comp.bind_eq_ok h
  obtain ⟨cc, hc, h⟩ := Comp.bind_eq_ok h
  obtain ⟨b, hct, h⟩ := Comp.bind_eq_ok h
  obtain ⟨hb, -⟩ := Comp.guard_eq_ok h
  obtain rfl : b = true := Decidable.not_not.mp hb
  obtain ⟨_, eiv, -⟩ := Comp.unwrap_eq_ok hiv
  obtain ⟨_, ec, -⟩ := Comp.unwrap_eq_ok hc
  exact ⟨by simpa using hp, by simpa using hf1, by simpa using hf2, by omega, by rw [eiv]; rfl,
    hv1, hv2, by rw [ec]; rfl, hct⟩

/-- **an accepted generated `transfer` was authorized by the holder and passed every gate** -/
theorem gen_transfer_gated (envr : Rwa.Reads) (st st' : Rwa.Store) (frm to' : Nat) (amount : Int)
    (h : Rwa.transfer envr st frm to' amount = .ok ((), st')) :
    envr.authorized frm = true ∧ Gates envr st frm to' amount := by
  obtain ⟨ha, h⟩ := Comp.require_eq_ok h
  obtain ⟨u, hv, -⟩ := Comp.bind_eq_ok h
  exact ⟨ha, gen_validate_sound envr st frm to' amount hv⟩

/-- **an accepted generated `transfer_from` was authorized by the spender and passed every gate** -/
theorem gen_transfer_from_gated (envr : Rwa.Reads) (st st' : Rwa.Store) (sp frm to' : Nat) (amount : Int)
    (h : Rwa.transfer_from envr st sp frm to' amount = .ok ((), st')) :
    envr.authorized sp = true ∧ Gates envr st frm to' amount := by
  obtain ⟨ha, h⟩ := Comp.require_eq_ok h
  obtain ⟨u, hv, -⟩ := Comp.bind_eq_ok h
  exact ⟨ha, gen_validate_sound envr st frm to' amount hv⟩

/-- **an accepted generated `mint`**: the receiver's identity was verified and the compliance contract
answered `can_create = true` -/
theorem gen_mint_gated (envr : Rwa.Reads) (st st' : Rwa.Store) (to' : Nat) (amount : Int)
    (h : Rwa.mint envr st to' amount = .ok ((), st')) :
    envr.IdentityVerifierClient_verify_identity to' = .ok () ∧ envr.ComplianceClient_can_create to' amount = .ok true := by
  unfold Rwa.mint at h
  obtain ⟨iv, -, h⟩ := Comp.bind_eq_ok h
  obtain ⟨u, hv, h⟩ := Comp.bind_eq_ok h
  obtain ⟨cc, -, h⟩ := Comp.bind_eq_ok h
  obtain ⟨b, hcc, h⟩ := Comp.bind_eq_ok h
  obtain ⟨hb, -⟩ := Comp.guard_eq_ok h
  obtain rfl : b = true := Decidable.not_not.mp hb
  exact ⟨hv, hcc⟩

/-! ### each closed gate alone blocks -/

/-- a holder-initiated movement that does NOT satisfy `Gates` is refused by `transfer` and `transfer_from`,
whatever else holds -/
theorem gen_closed_gate_blocks (envr : Rwa.Reads) (st : Rwa.Store) (sp frm to' : Nat) (amount : Int)
    (hg : ¬ Gates envr st frm to' amount) :
    Rwa.transfer envr st frm to' amount = .panic ∧ Rwa.transfer_from envr st sp frm to' amount = .panic := by
  constructor
  · cases h : Rwa.transfer envr st frm to' amount with
    | panic => rfl
    | ok r => obtain ⟨u, st'⟩ := r; exact absurd (gen_transfer_gated envr st st' frm to' amount h).2 hg
  · cases h : Rwa.transfer_from envr st sp frm to' amount with
    | panic => rfl
    | ok r => obtain ⟨u, st'⟩ := r; exact absurd (gen_transfer_from_gated envr st st' sp frm to' amount h).2 hg

theorem gen_paused_blocks (envr : Rwa.Reads) (st : Rwa.Store) (sp frm to' : Nat) (amount : Int) (hp : st.Paused = some true) :
    Rwa.transfer envr st frm to' amount = .panic ∧ Rwa.transfer_from envr st sp frm to' amount = .panic :=
  gen_closed_gate_blocks envr st sp frm to' amount (fun g => by have := g.notPaused; rw [hp] at this; cases this)

theorem gen_frozen_blocks (envr : Rwa.Reads) (st : Rwa.Store) (sp frm to' : Nat) (amount : Int)
    (hf : st.AddressFrozen frm = some true ∨ st.AddressFrozen to' = some true) :
    Rwa.transfer envr st frm to' amount = .panic ∧ Rwa.transfer_from envr st sp frm to' amount = .panic :=
  gen_closed_gate_blocks envr st sp frm to' amount (fun g => by
    rcases hf with h | h
    · have := g.fromNotFrozen; rw [h] at this; cases this
    · have := g.toNotFrozen; rw [h] at this; cases this)

theorem gen_frozen_amount_blocks (envr : Rwa.Reads) (st : Rwa.Store) (sp frm to' : Nat) (amount : Int)
    (hf : bal st frm - frz st frm < amount) :
    Rwa.transfer envr st frm to' amount = .panic ∧ Rwa.transfer_from envr st sp frm to' amount = .panic :=
  gen_closed_gate_blocks envr st sp frm to' amount (fun g => by have := g.free; omega)

theorem gen_unverified_blocks (envr : Rwa.Reads) (st : Rwa.Store) (sp frm to' : Nat) (amount : Int)
    (hv : envr.IdentityVerifierClient_verify_identity frm = .panic ∨ envr.IdentityVerifierClient_verify_identity to' = .panic) :
    Rwa.transfer envr st frm to' amount = .panic ∧ Rwa.transfer_from envr st sp frm to' amount = .panic :=
  gen_closed_gate_blocks envr st sp frm to' amount (fun g => by
    rcases hv with h | h
    · have := g.fromVerified; rw [h] at this; cases this
    · have := g.toVerified; rw [h] at this; cases this)

theorem gen_non_compliant_blocks (envr : Rwa.Reads) (st : Rwa.Store) (sp frm to' : Nat) (amount : Int)
    (hc : envr.ComplianceClient_can_transfer frm to' amount ≠ .ok true) :
    Rwa.transfer envr st frm to' amount = .panic ∧ Rwa.transfer_from envr st sp frm to' amount = .panic :=
  gen_closed_gate_blocks envr st sp frm to' amount (fun g => hc g.compliant)

/-! ### non-vacuity: the generated gated transfer runs -/

/- `demo`, `hooks` of OZ/Props/C04Gen.lean: account 1 holds 100 of which 30 are frozen; the verifier refuses 6, compliance refuses receiver 5 -/
example : ((Rwa.transfer hooks demo 1 2 70).bind fun r => Comp.ok (r.2.Balance 1, r.2.Balance 2)) = .ok (some 30, some 70) := by decide
example : ((Rwa.transfer hooks demo 1 2 71).bind fun _ => Comp.ok ()) = .panic := by decide     -- 71 > 100 − 30
example : ((Rwa.transfer hooks demo 1 6 10).bind fun _ => Comp.ok ()) = .panic := by decide     -- 6 is not verified
example : ((Rwa.transfer hooks demo 1 5 10).bind fun _ => Comp.ok ()) = .panic := by decide     -- not compliant
example : ((Rwa.transfer hooks { demo with Paused := some true } 1 2 10).bind fun _ => Comp.ok ()) = .panic := by decide

end OZ.Gen.Rwa
