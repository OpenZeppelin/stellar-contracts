import OZ.Gen.Timelock
import OZ.Model.Timelock
/-
C08 — the reported state of an operation, re-checked against the SOURCE on every run.

`lean/OZ/Gen/Timelock.lean` is regenerated by `/verif/tools/rs2lean.py --timelock` from /repo's current
`packages/governance/src/timelock/storage.rs` (`get_operation_state`, `operation_exists`,
`is_operation_pending`, `is_operation_ready`, `is_operation_done`), with the sentinels `UNSET_LEDGER` /
`DONE_LEDGER` and the enum `OperationState` as `timelock/mod.rs` defines them.  What these functions read
— the stored ready ledger of the operation (`get_operation_ledger(e, operation_id)`) and the current
ledger (`e.ledger().sequence()`) — are the two fields of the record `Timelock.Reads`; the translator rejects
any other call.  Proved here: the generated classification is exactly the model's `stateOf`, and the four
boolean views say what the state says.
-/
namespace OZ.Gen.Timelock
open OZ.Rs OZ.Timelock

/-- the enum of the source and the enum of the model -/
def st : OperationState → OpState
  | .Unset => .unset
  | .Waiting => .waiting
  | .Ready => .ready
  | .Done => .done

/-- what the functions read in model state `s` for operation `id` -/
def readsOf (s : OZ.Timelock.State) (id : Id) : Reads := ⟨getOperationLedger s id, s.now⟩

/-- **`get_operation_state`**: never panics, and classifies exactly like the model — Unset for the
sentinel 0, Done for the sentinel 1, Waiting while the ready ledger is still ahead, Ready from the ready
ledger on -/
theorem get_operation_state_eq (r : Reads) (id : Nat) :
    ∃ v, get_operation_state r id = .ok v ∧ st v = stateOf r.get_operation_ledger r.ledger_sequence := by
  unfold get_operation_state stateOf UNSET_LEDGER DONE_LEDGER
  by_cases h0 : r.get_operation_ledger = 0
  · exact ⟨.Unset, by rw [if_pos h0], by rw [if_pos h0]; rfl⟩
  by_cases h1 : r.get_operation_ledger = 1
  · exact ⟨.Done, by rw [if_neg h0, if_pos h1], by rw [if_neg h0, if_pos h1]; rfl⟩
  by_cases hw : r.get_operation_ledger > r.ledger_sequence
  · exact ⟨.Waiting, by rw [if_neg h0, if_neg h1, if_pos hw], by rw [if_neg h0, if_neg h1, if_pos hw]; rfl⟩
  · exact ⟨.Ready, by rw [if_neg h0, if_neg h1, if_neg hw], by rw [if_neg h0, if_neg h1, if_neg hw]; rfl⟩

theorem get_operation_state_model (s : OZ.Timelock.State) (id : Id) (n : Nat) :
    ∃ v, get_operation_state (readsOf s id) n = .ok v ∧ st v = getOperationState s id :=
  get_operation_state_eq (readsOf s id) n

theorem st_injective (a b : OperationState) (h : st a = st b) : a = b := by
  cases a <;> cases b <;> first | rfl | cases h

/-- **the four views** of the source agree with the model's -/
theorem views_eq (s : OZ.Timelock.State) (id : Id) (n : Nat) :
    operation_exists (readsOf s id) n = .ok (operationExists s id) ∧
    is_operation_pending (readsOf s id) n = .ok (isOperationPending s id) ∧
    is_operation_ready (readsOf s id) n = .ok (isOperationReady s id) ∧
    is_operation_done (readsOf s id) n = .ok (isOperationDone s id) := by
  obtain ⟨v, hv, hs⟩ := get_operation_state_model s id n
  unfold operation_exists is_operation_pending is_operation_ready is_operation_done
    operationExists isOperationPending isOperationReady isOperationDone
  rw [hv, ← hs]
  simp only [Comp.bind_ok]
  cases v <;> simp [st]

/-- **consistency of the views with the state, on the source as translated**: whatever is stored and
whatever the ledger, `operation_exists` ⇔ state ≠ Unset, `is_operation_pending` ⇔ Waiting ∨ Ready,
`is_operation_ready` ⇔ Ready, `is_operation_done` ⇔ Done -/
theorem gen_views_consistent (r : Reads) (n : Nat) :
    ∃ v, get_operation_state r n = .ok v ∧
      operation_exists r n = .ok (decide (v ≠ .Unset)) ∧
      is_operation_pending r n = .ok (decide (v = .Waiting ∨ v = .Ready)) ∧
      is_operation_ready r n = .ok (decide (v = .Ready)) ∧
      is_operation_done r n = .ok (decide (v = .Done)) := by
  obtain ⟨v, hv, -⟩ := get_operation_state_eq r n
  refine ⟨v, hv, ?_, ?_, ?_, ?_⟩ <;>
    simp only [operation_exists, is_operation_pending, is_operation_ready, is_operation_done, hv, Comp.bind_ok]

/-- an operation becomes Ready exactly at its ready ledger, not one ledger earlier -/
theorem gen_ready_exactly_at_ready_ledger (ready now n : Nat) (h2 : 2 ≤ ready) :
    (get_operation_state ⟨ready, now⟩ n = .ok .Ready ↔ ready ≤ now) ∧
    (get_operation_state ⟨ready, now⟩ n = .ok .Waiting ↔ now < ready) := by
  unfold get_operation_state
  simp only
  rw [if_neg (by omega), if_neg (by omega)]
  by_cases hw : ready > now
  · rw [if_pos hw]
    refine ⟨⟨fun h => ?_, fun h => ?_⟩, ⟨fun _ => hw, fun _ => rfl⟩⟩
    · injection h with h; cases h
    · omega
  · rw [if_neg hw]
    refine ⟨⟨fun _ => by omega, fun _ => rfl⟩, ⟨fun h => ?_, fun h => ?_⟩⟩
    · injection h with h; cases h
    · omega

/-! ### non-vacuity -/
example : get_operation_state ⟨105, 104⟩ 0 = .ok .Waiting := by decide
example : get_operation_state ⟨105, 105⟩ 0 = .ok .Ready := by decide
example : is_operation_pending ⟨1, 105⟩ 0 = .ok false := by decide

end OZ.Gen.Timelock
