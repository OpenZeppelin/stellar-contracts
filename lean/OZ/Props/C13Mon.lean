import OZ.Lemmas.VotesMonChecks
/-
C13 — soundness of the MONITOR that decides the property on implementation traces.

`./check C13` reports a concrete violation exactly when `OZ.Votes.Mon.checkCore` (the driver's
monitor on parsed values, OZ/Model/VotesMon.lean) returns a message on the implementation's
observations. Here it is proved that on the observations of the MODEL the monitor never
returns a message: for each of the three contracts (`kind` = example token / harness fungible
wrapper / harness non-fungible wrapper), every host configuration, every start ledger and every
finite sequence of well-formed op lines over the observed accounts
(`monitor_accepts_every_model_trace`). Consequences:

  * an implementation whose observations agree with the model's (the correspondence the check
    establishes by differential testing) can never raise a monitor alarm — a monitor failure is
    never a false alarm of the monitor itself;
  * every conclusion the monitor evaluates (get_votes = Σ balances delegated, total = Σ
    balances, units = balance, get_delegate = the accepted delegations, every past query = the
    row recorded when that ledger ended and 0 before the start, current / future ledgers refused,
    a rejected call changes nothing, moving the ledger changes no current value, at most one
    new checkpoint per account and ledger, no negative balance, no failing getter) is a THEOREM
    about the model, in the monitor's own executable wording.

What the statement ranges over: op lines are the parsed fields (`Parsed`) exactly as the driver
hands them to the model (`mstep`) and to the monitor; `Valid` = the line is an entry point of
the contract under test and names only the observed accounts `0 .. N-1` (the observation line
carries exactly these accounts — the universe assumption of the sum statements of
OZ/Props/C13.lean; authorizing accounts are unrestricted). The model's observation is
`modelObs` (OZ/Lemmas/VotesMonChecks.lean): field by field what the driver's `showState`
prints and `parseObs` reads back. Not covered (string level, trusted): `parse`, `parseObs`,
`showState` and the two `site=votes.parse` alarms of the driver.
-/
namespace OZ.Votes.Mon
open OZ.Host OZ.Votes

/-- the model's answer to an op line: `mstep`, a line that is no entry point (`bad-op` in the
driver; excluded by `Valid`) leaving the model alone -/
def mstepD (m : M) (p : Parsed) : M × Bool := (mstep m p).getD (m, false)

/-- **the model step, as the monitor's checks need it**: from a reachable state a well-formed op
line is one `Step` (OZ/Lemmas/VotesMon.lean), and the contract under test stays the same -/
theorem model_step (start : Nat) {m : M} {p : Parsed} (hv : Valid m.kind p) (hi : VInv start (viewOf m)) :
    Step start (viewOf m) (viewOf (mstepD m p).1) p (mstepD m p).2 ∧ (mstepD m p).1.kind = m.kind := by
  unfold mstepD
  cases hk : m.kind with
  | nft =>
    rw [hk] at hv
    obtain ⟨op, hop, hU⟩ := hv
    have hms : mstep m p = some (okM m (fun s' => { m with nf := s' })
        (OZ.NonFungibleVotes.apply m.cfg m.nf p.auth op)) := by
      unfold mstep; simp only [hk, hop]
    rw [hms, ← hk]
    exact okM_sound _ _ (fun _ => rfl) hi (fun s' ha => nft_step_sound hk hop hU hi ha)
      (fun hadv => by rw [(nftOp_view hop).2.2 hadv]; exact ⟨_, rfl⟩)
  | ex | fvb =>
    rw [hk] at hv
    obtain ⟨op, hop, hU⟩ := hv
    have hne : m.kind ≠ .nft := by rw [hk]; exact fun e => nomatch e
    have hms : mstep m p = some (okM m (fun s' => { m with fv := s' })
        (if m.kind = .ex then OZ.FungibleVotes.exampleApply m.cfg OWNER m.fv p.auth op
         else OZ.FungibleVotes.apply m.cfg m.fv p.auth op)) := by
      unfold mstep; simp only [hk, hop]
    rw [hms, ← hk]
    exact okM_sound _ _ (fun _ => rfl) hi
      (fun s' ha => fv_step_sound hne hop hU hi (by split at ha; exact OZ.FungibleVotes.exampleApply_ok ha; exact ha))
      (fun hadv => by rw [(fvOp_view hop).2.2 hadv]; exact ⟨_, ite_self _⟩)

/-- **one call**: fed with the model's own observation of any well-formed call (accepted or
rejected), the monitor reports nothing and its state keeps describing the model's -/
theorem monitor_sound_step (start : Nat) {mon : Mon} {m : M} (hi : VInv start (viewOf m))
    (hA : Agree start mon (viewOf m)) (p : Parsed) (raw : String) (hv : Valid m.kind p) :
    (checkCore mon p (modelObs (mstepD m p).1 p.q (mstepD m p).2) raw).2 = none ∧
    Agree start (checkCore mon p (modelObs (mstepD m p).1 p.q (mstepD m p).2) raw).1
      (viewOf (mstepD m p).1) := by
  obtain ⟨st, _⟩ := model_step start hv hi
  have ho : IsObs (viewOf (mstepD m p).1) p.q (modelObs (mstepD m p).1 p.q (mstepD m p).2) :=
    obsOf_isObs st.inv'.inv.wfAll _ _
  have hok : (modelObs (mstepD m p).1 p.q (mstepD m p).2).ok = (mstepD m p).2 := rfl
  generalize modelObs (mstepD m p).1 p.q (mstepD m p).2 = o at ho hok
  generalize viewOf (mstepD m p).1 = w' at st ho
  generalize (mstepD m p).2 = ok at st hok
  generalize viewOf m = w at hi hA st
  -- the ghost delegates and the ghost table after this call describe the new model state
  have hdel : delStep mon.del p o.ok = delL w'.v := by rw [hA.gdel, hok, ← st.did.del]
  have htab : TableOK (tableStep mon p o) w'.v := tableStep_ok hi hA st
  have hcore : checkCore mon p o raw =
      ({ mon with prev := o, del := delStep mon.del p o.ok, table := tableStep mon p o, lastCp := lastCpStep mon o },
       verdict mon p o) := by
    unfold checkCore; rw [if_neg (by rw [ho.failed]; exact Bool.false_ne_true)]
  rw [hcore]
  constructor
  · show verdict mon p o = none
    unfold verdict
    rw [hdel, hA.start, chkIdle_quiet hA st ho, chkFuture_quiet ho, chkVotes_quiet st.inv' ho,
      chkTotal_quiet st.inv' ho, chkUnits_quiet st.inv' ho, chkDelegate_quiet ho,
      chkHistory_quiet st.inv' ho htab, chkRollback_quiet hA st ho hok, chkNegative_quiet st.inv' ho,
      cpFail_quiet hA st ho]
    rfl
  · exact ⟨hA.start, ho.now, ho.bal, ho.votes, ho.del, ho.ts, .inr ho.units, .inl ho.ncp, hdel, htab,
      fun hex => lastCpStep_agree hA st ho hex⟩

/-- the monitor run over a whole history of model observations: first message, if any (`raw` is
the text of the observation line, which the monitor only quotes in one message) -/
def monitorRun : Mon → M → List (Parsed × String) → Option String
  | _, _, [] => none
  | mon, m, x :: rest =>
    match (checkCore mon x.1 (modelObs (mstepD m x.1).1 x.1.q (mstepD m x.1).2) x.2).2 with
    | some msg => some msg
    | none =>
      monitorRun (checkCore mon x.1 (modelObs (mstepD m x.1).1 x.1.q (mstepD m x.1).2) x.2).1
        (mstepD m x.1).1 rest

/-- **monitor soundness**: for each of the three contracts, every host configuration, every
start ledger (= all parameters of a sequence label; `monInit start` is what the driver's `minit`
builds, `M.init k c start` what its `init` builds) and every finite history of well-formed op
lines — any entry points, amounts, token ids, authorizing subsets, queried ledgers, any number
of calls per ledger, any ledger movement — the monitor reports nothing on the model's
observations -/
theorem monitor_accepts_every_model_trace (k : Kind) (c : Cfg) (start : Nat) (ps : List (Parsed × String))
    (hv : ∀ x ∈ ps, Valid k x.1) : monitorRun (monInit start) (M.init k c start) ps = none := by
  suffices ∀ mon m, m.kind = k → VInv start (viewOf m) → Agree start mon (viewOf m) →
      monitorRun mon m ps = none from
    this _ _ rfl (init_vinv k c start) (init_agree k c start)
  induction ps with
  | nil => intro mon m _ _ _; rfl
  | cons x xs ih =>
    intro mon m hk hi hA
    have hvx : Valid m.kind x.1 := by rw [hk]; exact hv x List.mem_cons_self
    obtain ⟨h1, h2⟩ := monitor_sound_step start hi hA x.1 x.2 hvx
    obtain ⟨st, hk'⟩ := model_step start hvx hi
    unfold monitorRun
    rw [h1]
    exact ih (fun y hy => hv y (List.mem_cons_of_mem _ hy)) _ _ (by rw [hk', hk]) st.inv' h2

/-! ### a finding about the monitor: a false alarm of `votes.future` without its range condition

`chkFutureOld` is the check `votes.future` as `o.fut ≠ "rej"` alone. The flag lumps the probes
"current ledger, next ledger, u32::MAX" together. The model's ledger is a `Nat`: started beyond
u32::MAX (which no host can do) the third probe asks about a PAST ledger, the model answers it —
as the property demands of a past query — and prints `fut=acc`, on which `chkFutureOld` raises
`site=votes.future`: a false alarm on a model trace. `chkFuture` carries the condition under
which the flag means something (`o.now ≤ U32_MAX`, true of every observation a harness can
print), so it demands exactly what the property states. -/

/-- the check without that condition -/
def chkFutureOld (o : Obs) : Option String :=
  if o.fut ≠ "rej" then
    some s!"site=votes.future a query for the current or a future ledger was answered: {o.fut}"
  else none

/-- a well-formed op line of the harness fungible contract -/
def advance0 : Parsed := ⟨"advance", [], 0, 0, 0, 0, [], []⟩

theorem old_monitor_false_alarm :
    Valid .fvb advance0 ∧
    (chkFutureOld (modelObs (mstepD (M.init .fvb ⟨1, 200000⟩ (U32_MAX + 1)) advance0).1 advance0.q
      (mstepD (M.init .fvb ⟨1, 200000⟩ (U32_MAX + 1)) advance0).2)).isSome = true ∧
    chkFuture (modelObs (mstepD (M.init .fvb ⟨1, 200000⟩ (U32_MAX + 1)) advance0).1 advance0.q
      (mstepD (M.init .fvb ⟨1, 200000⟩ (U32_MAX + 1)) advance0).2) = none := by
  refine ⟨⟨.advance 0, rfl, fun a ha => by cases ha⟩, ?_, ?_⟩
  · have : (modelObs (mstepD (M.init .fvb ⟨1, 200000⟩ (U32_MAX + 1)) advance0).1 advance0.q
        (mstepD (M.init .fvb ⟨1, 200000⟩ (U32_MAX + 1)) advance0).2).fut = "acc" := by decide
    unfold chkFutureOld
    rw [this]
    rfl
  · exact chkFuture_quiet (obsOf_isObs (w := viewOf (mstepD (M.init .fvb ⟨1, 200000⟩ (U32_MAX + 1)) advance0).1)
      (model_step (U32_MAX + 1) (m := M.init .fvb ⟨1, 200000⟩ (U32_MAX + 1))
        ⟨.advance 0, rfl, fun a ha => by cases ha⟩ (init_vinv _ _ _)).1.inv'.inv.wfAll _ _)

/-- within the host's range the two are the same check -/
theorem chkFuture_eq_old (o : Obs) (h : o.now ≤ U32_MAX) : chkFuture o = chkFutureOld o := by
  unfold chkFuture chkFutureOld
  by_cases hf : o.fut ≠ "rej"
  · rw [if_pos ⟨hf, h⟩, if_pos hf]
  · rw [if_neg (fun x => hf x.1), if_neg hf]

/-- the universe assumption of `Valid` is needed: the observation carries the accounts
`0 .. N-1` only, so units held by an account outside (here 7, delegating to 1) are votes of 1
that no observed balance explains -/
def mintOutside : List Parsed :=
  [⟨"delegate", [7, 1], 0, 0, 0, 0, [7], []⟩, ⟨"mint", [7], 100, 0, 0, 0, [], []⟩]

example :
    (modelObs ((mstepD (mstepD (M.init .fvb ⟨1, 200000⟩ 100) mintOutside[0]).1 mintOutside[1]).1) [] true).votes
      = [0, 100, 0, 0, 0] ∧
    (modelObs ((mstepD (mstepD (M.init .fvb ⟨1, 200000⟩ 100) mintOutside[0]).1 mintOutside[1]).1) [] true).bal
      = [0, 0, 0, 0, 0] := by decide

/-! ### non-vacuity: the monitor is not trivially silent -/

/-- a well-formed history of the harness fungible contract (mint, delegate, transfer, ledger
movement, a rejected call, past queries) meets the hypotheses of the theorem -/
def demoTrace : List (Parsed × String) :=
  [(⟨"mint", [0], 1000, 0, 0, 0, [], [99, 100]⟩, ""),
   (⟨"delegate", [0, 1], 0, 0, 0, 0, [0], [100]⟩, ""),
   (⟨"transfer", [0, 2], 400, 0, 0, 0, [0], []⟩, ""),
   (⟨"advance", [], 0, 0, 0, 5, [], [100, 104, 105]⟩, ""),
   (⟨"delegate", [2, 2], 0, 0, 0, 0, [3], []⟩, ""),
   (⟨"burn", [0], 100, 0, 0, 0, [0], [0, 99, 100, 104]⟩, "")]

example : ∀ x ∈ demoTrace, Valid .fvb x.1 := by
  intro x hx
  simp only [demoTrace, List.mem_cons, List.mem_nil_iff, or_false] at hx
  rcases hx with rfl | rfl | rfl | rfl | rfl | rfl
  · exact ⟨.mint 0 1000, rfl, by decide⟩
  · exact ⟨.delegate 0 1, rfl, by decide⟩
  · exact ⟨.transfer 0 2 400, rfl, by decide⟩
  · exact ⟨.advance 5, rfl, by decide⟩
  · exact ⟨.delegate 2 2, rfl, by decide⟩
  · exact ⟨.burn 0 100, rfl, by decide⟩

/-- the model state after a history, and (`outcomes`) which of its calls were accepted -/
def runModel (m : M) : List (Parsed × String) → M
  | [] => m
  | x :: xs => runModel (mstepD m x.1).1 xs

def outcomes (m : M) : List (Parsed × String) → List Bool
  | [] => []
  | x :: xs => (mstepD m x.1).2 :: outcomes (mstepD m x.1).1 xs

/-- the model under `demoTrace`: five calls accepted, one rejected (wrong signer), and the
observation the monitor is fed at the end -/
example :
    outcomes (M.init .fvb ⟨1, 200000⟩ 100) demoTrace = [true, true, true, true, false, true] ∧
    (modelObs (runModel (M.init .fvb ⟨1, 200000⟩ 100) demoTrace) [99, 105] true).votes = [0, 500, 0, 0, 0] ∧
    (modelObs (runModel (M.init .fvb ⟨1, 200000⟩ 100) demoTrace) [99, 105] true).bal = [500, 0, 400, 0, 0] ∧
    (modelObs (runModel (M.init .fvb ⟨1, 200000⟩ 100) demoTrace) [99, 105] true).hist =
      [(99, ["0", "0", "0", "0", "0", "0"]), (105, ["E", "E", "E", "E", "E", "E"])] := by decide

/-- account 0 holds 1000 and delegates to 1, but `get_votes(1)` shows 900 -/
def badVotesObs : Obs :=
  { ok := true, now := 100, bal := [1000, 0, 0, 0, 0], units := none,
    del := [some 1, none, none, none, none], votes := [0, 900, 0, 0, 0], ncp := none, ts := 1000,
    fut := "rej", hist := [], failed := false }

def demoMon : Mon := { (monInit 100) with del := [some 1, none, none, none, none] }

def demoMint : Parsed := ⟨"mint", [0], 1000, 0, 0, 0, [], []⟩

/-- on an observation whose votes are not the delegated balances the monitor fires -/
example : (checkCore demoMon demoMint badVotesObs "").2.isSome = true := by
  have h1 : chkIdle demoMon demoMint badVotesObs = none := by unfold chkIdle; rw [if_neg (by decide)]
  have h2 : chkFuture badVotesObs = none := by unfold chkFuture; rw [if_neg (by decide)]
  have h3 : delStep demoMon.del demoMint badVotesObs.ok = [some 1, none, none, none, none] := by decide
  have h4 : badVotes [some 1, none, none, none, none] badVotesObs = some 1 := by decide
  show (verdict demoMon demoMint badVotesObs).isSome = true
  unfold verdict chkVotes
  rw [h1, h2, h3, h4]
  rfl

/-- ledger 102 ended with votes 1000 for account 0, a later query for it answers 900 -/
def badHistObs : Obs :=
  { ok := true, now := 105, bal := [1000, 0, 0, 0, 0], units := none,
    del := [some 0, none, none, none, none], votes := [1000, 0, 0, 0, 0], ncp := none, ts := 1000,
    fut := "rej", hist := [(102, ["900", "0", "0", "0", "0", "1000"])], failed := false }

def demoMon2 : Mon :=
  { start := 100, prev := { badHistObs with hist := [] }, del := [some 0, none, none, none, none],
    table := [(100, 105, ["1000", "0", "0", "0", "0", "1000"])], lastCp := List.replicate N none }

def demoApprove : Parsed := ⟨"approve", [0, 1], 5, 0, 200, 0, [0], [102]⟩

/-- and on a past query that differs from the row recorded when that ledger ended -/
example : (checkCore demoMon2 demoApprove badHistObs "").2.isSome = true := by
  have h1 : chkIdle demoMon2 demoApprove badHistObs = none := by unfold chkIdle; rw [if_neg (by decide)]
  have h2 : chkFuture badHistObs = none := by unfold chkFuture; rw [if_neg (by decide)]
  have h3 : delStep demoMon2.del demoApprove badHistObs.ok = [some 0, none, none, none, none] := by decide
  have h4 : badVotes [some 0, none, none, none, none] badHistObs = none := by decide
  have h5 : chkTotal badHistObs = none := by unfold chkTotal; rw [if_neg (by decide)]
  have h6 : chkUnits badHistObs = none := by unfold chkUnits; rw [if_neg (by decide)]
  have h7 : chkDelegate [some 0, none, none, none, none] badHistObs = none := by
    unfold chkDelegate; rw [if_neg (by decide)]
  have h8 : badHistObs.hist.find? (histBad demoMon2.start (tableStep demoMon2 demoApprove badHistObs) badHistObs)
      = some (102, ["900", "0", "0", "0", "0", "1000"]) := by decide
  show (verdict demoMon2 demoApprove badHistObs).isSome = true
  unfold verdict chkVotes chkHistory
  rw [h1, h2, h3, h4, h5, h6, h7, h8]
  rfl

end OZ.Votes.Mon
