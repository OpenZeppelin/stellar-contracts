import OZ.Gen.Compliance
import OZ.Lemmas.Comp
import OZ.Lemmas.RegGen
import OZ.Lemmas.RegList
import OZ.Lemmas.Lists
/-
C04 / C20 — the compliance contract's module dispatcher, re-checked on every run against the SOURCE.

`lean/OZ/Gen/Compliance.lean` is regenerated by `/verif/tools/rs2lean.py --compliance` (state-passing mode) from /repo's
current `packages/tokens/src/rwa/compliance/storage.rs`: `get_modules_for_hook`, `is_module_registered`,
`add_module_to`, `remove_module_from`, `transferred`, `created`, `destroyed`, `can_transfer`, `can_create`,
`require_auth_from_bound_token` (+ `ComplianceHook`, `MAX_MODULES` of `mod.rs`). The module contracts' five entry points
are functions of the reads record that may trap; `is_token_bound` (the token binder of the same contract, translated
and proved in OZ/Props/C20GenBinder.lean) is a boolean function of the reads record. The theorems are about the
generated code itself; none links it to the hand model `OZ.Rwa`.

C04: "the compliance contract approves the transfer" = EVERY registered module approves (`gen_can_transfer_iff`,
`gen_can_create_iff`); every movement is reported to EVERY module (`gen_transferred_iff`, `gen_created_iff`,
`gen_destroyed_iff`: no module is skipped).
C20: the hook → modules registry is the set it represents: every history of accepted or refused changes keeps every
hook's list duplicate-free and at most `MAX_MODULES` long (`run_wf`); `is_module_registered` is membership.
-/
namespace OZ.Gen.Compliance
open OZ.Rs

def mods (st : Compliance.Store) (h : ComplianceHook) : List Nat := (st.HookModules h).getD []

theorem get_modules_eq (envr : Compliance.Reads) (st : Compliance.Store) (h : ComplianceHook) :
    Compliance.get_modules_for_hook envr st h = .ok (mods st h) := by
  unfold Compliance.get_modules_for_hook mods
  cases st.HookModules h <;> rfl

theorem any_eq_mem (l : List Nat) (m : Nat) : (List.any l (fun x => decide (x = m))) = decide (m ∈ l) := by
  rw [Bool.eq_iff_iff, List.any_eq_true, decide_eq_true_iff]
  exact ⟨fun ⟨x, hx, e⟩ => of_decide_eq_true e ▸ hx, fun h => ⟨m, h, decide_eq_true rfl⟩⟩

theorem is_module_registered_eq (envr : Compliance.Reads) (st : Compliance.Store) (h : ComplianceHook) (m : Nat) :
    Compliance.is_module_registered envr st h m = .ok (decide (m ∈ mods st h)) := by
  unfold Compliance.is_module_registered
  rw [get_modules_eq, Comp.bind_ok, any_eq_mem]

/-! ### the two questions -/

/-- the verdict loop of `can_transfer` / `can_create`, for any module call -/
theorem verdict_iff (call : Nat → Comp Bool) (loop : List Nat → Comp (Option Bool)) (hnil : loop [] = .ok none)
    (hcons : ∀ m rest, loop (m :: rest) =
      Comp.bind (call m) fun t2 => if ¬ (t2 = true) then Comp.ok (some false) else loop rest) (ms : List Nat) :
    ((Comp.bind (loop ms) fun r3 => optCase r3 (fun v4 => Comp.ok v4) (Comp.ok true)) = .ok true ↔
      ∀ m ∈ ms, call m = .ok true) ∧
    ((Comp.bind (loop ms) fun r3 => optCase r3 (fun v4 => Comp.ok v4) (Comp.ok true)) = .ok false →
      ∃ m ∈ ms, call m = .ok false) := by
  induction ms with
  | nil => rw [hnil]; exact ⟨⟨fun _ m hm => (by cases hm), fun _ => rfl⟩, fun h => (by cases h)⟩
  | cons m rest ih =>
    rw [hcons]
    cases hm : call m with
    | panic =>
      refine ⟨⟨fun h => (by cases h), fun h => ?_⟩, fun h => (by cases h)⟩
      have := h m List.mem_cons_self; rw [hm] at this; cases this
    | ok b =>
      cases b with
      | false =>
        refine ⟨⟨fun h => (by cases h), fun h => ?_⟩, fun _ => ⟨m, List.mem_cons_self, hm⟩⟩
        have := h m List.mem_cons_self; rw [hm] at this; cases this
      | true =>
        simp only [Comp.bind_ok, not_true_eq_false, ↓reduceIte, List.forall_mem_cons]
        exact ⟨⟨fun h => ⟨hm, ih.1.1 h⟩, fun h => ih.1.2 h.2⟩,
          fun h => let ⟨x, hx, h2⟩ := ih.2 h; ⟨x, List.mem_cons_of_mem _ hx, h2⟩⟩

/-- **C04, "the compliance contract approves the transfer"**: the generated `can_transfer` answers `true` exactly when
EVERY module registered for the hook answers `true`; an answer `false` comes from a module that answered `false` -/
theorem gen_can_transfer_iff (envr : Compliance.Reads) (st : Compliance.Store) (f t : Nat) (amt : Int) (tok : Nat) :
    (Compliance.can_transfer envr st f t amt tok = .ok true ↔
      ∀ m ∈ mods st .CanTransfer, envr.ComplianceModuleClient_can_transfer m f t amt tok = .ok true) ∧
    (Compliance.can_transfer envr st f t amt tok = .ok false →
      ∃ m ∈ mods st .CanTransfer, envr.ComplianceModuleClient_can_transfer m f t amt tok = .ok false) := by
  unfold Compliance.can_transfer
  rw [get_modules_eq, Comp.bind_ok]
  exact verdict_iff (fun m => envr.ComplianceModuleClient_can_transfer m f t amt tok)
    (fun xs => Compliance.can_transfer.loop1 envr xs st amt f (mods st .CanTransfer) t tok) rfl (fun _ _ => rfl) _

/-- the same for `can_create` (mint) -/
theorem gen_can_create_iff (envr : Compliance.Reads) (st : Compliance.Store) (t : Nat) (amt : Int) (tok : Nat) :
    (Compliance.can_create envr st t amt tok = .ok true ↔
      ∀ m ∈ mods st .CanCreate, envr.ComplianceModuleClient_can_create m t amt tok = .ok true) ∧
    (Compliance.can_create envr st t amt tok = .ok false →
      ∃ m ∈ mods st .CanCreate, envr.ComplianceModuleClient_can_create m t amt tok = .ok false) := by
  unfold Compliance.can_create
  rw [get_modules_eq, Comp.bind_ok]
  exact verdict_iff (fun m => envr.ComplianceModuleClient_can_create m t amt tok)
    (fun xs => Compliance.can_create.loop1 envr xs st amt (mods st .CanCreate) t tok) rfl (fun _ _ => rfl) _

/-! ### the three notifications -/

theorem guard_iff (envr : Compliance.Reads) (st : Compliance.Store) (tok : Nat) :
    Compliance.require_auth_from_bound_token envr st tok = .ok () ↔
      envr.authorized tok = true ∧ envr.is_token_bound tok = true :=
  ⟨fun h => ⟨(Comp.require_eq_ok h).1, (Comp.require_eq_ok (Comp.require_eq_ok h).2).1⟩,
    fun h => (if_pos h.1).trans (if_pos h.2)⟩

theorem notify_iff (envr : Compliance.Reads) (st : Compliance.Store) (tok : Nat) (call : Nat → Comp Unit)
    (loop : List Nat → Comp Unit) (hnil : loop [] = .ok ())
    (hcons : ∀ m rest, loop (m :: rest) = Comp.bind (call m) fun _ => loop rest) (ms : List Nat) :
    (Comp.bind (Compliance.require_auth_from_bound_token envr st tok) fun _ =>
      Comp.bind (loop ms) fun _ => Comp.ok ()) = .ok () ↔
      envr.authorized tok = true ∧ envr.is_token_bound tok = true ∧ ∀ m ∈ ms, call m = .ok () := by
  rw [← Comp.forEach_ok_iff hnil hcons ms, ← and_assoc, ← guard_iff envr st tok]
  constructor
  · intro h
    obtain ⟨_, hg, h⟩ := Comp.bind_eq_ok h
    obtain ⟨_, hl, -⟩ := Comp.bind_eq_ok h
    exact ⟨hg, hl⟩
  · rintro ⟨hg, hl⟩; rw [hg, hl]; rfl

/-- **C04, every movement is reported to every module**: `transferred` succeeds exactly when the calling token
authorized the call, is bound to this compliance contract, and EVERY module registered for the hook accepted its
`on_transfer` call (none is skipped; a trapping module traps the whole notification) -/
theorem gen_transferred_iff (envr : Compliance.Reads) (st : Compliance.Store) (f t : Nat) (amt : Int) (tok : Nat) :
    Compliance.transferred envr st f t amt tok = .ok () ↔
      envr.authorized tok = true ∧ envr.is_token_bound tok = true ∧
        ∀ m ∈ mods st .Transferred, envr.ComplianceModuleClient_on_transfer m f t amt tok = .ok () := by
  unfold Compliance.transferred
  rw [get_modules_eq]
  exact notify_iff envr st tok (fun m => envr.ComplianceModuleClient_on_transfer m f t amt tok)
    (fun xs => Compliance.transferred.loop1 envr xs st amt f (mods st .Transferred) t tok) rfl (fun _ _ => rfl) _

theorem gen_created_iff (envr : Compliance.Reads) (st : Compliance.Store) (t : Nat) (amt : Int) (tok : Nat) :
    Compliance.created envr st t amt tok = .ok () ↔
      envr.authorized tok = true ∧ envr.is_token_bound tok = true ∧
        ∀ m ∈ mods st .Created, envr.ComplianceModuleClient_on_created m t amt tok = .ok () := by
  unfold Compliance.created
  rw [get_modules_eq]
  exact notify_iff envr st tok (fun m => envr.ComplianceModuleClient_on_created m t amt tok)
    (fun xs => Compliance.created.loop1 envr xs st amt (mods st .Created) t tok) rfl (fun _ _ => rfl) _

theorem gen_destroyed_iff (envr : Compliance.Reads) (st : Compliance.Store) (f : Nat) (amt : Int) (tok : Nat) :
    Compliance.destroyed envr st f amt tok = .ok () ↔
      envr.authorized tok = true ∧ envr.is_token_bound tok = true ∧
        ∀ m ∈ mods st .Destroyed, envr.ComplianceModuleClient_on_destroyed m f amt tok = .ok () := by
  unfold Compliance.destroyed
  rw [get_modules_eq]
  exact notify_iff envr st tok (fun m => envr.ComplianceModuleClient_on_destroyed m f amt tok)
    (fun xs => Compliance.destroyed.loop1 envr xs st amt f (mods st .Destroyed) tok) rfl (fun _ _ => rfl) _

/-! ### the registry -/

/-- `add_module_to`: accepted exactly when the module is not registered for the hook and the hook has room; it is
appended to that hook's list, the other hooks are untouched -/
theorem add_module_to_spec (envr : Compliance.Reads) (st : Compliance.Store) (h : ComplianceHook) (m : Nat) :
    Compliance.add_module_to envr st h m =
      if m ∈ mods st h ∨ (mods st h).length ≥ 20 then .panic
      else .ok ((), Compliance.Store.set_HookModules st h (mods st h ++ [m])) := by
  unfold Compliance.add_module_to
  rw [get_modules_eq, Comp.bind_ok, any_eq_mem, Comp.refuse_or]
  simp only [decide_eq_true_eq]

/-- `remove_module_from`: accepted exactly when the module is registered for the hook (lists shorter than 2^32); its
first (under `Wf`: only) occurrence is erased, the other hooks are untouched -/
theorem remove_module_from_spec (envr : Compliance.Reads) (st : Compliance.Store) (h : ComplianceHook) (m : Nat)
    (hlen : (mods st h).length < 2 ^ 32) :
    Compliance.remove_module_from envr st h m =
      if m ∈ mods st h then .ok ((), Compliance.Store.set_HookModules st h ((mods st h).erase m)) else .panic := by
  unfold Compliance.remove_module_from
  rw [get_modules_eq, Comp.bind_ok, any_eq_mem]
  by_cases hm : m ∈ mods st h
  · obtain ⟨i, hf, he⟩ := OZ.RegGen.position_of_mem hm (Nat.le_of_lt hlen)
    rw [if_pos (decide_eq_true hm), hf, Comp.unwrap_some, he, if_pos hm]
  · simp [hm]

/-- every hook's list is duplicate-free and within the documented capacity -/
def Wf (st : Compliance.Store) : Prop := ∀ h, (mods st h).Nodup ∧ (mods st h).length ≤ 20

inductive Op
  | add (h : ComplianceHook) (m : Nat)
  | remove (h : ComplianceHook) (m : Nat)

/-- a failed invocation is rolled back by the host -/
def step (st : Compliance.Store) : Op → Compliance.Store
  | .add h m => match Compliance.add_module_to ⟨fun _ => true, fun _ => true, fun _ _ _ _ _ => .ok (), fun _ _ _ _ => .ok (),
      fun _ _ _ _ => .ok (), fun _ _ _ _ _ => .ok true, fun _ _ _ _ => .ok true⟩ st h m with | .ok r => r.2 | .panic => st
  | .remove h m => match Compliance.remove_module_from ⟨fun _ => true, fun _ => true, fun _ _ _ _ _ => .ok (), fun _ _ _ _ => .ok (),
      fun _ _ _ _ => .ok (), fun _ _ _ _ _ => .ok true, fun _ _ _ _ => .ok true⟩ st h m with | .ok r => r.2 | .panic => st

def run (st : Compliance.Store) (ops : List Op) : Compliance.Store := ops.foldl step st

theorem mods_set (st : Compliance.Store) (h h' : ComplianceHook) (v : List Nat) :
    mods (Compliance.Store.set_HookModules st h v) h' = if h' = h then v else mods st h' := by
  unfold mods Compliance.Store.set_HookModules
  by_cases e : h' = h <;> simp [e]

theorem Wf.set {st : Compliance.Store} (hW : Wf st) (h : ComplianceHook) {v : List Nat} (hn : v.Nodup)
    (hl : v.length ≤ 20) : Wf (Compliance.Store.set_HookModules st h v) := by
  intro h'
  rw [mods_set]
  split
  · exact ⟨hn, hl⟩
  · exact hW h'

theorem step_wf (st : Compliance.Store) (hW : Wf st) (o : Op) : Wf (step st o) := by
  cases o with
  | add h m =>
    simp only [step]
    rw [add_module_to_spec]
    by_cases hc : m ∈ mods st h ∨ (mods st h).length ≥ 20
    · rw [if_pos hc]; exact hW
    · rw [if_neg hc]
      refine hW.set h (OZ.Reg.nodup_append_singleton (hW h).1 fun x => hc (Or.inl x)) ?_
      have : ¬ (mods st h).length ≥ 20 := fun x => hc (Or.inr x)
      rw [List.length_append, List.length_singleton]; omega
  | remove h m =>
    simp only [step]
    rw [remove_module_from_spec _ _ _ _ (Nat.lt_of_le_of_lt (hW h).2 (by decide))]
    by_cases hc : m ∈ mods st h
    · rw [if_pos hc]
      exact hW.set h ((hW h).1.sublist List.erase_sublist) (Nat.le_trans List.erase_sublist.length_le (hW h).2)
    · rw [if_neg hc]; exact hW

/-- **every history**: the hook → modules registry stays a family of duplicate-free lists within the capacity -/
theorem run_wf (ops : List Op) : ∀ st, Wf st → Wf (run st ops) :=
  OZ.Lists.foldl_inv (fun st o h => step_wf st h o) ops

theorem wf_empty : Wf ⟨fun _ => none⟩ := fun _ => ⟨List.nodup_nil, by simp [mods]⟩

/-- non-vacuity: two modules on `CanTransfer`, one of them refuses amounts above 100 -/
def demoEnv : Compliance.Reads :=
  { authorized := fun a => a == 9, is_token_bound := fun a => a == 9
    ComplianceModuleClient_on_transfer := fun m _ _ _ _ => if m = 3 then .panic else .ok ()
    ComplianceModuleClient_on_created := fun _ _ _ _ => .ok ()
    ComplianceModuleClient_on_destroyed := fun _ _ _ _ => .ok ()
    ComplianceModuleClient_can_transfer := fun m _ _ amt _ => .ok (m != 2 || decide (amt ≤ 100))
    ComplianceModuleClient_can_create := fun _ _ _ _ => .ok true }

example :
    let st := run ⟨fun _ => none⟩ [.add .CanTransfer 1, .add .CanTransfer 2, .add .CanTransfer 1, .add .Transferred 1]
    Compliance.can_transfer demoEnv st 5 6 100 9 = .ok true ∧ Compliance.can_transfer demoEnv st 5 6 101 9 = .ok false ∧
      Compliance.transferred demoEnv st 5 6 100 9 = .ok () ∧ Compliance.transferred demoEnv st 5 6 100 8 = .panic ∧
      Compliance.transferred demoEnv (step st (.add .Transferred 3)) 5 6 100 9 = .panic := by
  decide

end OZ.Gen.Compliance
