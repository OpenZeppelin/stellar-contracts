import OZ.Lemmas.RegTopics
/-
C20 (b): the claim-topics-and-issuers registry (`ClaimTopics`, `TrustedIssuers`,
`IssuerClaimTopics(issuer)`, `ClaimTopicIssuers(topic)`) represents the plain sets of topics and
of trusted issuers and the plain relation
  rel s i t  :=  "trusted issuer i may emit topic t"
under ANY history of add/remove claim topic, add/remove trusted issuer and
`update_issuer_claim_topics` (arbitrary arguments, failed calls rolled back).
-/
namespace OZ.Props.C20b
open OZ.Reg OZ.RegTopics

/-- **topics_refines.** After any history every getter answers as the plain sets / relation do. -/
theorem topics_refines (ops : List Op) :
    let s := run init ops
    (getClaimTopics s).Nodup ∧ (getTrustedIssuers s).Nodup ∧
    (∀ i, isTrustedIssuer s i = true ↔ i ∈ getTrustedIssuers s) ∧
    (∀ t, (getClaimTopicIssuers s t = none ↔ t ∉ getClaimTopics s) ∧
          ∀ l, getClaimTopicIssuers s t = some l → l.Nodup ∧ ∀ i, i ∈ l ↔ rel s i t) ∧
    (∀ i, (getTrustedIssuerClaimTopics s i = none ↔ i ∉ getTrustedIssuers s) ∧
          ∀ l, getTrustedIssuerClaimTopics s i = some l → l.Nodup ∧ ∀ t, t ∈ l ↔ rel s i t) ∧
    (∀ i t, (hasClaimTopic s i t = none ↔ i ∉ getTrustedIssuers s) ∧
            ∀ b, hasClaimTopic s i t = some b → (b = true ↔ rel s i t)) ∧
    (∃ m, getClaimTopicsAndIssuers s = some m ∧ m.map (·.1) = getClaimTopics s ∧
          ∀ t l, (t, l) ∈ m → ∀ i, i ∈ l ↔ rel s i t) := by
  intro s
  have hI : Inv s := inv_run inv_init ops
  refine ⟨hI.tN, hI.iN, ?_, ?_, ?_, ?_, ?_⟩
  · intro i; simp [isTrustedIssuer, getTrustedIssuers]
  · intro t
    unfold getClaimTopicIssuers getClaimTopics
    constructor
    · rw [← not_congr (hI.tiDom t)]; simp
    · intro l hl
      refine ⟨hI.tiN t l hl, fun i => ?_⟩
      rw [rel_iff, hI.twoWay, hl, memO_some]
  · intro i
    unfold getTrustedIssuerClaimTopics getTrustedIssuers
    constructor
    · rw [← not_congr (hI.itDom i)]; simp
    · intro l hl
      refine ⟨hI.itN i l hl, fun t => ?_⟩
      rw [rel_iff, hl, memO_some]
  · intro i t
    unfold hasClaimTopic getTrustedIssuers
    rw [← not_congr (hI.itDom i), rel_iff]
    cases s.issuerTopics i with
    | none => simp
    | some l => simp [memO_some]
  · -- the map getter never hits a missing entry
    refine ⟨_, getClaimTopicsAndIssuers_eq hI, ?_, fun t l h i => ?_⟩
    · rw [List.map_map]
      exact List.map_id _
    · obtain ⟨t', _, e⟩ := List.mem_map.1 h
      cases e
      rw [rel_iff, hI.twoWay, memO_iff_getD]

/-- **topics_abs_step.** The represented sets and relation move exactly as plain sets do. -/
theorem topics_abs_step (s : State) (hI : Inv s) :
    (∀ t s', addClaimTopic s t = .ok s' →
      (∀ t', t' ∈ s'.topics ↔ (t' ∈ s.topics ∨ t' = t)) ∧ s'.issuers = s.issuers ∧
      ∀ i t', rel s' i t' ↔ rel s i t') ∧
    (∀ t s', removeClaimTopic s t = .ok s' →
      (∀ t', t' ∈ s'.topics ↔ (t' ∈ s.topics ∧ t' ≠ t)) ∧ s'.issuers = s.issuers ∧
      ∀ i t', rel s' i t' ↔ (rel s i t' ∧ t' ≠ t)) ∧
    (∀ i ts s', addTrustedIssuer s i ts = .ok s' →
      s'.topics = s.topics ∧ (∀ i', i' ∈ s'.issuers ↔ (i' ∈ s.issuers ∨ i' = i)) ∧
      ∀ i' t, rel s' i' t ↔ (rel s i' t ∨ (i' = i ∧ t ∈ ts))) ∧
    (∀ i s', removeTrustedIssuer s i = .ok s' →
      s'.topics = s.topics ∧ (∀ i', i' ∈ s'.issuers ↔ (i' ∈ s.issuers ∧ i' ≠ i)) ∧
      ∀ i' t, rel s' i' t ↔ (rel s i' t ∧ i' ≠ i)) ∧
    (∀ i ts s', updateIssuerClaimTopics s i ts = .ok s' →
      s'.topics = s.topics ∧ s'.issuers = s.issuers ∧
      ∀ i' t, rel s' i' t ↔ ((i' = i ∧ t ∈ ts) ∨ (i' ≠ i ∧ rel s i' t))) := by
  refine ⟨?_, ?_, ?_, ?_, ?_⟩
  · intro t s' h
    obtain ⟨_, rfl⟩ := (addClaimTopic_ok_iff s s' t).1 h
    exact ⟨fun t' => by simp [addTopic'], rfl, fun _ _ => Iff.rfl⟩
  · intro t s' h
    obtain ⟨_, rfl⟩ := (removeClaimTopic_ok_iff s s' t).1 h
    refine ⟨fun t' => ?_, rfl, fun i t' => ?_⟩
    · show t' ∈ s.topics.erase t ↔ _
      rw [hI.tN.mem_erase_iff]; exact And.comm
    · exact hI.core.memO_dropTopicFromIssuers t i t'
  · intro i ts s' h
    obtain ⟨⟨_, _, hn⟩, rfl⟩ := (addTrustedIssuer_ok_iff hI s' i ts).1 h
    refine ⟨rfl, fun i' => by simp [addIssuer'], fun i' t => ?_⟩
    show memO (updD s.issuerTopics i (some ts) i') t ↔ _
    rw [memO_updD, memO_some]
    -- the new issuer had no entry
    exact Or.comm.trans (or_congr_left
      (and_iff_right_of_imp fun h e => hn ((hI.itDom i).1 (memO_isSome (e ▸ h)))))
  · intro i s' h
    obtain ⟨_, its, _, rfl⟩ := (removeTrustedIssuer_ok_iff hI s' i).1 h
    refine ⟨rfl, fun i' => ?_, fun i' t => ?_⟩
    · show i' ∈ s.issuers.erase i ↔ _
      rw [hI.iN.mem_erase_iff]; exact And.comm
    · exact (memO_updD_none s.issuerTopics i i' t).trans And.comm
  · intro i ts s' h
    obtain ⟨_, old, _, rfl⟩ := (update_ok_iff hI s' i ts).1 h
    refine ⟨rfl, rfl, fun i' t => ?_⟩
    show memO (updD s.issuerTopics i (some ts) i') t ↔ _
    rw [memO_updD, memO_some]
    exact Iff.rfl

/-- **topics_dup_refused.** A listed topic / issuer cannot be added again; a topic vector with a
repetition is refused. -/
theorem topics_dup_refused (s : State) (hs : Reachable s) :
    (∀ t, t ∈ s.topics → ∃ e, addClaimTopic s t = .error e) ∧
    (∀ i ts, i ∈ s.issuers → ∃ e, addTrustedIssuer s i ts = .error e) ∧
    (∀ i ts, ¬ ts.Nodup → (∃ e, addTrustedIssuer s i ts = .error e) ∧
                           ∃ e, updateIssuerClaimTopics s i ts = .error e) := by
  have hI := reachable_inv hs
  refine ⟨?_, ?_, ?_⟩
  · intro t ht
    exact err_of_not_ok (fun s' h => ((addClaimTopic_ok_iff s s' t).1 h).1.2 ht)
  · intro i ts hi
    exact err_of_not_ok (fun s' h => ((addTrustedIssuer_ok_iff hI s' i ts).1 h).1.2.2 hi)
  · intro i ts hnd
    exact ⟨err_of_not_ok (fun s' h => hnd ((addTrustedIssuer_ok_iff hI s' i ts).1 h).1.1.2.2.1),
           err_of_not_ok (fun s' h => hnd ((update_ok_iff hI s' i ts).1 h).1.1.2.2.1)⟩

/-- **topics_absent_refused.** Removing an unlisted topic or issuer, updating an unlisted issuer,
or naming an unlisted topic is refused. -/
theorem topics_absent_refused (s : State) (hs : Reachable s) :
    (∀ t, t ∉ s.topics → ∃ e, removeClaimTopic s t = .error e) ∧
    (∀ i, i ∉ s.issuers → ∃ e, removeTrustedIssuer s i = .error e) ∧
    (∀ i ts, i ∉ s.issuers → ∃ e, updateIssuerClaimTopics s i ts = .error e) ∧
    (∀ i ts t, t ∈ ts → t ∉ s.topics → (∃ e, addTrustedIssuer s i ts = .error e) ∧
                                        ∃ e, updateIssuerClaimTopics s i ts = .error e) := by
  have hI := reachable_inv hs
  refine ⟨?_, ?_, ?_, ?_⟩
  · intro t ht
    exact err_of_not_ok (fun s' h => ht ((removeClaimTopic_ok_iff s s' t).1 h).1)
  · intro i hi
    exact err_of_not_ok (fun s' h => hi ((removeTrustedIssuer_ok_iff hI s' i).1 h).1)
  · intro i ts hi
    exact err_of_not_ok (fun s' h => hi ((update_ok_iff hI s' i ts).1 h).1.2)
  · intro i ts t ht hn
    exact ⟨err_of_not_ok (fun s' h => hn (((addTrustedIssuer_ok_iff hI s' i ts).1 h).1.1.2.2.2 t ht)),
           err_of_not_ok (fun s' h => hn (((update_ok_iff hI s' i ts).1 h).1.1.2.2.2 t ht))⟩

/-- **topics_limit_exact.** In a reachable state a new topic is accepted exactly while fewer than
`MAX_CLAIM_TOPICS = 15` are listed (the 15th accepted, the 16th refused), and a new issuer with
a valid topic vector exactly while fewer than `MAX_ISSUERS = 50` are listed. -/
theorem topics_limit_exact (s : State) (hs : Reachable s) :
    (∀ t, t ∉ s.topics →
      ((∃ s', addClaimTopic s t = .ok s') ↔ s.topics.length < 15) ∧
      (s.topics.length = 14 → ∃ s', addClaimTopic s t = .ok s') ∧
      (s.topics.length = 15 → ∃ e, addClaimTopic s t = .error e)) ∧
    (∀ i ts, i ∉ s.issuers → ts ≠ [] → ts.Nodup → (∀ t, t ∈ ts → t ∈ s.topics) →
      ((∃ s', addTrustedIssuer s i ts = .ok s') ↔ s.issuers.length < 50) ∧
      (s.issuers.length = 49 → ∃ s', addTrustedIssuer s i ts = .ok s') ∧
      (s.issuers.length = 50 → ∃ e, addTrustedIssuer s i ts = .error e)) := by
  have hI := reachable_inv hs
  constructor
  · intro t ht
    exact limit_exact rfl ⟨fun ⟨s', h⟩ => ((addClaimTopic_ok_iff s s' t).1 h).1.1,
      fun hl => ⟨_, (addClaimTopic_ok_iff s _ t).2 ⟨⟨hl, ht⟩, rfl⟩⟩⟩
  · intro i ts hi hne hnd hsub
    -- a duplicate-free vector of listed topics is no longer than the list of topics
    have hlen := Nat.le_trans (hnd.length_le_of_subset fun t ht => hsub t ht) hI.tLe
    exact limit_exact rfl ⟨fun ⟨s', h⟩ => ((addTrustedIssuer_ok_iff hI s' i ts).1 h).1.2.1,
      fun hl => ⟨_, (addTrustedIssuer_ok_iff hI _ i ts).2 ⟨⟨⟨hne, hlen, hnd, hsub⟩, hl, hi⟩, rfl⟩⟩⟩

/-- **topics_enumerates_once.** In a reachable state index access into each of the stored vectors
is a bijection between `0..len-1` and the set it represents: the topic list, the issuer list,
the issuers of a topic (= the issuers related to it) and the topics of an issuer. -/
theorem topics_enumerates_once (s : State) (hs : Reachable s) :
    (∀ (i j : Nat) t, s.topics[i]? = some t → s.topics[j]? = some t → i = j) ∧
    (∀ (i j : Nat) x, s.issuers[i]? = some x → s.issuers[j]? = some x → i = j) ∧
    (∀ t l, s.topicIssuers t = some l →
      (∀ x, rel s x t ↔ ∃ i : Nat, l[i]? = some x) ∧
      ∀ (i j : Nat) x, l[i]? = some x → l[j]? = some x → i = j) ∧
    (∀ x l, s.issuerTopics x = some l →
      (∀ t, rel s x t ↔ ∃ i : Nat, l[i]? = some t) ∧
      ∀ (i j : Nat) t, l[i]? = some t → l[j]? = some t → i = j) := by
  have hI := reachable_inv hs
  refine ⟨nodup_index_inj _ hI.tN, nodup_index_inj _ hI.iN, ?_, ?_⟩
  · intro t l hl
    refine ⟨fun x => ?_, nodup_index_inj _ (hI.tiN t l hl)⟩
    rw [rel_iff, hI.twoWay, hl, memO_some]; exact List.mem_iff_getElem?
  · intro x l hl
    refine ⟨fun t => ?_, nodup_index_inj _ (hI.itN x l hl)⟩
    rw [rel_iff, hl, memO_some]; exact List.mem_iff_getElem?

/-- **topics_two_way_consistent.** After any history: issuer ∈ `ClaimTopicIssuers(topic)` ⇔
topic ∈ `IssuerClaimTopics(issuer)`; every related topic is a listed topic and every related
issuer a trusted issuer. -/
theorem topics_two_way_consistent (ops : List Op) (i t : Nat) :
    let s := run init ops
    ((∃ l, s.topicIssuers t = some l ∧ i ∈ l) ↔ (∃ l, s.issuerTopics i = some l ∧ t ∈ l)) ∧
    (rel s i t → t ∈ s.topics ∧ i ∈ s.issuers) := by
  intro s
  have hI : Inv s := inv_run inv_init ops
  refine ⟨(hI.twoWay i t).symm, fun h => ⟨hI.itSub i t h, (hI.itDom i).1 (memO_isSome h)⟩⟩

def okB (r : Except RErr State) : Bool := match r with | .ok _ => true | .error _ => false

/-- fifteen topics are accepted, the sixteenth is not; an issuer for two of them is mirrored -/
example :
    let s := run init ((List.range 15).map Op.addTopic ++ [Op.addIssuer 7 [3, 1]])
    s.topics.length = 15 ∧ okB (addClaimTopic s 15) = false ∧
    s.topicIssuers 3 = some [7] ∧ s.issuerTopics 7 = some [3, 1] ∧
    (next s (.removeTopic 3)).issuerTopics 7 = some [1] := by decide +kernel

end OZ.Props.C20b
