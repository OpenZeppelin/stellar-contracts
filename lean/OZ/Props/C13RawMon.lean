import OZ.Model.VotesRawMon
import OZ.Lemmas.Votes
/-
C13 — soundness of the monitor of the raw vote-tracking library run (OZ/Model/VotesRawMon.lean,
harness/src/bin/c13raw.rs, driver OZ/Drv/C13Raw.lean): fed with the MODEL's own observations of any finite history of
`transfer_voting_units` (mint, burn, transfer; amounts over all of `u128` and beyond), `delegate` and ledger
movements among the accounts 0..4, the monitor reports nothing. A report on the implementation's observations is
therefore a behaviour the model — for which OZ/Props/C13.lean proves the property — cannot show.
-/
namespace OZ.Votes.RawMon
open OZ.Votes

theorem uf_model (s : State) (ok : Bool) (i : Nat) (hi : i < N) : uf (modelObs s ok) i = s.units i := by
  unfold uf modelObs; simp only; rw [OZ.Host.getElem?_map_range _ hi]; rfl

theorem df_model (s : State) (ok : Bool) (i : Nat) (hi : i < N) : df (modelObs s ok) i = s.delegatee i := by
  unfold df modelObs; simp only; rw [OZ.Host.getElem?_map_range _ hi]; rfl

theorem vf_model (s : State) (ok : Bool) (i : Nat) (hi : i < N) : vf (modelObs s ok) i = votesOf s i := by
  unfold vf modelObs; simp only; rw [OZ.Host.getElem?_map_range _ hi]; rfl

/-- **one observation**: in every model state satisfying the invariant of the reachable states (over the accounts
0..4), the supply and the delegated-units checks are silent; the rollback check is silent whenever a refused
call is observed in the state the previous observation was taken in -/
theorem check_sound (s : State) (hi : Inv (List.range N) s) (ok : Bool) (prev : Option Obs)
    (hp : ok = false → ∀ p, prev = some p → same (modelObs s ok) p = true) :
    checkCore prev (modelObs s ok) = none := by
  unfold checkCore
  have htot : (modelObs s ok).total = sumN (List.range N) (uf (modelObs s ok)) := by
    show latestVotes s.total = _
    rw [hi.total]
    exact sumN_congr_mem _ _ _ (fun d hd => (uf_model s ok d (List.mem_range.mp hd)).symm)
  rw [if_neg (by rw [← htot]; simp)]
  have hfind : (List.range N).find? (fun a => decide (vf (modelObs s ok) a ≠ delegatedObs (modelObs s ok) a)) = none := by
    rw [List.find?_eq_none]
    intro a ha
    have ha' := List.mem_range.mp ha
    simp only [decide_eq_true_eq, ne_eq, Decidable.not_not]
    rw [vf_model s ok a ha', hi.votes a]
    unfold delegatedObs delegatedTo
    exact (sumN_congr_mem _ _ _ (fun d hd => by
      rw [df_model s ok d (List.mem_range.mp hd), uf_model s ok d (List.mem_range.mp hd)])).symm
  rw [hfind]
  simp only
  cases prev with
  | none => rfl
  | some p =>
    simp only
    rw [if_neg]
    rintro ⟨h1, h2⟩
    have h1' : ok = false := h1
    rw [hp h1' p rfl] at h2
    cases h2

/-- the monitor run over a whole history of model observations: first message, if any -/
def monRun : Option Obs → State → List (List Nat × Op) → Option String
  | _, _, [] => none
  | prev, s, x :: rest =>
    match apply s x.1 x.2 with
    | .ok s' =>
      (match checkCore prev (modelObs s' true) with
       | some m => some m
       | none => monRun (some (modelObs s' true)) s' rest)
    | .error _ =>
      (match checkCore prev (modelObs s false) with
       | some m => some m
       | none => monRun (some (modelObs s false)) s rest)

theorem same_self (s : State) (a b : Bool) : same (modelObs s a) (modelObs s b) = true := by
  simp [same, modelObs]

/-- **monitor soundness**: for every start ledger and every finite history of library calls among the accounts
0..4 (any amounts, any signers), the monitor reports nothing on the model's observations -/
theorem monitor_accepts_every_model_trace (now0 : Nat) (ops : List (List Nat × Op))
    (hU : ∀ x ∈ ops, ∀ a ∈ x.2.addrs, a < N) : monRun none (init now0) ops = none := by
  suffices h : ∀ (s : State) (prev : Option Obs), Inv (List.range N) s →
      (∀ p, prev = some p → ∃ b, p = modelObs s b) → monRun prev s ops = none by
    exact h (init now0) none (init_inv _ now0) (fun p hp => by cases hp)
  induction ops with
  | nil => intro s prev _ _; rfl
  | cons x xs ih =>
    intro s prev hi hprev
    have hUx : ∀ a ∈ x.2.addrs, a ∈ List.range N := fun a ha => List.mem_range.mpr (hU x List.mem_cons_self a ha)
    have hU' : ∀ y ∈ xs, ∀ a ∈ y.2.addrs, a < N := fun y hy => hU y (List.mem_cons_of_mem _ hy)
    unfold monRun
    cases hx : apply s x.1 x.2 with
    | ok s' =>
      simp only
      have hi' : Inv (List.range N) s' := apply_inv List.nodup_range hi x.1 x.2 hUx hx
      rw [check_sound s' hi' true prev (fun h => by cases h)]
      exact ih hU' s' _ hi' (fun p hp => by injection hp with hp; exact ⟨true, hp.symm⟩)
    | error e =>
      simp only
      rw [check_sound s hi false prev (fun _ p hp => by
        obtain ⟨b, hb⟩ := hprev p hp
        rw [hb]; exact same_self s false b)]
      exact ih hU' s _ hi (fun p hp => by injection hp with hp; exact ⟨false, hp.symm⟩)

/-- non-vacuity: a history that reaches the top of the `u128` range (accepted and refused issuance) -/
example : ∀ x ∈ ([([], Op.transferUnits none (some 0) (U128_MAX - 10)), ([], Op.transferUnits none (some 1) 11),
    ([1], Op.delegate 1 2), ([], Op.transferUnits none (some 1) 10)] : List (List Nat × Op)), ∀ a ∈ x.2.addrs, a < N := by
  decide

end OZ.Votes.RawMon
