import OZ.Lemmas.VotesTokens
/-
C13 — Voting power equals delegated balances, now and at every past ledger.

The model (OZ/Model/Votes.lean) mirrors
packages/governance/src/votes/storage.rs (`transfer_voting_units`, `delegate`,
`move_delegate_votes`, `push_checkpoint`, `lookup_checkpoint_at` with its binary search,
the getters) and the wrappers `FungibleVotes` / `NonFungibleVotes`.

Every statement is about ALL finite histories: arbitrary lists of operations with arbitrary
accounts, amounts (`Nat`, i.e. also beyond u128: the checked arithmetic of the code then
fails and the host rolls back), authorizing subsets, any number of operations inside one
ledger and arbitrary gaps between ledgers, from any start ledger. The statements about
sums range over a duplicate-free universe `U` that contains the accounts the operations
mention (as `total` in OZ.Fungible); the statements about checkpoints and past queries
need no universe at all.
-/
namespace OZ.Votes
open OZ.Host

/-! ### the binary search: termination and well-definedness

`bsearch` (Model/Votes.lean) is the `while low < high` loop with the code's midpoint
`low + (high - low).div_ceil(2)`, a well-founded recursion on `high - low`. The facts that make it
terminate, and make the `u32` arithmetic of the loop safe, are: -/

/-- the midpoint lies strictly above `low` and not above `high`: both branches shrink the
interval (`low := mid`, `high := mid - 1`), `mid - 1` cannot wrap and `mid` cannot exceed a
valid index -/
theorem midpoint_progress (low high : Nat) (h : low < high) :
    low < mid low high ∧ mid low high ≤ high ∧ 1 ≤ mid low high ∧
    high - mid low high < high - low ∧ (mid low high - 1) - low < high - low :=
  ⟨mid_gt h, mid_le h, mid_pos h, Nat.sub_lt_sub_left h (mid_gt h),
    Nat.sub_lt_sub_right (le_mid_pred h) (mid_pred_lt h)⟩

/-- **C13, current votes**: after any history, `get_votes(a)` succeeds and equals the sum
of the voting units of all accounts currently delegating to `a` -/
theorem votes_eq_delegated_units (now0 : Nat) (U : List Nat) (hn : U.Nodup)
    (ops : List (List Nat × Op)) (hU : ∀ x ∈ ops, ∀ a ∈ x.2.addrs, a ∈ U) (a : Nat) :
    getVotes (run (init now0) ops) a = .ok (delegatedTo U (run (init now0) ops) a) :=
  (run_inv hn (init_inv U now0) ops hU).getVotes a

/-- **C13, total**: after any history, `get_total_supply()` succeeds and equals the sum of
all voting units; accounts outside the universe hold none -/
theorem total_eq_sum_units (now0 : Nat) (U : List Nat) (hn : U.Nodup)
    (ops : List (List Nat × Op)) (hU : ∀ x ∈ ops, ∀ a ∈ x.2.addrs, a ∈ U) :
    getTotalSupply (run (init now0) ops) = .ok (sumN U (run (init now0) ops).units) ∧
    ∀ a, a ∉ U → (run (init now0) ops).units a = 0 := by
  have hi := run_inv hn (init_inv U now0) ops hU
  exact ⟨hi.getTotalSupply, hi.outside⟩

/-- a delegate's voting power never exceeds the total supply of voting units -/
theorem votes_le_total (now0 : Nat) (U : List Nat) (hn : U.Nodup)
    (ops : List (List Nat × Op)) (hU : ∀ x ∈ ops, ∀ a ∈ x.2.addrs, a ∈ U) (a : Nat) :
    votesOf (run (init now0) ops) a ≤ latestVotes (run (init now0) ops).total :=
  (run_inv hn (init_inv U now0) ops hU).votes_le_total a

/-! ### the checkpoint timelines -/

/-- **C13, checkpoints**: after any history every timeline (each delegate's and the total
supply's) has an entry at every index below its counter, with strictly increasing ledgers,
none after the current ledger; hence at most one checkpoint per ledger (same-ledger writes
coalesce) and the counter is at most `now + 1` -/
theorem checkpoints_sorted (now0 : Nat) (ops : List (List Nat × Op)) (a : Nat) :
    WF ((run (init now0) ops).tl a) (run (init now0) ops).now ∧
    WF (run (init now0) ops).total (run (init now0) ops).now ∧
    ((run (init now0) ops).tl a).num ≤ (run (init now0) ops).now + 1 := by
  have hw := run_wfAll (init_wfAll now0) ops
  exact ⟨hw.1 a, hw.2, (hw.1 a).num_le⟩

/-- the same as lists: strictly increasing ledgers, all `≤ now` -/
theorem checkpoints_sorted_list (now0 : Nat) (ops : List (List Nat × Op)) (a : Nat) :
    (((run (init now0) ops).tl a).toList.Pairwise (fun c d => c.ledger < d.ledger) ∧
     ∀ c ∈ ((run (init now0) ops).tl a).toList, c.ledger ≤ (run (init now0) ops).now) ∧
    ((run (init now0) ops).total.toList.Pairwise (fun c d => c.ledger < d.ledger) ∧
     ∀ c ∈ (run (init now0) ops).total.toList, c.ledger ≤ (run (init now0) ops).now) := by
  have hw := run_wfAll (init_wfAll now0) ops
  exact ⟨(hw.1 a).toList, hw.2.toList⟩

/-- the unchecked `u32` addition `num + 1` of `push_checkpoint` cannot overflow while the
ledger sequence number itself is below `u32::MAX`: a new entry is only appended when all
existing ones are from earlier ledgers, so there are at most `now` of them -/
theorem counter_never_overflows {t : Timeline} {now : Nat} (hw : WF t now) (hnow : now < U32_MAX)
    (v : Nat) : store t now v ≠ .error .overflowPanic := by
  obtain ⟨t', ht'⟩ := store_succeeds hw hnow v
  rw [ht']
  exact fun e => nomatch e

/-- **C13, lookup**: on a well-formed timeline `lookup_checkpoint_at` (early exits + binary
search) never fails; it returns 0 when no checkpoint lies at or before `q`, and otherwise the
votes of the last checkpoint at or before `q` -/
theorem lookup_correct {t : Timeline} {now : Nat} (hw : WF t now) (q : Nat) :
    ((∀ i c, i < t.num → t.cp i = some c → q < c.ledger) → lookupCheckpointAt t q = .ok 0) ∧
    (∀ i c, i < t.num → t.cp i = some c → c.ledger ≤ q →
      (∀ j cj, i < j → j < t.num → t.cp j = some cj → q < cj.ledger) →
      lookupCheckpointAt t q = .ok c.votes) := by
  rw [lookup_eq_valueAt hw q]
  exact ⟨fun h => by rw [valueAt, scan_none _ _ _ h],
    fun i c hi hc hle hgt => by rw [valueAt, scan_at _ _ _ i c hi hc hle hgt]⟩

set_option linter.unusedVariables false in
/-- one of the two cases of `lookup_correct` always applies: the lookup is total
(`hw` is not used: this much holds of any timeline) -/
theorem lookup_total {t : Timeline} {now : Nat} (hw : WF t now) (q : Nat) :
    (∀ i c, i < t.num → t.cp i = some c → q < c.ledger) ∨
    ∃ i c, i < t.num ∧ t.cp i = some c ∧ c.ledger ≤ q ∧
      ∀ j cj, i < j → j < t.num → t.cp j = some cj → q < cj.ledger :=
  scan_cases t.cp q t.num

/-! ### past queries -/

/-- **C13, future refused**: a query about the current or any later ledger is an error, in
every state -/
theorem future_refused (s : State) (a q : Nat) (h : q ≥ s.now) :
    getVotesAtCheckpoint s a q = .error .futureLookup ∧
    getTotalSupplyAtCheckpoint s q = .error .futureLookup := by
  unfold getVotesAtCheckpoint getTotalSupplyAtCheckpoint
  rw [if_pos h, if_pos h]; exact ⟨rfl, rfl⟩

/-- **C13, history**: run any history together with the ghost that records, whenever the
ledger moves on, the values `get_votes` / `get_total_supply` had at that moment for the
ledgers that thereby end. Then every past query (`q < now`) succeeds and returns exactly the
recorded value (0 for ledgers before the start) -/
theorem past_eq_history (now0 : Nat) (ops : List (List Nat × Op)) (a q : Nat)
    (hq : q < (grun (init now0, Ghost.empty) ops).1.now) :
    getVotesAtCheckpoint (grun (init now0, Ghost.empty) ops).1 a q =
      .ok ((grun (init now0, Ghost.empty) ops).2.votes q a) ∧
    getTotalSupplyAtCheckpoint (grun (init now0, Ghost.empty) ops).1 q =
      .ok ((grun (init now0, Ghost.empty) ops).2.total q) := by
  have hg0 : GInv (init now0, Ghost.empty) := by
    intro q _
    exact ⟨fun _ => rfl, rfl⟩
  have hg := grun_inv (x := (init now0, Ghost.empty)) (init_wfAll now0) hg0 ops
  have hw : WFAll (grun (init now0, Ghost.empty) ops).1 := by
    rw [grun_fst]; exact run_wfAll (init_wfAll now0) ops
  obtain ⟨h1, h2⟩ := hg q hq
  rw [getVotesAt_past hw a hq, getTotalAt_past hw hq, h1 a, h2]
  exact ⟨rfl, rfl⟩

/-- **C13, past immutable**: from any state with well-formed timelines (in particular any
reachable one), no further history changes the answer of a query about a ledger before the
current one -/
theorem past_immutable (s : State) (hw : WFAll s) (ops : List (List Nat × Op)) (a q : Nat)
    (hq : q < s.now) :
    getVotesAtCheckpoint (run s ops) a q = getVotesAtCheckpoint s a q ∧
    getTotalSupplyAtCheckpoint (run s ops) q = getTotalSupplyAtCheckpoint s q := by
  obtain ⟨hn, hp, hpt⟩ := run_samePast s ops
  have hw' := run_wfAll hw ops
  have hq' := Nat.lt_of_lt_of_le hq hn
  rw [getVotesAt_past hw' a hq', getTotalAt_past hw' hq', getVotesAt_past hw a hq, getTotalAt_past hw hq,
    hp a q hq, hpt q hq]
  exact ⟨rfl, rfl⟩

/-- **C13, history without a ghost**: split any history at a point where the ledger moves
from `L` to `L + n`. Whatever happens afterwards, a query for a ledger `q` in `[L, L + n)`
returns the value `get_votes` / `get_total_supply` had right before the ledger moved, i.e.
at the end of ledger `q` -/
theorem past_query_eq_end_of_ledger (now0 : Nat) (pre post : List (List Nat × Op)) (n a q : Nat)
    (auth : List Nat)
    (h1 : (run (init now0) pre).now ≤ q) (h2 : q < (run (init now0) pre).now + n) :
    getVotesAtCheckpoint (run (init now0) (pre ++ (auth, .advance n) :: post)) a q =
      getVotes (run (init now0) pre) a ∧
    getTotalSupplyAtCheckpoint (run (init now0) (pre ++ (auth, .advance n) :: post)) q =
      getTotalSupply (run (init now0) pre) := by
  have hw := run_wfAll (init_wfAll now0) pre
  rw [run_append]
  generalize run (init now0) pre = s at *
  have hs1 : run s ((auth, .advance n) :: post) = run { s with now := s.now + n } post := rfl
  rw [hs1]
  have hw1 : WFAll { s with now := s.now + n } := hw.advance n
  have := past_immutable { s with now := s.now + n } hw1 post a q h2
  rw [this.1, this.2]
  rw [getVotesAt_past hw1 a h2, getTotalAt_past hw1 h2, getVotes, getTotalSupply,
    latest_present (hw.1 a), latest_present hw.2]
  exact ⟨congrArg _ (valueAt_recent (hw.1 a) h1), congrArg _ (valueAt_recent hw.2 h1)⟩

/-- after any history, `get_votes_at_checkpoint` for a ledger before the start ledger `now0`
answers 0 -/
theorem past_before_start (now0 : Nat) (ops : List (List Nat × Op)) (a q : Nat) (hq : q < now0) :
    getVotesAtCheckpoint (run (init now0) ops) a q = .ok 0 := by
  have := (past_immutable (init now0) (init_wfAll now0) ops a q hq).1
  rw [this]
  unfold getVotesAtCheckpoint
  rw [if_neg (by simp [init]; omega)]
  rfl

/-! ### non-vacuity: a concrete history with several operations
per ledger, gaps, a self-transfer, a full-balance transfer, delegation with zero units,
re-delegation, self-delegation, a failed call and a burn -/

def demoOps : List (List Nat × Op) :=
  [([0], .delegate 0 1),                               -- zero units
   ([], .transferUnits none (some 0) 1000),            -- mint at ledger 100
   ([], .transferUnits (some 0) (some 0) 1000),        -- self-transfer, full balance
   ([], .advance 5),
   ([], .transferUnits (some 0) (some 2) 400),         -- ledger 105
   ([2], .delegate 2 2),                               -- self-delegation, same ledger
   ([2], .delegate 2 2),                               -- fails: SameDelegate
   ([], .advance 1),
   ([0], .delegate 0 2),                               -- re-delegation at 106
   ([], .advance 10),
   ([], .transferUnits (some 2) none 150),             -- burn at 116
   ([], .transferUnits (some 3) (some 0) 1),           -- fails: no units
   ([], .advance 4)]

example : ∀ x ∈ demoOps, ∀ a ∈ x.2.addrs, a ∈ [0, 1, 2, 3] := by decide

example : (run (init 100) demoOps).now = 120 ∧
    votesOf (run (init 100) demoOps) 1 = 0 ∧ votesOf (run (init 100) demoOps) 2 = 850 ∧
    delegatedTo [0, 1, 2, 3] (run (init 100) demoOps) 2 = 850 ∧
    latestVotes (run (init 100) demoOps).total = 850 ∧
    ((run (init 100) demoOps).tl 1).num = 3 ∧ ((run (init 100) demoOps).tl 2).num = 3 := by decide

/-- the specification of past lookups on the demo state: before the start, at the first
checkpoint, between checkpoints, at the last one -/
example : valueAt ((run (init 100) demoOps).tl 1) 99 = 0 ∧
    valueAt ((run (init 100) demoOps).tl 1) 100 = 1000 ∧
    valueAt ((run (init 100) demoOps).tl 1) 104 = 1000 ∧
    valueAt ((run (init 100) demoOps).tl 1) 105 = 600 ∧
    valueAt ((run (init 100) demoOps).tl 1) 106 = 0 ∧
    valueAt ((run (init 100) demoOps).tl 2) 105 = 400 ∧
    valueAt ((run (init 100) demoOps).tl 2) 115 = 1000 ∧
    valueAt ((run (init 100) demoOps).tl 2) 119 = 850 ∧
    valueAt (run (init 100) demoOps).total 110 = 1000 := by decide

/-- and the coded binary search returns exactly these -/
example : getVotesAtCheckpoint (run (init 100) demoOps) 1 105 = .ok 600 ∧
    getVotesAtCheckpoint (run (init 100) demoOps) 2 115 = .ok 1000 := by
  have hw := run_wfAll (init_wfAll 100) demoOps
  rw [getVotesAt_past hw 1 (by decide), getVotesAt_past hw 2 (by decide)]
  exact ⟨congrArg _ (by decide), congrArg _ (by decide)⟩

/-- the search itself on a four-entry timeline, unfolded step by step -/
example : lookupCheckpointAt ⟨4, fun i => if i = 0 then some ⟨10, 5⟩ else if i = 1 then some ⟨20, 7⟩
      else if i = 2 then some ⟨30, 9⟩ else if i = 3 then some ⟨40, 1⟩ else none⟩ 25 = .ok 7 := by
  simp [lookupCheckpointAt, lookupFirst, lookupSearch, bsearch, mid, divCeil2]

/-! ### why the loop compares with `<=`: a search that moves `low` only on `<` misses a checkpoint at
the queried ledger (one of the mutations the correspondence check is tried with) -/

/-- `lookup_checkpoint_at` with `checkpoint.ledger < ledger` in the loop: the query at the
exact ledger of a middle checkpoint misses it -/
def bsearchStrict (cp : Nat → Option Checkpoint) (ledger : Nat) (low high : Nat) : Nat → Nat
  | 0 => low
  | fuel + 1 =>
    if low < high then
      match cp (mid low high) with
      | none => low
      | some c =>
        if c.ledger < ledger then bsearchStrict cp ledger (mid low high) high fuel
        else bsearchStrict cp ledger low (mid low high - 1) fuel
    else low

theorem strict_search_counterexample :
    bsearchStrict (fun i => if i = 0 then some ⟨10, 5⟩ else if i = 1 then some ⟨20, 7⟩
      else if i = 2 then some ⟨30, 9⟩ else none) 20 0 2 3 = 0 ∧
    valueAt ⟨3, fun i => if i = 0 then some ⟨10, 5⟩ else if i = 1 then some ⟨20, 7⟩
      else if i = 2 then some ⟨30, 9⟩ else none⟩ 20 = 7 := by decide

end OZ.Votes

/-! ## the fungible wrapper -/
namespace OZ.FungibleVotes
open OZ.Host OZ.Votes

/-- **C13, units = balance (fungible)**: after any history of `FungibleVotes` entry points
(mint, transfer, transfer_from, approve, burn, burn_from, delegate, ledger movement; any
amounts incl. zero / negative / self-transfer, any authorizing subsets) every account's
voting units equal its token balance -/
theorem units_eq_balance (c : Cfg) (now0 : Nat) (ops : List (List Nat × Op)) (a : Nat) :
    ((run c (init now0) ops).v.units a : Int) = (run c (init now0) ops).tok.bal a := by
  refine OZ.Lists.foldl_inv (P := fun s : State => ∀ x, (s.v.units x : Int) = s.tok.bal x)
    (fun s x hs => ?_) ops (init now0) (fun _ => rfl) a
  show ∀ y, ((step c s x).v.units y : Int) = (step c s x).tok.bal y
  unfold step
  cases h : apply c s x.1 x.2 with
  | error e => exact hs
  | ok s' => obtain ⟨a, hb, ha⟩ := apply_ok h; exact (base_spec hb).units ha hs

/-- a wrapper history IS a library-level history on the votes state: every theorem of
`OZ.Votes` above carries over to the token -/
theorem refines_library (c : Cfg) (s : State) (ops : List (List Nat × Op)) :
    (run c s ops).v = OZ.Votes.run s.v (vtrace c s ops) := run_refines c s ops

/-- **C13 for the fungible token**: `get_votes(a)` equals the sum of the token balances of
the accounts delegating to `a`, and `get_total_supply()` the sum of all balances -/
theorem votes_eq_delegated_balances (c : Cfg) (now0 : Nat) (U : List Nat) (hn : U.Nodup)
    (ops : List (List Nat × Op)) (hU : ∀ x ∈ ops, ∀ a ∈ x.2.addrs, a ∈ U) (a : Nat) :
    getVotes (run c (init now0) ops).v a =
      .ok (sumN U (fun d => if (run c (init now0) ops).v.delegatee d = some a
        then ((run c (init now0) ops).tok.bal d).toNat else 0)) ∧
    getTotalSupply (run c (init now0) ops).v =
      .ok (sumN U (fun d => ((run c (init now0) ops).tok.bal d).toNat)) := by
  have hb : ∀ d, (run c (init now0) ops).v.units d = ((run c (init now0) ops).tok.bal d).toNat := fun d => by
    have := units_eq_balance c now0 ops d; omega
  have hi : Inv U (run c (init now0) ops).v := by
    rw [run_refines]; exact run_inv hn (init_inv U now0) _ (vtrace_addrs c U (init now0) ops hU)
  rw [hi.getVotes a, hi.getTotalSupply, delegatedTo_of_units U _ _ hb a, sumN_congr U _ _ hb]
  exact ⟨rfl, rfl⟩

/-- past queries on the token are immutable (`past_immutable` through the refinement): no
further history of entry points changes `get_votes_at_checkpoint` for a ledger already over -/
theorem token_past_immutable (c : Cfg) (now0 : Nat) (pre post : List (List Nat × Op)) (a q : Nat)
    (hq : q < (run c (init now0) pre).v.now) :
    getVotesAtCheckpoint (run c (init now0) (pre ++ post)).v a q =
      getVotesAtCheckpoint (run c (init now0) pre).v a q := by
  have e : run c (init now0) (pre ++ post) = run c (run c (init now0) pre) post := by
    simp [run, List.foldl_append]
  rw [e, run_refines c (run c (init now0) pre) post]
  have hw : WFAll (run c (init now0) pre).v := by
    rw [run_refines]; exact run_wfAll (init_wfAll now0) _
  exact (past_immutable _ hw _ a q hq).1

def demoOps : List (List Nat × Op) :=
  [([], .mint 0 1000), ([0], .delegate 0 1), ([0], .transfer 0 0 1000), ([0], .transfer 0 2 400),
   ([], .advance 3), ([2], .delegate 2 2), ([0], .approve 0 3 300 200), ([3], .transferFrom 3 0 2 100),
   ([2], .burn 2 50), ([0], .transfer 0 2 0), ([0], .transfer 0 2 (-1)), ([], .advance 2)]

example : (run ⟨1, 1000⟩ (init 100) demoOps).tok.bal 0 = 500 ∧
    (run ⟨1, 1000⟩ (init 100) demoOps).v.units 0 = 500 ∧
    (run ⟨1, 1000⟩ (init 100) demoOps).v.units 2 = 450 ∧
    votesOf (run ⟨1, 1000⟩ (init 100) demoOps).v 1 = 500 ∧
    votesOf (run ⟨1, 1000⟩ (init 100) demoOps).v 2 = 450 ∧
    valueAt ((run ⟨1, 1000⟩ (init 100) demoOps).v.tl 1) 101 = 600 := by decide

end OZ.FungibleVotes

/-! ## the non-fungible wrapper -/
namespace OZ.NonFungibleVotes
open OZ.Host OZ.Votes

/-- **C13, units = balance (non-fungible)**: after any history of `NonFungibleVotes` entry
points (mint, sequential_mint, transfer, transfer_from, burn, burn_from, approvals, delegate,
ledger movement) every account's voting units equal its token count `balance()` -/
theorem units_eq_balance (c : Cfg) (now0 : Nat) (ops : List (List Nat × Op)) (a : Nat) :
    (run c (init now0) ops).v.units a = (run c (init now0) ops).nft.bal a := by
  refine Int.ofNat.inj (OZ.Lists.foldl_inv (P := fun s : State => ∀ x, (s.v.units x : Int) = s.nft.bal x)
    (fun s x hs => ?_) ops (init now0) (fun _ => rfl) a)
  show ∀ y, ((step c s x).v.units y : Int) = (step c s x).nft.bal y
  unfold step
  cases h : apply c s x.1 x.2 with
  | error e => exact hs
  | ok s' => obtain ⟨a, hb, ha⟩ := apply_ok h; exact (base_spec hb).units ha hs

theorem refines_library (c : Cfg) (s : State) (ops : List (List Nat × Op)) :
    (run c s ops).v = OZ.Votes.run s.v (vtrace c s ops) := run_refines c s ops

/-- **C13 for the non-fungible token**: `get_votes(a)` equals the number of tokens held by
the accounts delegating to `a`, `get_total_supply()` the number of tokens held -/
theorem votes_eq_delegated_balances (c : Cfg) (now0 : Nat) (U : List Nat) (hn : U.Nodup)
    (ops : List (List Nat × Op)) (hU : ∀ x ∈ ops, ∀ a ∈ x.2.addrs, a ∈ U) (a : Nat) :
    getVotes (run c (init now0) ops).v a =
      .ok (sumN U (fun d => if (run c (init now0) ops).v.delegatee d = some a
        then (run c (init now0) ops).nft.bal d else 0)) ∧
    getTotalSupply (run c (init now0) ops).v = .ok (sumN U (run c (init now0) ops).nft.bal) := by
  have hb := units_eq_balance c now0 ops
  have hi : Inv U (run c (init now0) ops).v := by
    rw [run_refines]; exact run_inv hn (init_inv U now0) _ (vtrace_addrs c U (init now0) ops hU)
  rw [hi.getVotes a, hi.getTotalSupply, delegatedTo_of_units U _ _ hb a, sumN_congr U _ _ hb]
  exact ⟨rfl, rfl⟩

def demoOps : List (List Nat × Op) :=
  [([], .mint 0 7), ([], .sequentialMint 0), ([0], .delegate 0 1), ([0], .transfer 0 2 7),
   ([], .advance 2), ([2], .delegate 2 2), ([0], .approve 0 3 0 150), ([3], .transferFrom 3 0 2 0),
   ([2], .burn 2 7), ([1], .burn 0 0), ([], .advance 1)]

example : (run ⟨1, 1000⟩ (init 100) demoOps).nft.bal 2 = 1 ∧
    (run ⟨1, 1000⟩ (init 100) demoOps).v.units 2 = 1 ∧
    (run ⟨1, 1000⟩ (init 100) demoOps).nft.bal 0 = 0 ∧
    votesOf (run ⟨1, 1000⟩ (init 100) demoOps).v 2 = 1 ∧
    valueAt ((run ⟨1, 1000⟩ (init 100) demoOps).v.tl 1) 101 = 1 ∧
    valueAt ((run ⟨1, 1000⟩ (init 100) demoOps).v.tl 1) 102 = 0 := by decide

end OZ.NonFungibleVotes
