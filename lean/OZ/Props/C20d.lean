import OZ.Lemmas.RegRules
/-
C20 (d): the context rules of a smart account (`Meta(id)`, `Signers(id)`, `Policies(id)`,
`Ids(type)`, `Fingerprint(hash)`, `NextId`, `Count`) represent the plain finite map
  id ↦ rule = getContextRule s id
under ANY history of the eight rule-management operations (arbitrary arguments, an arbitrary
oracle `installOk` for the policies' `install`, failed calls rolled back): ids are never reused,
the per-type id lists enumerate the rules of a type once, `Count` is the number of rules, and
the stored fingerprint set is the injective image of the rules.
The constructor of the example account is one `add_context_rule` on the empty state, so every
state of the deployed account is `run installOk (init now) (add :: ops)`.
-/
namespace OZ.Props.C20d
open OZ.Reg OZ.RegRules

/-- **rules_refines.** After any history: `get_context_rules_count` is the number of rules;
`get_context_rules(type)` never fails and returns exactly the rules of that type, each once;
every rule's id is its key and its signer and policy vectors are duplicate-free and within the
documented bounds. -/
theorem rules_refines (installOk : Nat → Bool) (now : Nat) (ops : List Op) :
    let s := run installOk (init now) ops
    (∃ lv : List Nat, lv.Nodup ∧ (∀ id, id ∈ lv ↔ (getContextRule s id).isSome = true) ∧
        getContextRulesCount s = lv.length) ∧
    (∀ c, ∃ l, getContextRules s c = some l ∧ (l.map (·.id)).Nodup ∧
        ∀ r, r ∈ l ↔ (getContextRule s r.id = some r ∧ r.ctx = c)) ∧
    (∀ id r, getContextRule s id = some r → r.id = id ∧ r.signers.Nodup ∧ r.policies.Nodup ∧
        r.signers.length ≤ 15 ∧ r.policies.length ≤ 5) ∧
    getContextRulesCount s ≤ 15 := by
  intro s
  have hI : Inv s := inv_run installOk (inv_init now) ops
  refine ⟨?_, ?_, ?_, hI.r.cntLe⟩
  · obtain ⟨lv, h1, h2, h3⟩ := hI.r.live
    refine ⟨lv, h1, fun id => ?_, h3⟩
    rw [h2]; unfold getContextRule; rw [Option.isSome_map]
  · intro c
    obtain ⟨l, hl, hmap, hall⟩ := getContextRules_spec hI c
    refine ⟨l, hl, by rw [hmap]; exact hI.r.idsNodup c, fun r => ?_⟩
    constructor
    · intro hr
      refine ⟨hall r hr, ?_⟩
      have hid : r.id ∈ s.ids c := by rw [← hmap]; exact List.mem_map.2 ⟨r, hr, rfl⟩
      obtain ⟨r', hr', hc⟩ := (hI.mem_ids c r.id).1 hid
      rw [hall r hr] at hr'
      exact Option.some.inj hr' ▸ hc
    · rintro ⟨hr, hc⟩
      have hid : r.id ∈ s.ids c := (hI.mem_ids c r.id).2 ⟨r, hr, hc⟩
      rw [← hmap] at hid
      obtain ⟨r2, hr2, hid2⟩ := List.mem_map.1 hid
      have := hall r2 hr2
      rw [hid2, hr] at this; injection this with this
      rw [this]; exact hr2
  · intro id r hr
    obtain ⟨m, _, rfl⟩ := (getContextRule_some s id r).1 hr
    exact ⟨rfl, hI.r.sgNodup id, hI.r.psNodup id, hI.r.sgLe id, hI.r.psLe id⟩

/-- **rule_ids_never_reused.** `NextId` never decreases along a history; every rule has an id
below it; an accepted `add_context_rule` creates its rule under the id `NextId`, which no rule
holds, and raises `NextId` by one. So the id of a rule created later is strictly above the id of
every rule created earlier, removed or not. -/
theorem rule_ids_never_reused (installOk : Nat → Bool) (s : State) (hs : Reachable installOk s) :
    (∀ ops, s.nextId ≤ (run installOk s ops).nextId) ∧
    (∀ id, (getContextRule s id).isSome = true → id < s.nextId) ∧
    (∀ c n vu sg ps s', addContextRule installOk s c n vu sg ps = .ok s' →
      getContextRule s s.nextId = none ∧
      getContextRule s' s.nextId = some ⟨s.nextId, c, n, sg, ps, vu⟩ ∧
      s'.nextId = s.nextId + 1 ∧
      ∀ id, id ≠ s.nextId → getContextRule s' id = getContextRule s id) := by
  have hI := reachable_inv hs
  refine ⟨nextId_run_mono installOk s, ?_, ?_⟩
  · intro id h
    unfold getContextRule at h; rw [Option.isSome_map] at h
    exact hI.r.idLt id h
  · intro c n vu sg ps s' hok
    obtain ⟨_, rfl⟩ := (addContextRule_ok_iff installOk s s' c n vu sg ps).1 hok
    have hdead : s.info s.nextId = none := hI.r.info_none (Nat.le_refl _)
    refine ⟨by unfold getContextRule; rw [hdead]; rfl, ?_, rfl, ?_⟩
    · rw [getContextRule_added, if_pos rfl]
    · intro id hid
      rw [getContextRule_added, if_neg hid]

/-- **fingerprints_eq_rules.** In a reachable state the stored fingerprint set is exactly the
image of the rules under `fingerprint`, without repetition, and the map is injective (two
different rules never share a fingerprint); an `add_context_rule` whose fingerprint is that of
an existing rule is refused. -/
theorem fingerprints_eq_rules (installOk : Nat → Bool) (s : State) (hs : Reachable installOk s) :
    s.fps.Nodup ∧
    (∀ fp, fp ∈ s.fps ↔ ∃ id r, getContextRule s id = some r ∧ fingerprint r = fp) ∧
    (∀ id1 id2 r1 r2, getContextRule s id1 = some r1 → getContextRule s id2 = some r2 →
      fingerprint r1 = fingerprint r2 → id1 = id2) ∧
    (∀ c n vu sg ps id r, getContextRule s id = some r → fingerprint r = (c, sortNat sg, sortNat ps) →
      ∃ e, addContextRule installOk s c n vu sg ps = .error e) := by
  have hI := reachable_inv hs
  refine ⟨hI.f.fpsNodup, hI.mem_fps, fun _ _ _ _ => hI.fp_inj, fun c n vu sg ps id r hr hfp => err_of_not_ok fun s' hok => ?_⟩
  exact ((addContextRule_ok_iff installOk s s' c n vu sg ps).1 hok).1.2.2.1.fresh ((hI.mem_fps _).2 ⟨id, r, hr, hfp⟩)

/-- **rules_abs_step.** Every accepted operation on an existing rule changes the map
`id ↦ rule` at that id only, and exactly as its name says (signers and policies are appended at
the end, removed in place; a removal deletes the entry). -/
theorem rules_abs_step (installOk : Nat → Bool) (s : State) (id : Nat) :
    (∀ n s', updateName s id n = .ok s' →
      ∀ id', getContextRule s' id' =
        if id' = id then (getContextRule s id).map (fun r => { r with name := n }) else getContextRule s id') ∧
    (∀ vu s', updateValidUntil s id vu = .ok s' →
      ∀ id', getContextRule s' id' =
        if id' = id then (getContextRule s id).map (fun r => { r with validUntil := vu }) else getContextRule s id') ∧
    (∀ s', removeContextRule s id = .ok s' →
      ∀ id', getContextRule s' id' = if id' = id then none else getContextRule s id') ∧
    (∀ x s', addSigner s id x = .ok s' →
      ∀ id', getContextRule s' id' =
        if id' = id then (getContextRule s id).map (fun r => { r with signers := r.signers ++ [x] })
        else getContextRule s id') ∧
    (∀ x s', removeSigner s id x = .ok s' →
      ∀ id', getContextRule s' id' =
        if id' = id then (getContextRule s id).map (fun r => { r with signers := eraseLast r.signers x })
        else getContextRule s id') ∧
    (∀ p s', addPolicy installOk s id p = .ok s' →
      ∀ id', getContextRule s' id' =
        if id' = id then (getContextRule s id).map (fun r => { r with policies := r.policies ++ [p] })
        else getContextRule s id') ∧
    (∀ p s', removePolicy s id p = .ok s' →
      ∀ id', getContextRule s' id' =
        if id' = id then (getContextRule s id).map (fun r => { r with policies := eraseLast r.policies p })
        else getContextRule s id') := by
  refine ⟨?_, ?_, ?_, ?_, ?_, ?_, ?_⟩
  · intro n s' h id'
    obtain ⟨m, hm, rfl⟩ := (updateName_ok_iff s s' id n).1 h
    rw [getContextRule_setMeta, map_getContextRule hm]
  · intro vu s' h id'
    obtain ⟨m, hm, _, rfl⟩ := (updateValidUntil_ok_iff s s' id vu).1 h
    rw [getContextRule_setMeta, map_getContextRule hm]
  · intro s' h id'
    obtain ⟨m, hm, _, rfl⟩ := (removeContextRule_ok_iff s s' id).1 h
    exact getContextRule_removed s id m id'
  · intro x s' h id'
    obtain ⟨m, hm, _, _, rfl⟩ := (addSigner_ok_iff s s' id x).1 h
    rw [getContextRule_sgSet hm, map_getContextRule hm]
  · intro x s' h id'
    obtain ⟨m, hm, _, _, rfl⟩ := (removeSigner_ok_iff s s' id x).1 h
    rw [getContextRule_sgSet hm, map_getContextRule hm]
  · intro p s' h id'
    obtain ⟨m, hm, _, _, _, rfl⟩ := (addPolicy_ok_iff installOk s s' id p).1 h
    rw [getContextRule_psSet hm, map_getContextRule hm]
  · intro p s' h id'
    obtain ⟨m, hm, _, _, rfl⟩ := (removePolicy_ok_iff s s' id p).1 h
    rw [getContextRule_psSet hm, map_getContextRule hm]

/-- **rules_dup_refused.** A repeated signer in a new rule, a signer or policy that the rule
already lists, and a rule whose fingerprint is stored are all refused. -/
theorem rules_dup_refused (installOk : Nat → Bool) (s : State) :
    (∀ c n vu sg ps, ¬ sg.Nodup → ∃ e, addContextRule installOk s c n vu sg ps = .error e) ∧
    (∀ c n vu sg ps, (c, sortNat sg, sortNat ps) ∈ s.fps → ∃ e, addContextRule installOk s c n vu sg ps = .error e) ∧
    (∀ id sg, sg ∈ s.signers id → ∃ e, addSigner s id sg = .error e) ∧
    (∀ id p, p ∈ s.policies id → ∃ e, addPolicy installOk s id p = .error e) := by
  refine ⟨?_, ?_, ?_, ?_⟩
  · intro c n vu sg ps h
    exact err_of_not_ok (fun s' hok => h ((addContextRule_ok_iff installOk s s' c n vu sg ps).1 hok).1.2.2.1.sgNodup)
  · intro c n vu sg ps h
    exact err_of_not_ok (fun s' hok => ((addContextRule_ok_iff installOk s s' c n vu sg ps).1 hok).1.2.2.1.fresh h)
  · intro id sg h
    exact err_of_not_ok (fun s' hok => by
      obtain ⟨m, _, hn, _⟩ := (addSigner_ok_iff s s' id sg).1 hok; exact hn h)
  · intro id p h
    exact err_of_not_ok (fun s' hok => by
      obtain ⟨m, _, hn, _⟩ := (addPolicy_ok_iff installOk s s' id p).1 hok; exact hn h)

/-- **rules_absent_refused.** Every operation on an id that holds no rule is refused, and so is
the removal of a signer or policy the rule does not list. -/
theorem rules_absent_refused (installOk : Nat → Bool) (s : State) (id : Nat) :
    (getContextRule s id = none →
      (∀ n, ∃ e, updateName s id n = .error e) ∧ (∀ vu, ∃ e, updateValidUntil s id vu = .error e) ∧
      (∃ e, removeContextRule s id = .error e) ∧ (∀ x, ∃ e, addSigner s id x = .error e) ∧
      (∀ x, ∃ e, removeSigner s id x = .error e) ∧ (∀ x, ∃ e, addPolicy installOk s id x = .error e) ∧
      (∀ x, ∃ e, removePolicy s id x = .error e)) ∧
    (∀ x, x ∉ s.signers id → ∃ e, removeSigner s id x = .error e) ∧
    (∀ x, x ∉ s.policies id → ∃ e, removePolicy s id x = .error e) := by
  refine ⟨?_, ?_, ?_⟩
  · intro h
    have hnone : s.info id = none := by
      unfold getContextRule at h
      cases hi : s.info id with
      | none => rfl
      | some m => rw [hi] at h; cases h
    refine ⟨?_, ?_, ?_, ?_, ?_, ?_, ?_⟩
    · intro n; exact ⟨_, by unfold updateName; rw [hnone]⟩
    · intro vu; exact ⟨_, by unfold updateValidUntil; rw [hnone]⟩
    · exact ⟨_, by unfold removeContextRule; rw [hnone]⟩
    · intro x; exact ⟨_, by unfold addSigner; rw [hnone]⟩
    · intro x; exact ⟨_, by unfold removeSigner; rw [hnone]⟩
    · intro x; exact ⟨_, by unfold addPolicy; rw [hnone]⟩
    · intro x; exact ⟨_, by unfold removePolicy; rw [hnone]⟩
  · intro x h
    exact err_of_not_ok (fun s' hok => by
      obtain ⟨m, _, hm, _⟩ := (removeSigner_ok_iff s s' id x).1 hok; exact h hm)
  · intro x h
    exact err_of_not_ok (fun s' hok => by
      obtain ⟨m, _, hm, _⟩ := (removePolicy_ok_iff s s' id x).1 hok; exact h hm)

/-- **rules_limit_exact.** In a reachable state, for arguments that are otherwise acceptable:
a new rule is accepted exactly while fewer than `MAX_CONTEXT_RULES = 15` exist (so the 15th
is accepted and the 16th is not); a new signer of a rule exactly while it has fewer than
`MAX_SIGNERS = 15`; a new (installable) policy exactly while it has fewer than `MAX_POLICIES = 5`. -/
theorem rules_limit_exact (installOk : Nat → Bool) (s : State) (hs : Reachable installOk s) :
    (∀ c n vu sg ps, sg.Nodup → ps.Nodup → pastValidUntil s vu = false → sg.length ≤ 15 → ps.length ≤ 5 →
      ¬ (sg = [] ∧ ps = []) → (c, sortNat sg, sortNat ps) ∉ s.fps → ps.all installOk = true →
      ((∃ s', addContextRule installOk s c n vu sg ps = .ok s') ↔ getContextRulesCount s < 15)) ∧
    (∀ id r x, getContextRule s id = some r → x ∉ r.signers →
      (r.ctx, sortNat (r.signers ++ [x]), sortNat r.policies) ∉ s.fps →
      ((∃ s', addSigner s id x = .ok s') ↔ r.signers.length < 15)) ∧
    (∀ id r p, getContextRule s id = some r → p ∉ r.policies → installOk p = true →
      (r.ctx, sortNat r.signers, sortNat (r.policies ++ [p])) ∉ s.fps →
      ((∃ s', addPolicy installOk s id p = .ok s') ↔ r.policies.length < 5)) := by
  have hI := reachable_inv hs
  refine ⟨?_, ?_, ?_⟩
  · intro c n vu sg ps h1 h2 h3 h4 h5 h6 h7 h8
    constructor
    · rintro ⟨s', hok⟩; exact ((addContextRule_ok_iff installOk s s' c n vu sg ps).1 hok).1.1
    · intro hc
      exact ⟨_, (addContextRule_ok_iff installOk s _ c n vu sg ps).2 ⟨⟨hc, h3, ⟨h4, h5, h6, h1, h2, h7⟩, h8⟩, rfl⟩⟩
  · intro id r x hr hx hfp
    obtain ⟨m, hm, rfl⟩ := (getContextRule_some s id r).1 hr
    simp only at hx hfp ⊢
    constructor
    · rintro ⟨s', hok⟩
      obtain ⟨m', _, _, ⟨ok, _⟩, _⟩ := (addSigner_ok_iff s s' id x).1 hok
      have := ok.sgLe; simp [MAX_SIGNERS] at this; omega
    · intro hl
      refine ⟨_, (addSigner_ok_iff s _ id x).2 ⟨m, hm, hx, ⟨⟨?_, hI.r.psLe id, ?_,
        nodup_append_singleton (hI.r.sgNodup id) hx, hI.r.psNodup id, hfp⟩, hI.r.sgNodup id, hI.r.psNodup id⟩, rfl⟩⟩
      · simp [MAX_SIGNERS]; omega
      · intro h; simp at h
  · intro id r p hr hp hi hfp
    obtain ⟨m, hm, rfl⟩ := (getContextRule_some s id r).1 hr
    simp only at hp hfp ⊢
    constructor
    · rintro ⟨s', hok⟩
      obtain ⟨m', _, _, _, ⟨ok, _⟩, _⟩ := (addPolicy_ok_iff installOk s s' id p).1 hok
      have := ok.psLe; simp [MAX_POLICIES] at this; omega
    · intro hl
      refine ⟨_, (addPolicy_ok_iff installOk s _ id p).2 ⟨m, hm, hp, hi, ⟨⟨hI.r.sgLe id, ?_, ?_,
        hI.r.sgNodup id, nodup_append_singleton (hI.r.psNodup id) hp, hfp⟩, hI.r.sgNodup id, hI.r.psNodup id⟩, rfl⟩⟩
      · simp [MAX_POLICIES]; omega
      · intro h; simp at h

/-- **rules_enumerates_once.** In a reachable state index access into `Ids(type)` is a
bijection between `0 .. len-1` and the ids of the rules of that type. -/
theorem rules_enumerates_once (installOk : Nat → Bool) (s : State) (hs : Reachable installOk s) (c : Nat) :
    (∀ id, (∃ r, getContextRule s id = some r ∧ r.ctx = c) ↔ ∃ i : Nat, (s.ids c)[i]? = some id) ∧
    (∀ (i j : Nat) id, (s.ids c)[i]? = some id → (s.ids c)[j]? = some id → i = j) := by
  have hI := reachable_inv hs
  exact ⟨fun id => (hI.mem_ids c id).symm.trans List.mem_iff_getElem?, nodup_index_inj _ (hI.r.idsNodup c)⟩

/-! non-vacuity: the id of a removed rule is not handed out again -/

example :
    let ok : Nat → Bool := fun _ => true
    let s := run ok (init 100) [.add 0 0 none [0] [], .add 1 1 none [1] [], .remove 1, .add 1 2 none [1] []]
    s.nextId = 3 ∧ getContextRulesCount s = 2 ∧ (getContextRule s 1).isNone = true ∧
    (getContextRule s 2).map (·.name) = some 2 ∧ s.ids 1 = [2] ∧ s.fps.length = 2 := by decide +kernel

end OZ.Props.C20d
