import OZ.Lemmas.SmartAccount
import OZ.Lemmas.SmartAccountStep
import OZ.Lemmas.SmartAccountTrace
/-
C03 — Smart-account authorization is sound and follows rule precedence.

Model: OZ/Model/SmartAccount.lean (`doCheckAuth` = `do_check_auth`, called unchanged by the
account's `__check_auth`). Vocabulary (`Applicable`, `Satisfied`, `Prec`, `Chosen`, the storage invariant `Inv`):
OZ/Lemmas/SmartAccount.lean.
All theorems quantify over arbitrary oracles (verifier, delegated-auth, policy answers), arbitrary
stores satisfying `Inv` (hence every store reachable by any history of management operations),
arbitrary ledger sequence, signature lists and context batches.
-/
namespace OZ.SmartAccount

/-- SOUNDNESS. If `do_check_auth` succeeds then every supplied (signer, signature) pair verified,
and there is one rule per context, in order, each being THE rule chosen by the precedence order
among the applicable rules satisfied by the supplied signers; the enforce calls made are exactly
the policies of those rules, in order, once per context, each receiving exactly the rule's own
signers that were supplied; and every one of these hooks let the call through. -/
theorem check_auth_sound {O : Oracle} {s : Store} {now : Nat} {sigs : List (Signer × Nat)} {ctxs : List Ctx}
    {calls : List EnfCall} (hI : Inv s) (h : doCheckAuth O s now sigs ctxs = .ok calls) :
    (∀ x g, (x, g) ∈ sigs → sigOk O x g = true) ∧
    ∃ chosen : List Rule,
      Forall2 (fun c r => Chosen O s now c (sigs.map Prod.fst) r) ctxs chosen ∧
      calls = (List.zip ctxs chosen).flatMap (fun p => callsFor (sigs.map Prod.fst) p.1 p.2) ∧
      AllAccepted O calls := (doCheckAuth_ok_iff_chosen hI).mp h

/-- The chosen rule is unique: precedence is a strict order on applicable rules. -/
theorem chosen_unique {O : Oracle} {s : Store} {now : Nat} {c : Ctx} {sup : List Signer} {r r' : Rule}
    (h : Chosen O s now c sup r) (h' : Chosen O s now c sup r') : r = r' := h.unique h'

/-- COMPLETENESS. If all supplied signatures verify, every context has some applicable rule
satisfied by the supplied signers, and the enforce hooks never refuse (`O.enf` answers `true` on EVERY history and
call, not only on the calls of this check), `do_check_auth` succeeds. -/
theorem check_auth_complete {O : Oracle} {s : Store} {now : Nat} {sigs : List (Signer × Nat)} {ctxs : List Ctx}
    (hI : Inv s) (hsig : ∀ x g, (x, g) ∈ sigs → sigOk O x g = true)
    (hcov : ∀ c ∈ ctxs, ∃ r, Applicable s now c r ∧ Satisfied O c (sigs.map Prod.fst) r)
    (henf : ∀ hist call, O.enf hist call = true) :
    ∃ calls, doCheckAuth O s now sigs ctxs = .ok calls := by
  cases hv : validateAll O s now (sigs.map Prod.fst) ctxs with
  | error e =>
    obtain ⟨c, hc, hn⟩ := validateAll_error hI hv
    obtain ⟨r, ha, hs⟩ := hcov c hc
    exact absurd hs (hn r ha)
  | ok vs =>
    exact ⟨_, doCheckAuth_ok_iff.mpr ⟨(authenticate_ok_iff O sigs).mpr hsig, vs, hv,
      (enforceLoop_ok_iff O [] (callsOf vs)).mpr (fun pre c post _ => henf _ c), rfl⟩⟩

/-- A rejection has one of three causes: a signature that does not verify, a context without any
satisfied applicable rule, or an enforce hook that refuses SOME call after some history (`∃ hist call`: not
necessarily a call of this check, so the third cause is weaker than "a hook refused here"; the exact condition
is `doCheckAuth_ok_iff_chosen`). -/
theorem check_auth_rejects_only_for_cause {O : Oracle} {s : Store} {now : Nat} {sigs : List (Signer × Nat)}
    {ctxs : List Ctx} {e : Err} (hI : Inv s) (h : doCheckAuth O s now sigs ctxs = .error e) :
    (∃ x g, (x, g) ∈ sigs ∧ sigOk O x g = false) ∨
    (∃ c ∈ ctxs, ∀ r, Applicable s now c r → ¬ Satisfied O c (sigs.map Prod.fst) r) ∨
    (∃ hist call, O.enf hist call = false) := by
  -- with none of the three causes the check is complete
  apply Classical.byContradiction
  intro hn
  have hsig : ∀ x g, (x, g) ∈ sigs → sigOk O x g = true := fun x g hm =>
    Classical.byContradiction fun hq => hn (.inl ⟨x, g, hm, by simpa using hq⟩)
  have hcov : ∀ c ∈ ctxs, ∃ r, Applicable s now c r ∧ Satisfied O c (sigs.map Prod.fst) r := fun c hc =>
    Classical.byContradiction fun hq => hn (.inr (.inl ⟨c, hc, fun r ha hs => hq ⟨r, ha, hs⟩⟩))
  have henf : ∀ hist call, O.enf hist call = true := fun hist call =>
    Classical.byContradiction fun hq => hn (.inr (.inr ⟨hist, call, by simpa using hq⟩))
  obtain ⟨calls, hc⟩ := check_auth_complete hI hsig hcov henf
  rw [hc] at h; cases h

/-- Signers handed to a policy (and counted for a rule without policies) are signers OF THE RULE
that were supplied — never anybody else. -/
theorem counted_are_rule_signers (r : Rule) (sup : List Signer) :
    ∀ x ∈ counted r sup, x ∈ r.signers ∧ x ∈ sup := by
  intro x hx
  unfold counted at hx
  rw [List.mem_filter] at hx
  exact ⟨hx.1, by simpa using hx.2⟩

/-- FOREIGN SIGNERS NEVER COUNT. Two fully verifying signature maps that contain the same signers
of every stored rule lead to the same outcome and the same enforce calls (same signer lists passed
to the policies): extra signers named by no rule — valid, duplicated elsewhere or unknown — change
nothing. -/
theorem foreign_signers_never_count {O : Oracle} {s : Store} {now : Nat} {sigs1 sigs2 : List (Signer × Nat)}
    {ctxs : List Ctx}
    (h1 : ∀ x g, (x, g) ∈ sigs1 → sigOk O x g = true) (h2 : ∀ x g, (x, g) ∈ sigs2 → sigOk O x g = true)
    (hsame : ∀ id r, getContextRule s id = .ok r →
      ∀ x ∈ r.signers, (x ∈ sigs1.map Prod.fst ↔ x ∈ sigs2.map Prod.fst)) :
    doCheckAuth O s now sigs1 ctxs = doCheckAuth O s now sigs2 ctxs := by
  unfold doCheckAuth
  rw [(authenticate_ok_iff O sigs1).mpr h1, (authenticate_ok_iff O sigs2).mpr h2]
  dsimp only
  rw [validateAll_congr O s now _ _ ctxs hsame]

/-- A satisfied rule stays satisfied, with the same signer list handed to its policies, whatever
else is supplied beside its own signers. -/
theorem satisfied_depends_on_rule_signers_only (O : Oracle) (c : Ctx) (A B : List Signer) (r : Rule)
    (h : ∀ x ∈ r.signers, (x ∈ A ↔ x ∈ B)) :
    (Satisfied O c A r ↔ Satisfied O c B r) ∧ counted r A = counted r B := by
  refine ⟨?_, getAuthenticatedSigners_congr r.signers A B h⟩
  rw [← ruleMatches_iff, ← ruleMatches_iff, ruleMatches_congr O c A B r h]

/-! ### the invariant holds in every reachable store -/

/-- every rule-management operation (add / remove / rename / re-date a rule, add / remove a signer,
add / remove a policy) preserves the storage invariant -/
theorem management_preserves_inv {s s' : Store} {now : Nat} {op : Op} (hI : Inv s)
    (h : applyOp s now op = .ok s') : Inv s' := applyOp_inv hI h

/-- every store reachable from the empty account by any finite history of management operations
(accepted or rejected, at any ledger sequences) satisfies the invariant -/
theorem reachable_inv (hist : List (Nat × Op)) : Inv (run Store.empty hist) := run_inv_of inv_empty hist

/-- the documented limits hold in every reachable store -/
theorem reachable_limits (hist : List (Nat × Op)) (id : Nat) (r : Rule)
    (h : getContextRule (run Store.empty hist) id = .ok r) :
    (run Store.empty hist).count ≤ 15 ∧ r.signers.length ≤ 15 ∧ r.policies.length ≤ 5 ∧
      r.signers.Nodup ∧ r.policies.Nodup ∧ ¬ (r.signers = [] ∧ r.policies = []) := by
  obtain ⟨n1, l1, n2, l2, hne⟩ := (reachable_inv hist).rule_ok h
  exact ⟨(reachable_inv hist).count_le, l1, l2, n1, n2, hne⟩

/-- a newly added rule gets an id above every existing one: "newest first" = "largest id first" -/
theorem added_rule_is_newest {s s' : Store} {now : Nat} {t : RuleType} {name : Nat} {vu : Option Nat}
    {sg : List Signer} {pm : List Nat} {io : Nat → Bool} {r : Rule} (hI : Inv s)
    (h : addContextRule s now t name vu sg pm io = .ok (s', r)) :
    r.id = s.nextId ∧ (∀ id m, s.metas id = some m → id < r.id) ∧ getContextRule s' r.id = .ok r := by
  obtain ⟨rfl, rfl, -⟩ := addContextRule_ok h
  refine ⟨rfl, fun id m hm => hI.lt_next id m hm, ?_⟩
  simp [getContextRule, storeRule, updN]

/-- soundness for every reachable store, as the property is quantified -/
theorem check_auth_sound_reachable {O : Oracle} (hist : List (Nat × Op)) {now : Nat} {sigs : List (Signer × Nat)}
    {ctxs : List Ctx} {calls : List EnfCall} (h : doCheckAuth O (run Store.empty hist) now sigs ctxs = .ok calls) :
    (∀ x g, (x, g) ∈ sigs → sigOk O x g = true) ∧
    ∃ chosen : List Rule,
      Forall2 (fun c r => Chosen O (run Store.empty hist) now c (sigs.map Prod.fst) r) ctxs chosen ∧
      calls = (List.zip ctxs chosen).flatMap (fun p => callsFor (sigs.map Prod.fst) p.1 p.2) ∧
      AllAccepted O calls :=
  check_auth_sound (reachable_inv hist) h

/-! ### the call trace used by the correspondence is the same evaluation -/

/-- `checkTrace` (compared call by call with the logs of the mock verifier / policy contracts)
reports success exactly when `doCheckAuth` succeeds, and then its enforce events are exactly the
enforce calls `doCheckAuth` returns -/
theorem trace_agrees (O : Oracle) (s : Store) (now : Nat) (sigs : List (Signer × Nat)) (ctxs : List Ctx) :
    (checkTrace O s now sigs ctxs).2 = (doCheckAuth O s now sigs ctxs).toBool ∧
    ∀ calls, doCheckAuth O s now sigs ctxs = .ok calls →
      (checkTrace O s now sigs ctxs).1.filter isEnforce = calls.map enfEvent := by
  refine ⟨checkTrace_snd O s now sigs ctxs, fun calls h => ?_⟩
  obtain ⟨ha, vs, hv, he, rfl⟩ := doCheckAuth_ok_iff.mp h
  rw [checkTrace_ok ha hv he, List.filter_append, List.filter_append, authTrace_noEnforce, ctxsTrace_noEnforce,
    filter_enfEvents]
  rfl

/-! ### non-vacuity: a concrete account, oracle and batch -/

namespace Example
open Signer RuleType

def x0 : Signer := external 0 0
def x1 : Signer := external 0 1
def x2 : Signer := external 0 2
def d1 : Signer := delegated 1

/-- rule 0: Default {d1}; rule 1: Call 7 {x0, x1}, expires at 105; rule 2: Call 7 {x0} + policy 4;
rule 3: Default {x2} + policies 3, 5; a rejected duplicate and a removal in between -/
def history : List (Nat × Op) :=
  [ (100, .add .default 0 none [d1] [] (fun _ => true)),
    (100, .add (.call 7) 0 (some 105) [x0, x1] [] (fun _ => true)),
    (100, .add (.call 7) 0 none [x0] [4] (fun _ => true)),
    (100, .add (.call 7) 0 none [x0] [4] (fun _ => true)),          -- duplicate fingerprint: rejected
    (101, .add .default 0 none [x2] [5, 3] (fun _ => true)),
    (101, .add (.create 9) 0 none [x2] [] (fun _ => true)),
    (102, .remove 4),
    (102, .addSigner 3 x1),
    (102, .removeSigner 3 x1) ]

def store : Store := run Store.empty history

/-- policy 4 wants 2 signers of the rule (never met by rule 2), 3 and 5 want 1; every signature
byte 1 verifies; delegated address 1 authorized; the hooks never refuse -/
def oracle : Oracle :=
  { verify := fun _ _ g => g == 1
    auth := fun a => a == 1
    can := fun p _ m _ => if p = 4 then decide (m.length ≥ 2) else decide (m.length ≥ 1)
    enf := fun _ _ => true }

def sigs : List (Signer × Nat) := [(d1, 0), (x0, 1), (x1, 1), (x2, 1)]
def policiesOf (r : Except Err (List EnfCall)) : Option (List (Nat × Nat)) :=
  r.toOption.map (List.map (fun c => (c.policy, c.rule.id)))

/-- at ledger 105 the call to 7 is authorized by rule 1 (rule 2 is newer but its policy refuses),
the call to 8 and the deployment by Default rule 3 (newer than rule 0): enforce 3, 5 twice -/
example : policiesOf (doCheckAuth oracle store 105 sigs [.call 7 0, .call 8 1, .create 9 0])
    = some [(3, 3), (5, 3), (3, 3), (5, 3)] := by decide +kernel

/-- one ledger later rule 1 has expired: the call to 7 falls through to Default rule 3 as well -/
example : policiesOf (doCheckAuth oracle store 106 sigs [.call 7 0]) = some [(3, 3), (5, 3)] := by decide +kernel

/-- without x2 and d1 nothing covers a call to 8 -/
example : policiesOf (doCheckAuth oracle store 105 [(x0, 1), (x1, 1)] [.call 8 1]) = none := by decide +kernel

/-- a signature that does not verify rejects the batch although rule 1 would be satisfied -/
example : policiesOf (doCheckAuth oracle store 105 [(x0, 1), (x1, 1), (x2, 0)] [.call 7 0]) = none := by decide +kernel

example : store.count = 4 ∧ store.ids (.call 7) = [1, 2] ∧ store.ids .default = [0, 3] := by decide +kernel

end Example

end OZ.SmartAccount
