import OZ.Gen.Consecutive
import OZ.Lemmas.NftBits
import OZ.Lemmas.Comp
/-
C10 — the bit scans of the consecutive flavour, re-checked on every run against what the SOURCE says now.

`lean/OZ/Gen/Consecutive.lean` is regenerated by `/verif/tools/rs2lean.py --cons` from /repo's current
`packages/tokens/src/non_fungible/extensions/consecutive/storage.rs` (`find_bit_in_item`,
`find_bit_in_bucket`) every time `./check C10` runs: the `for i in (0..=(last - start)).rev()` loop with
its early `return` becomes a structural recursion on the number of remaining iterations whose result says
whether the function returned, the `(item_index..bucket.len()).find_map(|i| ..)` another one, `if let`,
`Option::map` with a computing closure, `1 << i`, `u32` `+ - * / %` (each can panic) are kept as written.
This file proves that the GENERATED functions compute exactly the hand-written model
(`OZ.NftCons.findBitInItem`, `OZ.NftCons.findBitInBucket`) — for every item, every start position and
every bucket whose bit count fits a `u32` — and restates, for the generated code, what `owner_of` of the
consecutive flavour relies on: the scan returns the LEAST set position at or after `start`.
-/
namespace OZ.Gen.Cons
open OZ.Rs OZ.NftCons

/-- **the descending loop**: `c + 1` remaining iterations from `lo = 0` are the model's `scanItem num c`;
`some (some p)` = the function returned `Some(p)`, `none` = the loop ran to its end -/
theorem item_loop_eq (num : Nat) (a1 : Nat) (a2 : Option Nat) (a3 : Nat) :
    ∀ c, c ≤ 31 →
      Consecutive.find_bit_in_item.loop1 (c + 1) 0 a1 a2 31 num a3 = .ok ((scanItem num c).map some) := by
  -- one iteration, whatever `c`: the model states it once for `0` and once for `c + 1`
  have step : ∀ c, c ≤ 31 → Consecutive.find_bit_in_item.loop1 (c + 1) 0 a1 a2 31 num a3 =
      if num &&& 1 <<< c ≠ 0 then .ok (some (some (31 - c)))
      else Consecutive.find_bit_in_item.loop1 c 0 a1 a2 31 num a3 := fun c hc => by
    rw [Consecutive.find_bit_in_item.loop1, Nat.zero_add, uN_shl_one (by omega), ← Nat.one_shiftLeft, Comp.bind_ok,
      uN_sub_ok hc]
    rfl
  intro c
  induction c with
  | zero => intro hc; rw [step 0 hc, scanItem]; split <;> rfl
  | succ c ih => intro hc; rw [step _ hc, scanItem]; split; rfl; exact ih (by omega)

/-- **generated = model** (`find_bit_in_item`), for every item and start position; it never panics -/
theorem find_bit_in_item_eq (input : Option Nat) (start : Nat) :
    Consecutive.find_bit_in_item input start = .ok (findBitInItem input start) := by
  unfold Consecutive.find_bit_in_item findBitInItem
  cases input with
  | none => rfl
  | some num =>
    simp only [optCase]
    by_cases h0 : num = 0
    · rw [if_pos h0, if_pos h0]
    · rw [if_neg h0, if_neg h0]
      by_cases hs : start ≥ 32
      · rw [if_pos hs, if_pos (by unfold IDS_IN_ITEM; exact hs)]
      · rw [if_neg hs, if_neg (by unfold IDS_IN_ITEM; exact hs)]
        have h1 : uN_sub 32 32 1 = .ok 31 := by decide
        rw [h1]; simp only [Comp.bind_ok]
        rw [uN_sub_ok (by omega)]; simp only [Comp.bind_ok]
        have e : 31 - start + 1 - 0 = (31 - start) + 1 := by omega
        rw [e, item_loop_eq num 32 (some num) start (31 - start) (by omega)]
        simp only [Comp.bind_ok]
        have e2 : IDS_IN_ITEM - 1 - start = 31 - start := by unfold IDS_IN_ITEM; omega
        rw [e2]
        cases scanItem num (31 - start) <;> rfl

/-- **the `find_map` loop**: `cnt` remaining items from index `i` are the model's `scanBucket` -/
theorem bucket_loop_eq (bucket : List Nat) (a1 itemIndex rel a2 : Nat) (hfit : bucket.length * 32 < 2 ^ 32) :
    ∀ cnt i, i + cnt ≤ bucket.length →
      Consecutive.find_bit_in_bucket.loop1 cnt i bucket a1 32 itemIndex rel a2 =
        .ok (scanBucket bucket itemIndex rel cnt i) := by
  intro cnt
  induction cnt with
  | zero => intro i _; rfl
  | succ c ih =>
    intro i hi
    unfold Consecutive.find_bit_in_bucket.loop1
    rw [find_bit_in_item_eq]
    simp only [Comp.bind_ok, scanBucket]
    have hf : (if i = itemIndex then rel else 0) = fromId i itemIndex rel := rfl
    rw [hf]
    cases hx : findBitInItem bucket[i]? (fromId i itemIndex rel) with
    | none =>
      simp only [optCase]
      exact ih (i + 1) (by omega)
    | some p =>
      have hp := (findBitInItem_some.mp hx).2.1
      simp only [optCase]
      rw [uN_mul_ok (by omega)]; simp only [Comp.bind_ok]
      rw [uN_add_ok (by omega)]; simp only [Comp.bind_ok]
      rfl

/-- **generated = model** (`find_bit_in_bucket`), for every bucket whose bit count fits a `u32` (the code
computes `bucket.len() * 32` in `u32`; buckets of the library hold 100 items) and every start position -/
theorem find_bit_in_bucket_eq (bucket : List Nat) (start : Nat) (hfit : bucket.length * 32 < 2 ^ 32) :
    Consecutive.find_bit_in_bucket bucket start = .ok (findBitInBucket bucket start) := by
  unfold Consecutive.find_bit_in_bucket findBitInBucket
  rw [uN_mul_ok hfit]; simp only [Comp.bind_ok]
  by_cases hs : start ≥ bucket.length * 32
  · rw [if_pos hs, if_pos (by unfold IDS_IN_ITEM; exact hs)]
  · rw [if_neg hs, if_neg (by unfold IDS_IN_ITEM; exact hs)]
    rw [uN_div_ok]; simp only [Comp.bind_ok]
    rw [uN_rem_ok]; simp only [Comp.bind_ok]
    rw [bucket_loop_eq bucket _ _ _ _ hfit _ _ (by omega)]
    rfl

/-- **C10, consecutive flavour, on the source as translated**: the generated bucket scan returns `Some(p)`
exactly when `p` is the LEAST set position at or after `start` (what `owner_of` needs to find the owner
entry that covers a token id), and `None` exactly when no position from `start` on is set -/
theorem gen_find_bit_in_bucket_least (bucket : List Nat) (start p : Nat) (hfit : bucket.length * 32 < 2 ^ 32) :
    (Consecutive.find_bit_in_bucket bucket start = .ok (some p) ↔
      (start ≤ p ∧ p < bucket.length * 32 ∧ bitB bucket p = true ∧ ∀ q, start ≤ q → q < p → bitB bucket q = false)) ∧
    (Consecutive.find_bit_in_bucket bucket start = .ok none ↔
      ∀ q, start ≤ q → q < bucket.length * 32 → bitB bucket q = false) := by
  rw [find_bit_in_bucket_eq bucket start hfit, Comp.ok.injEq, Comp.ok.injEq]
  exact ⟨findBitInBucket_some, findBitInBucket_none⟩

/-! ### non-vacuity: the generated code runs -/

example : Consecutive.find_bit_in_item (some 0x00010000) 3 = .ok (some 15) := by decide
example : Consecutive.find_bit_in_item (some 0x00010000) 16 = .ok none := by decide
example : Consecutive.find_bit_in_bucket [0, 0x80000001, 4] 33 = .ok (some 63) := by decide
example : Consecutive.find_bit_in_bucket [0, 0x80000001, 4] 96 = .ok none := by decide

end OZ.Gen.Cons
