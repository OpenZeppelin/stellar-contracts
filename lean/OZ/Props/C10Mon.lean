import OZ.Lemmas.NftMonOwn
/-
C10 — soundness of the MONITOR that decides the property on implementation traces.

`./check C10` reports a concrete violation exactly when `OZ.NftMon.Own.checkCore` (the driver's
monitor on parsed values, OZ/Model/NftMon.lean) returns a message on the implementation's
observations (apart from the string-level alarm `site=nft.parse` of the driver). Here it is proved
that on the observations of the MODELS the monitor never returns a message — for all three flavours
(base incl. explicit ids, enumerable, consecutive at the bit level), every host configuration, every
`flavour=` label, every start ledger and every finite history of op lines, with any windows `q=` and
observed ids `qa=` (`monitor_accepts_every_model_trace`; its one hypothesis: every line of the history
denotes the operation it is paired with, `x.1.op = some x.2`). Consequences:

  * an implementation whose observations agree with the model's (the correspondence the check
    establishes by differential testing) can never raise a monitor alarm — a monitor failure is
    never a false alarm of the monitor itself;
  * every conclusion the monitor evaluates — every reported `owner_of` (runs over windows and direct
    reads) is the plain map's; an accepted transfer / burn names the current owner; sequential and
    batch ids lie above everything issued before and a batch of n returns the last of n consecutive
    ids; balances are the plain map's counts; `token_uri` exists iff owned; `total_supply` is the
    number of existing tokens, the global list and every owner's list hold exactly the existing /
    owned tokens once and the index one past the end is unreadable; a rejected call and idle time
    change nothing — is a THEOREM about the models, in the monitor's own executable wording.

The model observation `OZ.NftMon.stepObs` used here IS the data the driver's model side prints:
`NftIO.stepLine` is `showObs (stepObs cfg s l op)` after parsing the op line into `l` with `l.op = some
op`; a history item is such a pair `(l, op)`.

The monitor judges mints under the property's fresh-id hypothesis: when a mint hits an id the plain
map gives an owner it sets `disabled` and is silent from then on; `Agree` below is "disabled, or the
monitor's plain map / balances / counters describe the model state (`Live`)".
-/
namespace OZ.NftMon.Own
open OZ.Host OZ.Nft OZ.NftMon

/-- the monitor has stopped judging (fresh-id hypothesis failed), or its state describes the model's -/
def Agree (m : Mon) (ms : MState) : Prop := m.disabled = true ∨ ∃ spec, Live m ms spec

/-- no check of the monitor reads `prev` -/
theorem live_prev {m : Mon} {ms : MState} {spec : Nat → Option Nat} (h : Live m ms spec) (p : Option Obs) :
    Live { m with prev := p } ms spec :=
  ⟨h.good, h.owner, h.bal, h.next, h.over, h.enumOK, h.live, h.flav⟩

theorem verdict_quiet {t : Mon × Option String} {ms : MState} {spec : Nat → Option Nat}
    (h : Tracked t ms spec) (l : Line) (ok : Bool) (ret : Option Nat)
    {probe : List Nat} (dem : List Nat)
    (hprobe : ∀ acc, probe.contains acc = decide (l.kind ≠ .advance ∧ l.a.contains acc = true)) (p : Option Obs) :
    verdict t l (obsOf ok ret ms l probe dem) = none ∧ Agree { t.1 with prev := p } ms := by
  unfold verdict
  by_cases hd : t.1.disabled = true
  · rw [if_pos hd]; exact ⟨rfl, Or.inl hd⟩
  · obtain ⟨h1, h2⟩ := h.resolve_left hd
    rw [if_neg hd, h1]
    simp only
    rw [answers_none h2 l ok ret _ _ hprobe]
    exact ⟨by unfold idleWrap; split <;> rfl, Or.inr ⟨_, live_prev h2 _⟩⟩

/-- **one call**: fed with the model's own observation of any call (accepted or rejected, any
flavour), the monitor reports nothing and its state keeps describing the model's -/
theorem monitor_sound_step (cfg : Cfg) {m : Mon} {ms : MState} (ha : Agree m ms) (l : Line) (op : Op)
    (hl : l.op = some op) :
    (checkCore m l (stepObs cfg ms l op).2).2 = none ∧
    Agree (checkCore m l (stepObs cfg ms l op).2).1 (stepObs cfg ms l op).1 := by
  unfold checkCore
  by_cases hdis : m.disabled = true
  · rw [if_pos hdis]; exact ⟨rfl, Or.inl hdis⟩
  · rw [if_neg hdis]
    obtain ⟨spec, ha⟩ := ha.resolve_left hdis
    unfold stepObs
    cases hx : ms.apply cfg l.auth op with
    | error e =>
      -- a rejected call: the monitor's state stays, as the model's does
      have htr : track m l (obsOf false none ms l (probeOf op l.a) []) = (m, none) := by
        unfold track; rw [if_pos (by simp [obsOf])]
      exact htr ▸ verdict_quiet (Or.inr ⟨rfl, ha⟩) l false none [] (probe_flag hl) _
    | ok p =>
      exact verdict_quiet (track_accepted ha hl hx _ rfl rfl) l true p.2 _ (probe_flag hl) _

/-- the monitor run over a whole history of model observations: first message, if any. A history
item is an op line with the operation it denotes. -/
def monitorRun (cfg : Cfg) : Mon → MState → List (Line × Op) → Option String
  | _, _, [] => none
  | m, ms, x :: xs =>
    match (checkCore m x.1 (stepObs cfg ms x.1 x.2).2).2 with
    | some msg => some msg
    | none => monitorRun cfg (checkCore m x.1 (stepObs cfg ms x.1 x.2).2).1 (stepObs cfg ms x.1 x.2).1 xs

/-- **monitor soundness**: for every host configuration, flavour label (`initState flavour`: what
the driver's `init`, `NftIO.initM`, builds; `Own.init flavour`: what its `minit` builds), start ledger and finite
history — any accounts, ids, batch sizes, authorizing subsets, windows and observed ids, any ledger
movement, explicit mints over owned ids included — the monitor reports nothing on the models'
observations -/
theorem monitor_accepts_every_model_trace (cfg : Cfg) (flavour : String) (start : Nat)
    (hist : List (Line × Op)) (hL : ∀ x ∈ hist, x.1.op = some x.2) :
    monitorRun cfg (Own.init flavour) (initState flavour start) hist = none := by
  suffices ∀ m ms, Agree m ms → monitorRun cfg m ms hist = none by
    obtain ⟨hg, hc, he, ht, hfl⟩ := init_good flavour start
    refine this _ _ (Or.inr ⟨_, ⟨hg, fun _ => rfl, ?_, Nat.zero_le _, (fun _ p hp => by cases hp), he,
      fun _ => ht.symm, fun h => hfl.mpr h⟩⟩)
    show List.replicate N 0 = _
    rw [hc]; rfl
  induction hist with
  | nil => intro m ms _; rfl
  | cons x xs ih =>
    intro m ms ha
    obtain ⟨h1, h2⟩ := monitor_sound_step cfg ha x.1 x.2 (hL x List.mem_cons_self)
    unfold monitorRun
    rw [h1]
    exact ih (fun y hy => hL y (List.mem_cons_of_mem _ hy)) _ _ h2

/-! ### `trackMint` against the stricter sequential-mint rule `legacyTrackMint` -/

/-- a history line: only the fields the kind uses matter -/
def ln (kind : Kind) (a : List Nat) (id n : Nat) (q : List (Nat × Nat)) (qa : List Nat) : Line :=
  { kind, a, id, n, lu := 0, auth := [], q, qa }

/-- a stricter sequential-mint rule, to compare `trackMint` with: a returned id at or above the counter
that the plain map gives an owner is excused (fresh-id hypothesis) only under the label
`flavour=exp` and reported as a reuse under every other label -/
def legacyTrackMint (m : Mon) (l : Line) (o : Obs) : Mon × Option String :=
  match o.ret with
  | none => (m, some "site=nft.mint.ret a sequential mint returned no id")
  | some id =>
    if id < m.next then (m, some s!"site={if m.gap then "nft.idle.id_reused" else "nft.mint.reused"} sequential mint issued {id}, already issued before (counter was {m.next})")
    else if (ghostOwner m id).isSome then
      if m.flavour = "exp" then ({ m with disabled := true }, none)
      else (m, some s!"site=nft.mint.reused sequential mint issued the owned id {id}")
    else ({ setOwner m id (some (l.arg 0)) with next := id + 1, bal := addBal m.bal (l.arg 0) 1, live := m.live + 1 }, none)

/-- `legacyTrackMint` raises an alarm on a model trace, `trackMint` does not. The base model (like
`Base::mint` + `Base::sequential_mint`) accepts an explicit mint under any label. On the model trace
mint_id(to 1, id 0); mint(to 2)  under the label `flavour=seq` the sequential mint issues the id 0
that the explicit mint gave an owner — the fresh-id hypothesis of the property fails, the property
says nothing — and `legacyTrackMint` says `site=nft.mint.reused` on the model's own observation;
`trackMint` stops judging, as `legacyTrackMint` does under `flavour=exp`: -/
theorem legacy_sequential_mint_rule_false_alarm :
    let l1 := ln .mintId [1] 0 0 [(0, 3)] [0]
    let l2 := ln .mint [2] 0 0 [(0, 3)] [0]
    let s1 := stepObs ⟨1, 200000⟩ (initState "seq" 100) l1 (.mint 1 0)
    let m1 := checkCore (Own.init "seq") l1 s1.2
    let s2 := stepObs ⟨1, 200000⟩ s1.1 l2 (.mintSeq 2)
    m1.2 = none ∧ s2.2.ok = true ∧ s2.2.ret = some 0 ∧
    (legacyTrackMint m1.1 l2 s2.2).2.isSome = true ∧
    (checkCore m1.1 l2 s2.2).2 = none ∧ (checkCore m1.1 l2 s2.2).1.disabled = true := by
  decide

/-- `Below m`: every id the plain map gives an owner was issued by a counter (lies below `next`) -/
def Below (m : Mon) : Prop := ∀ id, (ghostOwner m id).isSome = true → id < m.next

theorem Below.setOwner {m m' : Mon} (hb : Below m) {id : Nat} {v : Option Nat} (h1 : m'.batches = m.batches)
    (h2 : m'.over = setOver m.over id v) (h3 : m.next ≤ m'.next) (h4 : v.isSome = true → id < m'.next) :
    Below m' := by
  intro x hx
  unfold ghostOwner at hx
  rw [h1, h2, plainOwner_setOver] at hx
  by_cases e : x = id
  · subst e; rw [upd_same] at hx; exact h4 hx
  · rw [upd_other _ _ _ _ e] at hx
    exact Nat.lt_of_lt_of_le (hb x hx) h3

theorem below_trackMint {m : Mon} (hb : Below m) (l : Line) (o : Obs) : Below (trackMint m l o).1 := by
  unfold trackMint
  split
  · exact hb
  · rename_i id _
    split
    · exact hb
    · rename_i hge
      split
      · exact hb
      · exact hb.setOwner rfl rfl (Nat.le_succ_of_le (Nat.not_lt.mp hge)) (fun _ => Nat.lt_succ_self id)

theorem below_trackBatch {m : Mon} (hb : Below m) (l : Line) (o : Obs) : Below (trackBatch m l o).1 := by
  unfold trackBatch
  split
  · exact hb
  · rename_i last _
    split
    · exact hb
    · split
      · exact hb
      · rename_i hge
        intro x hx
        show x < last + 1
        by_cases hin : last + 1 - l.n ≤ x ∧ x ≤ last
        · exact Nat.lt_succ_of_le hin.2
        · -- outside the new interval the owner is an old one, below the old counter
          have hx : (plainOwner ((last + 1 - l.n, last, l.arg 0) :: m.batches) m.over x).isSome = true := hx
          rw [plainOwner_cons_out _ _ _ hin] at hx
          have := hb x hx
          omega

theorem below_trackMove {m : Mon} (hb : Below m) (l : Line) (f t : Nat) : Below (trackMove m l f t).1 := by
  unfold trackMove
  split
  · exact hb
  · rename_i hown
    exact hb.setOwner rfl rfl (Nat.le_refl _) (fun _ => hb _ (by rw [Classical.not_not.mp hown]; rfl))

theorem below_trackBurn {m : Mon} (hb : Below m) (l : Line) (f : Nat) : Below (trackBurn m l f).1 := by
  unfold trackBurn
  split
  · exact hb
  · exact hb.setOwner rfl rfl (Nat.le_refl _) nofun

/-- the two rules differ only where an id at or above the counter has an owner; that never happens
unless an explicit mint (`mint_id`) was accepted: on ANY observations (the implementation's), every
tracking step of another kind keeps all owned ids below the counter. So under the labels whose
contracts have no explicit mint (`seq`, `enum`, `cons`) `trackMint` demands exactly what
`legacyTrackMint` demands, and under `exp` the two rules are the same. -/
theorem explicit_ids_only_above_counter (m : Mon) (l : Line) (o : Obs) (hb : Below m) (hk : l.kind ≠ .mintId) :
    Below (track m l o).1 := by
  unfold track
  split
  · exact hb
  · unfold trackAccepted
    split
    · exact below_trackMint hb l o
    · rename_i hk'; exact absurd hk' hk
    · exact below_trackBatch hb l o
    · exact below_trackMove hb l _ _
    · exact below_trackMove hb l _ _
    · exact below_trackBurn hb l _
    · exact below_trackBurn hb l _
    · exact hb
    · exact hb

/-- … and a sequence starts with nothing owned -/
theorem below_init (flavour : String) : Below (Own.init flavour) := by
  intro id h; cases h

/-! ### non-vacuity: the monitor is not trivially silent -/

/-- a wrong owner inside a window after an idle ledger: `site=nft.idle.changed … was-site=nft.owner_of id=5` -/
example :
    (checkCore { (Own.init "cons") with batches := [(0, 9, 1)], next := 10, bal := [0, 10, 0, 0, 0, 0], live := 10 }
      { kind := .advance, a := [], id := 0, n := 1, lu := 0, auth := [], q := [(0, 12)], qa := [] }
      ⟨true, none, [(0, 4, some 1), (5, 5, some 2), (6, 9, some 1), (10, 12, none)], [], [0, 10, 0, 0, 0, 0], [], [], [],
        none, [], [], 101, []⟩).2.isSome = true := by
  decide

/-- an owner list that keeps a burned token: `site=nft.enum.owner1` -/
example :
    (checkCore { (Own.init "enum") with over := [(0, some 1), (1, some 1)], next := 2, bal := [0, 2, 0, 0, 0, 0], live := 2 }
      { kind := .burn, a := [1], id := 0, n := 0, lu := 0, auth := [1], q := [(0, 2)], qa := [0] }
      ⟨true, none, [(0, 0, none), (1, 1, some 1), (2, 2, none)], [(0, none)], [0, 1, 0, 0, 0, 0], [], [], [],
        some 1, [some 1, none], [[none], [some 0, none], [], [], [], []], 100, [1]⟩).2.isSome = true := by
  decide

end OZ.NftMon.Own
