import OZ.Gen.Pausable
import OZ.Model.Gates
/-
C16 — the pause flag, re-checked on every run against what the SOURCE says now.

`lean/OZ/Gen/Pausable.lean` is regenerated by `/verif/tools/rs2lean.py --pausable` (state-passing mode) from
/repo's current `packages/contract-utils/src/pausable/storage.rs`: `paused`, `when_not_paused`, `when_paused`,
`pause`, `unpause`.  Proved here: the generated functions are the hand-written model's
(`OZ.Gates.whenNotPaused`, `whenPaused`, `pause`, `unpause`) on the flag, and the property's clauses about
the flag for the generated code itself.
-/
namespace OZ.Gen.Pausable
open OZ.Rs OZ.Gates

/-- the flag of a store (a missing entry reads as not paused) -/
def flag (st : Pausable.Store) : Bool := st.Paused.getD false

def unitOk (c : Comp Unit) : Bool :=
  match c with
  | .ok _ => true
  | .panic => false

theorem paused_eq (envr : Pausable.Reads) (st : Pausable.Store) : Pausable.paused envr st = .ok (flag st) := rfl

/-- **generated = model**: the two guards pass exactly when the model's do -/
theorem when_not_paused_eq (envr : Pausable.Reads) (st : Pausable.Store) (p : Pause) (h : p.paused = flag st) :
    unitOk (Pausable.when_not_paused envr st) = (whenNotPaused p).isOk := by
  unfold Pausable.when_not_paused whenNotPaused
  rw [paused_eq, h]
  cases flag st <;> rfl

theorem when_paused_eq (envr : Pausable.Reads) (st : Pausable.Store) (p : Pause) (h : p.paused = flag st) :
    unitOk (Pausable.when_paused envr st) = (whenPaused p).isOk := by
  unfold Pausable.when_paused whenPaused
  rw [paused_eq, h]
  cases flag st <;> rfl

/-- **`pause`**: accepted exactly when not paused; then the flag is set and nothing else exists to change -/
theorem gen_pause (envr : Pausable.Reads) (st : Pausable.Store) :
    (flag st = false → Pausable.pause envr st = .ok ((), Pausable.Store.set_Paused st true)) ∧
    (flag st = true → ((Pausable.pause envr st).bind fun _ => Comp.ok ()) = .panic) := by
  unfold Pausable.pause Pausable.when_not_paused
  rw [paused_eq]
  constructor
  · intro h; rw [h]; rfl
  · intro h; rw [h]; rfl

/-- **`unpause`**: accepted exactly when paused -/
theorem gen_unpause (envr : Pausable.Reads) (st : Pausable.Store) :
    (flag st = true → Pausable.unpause envr st = .ok ((), Pausable.Store.set_Paused st false)) ∧
    (flag st = false → ((Pausable.unpause envr st).bind fun _ => Comp.ok ()) = .panic) := by
  unfold Pausable.unpause Pausable.when_paused
  rw [paused_eq]
  constructor
  · intro h; rw [h]; rfl
  · intro h; rw [h]; rfl

/-- the model's `pause` / `unpause` and the generated ones agree on acceptance and on the resulting flag -/
theorem pause_eq (envr : Pausable.Reads) (st : Pausable.Store) (p : Pause) (h : p.paused = flag st) :
    match OZ.Gates.pause p, Pausable.pause envr st with
    | .ok p', .ok r => p'.paused = flag r.2
    | .error _, .panic => True
    | _, _ => False := by
  unfold OZ.Gates.pause whenNotPaused Pausable.pause Pausable.when_not_paused
  rw [paused_eq, h]
  cases flag st <;> simp [bind, Except.bind, pure, Except.pure, flag, Pausable.Store.set_Paused]

theorem unpause_eq (envr : Pausable.Reads) (st : Pausable.Store) (p : Pause) (h : p.paused = flag st) :
    match OZ.Gates.unpause p, Pausable.unpause envr st with
    | .ok p', .ok r => p'.paused = flag r.2
    | .error _, .panic => True
    | _, _ => False := by
  unfold OZ.Gates.unpause whenPaused Pausable.unpause Pausable.when_paused
  rw [paused_eq, h]
  cases flag st <;> simp [bind, Except.bind, pure, Except.pure, flag, Pausable.Store.set_Paused]

/-- `pause` then `unpause` leaves the flag as it was (not paused), on the generated code -/
theorem gen_pause_unpause_restores (envr : Pausable.Reads) (st : Pausable.Store) (h : flag st = false) :
    ((Pausable.pause envr st).bind fun r => (Pausable.unpause envr r.2).bind fun r2 => Comp.ok (flag r2.2)) = .ok false := by
  rw [(gen_pause envr st).1 h]
  simp only [Comp.bind_ok]
  rw [(gen_unpause envr _).1 (by simp [flag, Pausable.Store.set_Paused])]
  simp [flag, Pausable.Store.set_Paused]

/-! ### non-vacuity -/
example : ((Pausable.pause ⟨⟩ ⟨none⟩).bind fun r => Comp.ok r.2.Paused) = .ok (some true) := by decide
example : ((Pausable.pause ⟨⟩ ⟨some true⟩).bind fun _ => Comp.ok ()) = .panic := by decide

end OZ.Gen.Pausable
