import OZ.Gen.Fee
import OZ.Props.C19
/-
C19 — the fee-bound and expiration checks, re-checked against the SOURCE on every run.

`lean/OZ/Gen/Fee.lean` is regenerated by `/verif/tools/rs2lean.py --fee` from /repo's current
`packages/fee-abstraction/src/storage.rs` (`validate_fee_bounds`, `validate_expiration_ledger`; the only
thing read is the current ledger, `e.ledger().sequence()`).  Proved here: the generated checks pass exactly
when the model's do, i.e. exactly for `0 < fee ≤ max`
and for `expiration ≥ now`.
-/
namespace OZ.Gen.Fee
open OZ.Rs OZ.FeeForwarder

def passes (c : Comp Unit) : Bool :=
  match c with
  | .ok _ => true
  | .panic => false

theorem validate_fee_bounds_eq (r : Reads) (fee max : Int) :
    passes (validate_fee_bounds r fee max) = (validateFeeBounds fee max).isOk := by
  unfold validate_fee_bounds validateFeeBounds
  split <;> rfl

theorem validate_expiration_ledger_eq (now exp : Nat) :
    passes (validate_expiration_ledger ⟨now⟩ exp) = (validateExpirationLedger now exp).isOk := by
  unfold validate_expiration_ledger validateExpirationLedger
  split <;> rfl

/-- **the fee bound on the source as translated**: the check passes exactly for a positive fee that does
not exceed the authorized maximum -/
theorem gen_fee_bounds_iff (r : Reads) (fee max : Int) :
    passes (validate_fee_bounds r fee max) = true ↔ 0 < fee ∧ fee ≤ max := by
  rw [validate_fee_bounds_eq, ← fee_bounds_exact]
  cases validateFeeBounds fee max <;> simp [Except.isOk, Except.toBool]

/-- the expiration check passes exactly while the authorized expiration ledger has not passed -/
theorem gen_expiration_iff (now exp : Nat) :
    passes (validate_expiration_ledger ⟨now⟩ exp) = true ↔ now ≤ exp := by
  rw [validate_expiration_ledger_eq, ← expiry_check_exact]
  cases validateExpirationLedger now exp <;> simp [Except.isOk, Except.toBool]

example : passes (validate_fee_bounds ⟨0⟩ 0 10) = false := by decide
example : passes (validate_fee_bounds ⟨0⟩ 10 10) = true := by decide
example : passes (validate_fee_bounds ⟨0⟩ 11 10) = false := by decide

end OZ.Gen.Fee
