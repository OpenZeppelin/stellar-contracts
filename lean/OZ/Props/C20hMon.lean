import OZ.Lemmas.RegHooksMon
/-
C20 (h) — soundness of the `hooks` MONITOR that decides the property on implementation traces.

`./check C20` reports a concrete violation in a `hooks` sequence exactly when
`OZ.RegHooks.Mon.checkCore` (the sub-driver's monitor on parsed values, OZ/Model/RegHooksMon.lean)
returns a message on the implementation's observations. Here it is proved that on the observations
of the MODEL the monitor never returns a message, for every label parameter `nm` and every finite
history of `add_module_to` / `remove_module_from` with arbitrary arguments
(`monitor_accepts_every_model_trace`). Consequences: a monitor failure is never a false alarm of the
monitor itself, and every conclusion it evaluates (duplicates / absent modules refused, the 20th
module accepted and the 21st refused, `get_modules_for_hook` lists the plain set of each hook once,
`is_module_registered` is membership in the plain set) is a THEOREM about the model, in the
monitor's own executable wording.

`modelObs s nm ok` is the data the model driver prints for state `s` (`stepLine` / `showState` of
OZ/Drv/C20Hooks.lean): the tag, `H=` the graph of `getModulesForHook` over hooks 0..4 (`Hraw` its
printed form), `reg=` the bits of `isModuleRegistered` over hooks 0..4 x modules 0..nm-1.
-/
namespace OZ.RegHooks.Mon
open OZ.Reg OZ.RegMon OZ.RegHooks

/-- the observation the harness / the model driver print for a state -/
def modelObs (s : State) (nm : Nat) (ok : Bool) : Obs :=
  { ok := ok,
    H := (List.range NH).map (fun h => (h, getModulesForHook s h)),
    Hraw := sepBy ";" ((List.range NH).map (fun h => s!"{h}:{nats (getModulesForHook s h)}")),
    reg := bits ((List.range NH).flatMap (fun h => (List.range nm).map (fun x => isModuleRegistered s h x))) }

def accepted (s : State) (op : Op) : Bool :=
  match step s op with
  | .ok _ => true
  | .error _ => false

theorem getters_quiet {g : Mon} {s : State} {nm : Nat} (ha : Agree g s nm) (hI : Inv s) (ok : Bool) :
    (List.range NH).all (hookOk g (modelObs s nm ok).H) = true ∧
    (modelObs s nm ok).reg = bits (regWant g) := by
  constructor
  · rw [List.all_eq_true]
    intro h hh
    unfold hookOk
    show (match ((List.range NH).map (fun h => (h, getModulesForHook s h))).find? (fun x => x.1 == h) with
      | some (_, l) => nodupB l && sameSet l (want g h)
      | none => false) = true
    rw [find_graph _ _ h hh]
    simp only [Bool.and_eq_true]
    exact ⟨(nodupB_iff _).2 (hI.nodup h), (sameSet_iff _ _).2 (fun m => by rw [mem_want, ha.mem]; rfl)⟩
  · show bits _ = bits _
    refine congrArg bits ?_
    unfold regWant
    rw [ha.nm]
    refine List.flatMap_congr (fun h _ => List.map_congr_left (fun x _ => ?_))
    unfold isModuleRegistered
    rw [Bool.eq_iff_iff, OZ.Lists.any_beq_iff_mem, List.contains_iff_mem, ha.mem]

/-- **one call**: fed with the model's own observation of any call (accepted or refused), the
monitor reports nothing and its plain relation keeps describing the model's state -/
theorem monitor_sound_step {g : Mon} {s : State} {nm : Nat} (hI : Inv s) (ha : Agree g s nm) (op : Op) :
    (checkCore g op (modelObs (next s op) nm (accepted s op))).2 = none ∧
    Agree (checkCore g op (modelObs (next s op) nm (accepted s op))).1 (next s op) nm := by
  obtain ⟨g', hd, ha'⟩ := (decides ha hI op).quiet ha "hooks" (near g op) (acc := accepted s op) (s1 := next s op)
    (fun s' h => by unfold accepted next; rw [h]; exact ⟨rfl, rfl⟩)
    (fun e h => by unfold accepted next; rw [h]; exact ⟨rfl, rfl⟩)
  obtain ⟨q1, q2⟩ := getters_quiet ha' (inv_next hI op) (accepted s op)
  unfold checkCore
  rw [show (modelObs (next s op) nm (accepted s op)).ok = accepted s op from rfl, hd]
  refine ⟨?_, ha'⟩
  show firstFail [none, chk _ _, chk (decide _) _] = none
  rw [firstFail_none_cons, chk_of q1, firstFail_none_cons, chk_decide q2]
  rfl

def monitorRun (nm : Nat) : Mon → State → List Op → Option String
  | _, _, [] => none
  | g, s, op :: ops =>
    match (checkCore g op (modelObs (next s op) nm (accepted s op))).2 with
    | some msg => some msg
    | none => monitorRun nm (checkCore g op (modelObs (next s op) nm (accepted s op))).1 (next s op) ops

/-- the monitor's initial state for a sequence (what `minit` builds from the label) -/
def monInit (nm : Nat) : Mon := { rel := [], nm := nm }

/-- **monitor soundness**: for every label parameter `nm` and every finite history of
`add_module_to` / `remove_module_from` — any hooks, any modules, accepted or refused — the monitor
that the sub-driver's `minit` builds reports nothing on the observations of the model that the
sub-driver's `initM` builds -/
theorem monitor_accepts_every_model_trace (nm : Nat) (ops : List Op) :
    monitorRun nm (monInit nm) init ops = none :=
  run_quiet (R := fun g s => Inv s ∧ Agree g s nm) (fun _ _ => rfl) (fun _ _ _ _ h => by rw [monitorRun, h]) ops
    (fun op _ _ _ ⟨hI, ha⟩ => ⟨(monitor_sound_step hI ha op).1, inv_next hI op, (monitor_sound_step hI ha op).2⟩)
    _ _ ⟨inv_init, rfl, List.nodup_nil, fun h m => by simp [monInit, init]⟩

/-! ### non-vacuity: the monitor is not trivially silent -/

/-- a refused 20th module, an accepted duplicate, a module listed twice and a wrong membership bit
are reported -/
example :
    (checkCore { rel := (List.range 19).map (fun m => (3, m)), nm := 1 } (.add 3 19)
      ⟨false, [], "", ""⟩).2.isSome = true ∧
    (checkCore { rel := [(0, 1)], nm := 2 } (.add 0 1) ⟨true, [], "", ""⟩).2.isSome = true ∧
    (List.range NH).all (hookOk { rel := [(0, 1)], nm := 2 } [(0, [1, 1]), (1, []), (2, []), (3, []), (4, [])]) = false ∧
    regWant { rel := [(0, 1)], nm := 2 } ≠ List.replicate 10 false := by
  refine ⟨by decide, by decide, by decide, by decide⟩

end OZ.RegHooks.Mon
