import OZ.Lemmas.RegRulesMon
/-
C20 (d) — soundness of the `rules` MONITOR that decides the property on implementation traces.

`./check C20` reports a concrete violation in a `rules` sequence exactly when
`OZ.RegRules.Mon.checkCore` (the sub-driver's monitor on parsed values, OZ/Model/RegRulesMon.lean)
returns a message on the implementation's observations. Here it is proved that on the observations
of the MODEL (with the harness's oracle `installOk`: exactly policy 6 refuses `install`) the monitor
never returns a message, for every label (ledger `now`, constructor signers `s0` and policies `p0`
such that the constructor's `add_context_rule` is accepted) and every finite history of the eight
rule-management operations with ARBITRARY arguments and of idle gaps
(`monitor_accepts_every_model_trace`). Consequences: a monitor failure is never a false alarm of the
monitor itself, and every conclusion it evaluates — ALL checks of the `rules` monitor are covered:
the accept / refuse decision against the plain list with its documented limits (15 rules, 15
signers, 5 policies, duplicate signers / policies, absent ids / signers / policies, expiry in the past, empty rules,
duplicate fingerprints as plain triples of SETS, policy 6), the returned id above every id handed
out before (`rules.id_reused`), `get_context_rules_count` (`rules.count`), `get_context_rule` over
all ids (`rules.map`), `get_context_rules` per type in order (`rules.enumerates_once`), and the
stored fingerprint set as the injective image of the rules (`rules.fingerprints`) — is a THEOREM
about the model, in the monitor's own executable wording.

One hypothesis, about the labels the harness generates, not about the model:
* `hc`: the constructor rule is accepted. `minit` always starts from the ghost rule 0 while `initM`
  falls back to the empty state when the constructor's `add_context_rule` is refused (no signer and
  no policy, a duplicate signer or policy, more than 15 signers / 5 policies, policy 6); on such a
  label the monitor fires at the first call (`constructor_refused_fires` below). The harness only
  generates labels whose constructor succeeds (the account could not be deployed otherwise).

`plain` refuses an `add_context_rule` whose policy vector repeats a policy (`dup_policy`, next to `dup_signer`), as
the model does (like `compute_fingerprint`: `DuplicatePolicy`). The check is needed for soundness: the decision
without it (`legacyPlainAdd` / `legacyPlain` in OZ/Model/RegRulesMon.lean) accepts such a call and so reports
`site=rules.valid_refused` on the model's own observation of it, a false alarm of the monitor
(`legacy_monitor_false_alarm_dup_policy`). The driver's `parseOp` passes the policy vector through `dedupSort`, so
the two decisions agree on every trace the harness produces.

`modelObs ret s ok` is the data the model driver prints for state `s` (`stepLine` / `showState` of
OZ/Drv/C20Rules.lean, `idleSt` of OZ/Drv/C20.lean), as `parseObs` reads it: the tag; `ret=` the id
`NextId` of the old state for an accepted `add`, `-` otherwise (`retOf`); `n=`
`getContextRulesCount`; `R=` the printed `liveRules`; `T=` the printed ids of `getContextRules` over
types 0..3; `nfp=` the number of stored fingerprints; `fpd=` the number of distinct fingerprints of
the live rules (`fpsLive`, `eraseDups`); `fpok=` the bit "every live rule has a fingerprint and it
is stored".
-/
namespace OZ.RegRules.Mon
open OZ.Reg OZ.RegMon OZ.RegRules

/-- the observation the harness / the model driver print for a state -/
def modelObs (ret : Option Nat) (s : State) (ok : Bool) : Obs :=
  { ok := ok,
    ret := ret,
    n := getContextRulesCount s,
    R := sepBy ";" ((liveRules s).map showRule),
    T := sepBy ";" ((List.range NC).map (fun c => match getContextRules s c with
      | some l => s!"{c}:{nats (l.map (·.id))}"
      | none => s!"{c}:x")),
    nfp := s.fps.length,
    fpd := (fpsLive s).eraseDups.length,
    fpok := bit (decide ((fpsLive s).length = (liveRules s).length ∧ (fpsLive s).all s.fps.contains)) }

def accepted (s : State) (op : Op) : Bool :=
  match step installOk s op with
  | .ok _ => true
  | .error _ => false

theorem getters_quiet {g : Mon} {s : State} (ha : Agree g s) (hI : Inv s) (hS : IdsSorted s)
    (ret : Option Nat) (ok : Bool) : firstFail (getters g (modelObs ret s ok)) = none := by
  have hlen : g.rules.length = (ghost s).length := by rw [ha.rules]
  have q1 : (modelObs ret s ok).n = g.rules.length := by
    show s.count = _
    rw [hlen, ghost_length hI]
  have q2 : (modelObs ret s ok).R = rWant g := rWant_eq ha
  have q3 : (modelObs ret s ok).T = tWant g := tWant_eq ha hI hS
  have q4 : (modelObs ret s ok).nfp = g.rules.length ∧ (modelObs ret s ok).fpd = g.rules.length ∧
      (modelObs ret s ok).fpok = "1" := by
    refine ⟨by rw [hlen]; exact nfp_eq hI, by rw [hlen]; exact fpd_eq hI, ?_⟩
    show bit (decide _) = "1"
    rw [decide_eq_true (fpok_eq hI)]
    rfl
  unfold getters
  rw [chk_decide q1, firstFail_none_cons, chk_decide q2, firstFail_none_cons, chk_decide q3, firstFail_none_cons,
    chk_decide q4]
  rfl

/-- **one call**: fed with the model's own observation of any call (accepted or refused), the
monitor reports nothing and its plain list keeps describing the model's state -/
theorem monitor_sound_step {g : Mon} {s : State} (hI : Inv s) (hS : IdsSorted s) (ha : Agree g s) (op : Op) :
    (checkCore g op (modelObs (retOf s op (accepted s op)) (next installOk s op) (accepted s op))).2 = none ∧
    Agree (checkCore g op (modelObs (retOf s op (accepted s op)) (next installOk s op) (accepted s op))).1
      (next installOk s op) := by
  have hI' := inv_next installOk hI op
  have hS' := idsSorted_next hI hS op
  have key : ∃ g2,
      idStep g (decide2 "rules" g (plain g op) (accepted s op) (near g op)).1
        (decide2 "rules" g (plain g op) (accepted s op) (near g op)).2 op (accepted s op)
        (retOf s op (accepted s op)) = (g2, none) ∧
      (decide2 "rules" g (plain g op) (accepted s op) (near g op)).2 = none ∧
      Agree g2 (next installOk s op) := by
    rcases outcome ha hI op with ⟨s', g', hs, hp, ha'⟩ | ⟨⟨e, hs⟩, w, hp⟩
    · have hn : next installOk s op = s' := by unfold next; rw [hs]
      have hacc : accepted s op = true := by unfold accepted; rw [hs]
      obtain ⟨g2, hid, ha2⟩ := idStep_ok ha hI hs ha'
      rw [hn, hacc, hp, decide2_ok]
      exact ⟨g2, hid, rfl, ha2⟩
    · have hn : next installOk s op = s := by unfold next; rw [hs]
      have hacc : accepted s op = false := by unfold accepted; rw [hs]
      rw [hn, hacc, hp, decide2_err]
      exact ⟨g, idStep_err _ _ _ _ _, rfl, ha⟩
  obtain ⟨g2, hid, hd, ha2⟩ := key
  unfold checkCore
  rw [show (modelObs (retOf s op (accepted s op)) (next installOk s op) (accepted s op)).ok = accepted s op from rfl,
    show (modelObs (retOf s op (accepted s op)) (next installOk s op) (accepted s op)).ret =
      retOf s op (accepted s op) from rfl, hid, hd]
  refine ⟨?_, ha2⟩
  show firstFail (none :: none :: getters g2 _) = none
  rw [firstFail_none_cons, firstFail_none_cons]
  exact getters_quiet ha2 hI' hS' _ _

/-- an item of a sequence: a call, or an idle gap of `days` days (17 280 ledgers each). On an idle
line the dispatcher OZ/Drv/C20.lean only moves the monitor's `now` (no check by this monitor) while
the model performs `.advance`. -/
inductive Item where
  | call (op : Op)
  | idle (days : Nat)

def monitorRun : Mon → State → List Item → Option String
  | _, _, [] => none
  | g, s, .call op :: rest =>
    match (checkCore g op (modelObs (retOf s op (accepted s op)) (next installOk s op) (accepted s op))).2 with
    | some msg => some msg
    | none => monitorRun (checkCore g op (modelObs (retOf s op (accepted s op)) (next installOk s op) (accepted s op))).1
        (next installOk s op) rest
  | g, s, .idle d :: rest =>
    monitorRun { g with now := g.now + d * 17280 } (next installOk s (.advance (d * 17280))) rest

/-- the monitor's initial state for a sequence (what `minit` builds from the label: the ledger
sequence `now`, the constructor rule's signers `s0` and policies `p0`) -/
def monInit (now : Nat) (s0 p0 : List Nat) : Mon :=
  { rules := [⟨0, 0, 0, none, s0, p0⟩], maxId := 0, now := now }

/-- stated for any `n`, so that no proof has to compute with the number of ledgers in a day -/
theorem agree_advance {g : Mon} {s : State} (ha : Agree g s) (n : Nat) :
    Agree { g with now := g.now + n } (next installOk s (.advance n)) :=
  ⟨ha.rules, ha.maxId, by show g.now + n = s.now + n; rw [ha.now]⟩

theorem monitor_run_quiet (items : List Item) :
    ∀ g s, Inv s → IdsSorted s → Agree g s → monitorRun g s items = none := by
  induction items with
  | nil => intro g s _ _ _; rfl
  | cons it rest ih =>
    intro g s hI hS ha
    cases it with
    | call op =>
      obtain ⟨h1, h2⟩ := monitor_sound_step hI hS ha op
      unfold monitorRun
      rw [h1]
      exact ih _ _ (inv_next installOk hI op) (idsSorted_next hI hS op) h2
    | idle d =>
      unfold monitorRun
      exact ih _ _ (inv_next installOk hI _) (idsSorted_next hI hS _) (agree_advance ha _)

/-- **monitor soundness**: for every label (`now`, `s0`, `p0`) whose constructor rule the model
accepts (`initM` then starts from that state `s`) and every finite history of calls of
`add_context_rule`, `update_context_rule_name`,
`update_context_rule_valid_until`, `remove_context_rule`, `add_signer`, `remove_signer`,
`add_policy`, `remove_policy` — any ids, names, expiries, signers, policies, accepted or refused —
and of idle gaps, the monitor that the sub-driver's `minit` builds reports nothing on the
observations of the model that the sub-driver's `initM` builds -/
theorem monitor_accepts_every_model_trace (now : Nat) (s0 p0 : List Nat) (s : State)
    (hc : addContextRule installOk (init now) 0 0 none s0 p0 = .ok s)
    (items : List Item) :
    monitorRun (monInit now s0 p0) s items = none := by
  obtain ⟨ha, hI, hS⟩ := agree_constructor hc
  exact monitor_run_quiet items _ _ hI hS ha

/-- a label whose constructor rule the model refuses (no signer, no policy): `initM` falls back to
the empty state, `minit` still holds the ghost rule 0, and the monitor fires on the model's
observation of the first call (`rules.count`) -/
theorem constructor_refused_fires :
    (∃ e, addContextRule installOk (init 100) 0 0 none [] [] = .error e) ∧
    (monitorRun (monInit 100 [] []) (init 100) [.call (.rename 0 1)]).isSome = true := by
  refine ⟨⟨_, rfl⟩, by decide +kernel⟩

/-- **legacy_monitor_false_alarm_dup_policy.** Model trace: the account with constructor rule (signer 0, no
policy), then `add_context_rule(type 1, name 1, no expiry, signers [1], policies [2, 2])`. The model refuses the
call (`DuplicatePolicy`). The decision `legacyPlain` (no `dup_policy` check) accepts it, so on the model's own
(refused) observation it reports `site=rules.valid_refused`; `plain` refuses it and the monitor reports nothing. -/
theorem legacy_monitor_false_alarm_dup_policy :
    accepted (added (init 100) 0 0 none [0] []) (.add 1 1 none [1] [2, 2]) = false ∧
    (decide2 "rules" (monInit 100 [0] []) (legacyPlain (monInit 100 [0] []) (.add 1 1 none [1] [2, 2])) false
      (near (monInit 100 [0] []) (.add 1 1 none [1] [2, 2]))).2 =
        some (refusedSite "rules" "valid") ∧
    (decide2 "rules" (monInit 100 [0] []) (plain (monInit 100 [0] []) (.add 1 1 none [1] [2, 2])) false
      (near (monInit 100 [0] []) (.add 1 1 none [1] [2, 2]))).2 = none ∧
    monitorRun (monInit 100 [0] []) (added (init 100) 0 0 none [0] []) [.call (.add 1 1 none [1] [2, 2])] = none := by
  refine ⟨?_, by decide +kernel, by decide +kernel,
    monitor_accepts_every_model_trace 100 [0] [] _ rfl [.call (.add 1 1 none [1] [2, 2])]⟩
  -- refused because the policy vector is not duplicate-free
  unfold accepted
  cases h : step installOk (added (init 100) 0 0 none [0] []) (.add 1 1 none [1] [2, 2]) with
  | error _ => rfl
  | ok s' => exact absurd ((addContextRule_ok_iff _ _ _ _ _ _ _ _).1 h).1.2.2.1.psNodup (by decide)

/-- a refused valid `add`, an accepted `add` with a repeated policy, an accepted 16th rule, a reused id, a wrong count, a rule listed under a
wrong type and a missing fingerprint entry are reported -/
example :
    (checkCore (monInit 100 [0] []) (.add 1 1 none [1] []) ⟨false, none, 1, "", "", 1, 1, "1"⟩).2.isSome = true ∧
    (checkCore (monInit 100 [0] []) (.add 1 1 none [1] [2, 2]) ⟨true, some 1, 2, "", "", 2, 2, "1"⟩).2.isSome = true ∧
    (checkCore { rules := (List.range 15).map (fun i => ⟨i, 0, 0, none, [i], []⟩), maxId := 14, now := 100 }
      (.add 1 1 none [16] []) ⟨true, some 15, 16, "", "", 16, 16, "1"⟩).2.isSome = true ∧
    (idStep (monInit 100 [0] []) (monInit 100 [0] []) none (.add 1 1 none [1] []) true (some 0)).2.isSome = true ∧
    (firstFail (getters (monInit 100 [0] []) ⟨true, none, 2, rWant (monInit 100 [0] []), tWant (monInit 100 [0] []), 1, 1, "1"⟩)).isSome = true ∧
    (firstFail (getters (monInit 100 [0] []) ⟨true, none, 1, rWant (monInit 100 [0] []), "0:-;1:0;2:-;3:-", 1, 1, "1"⟩)).isSome = true ∧
    (firstFail (getters (monInit 100 [0] []) ⟨true, none, 1, rWant (monInit 100 [0] []), tWant (monInit 100 [0] []), 0, 1, "0"⟩)).isSome = true := by
  refine ⟨by decide, by decide, by decide, by decide, by decide, by decide, by decide⟩

end OZ.RegRules.Mon
