import OZ.Props.C09
import OZ.Lemmas.TimelockControllerMonStep
/-
C09 — soundness of the MONITOR that decides the property on implementation traces.

`./check C09` reports a concrete violation exactly when `OZ.TimelockController.Mon.checkCore` (the
driver's monitor on parsed values, OZ/Model/TimelockControllerMon.lean) returns a message on the
implementation's observations (or when an observation line cannot be parsed at all). `./check C08`
counts the `site=controller.views` / `site=controller.state` messages of the same monitor. Here it is
proved that on the observations of the MODEL the monitor never returns a message, for every label
(start ledger of the property's regime 2 ≤ start ≤ u32::MAX, minimum delay, proposers, executors,
external admin or self-administration) and every finite history of trace lines — definitions of
operation tuples, schedule / cancel / execute, the seven entry points the controller guards with a
`require_auth` that may be its own (update_delay, grant_role, revoke_role, renounce_role,
set_role_admin, transfer_admin_role, renounce_admin) with arbitrary signature payloads and
authorization tokens, accept_admin_transfer, `__check_auth` driven directly with arbitrary descriptor
and context vectors, ledger advances; accepted or rejected; accounts and roles also outside the
displayed universe (`monitor_accepts_every_model_trace`). Consequences:

  * an implementation whose observations agree with the model's (the correspondence the check
    establishes by differential testing) can never raise a monitor alarm — a monitor failure is
    never a false alarm of the monitor itself;
  * every conclusion the monitor evaluates is a THEOREM about the model, in the monitor's own
    executable wording: every reported operation state and ready ledger is the one the accepted
    history prescribes (`monitor_state_check_sound`: the ghost log of accepted schedule / cancel /
    execute calls AND of the operations consumed by admin calls and by `__check_auth`); an accepted
    admin-only call on a self-administered controller, an accepted role call by the controller and
    every context of an accepted `__check_auth` consumed a defined operation for exactly that call,
    pending with its delay elapsed, Ready before and Done after, with the configured executor's role
    and signature for exactly that context; role and signature conditions of schedule / cancel /
    execute / accept / role calls / admin calls by an external admin; the exact membership effect;
    effects need a cause; Done stays Done; rollback; nothing but Waiting → Ready over an idle gap;
    id-equality ⇔ tuple-equality.

The model side (`MS`, `modelStep`, `resolveCall`, in OZ/Lemmas/TimelockControllerMon.lean; `modelObs`
in OZ/Model/TimelockControllerMon.lean) is the structured content of what the driver's `op`
(`OZ.Drv.C09.stepLine` / `showState`) does and prints for the model: `now`, the minimum delay, the
admin, per role 0..3 the members among the accounts 0..5 (sorted), per role 0..3 its admin role, per
defined operation the state letter and `get_operation_ledger`, the target's call counter; the text
after `now=…` (`showRaw`, the very function `showState` prints); on a definition line the indices of
the earlier definitions with the same id; `err` with the unchanged state for a rejected call. Lines
for which the model driver prints `bad-op` (unknown kind, index / reference that does not resolve)
have no model observation and are skipped by `monitorRun`.

The conditions `legacy…` of OZ/Model/TimelockControllerMon.lean are STRICTER than the model
outside the harness's small universe; their false alarms are exhibited below
(`legacy_monitor_false_alarm_*`).
-/
namespace OZ.TimelockController.Mon
open OZ.Host OZ.Timelock OZ.TimelockController

/-- **the state check** (`site=controller.state`, `site=controller.views` — the part `./check C08`
counts): in every model state satisfying the reachable-state invariant, whatever operations are
defined, the pair (state letter, ledger value) the model reports for every defined operation is
exactly what the monitor derives from its own ghost log, and the letter is never `X` -/
theorem monitor_state_check_sound (m : Mon) (x : MS) (hi : MInv x) (ha : Agree m x) (ok : Bool)
    (eq : Option (List Nat)) :
    checkStates m (modelObs x.c x.defs ok eq) = none ∧
    ∀ id, expectedSt (m.get (some id)) x.c.tl.now =
      (codeOf (getOperationState x.c.tl id), getOperationLedger x.c.tl id) :=
  ⟨checkStates_quiet m x.c x.defs ok eq hi.tl ha.defs ha.ghost,
   fun id => by rw [ha.ghost]; exact expectedSt_toG hi.tl id⟩

/-- **one line**: fed with the model's own observation of any trace line (a definition, or a call
the model accepts or rejects), the monitor reports nothing, its state keeps describing the
model's, and the model state stays inside the invariant -/
theorem monitor_sound_step (m : Mon) (x : MS) (hi : MInv x) (ha : Agree m x) (ln : Line) (x' : MS) (o : Obs)
    (h : modelStep x ln = some (x', o)) :
    (checkCore m ln o).2 = none ∧ Agree (checkCore m ln o).1 x' ∧ MInv x' := by
  cases ln with
  | badDef => cases h
  | defn t f args p s =>
    cases hp : refKey x.defs p with
    | none => simp [modelStep, hp] at h
    | some pid =>
      simp only [modelStep, hp, Option.map_some, Option.some.injEq] at h
      have h1 : x' = (modelDef x ⟨t, f, args, pid, s⟩).1 := by rw [h]
      have h2 : o = (modelDef x ⟨t, f, args, pid, s⟩).2 := by rw [h]
      subst h1; subst h2
      exact def_sound m x hi ha t f args p s pid hp
  | call cl =>
    cases hr : resolveCall x cl with
    | none => simp [modelStep, hr] at h
    | some ea =>
      obtain ⟨e, auth⟩ := ea
      simp only [modelStep, hr, Option.map_some, Option.some.injEq] at h
      unfold modelCall at h
      cases hx : applyE x.c auth (resolveSig x.defs cl.sig) e with
      | error err =>
        rw [hx] at h
        injection h with h1 h2; subst h1; subst h2
        obtain ⟨a, b⟩ := rejected_sound m x hi ha cl
        exact ⟨a, b, hi⟩
      | ok c' =>
        rw [hx] at h
        injection h with h1 h2; subst h1; subst h2
        exact accepted_sound m x hi ha cl e auth hr c' hx

/-- the monitor run over a whole history of model observations: first message, if any (lines the
model driver answers with `bad-op` carry no model observation and are skipped) -/
def monitorRun : Mon → MS → List Line → Option String
  | _, _, [] => none
  | m, x, ln :: rest =>
    match modelStep x ln with
    | none => monitorRun m x rest
    | some (x', o) =>
      match (checkCore m ln o).2 with
      | some msg => some msg
      | none => monitorRun (checkCore m ln o).1 x' rest

/-- **monitor soundness**: for every label — start ledger of the regime, minimum delay, proposers,
executors, external admin or none (`monInit` is what the driver's `minit` builds, `initMS` what its
`init` builds from the label: `construct start MAX_TTL 0 min prop exec admin`) — and every finite
history of trace lines, the monitor reports nothing on the model's observations -/
theorem monitor_accepts_every_model_trace (start min : Nat) (prop exec : List Nat) (admin : Option Nat)
    (h2 : 2 ≤ start) (hm : start ≤ U32_MAX) (lines : List Line) :
    monitorRun monInit (initMS start min prop exec admin) lines = none := by
  suffices ∀ m x, MInv x → Agree m x → monitorRun m x lines = none by
    apply this
    · obtain ⟨a, b⟩ := construct_inv (now := start) (maxTtl := MAX_TTL) (self := 0) (minDelay := min)
        (ps := prop) (es := exec) (admin := admin) h2 hm
      exact ⟨a, b, rfl, fun id hne => absurd rfl hne⟩
    · exact ⟨rfl, fun _ => rfl, fun p hp => (by cases hp), fun _ => ⟨rfl, construct_roleAdmin_none _ _ _ _ _ _ _⟩⟩
  induction lines with
  | nil => intro m x _ _; rfl
  | cons ln rest ih =>
    intro m x hi ha
    unfold monitorRun
    cases hs : modelStep x ln with
    | none => exact ih m x hi ha
    | some r =>
      obtain ⟨x', o⟩ := r
      obtain ⟨h1, h2, h3⟩ := monitor_sound_step m x hi ha ln x' o hs
      simp only [h1]
      exact ih _ _ h3 h2

/-! ### conditions stricter than the monitor's raise false alarms on model traces

Each theorem runs the MODEL on a short history that leaves the harness's universe (accounts 0..5,
roles 0..3, readable contexts), builds the model's own observation, and shows that a condition
stricter than the monitor's (`legacy…` in OZ/Model/TimelockControllerMon.lean, or `verdictCheck`
without `liveCtxs`) raises an alarm on it although the observation is the model's; the monitor's condition is
silent on the same input (by the theorem above; the first and the third theorem evaluate it as well). The
harness never leaves the universe, so none of these could occur in a check run. -/

/-- model trace: a controller whose only proposer is account 7 (label `prop=7`); one operation is
defined; account 7 schedules it with its own signature. The model accepts (7 holds the proposer
role); `legacyVerdictSched` raises `site=controller.schedule.role` because 7 is not among the
displayed accounts 0..5; `verdictSched` (which asks `inU`) is silent. The same pattern: `controller.cancel.role`, `controller.execute.role`, the
executor clause of `consumed`, `controller.role.renounce`. -/
theorem legacy_monitor_false_alarm_schedule_role :
    (applyE (initMS 100 0 [7] [] none).c [.call 7] none (.scheduleOp ⟨9, 10, [3], Id.zero, 0⟩ 0 7)).toBool = true ∧
    (legacyVerdictSched (modelObs (initMS 100 0 [7] [] none).c [⟨9, 10, [3], Id.zero, 0⟩] true none) 0 7
      [.call 7]).isSome = true ∧
    verdictSched (modelObs (initMS 100 0 [7] [] none).c [⟨9, 10, [3], Id.zero, 0⟩] true none) 0 7
      [.call 7] = none := by
  have hb : belowMin (modelObs (initMS 100 0 [7] [] none).c [⟨9, 10, [3], Id.zero, 0⟩] true none).min 0 = false := by
    decide
  refine ⟨by decide, ?_, ?_⟩
  · unfold legacyVerdictSched
    rw [if_neg (by rw [hb]; simp), if_pos]
    · rfl
    · rw [members_model, if_pos (by decide)]
      intro h
      have := (mem_heldBy.mp (by simpa using h)).1
      revert this; decide
  · unfold verdictSched
    rw [if_neg (by rw [hb]; simp), if_neg (by decide), if_neg (by decide)]

/-- model trace: on a controller with the external admin 1, the admin grants the proposer role to
account 7 with its own signature. The model accepts and the displayed membership is unchanged (7 is
not displayed); `legacyExpdRoles` (`site=controller.role.effect`) expects 7 to show up among the
members of role 0 (the monitor's `expdRoles` is what the model shows, `expdRoles_upd`). -/
theorem legacy_monitor_false_alarm_role_effect :
    (∃ c', applyE (initMS 100 0 [2] [] (some 1)).c [.call 1] none (.grantRole 7 0 1) = .ok c' ∧
      modelRoles c' = modelRoles (initMS 100 0 [2] [] (some 1)).c) ∧
    modelRoles (initMS 100 0 [2] [] (some 1)).c ≠
      legacyExpdRoles (modelObs (initMS 100 0 [2] [] (some 1)).c [] true none) (.grant 7 0 1) 7 0 := by
  have hroles : ∀ c : CState, modelRoles c = (List.range NROLES).map (heldBy c) := by
    intro c; unfold modelRoles; simp only [sortNat_heldBy]
  constructor
  · cases h : applyE (initMS 100 0 [2] [] (some 1)).c [.call 1] none (.grantRole 7 0 1) with
    | error e =>
      have : (applyE (initMS 100 0 [2] [] (some 1)).c [.call 1] none (.grantRole 7 0 1)).toBool = true := by decide
      rw [h] at this; cases this
    | ok c' =>
      refine ⟨c', rfl, ?_⟩
      have : ((applyE (initMS 100 0 [2] [] (some 1)).c [.call 1] none (.grantRole 7 0 1)).toOption.map
          (fun c' => (List.range NROLES).map (heldBy c'))) =
          some ((List.range NROLES).map (heldBy (initMS 100 0 [2] [] (some 1)).c)) := by decide
      rw [h] at this
      rw [hroles, hroles]
      simpa [Except.toOption] using this
  · intro h
    have h0 : (modelRoles (initMS 100 0 [2] [] (some 1)).c)[0]? =
        (legacyExpdRoles (modelObs (initMS 100 0 [2] [] (some 1)).c [] true none) (.grant 7 0 1) 7 0)[0]? := by rw [← h]
    rw [modelRoles_get, if_pos (by decide)] at h0
    unfold legacyExpdRoles at h0
    rw [prev_roles_length, List.getElem?_map, List.getElem?_range (by decide)] at h0
    simp only [Option.map_some, ne_eq, not_true_eq_false, if_false, Option.some.injEq] at h0
    have h7 : 7 ∈ legacyExpdMembers (modelObs (initMS 100 0 [2] [] (some 1)).c [] true none) (.grant 7 0 1) 7 0 := by
      unfold legacyExpdMembers
      simp only
      split
      · rename_i hc; simpa using hc
      · unfold sortNat; rw [List.mem_mergeSort]; simp
    rw [← h0] at h7
    have := (mem_heldBy.mp h7).1
    revert this; decide

/-- model trace: `tc check metas=e ctxs=zz auth=-` on a fresh controller: the model driver drops the
unreadable context and `__check_auth` with no descriptors and no contexts returns Ok; `verdictCheck` on the
contexts as written counts the unreadable token as a context (`site=controller.checkauth.length`), on
`liveCtxs` of them (what the monitor passes) it is silent. -/
theorem legacy_monitor_false_alarm_unreadable_context :
    (applyE (initMS 100 0 [1] [] none).c [] none
      (.checkAuth ((resolveMetas [] []).getD []) (resolveCtxs [] [.bad]))).toBool = true ∧
    (verdictCheck monInit (modelObs (initMS 100 0 [1] [] none).c [] true none)
      (modelObs (initMS 100 0 [1] [] none).c [] true none) [] [.bad] []).isSome = true ∧
    verdictCheck monInit (modelObs (initMS 100 0 [1] [] none).c [] true none)
      (modelObs (initMS 100 0 [1] [] none).c [] true none) [] (liveCtxs [] [.bad]) [] = none := by
  decide

/-! ### non-vacuity: the monitor is not trivially silent -/

/-- `update_delay(42)` accepted on a self-administered controller with the EMPTY descriptor vector
(`check_auth_short_payload_counterexample`) is reported as `site=controller.admin.unconsumed` -/
example :
    ((checkCore { defs := [], ghost := [],
                  prev := some { ok := true, eq := none, now := 100, min := some 5, admin := some 0,
                                 roles := [[1], [], [1], []], radm := [none, none, none, none], st := [],
                                 raw := "a", calls := "0:-:-" } }
        (.call { call := .update 42, sig := some [], auth := [] })
        { ok := true, eq := none, now := 100, min := some 42, admin := some 0,
          roles := [[1], [], [1], []], radm := [none, none, none, none], st := [],
          raw := "b", calls := "0:-:-" }).2.getD "").startsWith "site=controller.admin.unconsumed" = true := by
  simp [checkCore, checkCall, fin, firstSome, verdictCall, verdictOk, idle, undoneCheck, effect, verdictAccepted,
    verdictAdmin, setradmEffect, adminAuth, adminSelf, isUpdateK, isCallerK, isCallerKind, isSetradmK, isAcceptK,
    isRenounceK, newlyDone, Call.kind, showArgsT, argsOf, showTyped, vU32]
  decide

/-- a state reported Ready one ledger early (scheduled at 100 with delay 10), and a view that
disagrees with `get_operation_state` (`X`) -/
example :
    (checkStates { defs := [⟨0, 0, [126], Id.zero, 0⟩],
                   ghost := [(some (Operation.id ⟨0, 0, [126], Id.zero, 0⟩), .pending 100 10)], prev := none }
        { ok := true, eq := none, now := 109, min := some 10, admin := some 0, roles := [], radm := [],
          st := [("R", 110)], raw := "", calls := "" }).isSome = true ∧
    (checkStates { defs := [⟨0, 0, [126], Id.zero, 0⟩],
                   ghost := [(some (Operation.id ⟨0, 0, [126], Id.zero, 0⟩), .pending 100 10)], prev := none }
        { ok := true, eq := none, now := 109, min := some 10, admin := some 0, roles := [], radm := [],
          st := [("X", 110)], raw := "", calls := "" }).isSome = true := by
  constructor <;>
    simp [checkStates, stateBad, expectedSt, elapsedM, satU32, Mon.get, Operation.id, Id.zero]

/-- the model's own observations of a concrete history (self-administered controller with
proposer 1: define `update_delay(42)`, schedule it with delay 5, wait, call it with the right
descriptor, call it again): an instance of `monitor_accepts_every_model_trace`, not an evaluation -/
example :
    monitorRun monInit (initMS 100 5 [1] [] none)
      [.defn 0 0 [vU32 42] .z 0,
       .call ⟨.sched 0 5 1, none, [.call 1]⟩,
       .call ⟨.update 42, some [⟨.z, 0, none⟩], []⟩,
       .call ⟨.advance 5, none, []⟩,
       .call ⟨.update 42, some [⟨.z, 0, none⟩], []⟩,
       .call ⟨.update 42, some [⟨.z, 0, none⟩], []⟩] = none :=
  monitor_accepts_every_model_trace 100 5 [1] [] none (by decide) (by decide) _

end OZ.TimelockController.Mon
