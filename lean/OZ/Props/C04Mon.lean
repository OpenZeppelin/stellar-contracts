import OZ.Lemmas.RwaMonSound
import OZ.Lemmas.FungibleAuth
import OZ.Props.C01
/-
C04 — soundness of the MONITOR that decides the property on implementation traces.

`./check C04` (and, for the sites `rwa.sum` / `rwa.rollback` / `rwa.replay`, `./check C01`) reports a
concrete violation exactly when `OZ.Rwa.Mon.checkCore` (the driver's monitor on parsed values,
OZ/Model/RwaMon.lean) returns a message on the implementation's observations. Here it is proved
that on the observations of the MODEL the monitor never returns a message, for every host
configuration, start ledger, admin and every finite history of op lines whose token accounts lie
in the observed universe 0..N-1 (`monitor_accepts_every_model_trace`). Consequences:

  * an implementation whose observations agree with the model's (the correspondence the check
    establishes by differential testing) can never raise a monitor alarm — a monitor failure is
    never a false alarm of the monitor itself;
  * every conclusion the monitor evaluates — ALL 23 checks of `OZ.Rwa.Mon.verdict`:
    `vGateTransfer`, `vGateTransferFrom`, `vGateMint` (every gate open in the observed pre-state,
    every registered verdict module approving by its script), `vFrozenLeBalance`,
    `vForcedUnfreeze`, `vBurnUnfreeze` (frozen' = min(frozen, balance − amount)), `vRecover`
    (`vRecoverTarget`, `vRecoverRet`, `vRecoverEffects`), `vMove` (exact balance movement per kind),
    `vFrameFrozen`, `vFrameAddrFrozen`, `vFreezeEffect`, `vUnfreezeEffect`, `vNotify` (exactly the
    owed notification, nothing on failure), `vBound`, `vFanout` (each registered hook module once,
    nobody else), `vConsulted` (every registered verdict module once), `vRegistry`, `vAddModule`,
    `vRemoveModule` (ghost registry), `vOperator`, `vSum`, `vRollback`, `vReplay` — is a THEOREM about
    the model, in the monitor's own executable wording.

The model observation used here IS the data the driver's model side prints: `OZ.Drv.C04.stepLine`
runs `applyRet cfg s auth op` on the parsed op line `(auth, op, comps')` and prints, for an
accepted call, `ok ret= <showState s' comps'> now= ev= idv= cq= cn= ml= dem=` — i.e. the fields of
`obsOk s s' r op comps'` (balances / frozen amounts / flags / identity oracle / recovery targets
over `List.range N`, the registry over the five hooks, the module scripts, the return value of
`recover`, the new events / notifications / module calls as `drop` of the logs, the module calls
grouped by module, the sorted required signers) — and for a rejected one the same getters of the
unchanged state with empty logs (`obsErr s comps`). The monitor does not read `now=`, `idv=`, `cq=`
nor the non-token events of `ev=`, so `Obs` does not carry them. `lineOf op x y` is what
`OZ.Drv.C04.parseLine` reads from the op line `parseOp` builds `op` from (see
OZ/Lemmas/RwaMonChecks.lean); an `env_mod` line carries a module SCRIPT `k : Comp` and becomes the
model operation `envModule i k.canTransfer k.canCreate` together with the new script list
(`Item.envMod`), exactly as `parseOp` does. `monInit admin` / `(init start admin, replicate K default)`
are what the driver's `initMon` / `initM` build from the label.

Hypothesis `Item.ok`: the token accounts of every operation (`Op.addrs`) are < N — the observation
prints the universe 0..N-1 only, so neither "Σ balances = supply" nor the gates of an account
outside can be decided from it (`sum_needs_closed_universe`, `gate_needs_closed_universe`); the harness
draws every account from that universe. And a module's verdict function is only ever replaced through an `env_mod` line
(`Item.envMod`), never by an `Op.envModule` with functions no script describes.
-/
namespace OZ.Rwa.Mon
open OZ.Host OZ.Fungible OZ.Rwa

/-- one line of a trace, as `OZ.Drv.C04.parseOp` reads it: an invocation `op` with the authorizing
set `auth` (and whatever the line carries in `amt=` / `lu=` where `op` does not determine them), or
an `env_mod` line that re-scripts module `i` -/
inductive Item where
  | call (auth : List Nat) (op : Op) (x : Int) (y : Nat)
  | envMod (i : Nat) (k : Comp)

def Item.auth : Item → List Nat
  | .call auth _ _ _ => auth
  | .envMod _ _ => []

def Item.op : Item → Op
  | .call _ op _ _ => op
  | .envMod i k => .envModule i k.canTransfer k.canCreate

def Item.comps (cs : List Comp) : Item → List Comp
  | .call _ _ _ _ => cs
  | .envMod i k => setAt cs i k

def Item.line : Item → Line
  | .call _ op x y => lineOf op x y
  | .envMod i k => lineOf (.envModule i k.canTransfer k.canCreate) 0 0

/-- the token accounts of the line lie in the observed universe; verdict functions change through
`env_mod` lines only -/
def Item.ok : Item → Prop
  | .call _ op _ _ => (∀ a ∈ op.addrs, a < N) ∧ isEnvModule op = false
  | .envMod _ _ => True

def stepItem (c : Cfg) (sc : State × List Comp) (it : Item) : (State × List Comp) × Obs :=
  stepObs c sc.1 sc.2 it.auth it.op (it.comps sc.2)

/-- monitor state and model state describe the same point of a history -/
structure Agree (m : Mon) (s : State) (cs : List Comp) : Prop where
  admin : m.admin = s.admin
  prev : Shows m.prev s cs
  replay : m.replay = (List.range N).map s.base.bal
  reg : m.reg = regOf s

theorem rejected_sound {m : Mon} {s : State} {cs : List Comp} (l : Line) (hg : Good s cs) (ha : Agree m s cs) :
    (checkCore m l (obsErr s cs)).2 = none ∧ Agree (checkCore m l (obsErr s cs)).1 s cs := by
  obtain ⟨admin, p, rep, reg⟩ := m
  obtain ⟨hadm, hp, hrep, hreg⟩ := ha
  subst hrep hreg
  have nok : ∀ {q : Prop}, ¬ ((obsErr s cs).ok = true ∧ q) := fun e => Bool.false_ne_true e.1
  have nok' : ¬ ((obsErr s cs).ok = true) := Bool.false_ne_true
  refine ⟨?_, hadm, shows_stateObs s cs false, rfl, rfl⟩
  apply verdict_none
  · unfold vGateTransfer; rw [if_neg nok]
  · unfold vGateTransferFrom; rw [if_neg nok]
  · unfold vGateMint; rw [if_neg nok]
  · exact vFrozenLeBalance_of hg.frozen rfl rfl
  · unfold vForcedUnfreeze; rw [if_neg nok]
  · unfold vBurnUnfreeze; rw [if_neg nok]
  · unfold vRecover; rw [if_neg nok]
  · unfold vMove; rw [if_neg nok']
  · unfold vFrameFrozen; rw [if_neg nok]
  · unfold vFrameAddrFrozen; rw [if_neg nok]
  · unfold vFreezeEffect; rw [if_neg nok]
  · unfold vUnfreezeEffect; rw [if_neg nok]
  · unfold vNotify owed
    rw [if_pos nok']
    exact orFail_true _ rfl
  · unfold vBound; rw [if_neg nok]
  · unfold vFanout owedHooks
    rw [if_pos nok']
    exact orFail_true _ rfl
  · unfold vConsulted; rw [if_neg nok']
  · exact vRegistry_of rfl
  · unfold vAddModule; rw [if_neg nok]
  · unfold vRemoveModule; rw [if_neg nok]
  · unfold vOperator; rw [if_neg nok]
  · exact vSum_of hg.inv rfl rfl
  · unfold vRollback
    rw [if_pos nok']
    apply orFail_true
    show ((s.base.supply == p.sup && (List.range N).map s.base.bal == p.bal && allowList s == p.allow
      && (List.range N).map s.frozen == p.ft && (List.range N).map s.addrFrozen == p.af && s.paused == p.paused
      && s.bound == p.bound && regOf s == p.mods && ([] : List (Nat × ModCall)).isEmpty) = true)
    rw [hp.sup, hp.bal, hp.allow, hp.ft, hp.af, hp.paused, hp.bound, hp.mods]
    simp
  · exact vReplay_of rfl

theorem accepted_sound {c : Cfg} {m : Mon} {s s' : State} {cs cs' : List Comp} {auth : List Nat} {op : Op} {r : Bool}
    (x : Int) (y : Nat) (hg : Good s cs) (ha : Agree m s cs) (hU : ∀ a ∈ op.addrs, a < N)
    (h : applyRet c s auth op = .ok (s', r)) :
    (checkCore m (lineOf op x y) (obsOk s s' r op cs')).2 = none ∧
    Agree (checkCore m (lineOf op x y) (obsOk s s' r op cs')).1 s' cs' := by
  obtain ⟨admin, p, rep, reg⟩ := m
  obtain ⟨hadm, hp, hrep, hreg⟩ := ha
  subst hrep hreg
  have st := applyRet_step h
  have q := st.post hg.frozen
  have g := st.pre
  obtain ⟨ln, lm, lb⟩ := st.logs
  obtain ⟨hi', hs'⟩ := st.inv List.nodup_range hg.inv (fun a ha => List.mem_range.mpr (hU a ha))
  obtain ⟨eb, en, eh, ev⟩ := line_spec (x := x) (y := y) hg hp hU q.ret g
  have hrep := obsOk_replay (r := r) (op := op) (cs' := cs') rfl hg.replay (st.replayOK hg.replay) st.events
  have hreg : ghostReg (regOf s) (lineOf op x y) true = regOf s' := by rw [ghostReg_spec, ← q.mods]; rfl
  exact ⟨verdict_none (vGateTransfer_ok hg hp hU g) (vGateTransferFrom_ok hg hp hU g) (vGateMint_ok hg hp hU g hi' hs')
    (vFrozenLeBalance_of (st.frozenInv hg.frozen) rfl rfl) (vForcedUnfreeze_ok hp hU q) (vBurnUnfreeze_ok hp hU q)
    (vRecover_ok hp hU q g) (vMove_ok q eb) (vFrameFrozen_ok hp q) (vFrameAddrFrozen_ok hp q)
    (vFreezeEffect_ok hp q g) (vUnfreezeEffect_ok hp q g) (vNotify_ok en ln) (vBound_ok hp en lb)
    (vFanout_ok eh lm) (vConsulted_ok ev lm) (vRegistry_of hreg.symm) (vAddModule_ok g) (vRemoveModule_ok g)
    (vOperator_ok hadm h) (vSum_of hi' rfl rfl) (vRollback_ok p) (vReplay_of hrep),
    hadm.trans q.admin.symm, shows_obsOk s s' r op cs', hrep, hreg⟩

/-- `hgood`: the module scripts after the line still describe the model's module oracles -/
theorem stepObs_sound (c : Cfg) {m : Mon} {s : State} {cs cs' : List Comp} {auth : List Nat} {op : Op} (x : Int) (y : Nat)
    (hg : Good s cs) (ha : Agree m s cs) (hU : ∀ a ∈ op.addrs, a < N)
    (hgood : ∀ {s' r}, applyRet c s auth op = .ok (s', r) → Good s' cs') :
    ∀ z, z = stepObs c s cs auth op cs' →
      (checkCore m (lineOf op x y) z.2).2 = none ∧ Agree (checkCore m (lineOf op x y) z.2).1 z.1.1 z.1.2 ∧ Good z.1.1 z.1.2 := by
  rintro z rfl
  unfold stepObs
  cases hx : applyRet c s auth op with
  | error e => exact ⟨(rejected_sound _ hg ha).1, (rejected_sound _ hg ha).2, hg⟩
  | ok v => exact ⟨(accepted_sound x y hg ha hU hx).1, (accepted_sound x y hg ha hU hx).2, hgood hx⟩

/-- **one line**: fed with the model's own observation of any call (accepted or rejected) or
re-scripting, the monitor reports nothing, its state keeps describing the model's, and the model
state stays good -/
theorem monitor_sound_step (c : Cfg) {m : Mon} {s : State} {cs : List Comp} (hg : Good s cs)
    (ha : Agree m s cs) (it : Item) (hok : it.ok) :
    (checkCore m it.line (stepItem c (s, cs) it).2).2 = none ∧
    Agree (checkCore m it.line (stepItem c (s, cs) it).2).1 (stepItem c (s, cs) it).1.1 (stepItem c (s, cs) it).1.2 ∧
    Good (stepItem c (s, cs) it).1.1 (stepItem c (s, cs) it).1.2 := by
  cases it with
  | call auth op x y => exact stepObs_sound c x y hg ha hok.1 (good_ok hg hok.1 hok.2) _ rfl
  | envMod i k => exact stepObs_sound c 0 0 hg ha (fun _ h => by cases h) (good_envMod hg) _ rfl

/-- the monitor run over a whole history of model observations: first message, if any -/
def monitorRun (c : Cfg) : Mon → State × List Comp → List Item → Option String
  | _, _, [] => none
  | m, sc, it :: its =>
    match (checkCore m it.line (stepItem c sc it).2).2 with
    | some msg => some msg
    | none => monitorRun c (checkCore m it.line (stepItem c sc it).2).1 (stepItem c sc it).1 its

/-- the model's initial state for a sequence (what the driver's `initM` builds from the label) -/
def modelInit (start admin : Nat) : State × List Comp := (init start admin, List.replicate K Comp.default)

theorem good_init (start admin : Nat) : Good (init start admin) (List.replicate K Comp.default) := by
  have hd : ∀ m, (List.replicate K Comp.default).getD m Comp.default = Comp.default := fun m => by
    rw [List.getD_eq_getElem?_getD, List.getElem?_replicate]; split <;> rfl
  refine ⟨init_inv _ start, by intro x; simp [init, Fungible.init], by intro k; simp [init],
    by simp [ReplayOK, init, Fungible.init, Rwa.replay], ⟨?_, ?_⟩, by simp⟩
  · intro m f t a hmax _
    rw [hd]; exact default_canTransfer f t a hmax
  · intro m t a hmax _
    rw [hd]; exact default_canCreate t a hmax

theorem agree_init (start admin : Nat) :
    Agree (monInit admin) (init start admin) (List.replicate K Comp.default) := by
  have h : ∀ o sp, Fungible.allowance (init start admin).base o sp = 0 := fun o sp => by
    unfold Fungible.allowance; rw [allowanceData_none rfl]
  refine ⟨rfl, ⟨rfl, rfl, ?_, rfl, rfl, rfl, rfl, rfl, rfl, rfl, rfl⟩, rfl, rfl⟩
  show [] = allowList (init start admin)
  simp [allowList, h]

/-- **monitor soundness**: for every host configuration, start ledger, admin and finite history of
trace lines over the observed universe — any amounts, any authorizing subsets, any operators, any
scripts of the compliance modules, any answers of the identity verifier, any ledger movement — the
monitor reports nothing on the model's observations. -/
theorem monitor_accepts_every_model_trace (c : Cfg) (start admin : Nat) (its : List Item)
    (hok : ∀ it ∈ its, it.ok) :
    monitorRun c (monInit admin) (modelInit start admin) its = none := by
  suffices ∀ m s cs, Good s cs → Agree m s cs → monitorRun c m (s, cs) its = none from
    this _ _ _ (good_init start admin) (agree_init start admin)
  induction its with
  | nil => intro m s cs _ _; rfl
  | cons it its ih =>
    intro m s cs hg ha
    obtain ⟨h1, h2, h3⟩ := monitor_sound_step c hg ha it (hok it List.mem_cons_self)
    unfold monitorRun
    rw [h1]
    exact ih (fun y hy => hok y (List.mem_cons_of_mem _ hy)) _ _ _ h3 h2

/-! ### the hypothesis cannot be dropped, and the monitor is not trivially silent -/

/-- the hypothesis that the history stays inside the observed universe cannot be dropped: after a
mint to account 7 with only accounts 0..4 observed, the model's own observation shows supply 1 and
balances summing to 0 — the monitor (rightly, from what it sees) reports `site=rwa.sum` -/
theorem sum_needs_closed_universe :
    (monitorRun ⟨1, 200000⟩ (monInit 0) (modelInit 100 0) [.call [0] (.mint 7 1 0) 0 0]).isSome = true := by
  decide

/-- ... nor for the gates: the model accepts a transfer of 0 from account 7 (nothing observable
changes), but the observation carries no identity bit for an account outside 0..4, so the gate
check reads `from_identity` as closed -/
theorem gate_needs_closed_universe :
    (vGateTransfer (List.replicate 5 []) zeroObs (lineOf (.transfer 7 1 0) 0 0)
      (stepItem ⟨1, 200000⟩ (modelInit 100 0) (.call [7] (.transfer 7 1 0) 0 0)).2).isSome = true := by
  decide

/-- what an implementation whose `transfer_from` skips `validate_transfer` shows (DESIGN §8-1): account 1
holds 100 with 90 frozen, its address is frozen, its identity fails, the token is paused — and
`transfer_from(3, 1, 2, 50)` is accepted -/
def preDefect : Obs :=
  { zeroObs with sup := 100, bal := [0, 100, 0, 0, 0], paused := true, af := [false, true, false, false, false],
                 ft := [0, 90, 0, 0, 0], id := [true, false, true, true, true] }

def postDefect : Obs :=
  { preDefect with bal := [0, 50, 50, 0, 0], evs := [.transfer 1 2 50], cn := [.transferred 1 2 50], dem := [3] }

/-- on that observation the gate check fires, and so does the monitor as a whole -/
example :
    (vGateTransferFrom (List.replicate 5 []) preDefect ⟨.transferFrom, [3, 1, 2], 50, 0⟩ postDefect).isSome = true ∧
    (vFrozenLeBalance postDefect).isSome = true ∧
    (checkCore { admin := 0, prev := preDefect, replay := [0, 100, 0, 0, 0], reg := List.replicate 5 [] }
      ⟨.transferFrom, [3, 1, 2], 50, 0⟩ postDefect).2.isSome = true := by
  decide

/-- a recovery 1 -> 2 that moves the balance but forgets the partially frozen 40: `vRecover` fires; a
forced transfer that unfreezes everything instead of the minimum: `vForcedUnfreeze` fires; a
notification that never reached the compliance contract: `vNotify` fires -/
example :
    (vRecover { zeroObs with sup := 100, bal := [0, 100, 0, 0, 0], ft := [0, 40, 0, 0, 0], rct := [none, some 2, none, none, none] }
      ⟨.recover, [1, 2, 0], 0, 0⟩
      { zeroObs with ret := some true, sup := 100, bal := [0, 0, 100, 0, 0], ft := [0, 0, 0, 0, 0],
                     rct := [none, some 2, none, none, none], evs := [.transfer 1 2 100],
                     cn := [.transferred 1 2 100], dem := [0] }).isSome = true ∧
    (vForcedUnfreeze { zeroObs with sup := 100, bal := [0, 100, 0, 0, 0], ft := [0, 90, 0, 0, 0] }
      ⟨.forcedTransfer, [1, 2, 0], 20, 0⟩
      { zeroObs with sup := 100, bal := [0, 80, 20, 0, 0], ft := [0, 0, 0, 0, 0] }).isSome = true ∧
    (vNotify { zeroObs with sup := 100, bal := [0, 100, 0, 0, 0] } ⟨.transfer, [1, 2], 20, 0⟩
      { zeroObs with sup := 100, bal := [0, 80, 20, 0, 0] }).isSome = true := by
  decide

end OZ.Rwa.Mon
