import OZ.Props.C08GenSt
import OZ.Model.Timelock
import OZ.Lemmas.Sim
/-
C08 — REFINEMENT of the timelock storage module, re-checked on every run against what the SOURCE says now.

Over `lean/OZ/Gen/TimelockSt.lean` (regenerated by `rs2lean.py --timelock-st`, see OZ/Props/C08GenSt.lean): every
generated state-changing entry point computes exactly the step of the hand model (OZ/Model/Timelock.lean) under the
abstraction map `Abs`, and every finite history of such calls and ledger movements follows the model's history
(`run_refines`). The theorems of OZ/Props/C08.lean are read on the generated store through `Abs`, as
`gen_ledger_is_model_ledger` does for `get_operation_state`; none of them is restated here about the generated code.

The model names operations by the STRUCTURE of their five fields (`Id.op ..`, an injective naming); the code by
`hash_operation` (Keccak-256 of their XDR), a parameter of the generated code. The refinement is stated for every
hash function that is faithful to the naming: an injective `key : Id → B32` with `key Id.zero` = 32 zero bytes and
`hash_operation (gop op) = key op.id`, `(gop op).predecessor = key op.pred` for the generated form `gop op` of each
model operation (`Faithful`; collision resistance of Keccak-256 is in the trusted base of C08).
-/
namespace OZ.Gen.TimelockSt
open OZ.Rs OZ.Host OZ.Timelock

structure Faithful (envr : TimelockSt.Reads) (key : Id → B32) (gop : OZ.Timelock.Operation → TimelockSt.Operation) : Prop where
  inj : ∀ a b, key a = key b → a = b
  zero : key Id.zero = List.replicate 32 (0 : Nat)
  hash : ∀ op, envr.hash_operation (gop op) = key op.id
  pred : ∀ op, (gop op).predecessor = key op.pred

structure Abs (envr : TimelockSt.Reads) (key : Id → B32) (st : TimelockSt.Store) (s : State) : Prop where
  ledger : ∀ id, led st (key id) = s.ledger id
  minDelay : st.MinDelay = s.minDelay
  now : envr.ledger_sequence = s.now

def Sim (envr : TimelockSt.Reads) (key : Id → B32) (c : Comp (Unit × TimelockSt.Store)) (m : Except Err State) : Prop :=
  match m with
  | .ok s' => ∃ st', c = Comp.ok ((), st') ∧ Abs envr key st' s'
  | .error _ => c = Comp.panic

def ofModel : OpState → OperationState
  | .unset => .Unset
  | .waiting => .Waiting
  | .ready => .Ready
  | .done => .Done

theorem stateAt_model (r now : Nat) : stateAt r now = ofModel (stateOf r now) := by
  unfold stateAt stateOf UNSET_LEDGER DONE_LEDGER
  by_cases h0 : r = 0 <;> by_cases h1 : r = 1 <;> by_cases h2 : r > now <;> simp [h0, h1, h2, ofModel]

/-- `Store.set_OperationLedger` and `Store.del_OperationLedger` are the point update at `some v` and at `none`, by
`rfl`; no entry reads as `UNSET_LEDGER` -/
theorem abs_upd {envr : TimelockSt.Reads} {key : Id → B32} {gop} (hF : Faithful envr key gop) {st : TimelockSt.Store} {s : State}
    (hA : Abs envr key st s) (id : Id) (o : Option Nat) (s' : State) (hl : s'.ledger = updId s.ledger id (o.getD 0))
    (hm : s'.minDelay = s.minDelay) (hn : s'.now = s.now) :
    Abs envr key { st with OperationLedger := fun x => if x = key id then o else st.OperationLedger x } s' :=
  ⟨fun j => by
      rw [hl]
      unfold led updId
      by_cases h : j = id
      · subst h; simp
      · have : key j ≠ key id := fun e => h (hF.inj _ _ e)
        simp only [this, ↓reduceIte, h]
        exact hA.ledger j, hA.minDelay.trans hm.symm, hA.now.trans hn.symm⟩

theorem satAdd_eq (a b : Nat) : uN_saturating_add 32 a b = satAdd a b := by
  unfold uN_saturating_add satAdd U32_MAX
  by_cases h : a + b > 4294967295
  · have : ¬ a + b < 2 ^ 32 := by omega
    simp [h, this]
  · have : a + b < 2 ^ 32 := by omega
    simp [h, this]

theorem sim_iff {envr : TimelockSt.Reads} {key : Id → B32} {c : Comp (Unit × TimelockSt.Store)} {m : Except Err State} :
    Sim envr key c m ↔ Rs.Sim (onStore (Abs envr key)) c m := by
  cases m with
  | ok s' => exact Rs.Sim.store_ok_iff.symm
  | error e => exact Iff.rfl

section
variable {envr : TimelockSt.Reads} {key : Id → B32} {st : TimelockSt.Store} {s : State} (hA : Abs envr key st s) (id : Id)
include hA

theorem state_ref : TimelockSt.get_operation_state envr st (key id) = .ok (ofModel (getOperationState s id)) := by
  rw [get_operation_state_eq, hA.ledger, hA.now, stateAt_model]; rfl

theorem is_pending_ref : TimelockSt.is_operation_pending envr st (key id) = .ok (isOperationPending s id) := by
  unfold TimelockSt.is_operation_pending isOperationPending
  rw [state_ref hA]; cases getOperationState s id <;> rfl

theorem is_ready_ref : TimelockSt.is_operation_ready envr st (key id) = .ok (isOperationReady s id) := by
  unfold TimelockSt.is_operation_ready isOperationReady
  rw [state_ref hA]; cases getOperationState s id <;> rfl

theorem exists_ref : TimelockSt.operation_exists envr st (key id) = .ok (operationExists s id) := by
  unfold TimelockSt.operation_exists operationExists
  rw [state_ref hA]; cases getOperationState s id <;> rfl

theorem is_done_ref : TimelockSt.is_operation_done envr st (key id) = .ok (isOperationDone s id) := by
  unfold TimelockSt.is_operation_done isOperationDone
  rw [state_ref hA]; cases getOperationState s id <;> rfl

theorem min_delay_ref : TimelockSt.get_min_delay envr st = Comp.ofExcept (getMinDelay s) := by
  unfold TimelockSt.get_min_delay getMinDelay; rw [hA.minDelay]; cases s.minDelay <;> rfl

end

theorem not_iff (b : Bool) : b = true ↔ ¬ ((!b) = true) := by cases b <;> simp

/-- **generated = model** for `schedule_operation` (the returned id is the operation's) -/
theorem schedule_ref (envr : TimelockSt.Reads) (key : Id → B32) (gop) (hF : Faithful envr key gop) (st : TimelockSt.Store) (s : State)
    (hA : Abs envr key st s) (op : OZ.Timelock.Operation) (delay : Nat) :
    match schedule s op delay with
    | .ok s' => ∃ st', TimelockSt.schedule_operation envr st (gop op) delay = Comp.ok (key op.id, st') ∧ Abs envr key st' s'
    | .error _ => TimelockSt.schedule_operation envr st (gop op) delay = Comp.panic := by
  have h : Rs.Sim (fun b s' => b.1 = key op.id ∧ Abs envr key b.2 s')
      (TimelockSt.schedule_operation envr st (gop op) delay)
      (if operationExists s op.id then .error .operationAlreadyScheduled
       else getMinDelay s >>= fun m => scheduleWith s op delay m) := by
    unfold TimelockSt.schedule_operation
    rw [hF.hash, exists_ref hA, Comp.bind_ok]
    refine Sim.refuse _ Iff.rfl fun _ => Sim.read (min_delay_ref hA) fun m _ => Sim.refuse _ Iff.rfl fun _ => ?_
    rw [satAdd_eq, hA.now]
    exact Sim.pure ⟨rfl, abs_upd hF hA op.id (some _) _ rfl rfl rfl⟩
  have he : schedule s op delay = if operationExists s op.id then .error .operationAlreadyScheduled
      else getMinDelay s >>= fun m => scheduleWith s op delay m := by
    unfold schedule; cases getMinDelay s <;> rfl
  rw [he]
  split
  · obtain ⟨b, h1, h2, h3⟩ := h.of_ok ‹_›; exact ⟨b.2, by rw [h1, ← h2], h3⟩
  · exact h.of_error ‹_›

/-- **generated = model** for `set_execute_operation` -/
theorem set_execute_ref (envr : TimelockSt.Reads) (key : Id → B32) (gop) (hF : Faithful envr key gop) (st : TimelockSt.Store) (s : State)
    (hA : Abs envr key st s) (op : OZ.Timelock.Operation) :
    Sim envr key (TimelockSt.set_execute_operation envr st (gop op)) (setExecute s op) := by
  have hz : (gop op).predecessor ≠ List.replicate 32 0 ↔ op.pred ≠ Id.zero := by
    rw [hF.pred, ← hF.zero]; exact not_congr ⟨hF.inj _ _, congrArg key⟩
  unfold TimelockSt.set_execute_operation
  rw [hF.hash, hF.pred, is_ready_ref hA, Comp.bind_ok, ← hF.pred]
  refine sim_iff.2 (Sim.ite_not (not_iff _) (fun _ => ?_) fun _ => Sim.panic _)
  by_cases hp : op.pred = Id.zero
  · rw [if_neg (fun h => hz.1 h hp), if_neg (fun h => h.1 hp)]
    exact Sim.pure (abs_upd hF hA op.id (some 1) _ rfl rfl rfl)
  · rw [if_pos (hz.2 hp), hF.pred, is_done_ref hA, Comp.bind_ok]
    refine Sim.ite_not ((not_iff _).trans (not_congr (and_iff_right hp).symm)) (fun _ => ?_) fun _ => Sim.panic _
    exact Sim.pure (abs_upd hF hA op.id (some 1) _ rfl rfl rfl)

/-- **generated = model** for `cancel_operation` -/
theorem cancel_ref (envr : TimelockSt.Reads) (key : Id → B32) (gop) (hF : Faithful envr key gop) (st : TimelockSt.Store) (s : State)
    (hA : Abs envr key st s) (id : Id) :
    Sim envr key (TimelockSt.cancel_operation envr st (key id)) (cancel s id) := by
  unfold TimelockSt.cancel_operation
  rw [is_pending_ref hA, Comp.bind_ok]
  exact sim_iff.2 (Sim.ite_not (not_iff _) (fun _ => Sim.pure (abs_upd hF hA id none _ rfl rfl rfl)) fun _ => Sim.panic _)

/-- **generated = model** for `set_min_delay` -/
theorem set_min_delay_ref (envr : TimelockSt.Reads) (key : Id → B32) (st : TimelockSt.Store) (s : State)
    (hA : Abs envr key st s) (d : Nat) :
    Sim envr key (TimelockSt.set_min_delay envr st d) (.ok (setMinDelay s d)) :=
  ⟨_, rfl, ⟨hA.ledger, by simp [TimelockSt.Store.set_MinDelay, setMinDelay], hA.now⟩⟩

/-- under `Abs`, the generated `get_operation_state` at an operation's hash reports the state of the model's ledger
value for its structural id: so "Done at most once, Ready only after the delay, executed only after the
predecessor" (OZ/Props/C08.lean) read on the generated store -/
theorem gen_ledger_is_model_ledger (envr : TimelockSt.Reads) (key : Id → B32) (gop) (hF : Faithful envr key gop)
    (st : TimelockSt.Store) (s : State) (hA : Abs envr key st s) (op : OZ.Timelock.Operation) :
    TimelockSt.get_operation_state envr st (envr.hash_operation (gop op)) =
      Comp.ok (stateAt (s.ledger op.id) s.now) := by
  rw [get_operation_state_eq, hF.hash, hA.ledger, hA.now]

structure GS where
  st : TimelockSt.Store
  now : Nat

/-- the operations of the model's machine that the generated module implements (`execute` = `set_execute_operation`
followed by the invocation of the target, which is the host's business) -/
def genCall (hash : TimelockSt.Operation → B32) (key : Id → B32) (gop : OZ.Timelock.Operation → TimelockSt.Operation) (g : GS) :
    Op → Option (Comp (Unit × TimelockSt.Store))
  | .schedule op d => some (Comp.bind (TimelockSt.schedule_operation ⟨g.now, hash⟩ g.st (gop op) d) fun t => Comp.ok ((), t.2))
  | .setExecute op => some (TimelockSt.set_execute_operation ⟨g.now, hash⟩ g.st (gop op))
  | .cancel id => some (TimelockSt.cancel_operation ⟨g.now, hash⟩ g.st (key id))
  | .setMinDelay d => some (TimelockSt.set_min_delay ⟨g.now, hash⟩ g.st d)
  | _ => none

/-- a failed invocation is rolled back by the host; `advance` moves the ledger (a `u32`) -/
def genStep (hash : TimelockSt.Operation → B32) (key : Id → B32) (gop : OZ.Timelock.Operation → TimelockSt.Operation) (g : GS) (x : Op) : GS :=
  match x with
  | .advance n => if g.now + n > U32_MAX then g else ⟨g.st, g.now + n⟩
  | x =>
    match genCall hash key gop g x with
    | some (Comp.ok (_, st')) => ⟨st', g.now⟩
    | _ => g

def genRun (hash : TimelockSt.Operation → B32) (key : Id → B32) (gop : OZ.Timelock.Operation → TimelockSt.Operation) (g : GS)
    (ops : List Op) : GS := ops.foldl (genStep hash key gop) g

def StorageOp : Op → Prop
  | .execute _ _ => False
  | _ => True

/-- **one step**: generated call = model step, with the host's rollback -/
theorem step_refines (hash : TimelockSt.Operation → B32) (key : Id → B32) (gop : OZ.Timelock.Operation → TimelockSt.Operation)
    (hF : ∀ now, Faithful ⟨now, hash⟩ key gop) (g : GS) (s : State) (hA : Abs ⟨g.now, hash⟩ key g.st s) (x : Op) (hx : StorageOp x) :
    Abs ⟨(genStep hash key gop g x).now, hash⟩ key (genStep hash key gop g x).st (step s x) := by
  cases x with
  | execute op ok => exact absurd hx id
  | advance n =>
    unfold step
    simp only [genStep, apply, advance]
    have hn : g.now = s.now := hA.now
    rw [hn]
    by_cases h : s.now + n > U32_MAX
    · simp only [h, ↓reduceIte]; exact hA
    · simp only [h, ↓reduceIte]
      exact ⟨hA.ledger, hA.minDelay, rfl⟩
  | schedule op d =>
    have h := schedule_ref ⟨g.now, hash⟩ key gop (hF g.now) g.st s hA op d
    unfold step
    simp only [genStep, genCall, apply]
    cases hm : schedule s op d with
    | error e => rw [hm] at h; simp only at h; rw [h]; exact hA
    | ok s' => rw [hm] at h; obtain ⟨st', h1, h2⟩ := h; rw [h1]; exact h2
  | setExecute op =>
    have h := set_execute_ref ⟨g.now, hash⟩ key gop (hF g.now) g.st s hA op
    unfold step
    simp only [genStep, genCall, apply]
    cases hm : setExecute s op with
    | error e => rw [(sim_iff.1 h).of_error hm]; exact hA
    | ok s' => obtain ⟨st', h1, h2⟩ := (sim_iff.1 h).of_ok_store hm; rw [h1]; exact h2
  | cancel id =>
    have h := cancel_ref ⟨g.now, hash⟩ key gop (hF g.now) g.st s hA id
    unfold step
    simp only [genStep, genCall, apply]
    cases hm : cancel s id with
    | error e => rw [(sim_iff.1 h).of_error hm]; exact hA
    | ok s' => obtain ⟨st', h1, h2⟩ := (sim_iff.1 h).of_ok_store hm; rw [h1]; exact h2
  | setMinDelay d =>
    obtain ⟨st', h1, h2⟩ := set_min_delay_ref ⟨g.now, hash⟩ key g.st s hA d
    unfold step
    simp only [genStep, genCall, apply]
    rw [h1]; exact h2

/-- **every history**: whatever finite sequence of `set_min_delay`, `schedule_operation`, `set_execute_operation`,
`cancel_operation` and ledger movements is run, the generated store follows the model state -/
theorem run_refines (hash : TimelockSt.Operation → B32) (key : Id → B32) (gop : OZ.Timelock.Operation → TimelockSt.Operation)
    (hF : ∀ now, Faithful ⟨now, hash⟩ key gop) (ops : List Op) (hops : ∀ x ∈ ops, StorageOp x) :
    ∀ (g : GS) (s : State), Abs ⟨g.now, hash⟩ key g.st s →
      Abs ⟨(genRun hash key gop g ops).now, hash⟩ key (genRun hash key gop g ops).st (run s ops) := by
  induction ops with
  | nil => intro g s h; exact h
  | cons x xs ih =>
    intro g s h
    exact ih (fun y hy => hops y (List.mem_cons_of_mem _ hy)) _ _
      (step_refines hash key gop hF g s h x (hops x List.mem_cons_self))

/-- a fresh contract (nothing stored) against the model's initial state: where `run_refines` starts -/
theorem store0_abs (hash : TimelockSt.Operation → B32) (key : Id → B32) (now0 : Nat) :
    Abs ⟨now0, hash⟩ key ⟨none, fun _ => none⟩ (init now0) :=
  ⟨fun _ => rfl, rfl, rfl⟩

/-! ### non-vacuity: a faithful naming exists -/

/-- a prefix-free encoding of ids: `[0, n]` for a raw id, `1 :: target :: fn :: salt :: |args| :: args ++ enc pred` -/
def enc : Id → List Nat
  | .raw n => [0, n]
  | .op t f args p sl => 1 :: t :: f :: sl :: args.length :: (args ++ enc p)

theorem enc_inj : ∀ (a b : Id) (r1 r2 : List Nat), enc a ++ r1 = enc b ++ r2 → a = b ∧ r1 = r2 := by
  intro a
  induction a with
  | raw n =>
    intro b r1 r2 h
    cases b with
    | raw m => simp only [enc, List.cons_append, List.nil_append, List.cons.injEq, true_and] at h; exact ⟨by rw [h.1], h.2⟩
    | op t f args p sl => simp [enc] at h
  | op t f args p sl ih =>
    intro b r1 r2 h
    cases b with
    | raw m => simp [enc] at h
    | op t' f' args' p' sl' =>
      simp only [enc, List.cons_append, List.cons.injEq, true_and, List.append_assoc] at h
      obtain ⟨ht, hf, hs, hl, hrest⟩ := h
      have ha : args = args' ∧ enc p ++ r1 = enc p' ++ r2 := List.append_inj hrest hl
      obtain ⟨hp, hr⟩ := ih p' r1 r2 ha.2
      exact ⟨by rw [ht, hf, hs, ha.1, hp], hr⟩

def keyW (i : Id) : B32 := if i = Id.zero then List.replicate 32 0 else enc i

theorem keyW_inj (a b : Id) (h : keyW a = keyW b) : a = b := by
  unfold keyW at h
  by_cases ha : a = Id.zero <;> by_cases hb : b = Id.zero
  · rw [ha, hb]
  · rw [if_pos ha, if_neg hb] at h
    cases b with
    | raw m => simp [enc] at h
    | op t f args p sl => simp [enc, List.replicate] at h
  · rw [if_neg ha, if_pos hb] at h
    cases a with
    | raw m => simp [enc] at h
    | op t f args p sl => simp [enc, List.replicate] at h
  · rw [if_neg ha, if_neg hb] at h
    exact (enc_inj a b [] [] (by simpa using h)).1

/-- the generated form of a model operation under the witness naming: the id of the predecessor in the
predecessor field, the operation's own id in the salt field; the witness hash reads the salt field -/
def gopW (op : OZ.Timelock.Operation) : TimelockSt.Operation := ⟨op.target, op.fn, 0, keyW op.pred, keyW op.id⟩

example (now : Nat) : Faithful ⟨now, fun o => o.salt⟩ keyW gopW :=
  ⟨keyW_inj, by simp [keyW], fun _ => rfl, fun _ => rfl⟩

end OZ.Gen.TimelockSt
