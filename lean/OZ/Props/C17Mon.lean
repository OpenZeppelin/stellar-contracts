import OZ.Props.C17
import OZ.Lemmas.MerkleMon
/-
C17 — soundness of the MONITOR that decides the property on implementation traces.

`./check C17` reports a concrete violation exactly when the driver's monitor
(`OZ.Merkle.Mon.verdictVerify` / `distCore` / `airCore` on parsed values, plus the string-level
`hash` / `pair` comparison that stays in the driver) returns a message on the implementation's
observations. Here it is proved that on the observations of the MODEL the monitor returns nothing:

(a) VERIFIER part (pure; `verifier_monitor_accepts_every_model_answer`): for every `verify` /
    `verifyidx` line the monitor applied to the model's answer is silent. Its three conclusions:
      * answer = the monitor's own fold (`monitor_fold_eq_model`): big-endian number comparison =
        lexicographic comparison, bit tests = parity and halving. For the positional form on ALL
        inputs and every hash function; for the sorted form on 32-byte nodes and a
        hash function with 32-byte output — hypotheses that are NEEDED (`sorted_needs_equal_lengths`)
        and that hold for the two functions of the driver (`hashOf_length`);
      * `honest` ⇒ accepted (`honest_line_accepted`, every hash function): the tag means that
        (leaf, proof[, index]) was extracted from a tree with that root (`HonestLine`);
      * `c:<what>` ⇒ rejected. This conclusion is NOT a theorem about the model for an arbitrary
        hash function (with a constant hash every extension of a proof is accepted). It enters as the
        EXPLICIT hypothesis `TagOk` (a line tagged `c:` is one the model's verifier does not accept), and
        `corrupt_line_rejected_indexed` / `corrupt_line_rejected_sorted` derive that hypothesis, for
        every hash function without a collision on 64-byte inputs, for the corruption classes that
        keep the proof length (c:leaf, c:proof, c:reorder, c:otherproof of equal length).
(b) DISTRIBUTOR part (`dist_monitor_accepts_every_model_trace`): ghost {root, flags of the observed
    universe, far claims}; the same for every finite history of advance / setroot / claim lines, with
    the same two explicit hypotheses per claim line (`LineOk`).
(c) AIRDROP part (`airdrop_monitor_accepts_every_model_trace`): the same with pool and balances.

Not covered: the `hash` / `pair` lines (the library's hash must equal the `want` computed by the
harness with the sha2 / sha3 crates: no conclusion about the model is involved), lines that do
not parse, and the string-level facts `ofHex (toHex x) = some x` etc. of the line format. `verifyj`
lines (a proof vector with an element that is not a 32-byte string) are no lines of `verifierRun`;
`junk_monitor_sound_line` says that the monitor is silent on the `err` the model side prints for them.

Why the monitor keeps a ghost log of far claims (`legacy_monitor_false_alarm`): a claim verdict that
takes "was this index claimed before" and "which flags are new" from the OBSERVED flags only
(`Legacy.verdictClaim`) raises a false alarm on a MODEL trace, for a claim whose index lies outside
the observed universe (`index ≥ w`, not one of the two top u32 values). The harness never claims such an
index. The monitor logs the accepted far claims (`Mon.far`) and expects exactly the flags that are observed
(`expectNew`).
-/
namespace OZ.Merkle.Mon
open OZ.Merkle

/-! ## (a) the verifier part -/

/-- the model's answer to a `verify` / `verifyidx` line: the same data the model side of the driver
prints (`stepOp`: `if verify … then "ok true" else "ok false"` resp. `showBoolRes (verifyWithIndex …)`) -/
def modelAns (H : Node → Node) (op : VOp) : Ans :=
  if op.indexed then
    match verifyWithIndex (bytesOps H) op.proof op.root op.leaf op.index with
    | .ok true => .accept
    | .ok false => .reject
    | .error _ => .fail
  else if verify (bytesOps H) op.proof op.root op.leaf then .accept else .reject

/-- the structured observation of the model's answer (the driver reads the line `Ans.line a` back as
`⟨some a, line⟩`: `parseAns`) -/
def modelVObs (H : Node → Node) (op : VOp) : VObs := ⟨some (modelAns H op), (modelAns H op).line⟩

/-- a sorted-form line denotes a call of the real function: leaf and proof elements are `BytesN<32>` -/
def VOp.Wf (op : VOp) : Prop := op.indexed = false → Nodes32 op.leaf op.proof

/-- meaning of `exp=honest`: (leaf, proof[, index]) was extracted from a tree (any shape) with that
root; positional form: depth < 32 and the index of the path -/
def HonestLine (H : Node → Node) (op : VOp) : Prop :=
  if op.indexed then
    ∃ (t : Tree Node) (p : List Bool), t.proofWith (bytesOps H).hp p = some (op.leaf, op.proof) ∧
      op.root = t.rootI (bytesOps H) ∧ op.index = indexOf p ∧ p.length < 32
  else
    ∃ (t : Tree Node) (p : List Bool), t.proofWith (chp (bytesOps H)) p = some (op.leaf, op.proof) ∧
      op.root = t.rootS (bytesOps H)

/-- what the tags of a line claim. `c:`: the EXPLICIT hypothesis under which the monitor's
"corrupted ⇒ rejected" conclusion is sound (it follows from collision-freeness for the classes
covered by `corrupt_line_rejected_*`, and holds outright in the free-hash model: Props/C17
`reject_*`) -/
def TagOk (H : Node → Node) (op : VOp) : Prop :=
  match op.tag with
  | .honest => HonestLine H op
  | .corrupt _ => modelAns H op ≠ .accept
  | .other => True

/-- the positional form needs no hypothesis at all -/
theorem monitor_fold_eq_model_indexed (H : Node → Node) (op : VOp) (hi : op.indexed = true) :
    wantOf H op = modelAns H op := by
  unfold wantOf modelAns
  rw [hi, monVerify_indexed, if_pos rfl]
  cases verifyWithIndex (bytesOps H) op.proof op.root op.leaf op.index with
  | error e => rfl
  | ok b => cases b <;> rfl

/-- **the monitor's own fold is the model's verifier**: what the monitor demands as the answer is
the model's answer — positional form: all inputs, every hash; sorted form: 32-byte nodes, 32-byte hash -/
theorem monitor_fold_eq_model (H : Node → Node) (hH : ∀ x, (H x).length = 32) (op : VOp) (hwf : op.Wf) :
    wantOf H op = modelAns H op := by
  cases hi : op.indexed with
  | true => exact monitor_fold_eq_model_indexed H op hi
  | false =>
    unfold wantOf modelAns
    rw [hi, monVerify_sorted32 H hH _ _ _ _ (hwf hi), if_neg Bool.false_ne_true]
    cases verify (bytesOps H) op.proof op.root op.leaf <;> rfl

theorem modelAns_eq_accept (H : Node → Node) (op : VOp) :
    modelAns H op = .accept ↔ accepts H op.indexed op.root op.leaf op.index op.proof = true := by
  unfold modelAns accepts
  cases op.indexed with
  | true =>
    rw [if_pos rfl, if_pos rfl, decide_eq_true_eq]
    cases verifyWithIndex (bytesOps H) op.proof op.root op.leaf op.index with
    | error e => simp
    | ok b => cases b <;> simp
  | false =>
    rw [if_neg Bool.false_ne_true, if_neg Bool.false_ne_true]
    cases verify (bytesOps H) op.proof op.root op.leaf <;> simp

/-- **an honest line is accepted by the model** — every hash function, every tree shape -/
theorem honest_line_accepted (H : Node → Node) (op : VOp) (h : HonestLine H op) : modelAns H op = .accept := by
  unfold HonestLine at h
  unfold modelAns
  cases hi : op.indexed with
  | true =>
    rw [hi, if_pos rfl] at h
    obtain ⟨t, p, hp, hr, hidx, hd⟩ := h
    rw [if_pos rfl, hr, hidx, complete_indexed (bytesOps H) t p _ _ hp hd]
  | false =>
    rw [hi, if_neg (by simp)] at h
    obtain ⟨t, p, hp, hr⟩ := h
    rw [if_neg (by simp), hr, complete_bytes H t p _ _ hp, if_pos rfl]

/-- **a junk line** (`verifyj`: the proof vector holds an element that is not a 32-byte string): the model
side of the driver answers `err` (the element cannot be read: `stepOp` of OZ/Drv/C17.lean), read back as
`⟨some .fail, Ans.fail.line⟩`; on that observation the monitor reports nothing -/
theorem junk_monitor_sound_line (indexed : Bool) : verdictJunk indexed ⟨some .fail, Ans.fail.line⟩ = none := by
  unfold verdictJunk
  simp

/-- **one verifier line**: the monitor applied to the model's answer reports nothing -/
theorem verifier_monitor_sound_line (H : Node → Node) (hH : ∀ x, (H x).length = 32) (op : VOp)
    (hwf : op.Wf) (htag : TagOk H op) : verdictVerify H op (modelVObs H op) = none := by
  unfold verdictVerify
  rw [monitor_fold_eq_model H hH op hwf, if_neg (by simp [modelVObs])]
  unfold TagOk at htag
  unfold tagCheck
  cases ht : op.tag with
  | other => rfl
  | honest =>
    rw [ht] at htag
    have := honest_line_accepted H op htag
    simp [modelVObs, this]
  | corrupt c =>
    rw [ht] at htag
    have : (some (modelAns H op) == some Ans.accept) = false := by
      cases hm : modelAns H op with
      | accept => exact absurd hm htag
      | reject => rfl
      | fail => rfl
    simp [modelVObs, this]

/-- a line of a stateless sequence: `alg=` and the parsed op -/
abbrev VLine := String × VOp

/-- the monitor run over the verifier lines of a sequence answered by the model (the monitor has no
state in a stateless sequence): first message, if any -/
def verifierRun : List VLine → Option String
  | [] => none
  | (alg, op) :: rest =>
    match verdictVerify (hashOf alg) op (modelVObs (hashOf alg) op) with
    | some msg => some msg
    | none => verifierRun rest

/-- **verifier part, the driver's hash functions**: for every finite list of `verify` / `verifyidx`
lines — either hash function per line, any root, leaf, index, proof of any length — whose sorted-form
lines carry 32-byte values and whose tags say what they mean, the monitor reports nothing on the
model's answers. (No hypothesis on the hash function is left: SHA-256 / Keccak-256 as implemented in
Lean return 32 bytes.) -/
theorem verifier_monitor_accepts_every_model_answer (ls : List VLine)
    (hwf : ∀ l ∈ ls, l.2.Wf) (htag : ∀ l ∈ ls, TagOk (hashOf l.1) l.2) : verifierRun ls = none := by
  induction ls with
  | nil => rfl
  | cons l rest ih =>
    obtain ⟨alg, op⟩ := l
    unfold verifierRun
    rw [verifier_monitor_sound_line (hashOf alg) (hashOf_length alg) op (hwf _ (List.mem_cons_self ..))
      (htag _ (List.mem_cons_self ..))]
    exact ih (fun l hl => hwf l (List.mem_cons_of_mem _ hl)) (fun l hl => htag l (List.mem_cons_of_mem _ hl))

/-! ### the `c:` hypothesis from collision-freeness, for corruptions that keep the proof length -/

/-- `H` has no collision on 64-byte inputs -/
def NoCollision64 (H : Node → Node) : Prop :=
  ¬ ∃ x y : Node, x.length = 64 ∧ y.length = 64 ∧ x ≠ y ∧ H x = H y

/-- positional form: a line that differs from an ACCEPTED line with the same root and index in leaf
or proof (same proof length, 32-byte values) is not accepted, unless `H` has a collision -/
theorem corrupt_line_rejected_indexed (H : Node → Node) (hH : ∀ x, (H x).length = 32) (hnc : NoCollision64 H)
    (good bad : VOp) (hgi : good.indexed = true) (hbi : bad.indexed = true)
    (hroot : bad.root = good.root) (hidx : bad.index = good.index)
    (hg32 : Nodes32 good.leaf good.proof) (hb32 : Nodes32 bad.leaf bad.proof)
    (hlen : bad.proof.length = good.proof.length) (hne : (bad.leaf, bad.proof) ≠ (good.leaf, good.proof))
    (hacc : modelAns H good = .accept) : modelAns H bad ≠ .accept := by
  intro hb
  rw [modelAns_eq_accept, hgi, accepts_indexed] at hacc
  rw [modelAns_eq_accept, hbi, hroot, hidx, accepts_indexed] at hb
  exact hnc (sound_indexed_bytes H hH good.root good.index bad.leaf good.leaf bad.proof good.proof
    hb32.1 hg32.1 hb32.2 hg32.2 hlen hne hb hacc)

/-- sorted form: likewise, up to the node/sibling exchange inherent to sorted pairs -/
theorem corrupt_line_rejected_sorted (H : Node → Node) (hH : ∀ x, (H x).length = 32) (hnc : NoCollision64 H)
    (good bad : VOp) (hgi : good.indexed = false) (hbi : bad.indexed = false)
    (hroot : bad.root = good.root)
    (hg32 : Nodes32 good.leaf good.proof) (hb32 : Nodes32 bad.leaf bad.proof)
    (hlen : bad.proof.length = good.proof.length) (hne : (bad.leaf, bad.proof) ≠ (good.leaf, good.proof))
    (hnx : ¬ Exchange (bytesOps H) bad.leaf bad.proof good.leaf good.proof)
    (hacc : modelAns H good = .accept) : modelAns H bad ≠ .accept := by
  intro hb
  rw [modelAns_eq_accept, hgi, accepts_sorted] at hacc
  rw [modelAns_eq_accept, hbi, hroot, accepts_sorted] at hb
  exact (sound_sorted_bytes H hH good.root bad.leaf good.leaf bad.proof good.proof
    hb32.1 hg32.1 hb32.2 hg32.2 hlen hne hb hacc).elim hnc hnx

/-! ## (b) the distributor part -/

/-- the model side of a `dist` sequence on parsed lines: the same data the driver's `stepOp` prints
(`advance`: time changes nothing, `look=0` prints `ok now=<n>` which reads as ⟨true, none, []⟩;
`setroot`: `Dist.apply … (.setRoot r)`, `showDist true`; `claim`: `Dist.step` with `.claim` /
`.claimIndexed` by mode, `showDist true d'` / `showDist false d`; `showDist` prints the root and
`claimedList d w`) -/
def distModel (H : Node → Node) (w : Nat) (d : Dist Node) : DLine → Dist Node × DObs
  | .blind => (d, ⟨true, none, []⟩)
  | .look => (d, ⟨true, d.root, claimedList d w⟩)
  | .setRoot r => (d.apply (bytesOps H) (.setRoot r),
      ⟨true, (d.apply (bytesOps H) (.setRoot r)).root, claimedList (d.apply (bytesOps H) (.setRoot r)) w⟩)
  | .claim indexed leaf index proof _ =>
    match d.step (bytesOps H) (claimOp indexed leaf index proof) with
    | .ok d' => (d', ⟨true, d'.root, claimedList d' w⟩)
    | .error _ => (d, ⟨false, d.root, claimedList d w⟩)

structure Agree (w : Nat) (m : Mon) (d : Dist Node) : Prop where
  univ : m.w = w
  root : m.root = d.root
  claimed : m.claimed = claimedList d w
  far : FarOk w m.far d

/-- the hypotheses on one line in the state it is executed in: a sorted-form claim carries 32-byte
values; a `c:`-tagged (leaf, proof, index) does not verify against the current root (EXPLICIT: this
is where collision-freeness of the concrete hash enters, as in `TagOk`) -/
def LineOk (H : Node → Node) (d : Dist Node) : DLine → Prop
  | .claim indexed leaf index proof tag =>
    (indexed = false → Nodes32 leaf proof) ∧
    (∀ c, tag = .corrupt c → ∀ root, d.root = some root → accepts H indexed root leaf index proof = false)
  | _ => True

/-- **one line of a `dist` sequence**: fed with the model's own observation (accepted or refused),
the monitor reports nothing and its state keeps describing the model's -/
theorem dist_monitor_sound_step (H : Node → Node) (hH : ∀ x, (H x).length = 32) (w : Nat) (hw : w ≤ 4294967294)
    {m : Mon} {d : Dist Node} (ha : Agree w m d) (op : DLine) (hop : LineOk H d op) :
    (distCore H m op (distModel H w d op).2).2 = none ∧
    Agree w (distCore H m op (distModel H w d op).2).1 (distModel H w d op).1 := by
  obtain ⟨hmw, hr, hc, hf⟩ := ha
  subst hmw
  cases op with
  | blind => exact ⟨rfl, ⟨rfl, hr, hc, hf⟩⟩
  | look =>
    refine ⟨?_, ⟨rfl, rfl, rfl, hf⟩⟩
    simp [distCore, distModel, distVerdict, verdictSeen, verdictLook, ← hc, unmarked_self, hr]
  | setRoot r =>
    have hcl : claimedList (d.apply (bytesOps H) (.setRoot r)) m.w = m.claimed := hc.symm
    have hrt : (d.apply (bytesOps H) (.setRoot r)).root = some r := rfl
    refine ⟨?_, ⟨rfl, rfl, rfl, hf⟩⟩
    simp [distCore, distModel, distVerdict, verdictSeen, verdictSetRoot, hcl, hrt, unmarked_self]
  | claim indexed leaf index proof tag =>
    obtain ⟨h32, hcor⟩ := hop
    have hwas := wasClaimed_eq m d hc hf index
    cases hs : d.step (bytesOps H) (claimOp indexed leaf index proof) with
    | ok d' =>
      obtain ⟨root, hroot, hclr, hacc, rfl⟩ := (step_claim_ok H d d' indexed leaf index proof).mp hs
      obtain ⟨hun, hsp, hnew⟩ := flags_accepted hw hc hclr
      have hval := (validAgainst_eq_true H hH _ _ _ _ _ h32).mpr ⟨root, hroot, hacc⟩
      have htag : ∀ c, tag ≠ .corrupt c :=
        fun c hcc => Bool.false_ne_true ((hcor c hcc root hroot).symm.trans hacc)
      have hrt : (d.setClaimed index).root = d.root := rfl
      simp only [distModel, hs]
      refine ⟨?_, ⟨rfl, rfl, rfl, farStep_ok m d hf index hclr⟩⟩
      -- the verdict on an accepted claim is seven tests in a row, and each fact turns one off: a flag lost (hun),
      -- spurious flags (hsp), double claim (hwas, hclr), corrupt-tag alarm (htag), proof valid against the root
      -- (hval, hr), exactly the new mark (hnew), root unchanged (hr, hrt)
      simp [distCore, distVerdict, verdictSeen, verdictClaim, verdictClaimAccepted, claimAcceptedTail, firstSome,
        corruptAlarm_none _ _ _ htag, hun, hsp, hwas, hclr, hnew, hval, hr, hrt]
    | error e =>
      simp only [distModel, hs]
      refine ⟨?_, ⟨rfl, rfl, rfl, (farStep_err m index).symm ▸ hf⟩⟩
      -- nothing changed; what is left is that a valid claim the model refuses is for a set flag
      simp [distCore, distVerdict, verdictSeen, verdictClaim, verdictClaimRefused, ← hc, unmarked_self, spurious_self,
        newFlags_self, hr, hwas]
      intro hv
      obtain ⟨root, hroot, hacc⟩ := (validAgainst_eq_true H hH _ _ _ _ _ h32).mp hv
      cases hcl : d.claimed index with
      | true => rfl
      | false =>
        exact nomatch hs.symm.trans ((step_claim_ok H d _ indexed leaf index proof).mpr ⟨root, hroot, hcl, hacc, rfl⟩)

/-- the monitor run over a whole `dist` history of model observations: first message, if any -/
def distRun (H : Node → Node) (w : Nat) : Mon → Dist Node → List DLine → Option String
  | _, _, [] => none
  | m, d, op :: ops =>
    match (distCore H m op (distModel H w d op).2).2 with
    | some msg => some msg
    | none => distRun H w (distCore H m op (distModel H w d op).2).1 (distModel H w d op).1 ops

def LinesOk (H : Node → Node) (w : Nat) : Dist Node → List DLine → Prop
  | _, [] => True
  | d, op :: ops => LineOk H d op ∧ LinesOk H w (distModel H w d op).1 ops

/-- the monitor's initial state for a `# dist alg=<alg> w=<w>` sequence (the driver's `initMon`);
the model's is `Dist.empty` (the driver's `initSt`) -/
def distMonInit (alg : String) (w : Nat) : Mon := { kind := "dist", alg := alg, w := w }

theorem agree_init (alg : String) (w : Nat) : Agree w (distMonInit alg w) Dist.empty :=
  ⟨rfl, rfl, (claimedList_empty none w).symm, fun i => by simp [distMonInit, Dist.empty]⟩

theorem dist_monitor_run_quiet (H : Node → Node) (hH : ∀ x, (H x).length = 32) (w : Nat) (hw : w ≤ 4294967294)
    (ops : List DLine) : ∀ (m : Mon) (d : Dist Node), Agree w m d → LinesOk H w d ops → distRun H w m d ops = none := by
  induction ops with
  | nil => intro m d _ _; rfl
  | cons op ops ih =>
    intro m d ha hl
    obtain ⟨h1, h2⟩ := dist_monitor_sound_step H hH w hw ha op hl.1
    unfold distRun
    rw [h1]
    exact ih _ _ h2 hl.2

/-- **monitor soundness, distributor**: for every label (hash function `alg`, observed universe `w`
within the u32 index space) and every finite history of advance / setroot / claim lines — any
index inside or outside the observed universe, any leaf, proof, mode, any root changes — satisfying
`LinesOk`, the monitor reports nothing on the model's observations -/
theorem dist_monitor_accepts_every_model_trace (alg : String) (w : Nat) (hw : w ≤ 4294967294) (ops : List DLine)
    (hl : LinesOk (hashOf alg) w Dist.empty ops) :
    distRun (hashOf alg) w (distMonInit alg w) Dist.empty ops = none :=
  dist_monitor_run_quiet (hashOf alg) (hashOf_length alg) w hw ops _ _ (agree_init alg w) hl

/-! ## (c) the airdrop part -/

/-- model state of an `airdrop` sequence as the driver keeps it (`St.dist`, `St.pool`, `St.bal`) -/
structure ASt where
  dist : Dist Node
  pool : Int
  bal : List Int

/-- the `Airdrop` the driver builds from its state for an `aclaim` line -/
def ASt.air (s : ASt) : Airdrop Node := { dist := s.dist, pool := s.pool, bal := fun j => s.bal.getD j 0 }

/-- the model side of an `airdrop` sequence on parsed lines: the same data the driver's `stepOp`
prints for `aclaim` (`Airdrop.claim`, `showAir true s'` / `showAir false s`; `showAir` prints
`claimedList s.dist s.w`, the pool and the balances) and for `advance look=0` (`ok now=<n>`) -/
def airModel (H : Node → Node) (w : Nat) (s : ASt) : ALine → ASt × AObs
  | .blind => (s, ⟨true, [], 0, []⟩)
  | .claim leaf index rcv amount proof _ =>
    match s.air.claim (bytesOps H) leaf index rcv amount proof with
    | .ok a' => (⟨a'.dist, a'.pool, (List.range s.bal.length).map a'.bal⟩,
        ⟨true, claimedList a'.dist w, a'.pool, (List.range s.bal.length).map a'.bal⟩)
    | .error _ => (s, ⟨false, claimedList s.dist w, s.pool, s.bal⟩)

structure AgreeA (w : Nat) (m : Mon) (s : ASt) : Prop where
  dist : Agree w m s.dist
  pool : m.pool = s.pool
  bal : m.bal = s.bal

def ALineOk (H : Node → Node) (s : ASt) : ALine → Prop
  | .claim leaf index _ _ proof tag =>
    Nodes32 leaf proof ∧
    (∀ c, tag = .corrupt c → ∀ root, s.dist.root = some root → accepts H false root leaf index proof = false)
  | .blind => True

theorem airdrop_monitor_sound_step (H : Node → Node) (hH : ∀ x, (H x).length = 32) (w : Nat) (hw : w ≤ 4294967294)
    {m : Mon} {s : ASt} (ha : AgreeA w m s) (op : ALine) (hop : ALineOk H s op) :
    (airCore H m op (airModel H w s op).2).2 = none ∧
    AgreeA w (airCore H m op (airModel H w s op).2).1 (airModel H w s op).1 := by
  obtain ⟨⟨hmw, hr, hc, hf⟩, hpool, hbal⟩ := ha
  subst hmw
  cases op with
  | blind => exact ⟨rfl, ⟨⟨rfl, hr, hc, hf⟩, hpool, hbal⟩⟩
  | claim leaf index rcv amount proof tag =>
    obtain ⟨h32, hcor⟩ := hop
    have hwas := wasClaimed_eq m s.dist hc hf index
    cases hs : s.air.claim (bytesOps H) leaf index rcv amount proof with
    | ok a' =>
      obtain ⟨root, hroot, hclr, hacc, h0, hle, rfl⟩ := (airClaim_ok ..).mp hs
      replace hclr : s.dist.claimed index = false := hclr
      obtain ⟨hun, hsp, hnew⟩ := flags_accepted hw hc hclr
      have hval := (validAgainst_eq_true H hH s.dist.root false leaf index proof fun _ => h32).mpr ⟨root, hroot, hacc⟩
      have htag : ∀ c, tag ≠ .corrupt c :=
        fun c hcc => Bool.false_ne_true ((hcor c hcc root hroot).symm.trans hacc)
      simp only [airModel, hs]
      refine ⟨?_, ⟨⟨rfl, hr, rfl, farStep_ok m s.dist hf index hclr⟩, rfl, rfl⟩⟩
      -- the same tests as for the distributor (hun, hsp, hwas and hclr, htag, hval and hr, hnew), but the last:
      -- the pool fell and the receiver's balance rose by the amount (hpool, hbal, `paidOut_eq`)
      simp [airCore, airVerdict, verdictAirClaim, verdictAirAccepted, airAcceptedTail, firstSome,
        corruptAlarm_none _ _ _ htag, hun, hsp, hwas, hclr, hnew, hval, hr, hpool, hbal, ASt.air, ← paidOut_eq]
    | error e =>
      simp only [airModel, hs]
      refine ⟨?_, ⟨⟨rfl, hr, rfl, (farStep_err m index).symm ▸ hf⟩, rfl, rfl⟩⟩
      -- nothing changed; what is left is that a valid, funded claim the model refuses is for a set flag
      simp [airCore, airVerdict, verdictAirClaim, verdictAirRefused, ← hc, unmarked_self, spurious_self, newFlags_self,
        hr, hwas, hpool, hbal]
      intro hv hcl h0
      refine Int.not_le.mp fun hle => ?_
      obtain ⟨root, hroot, hacc⟩ := (validAgainst_eq_true H hH _ _ _ _ _ (fun _ => h32)).mp hv
      exact nomatch hs.symm.trans ((airClaim_ok ..).mpr ⟨root, hroot, hcl, hacc, h0, hle, rfl⟩)

def airRun (H : Node → Node) (w : Nat) : Mon → ASt → List ALine → Option String
  | _, _, [] => none
  | m, s, op :: ops =>
    match (airCore H m op (airModel H w s op).2).2 with
    | some msg => some msg
    | none => airRun H w (airCore H m op (airModel H w s op).2).1 (airModel H w s op).1 ops

def ALinesOk (H : Node → Node) (w : Nat) : ASt → List ALine → Prop
  | _, [] => True
  | s, op :: ops => ALineOk H s op ∧ ALinesOk H w (airModel H w s op).1 ops

/-- the monitor's / the model's initial state for a
`# airdrop alg=<alg> w=<w> root=<root> pool=<pool> nrcv=<nrcv>` sequence (`initMon` / `initSt`) -/
def airMonInit (alg : String) (w : Nat) (root : Option Node) (pool : Int) (nrcv : Nat) : Mon :=
  { kind := "airdrop", alg := alg, w := w, root := root, pool := pool, bal := List.replicate nrcv 0 }

def airInit (root : Option Node) (pool : Int) (nrcv : Nat) : ASt :=
  ⟨{ root := root, claimed := fun _ => false }, pool, List.replicate nrcv 0⟩

theorem airdrop_monitor_run_quiet (H : Node → Node) (hH : ∀ x, (H x).length = 32) (w : Nat) (hw : w ≤ 4294967294)
    (ops : List ALine) : ∀ (m : Mon) (s : ASt), AgreeA w m s → ALinesOk H w s ops → airRun H w m s ops = none := by
  induction ops with
  | nil => intro m s _ _; rfl
  | cons op ops ih =>
    intro m s ha hl
    obtain ⟨h1, h2⟩ := airdrop_monitor_sound_step H hH w hw ha op hl.1
    unfold airRun
    rw [h1]
    exact ih _ _ h2 hl.2

/-- **monitor soundness, airdrop example**: for every label (universe, root or none, funding, number
of receivers) and every finite history of `aclaim` / `advance look=0` lines — any index, receiver
(also outside the observed ones), amount (also negative or above the pool), leaf, proof —
satisfying `ALinesOk`, the monitor reports nothing on the model's observations -/
theorem airdrop_monitor_accepts_every_model_trace (alg : String) (w : Nat) (hw : w ≤ 4294967294)
    (root : Option Node) (pool : Int) (nrcv : Nat) (ops : List ALine)
    (hl : ALinesOk (hashOf alg) w (airInit root pool nrcv) ops) :
    airRun (hashOf alg) w (airMonInit alg w root pool nrcv) (airInit root pool nrcv) ops = none :=
  airdrop_monitor_run_quiet (hashOf alg) (hashOf_length alg) w hw ops _ _
    ⟨⟨rfl, rfl, (claimedList_empty root w).symm, fun i => by simp [airMonInit, airInit]⟩, rfl, rfl⟩ hl

/-! ## without the ghost log of far claims: a false alarm on a model trace -/

/-- a claim verdict without the ghost log: "claimed before" and "newly marked" read off the
observed flags only -/
def Legacy.verdictClaim (m : Mon) (valid : Bool) (index : Nat) (o : DObs) : Option String :=
  if o.ok ∧ m.claimed.contains index then some "site=distributor.double_claim"
  else if o.ok ∧ ¬ valid then some "site=distributor.claimed_without_valid_proof"
  else if o.ok ∧ newFlags m.claimed o.claimed ≠ [index] then some "site=distributor.marks"
  else if ¬ o.ok ∧ valid ∧ ¬ m.claimed.contains index then some "site=distributor.reject.honest"
  else none

/-- model history, universe `w = 4`: `setroot R; claim index=10 leaf=R proof=[]` (accepted by the
model: the empty proof folds the leaf to the root; no observed flag changes because 10 is outside
the universe), then the same claim again (refused by the model: already claimed). On the model's
observations `Legacy.verdictClaim` reports `marks` for the first claim and `reject.honest` for the
second; the monitor (`distRun`) is silent on the whole history. -/
theorem legacy_monitor_false_alarm (H : Node → Node) (hH : ∀ x, (H x).length = 32) (R : Node) (hR : R.length = 32) :
    distModel H 4 Dist.empty (.setRoot R) = (Dist.empty.setRoot R, ⟨true, some R, []⟩) ∧
    distModel H 4 (Dist.empty.setRoot R) (.claim false R 10 [] .other) =
      ((Dist.empty.setRoot R).setClaimed 10, ⟨true, some R, []⟩) ∧
    distModel H 4 ((Dist.empty.setRoot R).setClaimed 10) (.claim false R 10 [] .other) =
      ((Dist.empty.setRoot R).setClaimed 10, ⟨false, some R, []⟩) ∧
    Legacy.verdictClaim { w := 4, root := some R } (validAgainst H (some R) false R 10 []) 10 ⟨true, some R, []⟩ =
      some "site=distributor.marks" ∧
    Legacy.verdictClaim { w := 4, root := some R } (validAgainst H (some R) false R 10 []) 10 ⟨false, some R, []⟩ =
      some "site=distributor.reject.honest" ∧
    distRun H 4 (distMonInit "sha" 4) Dist.empty
      [.setRoot R, .claim false R 10 [] .other, .claim false R 10 [] .other] = none := by
  have h32 : Nodes32 R [] := ⟨hR, fun _ h => nomatch h⟩
  have hacc : accepts H false R R 10 [] = true := decide_eq_true rfl
  have hva := (validAgainst_eq_true H hH (some R) false R 10 [] fun _ => h32).mpr ⟨R, rfl, hacc⟩
  have hc1 : claimedList (Dist.empty.setRoot R : Dist Node) 4 = [] := claimedList_empty (some R) 4
  have hc2 : claimedList ((Dist.empty.setRoot R : Dist Node).setClaimed 10) 4 = [] :=
    (claimedList_setClaimed_far _ 4 10 rfl).trans hc1
  have hs2 := (step_claim_ok H (Dist.empty.setRoot R) _ false R 10 []).mpr ⟨R, rfl, rfl, hacc, rfl⟩
  cases hs3 : ((Dist.empty.setRoot R : Dist Node).setClaimed 10).step (bytesOps H) (claimOp false R 10 []) with
  | ok d' => obtain ⟨_, _, h2, _⟩ := (step_claim_ok H _ d' false R 10 []).mp hs3; cases h2
  | error e3 =>
    refine ⟨congrArg (fun l => (_, DObs.mk true (some R) l)) hc1, ?_, ?_, by rw [hva]; rfl, by rw [hva]; rfl,
      dist_monitor_run_quiet H hH 4 (by decide) _ _ _ (agree_init "sha" 4)
        ⟨trivial, ⟨fun _ => h32, fun c hc => nomatch hc⟩, ⟨fun _ => h32, fun c hc => nomatch hc⟩, trivial⟩⟩
    · simp only [distModel, hs2, hc2]; rfl
    · simp only [distModel, hs3, hc2]; rfl

/-! ## non-vacuity: the monitor is not trivially silent -/

/-- a verifier that answers `ok true` where the fold says `ok false` -/
example : (verdictVerify (fun x => x) ⟨false, [1], [2], 0, [], .other⟩ ⟨some .accept, "ok true"⟩).isSome = true := rfl
/-- an honest line answered `ok false` by verifier and fold alike (cannot happen for the model:
`honest_line_accepted`) is reported through the tag -/
example : (verdictVerify (fun x => x) ⟨false, [1], [2], 0, [], .honest⟩ ⟨some .reject, "ok false"⟩).isSome = true := rfl
/-- a flag that disappears -/
example : (distCore (fun x => x) { w := 4, claimed := [1, 2] } .look ⟨true, none, [2]⟩).2 = some unmarkedMsg := rfl
/-- a second accepted claim for an index whose flag is already observed -/
example : (distCore (fun x => x) { w := 4, root := some [7], claimed := [1] } (.claim false [7] 1 [] .other)
    ⟨true, some [7], [1]⟩).2.isSome = true := rfl
/-- a claim for index 8 that also sets flag 72 -/
example : (distCore (fun x => x) { w := 100, root := some [7] } (.claim false [7] 8 [] .other)
    ⟨true, some [7], [8, 72]⟩).2.isSome = true := rfl
/-- a second accepted claim for a FAR index is reported through the ghost log -/
example : (distCore (fun x => x) { w := 4, root := some [7], far := [10] } (.claim false [7] 10 [] .other)
    ⟨true, some [7], []⟩).2.isSome = true := rfl
/-- an airdrop claim that pays one unit too much -/
example : (airCore (fun x => x) { w := 4, root := some [7], pool := 10, bal := [0, 0] } (.claim [7] 1 0 3 [] .other)
    ⟨true, [1], 6, [4, 0]⟩).2.isSome = true := rfl

/-- with a constant hash the model accepts an EXTENDED proof (root = H(..), honest proof [x], extended [x, y]):
hence `TagOk` / `LineOk` state the `c:` conclusion as a hypothesis -/
example :
    modelAns (fun _ => [0]) ⟨false, [0], [5], 0, [[1]], .honest⟩ = .accept ∧
    modelAns (fun _ => [0]) ⟨false, [0], [5], 0, [[1], [2]], .corrupt "ext"⟩ = .accept := by
  decide

/-- the 32-byte hypothesis of the sorted form is needed: on byte strings of different lengths (not
`BytesN<32>` values; no harness writes them) the big-endian number order is not the lexicographic
order — [1] > [0, 2] lexicographically although 1 < 2 — so the monitor's fold and the model's differ -/
theorem sorted_needs_equal_lengths :
    monPairSorted (fun x => x) [1] [0, 2] = [1, 0, 2] ∧ chp (bytesOps (fun x => x)) [1] [0, 2] = [0, 2, 1] := by
  decide

end OZ.Merkle.Mon
