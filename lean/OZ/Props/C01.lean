import OZ.Lemmas.Fungible
/-
C01 — Fungible supply is conserved and reconstructible from events.

The model (OZ/Model/Fungible.lean) mirrors `impl Base` of
packages/tokens/src/fungible/storage.rs and extensions/burnable/storage.rs. Every flavour
of the library moves balances exclusively through `Base::update`, and its extra gates only
make more calls fail: OZ/Props/C01Flavours.lean proves that for the allow/block-listed, capped,
pausable and votes tokens and carries the theorems of this file over to them; the vault's share
token is in OZ/Props/C05, the RWA token in OZ/Props/C04.

All statements hold for every configuration, every start ledger, every finite list of
operations with arbitrary `Int` amounts (negative, zero, beyond i128) and arbitrary
authorizing subsets, over any duplicate-free set `U` of accounts that contains the
accounts the operations mention.
-/
namespace OZ.Fungible
open OZ.Host

/-- the code's "can't overflow" comments are true: under the invariant the unchecked
credit / supply subtraction of `update` stays inside i128, so the overflow panic is
unreachable -/
theorem update_no_overflow {U : List Nat} (hn : U.Nodup) {s : State} (hi : Inv U s)
    (f t : Option Nat) (amt : Int) : update s f t amt ≠ .error .overflowPanic := by
  intro h
  unfold update at h
  split at h
  · cases h
  · rename_i h0
    split at h
    · rename_i e hd
      rw [h] at hd
      exact debit_ne_panic s f amt hd
    · rename_i s1 hd
      obtain ⟨hc, rfl⟩ := debit_eq_ok_iff.1 hd
      rw [credit_eq_ok_iff.2 ⟨credit_succeeds (debit_debited hn hi (by omega) hc) (by omega) t, rfl⟩] at h
      cases h

theorem move_to_mem {op : Op} {f t : Option Nat} {a : Int} {ev : Event}
    (hm : op.move? = some (f, t, a, ev)) {x : Nat} (hx : t = some x) : x ∈ op.addrs := by
  cases op <;> cases hm <;> cases hx <;> simp [Op.addrs]

/-- one successful invocation preserves the invariant, changes the supply by exactly
`+amount` (mint), `-amount` (burn, burn_from) or not at all (everything else) -/
theorem apply_inv {U : List Nat} (hn : U.Nodup) (c : Cfg) {s s' : State} (hi : Inv U s)
    (auth : List Nat) (op : Op) (hU : ∀ a ∈ op.addrs, a ∈ U)
    (h : apply c s auth op = .ok s') :
    Inv U s' ∧ s'.supply = s.supply + supplyDelta op := by
  refine ⟨?_, apply_supply h⟩
  cases hm : op.move? with
  | some m =>
    obtain ⟨f, t, a, ev⟩ := m
    obtain ⟨s0, s1, es, eb, -, -, h1, rfl⟩ := apply_move h hm
    exact (update_inv hn (hi.congr es eb) (fun x e => hU x (move_to_mem hm e)) h1).1.congr rfl rfl
  | none =>
    cases op with
    | approve o sp amt lu =>
      obtain ⟨_, s0, h0, rfl⟩ := approve_ok h
      obtain ⟨es, eb, -, -, -⟩ := setAllowance_ok h0
      exact (hi.congr es eb).congr rfl rfl
    | advance n =>
      injection h with h; subst h
      exact hi.congr rfl rfl
    | _ => cases hm

/-- an accepted `transfer` never changes the supply -/
theorem transfer_supply (c : Cfg) (s s' : State) (auth : List Nat) (f t : Nat) (amt : Int) {U : List Nat}
    (hn : U.Nodup) (hi : Inv U s) (hf : f ∈ U) (ht : t ∈ U)
    (h : apply c s auth (.transfer f t amt) = .ok s') : s'.supply = s.supply := by
  simpa [supplyDelta] using apply_supply h

theorem mint_supply (c : Cfg) (s s' : State) (auth : List Nat) (t : Nat) (amt : Int) {U : List Nat}
    (hn : U.Nodup) (hi : Inv U s) (ht : t ∈ U)
    (h : apply c s auth (.mint t amt) = .ok s') : s'.supply = s.supply + amt := by
  simpa [supplyDelta] using apply_supply h

theorem burn_supply (c : Cfg) (s s' : State) (auth : List Nat) (f : Nat) (amt : Int) {U : List Nat}
    (hn : U.Nodup) (hi : Inv U s) (hf : f ∈ U)
    (h : apply c s auth (.burn f amt) = .ok s') : s'.supply = s.supply - amt := by
  have := apply_supply h
  simp [supplyDelta] at this; omega

/-- a call that fails leaves every balance, allowance and the supply exactly as before
(the host's rollback, which is how `step` is defined; the correspondence check observes it
on the implementation after every failed call) -/
theorem failed_no_effect (c : Cfg) (s : State) (auth : List Nat) (op : Op) (e : Err)
    (h : apply c s auth op = .error e) : step c s (auth, op) = s := by
  simp [step, h]

theorem init_inv (U : List Nat) (now : Nat) : Inv U (init now) := by
  refine ⟨?_, ?_, ?_, ?_, ?_⟩
  · induction U with
    | nil => rfl
    | cons x xs ih => simp only [total, List.map_cons, List.sum_cons, init] at *; omega
  · intro a; simp [init]
  · intro a _; simp [init]
  · simp [init]
  · simp [init, I128_MAX]

/-- **C01, every reachable state**: for every finite history of operations (any amounts,
any authorizing subsets, any ledger movement), `total_supply` equals the sum of all
balances, no balance is negative, and the supply is a non-negative i128. -/
theorem inv_reachable (c : Cfg) (now : Nat) (U : List Nat) (hn : U.Nodup)
    (ops : List (List Nat × Op)) (hU : ∀ x ∈ ops, ∀ a ∈ x.2.addrs, a ∈ U) :
    Inv U (run c (init now) ops) :=
  run_keeps (Inv U) ops (fun x hx _ _ hs h => (apply_inv hn c hs x.1 x.2 (hU x hx) h).1) (init_inv U now)

/-! ### replay of events -/

theorem replay_append (evs : List Event) (ev : Event) :
    replay (evs ++ [ev]) = replayEvent (replay evs) ev := by
  simp [replay, List.foldl_append]

theorem apply_replay (c : Cfg) {s s' : State} (auth : List Nat) (op : Op)
    (hr : replay s.events = s.bal) (h : apply c s auth op = .ok s') :
    replay s'.events = s'.bal := by
  obtain ⟨-, evs, ee, eb⟩ := apply_accounting h
  rw [ee, ← eb, ← hr]
  exact List.foldl_append ..

/-- **C01, events**: replaying the emitted mint / burn / transfer events from genesis
reproduces every balance, after any history -/
theorem replay_events (c : Cfg) (now : Nat) (ops : List (List Nat × Op)) :
    replay (run c (init now) ops).events = (run c (init now) ops).bal :=
  run_keeps (fun s => replay s.events = s.bal) ops (fun x _ _ _ hs h => apply_replay c x.1 x.2 hs h)
    (by simp [init, replay])

/-! ### non-vacuity: the hypotheses are met by a concrete,
non-trivial history, including a self-transfer, a failed call and an overflow attempt -/

def demoOps : List (List Nat × Op) :=
  [([], .mint 0 1000), ([0], .transfer 0 0 1000), ([0], .transfer 0 1 400), ([1], .transfer 0 1 1),
   ([], .mint 2 (I128_MAX - 1000)), ([], .mint 2 1), ([0], .approve 0 4 300 110),
   ([4], .transferFrom 4 0 3 100), ([3], .burn 3 40), ([4], .burnFrom 4 0 60)]

example : (run ⟨1, 1000⟩ (init 100) demoOps).supply = I128_MAX - 100 ∧
    (run ⟨1, 1000⟩ (init 100) demoOps).bal 0 = 440 ∧
    (run ⟨1, 1000⟩ (init 100) demoOps).bal 3 = 60 ∧
    allowance (run ⟨1, 1000⟩ (init 100) demoOps) 0 4 = 140 := by decide

example : ∀ x ∈ demoOps, ∀ a ∈ x.2.addrs, a ∈ [0, 1, 2, 3, 4] := by decide

end OZ.Fungible
