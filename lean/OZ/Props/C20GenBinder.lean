import OZ.Gen.Binder
import OZ.Lemmas.RegBinder
import OZ.Lemmas.RegGen
import OZ.Lemmas.Sim
/-
C20 — the token binder, re-checked on every run against the source.

`lean/OZ/Gen/Binder.lean` is regenerated by `/verif/tools/rs2lean.py --binder` (state-passing mode) from /repo's current
`packages/tokens/src/rwa/utils/token_binder/storage.rs`: `linked_token_count`, `get_token_by_index`,
`get_token_index`, `is_token_bound`, `linked_tokens`, `bind_token`, `unbind_token` (the private generic helper
`get_persistent_entry` read as the storage access it wraps; `BUCKET_SIZE` / `MAX_TOKENS` of `mod.rs` folded).
NOT translated: `bind_tokens` (two nested `while` loops that write storage) — tied by the correspondence run alone.

REFINEMENT to the hand model (OZ/Model/RegBinder.lean) under the abstraction map `Abs`, for model states that satisfy
the model's invariant `Inv` (the buckets are the chunks of a duplicate-free list of at most 10 000 tokens: proved of
every reachable model state in OZ/Lemmas/RegBinder.lean; it is what keeps the `u32` index arithmetic of the code in
range), for every history of `bind_token` / `unbind_token` calls; the registry sentence is then read on the generated
getters.
-/
namespace OZ.Gen.Binder
open OZ.Rs OZ.Reg OZ.RegBinder

def toComp {α : Type} : Except RErr α → Comp α
  | .ok a => .ok a
  | .error _ => .panic

def ofOptC {α : Type} : Option α → Comp α
  | some a => .ok a
  | none => .panic

structure Abs (st : Binder.Store) (s : State) : Prop where
  buckets : ∀ b, (st.TokenBucket b).getD [] = s.buckets b
  count : st.TotalCount.getD 0 = s.count

/-- what the model's invariant gives the index arithmetic -/
structure Bd (s : State) : Prop where
  count : s.count ≤ 10000
  len : ∀ b, (s.buckets b).length ≤ 100

theorem bd_of_inv {s : State} (h : Inv s) : Bd s := by
  obtain ⟨l, hr⟩ := h
  refine ⟨by rw [hr.count]; exact hr.le, fun b => ?_⟩
  rw [hr.buckets, length_chunk]
  exact Nat.min_le_left _ _

theorem linked_token_count_eq (envr : Binder.Reads) (st : Binder.Store) (s : State) (hA : Abs st s) :
    Binder.linked_token_count envr st = .ok s.count := by
  unfold Binder.linked_token_count; rw [hA.count]

theorem get_token_by_index_eq (envr : Binder.Reads) (st : Binder.Store) (s : State) (hA : Abs st s) (i : Nat) :
    Binder.get_token_by_index envr st i = ofOptC (getTokenByIndex s i) := by
  unfold Binder.get_token_by_index getTokenByIndex BUCKET_SIZE
  rw [linked_token_count_eq envr st s hA, Comp.bind_ok, uN_div_ok, uN_rem_ok, Comp.bind_ok, Comp.bind_ok,
    OZ.RegGen.unwrap_slot, hA.buckets]
  by_cases h : i ≥ s.count
  · rw [if_pos h, if_pos h]; rfl
  · rw [if_neg h, if_neg h]; cases (s.buckets (i / 100))[i % 100]? <;> rfl

/-- the scan of `get_token_index` is the model's `scan`, while the index arithmetic stays in range -/
theorem scan_loop_eq (envr : Binder.Reads) (st : Binder.Store) (s : State) (hA : Abs st s) (hB : Bd s) (cnt lb tok : Nat) :
    ∀ (xs : List Nat), (∀ b ∈ xs, b ≤ 100) →
      Binder.get_token_index.loop1 envr xs st cnt lb tok = .ok (scan s tok xs) := by
  intro xs
  induction xs with
  | nil => intro _; rfl
  | cons b rest ih =>
    intro hx
    unfold Binder.get_token_index.loop1 scan
    rw [hA.buckets b, OZ.RegGen.position_eq_idxOf]
    by_cases hc : (s.buckets b).contains tok = true
    · simp only [hc, ↓reduceIte, optCase_some]
      have hb : b ≤ 100 := hx b List.mem_cons_self
      have hi : (s.buckets b).idxOf tok ≤ 100 := Nat.le_trans (List.idxOf_le_length) (hB.len b)
      rw [uN_mul_ok (by omega), Comp.bind_ok, uN_add_ok (by omega), Comp.bind_ok]
      rfl
    · simp only [hc, Bool.false_eq_true, ↓reduceIte, optCase_none]
      exact ih (fun y hy => hx y (List.mem_cons_of_mem _ hy))

theorem range_le (s : State) (hB : Bd s) : ∀ b ∈ bucketRange s, b ≤ 100 := by
  intro b hb
  unfold bucketRange at hb
  rw [List.mem_range] at hb
  have := hB.count
  unfold BUCKET_SIZE at hb
  omega

theorem bucket_range_eq (s : State) : List.range' 0 ((s.count - 1) / 100 + 1 - 0) = bucketRange s := by
  unfold bucketRange BUCKET_SIZE
  rw [Nat.sub_zero, List.range_eq_range']

theorem get_token_index_eq (envr : Binder.Reads) (st : Binder.Store) (s : State) (hA : Abs st s) (hB : Bd s) (t : Nat) :
    Binder.get_token_index envr st t = ofOptC (getTokenIndex s t) := by
  unfold Binder.get_token_index getTokenIndex
  rw [linked_token_count_eq envr st s hA, Comp.bind_ok]
  by_cases h0 : s.count = 0
  · simp only [h0, ↓reduceIte]; rfl
  · simp only [h0, ↓reduceIte, uN_sub_ok (Nat.pos_of_ne_zero h0), uN_div_ok, Comp.bind_ok]
    rw [bucket_range_eq, scan_loop_eq envr st s hA hB _ _ t (bucketRange s) (range_le s hB), Comp.bind_ok]
    cases scan s t (bucketRange s) <;> rfl

theorem bound_loop_eq (envr : Binder.Reads) (st : Binder.Store) (s : State) (hA : Abs st s) (cnt lb tok : Nat) :
    ∀ (xs : List Nat), Binder.is_token_bound.loop1 envr xs st cnt lb tok =
      .ok (if xs.any (fun b => (s.buckets b).contains tok) then some true else none) := by
  intro xs
  induction xs with
  | nil => rfl
  | cons b rest ih =>
    unfold Binder.is_token_bound.loop1
    rw [hA.buckets b]
    by_cases hc : tok ∈ s.buckets b
    · simp [hc]
    · have : (s.buckets b).contains tok = false := by simpa using hc
      simp only [hc, decide_false, Bool.false_eq_true, ↓reduceIte, ih, List.any_cons, this, Bool.false_or]

theorem is_token_bound_eq (envr : Binder.Reads) (st : Binder.Store) (s : State) (hA : Abs st s) (t : Nat) :
    Binder.is_token_bound envr st t = .ok (isTokenBound s t) := by
  unfold Binder.is_token_bound isTokenBound
  rw [linked_token_count_eq envr st s hA, Comp.bind_ok]
  by_cases h0 : s.count = 0
  · simp only [h0, ↓reduceIte]
  · simp only [h0, ↓reduceIte, uN_sub_ok (Nat.pos_of_ne_zero h0), uN_div_ok, Comp.bind_ok]
    rw [bucket_range_eq, bound_loop_eq envr st s hA, Comp.bind_ok]
    cases (bucketRange s).any (fun b => (s.buckets b).contains t) <;> rfl

theorem tokens_loop_eq (envr : Binder.Reads) (st : Binder.Store) (s : State) (hA : Abs st s) (cnt lb : Nat) :
    ∀ (xs acc : List Nat), Binder.linked_tokens.loop1 envr xs st acc cnt lb = .ok (acc ++ xs.flatMap s.buckets) := by
  intro xs
  induction xs with
  | nil => intro acc; simp [Binder.linked_tokens.loop1]
  | cons b rest ih =>
    intro acc
    unfold Binder.linked_tokens.loop1
    rw [hA.buckets b, ih]
    simp [List.flatMap_cons]

theorem linked_tokens_eq (envr : Binder.Reads) (st : Binder.Store) (s : State) (hA : Abs st s) :
    Binder.linked_tokens envr st = .ok (linkedTokens s) := by
  unfold Binder.linked_tokens linkedTokens
  rw [linked_token_count_eq envr st s hA, Comp.bind_ok]
  by_cases h0 : s.count = 0
  · simp only [h0, ↓reduceIte]
  · simp only [h0, ↓reduceIte, uN_sub_ok (Nat.pos_of_ne_zero h0), uN_div_ok, Comp.bind_ok]
    rw [bucket_range_eq, tokens_loop_eq envr st s hA, Comp.bind_ok]
    simp

def Sim (c : Comp (Unit × Binder.Store)) (m : Except RErr State) : Prop :=
  match m with
  | .ok s' => ∃ st', c = Comp.ok ((), st') ∧ Abs st' s'
  | .error _ => c = Comp.panic

theorem abs_set_bucket {st : Binder.Store} {s : State} (hA : Abs st s) (b : Nat) (v : List Nat) :
    Abs (Binder.Store.set_TokenBucket st b v) { s with buckets := updD s.buckets b v } :=
  ⟨fun x => (apply_ite (Option.getD · []) _ _ _).trans (ite_congr rfl (fun _ => rfl) fun _ => hA.buckets x), hA.count⟩

theorem abs_bucket {st : Binder.Store} {s : State} (hA : Abs st s) (b : Nat) (v : List Nat) (c : Nat) :
    Abs (Binder.Store.set_TotalCount (Binder.Store.set_TokenBucket st b v) c) { buckets := updD s.buckets b v, count := c } :=
  ⟨(abs_set_bucket hA b v).buckets, rfl⟩

theorem sim_iff {c : Comp (Unit × Binder.Store)} {m : Except RErr State} : Sim c m ↔ Rs.Sim (onStore Abs) c m := by
  cases m with
  | ok s' => exact Rs.Sim.store_ok_iff.symm
  | error e => exact Iff.rfl

theorem abs_push {st : Binder.Store} {s : State} (hA : Abs st s) (t : Nat) :
    Abs (Binder.Store.set_TotalCount (Binder.Store.set_TokenBucket st (s.count / 100)
      ((st.TokenBucket (s.count / 100)).getD [] ++ [t])) (s.count + 1)) (push s t) := by
  rw [hA.buckets]; exact abs_bucket hA _ _ _

theorem abs_pop {st : Binder.Store} {s : State} (hA : Abs st s) (last : Nat) :
    Abs (Binder.Store.set_TotalCount (Binder.Store.set_TokenBucket st (last / 100)
      ((st.TokenBucket (last / 100)).getD []).dropLast) last) (popLast s last) := by
  rw [hA.buckets]; exact abs_bucket hA _ _ _

/-- **generated = model** for `bind_token` -/
theorem bind_token_ref (envr : Binder.Reads) (st : Binder.Store) (s : State) (hA : Abs st s) (hB : Bd s) (t : Nat) :
    Sim (Binder.bind_token envr st t) (bindToken s t) := by
  unfold Binder.bind_token
  rw [is_token_bound_eq envr st s hA, Comp.bind_ok, linked_token_count_eq envr st s hA, Comp.bind_ok]
  refine sim_iff.2 (Sim.refuse _ Iff.rfl fun _ => Sim.refuse _ Iff.rfl fun hm => ?_)
  rw [uN_div_ok, Comp.bind_ok,
    uN_add_ok (Nat.lt_of_lt_of_le (Nat.succ_lt_succ (Nat.lt_of_not_le hm)) (by decide)), Comp.bind_ok]
  exact Sim.pure (abs_push hA t)

theorem opt_sim {β γ δ : Type} {Q : β → γ → Prop} {q : Comp δ} {o : Option δ} (e : RErr) {h : δ → Comp β}
    {k : δ → Except RErr γ} (hq : q = ofOptC o) (hk : ∀ v, o = some v → Rs.Sim Q (h v) (k v)) :
    Rs.Sim Q (q.bind h) ((ofOpt e o).bind k) := by
  subst hq
  cases o with
  | none => exact Sim.panic _
  | some v => exact hk v rfl

/-- **generated = model** for `unbind_token` -/
theorem unbind_token_ref (envr : Binder.Reads) (st : Binder.Store) (s : State) (hA : Abs st s) (hI : Inv s) (t : Nat) :
    Sim (Binder.unbind_token envr st t) (unbindToken s t) := by
  have hB := bd_of_inv hI
  obtain ⟨l, hr⟩ := hI
  refine sim_iff.2 (opt_sim _ (get_token_index_eq envr st s hA hB t) fun idx hidx => ?_)
  have hlt : idx < l.length := (List.getElem?_eq_some_iff.mp (rep_getTokenIndex_some hr t idx hidx)).1
  have hc0 : 0 < s.count := by rw [hr.count]; omega
  rw [linked_token_count_eq envr st s hA, Comp.bind_ok, uN_sub_ok hc0, Comp.bind_ok]
  refine Sim.ite Iff.rfl (fun _ => opt_sim _ (get_token_by_index_eq envr st s hA _) fun lastTok _ => ?_) fun _ => ?_
  · have hslot : idx % 100 < ((st.TokenBucket (idx / 100)).getD []).length := by
      rw [hA.buckets, hr.buckets, length_chunk]
      unfold BUCKET_SIZE
      have : 100 * (idx / 100) + idx % 100 = idx := Nat.div_add_mod idx 100
      omega
    rw [uN_div_ok, Comp.bind_ok, uN_rem_ok, Comp.bind_ok, if_pos hslot, uN_div_ok, Comp.bind_ok]
    have h1 : Abs (Binder.Store.set_TokenBucket st (idx / 100)
        (List.set ((st.TokenBucket (idx / 100)).getD []) (idx % 100) lastTok)) (overwrite s idx lastTok) := by
      rw [hA.buckets]
      exact abs_set_bucket hA (idx / 100) _
    exact Sim.pure (abs_pop h1 (s.count - 1))
  · rw [uN_div_ok, Comp.bind_ok]
    exact Sim.pure (abs_pop hA (s.count - 1))

inductive GOp
  | bind (t : Nat)
  | unbind (t : Nat)

def mop : GOp → Op
  | .bind t => .bind t
  | .unbind t => .unbind t

def genCall (st : Binder.Store) : GOp → Comp (Unit × Binder.Store)
  | .bind t => Binder.bind_token ⟨⟩ st t
  | .unbind t => Binder.unbind_token ⟨⟩ st t

/-- a failed invocation is rolled back by the host -/
def genStep (st : Binder.Store) (o : GOp) : Binder.Store :=
  match genCall st o with
  | .ok (_, st') => st'
  | .panic => st

def genRun (st : Binder.Store) (ops : List GOp) : Binder.Store := ops.foldl genStep st

theorem call_refines {st : Binder.Store} {s : State} (hA : Abs st s) {c : Comp (Unit × Binder.Store)}
    {m : Except RErr State} : Sim c m →
      Abs (match c with | .ok (_, st') => st' | .panic => st) (match m with | .ok s' => s' | .error _ => s) := by
  cases m with
  | error e => intro h; rw [show c = Comp.panic from h]; exact hA
  | ok s' => rintro ⟨st', h1, h2⟩; rw [h1]; exact h2

/-- **one step**: generated call = model step, with the host's rollback -/
theorem step_refines (st : Binder.Store) (s : State) (hA : Abs st s) (hI : Inv s) (o : GOp) :
    Abs (genStep st o) (next s (mop o)) ∧ Inv (next s (mop o)) := by
  refine ⟨?_, inv_next hI (mop o)⟩
  cases o with
  | bind t => exact call_refines hA (bind_token_ref ⟨⟩ st s hA (bd_of_inv hI) t)
  | unbind t => exact call_refines hA (unbind_token_ref ⟨⟩ st s hA hI t)

/-- **every history** of `bind_token` / `unbind_token` calls follows the model -/
theorem run_refines (ops : List GOp) : ∀ (st : Binder.Store) (s : State), Abs st s → Inv s →
    Abs (genRun st ops) (run s (ops.map mop)) ∧ Inv (run s (ops.map mop)) := by
  induction ops with
  | nil => intro st s h hi; exact ⟨h, hi⟩
  | cons o rest ih =>
    intro st s h hi
    obtain ⟨h1, h2⟩ := step_refines st s h hi o
    exact ih _ _ h1 h2

theorem store0_abs : Abs ⟨fun _ => none, none⟩ init := ⟨fun _ => rfl, rfl⟩

/-- **C20, the bound tokens are a set** — on the generated getters, after every history of `bind_token` /
`unbind_token` calls from the empty binder: `linked_tokens` is duplicate-free, `is_token_bound` is membership in it,
`linked_token_count` its length, `get_token_by_index` enumerates it and `get_token_index` answers the position -/
theorem gen_binder_is_a_set (ops : List GOp) :
    ∃ l : List Nat, l.Nodup ∧
      Binder.linked_tokens ⟨⟩ (genRun ⟨fun _ => none, none⟩ ops) = .ok l ∧
      Binder.linked_token_count ⟨⟩ (genRun ⟨fun _ => none, none⟩ ops) = .ok l.length ∧
      (∀ t, Binder.is_token_bound ⟨⟩ (genRun ⟨fun _ => none, none⟩ ops) t = .ok (decide (t ∈ l))) ∧
      (∀ i, Binder.get_token_by_index ⟨⟩ (genRun ⟨fun _ => none, none⟩ ops) i = ofOptC l[i]?) ∧
      (∀ t i, Binder.get_token_index ⟨⟩ (genRun ⟨fun _ => none, none⟩ ops) t = .ok i → l[i]? = some t) := by
  obtain ⟨hA, hI⟩ := run_refines ops _ _ store0_abs inv_init
  obtain ⟨l, hr⟩ := hI
  refine ⟨l, hr.nodup, ?_, ?_, ?_, ?_, ?_⟩
  · rw [linked_tokens_eq _ _ _ hA, rep_linkedTokens hr]
  · rw [linked_token_count_eq _ _ _ hA, hr.count]
  · intro t
    rw [is_token_bound_eq _ _ _ hA]
    exact congrArg Comp.ok (Bool.eq_iff_iff.2 ((rep_isTokenBound hr t).trans decide_eq_true_iff.symm))
  · intro i; rw [get_token_by_index_eq _ _ _ hA, rep_getTokenByIndex hr]
  · intro t i h
    rw [get_token_index_eq _ _ _ hA (bd_of_inv ⟨l, hr⟩)] at h
    cases hg : getTokenIndex (run init (ops.map mop)) t with
    | none => rw [hg] at h; cases h
    | some j => rw [hg] at h; cases h; exact rep_getTokenIndex_some hr t _ hg

/-- non-vacuity: three tokens bound, the first one unbound again (the last one takes its slot) -/
example :
    let st := genRun ⟨fun _ => none, none⟩ [.bind 7, .bind 8, .bind 9, .bind 8, .unbind 7]
    Binder.linked_tokens ⟨⟩ st = .ok [9, 8] ∧ Binder.get_token_index ⟨⟩ st 8 = .ok 1 ∧
      Binder.is_token_bound ⟨⟩ st 7 = .ok false := by
  decide

end OZ.Gen.Binder
