import OZ.Props.C05
import OZ.Lemmas.VaultMonOps
/-
C05 — soundness of the MONITOR that decides the property on implementation traces.

`./check C05` (and the also-runs of `./check C01`, `./check C02`) report a concrete violation
exactly when `OZ.Vault.Mon.checkConstruct` / `OZ.Vault.Mon.checkCore` (the driver's monitor on
parsed values, OZ/Model/VaultMon.lean; the driver only parses) return a message on the
implementation's observations. Here it is proved that on the observations of the MODEL the monitor
never returns a message, for every host configuration, start ledger, decimals offset and every
finite sequence of lines as the harness writes them (`monitor_accepts_every_model_trace`).
Consequences:

  * an implementation whose observations agree with the model's (the correspondence the check
    establishes by differential testing) can never raise a monitor alarm — a monitor failure is
    never a false alarm of the monitor itself;
  * every conclusion the monitor evaluates is a THEOREM about the model, in the monitor's own
    executable wording — ALL of its checks are covered, none remains trusted:
      - every line: Σ share balances = share supply, no negative share balance, a rejected call
        changes no balance / supply / allowance, the list-level replay of the vault contract's
        events from genesis gives the printed share balances, total_assets = the vault's asset
        balance, the rate (A+1)/(S+10^offset) did not fall over an accepted call
        (`site=vault.shares.sum|rollback|replay`, `vault.total_assets`, `vault.rate`);
      - query: it changes nothing and each of the ten answers (4 previews, 2 conversions, 4 max_*)
        is the exactly rounded formula on the printed totals, or fails exactly when the formula
        says so (`vault.query.state`, `vault.convert.*`, `vault.query.missing`);
      - accepted deposit / mint / withdraw / redeem: non-negative, returned = the preview observed
        on the line before, floor / ceiling by cross-multiplication, within max_withdraw /
        max_redeem, exactly (assets, shares) moved between payer|owner, receiver and vault and
        nothing else, the one allowance an operator ≠ payer|owner needs is spent exactly and no
        other allowance of either token moves, the event names these parties and amounts, the
        operator was asked to authorize (`vault.<op>.ret|negative|preview|round|max|move|
        allowance|event|auth`);
      - ledger movement changes no balance; share-token calls leave supply and assets alone,
        asset-token calls leave the shares alone (`vault.advance`, `vault.supply`);
      - constructor: accepted only with offset ≤ 10 (`vault.offset`).

The model observation `stepObs` / `obsConstruct` used here IS the data the driver's model side
prints (`Drv.C05.stepLine`: `showState` = A S sb ab asup sal aal, `now`, `ret` of a vault
operation, the ten `showQ` answers of a query, `showEvents`, `dem`), read back by the driver's
`parseObs`; `lineOf` is what `Drv.C05.parseLine` reads from the op line. Two fields are simplified
without affecting any check: `evsRaw` (only quoted inside one message) is empty, and `evs` keeps the
share-moving events of the vault's own stream only (the parser drops asset-token events `a.…` and
approvals, which no check reads).

Hypotheses of the theorem = the shape of a harness sequence + the assumptions of OZ/Props/C05:
  * the sequence starts with `vault construct` (the harness's `Sim::construct`; nothing follows a
    rejected constructor), then queries and calls;
  * every deposit / mint / withdraw / redeem line is preceded by the `query` line for the same
    amount (the harness's `vault_op` does exactly that);
  * query amounts are i128 values (they are arguments of real invocations);
  * all addresses lie in the observed universe 0..4 and nobody signs for the vault contract (4).
`preview_needs_query`, `rate_needs_vault_not_signing` and `sum_needs_closed_universe` show that the
second and both halves of the fourth cannot be dropped.
-/
namespace OZ.Vault.Mon
open OZ.Host OZ.Vault
open OZ.FungibleMon (orElse allowList orElse_none orElse_both)

/-- the amount on the op line of a vault operation -/
def amountOf : Op → Int
  | .deposit _ x _ _ _ => x
  | .mint _ x _ _ _ => x
  | .withdraw x _ _ _ => x
  | .redeem x _ _ _ => x
  | _ => 0

/-- a line the harness can write after `pq` (the amount of the query on the line before, if that
line was a query) -/
def Adm (pq : Option Int) : Call → Prop
  | .query x _ => OZ.MulDiv.in128 x
  | .call auth op =>
    VAULT ∉ auth ∧ (∀ a ∈ op.addrs, a < N) ∧ (isVaultOp op = true → pq = some (amountOf op))

def nextPq : Call → Option Int
  | .query x _ => some x
  | .call _ _ => none

/-- monitor state and model state describe the same point of a sequence: the previous observation
shows the model state, the balances reconstructed from the events are the model's share balances,
and right after a query the remembered answers are the model's answers in this very state -/
structure Agree (m : Mon) (s : State) (pq : Option Int) : Prop where
  offset : m.offset = s.offset
  prev : ∃ p, m.prev = some p ∧ Shown p s
  replay : m.replay = (List.range N).map s.sh.bal
  lastQ : ∀ x, pq = some x → ∃ who qo, m.lastQ = some (x, who, qo) ∧ qo.q = answers s x who

/-- What a step is for EVERY kind of line: the checks of `generic` are silent and the monitor's new state
describes `s'`; what is left to the kind of line are the `specific` checks and the remembered query. -/
theorem checkCore_sound {m : Mon} {s s' : State} {pq pq' : Option Int} (ha : Agree m s pq) {l : Line} {o : Obs}
    (hg' : Good s') (ho : Shown o s') (hoff : s'.offset = s.offset)
    (hev : o.evs.foldl replayEv ((List.range N).map s.sh.bal) = (List.range N).map s'.sh.bal)
    (hfail : o.ok = false → s' = s) (hrate : RateLe s s')
    (hs : ∀ p, m.prev = some p → Shown p s → specific m l p o = none)
    (hq : ∀ x, pq' = some x → ∃ who qo, lastQOf l o = some (x, who, qo) ∧ qo.q = answers s' x who) :
    (checkCore m l o).2 = none ∧ Agree (checkCore m l o).1 s' pq' ∧ Good s' := by
  obtain ⟨hoff0, ⟨p, hmp, hp⟩, hrep, -⟩ := ha
  have hrep' : o.evs.foldl replayEv m.replay = (List.range N).map s'.sh.bal := by rw [hrep]; exact hev
  refine ⟨?_, ⟨by rw [hoff]; exact hoff0, ⟨o, rfl, ho⟩, hrep', hq⟩, hg'⟩
  unfold checkCore
  rw [hmp]
  show orElse (generic p _ _ o) (fun _ => specific m l p o) = none
  refine orElse_both (generic_shown hg' ho hrep' (vRollback_none fun h => ?_) (vRate_none fun _ => ?_))
    (hs p hmp hp)
  · obtain rfl := hfail h
    exact ⟨sameState_of_shown hp ho, by rw [hp.sal, ho.sal]; exact allowMoved_same (fun _ _ => rfl),
      by rw [hp.aal, ho.aal]; exact allowMoved_same (fun _ _ => rfl)⟩
  · rw [hp.A, hp.S, ho.A, ho.S, hoff0]
    unfold RateLe at hrate; rw [hoff] at hrate; exact hrate

/-- **one line**: fed with the model's own observation of any admissible line (a query, an accepted
or a rejected call of any kind), the monitor reports nothing, its state keeps describing the
model's, and the model state stays good -/
theorem monitor_sound_step (c : Cfg) {m : Mon} {s : State} {pq : Option Int} (hg : Good s)
    (ha : Agree m s pq) (cl : Call) (hadm : Adm pq cl) :
    (checkCore m (lineOf cl) (stepObs c s cl).2).2 = none ∧
    Agree (checkCore m (lineOf cl) (stepObs c s cl).2).1 (stepObs c s cl).1 (nextPq cl) ∧
    Good (stepObs c s cl).1 := by
  cases cl with
  | query x who =>
    refine checkCore_sound ha hg (stateObs_shown _ _ _ _ _ _) rfl rfl (fun _ => rfl) (rateLe_refl s)
      (fun p _ hp => ?_) (fun x' hx' => ?_)
    · show specific m (lineOf (.query x who)) p (obsQuery s x who) = none
      unfold specific
      rw [if_neg (fun h => h rfl)]
      show vQuery (10 ^ m.offset) x who p (obsQuery s x who) = none
      rw [ha.offset]
      exact vQuery_none hg hp (stateObs_shown _ _ _ _ _ _) x who hadm rfl
    · injection hx' with hx'; subst hx'
      exact ⟨who, obsQuery s x who, rfl, rfl⟩
  | call auth op =>
    obtain ⟨hv, hU, hpre⟩ := hadm
    have hv' : s.vault ∉ auth := by rw [hg.vault]; exact hv
    have hU' : ∀ a ∈ op.addrs, a ∈ List.range N := fun a h => List.mem_range.mpr (hU a h)
    cases hx : apply c s auth op with
    | error e =>
      have hs : stepObs c s (.call auth op) = (s, obsErr s) := by simp only [stepObs, hx]
      rw [hs]
      refine checkCore_sound ha hg (stateObs_shown _ _ _ _ _ _) rfl rfl (fun _ => rfl) (rateLe_refl s)
        (fun p _ _ => ?_) (fun x' h => by cases h)
      unfold specific
      rw [if_pos (fun h => by cases h)]
    | ok r =>
      obtain ⟨s', ret⟩ := r
      have hs : stepObs c s (.call auth op) = (s', obsOk s s' op ret) := by simp only [stepObs, hx]
      rw [hs]
      have hg' : Good s' :=
        ⟨apply_wf List.nodup_range c hg.wf auth op hU' hv' hx, by rw [(apply_static hx).1]; exact hg.vault,
          apply_replay auth op hg.replay hx⟩
      obtain ⟨evs, hev, hb⟩ := apply_replayed hx
      refine checkCore_sound ha hg' (stateObs_shown _ _ _ _ _ _) (apply_static hx).2
        (replay_step hev hb) (fun h => by cases h)
        (rate_monotone List.nodup_range c hg.wf auth op hU' hv' hx) (fun p _ hp => ?_) (fun x' h => by cases h)
      have ho : Shown (obsOk s s' op ret) s' := stateObs_shown _ _ _ _ _ _
      show specific m (lineOf (.call auth op)) p (obsOk s s' op ret) = none
      unfold specific
      rw [if_neg (fun h => h rfl)]
      cases op with
      | deposit sub x r f o =>
        obtain ⟨who, qo, hq1, hq2⟩ := ha.lastQ x (hpre rfl)
        simp only [lineOf, vVault, lt3]
        show checkVaultOp m.offset m.lastQ .deposit x r f o p _ = none
        rw [ha.offset, hq1]
        obtain ⟨b1, b2⟩ := deposit_rounds_down hg.wf hx
        obtain ⟨-, -, hpv, s1, hm, rfl⟩ := deposit_eq_ok_iff.1 hx
        exact checkVaultOp_flow hg hp (hq2 ▸ congrArg some (toOpt_ok hpv)) hm (vRound_deposit b1 b2) rfl rfl
          (by simp [Op.required])
      | mint sub x r f o =>
        obtain ⟨who, qo, hq1, hq2⟩ := ha.lastQ x (hpre rfl)
        simp only [lineOf, vVault, lt3]
        show checkVaultOp m.offset m.lastQ .mint x r f o p _ = none
        rw [ha.offset, hq1]
        obtain ⟨b1, b2⟩ := mint_rounds_up hg.wf hx
        obtain ⟨-, -, hpv, s1, hm, rfl⟩ := mint_eq_ok_iff.1 hx
        exact checkVaultOp_flow hg hp (hq2 ▸ congrArg some (toOpt_ok hpv)) hm (vRound_mint (by linarith) b1) rfl rfl
          (by simp [Op.required])
      | withdraw x r ow o =>
        obtain ⟨who, qo, hq1, hq2⟩ := ha.lastQ x (hpre rfl)
        simp only [lineOf, vVault, lt3]
        show checkVaultOp m.offset m.lastQ .withdraw x r ow o p _ = none
        rw [ha.offset, hq1]
        obtain ⟨b1, b2⟩ := withdraw_rounds_up List.nodup_range hg.wf hx
        obtain ⟨-, mw, hmw, hle, hpv, s1, hm, rfl⟩ := withdraw_eq_ok_iff.1 hx
        have hbin : OZ.MulDiv.in128 (s.sh.bal ow) :=
          shares_in128 List.nodup_range hg.wf (hg.wf.sh.nonneg ow) (Int.le_refl _)
        -- an exit names no token authorization: `tauth` is free
        refine checkVaultOp_flow (tauth := []) hg hp (hq2 ▸ congrArg some (toOpt_ok hpv)) hm
          (vRound_withdraw (by linarith) b1) (vLimit_withdraw (mw := mw) ?_ hle) rfl (by simp [Op.required])
        rw [← convertToAssets_spec hg.wf (s.sh.bal ow) hbin false]
        exact toOpt_ok hmw
      | redeem x r ow o =>
        obtain ⟨who, qo, hq1, hq2⟩ := ha.lastQ x (hpre rfl)
        simp only [lineOf, vVault, lt3]
        show checkVaultOp m.offset m.lastQ .redeem x r ow o p _ = none
        rw [ha.offset, hq1]
        obtain ⟨b1, b2⟩ := redeem_rounds_down List.nodup_range hg.wf hx
        obtain ⟨-, hle, hpv, s1, hm, rfl⟩ := redeem_eq_ok_iff.1 hx
        exact checkVaultOp_flow (tauth := []) hg hp (hq2 ▸ congrArg some (toOpt_ok hpv)) hm (vRound_redeem b1 b2)
          (vLimit_redeem hle) rfl (by simp [Op.required])
      | share top =>
        obtain ⟨f1, f2, f3⟩ := apply_share_frame hx
        show vShareTok _ p _ = none
        apply vShareTok_none
        · rw [ho.S, hp.S, f1]
        · rw [ho.ab, hp.ab, f2]
        · rw [ho.A, hp.A]; unfold totalAssets; rw [f2, f3]
      | asset top =>
        have f1 := asset_frame hx
        show vAssetTok _ p _ = none
        apply vAssetTok_none
        · rw [ho.S, hp.S]; unfold totalShares; rw [f1]
        · rw [ho.sb, hp.sb, f1]
      | advance n =>
        obtain rfl : s' = _ := apply_ok hx
        show vAdvance p _ = none
        exact vAdvance_none (sameState_of hp ho rfl rfl rfl rfl rfl)

/-- the monitor run over the lines after the constructor, on the model's observations: first
message, if any -/
def monitorRun (c : Cfg) : Mon → State → List Call → Option String
  | _, _, [] => none
  | m, s, cl :: cls =>
    match (checkCore m (lineOf cl) (stepObs c s cl).2).2 with
    | some msg => some msg
    | none => monitorRun c (checkCore m (lineOf cl) (stepObs c s cl).2).1 (stepObs c s cl).1 cls

/-- every line of the sequence is one the harness can write (see `Adm`) -/
def AdmAll : Option Int → List Call → Prop
  | _, [] => True
  | pq, cl :: cls => Adm pq cl ∧ AdmAll (nextPq cl) cls

/-- a whole sequence as the harness writes it: `vault construct offset=<offset>` at ledger `start`,
then — only if the constructor was accepted — the lines `cls`. The monitor starts in `monInit` (the
driver's `minit`); the model in `construct VAULT offset start` (the driver's `stepLine` on the
construct line, whose observation is `ok … <state>` resp. `err noinit`, which does not parse). -/
def traceRun (c : Cfg) (start offset : Nat) (cls : List Call) : Option String :=
  match construct VAULT offset start with
  | .ok s0 =>
    match (checkConstruct monInit offset true (some (obsConstruct s0))).2 with
    | some msg => some msg
    | none => monitorRun c (checkConstruct monInit offset true (some (obsConstruct s0))).1 s0 cls
  | .error _ => (checkConstruct monInit offset false none).2

/-- **monitor soundness**: for every host configuration, start ledger, decimals offset (also one
the constructor rejects) and every finite sequence of admissible lines — queries for any i128
amount and any account, the four vault operations by anybody for anybody with any amount (each
preceded by its query), share-token and asset-token calls (donations, mints, approvals, burns),
ledger movement, any authorizing sets without the vault contract, accepted or rejected — the
monitor reports nothing on the model's observations. -/
theorem monitor_accepts_every_model_trace (c : Cfg) (start offset : Nat) (cls : List Call)
    (hadm : AdmAll none cls) : traceRun c start offset cls = none := by
  unfold traceRun
  cases hc : construct VAULT offset start with
  | error e =>
    exact checkConstruct_none (fun h => by cases h)
  | ok s0 =>
    obtain ⟨hle, hs0⟩ := construct_eq_ok.1 hc
    have h1 : (checkConstruct monInit offset true (some (obsConstruct s0))).2 = none :=
      checkConstruct_none (fun _ => hle)
    simp only
    rw [h1]
    simp only
    have hrun : ∀ (cls : List Call) (m : Mon) (s : State) (pq : Option Int), Good s → Agree m s pq →
        AdmAll pq cls → monitorRun c m s cls = none := by
      intro cls
      induction cls with
      | nil => intro m s pq _ _ _; rfl
      | cons cl cls ih =>
        intro m s pq hg ha hadm
        obtain ⟨h1, h2, h3⟩ := monitor_sound_step c hg ha cl hadm.1
        unfold monitorRun
        rw [h1]
        exact ih _ _ _ h3 h2 hadm.2
    apply hrun cls _ s0 none
    · exact ⟨construct_wf (List.mem_range.mpr (by decide)) hc, by rw [hs0], by rw [hs0]; rfl⟩
    · refine ⟨by rw [hs0]; rfl, ⟨obsConstruct s0, rfl, stateObs_shown _ _ _ _ _ _⟩, ?_, fun x h => by cases h⟩
      show List.replicate N 0 = _
      rw [hs0]
      show List.replicate N 0 = (List.range N).map (fun _ => (0 : Int))
      rw [List.map_const', List.length_range]
    · exact hadm

/-! ### hypotheses that cannot be dropped -/

/-- an accepted vault operation whose line is NOT preceded by its query is reported
(`site=vault.deposit.preview no preview observed`): the "returned = previewed" conclusion is
decided from the preview observed on the line before -/
theorem preview_needs_query :
    (traceRun ⟨1, 200000⟩ 100 0 [.call [] (.asset (.mint 0 5)), .call [0] (.deposit true 1 0 0 0)]).isSome = true := by
  decide

/-- if somebody could sign for the vault contract, an asset transfer out of the vault lowers the
rate and the monitor reports `site=vault.rate` (assumption "nobody signs for the vault" of
OZ/Props/C05) -/
theorem rate_needs_vault_not_signing :
    (traceRun ⟨1, 200000⟩ 100 0
      [.call [] (.asset (.mint 4 5)), .call [4] (.asset (.transfer 4 0 5))]).isSome = true := by
  decide

/-- after a mint of assets to account 7 and a deposit for receiver 7, the printed share balances of
0..4 do not sum to the supply: the monitor reports `site=vault.shares.sum` -/
theorem sum_needs_closed_universe :
    (traceRun ⟨1, 200000⟩ 100 0
      [.call [] (.asset (.mint 0 5)), .query 1 0, .call [0] (.deposit true 1 7 0 0)]).isSome = true := by
  decide

/-! ### the demo history of OZ/Props/C05 (inflation attack
with a donation, operator ≠ owner redeem, a rejected call) written as harness lines is admissible,
so the theorem applies to it; and the monitor is not trivially silent -/

def demoLines : List Call :=
  [.call [] (.asset (.mint 0 2000000000000000007)), .call [] (.asset (.mint 1 1000000000000000001)),
   .query 1 0, .call [0] (.deposit true 1 0 0 0),
   .call [0] (.asset (.transfer 0 4 1000000000000000000)),
   .query 1000000000000000001 1, .call [1] (.deposit true 1000000000000000001 1 1 1),
   .call [0] (.share (.approve 0 2 1 500)),
   .query 1 0, .call [2] (.redeem 1 3 0 2),
   .query 666666666666666668 1, .call [1] (.withdraw 666666666666666668 1 1 1),
   .call [] (.advance 7),
   .query 1 1, .call [1] (.redeem 1 1 1 1)]

theorem demoLines_adm : AdmAll none demoLines := by
  simp [demoLines, AdmAll, Adm, nextPq, isVaultOp, amountOf, Op.addrs, OZ.Fungible.Op.addrs, N, VAULT,
    OZ.MulDiv.in128, OZ.MulDiv.I128_MIN, OZ.MulDiv.I128_MAX]

example : AdmAll none demoLines := demoLines_adm

example : traceRun ⟨1, 200000⟩ 100 0 demoLines = none :=
  monitor_accepts_every_model_trace _ _ _ _ demoLines_adm

/-- a deposit that hands out one share too many (the floor is 0): reported -/
example :
    (checkCore
      { offset := 0, replay := [1, 0, 0, 0, 0],
        prev := some { zeroObs with A := 2, S := 1, sb := [1, 0, 0, 0, 0], ab := [5, 0, 0, 0, 2], asup := 7 },
        lastQ := some (1, 0, { zeroObs with q := { QA.none with pd := some (some 0) } }) }
      { kind := .vault .deposit, x := 1, a := [0, 0, 0], who := 0 }
      { zeroObs with ret := some 1, A := 3, S := 2, sb := [2, 0, 0, 0, 0], ab := [4, 0, 0, 0, 3], asup := 7,
                     evs := [.dep (some 0) (some 0) (some 0) (some 1) (some 1)], dem := [0] }).2.isSome = true := by
  decide

end OZ.Vault.Mon
