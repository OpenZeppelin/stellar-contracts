import OZ.Lemmas.RegKeys
/-
C20 (a): the claim-issuer signing-key registry (`Topics(topic) -> Vec<SigningKey>`,
`Pairs(SigningKey) -> Vec<(topic, registry)>`) represents the plain relation
  rel s k t r  :=  "key k may sign topic t for registry r"
under ANY history of `allow_key` / `remove_key` (with an arbitrary oracle `allowed` for the
cross-contract call `has_claim_topic`, arbitrary arguments, failed calls rolled back).
-/
namespace OZ.Props.C20a
open OZ.Reg OZ.RegKeys

/-- **keys_refines.** After any history every getter answers as the plain relation does:
`is_key_allowed_for_topic` = "some pair (t, ·)", `is_key_allowed_for_registry` = "some pair (·, r)",
`get_keys_for_topic` fails exactly on topics without keys and otherwise lists exactly the keys
with a pair for the topic, each once; `get_registries` fails exactly on keys without pairs and
otherwise lists exactly the registries of the key's pairs. -/
theorem keys_refines (allowed : Nat → Nat → Bool) (ops : List Op) :
    let s := run allowed init ops
    (∀ k t, isKeyAllowedForTopic s k t = true ↔ ∃ r, rel s k t r) ∧
    (∀ k r, isKeyAllowedForRegistry s k r = true ↔ ∃ t, rel s k t r) ∧
    (∀ t, (getKeysForTopic s t = none ↔ ∀ k r, ¬ rel s k t r) ∧
          ∀ l, getKeysForTopic s t = some l → l.Nodup ∧ ∀ k, k ∈ l ↔ ∃ r, rel s k t r) ∧
    (∀ k, (getRegistries s k = none ↔ ∀ t r, ¬ rel s k t r) ∧
          ∀ l, getRegistries s k = some l → ∀ r, r ∈ l ↔ ∃ t, rel s k t r) := by
  intro s
  have hI : Inv s := inv_run allowed inv_init ops
  refine ⟨fun k t => List.contains_iff_mem.trans (hI.twoWay k t), fun k r => ?_, fun t => ⟨?_, fun l h => ?_⟩,
    fun k => ⟨?_, fun l h r => ?_⟩⟩
  · rw [isKeyAllowedForRegistry, List.any_eq_true]
    exact ⟨fun ⟨p, hm, hp⟩ => ⟨p.1, (beq_iff_eq.1 hp) ▸ hm⟩, fun ⟨t, hm⟩ => ⟨(t, r), hm, beq_self_eq_true r⟩⟩
  · rw [getKeysForTopic, ite_nil_eq_none, List.eq_nil_iff_forall_not_mem]
    exact ⟨fun h k r hm => h k ((hI.twoWay k t).2 ⟨r, hm⟩), fun h k hk => ((hI.twoWay k t).1 hk).elim (h k)⟩
  · obtain ⟨_, rfl⟩ := ite_nil_eq_some.1 h
    exact ⟨hI.topicsNodup t, fun k => hI.twoWay k t⟩
  · rw [getRegistries, ite_nil_eq_none, List.eq_nil_iff_forall_not_mem]
    exact ⟨fun h t r => h (t, r), fun h p => h p.1 p.2⟩
  · obtain ⟨_, rfl⟩ := ite_nil_eq_some.1 h
    rw [List.mem_map]
    exact ⟨fun ⟨p, hm, hp⟩ => ⟨p.1, hp ▸ hm⟩, fun ⟨t, hm⟩ => ⟨(t, r), hm, rfl⟩⟩

/-- **keys_abs_step.** The represented relation moves exactly as a plain set does: an accepted
`allow_key` inserts its triple and nothing else, an accepted `remove_key` deletes its triple and
nothing else, a refused call leaves the state alone. -/
theorem keys_abs_step (allowed : Nat → Nat → Bool) (s : State) (hI : Inv s) (k : Key) (r t : Nat) :
    (∀ s', allowKey allowed s k r t = .ok s' →
      ∀ k' t' r', rel s' k' t' r' ↔ (rel s k' t' r' ∨ (k' = k ∧ t' = t ∧ r' = r))) ∧
    (∀ s', removeKey s k r t = .ok s' →
      ∀ k' t' r', rel s' k' t' r' ↔ (rel s k' t' r' ∧ ¬ (k' = k ∧ t' = t ∧ r' = r))) ∧
    (∀ o e, step allowed s o = .error e → next allowed s o = s) := by
  refine ⟨?_, ?_, ?_⟩
  · intro s' h k' t' r'
    obtain ⟨_, rfl⟩ := (allowKey_ok_iff allowed s s' k r t).1 h
    show (t', r') ∈ updD s.pairs k (s.pairs k ++ [(t, r)]) k' ↔ _
    rw [mem_updD_append, Prod.mk.injEq t' r']; rfl
  · intro s' h k' t' r'
    obtain ⟨_, rfl⟩ := (removeKey_ok_iff hI s' k r t).1 h
    show (t', r') ∈ updD s.pairs k ((s.pairs k).erase (t, r)) k' ↔ _
    rw [mem_updD_erase _ _ _ (hI.pairsNodup k), Prod.mk.injEq t' r']; rfl
  · intro o e h
    simp [next, h]

/-- **keys_dup_refused.** A triple that is already stored is refused, in every state. -/
theorem keys_dup_refused (allowed : Nat → Nat → Bool) (s : State) (k : Key) (r t : Nat)
    (h : rel s k t r) : ∃ e, allowKey allowed s k r t = .error e :=
  err_of_not_ok fun s' hr => ((allowKey_ok_iff allowed s s' k r t).1 hr).1.2.2.1 h

/-- **keys_absent_refused.** Removing a triple that is not stored is refused, in every state. -/
theorem keys_absent_refused (s : State) (k : Key) (r t : Nat) (h : ¬ rel s k t r) :
    ∃ e, removeKey s k r t = .error e := by
  unfold removeKey
  by_cases h1 : s.pairs k = []
  · exact ⟨_, by rw [if_pos h1]⟩
  · rw [if_neg h1]
    have : (!(s.pairs k).contains (t, r)) = true := by simpa [rel] using h
    exact ⟨_, by rw [if_pos this]⟩

/-- **keys_limit_exact.** In a reachable state a new, permitted triple is accepted exactly while
the key has fewer than `MAX_REGISTRIES_PER_KEY = 20` pairs and the topic has room for the key
(`MAX_KEYS_PER_TOPIC = 50`, not counted again for a key already in the topic): the 20th pair
and the 50th key are accepted, the 21st and the 51st refused. -/
theorem keys_limit_exact (allowed : Nat → Nat → Bool) (s : State) (_hs : Reachable allowed s)
    (k : Key) (r t : Nat) (hk : k.1 ≠ 0) (ha : allowed r t = true) (hn : ¬ rel s k t r) :
    ((∃ s', allowKey allowed s k r t = .ok s') ↔
      ((s.pairs k).length < 20 ∧ (k ∈ s.topics t ∨ (s.topics t).length < 50))) ∧
    ((s.pairs k).length = 19 → (s.topics t).length = 49 → ∃ s', allowKey allowed s k r t = .ok s') ∧
    ((s.pairs k).length = 20 → ∃ e, allowKey allowed s k r t = .error e) ∧
    (k ∉ s.topics t → (s.topics t).length = 50 → ∃ e, allowKey allowed s k r t = .error e) := by
  have key : (∃ s', allowKey allowed s k r t = .ok s') ↔
      ((s.pairs k).length < 20 ∧ (k ∈ s.topics t ∨ (s.topics t).length < 50)) :=
    ⟨fun ⟨s', h⟩ => let ⟨⟨_, _, _, ht, hl⟩, _⟩ := (allowKey_ok_iff allowed s s' k r t).1 h; ⟨hl, ht⟩,
      fun ⟨hl, ht⟩ => ⟨_, (allowKey_ok_iff allowed s _ k r t).2 ⟨⟨hk, ha, hn, ht, hl⟩, rfl⟩⟩⟩
  refine ⟨key, fun h1 h2 => key.2 ⟨by omega, Or.inr (by omega)⟩, fun h1 => err_of_not_ok fun s' h => ?_,
    fun h1 h2 => err_of_not_ok fun s' h => ?_⟩
  · have := (key.1 ⟨s', h⟩).1; omega
  · exact (key.1 ⟨s', h⟩).2.elim h1 (by omega)

/-- **keys_enumerates_once.** In a reachable state the two stored vectors enumerate the relation
without repetition: `Pairs(k)` lists exactly the pairs of `k`, each at exactly one index, and
`Topics(t)` lists exactly the keys with a pair for `t`, each at exactly one index. -/
theorem keys_enumerates_once (allowed : Nat → Nat → Bool) (s : State) (hs : Reachable allowed s) :
    (∀ k, (∀ t r, rel s k t r ↔ ∃ i : Nat, (s.pairs k)[i]? = some (t, r)) ∧
          ∀ (i j : Nat) p, (s.pairs k)[i]? = some p → (s.pairs k)[j]? = some p → i = j) ∧
    (∀ t, (∀ k, (∃ r, rel s k t r) ↔ ∃ i : Nat, (s.topics t)[i]? = some k) ∧
          ∀ (i j : Nat) k, (s.topics t)[i]? = some k → (s.topics t)[j]? = some k → i = j) := by
  have hI := reachable_inv hs
  constructor
  · intro k
    exact ⟨fun t r => List.mem_iff_getElem? (l := s.pairs k) (a := (t, r)), nodup_index_inj _ (hI.pairsNodup k)⟩
  · intro t
    refine ⟨fun k => ?_, nodup_index_inj _ (hI.topicsNodup t)⟩
    rw [← List.mem_iff_getElem?]
    exact (hI.twoWay k t).symm

/-- **keys_two_way_consistent.** After any history the two storage branches agree:
key ∈ `Topics(t)` ⇔ some pair `(t, ·)` ∈ `Pairs(key)`; in particular no key stays listed for a
topic after its last registry for that topic is removed. -/
theorem keys_two_way_consistent (allowed : Nat → Nat → Bool) (ops : List Op) (k : Key) (t : Nat) :
    k ∈ (run allowed init ops).topics t ↔ ∃ r, (t, r) ∈ (run allowed init ops).pairs k :=
  (inv_run allowed inv_init ops).twoWay k t

def okB (r : Except RErr State) : Bool := match r with | .ok _ => true | .error _ => false

def twenty : List Op := (List.range 20).map (fun i => Op.allow (1, 1) (i % 3) (i / 3))

instance (s : State) (k : Key) (t r : Nat) : Decidable (rel s k t r) := by unfold rel; infer_instance

def s19 : State := run (fun _ _ => true) init (twenty.take 19)

/-- after 19 accepted pairs the 20th is accepted and the 21st refused -/
example : okB (allowKey (fun _ _ => true) s19 (1, 1) 1 6) = true ∧
    okB (allowKey (fun _ _ => true) (run (fun _ _ => true) init twenty) (1, 1) 2 6) = false ∧
    ((run (fun _ _ => true) init twenty).pairs (1, 1)).length = 20 := by decide +kernel

/-- **keys_limit_counterexample.** `keys_limit_exact` fails for the capacity test `len >= MAX` after
the push (`allowKeyLegacy`): the reachable state `s19` with 19 pairs refuses the 20th, although
`MAX_REGISTRIES_PER_KEY = 20` is the documented maximum; `allowKey` (`len > MAX`) accepts it. -/
theorem keys_limit_counterexample :
    (s19.pairs (1, 1)).length = 19 ∧ ¬ rel s19 (1, 1) 6 1 ∧
    okB (allowKeyLegacy (fun _ _ => true) s19 (1, 1) 1 6) = false ∧
    okB (allowKey (fun _ _ => true) s19 (1, 1) 1 6) = true := by decide +kernel

end OZ.Props.C20a
