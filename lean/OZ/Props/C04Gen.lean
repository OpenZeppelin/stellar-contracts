import OZ.Gen.Rwa
import OZ.Lemmas.Comp
import OZ.Lemmas.TokenStore
import OZ.Lemmas.Fungible
/-
C04 — the freeze bookkeeping of the RWA token, re-checked on every run against the SOURCE.

`lean/OZ/Gen/Rwa.lean` is regenerated by `/verif/tools/rs2lean.py --rwa` (state-passing mode) from /repo's
current `packages/tokens/src/rwa/storage.rs` — `is_frozen`, `get_frozen_tokens`, `get_free_tokens`,
`compliance`, `set_address_frozen`, `freeze_partial_tokens`, `unfreeze_partial_tokens`, `forced_transfer`,
`burn` — and the `balance` / `total_supply` / `update` of `fungible/storage.rs` they call, over ONE store.
The calls of the compliance contract (`ComplianceClient::transferred` / `destroyed`) are functions of the reads
record that may panic and cannot write the token's store (the host forbids re-entry).

Theorems about the GENERATED code itself (no refinement of `OZ.Rwa`; only `update_from_spec` goes through a model, the
fungible one, by `tokAbs.update_ok`), for every store, account and amount:
* `update_from_spec` — an accepted `update` with a sender (`from = some f`) needs `0 ≤ amount ≤ balance f`, moves exactly
  `amount` and leaves the freeze bookkeeping alone;
* `gen_freeze_sound` / `gen_unfreeze_sound` — an accepted partial freeze adds exactly `amount ≥ 0` and needs
  the new total within the balance; an accepted unfreeze subtracts exactly `0 ≤ amount ≤ frozen`.
-/
namespace OZ.Gen.Rwa
open OZ.Rs

def bal (st : Rwa.Store) (a : Nat) : Int := (st.Balance a).getD 0
def frz (st : Rwa.Store) (a : Nat) : Int := (st.FrozenTokens a).getD 0

theorem balance_eq (envr : Rwa.Reads) (st : Rwa.Store) (a : Nat) : Rwa.balance envr st a = .ok (bal st a) := by
  unfold Rwa.balance bal; cases st.Balance a <;> rfl
theorem frozen_eq (envr : Rwa.Reads) (st : Rwa.Store) (a : Nat) : Rwa.get_frozen_tokens envr st a = .ok (frz st a) := by
  unfold Rwa.get_frozen_tokens frz; cases st.FrozenTokens a <;> rfl
theorem total_supply_eq (envr : Rwa.Reads) (st : Rwa.Store) : Rwa.total_supply envr st = .ok (st.TotalSupply.getD 0) := rfl

theorem frz_set (st : Rwa.Store) (a x : Nat) (v : Int) :
    frz (Rwa.Store.set_FrozenTokens st a v) x = if x = a then v else frz st x := by
  unfold frz Rwa.Store.set_FrozenTokens
  by_cases hx : x = a
  · simp only [hx, if_true]; rfl
  · simp only [hx, if_false]

theorem sub_ok {a b d : Int} (h : i128_sub a b = .ok d) : d = a - b := (i128_sub_ok_iff.mp h).2

theorem free_ok {envr : Rwa.Reads} {st : Rwa.Store} {a : Nat} {free : Int}
    (h : Rwa.get_free_tokens envr st a = .ok free) : free = bal st a - frz st a := by
  unfold Rwa.get_free_tokens at h
  simp only [balance_eq, frozen_eq, Comp.bind_ok] at h
  obtain ⟨d, hs, h⟩ := Comp.bind_eq_ok h
  injection h with h
  rw [← h]; exact sub_ok hs

/-- **partial freeze** -/
theorem gen_freeze_sound (envr : Rwa.Reads) (st st' : Rwa.Store) (a : Nat) (amount : Int)
    (h : Rwa.freeze_partial_tokens envr st a amount = .ok ((), st')) :
    0 ≤ amount ∧ frz st a + amount ≤ bal st a ∧ st' = Rwa.Store.set_FrozenTokens st a (frz st a + amount) := by
  unfold Rwa.freeze_partial_tokens at h
  obtain ⟨h0, h⟩ := Comp.guard_eq_ok h
  simp only [balance_eq, frozen_eq, Comp.bind_ok] at h
  obtain ⟨d, ha, h⟩ := Comp.bind_eq_ok h
  obtain ⟨hgt, h⟩ := Comp.guard_eq_ok h
  injection h with h'; injection h' with _ h2
  have hd := (i128_add_ok_iff.mp ha).2
  subst hd
  exact ⟨by omega, by omega, h2.symm⟩

/-- **partial unfreeze** -/
theorem gen_unfreeze_sound (envr : Rwa.Reads) (st st' : Rwa.Store) (a : Nat) (amount : Int)
    (h : Rwa.unfreeze_partial_tokens envr st a amount = .ok ((), st')) :
    0 ≤ amount ∧ amount ≤ frz st a ∧ st' = Rwa.Store.set_FrozenTokens st a (frz st a - amount) := by
  unfold Rwa.unfreeze_partial_tokens at h
  obtain ⟨h0, h⟩ := Comp.guard_eq_ok h
  simp only [frozen_eq, Comp.bind_ok] at h
  obtain ⟨hlt, h⟩ := Comp.guard_eq_ok h
  obtain ⟨d, hs, h⟩ := Comp.bind_eq_ok h
  injection h with h'; injection h' with _ h2
  have hd := sub_ok hs
  subst hd
  exact ⟨by omega, by omega, h2.symm⟩

/-- the store's balances and supply as `TokOps`: `Rwa.update envr st` is `ops.update st`, by `rfl` -/
def ops : TokOps Rwa.Store := ⟨(·.Balance), (·.TotalSupply), Rwa.Store.set_Balance, Rwa.Store.set_TotalSupply⟩

def Abs (st : Rwa.Store) (s : OZ.Fungible.State) : Prop := (∀ a, s.bal a = bal st a) ∧ s.supply = st.TotalSupply.getD 0

theorem tokAbs : TokAbs ops Abs where
  bal h := h.1
  sup h := h.2
  setBal h a v := ⟨OZ.Host.upd_getD h.1 a v, h.2⟩
  setSup h v := ⟨h.1, rfl⟩

/-- what an accepted `update` with a sender does to the store: only `Balance` (and `TotalSupply`) entries
change, the sender loses exactly `amount` (nothing when it is also the recipient), nobody else loses -/
theorem update_from_spec (envr : Rwa.Reads) (st st' : Rwa.Store) (f : Nat) (to : Option Nat) (amount : Int)
    (h : Rwa.update envr st (some f) to amount = .ok ((), st')) :
    0 ≤ amount ∧ amount ≤ bal st f ∧ st'.FrozenTokens = st.FrozenTokens ∧ st'.AddressFrozen = st.AddressFrozen ∧
    st'.Compliance = st.Compliance ∧
    bal st' f = (if to = some f then bal st f else bal st f - amount) ∧
    (∀ b, to = some b → b ≠ f → bal st' b = bal st b + amount) := by
  obtain ⟨k1, k2, k3⟩ := ops.update_keeps
    (fun s => s.FrozenTokens = st.FrozenTokens ∧ s.AddressFrozen = st.AddressFrozen ∧ s.Compliance = st.Compliance)
    (fun _ _ _ h => h) (fun _ _ h => h) h ⟨rfl, rfl, rfl⟩
  -- an accepted generated `update` is an accepted `update` of the model, whose effect on a balance is known
  obtain ⟨s', hm, hA'⟩ :=
    tokAbs.update_ok (s := ⟨st.TotalSupply.getD 0, bal st, fun _ _ => none, 0, []⟩) ⟨fun _ => rfl, rfl⟩ h
  obtain ⟨h0, hc, rfl⟩ := OZ.Fungible.update_eq hm
  have hb : ∀ x, bal st' x = bal st x - (if some f = some x then amount else 0) + (if to = some x then amount else 0) :=
    fun x => (hA'.1 x).symm.trans (OZ.Fungible.updateSt_bal _ (some f) to amount x)
  refine ⟨h0, hc, k1, k2, k3, ?_, fun b hb' hne => ?_⟩
  · rw [hb f, if_pos rfl]; split <;> omega
  · rw [hb b, if_neg (fun e => hne (Option.some.inj e).symm), if_pos hb']; omega

/-- the tail of `forced_transfer` / `burn`; `client` is the compliance contract's hook -/
def moveTail (envr : Rwa.Reads) (f : Nat) (to : Option Nat) (amount : Int) (client : Comp Unit)
    (st1 : Rwa.Store) : Comp (Unit × Rwa.Store) :=
  (Rwa.update envr st1 (some f) to amount).bind fun t6 =>
    (Rwa.compliance envr t6.2).bind fun _ => client.bind fun _ => Comp.ok ((), t6.2)

/-- `forced_transfer` and `burn` after the balance test ("check if we need to unfreeze tokens") -/
theorem unfreeze_move_ok {envr : Rwa.Reads} {st st' : Rwa.Store} {a : Nat} {to : Option Nat} {amount : Int}
    {client : Comp Unit}
    (h : ((Rwa.get_free_tokens envr st a).bind fun t2 =>
        if t2 < amount then
          (i128_sub amount t2).bind fun t3 => (Rwa.get_frozen_tokens envr st a).bind fun t4 =>
            (i128_sub t4 t3).bind fun t5 => moveTail envr a to amount client (Rwa.Store.set_FrozenTokens st a t5)
        else moveTail envr a to amount client st) = .ok ((), st')) :
    0 ≤ amount ∧ frz st' a = min (frz st a) (bal st a - amount) ∧
    bal st' a = (if to = some a then bal st a else bal st a - amount) ∧
    (∀ b, to = some b → b ≠ a → bal st' b = bal st b + amount ∧ frz st' b = frz st b) ∧ client = .ok () := by
  obtain ⟨free, hfree, h⟩ := Comp.bind_eq_ok h
  obtain rfl := free_ok hfree
  -- both arms run the tail, on a store `st1` with the balances of `st`
  obtain ⟨st1, hk, hbal, hfz, hfo⟩ : ∃ st1, moveTail envr a to amount client st1 = .ok ((), st') ∧
      st1.Balance = st.Balance ∧ frz st1 a = min (frz st a) (bal st a - amount) ∧ ∀ x, x ≠ a → frz st1 x = frz st x := by
    split at h
    · simp only [frozen_eq, Comp.bind_ok] at h
      obtain ⟨tu, hs1, h⟩ := Comp.bind_eq_ok h
      obtain ⟨nf, hs2, h⟩ := Comp.bind_eq_ok h
      have htu := sub_ok hs1
      have hnf := sub_ok hs2
      exact ⟨_, h, rfl, by rw [frz_set, if_pos rfl]; omega, fun x hx => by rw [frz_set, if_neg hx]⟩
    · exact ⟨st, h, rfl, by omega, fun _ _ => rfl⟩
  obtain ⟨r, hu, h⟩ := Comp.bind_eq_ok hk
  obtain ⟨ca, -, h⟩ := Comp.bind_eq_ok h
  obtain ⟨uu, hc, h⟩ := Comp.bind_eq_ok h
  obtain rfl : r = ((), st') := Comp.ok.inj h
  obtain ⟨h0, _, hfz', _, _, hbf, hbo⟩ := update_from_spec envr st1 st' a to amount hu
  have b1 : ∀ x, bal st1 x = bal st x := fun x => by unfold bal; rw [hbal]
  have f1 : ∀ x, frz st' x = frz st1 x := fun x => by unfold frz; rw [hfz']
  exact ⟨h0, by rw [f1, hfz], by rw [hbf, b1], fun b hb hne => ⟨by rw [hbo b hb hne, b1], by rw [f1, hfo b hne]⟩, hc⟩

/-- **forced transfer**: unfreezes only the minimum, moves exactly `amount`, and the compliance contract's
`transferred(from, to, amount)` ran without refusing (the proof does not use `hinv`) -/
theorem gen_forced_transfer_sound (envr : Rwa.Reads) (st st' : Rwa.Store) (f t : Nat) (amount : Int)
    (hinv : 0 ≤ frz st f ∧ frz st f ≤ bal st f)
    (h : Rwa.forced_transfer envr st f t amount = .ok ((), st')) :
    0 ≤ amount ∧ amount ≤ bal st f ∧
    frz st' f = min (frz st f) (bal st f - amount) ∧
    bal st' f = (if t = f then bal st f else bal st f - amount) ∧
    (t ≠ f → bal st' t = bal st t + amount ∧ frz st' t = frz st t) ∧
    envr.ComplianceClient_transferred f t amount = .ok () := by
  unfold Rwa.forced_transfer at h
  simp only [balance_eq, Comp.bind_ok] at h
  obtain ⟨hlt, h⟩ := Comp.guard_eq_ok h
  obtain ⟨h0, hf, hb, ho, hc⟩ := unfreeze_move_ok (to := some t) h
  refine ⟨h0, Int.not_lt.mp hlt, hf, hb.trans ?_, ho t rfl, hc⟩
  exact ite_congr (propext ⟨Option.some.inj, congrArg some⟩) (fun _ => rfl) (fun _ => rfl)

/-- **burn**: unfreezes only the minimum, destroys exactly `amount`, and the compliance contract's
`destroyed(account, amount)` ran without refusing (the proof does not use `hinv`) -/
theorem gen_burn_sound (envr : Rwa.Reads) (st st' : Rwa.Store) (a : Nat) (amount : Int)
    (hinv : 0 ≤ frz st a ∧ frz st a ≤ bal st a)
    (h : Rwa.burn envr st a amount = .ok ((), st')) :
    0 ≤ amount ∧ amount ≤ bal st a ∧
    frz st' a = min (frz st a) (bal st a - amount) ∧ bal st' a = bal st a - amount ∧
    envr.ComplianceClient_destroyed a amount = .ok () := by
  unfold Rwa.burn at h
  simp only [balance_eq, Comp.bind_ok] at h
  obtain ⟨hgt, h⟩ := Comp.guard_eq_ok h
  obtain ⟨h0, hf, hb, -, hc⟩ := unfreeze_move_ok (to := none) h
  exact ⟨h0, Int.not_lt.mp hgt, hf, hb.trans (if_neg nofun), hc⟩

/-- a forced transfer keeps `0 ≤ frozen ≤ balance` for the sender (for `burn` read it off `gen_burn_sound`) -/
theorem gen_frozen_le_balance_forced_transfer (envr : Rwa.Reads) (st st' : Rwa.Store) (f t : Nat) (amount : Int)
    (hinv : 0 ≤ frz st f ∧ frz st f ≤ bal st f)
    (h : Rwa.forced_transfer envr st f t amount = .ok ((), st')) :
    0 ≤ frz st' f ∧ frz st' f ≤ bal st' f := by
  obtain ⟨h0, hle, hf, hb, _, _⟩ := gen_forced_transfer_sound envr st st' f t amount hinv h
  rw [hf, hb]
  by_cases htf : t = f
  · rw [if_pos htf, Int.min_def]; split <;> omega
  · rw [if_neg htf, Int.min_def]; split <;> omega

/-- freeze / unfreeze keep `0 ≤ frozen ≤ balance` for the account -/
theorem gen_frozen_le_balance_freeze (envr : Rwa.Reads) (st st' : Rwa.Store) (a : Nat) (amount : Int)
    (hinv : 0 ≤ frz st a ∧ frz st a ≤ bal st a) :
    (Rwa.freeze_partial_tokens envr st a amount = .ok ((), st') → 0 ≤ frz st' a ∧ frz st' a ≤ bal st' a) ∧
    (Rwa.unfreeze_partial_tokens envr st a amount = .ok ((), st') → 0 ≤ frz st' a ∧ frz st' a ≤ bal st' a) := by
  constructor
  · intro h
    obtain ⟨h0, hle, rfl⟩ := gen_freeze_sound envr st st' a amount h
    rw [frz_set, if_pos rfl]; show _ ∧ _ ≤ bal st a; omega
  · intro h
    obtain ⟨h0, hle, rfl⟩ := gen_unfreeze_sound envr st st' a amount h
    rw [frz_set, if_pos rfl]; show _ ∧ _ ≤ bal st a; omega

/-! ### non-vacuity: the generated code runs -/
def demo : Rwa.Store := ⟨fun a => if a = 1 then some 100 else none, some 100, fun _ => none, fun a => if a = 1 then some 30 else none, some 9,
  some 8, none, fun _ => none⟩
def hooks : Rwa.Reads := ⟨100, 6312099, fun a => a == 1, fun _ _ _ => .ok (), fun _ _ => .ok (), fun _ _ => .ok (),
  fun _ t _ => .ok (t != 5), fun _ _ => .ok true, fun a => if a = 6 then .panic else .ok (), fun _ => .ok none⟩

example : ((Rwa.forced_transfer hooks demo 1 2 80).bind fun r => Comp.ok (r.2.FrozenTokens 1, r.2.Balance 1, r.2.Balance 2)) =
    .ok (some 20, some 20, some 80) := by decide
example : ((Rwa.forced_transfer hooks demo 1 2 50).bind fun r => Comp.ok (r.2.FrozenTokens 1, r.2.Balance 1)) =
    .ok (some 30, some 50) := by decide
example : ((Rwa.freeze_partial_tokens hooks demo 1 71).bind fun _ => Comp.ok ()) = .panic := by decide

end OZ.Gen.Rwa
