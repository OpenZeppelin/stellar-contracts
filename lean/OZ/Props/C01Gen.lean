import OZ.Gen.Fungible
import OZ.Lemmas.TokenStore
import OZ.Props.C01
/-
C01 — the balance / supply primitive `Base::update`, re-checked on every run against the SOURCE as it stands.

`lean/OZ/Gen/Fungible.lean` is regenerated by `/verif/tools/rs2lean.py --fungible` from /repo's current
`packages/tokens/src/fungible/storage.rs` every time `./check C01` runs.  This is the STATE-PASSING mode of
the translator: the contract storage is a record with one field per storage key variant (`Balance(addr)`,
`TotalSupply`, `Allowance(key)`; a missing entry is `none`), `e.storage().…().get(&key)` reads a field of the
current store, `…().set(&key, &v)` produces the next store, a function that writes returns its result
together with the final store, and a panic returns no store (the host rolls back).  TTL bookkeeping
(`extend_ttl`) is not part of that state.

Proved here: on every store whose entries are i128 values, the GENERATED `update` succeeds exactly when the
hand-written model's `OZ.Fungible.update` does, and the resulting store is the model's resulting state
(`update_eq`); hence the conservation statement of C01 for the generated code (`gen_update_conserves`).
-/
namespace OZ.Gen.Fungible
open OZ.Rs OZ.Host

/-- the store read as the model's state: a missing balance / supply entry is 0 -/
def Abs (st : Fungible.Store) (s : OZ.Fungible.State) : Prop :=
  (∀ a, s.bal a = (st.Balance a).getD 0) ∧ s.supply = st.TotalSupply.getD 0

/-- every stored number is an i128 (what the host's typed storage guarantees) -/
def InRange (st : Fungible.Store) : Prop :=
  (∀ a v, st.Balance a = some v → OZ.MulDiv.in128 v) ∧ (∀ v, st.TotalSupply = some v → OZ.MulDiv.in128 v)

theorem total_supply_eq (envr : Fungible.Reads) (st : Fungible.Store) :
    Fungible.total_supply envr st = .ok (st.TotalSupply.getD 0) := rfl

theorem balance_eq (envr : Fungible.Reads) (st : Fungible.Store) (a : Nat) :
    Fungible.balance envr st a = .ok ((st.Balance a).getD 0) := by
  unfold Fungible.balance
  cases st.Balance a <;> rfl

theorem balRange {st : Fungible.Store} (h : InRange st) (a : Nat) : OZ.MulDiv.in128 ((st.Balance a).getD 0) := by
  cases hb : st.Balance a with
  | none => exact in128_zero
  | some v => exact h.1 a v hb

theorem supRange {st : Fungible.Store} (h : InRange st) : OZ.MulDiv.in128 (st.TotalSupply.getD 0) := by
  cases hb : st.TotalSupply with
  | none => exact in128_zero
  | some v => exact h.2 v hb

theorem abs_setBal {st : Fungible.Store} {s : OZ.Fungible.State} (h : Abs st s) (a : Nat) (v : Int) :
    Abs (Fungible.Store.set_Balance st a v) { s with bal := upd s.bal a v } :=
  ⟨upd_getD h.1 a v, h.2⟩

theorem abs_setSup {st : Fungible.Store} {s : OZ.Fungible.State} (h : Abs st s) (v : Int) :
    Abs (Fungible.Store.set_TotalSupply st v) { s with supply := v } :=
  ⟨fun x => by simpa [Fungible.Store.set_TotalSupply] using h.1 x, by simp [Fungible.Store.set_TotalSupply]⟩

theorem range_setBal {st : Fungible.Store} (h : InRange st) (a : Nat) (v : Int) (hv : OZ.MulDiv.in128 v) :
    InRange (Fungible.Store.set_Balance st a v) :=
  ⟨forall_some_set h.1 a v hv, h.2⟩

theorem range_setSup {st : Fungible.Store} (h : InRange st) (v : Int) (hv : OZ.MulDiv.in128 v) :
    InRange (Fungible.Store.set_TotalSupply st v) := by
  refine ⟨h.1, fun w hw => ?_⟩
  simp only [Fungible.Store.set_TotalSupply] at hw
  cases hw; exact hv

/-- `Fungible.update envr` is `ops.update` up to unfolding (`credit_spec` and `update_eq` rely on it) -/
def ops : TokOps Fungible.Store :=
  ⟨(·.Balance), (·.TotalSupply), Fungible.Store.set_Balance, Fungible.Store.set_TotalSupply⟩

theorem tokAbs : TokAbs ops Abs where
  bal h := h.1
  sup h := h.2
  setBal h := abs_setBal h
  setSup h := abs_setSup h

/-- `Abs`, with the allowances those of a given store: `update` writes none -/
def AbsWith (al : AllowanceKey → Option AllowanceData) (st : Fungible.Store) (s : OZ.Fungible.State) : Prop :=
  Abs st s ∧ st.Allowance = al

theorem tokRef (al : AllowanceKey → Option AllowanceData) : TokRef ops (AbsWith al) InRange where
  bal h := h.1.1
  sup h := h.1.2
  setBal h a v := ⟨abs_setBal h.1 a v, h.2⟩
  setSup h v := ⟨abs_setSup h.1 v, h.2⟩
  balR := balRange
  rSetBal := range_setBal
  rSetSup := range_setSup

/-- the second half of `update` (credit `to`, or lower the supply): generated = model -/
theorem credit_spec (envr : Fungible.Reads) (st : Fungible.Store) (s : OZ.Fungible.State) (hA : Abs st s)
    (hR : InRange st) (to : Option Nat) (amount : Int) :
    match OZ.Fungible.credit s to amount with
    | .ok s' => ∃ st',
        (optCase to
          (fun b => Comp.bind (Fungible.balance envr st b) fun t => Comp.bind (i128_add t amount) fun t' =>
            Comp.ok ((), Fungible.Store.set_Balance st b t'))
          (Comp.bind (Fungible.total_supply envr st) fun t => Comp.bind (i128_sub t amount) fun t' =>
            Comp.ok ((), Fungible.Store.set_TotalSupply st t'))) = .ok ((), st') ∧
        Abs st' s' ∧ InRange st' ∧ st'.Allowance = st.Allowance
    | .error _ =>
        (optCase to
          (fun b => Comp.bind (Fungible.balance envr st b) fun t => Comp.bind (i128_add t amount) fun t' =>
            Comp.ok ((), Fungible.Store.set_Balance st b t'))
          (Comp.bind (Fungible.total_supply envr st) fun t => Comp.bind (i128_sub t amount) fun t' =>
            Comp.ok ((), Fungible.Store.set_TotalSupply st t'))) = .panic := by
  have h := (tokRef st.Allowance).credit ⟨hA, rfl⟩ hR to amount
  split
  · next hm => obtain ⟨st', h1, ⟨h2, h4⟩, h3⟩ := h.of_ok_store hm; exact ⟨st', h1, h2, h3, h4⟩
  · next hm => exact h.of_error hm

/-- **generated = model** for `Base::update`: on every store of i128 entries the generated `update`
succeeds exactly when the model's does, the resulting store is the model's resulting state, its entries are
i128 values again, and no allowance entry is touched -/
theorem update_eq (envr : Fungible.Reads) (st : Fungible.Store) (s : OZ.Fungible.State) (hA : Abs st s)
    (hR : InRange st) (frm to : Option Nat) (amount : Int) :
    match OZ.Fungible.update s frm to amount with
    | .ok s' => ∃ st', Fungible.update envr st frm to amount = .ok ((), st') ∧
        Abs st' s' ∧ InRange st' ∧ st'.Allowance = st.Allowance
    | .error _ => Fungible.update envr st frm to amount = .panic := by
  have h := (tokRef st.Allowance).update ⟨hA, rfl⟩ hR frm to amount
  split
  · next hm => obtain ⟨st', h1, ⟨h2, h4⟩, h3⟩ := h.of_ok_store hm; exact ⟨st', h1, h2, h3, h4⟩
  · next hm => exact h.of_error hm

/-- allowances, clock and events play no part in `update` -/
def storeState (st : Fungible.Store) : OZ.Fungible.State :=
  { supply := st.TotalSupply.getD 0, bal := fun a => (st.Balance a).getD 0, allow := fun _ _ => none, now := 0, events := [] }

theorem abs_storeState (st : Fungible.Store) : Abs st (storeState st) := ⟨fun _ => rfl, rfl⟩

theorem update_ok_model (envr : Fungible.Reads) {st st' : Fungible.Store} (hR : InRange st)
    {frm to : Option Nat} {amount : Int} (h : Fungible.update envr st frm to amount = .ok ((), st')) :
    ∃ s', OZ.Fungible.update (storeState st) frm to amount = .ok s' ∧ Abs st' s' ∧ InRange st' ∧
      st'.Allowance = st.Allowance := by
  have hu := update_eq envr st (storeState st) (abs_storeState st) hR frm to amount
  cases hm : OZ.Fungible.update (storeState st) frm to amount with
  | error e => rw [hm] at hu; rw [hu] at h; cases h
  | ok s' =>
    rw [hm] at hu
    obtain ⟨st'', h1, hu⟩ := hu
    rw [h1] at h
    cases h
    exact ⟨s', rfl, hu⟩

/-- **C01 on the source as translated**: on a store whose balances (zero outside the duplicate-free
universe `U`, all non-negative) sum to the stored supply, an accepted GENERATED `update` leaves a store with
the same property, and moves the supply by exactly the minted resp. burnt amount — nothing for a transfer -/
theorem gen_update_conserves (envr : Fungible.Reads) {U : List Nat} (hn : U.Nodup) (st st' : Fungible.Store)
    (hR : InRange st) (hi : OZ.Fungible.Inv U (storeState st)) (frm to : Option Nat) (amount : Int)
    (hf : ∀ a, frm = some a → a ∈ U) (ht : ∀ b, to = some b → b ∈ U)
    (h : Fungible.update envr st frm to amount = .ok ((), st')) :
    OZ.Fungible.Inv U (storeState st') ∧
    (storeState st').supply =
      (storeState st).supply + (if frm = none then amount else 0) - (if to = none then amount else 0) := by
  obtain ⟨s', hm, hA', _, _⟩ := update_ok_model envr hR h
  obtain ⟨hi', hs'⟩ := OZ.Fungible.update_inv hn hi ht hm
  have hb : (storeState st').bal = s'.bal := funext fun a => (hA'.1 a).symm
  have hsup : (storeState st').supply = s'.supply := hA'.2.symm
  exact ⟨hi'.congr hsup hb, by rw [hsup]; exact hs'⟩

/-- an `update` of a negative amount is rejected, and a rejected `update` returns no store: the host rolls every
write back (`Comp.panic` carries nothing) -/
theorem gen_update_rejected_no_store (envr : Fungible.Reads) (st : Fungible.Store) (frm to : Option Nat) (amount : Int)
    (h : amount < 0) : Fungible.update envr st frm to amount = .panic := by
  unfold Fungible.update; rw [if_pos h]

/-! ### non-vacuity: the generated code runs -/

def demoStore : Fungible.Store := ⟨fun a => if a = 1 then some 70 else if a = 2 then some 30 else none, some 100, fun _ => none⟩

example : ((Fungible.update ⟨5, 100, fun _ => true⟩ demoStore (some 1) (some 2) 50).bind fun r =>
    Comp.ok (r.2.Balance 1, r.2.Balance 2, r.2.TotalSupply)) = .ok (some 20, some 80, some 100) := by decide
example : ((Fungible.update ⟨5, 100, fun _ => true⟩ demoStore (some 1) (some 2) 71).bind fun _ => Comp.ok ()) = .panic := by decide
example : ((Fungible.update ⟨5, 100, fun _ => true⟩ demoStore none (some 3) 5).bind fun r =>
    Comp.ok (r.2.Balance 3, r.2.TotalSupply)) = .ok (some 5, some 105) := by decide

end OZ.Gen.Fungible
