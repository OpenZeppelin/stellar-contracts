import OZ.Gen.Sequential
/-
C10 — the sequential id counter, re-checked on every run against what the SOURCE says now.

`lean/OZ/Gen/Sequential.lean` is regenerated by `/verif/tools/rs2lean.py --sequential` from /repo's current
`packages/tokens/src/non_fungible/utils/sequential/storage.rs` (`next_token_id`, `increment_token_id`).
"Ids issued by sequential minting are never reused", on the generated code: a call hands out the block of ids
`[counter, counter + amount)`, moves the counter to its end, and fails (without effect) exactly when that would pass
u32::MAX (`gen_increment_iff`); over every finite history of accepted calls the blocks handed out are pairwise
disjoint and lie below the final counter (`gen_blocks_disjoint`). `counter` reads the stored counter (absent = 0),
`runBlocks` is the history. No hand-written model is involved.
-/
namespace OZ.Gen.Sequential
open OZ.Rs

def counter (st : Sequential.Store) : Nat := st.TokenIdCounter.getD 0

/-- **one call**: accepted exactly when the block fits into u32; it returns the old counter and stores the new one -/
theorem gen_increment_iff (envr : Sequential.Reads) (st : Sequential.Store) (amount : Nat) :
    Sequential.increment_token_id envr st amount =
      if counter st + amount < 2 ^ 32 then .ok (counter st, Sequential.Store.set_TokenIdCounter st (counter st + amount))
      else .panic := by
  unfold Sequential.increment_token_id Sequential.next_token_id uN_checked_add counter
  simp only [Comp.bind_ok]
  by_cases h : st.TokenIdCounter.getD 0 + amount < 2 ^ 32
  · simp only [h, ↓reduceIte, optCase_some]
  · simp only [h, ↓reduceIte, optCase_none]

theorem gen_next_token_id (envr : Sequential.Reads) (st : Sequential.Store) :
    Sequential.next_token_id envr st = .ok (counter st) := rfl

/-- a history of calls: the blocks `(first id, amount)` handed out by the accepted ones, and the final store (a failed
call is rolled back by the host) -/
def runBlocks (envr : Sequential.Reads) : Sequential.Store → List Nat → List (Nat × Nat) × Sequential.Store
  | st, [] => ([], st)
  | st, a :: rest =>
    match Sequential.increment_token_id envr st a with
    | .ok (first, st') => let r := runBlocks envr st' rest; ((first, a) :: r.1, r.2)
    | .panic => runBlocks envr st rest

/-- every block handed out in a history lies between the counter at its start and the counter at its end -/
theorem blocks_within (envr : Sequential.Reads) : ∀ (amounts : List Nat) (st : Sequential.Store),
    (∀ b ∈ (runBlocks envr st amounts).1, counter st ≤ b.1 ∧ b.1 + b.2 ≤ counter (runBlocks envr st amounts).2) ∧
      counter st ≤ counter (runBlocks envr st amounts).2 := by
  intro amounts
  induction amounts with
  | nil => intro st; exact ⟨fun b hb => (by cases hb), Nat.le_refl _⟩
  | cons a rest ih =>
    intro st
    unfold runBlocks
    rw [gen_increment_iff]
    by_cases h : counter st + a < 2 ^ 32
    · simp only [h, ↓reduceIte]
      have hc : counter (Sequential.Store.set_TokenIdCounter st (counter st + a)) = counter st + a := rfl
      obtain ⟨h1, h2⟩ := ih (Sequential.Store.set_TokenIdCounter st (counter st + a))
      rw [hc] at h1 h2
      refine ⟨?_, by omega⟩
      intro b hb
      rcases List.mem_cons.mp hb with rfl | hb'
      · exact ⟨Nat.le_refl _, h2⟩
      · have := h1 b hb'; omega
    · simp only [h, ↓reduceIte]
      exact ih st

/-- **C10, "ids issued by sequential minting are never reused"**, for every finite history of calls of the generated
`increment_token_id` (any amounts, failed calls in between): the blocks of ids handed out are pairwise disjoint, in
the order they were handed out -/
theorem gen_blocks_disjoint (envr : Sequential.Reads) : ∀ (amounts : List Nat) (st : Sequential.Store),
    (runBlocks envr st amounts).1.Pairwise (fun x y => x.1 + x.2 ≤ y.1) := by
  intro amounts
  induction amounts with
  | nil => intro st; exact List.Pairwise.nil
  | cons a rest ih =>
    intro st
    unfold runBlocks
    rw [gen_increment_iff]
    by_cases h : counter st + a < 2 ^ 32
    · simp only [h, ↓reduceIte]
      have hc : counter (Sequential.Store.set_TokenIdCounter st (counter st + a)) = counter st + a := rfl
      refine List.Pairwise.cons ?_ (ih _)
      intro b hb
      have := (blocks_within envr rest (Sequential.Store.set_TokenIdCounter st (counter st + a))).1 b hb
      rw [hc] at this
      exact this.1
    · simp only [h, ↓reduceIte]
      exact ih st

/-- non-vacuity: blocks [0,3), [3,5); a block that would pass u32::MAX is refused and hands out nothing -/
example : (runBlocks ⟨⟩ ⟨none⟩ [3, 2, 4294967295, 1]).1 = [(0, 3), (3, 2), (5, 1)] := by decide

end OZ.Gen.Sequential
