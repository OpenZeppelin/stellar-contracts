import OZ.Lemmas.NftMonAuth
/-
C11 — soundness of the MONITOR that decides the property on implementation traces.

`./check C11` reports a concrete violation exactly when `OZ.NftMon.Auth.checkCore` (the driver's
monitor on parsed values, OZ/Model/NftMon.lean) returns a message on the implementation's
observations (apart from the string-level alarm `site=nft.parse` of the driver). Here it is proved
that on the observations of the MODELS the monitor never returns a message — for all three flavours
(base incl. explicit ids, enumerable, consecutive at the bit level), every host configuration
(`min_temp`, `max_ttl`), every `flavour=` label, every start ledger and every finite history of op
lines that observes the tokens it moves (`monitor_accepts_every_model_trace`). Consequences:

  * an implementation whose observations agree with the model's (the correspondence the check
    establishes by differential testing) can never raise a monitor alarm — a monitor failure is
    never a false alarm of the monitor itself;
  * every conclusion the monitor evaluates — an accepted transfer / burn takes the token from its
    current owner, who authorizes; an accepted transfer_from / burn_from has an authorizing spender
    that is the owner, the account of a ghost approval of that token with live_until ≥ ledger, or a
    ghost operator of the CURRENT owner with live_until ≥ ledger; an accepted approve comes from the
    owner or such an operator, approve_for_all from the owner; get_approved is none after every
    move; no reported approval / operator is stale (expired, revoked, cleared, a former owner's) —
    is a THEOREM about the models, in the monitor's own executable wording, with the monitor's own
    ghost lists.

The model observation `OZ.NftMon.stepObs` used here IS the data the driver's model side prints:
`NftIO.stepLine` is `showObs (stepObs cfg s l op)` after parsing the op line into `l` and `l.op = some
op`; a history item is such a pair `(l, op)`, i.e. any op line whatever its unused fields, windows
`q=` and observed ids `qa=` are.

Hypothesis `hQ` (a moved token is among the observed ids `qa=`): the monitor refuses to judge a move
it cannot see the approval of (`site=nft.auth.unobserved`, a check on the harness protocol, not on
the contract); the harness always lists the named token (`observed_set_hypothesis_needed`).
-/
namespace OZ.NftMon.Auth
open OZ.Host OZ.Nft OZ.NftMon

theorem verdict_quiet {t : Mon × Option String} {ms : MState} {spec : Nat → Option Nat} (h1 : t.2 = none)
    (h2 : Agree t.1 ms spec) (l : Line) (ok : Bool) (ret : Option Nat) (probe dem : List Nat)
    (hm : moved l (obsOf ok ret ms l probe dem) = true → l.id ∈ l.qa ∧ getApproved ms.core l.id = none) :
    verdict t l (obsOf ok ret ms l probe dem) = none ∧ ∃ spec', Agree t.1 ms spec' := by
  unfold verdict
  rw [h1]
  exact ⟨answers_none h2 l _ rfl rfl rfl hm, spec, h2⟩

/-- **one call**: fed with the model's own observation of any call (accepted or rejected, any
flavour), the monitor reports nothing and its state keeps describing the model's -/
theorem monitor_sound_step (cfg : Cfg) {m : Mon} {ms : MState} {spec : Nat → Option Nat} (ha : Agree m ms spec)
    (l : Line) (op : Op) (hl : l.op = some op) (hq : ∀ f id, op.moves = some (f, id) → id ∈ l.qa) :
    (checkCore m l (stepObs cfg ms l op).2).2 = none ∧
    ∃ spec', Agree (checkCore m l (stepObs cfg ms l op).2).1 (stepObs cfg ms l op).1 spec' := by
  unfold checkCore stepObs
  cases hx : ms.apply cfg l.auth op with
  | error e =>
    -- a rejected call: the monitor's state stays, as the model's does
    have htr : track m l (obsOf false none ms l (probeOf op l.a) []) = (m, none) := by
      unfold track; rw [if_pos (by simp [obsOf])]
    exact htr ▸ verdict_quiet (t := (m, none)) rfl ha l false none _ [] (fun hm => by simp [moved, obsOf] at hm)
  | ok p =>
    obtain ⟨h1, h2⟩ := track_accepted ha hl hx (obsOf true p.2 p.1 l (probeOf op l.a) (demOf op)) rfl rfl rfl
    refine verdict_quiet h1 h2 l true p.2 _ _ fun hm => ?_
    obtain ⟨⟨f, hmv⟩, hcl⟩ := moved_cleared ha.good hl hx _ hm
    exact ⟨hq f l.id hmv, getApproved_none_of_entry_none hcl⟩

/-- the monitor run over a whole history of model observations: first message, if any. A history
item is an op line with the operation it denotes. -/
def monitorRun (cfg : Cfg) : Mon → MState → List (Line × Op) → Option String
  | _, _, [] => none
  | m, ms, x :: xs =>
    match (checkCore m x.1 (stepObs cfg ms x.1 x.2).2).2 with
    | some msg => some msg
    | none => monitorRun cfg (checkCore m x.1 (stepObs cfg ms x.1 x.2).2).1 (stepObs cfg ms x.1 x.2).1 xs

/-- **monitor soundness**: for every host configuration, flavour label (`initState`: what the
driver's `init`, `NftIO.initM`, builds; `Auth.init`: what its `minit` builds), start ledger and finite history —
any accounts, ids, batch sizes, live_until values, authorizing subsets, windows, any ledger
movement, explicit mints over owned ids included — the monitor reports nothing on the models'
observations -/
theorem monitor_accepts_every_model_trace (cfg : Cfg) (flavour : String) (start : Nat)
    (hist : List (Line × Op)) (hL : ∀ x ∈ hist, x.1.op = some x.2)
    (hQ : ∀ x ∈ hist, ∀ f id, x.2.moves = some (f, id) → id ∈ x.1.qa) :
    monitorRun cfg Auth.init (initState flavour start) hist = none := by
  suffices ∀ m ms spec, Agree m ms spec → monitorRun cfg m ms hist = none by
    obtain ⟨hg, hc, _⟩ := init_good flavour start
    refine this _ _ _ ⟨hg, fun _ => rfl, ?_, ?_, fun _ p hp => by cases hp⟩
    · intro id e he; rw [hc] at he; cases he
    · intro o p e he; rw [hc] at he; cases he
  induction hist with
  | nil => intro m ms spec _; rfl
  | cons x xs ih =>
    intro m ms spec ha
    obtain ⟨h1, spec', h2⟩ := monitor_sound_step cfg ha x.1 x.2 (hL x List.mem_cons_self)
      (hQ x List.mem_cons_self)
    unfold monitorRun
    rw [h1]
    exact ih (fun y hy => hL y (List.mem_cons_of_mem _ hy)) (fun y hy => hQ y (List.mem_cons_of_mem _ hy)) _ _ _ h2

/-! ### the hypothesis `hQ`; why a mint is tracked by `setOwnerMint` and not by `setOwner` -/

/-- a history line: only the fields the kind uses matter -/
def ln (kind : Kind) (a : List Nat) (id lu : Nat) (auth qa : List Nat) : Line :=
  { kind, a, id, n := 0, lu, auth, q := [], qa }

/-- the hypothesis `hQ` cannot be dropped: an authorized transfer whose token is not among
the observed ids makes the monitor report `site=nft.auth.unobserved` (it cannot see whether the
approval was cleared) -/
theorem observed_set_hypothesis_needed :
    (monitorRun ⟨1, 200000⟩ Auth.init (initState "seq" 100)
      [(ln .mint [1] 0 0 [] [0], .mintSeq 1), (ln .transfer [1, 2] 0 0 [1] [], .transfer 1 2 0)]).isSome = true := by
  decide

/-- tracking a mint by `setOwner` (owner change + approval drop, the monitor's rule for transfers / burns)
raises an alarm on a model trace; `checkCore`, which tracks it by `setOwnerMint`, does not. `setOwner` drops
the ghost approval of the minted id, whereas `Base::update` leaves the approval entry alone when it
mints. On the model trace  mint_id(to 1, id 7); approve(1 → 2, id 7, until 200); mint_id(to 3, id 7)
— an explicit mint over an owned id, outside the fresh-id precondition of `Base::mint`, about which
the property says nothing — the model (like the code) still reports `get_approved(7) = 2`, and after
`setOwner` the monitor's checks report `site=nft.auth.stale-approval` on the model's own observation: -/
theorem legacy_mint_rule_false_alarm :
    let l1 := ln .mintId [1] 7 0 [] [7]
    let l2 := ln .approve [1, 2] 7 200 [1] [7]
    let l3 := ln .mintId [3] 7 0 [] [7]
    let s1 := stepObs ⟨1, 200000⟩ (initState "exp" 100) l1 (.mint 1 7)
    let m1 := checkCore Auth.init l1 s1.2
    let s2 := stepObs ⟨1, 200000⟩ s1.1 l2 (.approve 1 2 7 200)
    let m2 := checkCore m1.1 l2 s2.2
    let s3 := stepObs ⟨1, 200000⟩ s2.1 l3 (.mint 3 7)
    m1.2 = none ∧ m2.2 = none ∧ s3.2.ok = true ∧ s3.2.appr = [(7, 2)] ∧
    (answers (setOwner m2.1 7 (some 3)) l3 s3.2).isSome = true ∧
    (checkCore m2.1 l3 s3.2).2 = none := by
  decide

/-- `setOwnerMint` demands exactly what `setOwner` does whenever the property applies:
while every ghost approval belongs to a token the plain map knows an owner of (which every accepted
`approve` guarantees, else `site=nft.auth.approve-nonexistent`), a mint of an id WITHOUT owner finds
no ghost approval to drop, so both rules produce the same monitor state -/
theorem mint_of_unowned_id_finds_no_ghost_approval (m : Mon) (id to : Nat)
    (hga : ∀ p ∈ m.appr, (ghostOwner m p.1).isSome = true) (hfresh : ghostOwner m id = none) :
    setOwner m id (some to) = setOwnerMint m id to := by
  have : m.appr.filter (fun p => decide (p.1 ≠ id)) = m.appr := by
    rw [List.filter_eq_self]
    intro p hp
    have := hga p hp
    have hne : p.1 ≠ id := by
      intro e; rw [e, hfresh] at this; cases this
    simpa using hne
  unfold setOwner setOwnerMint
  rw [this]

/-! ### non-vacuity: the monitor is not trivially silent -/

/-- a former owner's operator moving the token: `site=nft.auth.spender-unjustified` -/
example :
    (checkCore { batches := [(0, 9, 1)], over := [(3, some 2)], appr := [], oper := [(1, 4, 500)], next := 10 }
      (ln .transferFrom [4, 2, 4] 3 0 [4] [3])
      ⟨true, none, [], [(3, some 4)], [9, 1, 0, 0, 1, 0], [3], [], [(1, 4)], none, [], [], 120, [4]⟩).2.isSome = true := by
  decide

/-- an approval that is still readable one ledger after its live_until: `site=nft.auth.stale-approval` -/
example :
    (checkCore { batches := [], over := [(0, some 1)], appr := [(0, 2, 120)], oper := [], next := 1 }
      { kind := .advance, a := [], id := 0, n := 1, lu := 0, auth := [], q := [], qa := [0] }
      ⟨true, none, [], [(0, some 1)], [0, 1, 0, 0, 0, 0], [0], [(0, 2)], [], none, [], [], 121, []⟩).2.isSome = true := by
  decide

end OZ.NftMon.Auth
