import OZ.Gen.FungibleF
import OZ.Lemmas.TokenStore
import OZ.Props.C01
/-
C01 / C02 — REFINEMENT: the fungible token AS TRANSLATED FROM THE SOURCE is the hand-written model.

`lean/OZ/Gen/FungibleF.lean` is regenerated by `/verif/tools/rs2lean.py --fungible-full` (state-passing mode)
from /repo's current `packages/tokens/src/fungible/storage.rs` and `extensions/burnable/storage.rs`: ALL of
`total_supply`, `balance`, `allowance_data`, `allowance`, `set_allowance`, `spend_allowance`, `update`,
`approve`, `transfer`, `transfer_from`, `mint`, `burn`, `burn_from`, over one store in which `Balance` and
`TotalSupply` are persistent / instance entries and `Allowance` is a TEMPORARY entry carrying its lifetime
(host rules of OZ/Model/Host.lean).

Proved here: every generated entry point, run on a store that represents a model state (`Abs`: same balances,
supply, allowance entries with their lifetimes, same ledger) under an authorization predicate that is
membership in `auth`, does exactly what the model's `OZ.Fungible.apply` does — same acceptance, and the
resulting store represents the model's resulting state (`step_refines`); hence, by induction, every finite
history of generated calls with arbitrary ledger movements in between follows the model's `run`
(`run_refines`).  Every theorem of OZ/Props/C01.lean and OZ/Props/C02.lean about `run` — conservation, event
replay, authorization, allowance bounds, expiry — is therefore a theorem about the getters of the code
regenerated from /repo on this run (`gen_supply_is_sum_of_balances` spells one out).
Hypotheses: minimum temporary lifetime ≥ 1 (16 on the network), stored numbers are i128 values.
-/
namespace OZ.Gen.FungibleF
open OZ.Rs OZ.Host

def cfgOf (envr : FungibleF.Reads) : Cfg := ⟨envr.min_temp_ttl, envr.max_ttl⟩
def conv (d : FungibleF.AllowanceData) : OZ.Fungible.AllowanceData := ⟨d.amount, d.live_until_ledger⟩
def convT (t : Temp FungibleF.AllowanceData) : Temp OZ.Fungible.AllowanceData := ⟨conv t.val, t.liveUntil⟩

/-- events are ghost: not compared -/
structure Abs (envr : FungibleF.Reads) (st : FungibleF.Store) (s : OZ.Fungible.State) : Prop where
  now : s.now = envr.ledger_sequence
  bal : ∀ a, s.bal a = (st.Balance a).getD 0
  sup : s.supply = st.TotalSupply.getD 0
  allow : ∀ o sp, s.allow o sp = (st.Allowance ⟨o, sp⟩).map convT

structure InRange (st : FungibleF.Store) : Prop where
  bal : ∀ a v, st.Balance a = some v → OZ.MulDiv.in128 v
  sup : ∀ v, st.TotalSupply = some v → OZ.MulDiv.in128 v
  allow : ∀ k e, st.Allowance k = some e → OZ.MulDiv.in128 e.val.amount

theorem abs_emit {envr : FungibleF.Reads} {st : FungibleF.Store} {s : OZ.Fungible.State} (h : Abs envr st s)
    (ev : OZ.Fungible.Event) : Abs envr st (OZ.Fungible.emit s ev) :=
  ⟨h.now, h.bal, h.sup, h.allow⟩

abbrev Ref (envr : FungibleF.Reads) (m : Except OZ.Fungible.Err OZ.Fungible.State)
    (g : Comp (Unit × FungibleF.Store)) : Prop :=
  RefG (Abs envr) InRange m g

/-- `Ref` with the `match` written out, as the theorems about the entry points state it -/
theorem Ref.stated {envr : FungibleF.Reads} {m : Except OZ.Fungible.Err OZ.Fungible.State}
    {g : Comp (Unit × FungibleF.Store)} :
    Ref envr m g →
    match m with
    | .ok s' => ∃ st', g = .ok ((), st') ∧ Abs envr st' s' ∧ InRange st'
    | .error _ => g = .panic := by
  intro h
  cases m with
  | ok s' => exact h.of_ok_store rfl
  | error e => exact h

theorem Ref.weak {envr : FungibleF.Reads} {m : Except OZ.Fungible.Err OZ.Fungible.State}
    {g : Comp (Unit × FungibleF.Store)} :
    Ref envr m g →
    match m with
    | .ok s' => ∃ st', g = .ok ((), st') ∧ Abs envr st' s' ∧ InRange st'
    | .error _ => (g.bind fun _ => Comp.ok ()) = .panic := by
  intro h
  cases m with
  | ok s' => exact h.of_ok_store rfl
  | error e => exact RefG.weak h rfl

theorem Ref.emit {envr : FungibleF.Reads} {st : FungibleF.Store} {s : OZ.Fungible.State}
    (hA : Abs envr st s) (hR : InRange st) (ev : OZ.Fungible.Event) :
    Ref envr (pure (OZ.Fungible.emit s ev)) (Comp.ok ((), st)) :=
  ⟨_, rfl, abs_emit hA ev, hR⟩

/-! ### balances and supply -/

theorem total_supply_eq (envr : FungibleF.Reads) (st : FungibleF.Store) :
    FungibleF.total_supply envr st = .ok (st.TotalSupply.getD 0) := rfl

theorem balance_eq (envr : FungibleF.Reads) (st : FungibleF.Store) (a : Nat) :
    FungibleF.balance envr st a = .ok ((st.Balance a).getD 0) := by
  unfold FungibleF.balance
  cases st.Balance a <;> rfl

theorem balRange {st : FungibleF.Store} (h : InRange st) (a : Nat) : OZ.MulDiv.in128 ((st.Balance a).getD 0) := by
  cases hb : st.Balance a with
  | none => exact in128_zero
  | some v => exact h.bal a v hb

theorem abs_setBal {envr : FungibleF.Reads} {st : FungibleF.Store} {s : OZ.Fungible.State} (h : Abs envr st s) (a : Nat) (v : Int) :
    Abs envr (FungibleF.Store.set_Balance st a v) { s with bal := upd s.bal a v } :=
  ⟨h.now, upd_getD h.bal a v, h.sup, h.allow⟩

theorem abs_setSup {envr : FungibleF.Reads} {st : FungibleF.Store} {s : OZ.Fungible.State} (h : Abs envr st s) (v : Int) :
    Abs envr (FungibleF.Store.set_TotalSupply st v) { s with supply := v } :=
  ⟨h.now, fun x => by simpa [FungibleF.Store.set_TotalSupply] using h.bal x, by simp [FungibleF.Store.set_TotalSupply], h.allow⟩

theorem range_setBal {st : FungibleF.Store} (h : InRange st) (a : Nat) (v : Int) (hv : OZ.MulDiv.in128 v) :
    InRange (FungibleF.Store.set_Balance st a v) :=
  ⟨forall_some_set h.bal a v hv, h.sup, h.allow⟩

theorem range_setSup {st : FungibleF.Store} (h : InRange st) (v : Int) (hv : OZ.MulDiv.in128 v) :
    InRange (FungibleF.Store.set_TotalSupply st v) := by
  refine ⟨h.bal, fun w hw => ?_, h.allow⟩
  simp only [FungibleF.Store.set_TotalSupply] at hw
  cases hw; exact hv

/-- `FungibleF.update envr` is `ops.update` up to unfolding (`credit_ref` and `update_ref` rely on it) -/
def ops : TokOps FungibleF.Store :=
  ⟨(·.Balance), (·.TotalSupply), FungibleF.Store.set_Balance, FungibleF.Store.set_TotalSupply⟩

theorem tokRef (envr : FungibleF.Reads) : TokRef ops (Abs envr) InRange where
  bal h := h.bal
  sup h := h.sup
  setBal h := abs_setBal h
  setSup h := abs_setSup h
  balR := balRange
  rSetBal := range_setBal
  rSetSup := range_setSup

/-- the second half of `update` (credit `to`, or lower the supply): generated = model -/
theorem credit_ref (envr : FungibleF.Reads) (st : FungibleF.Store) (s : OZ.Fungible.State) (hA : Abs envr st s)
    (hR : InRange st) (to : Option Nat) (amount : Int) :
    match OZ.Fungible.credit s to amount with
    | .ok s' => ∃ st',
        (optCase to
          (fun b => Comp.bind (FungibleF.balance envr st b) fun t => Comp.bind (i128_add t amount) fun t' =>
            Comp.ok ((), FungibleF.Store.set_Balance st b t'))
          (Comp.bind (FungibleF.total_supply envr st) fun t => Comp.bind (i128_sub t amount) fun t' =>
            Comp.ok ((), FungibleF.Store.set_TotalSupply st t'))) = .ok ((), st') ∧
        Abs envr st' s' ∧ InRange st'
    | .error _ =>
        (optCase to
          (fun b => Comp.bind (FungibleF.balance envr st b) fun t => Comp.bind (i128_add t amount) fun t' =>
            Comp.ok ((), FungibleF.Store.set_Balance st b t'))
          (Comp.bind (FungibleF.total_supply envr st) fun t => Comp.bind (i128_sub t amount) fun t' =>
            Comp.ok ((), FungibleF.Store.set_TotalSupply st t'))) = .panic := by
  exact Ref.stated ((tokRef envr).credit hA hR to amount)

/-- **`Base::update`**: generated = model -/
theorem update_ref (envr : FungibleF.Reads) (st : FungibleF.Store) (s : OZ.Fungible.State) (hA : Abs envr st s)
    (hR : InRange st) (frm to : Option Nat) (amount : Int) :
    match OZ.Fungible.update s frm to amount with
    | .ok s' => ∃ st', FungibleF.update envr st frm to amount = .ok ((), st') ∧ Abs envr st' s' ∧ InRange st'
    | .error _ => FungibleF.update envr st frm to amount = .panic := by
  exact Ref.stated ((tokRef envr).update hA hR frm to amount)

/-! ### allowances -/

theorem abs_setAllow {envr : FungibleF.Reads} {st : FungibleF.Store} {s : OZ.Fungible.State} (hA : Abs envr st s)
    (o sp : Nat) (e : Temp FungibleF.AllowanceData) :
    Abs envr (FungibleF.Store.set_Allowance st ⟨o, sp⟩ e) { s with allow := upd2 s.allow o sp (some (convT e)) } :=
  ⟨hA.now, hA.bal, hA.sup, upd2_map_key (key := fun o sp => (⟨o, sp⟩ : FungibleF.AllowanceKey))
    (fun h => by injection h with h1 h2; exact ⟨h1, h2⟩) hA.allow o sp e⟩

theorem range_setAllow {st : FungibleF.Store} (h : InRange st) (k : FungibleF.AllowanceKey) (e : Temp FungibleF.AllowanceData)
    (he : OZ.MulDiv.in128 e.val.amount) : InRange (FungibleF.Store.set_Allowance st k e) :=
  ⟨h.bal, h.sup, forall_some_set h.allow k e he⟩

/-- `FungibleF.allowance_data`, `set_allowance`, `spend_allowance` are those of `aops envr` up to unfolding -/
def aops (envr : FungibleF.Reads) : AllowOps FungibleF.Store FungibleF.AllowanceData where
  now := envr.ledger_sequence
  cfg := ⟨envr.min_temp_ttl, envr.max_ttl⟩
  get st o sp := st.Allowance ⟨o, sp⟩
  set st o sp e := FungibleF.Store.set_Allowance st ⟨o, sp⟩ e
  mkData a l := ⟨a, l⟩
  amount := (·.amount)
  lu := (·.live_until_ledger)

theorem allowRef (envr : FungibleF.Reads) : AllowRef (aops envr) (Abs envr) where
  now h := h.now
  allow h := h.allow
  set h := abs_setAllow h
  get_set _ _ _ _ := by simp [aops, FungibleF.Store.set_Allowance]
  conv_mkData _ _ := rfl

theorem allowRange (envr : FungibleF.Reads) : AllowRange (aops envr) InRange OZ.MulDiv.in128 where
  set h o sp e he := range_setAllow h ⟨o, sp⟩ e he
  get h o sp e he := h.allow _ e he
  rv _ h := h

theorem allowance_data_ref (envr : FungibleF.Reads) (st : FungibleF.Store) (s : OZ.Fungible.State)
    (hA : Abs envr st s) (o sp : Nat) :
    ∃ d, FungibleF.allowance_data envr st o sp = .ok d ∧ conv d = OZ.Fungible.allowanceData s o sp :=
  (allowRef envr).allowance_data hA o sp

/-- **`Base::set_allowance`**: generated = model -/
theorem set_allowance_ref (envr : FungibleF.Reads) (st : FungibleF.Store) (s : OZ.Fungible.State)
    (hA : Abs envr st s) (hR : InRange st) (hmin : 1 ≤ envr.min_temp_ttl) (o sp : Nat) (amount : Int) (lu : Nat)
    (hamt : OZ.MulDiv.in128 amount) :
    match OZ.Fungible.setAllowance (cfgOf envr) s o sp amount lu with
    | .ok s' => ∃ st', FungibleF.set_allowance envr st o sp amount lu = .ok ((), st') ∧ Abs envr st' s' ∧ InRange st'
    | .error _ => ((FungibleF.set_allowance envr st o sp amount lu).bind fun _ => Comp.ok ()) = .panic := by
  exact Ref.weak ((allowRef envr).set_allowance (allowRange envr).set hA hR hmin o sp amount lu hamt)

/-- **`Base::spend_allowance`**: generated = model -/
theorem spend_allowance_ref (envr : FungibleF.Reads) (st : FungibleF.Store) (s : OZ.Fungible.State)
    (hA : Abs envr st s) (hR : InRange st) (hmin : 1 ≤ envr.min_temp_ttl) (o sp : Nat) (amount : Int) :
    match OZ.Fungible.spendAllowance (cfgOf envr) s o sp amount with
    | .ok s' => ∃ st', FungibleF.spend_allowance envr st o sp amount = .ok ((), st') ∧ Abs envr st' s' ∧ InRange st'
    | .error _ => ((FungibleF.spend_allowance envr st o sp amount).bind fun _ => Comp.ok ()) = .panic := by
  exact Ref.weak ((allowRef envr).spend_allowance (allowRange envr) hA hR hmin o sp amount)

/-! ### the entry points -/

/-- `advance` is a ledger movement, not a call -/
def genCall (envr : FungibleF.Reads) (st : FungibleF.Store) : OZ.Fungible.Op → Comp (Unit × FungibleF.Store)
  | .mint to a => FungibleF.mint envr st to a
  | .transfer f t a => FungibleF.transfer envr st f t a
  | .transferFrom sp f t a => FungibleF.transfer_from envr st sp f t a
  | .approve o sp a lu => FungibleF.approve envr st o sp a lu
  | .burn f a => FungibleF.burn envr st f a
  | .burnFrom sp f a => FungibleF.burn_from envr st sp f a
  | .advance _ => Comp.ok ((), st)

/-- the amount an `approve` carries is an i128 (every `i128` argument of a real invocation is) -/
def OpRange : OZ.Fungible.Op → Prop
  | .approve _ _ a _ => OZ.MulDiv.in128 a
  | _ => True

/-- shape shared by `transfer` / `burn` -/
theorem direct_ref (envr : FungibleF.Reads) (st : FungibleF.Store) (s : OZ.Fungible.State) (hA : Abs envr st s)
    (hR : InRange st) (auth : List Nat) (hauth : ∀ a, envr.authorized a = decide (a ∈ auth))
    (f : Nat) (to : Option Nat) (amount : Int) (ev : OZ.Fungible.Event) :
    Ref envr
      (do OZ.Fungible.requireAuth auth f
          let s1 ← OZ.Fungible.update s (some f) to amount
          pure (OZ.Fungible.emit s1 ev))
      (if envr.authorized f = true then
        Comp.bind (FungibleF.update envr st (some f) to amount) fun t => Comp.ok ((), t.2) else Comp.panic) :=
  Sim.test (tok_auth_iff hauth f) fun _ =>
    Sim.bind ((tokRef envr).update hA hR (some f) to amount) fun _ _ h => Ref.emit h.1 h.2 ev

/-- shape shared by `transfer_from` / `burn_from` -/
theorem delegated_ref (envr : FungibleF.Reads) (st : FungibleF.Store) (s : OZ.Fungible.State) (hA : Abs envr st s)
    (hR : InRange st) (hmin : 1 ≤ envr.min_temp_ttl) (auth : List Nat) (hauth : ∀ a, envr.authorized a = decide (a ∈ auth))
    (sp f : Nat) (to : Option Nat) (amount : Int) (ev : OZ.Fungible.Event) :
    Ref envr
      (do OZ.Fungible.requireAuth auth sp
          let s1 ← OZ.Fungible.spendAllowance (cfgOf envr) s f sp amount
          let s2 ← OZ.Fungible.update s1 (some f) to amount
          pure (OZ.Fungible.emit s2 ev))
      (if envr.authorized sp = true then
        Comp.bind (FungibleF.spend_allowance envr st f sp amount) fun t1 =>
          Comp.bind (FungibleF.update envr t1.2 (some f) to amount) fun t2 => Comp.ok ((), t2.2) else Comp.panic) :=
  Sim.test (tok_auth_iff hauth sp) fun _ =>
    Sim.bind ((allowRef envr).spend_allowance (allowRange envr) hA hR hmin f sp amount) fun _ _ h =>
      Sim.bind ((tokRef envr).update h.1 h.2 (some f) to amount) fun _ _ g => Ref.emit g.1 g.2 ev

theorem apply_ref (envr : FungibleF.Reads) (st : FungibleF.Store) (s : OZ.Fungible.State) (hA : Abs envr st s)
    (hR : InRange st) (hmin : 1 ≤ envr.min_temp_ttl) (auth : List Nat) (hauth : ∀ a, envr.authorized a = decide (a ∈ auth))
    (op : OZ.Fungible.Op) (hop : OpRange op) (hna : ∀ n, op ≠ .advance n) :
    Ref envr (OZ.Fungible.apply (cfgOf envr) s auth op) (genCall envr st op) := by
  cases op with
  | advance n => exact absurd rfl (hna n)
  | transfer f t a => exact direct_ref envr st s hA hR auth hauth f (some t) a (.transfer f t a)
  | burn f a => exact direct_ref envr st s hA hR auth hauth f none a (.burn f a)
  | transferFrom sp f t a => exact delegated_ref envr st s hA hR hmin auth hauth sp f (some t) a (.transfer f t a)
  | burnFrom sp f a => exact delegated_ref envr st s hA hR hmin auth hauth sp f none a (.burn f a)
  | mint to a =>
    exact Sim.bind ((tokRef envr).update hA hR none (some to) a) fun _ _ h => Ref.emit h.1 h.2 (.mint to a)
  | approve o sp a lu =>
    exact Sim.test (tok_auth_iff hauth o) fun _ =>
      Sim.bind ((allowRef envr).set_allowance (allowRange envr).set hA hR hmin o sp a lu hop)
        fun _ _ h => Ref.emit h.1 h.2 (.approve o sp a lu)

/-- **one call**: the generated entry point does what the model's `apply` does -/
theorem step_refines (envr : FungibleF.Reads) (st : FungibleF.Store) (s : OZ.Fungible.State) (hA : Abs envr st s)
    (hR : InRange st) (hmin : 1 ≤ envr.min_temp_ttl) (auth : List Nat) (hauth : ∀ a, envr.authorized a = decide (a ∈ auth))
    (op : OZ.Fungible.Op) (hop : OpRange op) (hna : ∀ n, op ≠ .advance n) :
    match OZ.Fungible.apply (cfgOf envr) s auth op with
    | .ok s' => ∃ st', genCall envr st op = .ok ((), st') ∧ Abs envr st' s' ∧ InRange st'
    | .error _ => ((genCall envr st op).bind fun _ => Comp.ok ()) = .panic :=
  (apply_ref envr st s hA hR hmin auth hauth op hop hna).weak

/-! ### histories -/

def envrOf (c : Cfg) (now : Nat) (auth : List Nat) : FungibleF.Reads :=
  ⟨now, c.minTempTtl, c.maxTtl, fun a => decide (a ∈ auth)⟩

def genStep (c : Cfg) (x : Nat × FungibleF.Store) (ao : List Nat × OZ.Fungible.Op) : Nat × FungibleF.Store :=
  match ao.2 with
  | .advance n => (x.1 + n, x.2)
  | op => (x.1, match genCall (envrOf c x.1 ao.1) x.2 op with
      | .ok r => r.2
      | .panic => x.2)

def genRun (c : Cfg) (x : Nat × FungibleF.Store) (ops : List (List Nat × OZ.Fungible.Op)) : Nat × FungibleF.Store :=
  ops.foldl (genStep c) x

theorem abs_congr {e1 e2 : FungibleF.Reads} {st : FungibleF.Store} {s : OZ.Fungible.State}
    (h : Abs e1 st s) (he : e1.ledger_sequence = e2.ledger_sequence) : Abs e2 st s :=
  ⟨by rw [← he]; exact h.now, h.bal, h.sup, h.allow⟩

theorem genStep_refines (c : Cfg) (hmin : 1 ≤ c.minTempTtl) {now : Nat} {st : FungibleF.Store} {s : OZ.Fungible.State}
    (hA : Abs (envrOf c now []) st s) (hR : InRange st) (ao : List Nat × OZ.Fungible.Op) (hop : OpRange ao.2) :
    Abs (envrOf c (genStep c (now, st) ao).1 []) (genStep c (now, st) ao).2 (OZ.Fungible.step c s ao) ∧
    InRange (genStep c (now, st) ao).2 := by
  obtain ⟨auth, op⟩ := ao
  have h := apply_ref (envrOf c now auth) st s (abs_congr hA rfl) hR hmin auth (fun _ => rfl) op hop
  cases op with
  | advance n => exact ⟨⟨congrArg (· + n) hA.now, hA.bal, hA.sup, hA.allow⟩, hR⟩
  | _ =>
    replace h := h fun _ => OZ.Fungible.Op.noConfusion
    unfold OZ.Fungible.step
    split
    · obtain ⟨st', h1, h2, h3⟩ := h.of_ok_store ‹_›; simp only [genStep, h1]; exact ⟨abs_congr h2 rfl, h3⟩
    · simp only [genStep, h.of_error ‹_›]; exact ⟨hA, hR⟩

/-- **every history**: the generated token follows the model's `run`, call by call -/
theorem run_refines (c : Cfg) (hmin : 1 ≤ c.minTempTtl) (ops : List (List Nat × OZ.Fungible.Op)) :
    ∀ (now : Nat) (st : FungibleF.Store) (s : OZ.Fungible.State), Abs (envrOf c now []) st s → InRange st →
      (∀ x ∈ ops, OpRange x.2) →
      Abs (envrOf c (genRun c (now, st) ops).1 []) (genRun c (now, st) ops).2 (OZ.Fungible.run c s ops) ∧
      InRange (genRun c (now, st) ops).2 := by
  induction ops with
  | nil => intro now st s hA hR _; exact ⟨hA, hR⟩
  | cons ao rest ih =>
    intro now st s hA hR hops
    obtain ⟨h1, h2⟩ := genStep_refines c hmin hA hR ao (hops ao List.mem_cons_self)
    exact ih _ _ _ h1 h2 fun x hx => hops x (List.mem_cons_of_mem _ hx)

theorem abs_init (c : Cfg) (now : Nat) :
    Abs (envrOf c now []) ⟨fun _ => none, none, fun _ => none⟩ (OZ.Fungible.init now) :=
  ⟨rfl, fun _ => rfl, rfl, fun _ _ => rfl⟩

theorem range_init : InRange ⟨fun _ => none, none, fun _ => none⟩ :=
  ⟨fun _ _ h => (by cases h), fun _ h => (by cases h), fun _ _ h => (by cases h)⟩

/-- **C01 about the getters of the generated token**: after ANY finite history of generated calls and ledger
movements from the freshly deployed (empty) store — any arguments with `approve` amounts in the i128 range,
any authorizing subsets — the stored supply is the sum of the stored balances over the (duplicate-free)
universe of accounts the history names, and no balance is negative -/
theorem gen_supply_is_sum_of_balances (c : Cfg) (hmin : 1 ≤ c.minTempTtl) (now : Nat) (U : List Nat) (hn : U.Nodup)
    (ops : List (List Nat × OZ.Fungible.Op)) (hU : ∀ x ∈ ops, ∀ a ∈ x.2.addrs, a ∈ U) (hops : ∀ x ∈ ops, OpRange x.2) :
    let st := (genRun c (now, ⟨fun _ => none, none, fun _ => none⟩) ops).2
    OZ.Fungible.total U (fun a => (st.Balance a).getD 0) = st.TotalSupply.getD 0 ∧
    ∀ a, 0 ≤ (st.Balance a).getD 0 := by
  intro st
  obtain ⟨hA, _⟩ := run_refines c hmin ops now _ _ (abs_init c now) range_init hops
  have hinv := OZ.Fungible.inv_reachable c now U hn ops hU
  have hb : (OZ.Fungible.run c (OZ.Fungible.init now) ops).bal = fun a => (st.Balance a).getD 0 := funext hA.bal
  constructor
  · rw [← hb, ← hA.sup]; exact hinv.sum
  · intro a; rw [← hA.bal a]; exact hinv.nonneg a

end OZ.Gen.FungibleF
