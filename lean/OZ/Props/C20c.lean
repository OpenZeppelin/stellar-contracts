import OZ.Lemmas.RegBinder
/-
C20 (c): the token binder (`TokenBucket(i) -> Vec<Address>` in buckets of 100, `TotalCount`,
swap-and-pop across buckets, batches spilling over several buckets) represents the plain set
  bound s t  :=  is_token_bound(t)
under ANY history of `bind_token` / `bind_tokens` / `unbind_token` (arbitrary arguments, failed
calls rolled back), and index access enumerates that set exactly once.
-/
namespace OZ.Props.C20c
open OZ.Reg OZ.RegBinder

/-- **binder_refines.** After any history the storage is a duplicate-free flat list `l` (the
plain set with an enumeration) and every getter answers from it: `linked_tokens` is `l`,
`linked_token_count` its length, `is_token_bound` membership, `get_token_by_index` the `i`-th
element (failing exactly from `count` on), `get_token_index` fails exactly on non-members and
otherwise returns a position of the token. -/
theorem binder_refines (ops : List Op) :
    let s := run init ops
    ∃ l : List Nat, l.Nodup ∧ linkedTokens s = l ∧ linkedTokenCount s = l.length ∧ l.length ≤ MAX_TOKENS ∧
      (∀ t, isTokenBound s t = true ↔ t ∈ l) ∧
      (∀ i, getTokenByIndex s i = l[i]?) ∧
      (∀ t, (getTokenIndex s t = none ↔ t ∉ l) ∧ ∀ i, getTokenIndex s t = some i → l[i]? = some t) := by
  intro s
  obtain ⟨l, h⟩ : Inv s := inv_run inv_init ops
  exact ⟨l, h.nodup, rep_linkedTokens h, h.count, h.le, rep_isTokenBound h, rep_getTokenByIndex h,
    fun t => ⟨rep_getTokenIndex_none h t, rep_getTokenIndex_some h t⟩⟩

/-- **binder_abs_step.** The represented set moves exactly as a plain set does. -/
theorem binder_abs_step (s : State) (hs : Reachable s) :
    (∀ t s', bindToken s t = .ok s' → ∀ x, bound s' x ↔ (bound s x ∨ x = t)) ∧
    (∀ ts s', bindTokens s ts = .ok s' → ∀ x, bound s' x ↔ (bound s x ∨ x ∈ ts)) ∧
    (∀ t s', unbindToken s t = .ok s' → ∀ x, bound s' x ↔ (bound s x ∧ x ≠ t)) ∧
    (∀ o e, step s o = .error e → next s o = s) := by
  obtain ⟨l, h⟩ := reachable_inv hs
  refine ⟨?_, ?_, ?_, ?_⟩
  · intro t s' hok x
    obtain ⟨⟨hn, hl⟩, rfl⟩ := (bindToken_ok_iff h s' t).1 hok
    unfold bound
    rw [rep_isTokenBound (rep_push h hn hl), rep_isTokenBound h]; simp
  · intro ts s' hok x
    obtain ⟨⟨_, hl, hnd, hdis⟩, rfl⟩ := (bindTokens_ok_iff h s' ts).1 hok
    exact mem_foldl_push h ts hnd hdis hl x
  · intro t s' hok x
    obtain ⟨_, l', hr, hmem⟩ := unbindToken_ok h hok
    unfold bound
    rw [rep_isTokenBound hr, rep_isTokenBound h]
    exact hmem x
  · intro o e he
    simp [next, he]

/-- **binder_dup_refused.** A bound token cannot be bound again, alone or inside a batch, and a
batch with a repetition is refused. -/
theorem binder_dup_refused (s : State) (hs : Reachable s) :
    (∀ t, bound s t → ∃ e, bindToken s t = .error e) ∧
    (∀ ts t, t ∈ ts → bound s t → ∃ e, bindTokens s ts = .error e) ∧
    (∀ ts, ¬ ts.Nodup → ∃ e, bindTokens s ts = .error e) := by
  obtain ⟨l, h⟩ := reachable_inv hs
  refine ⟨?_, ?_, ?_⟩
  · intro t hb
    exact err_of_not_ok (fun s' hok => ((bindToken_ok_iff h s' t).1 hok).1.1 ((rep_isTokenBound h t).1 hb))
  · intro ts t ht hb
    exact err_of_not_ok (fun s' hok =>
      ((bindTokens_ok_iff h s' ts).1 hok).1.2.2.2 t ht ((rep_isTokenBound h t).1 hb))
  · intro ts hnd
    exact err_of_not_ok (fun s' hok => hnd ((bindTokens_ok_iff h s' ts).1 hok).1.2.2.1)

/-- **binder_absent_refused.** A token that is not bound cannot be unbound. -/
theorem binder_absent_refused (s : State) (hs : Reachable s) (t : Nat) (hn : ¬ bound s t) :
    ∃ e, unbindToken s t = .error e := by
  obtain ⟨l, h⟩ := reachable_inv hs
  exact err_of_not_ok fun s' hok => hn ((rep_isTokenBound h t).2 (unbindToken_ok h hok).1)

/-- **binder_limit_exact.** In a reachable state a new token is accepted exactly while fewer than
`MAX_TOKENS = 10 000` are bound (the 10 000th accepted, the 10 001st refused); a duplicate-free
batch of new tokens of at most 200 is accepted exactly when it fits. -/
theorem binder_limit_exact (s : State) (hs : Reachable s) :
    (∀ t, ¬ bound s t →
      ((∃ s', bindToken s t = .ok s') ↔ linkedTokenCount s < 10000) ∧
      (linkedTokenCount s = 9999 → ∃ s', bindToken s t = .ok s') ∧
      (linkedTokenCount s = 10000 → ∃ e, bindToken s t = .error e)) ∧
    (∀ ts, ts.Nodup → (∀ t, t ∈ ts → ¬ bound s t) → ts.length ≤ 200 →
      ((∃ s', bindTokens s ts = .ok s') ↔ linkedTokenCount s + ts.length ≤ 10000)) ∧
    (∀ ts, ts.length > 200 → ∃ e, bindTokens s ts = .error e) := by
  obtain ⟨l, h⟩ := reachable_inv hs
  have hc : linkedTokenCount s = l.length := h.count
  refine ⟨?_, ?_, ?_⟩
  · intro t hn
    have hnl : t ∉ l := fun hm => hn ((rep_isTokenBound h t).2 hm)
    refine limit_exact rfl ?_
    rw [hc]
    exact ⟨fun ⟨s', hok⟩ => ((bindToken_ok_iff h s' t).1 hok).1.2,
      fun hl => ⟨_, (bindToken_ok_iff h _ t).2 ⟨⟨hnl, hl⟩, rfl⟩⟩⟩
  · intro ts hnd hdis hlen
    rw [hc]
    have hdis' : ∀ t, t ∈ ts → t ∉ l := fun t ht hm => hdis t ht ((rep_isTokenBound h t).2 hm)
    constructor
    · rintro ⟨s', hok⟩; exact ((bindTokens_ok_iff h s' ts).1 hok).1.2.1
    · intro hl
      exact ⟨_, (bindTokens_ok_iff h _ ts).2 ⟨⟨by simpa [BUCKET_SIZE] using hlen, hl, hnd, hdis'⟩, rfl⟩⟩
  · intro ts hlen
    exact err_of_not_ok (fun s' hok => by
      have := ((bindTokens_ok_iff h s' ts).1 hok).1.1
      simp [BUCKET_SIZE] at this; omega)

/-- **binder_enumerates_once.** In a reachable state `get_token_by_index` is a bijection between
`0 .. count-1` and the bound tokens: defined exactly below the count, injective, onto the set;
and `get_token_index` is its inverse. -/
theorem binder_enumerates_once (s : State) (hs : Reachable s) :
    (∀ i, (getTokenByIndex s i).isSome = true ↔ i < linkedTokenCount s) ∧
    (∀ i t, getTokenByIndex s i = some t → bound s t) ∧
    (∀ i j t, getTokenByIndex s i = some t → getTokenByIndex s j = some t → i = j) ∧
    (∀ t, bound s t → ∃ i, i < linkedTokenCount s ∧ getTokenByIndex s i = some t) ∧
    (∀ t i, getTokenIndex s t = some i → getTokenByIndex s i = some t) := by
  obtain ⟨l, h⟩ := reachable_inv hs
  have hc : linkedTokenCount s = l.length := h.count
  refine ⟨?_, ?_, ?_, ?_, ?_⟩
  · intro i
    rw [rep_getTokenByIndex h, hc, isSome_getElem?]
  · intro i t hi
    rw [rep_getTokenByIndex h] at hi
    exact (rep_isTokenBound h t).2 (List.mem_iff_getElem?.2 ⟨i, hi⟩)
  · intro i j t hi hj
    rw [rep_getTokenByIndex h] at hi hj
    exact nodup_index_inj l h.nodup i j t hi hj
  · intro t hb
    obtain ⟨i, hi⟩ := List.mem_iff_getElem?.1 ((rep_isTokenBound h t).1 hb)
    refine ⟨i, ?_, by rw [rep_getTokenByIndex h]; exact hi⟩
    rw [hc]; rw [List.getElem?_eq_some_iff] at hi; exact hi.1
  · intro t i hi
    rw [rep_getTokenByIndex h]; exact rep_getTokenIndex_some h t i hi

/-! ### non-vacuity: a batch crossing a bucket boundary, then swap-and-pop across buckets -/

example :
    let s := run init [.bindMany (List.range 101), .unbind 3]
    linkedTokenCount s = 100 ∧ getTokenByIndex s 3 = some 100 ∧ getTokenIndex s 100 = some 3 ∧
    s.buckets 1 = [] ∧ isTokenBound s 3 = false ∧ isTokenBound s 100 = true := by decide +kernel

end OZ.Props.C20c
