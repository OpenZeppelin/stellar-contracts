import OZ.Props.C20GenKeys
import OZ.Lemmas.RegGen
/-
C20 — the claim issuer's signing-key registry (continued): `remove_key` exactly, and the two-way relation between the
per-topic key lists and the per-key (topic, registry) lists over EVERY history, on the code regenerated from
/repo's current `rwa/claim_issuer/storage.rs` (`lean/OZ/Gen/Keys.lean`).

`remove_key` is accepted exactly when the (topic, registry) pair is listed for the key (and, when no other pair of the
key carries the topic, the key is in the topic's list); it removes that pair — deleting the key's entry when it was the
last — and removes the key from the topic's list exactly when no other pair of the key carries the topic — deleting the
topic's entry when it was the last key.
`Inv` (a key is in a topic's list iff the key has some pair for that topic; both kinds of list duplicate-free) holds
after every finite history of allow_key / remove_key calls, accepted or not, from the empty store, hence the getter
`is_key_allowed_for_topic` answers true exactly when some authorisation (topic, registry) of the key is currently
recorded. Over every history no topic lists more than 50 keys and no key holds more than 20 pairs, and no stored entry
is ever an empty list (the writers delete instead), hence `get_keys_for_topic` answers the topic's list when a key is
allowed for it and traps exactly when none is.
-/
namespace OZ.Gen.Keys
open OZ.Rs

def removed (st : Keys.Store) (pk : List Nat) (reg sc t : Nat) : Keys.Store :=
  let ps := (pairsOf st ⟨pk, sc⟩).erase (t, reg)
  let st1 := if ps.isEmpty then Keys.Store.del_Pairs st ⟨pk, sc⟩ else Keys.Store.set_Pairs st ⟨pk, sc⟩ ps
  if ps.any (fun p => decide (p.1 = t)) then st1
  else
    let ks := (topicKeys st t).erase ⟨pk, sc⟩
    if ks.isEmpty then Keys.Store.del_Topics st1 t else Keys.Store.set_Topics st1 t ks

theorem removed_eq (st : Keys.Store) (pk : List Nat) (reg sc t : Nat) :
    removed st pk reg sc t =
      if ((pairsOf st ⟨pk, sc⟩).erase (t, reg)).any (fun p => decide (p.1 = t)) = true
      then storePairs st ⟨pk, sc⟩ ((pairsOf st ⟨pk, sc⟩).erase (t, reg))
      else storeTopics (storePairs st ⟨pk, sc⟩ ((pairsOf st ⟨pk, sc⟩).erase (t, reg))) t
        ((topicKeys st t).erase ⟨pk, sc⟩) := rfl

theorem remove_topic_half (st : Keys.Store) (k : Keys.SigningKey) (t : Nat) (b : Bool) :
    (if b = true then Comp.ok ((), st) else
      Comp.unwrap (st.Topics t) fun v =>
      Comp.unwrap (List.findIdx? (fun y => decide (y = k)) v) fun i =>
        if i < v.length then
          (if (v.eraseIdx i).isEmpty = true then Comp.ok ((), st.del_Topics t)
          else Comp.ok ((), st.set_Topics t (v.eraseIdx i)))
        else Comp.panic) =
      if b = true ∨ k ∈ topicKeys st t
      then .ok ((), if b = true then st else storeTopics st t ((topicKeys st t).erase k)) else .panic := by
  cases b with
  | true => rfl
  | false =>
    simp only [Bool.false_eq_true, if_false, false_or]
    unfold topicKeys
    cases st.Topics t with
    | none => exact (if_neg List.not_mem_nil).symm
    | some v =>
      rw [Comp.unwrap_some, Option.getD_some]
      cases hf : List.findIdx? (fun y => decide (y = k)) v with
      | none => exact (if_neg (OZ.RegGen.position_eq_none_iff.1 hf)).symm
      | some i =>
        obtain ⟨he, hlt, hm⟩ := OZ.RegGen.eraseIdx_of_findIdx?_eq_some hf
        rw [Comp.unwrap_some, if_pos hlt, he, if_pos hm]
        exact (apply_ite (fun s => Comp.ok ((), s)) _ _ _).symm

/-- **`remove_key`, exactly** -/
theorem gen_remove_key_iff (envr : Keys.Reads) (st : Keys.Store) (pk : List Nat) (reg sc t : Nat) :
    Keys.remove_key envr st pk reg sc t =
      if (t, reg) ∈ pairsOf st ⟨pk, sc⟩ ∧
          ((((pairsOf st ⟨pk, sc⟩).erase (t, reg)).any (fun p => decide (p.1 = t)) = true) ∨
            (⟨pk, sc⟩ : Keys.SigningKey) ∈ topicKeys st t)
      then .ok ((), removed st pk reg sc t) else .panic := by
  unfold Keys.remove_key
  rw [removed_eq]
  unfold pairsOf
  cases st.Pairs ⟨pk, sc⟩ with
  | none => exact (if_neg fun h => List.not_mem_nil h.1).symm
  | some v1 =>
    rw [Comp.unwrap_some, Option.getD_some]
    cases hf : List.findIdx? (fun y => decide (y = (t, reg))) v1 with
    | none => exact (if_neg fun h => OZ.RegGen.position_eq_none_iff.1 hf h.1).symm
    | some pos =>
      obtain ⟨he, hlt, hm⟩ := OZ.RegGen.eraseIdx_of_findIdx?_eq_some hf
      rw [optCase_some, if_pos hlt, he, remove_topic_half, remove_topic_half]
      simp only [and_iff_right hm]
      -- writing the pair list does not touch the topic lists
      cases v1.erase (t, reg) <;> rfl

theorem pairsOf_removed (st : Keys.Store) (pk : List Nat) (reg sc t : Nat) :
    pairsOf (removed st pk reg sc t) =
      Reg.updD (pairsOf st) ⟨pk, sc⟩ ((pairsOf st ⟨pk, sc⟩).erase (t, reg)) := by
  rw [removed_eq, apply_ite pairsOf, pairsOf_storeTopics, ite_self, pairsOf_storePairs]

theorem topicKeys_removed (st : Keys.Store) (pk : List Nat) (reg sc t : Nat) :
    topicKeys (removed st pk reg sc t) =
      Reg.unlistKey (topicKeys st) ((pairsOf st ⟨pk, sc⟩).erase (t, reg)) ⟨pk, sc⟩ t := by
  rw [removed_eq, apply_ite topicKeys, topicKeys_storeTopics, topicKeys_storePairs]
  rfl

structure Inv (st : Keys.Store) : Prop where
  two_way : ∀ k t, k ∈ topicKeys st t ↔ ∃ r, (t, r) ∈ pairsOf st k
  nd_pairs : ∀ k, (pairsOf st k).Nodup
  nd_topics : ∀ t, (topicKeys st t).Nodup

theorem inv_iff (st : Keys.Store) : Inv st ↔ Reg.TwoWay (topicKeys st) (pairsOf st) :=
  ⟨fun h => ⟨h.two_way, h.nd_pairs, h.nd_topics⟩, fun h => ⟨h.two_way, h.nd_pairs, h.nd_topics⟩⟩

theorem allowed_inv {st : Keys.Store} (h : Inv st) (pk : List Nat) (reg sc t : Nat)
    (hnew : (t, reg) ∉ pairsOf st ⟨pk, sc⟩) : Inv (allowed st pk reg sc t) := by
  rw [inv_iff, topicKeys_allowed, pairsOf_allowed]
  exact ((inv_iff st).1 h).allow hnew

theorem removed_inv {st : Keys.Store} (h : Inv st) (pk : List Nat) (reg sc t : Nat) :
    Inv (removed st pk reg sc t) := by
  rw [inv_iff, topicKeys_removed, pairsOf_removed]
  exact ((inv_iff st).1 h).remove _ t reg

inductive Op where
  | allow (pk : List Nat) (reg sc t : Nat)
  | remove (pk : List Nat) (reg sc t : Nat)

/-- a refused call (panic) is rolled back by the host -/
def step (envr : Keys.Reads) (st : Keys.Store) : Op → Keys.Store
  | .allow pk reg sc t => match Keys.allow_key envr st pk reg sc t with
      | .ok (_, st') => st'
      | .panic => st
  | .remove pk reg sc t => match Keys.remove_key envr st pk reg sc t with
      | .ok (_, st') => st'
      | .panic => st

theorem rollback_ite (c : Prop) [Decidable c] (a st : Keys.Store) :
    (match (if c then Comp.ok ((), a) else Comp.panic) with
      | .ok (_, st') => st'
      | .panic => st) = if c then a else st := by
  by_cases h : c
  · rw [if_pos h, if_pos h]
  · rw [if_neg h, if_neg h]

theorem step_preserves {P : Keys.Store → Prop} (envr : Keys.Reads)
    (ha : ∀ {st}, P st → ∀ pk reg sc t,
      ((⟨pk, sc⟩ : Keys.SigningKey) ∈ topicKeys st t ∨ (topicKeys st t).length < 50) →
      (t, reg) ∉ pairsOf st ⟨pk, sc⟩ → (pairsOf st ⟨pk, sc⟩).length < 20 → P (allowed st pk reg sc t))
    (hr : ∀ {st}, P st → ∀ pk reg sc t, P (removed st pk reg sc t))
    (st : Keys.Store) (op : Op) (h : P st) : P (step envr st op) := by
  cases op with
  | allow pk reg sc t =>
    rw [step, gen_allow_key_iff, rollback_ite]
    split
    · rename_i hc
      exact ha h pk reg sc t hc.2.2.1 hc.2.2.2.1 hc.2.2.2.2
    · exact h
  | remove pk reg sc t =>
    rw [step, gen_remove_key_iff, rollback_ite]
    split
    · exact hr h pk reg sc t
    · exact h

theorem step_inv (envr : Keys.Reads) {st : Keys.Store} (h : Inv st) (op : Op) : Inv (step envr st op) :=
  step_preserves envr (fun h pk reg sc t _ hnew _ => allowed_inv h pk reg sc t hnew) removed_inv st op h

def emptyStore : Keys.Store := ⟨fun _ => none, fun _ => none⟩

theorem empty_inv : Inv emptyStore :=
  ⟨fun _ _ => ⟨nofun, nofun⟩, fun _ => List.nodup_nil, fun _ => List.nodup_nil⟩

/-- **every history**: after any finite sequence of allow_key / remove_key calls (accepted or refused, any arguments,
any behaviour of the registry) from a fresh issuer the two families of lists agree -/
theorem run_inv (envr : Keys.Reads) (ops : List Op) : Inv (ops.foldl (step envr) emptyStore) :=
  OZ.Lists.foldl_inv (P := Inv) (fun _ op h => step_inv envr h op) ops _ empty_inv

/-- **both directions of the key/topic relation, on the generated code**: after every history the getter
`is_key_allowed_for_topic` answers true exactly when some (topic, registry) authorisation of that key is recorded
(granted by an accepted `allow_key` and not yet removed) -/
theorem gen_key_allowed_iff_authorized (envr : Keys.Reads) (ops : List Op) (pk : List Nat) (sc t : Nat) :
    Keys.is_key_allowed_for_topic envr (ops.foldl (step envr) emptyStore) pk sc t = .ok true ↔
      ∃ r, (t, r) ∈ pairsOf (ops.foldl (step envr) emptyStore) ⟨pk, sc⟩ := by
  rw [is_key_allowed_for_topic_eq, ← (run_inv envr ops).two_way]
  simp

/-- `MAX_KEYS_PER_TOPIC` (50), `MAX_REGISTRIES_PER_KEY` (20) -/
def Bounded (st : Keys.Store) : Prop :=
  (∀ t, (topicKeys st t).length ≤ 50) ∧ (∀ k, (pairsOf st k).length ≤ 20)

theorem allowed_bounded {st : Keys.Store} (h : Bounded st) (pk : List Nat) (reg sc t : Nat)
    (hroom : (⟨pk, sc⟩ : Keys.SigningKey) ∈ topicKeys st t ∨ (topicKeys st t).length < 50)
    (hl : (pairsOf st ⟨pk, sc⟩).length < 20) : Bounded (allowed st pk reg sc t) := by
  unfold Bounded
  rw [topicKeys_allowed, pairsOf_allowed]
  exact ⟨Reg.le_listKey h.1 hroom, Reg.le_updD h.2 _ (by rw [List.length_append]; exact hl)⟩

theorem removed_bounded {st : Keys.Store} (h : Bounded st) (pk : List Nat) (reg sc t : Nat) :
    Bounded (removed st pk reg sc t) := by
  unfold Bounded
  rw [topicKeys_removed, pairsOf_removed]
  exact ⟨Reg.le_unlistKey h.1 _ _ t, Reg.le_updD h.2 _ (Nat.le_trans List.length_erase_le (h.2 _))⟩

/-- **limits, every history**: no topic ever lists more than 50 keys, no key ever holds more than 20 pairs -/
theorem run_bounded (envr : Keys.Reads) (ops : List Op) : Bounded (ops.foldl (step envr) emptyStore) :=
  OZ.Lists.foldl_inv (P := Bounded)
    (step_preserves envr (fun h pk reg sc t hroom _ hl => allowed_bounded h pk reg sc t hroom hl) removed_bounded)
    ops _ ⟨fun _ => Nat.zero_le _, fun _ => Nat.zero_le _⟩

/-- the writers delete instead of storing `[]` -/
def NoEmpty (st : Keys.Store) : Prop :=
  (∀ t, st.Topics t ≠ some []) ∧ (∀ k, st.Pairs k ≠ some [])

theorem storePairs_noEmpty {st : Keys.Store} (h : NoEmpty st) (k : Keys.SigningKey) (l : List (Nat × Nat)) :
    NoEmpty (storePairs st k l) := by
  cases l <;> exact ⟨h.1, fun k' => OZ.RegGen.ite_ne nofun (h.2 k')⟩

theorem storeTopics_noEmpty {st : Keys.Store} (h : NoEmpty st) (t : Nat) (l : List Keys.SigningKey) :
    NoEmpty (storeTopics st t l) := by
  cases l <;> exact ⟨fun t' => OZ.RegGen.ite_ne nofun (h.1 t'), h.2⟩

theorem allowed_noEmpty {st : Keys.Store} (h : NoEmpty st) (pk : List Nat) (reg sc t : Nat) :
    NoEmpty (allowed st pk reg sc t) := by
  rw [allowed_eq]
  split
  · exact storePairs_noEmpty h _ _
  · exact storePairs_noEmpty (storeTopics_noEmpty h _ _) _ _

theorem removed_noEmpty {st : Keys.Store} (h : NoEmpty st) (pk : List Nat) (reg sc t : Nat) :
    NoEmpty (removed st pk reg sc t) := by
  rw [removed_eq]
  split
  · exact storePairs_noEmpty h _ _
  · exact storeTopics_noEmpty (storePairs_noEmpty h _ _) _ _

theorem run_noEmpty (envr : Keys.Reads) (ops : List Op) : NoEmpty (ops.foldl (step envr) emptyStore) :=
  OZ.Lists.foldl_inv (P := NoEmpty)
    (step_preserves envr (fun h pk reg sc t _ _ _ => allowed_noEmpty h pk reg sc t) removed_noEmpty)
    ops _ ⟨fun _ => nofun, fun _ => nofun⟩

/-- **`get_keys_for_topic` over every history**: it answers the topic's key list when some key is allowed for the topic
and traps (`NoKeysForTopic`) exactly when none is -/
theorem gen_get_keys_for_topic (envr : Keys.Reads) (ops : List Op) (t : Nat) :
    let st := ops.foldl (step envr) emptyStore
    (topicKeys st t ≠ [] → Keys.get_keys_for_topic envr st t = .ok (topicKeys st t)) ∧
    (topicKeys st t = [] → Keys.get_keys_for_topic envr st t = .panic) := by
  intro st
  have hne := (run_noEmpty envr ops).1 t
  unfold Keys.get_keys_for_topic topicKeys
  cases hT : st.Topics t with
  | none => exact ⟨fun h => absurd rfl h, fun _ => rfl⟩
  | some l => exact ⟨fun _ => rfl, fun e => absurd (hT.trans (congrArg some e)) hne⟩

/-- non-vacuity: allow then remove on the witness environment of C20GenKeys returns to the empty lists -/
example : let st := [Op.allow [7] 4 0 1, Op.remove [7] 4 0 1].foldl (step envr0) emptyStore
    topicKeys st 1 = [] ∧ pairsOf st ⟨[7], 0⟩ = [] := by decide
example : let st := [Op.allow [7] 4 0 1].foldl (step envr0) emptyStore
    topicKeys st 1 = [⟨[7], 0⟩] ∧ pairsOf st ⟨[7], 0⟩ = [(1, 4)] := by decide

end OZ.Gen.Keys
