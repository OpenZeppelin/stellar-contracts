import OZ.Lemmas.RegTopicsMon
/-
C20 (b) — soundness of the `topics` MONITOR that decides the property on implementation traces.

`./check C20` reports a concrete violation in a `topics` sequence exactly when
`OZ.RegTopics.Mon.checkCore` (the sub-driver's monitor on parsed values, OZ/Model/RegTopicsMon.lean)
returns a message on the implementation's observations. Here it is proved that on the observations
of the MODEL the monitor never returns a message, for all label parameters `nt`, `ni`, `ht` and every
finite history of `add_claim_topic` / `remove_claim_topic` / `add_trusted_issuer` /
`remove_trusted_issuer` / `update_issuer_claim_topics` with arbitrary arguments
(`monitor_accepts_every_model_trace`). Consequences: a monitor failure is never a false alarm of the
monitor itself, and every conclusion it evaluates (duplicates / absent entries / empty, repeated,
unknown or over-long topic arguments refused; the 15th topic and the 50th issuer accepted, the next
refused; `get_claim_topics` / `get_trusted_issuers` list the plain sets once; `get_claim_topic_issuers`
and `get_trusted_issuer_claim_topics` succeed exactly for listed keys and list the plain relation
once, in both directions; `get_claim_topics_and_issuers` succeeds and is the plain map;
`is_trusted_issuer` / `has_claim_topic` are membership) is a THEOREM about the model, in the
monitor's own executable wording.

`modelObs s nt ni ht ok` is the data the model driver prints for state `s` (`stepLine` / `showState`
of OZ/Drv/C20Topics.lean): the tag; `T=` / `I=` the vectors of `getClaimTopics` / `getTrustedIssuers`;
`TI=` / `IT=` the graphs of `getClaimTopicIssuers` over topics 0..nt-1 and of
`getTrustedIssuerClaimTopics` over issuers 0..ni-1 (only the keys for which the getter succeeds);
`M=` the entries of `getClaimTopicsAndIssuers` sorted by topic with the driver's `mergeSort`
(`Mraw` its printed form, `x` and no entries if the getter fails); `tr=` the bits of
`isTrustedIssuer` over issuers 0..ni-1; `h=` the cells of `hasClaimTopic` over issuers 0..ni-1 x
topics 0..ht-1 (`x` where it fails).
-/
namespace OZ.RegTopics.Mon
open OZ.Reg OZ.RegMon OZ.RegTopics

/-- the `h=` cells the model driver prints -/
def modelH (s : State) (ni ht : Nat) : List String :=
  (List.range ni).flatMap (fun i => (List.range ht).map (fun t =>
    match hasClaimTopic s i t with
    | none => "x"
    | some b => bit b))

/-- the observation the harness / the model driver print for a state -/
def modelObs (s : State) (nt ni ht : Nat) (ok : Bool) : Obs :=
  { ok := ok,
    T := getClaimTopics s,
    I := getTrustedIssuers s,
    TI := (List.range nt).filterMap (fun t => (getClaimTopicIssuers s t).map (fun l => (t, l))),
    IT := (List.range ni).filterMap (fun i => (getTrustedIssuerClaimTopics s i).map (fun l => (i, l))),
    Mraw := (match getClaimTopicsAndIssuers s with
      | none => "x"
      | some l => sepBy ";" ((l.mergeSort (fun (a b : Nat × List Nat) => decide (a.1 ≤ b.1))).map
          (fun (p : Nat × List Nat) => entry p.1 p.2))),
    M := (match getClaimTopicsAndIssuers s with
      | none => []
      | some l => l.mergeSort (fun (a b : Nat × List Nat) => decide (a.1 ≤ b.1))),
    tr := bits ((List.range ni).map (isTrustedIssuer s)),
    h := if (modelH s ni ht).isEmpty then "-" else "".intercalate (modelH s ni ht) }

def accepted (s : State) (op : Op) : Bool :=
  match step s op with
  | .ok _ => true
  | .error _ => false

theorem getters_quiet {g : Mon} {s : State} {nt ni ht : Nat} (ha : Agree g s nt ni ht) (hI : Inv s) (ok : Bool) :
    firstFail (getters g (modelObs s nt ni ht ok)) = none := by
  apply firstFail_all_none
  intro x hx
  unfold getters at hx
  simp only [List.mem_append, List.mem_cons, List.mem_map, List.not_mem_nil, or_false] at hx
  rcases hx with (((rfl | rfl) | ⟨t, ht', rfl⟩) | ⟨i, hi, rfl⟩) | rfl | rfl | rfl
  · exact chk_decide ⟨(nodupB_iff _).2 hI.tN, (sameSet_iff _ _).2 fun x => by rw [ha.topics]; rfl⟩ _
  · exact chk_decide ⟨(nodupB_iff _).2 hI.iN, (sameSet_iff _ _).2 fun x => by rw [ha.issuers]; rfl⟩ _
  · rw [ha.nt] at ht'
    exact tiCheck_quiet ha hI nt t ht'
  · rw [ha.ni] at hi
    exact itCheck_quiet ha hI ni i hi
  · refine chk_of ?_ _
    dsimp only [modelObs]
    rw [getClaimTopicsAndIssuers_eq hI]
    exact mOk_quiet ha hI _ (mraw_ne_x _)
  · refine chk_decide (congrArg bits ?_) _
    unfold trWant
    rw [ha.ni, ha.issuers]
    rfl
  · have hH : modelH s ni ht = hWant g := by
      unfold modelH hWant
      rw [ha.ni, ha.ht]
      exact List.flatMap_congr fun i _ => List.map_congr_left fun t _ => hcell_eq ha hI i t
    refine chk_decide ?_ _
    dsimp only [modelObs]
    rw [hH]

/-- **one call**: fed with the model's own observation of any call (accepted or refused), the
monitor reports nothing and its plain structure keeps describing the model's state -/
theorem monitor_sound_step {g : Mon} {s : State} {nt ni ht : Nat} (hI : Inv s) (ha : Agree g s nt ni ht) (op : Op) :
    (checkCore g op (modelObs (next s op) nt ni ht (accepted s op))).2 = none ∧
    Agree (checkCore g op (modelObs (next s op) nt ni ht (accepted s op))).1 (next s op) nt ni ht := by
  obtain ⟨g', hd, ha'⟩ := (decides ha hI op).quiet ha "topics" (near g op) (acc := accepted s op) (s1 := next s op)
    (fun s' h => by unfold accepted next; rw [h]; exact ⟨rfl, rfl⟩)
    (fun e h => by unfold accepted next; rw [h]; exact ⟨rfl, rfl⟩)
  unfold checkCore
  rw [show (modelObs (next s op) nt ni ht (accepted s op)).ok = accepted s op from rfl, hd]
  exact ⟨getters_quiet ha' (inv_next hI op) _, ha'⟩

def monitorRun (nt ni ht : Nat) : Mon → State → List Op → Option String
  | _, _, [] => none
  | g, s, op :: ops =>
    match (checkCore g op (modelObs (next s op) nt ni ht (accepted s op))).2 with
    | some msg => some msg
    | none => monitorRun nt ni ht (checkCore g op (modelObs (next s op) nt ni ht (accepted s op))).1 (next s op) ops

/-- the monitor's initial state for a sequence (what `minit` builds from the label) -/
def monInit (nt ni ht : Nat) : Mon := { topics := [], issuers := [], rel := [], nt := nt, ni := ni, ht := ht }

/-- **monitor soundness**: for all label parameters `nt`, `ni`, `ht` and every finite history of
`add_claim_topic` / `remove_claim_topic` / `add_trusted_issuer` / `remove_trusted_issuer` /
`update_issuer_claim_topics` — any topics, issuers and topic lists, accepted or refused — the
monitor that the sub-driver's `minit` builds reports nothing on the observations of the model that
the sub-driver's `initM` builds -/
theorem monitor_accepts_every_model_trace (nt ni ht : Nat) (ops : List Op) :
    monitorRun nt ni ht (monInit nt ni ht) init ops = none :=
  run_quiet (R := fun g s => Inv s ∧ Agree g s nt ni ht) (fun _ _ => rfl) (fun _ _ _ _ h => by rw [monitorRun, h]) ops
    (fun op _ _ _ ⟨hI, ha⟩ => ⟨(monitor_sound_step hI ha op).1, inv_next hI op, (monitor_sound_step hI ha op).2⟩)
    _ _ ⟨inv_init, rfl, rfl, rfl, rfl, rfl, fun i t => by simp [monInit, init, memO]⟩

/-- a refused 15th topic, an accepted duplicate topic, an accepted issuer with an unknown topic, an
issuer list naming an issuer twice, a reverse list missing an issuer, a map with a wrong key and a
wrong `has_claim_topic` cell are reported -/
example :
    (decide2 "topics" { monInit 1 1 1 with topics := List.range 14 } (plain { monInit 1 1 1 with topics := List.range 14 } (.addTopic 14))
      false (near { monInit 1 1 1 with topics := List.range 14 } (.addTopic 14))).2.isSome = true ∧
    (decide2 "topics" { monInit 1 1 1 with topics := [3] } (plain { monInit 1 1 1 with topics := [3] } (.addTopic 3)) true "valid").2.isSome = true ∧
    (decide2 "topics" (monInit 1 1 1) (plain (monInit 1 1 1) (.addIssuer 0 [7])) true "valid").2.isSome = true ∧
    (tiCheck { monInit 1 1 1 with topics := [0], issuers := [0], rel := [(0, 0)] } [(0, [0, 0])] 0).isSome = true ∧
    (tiCheck { monInit 1 1 1 with topics := [0], issuers := [0], rel := [(0, 0)] } [(0, [])] 0).isSome = true ∧
    mOk { monInit 1 1 1 with topics := [0] } "1:-" [(1, [])] = false ∧
    hWant { monInit 1 1 1 with topics := [0], issuers := [0], rel := [(0, 0)] } ≠ ["0"] := by
  refine ⟨by decide, by decide, by decide, by decide, by decide, ?_, by decide⟩
  simp [mOk, mWant, sortN]

end OZ.RegTopics.Mon
