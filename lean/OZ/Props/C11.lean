import OZ.Lemmas.NftStep
import OZ.Lemmas.NftBits
import OZ.Lemmas.NftLive
/-
C11 — An NFT moves only by its owner, its approved account or a live operator.

Models: OZ/Model/Nft.lean, NftEnumerable.lean, NftConsecutive.lean. All three flavours reach approvals through the
same `Base` functions
(`check_spender_approval`, `approve_for_owner`, `approve_for_all`, `get_approved`,
`is_approved_for_all`) on the shared `Core`; the per-token approval of the consecutive flavour
lives under the identically encoded storage key (observed by the correspondence: after every
transfer / burn `get_approved` is none). `auth` is the set of addresses authorizing the call.

`Justified c auth f id op`:  for `transfer` / `burn`:  `f ∈ auth`;
  for `transfer_from` / `burn_from` with spender `sp`:  `sp ∈ auth` and
  `sp = f ∨ get_approved(id) = sp ∨ is_approved_for_all(f, sp)`, all read in the state BEFORE the call.
-/
namespace OZ.C11
open OZ.Host OZ.Nft

/-! ## a token moves only when justified -/

/-- base flavour: an accepted transfer / burn takes the token from its CURRENT owner `f` and is
`Justified` (file head) -/
theorem move_authorized (cfg : Cfg) {s s' : Nft.State} {auth : List Nat} {op : Op} {r : Option Nat}
    (h : Nft.apply cfg s auth op = .ok (s', r)) {f id : Nat} (hm : op.moves = some (f, id)) :
    s.owner id = some f ∧ Justified s.toCore auth f id op :=
  (Nft.apply_did cfg h).1.moves hm

/-- enumerable flavour: an accepted call is the base call on `toState` (`NftEnum.apply_base`) -/
theorem move_authorized_enumerable (cfg : Cfg) {s s' : NftEnum.State} {auth : List Nat} {op : Op}
    {r : Option Nat} (h : NftEnum.apply cfg s auth op = .ok (s', r)) {f id : Nat}
    (hm : op.moves = some (f, id)) : s.owner id = some f ∧ Justified s.toCore auth f id op :=
  move_authorized cfg (NftEnum.apply_base cfg h) hm

/-- consecutive flavour (bit level): `owner_of` — which by C10 `consecutive_owner_of` is the
plain ownership map on every reachable state — names `f` -/
theorem move_authorized_consecutive (cfg : Cfg) {s s' : NftCons.BState} {auth : List Nat} {op : Op}
    {r : Option Nat} (h : NftCons.apply NftCons.bitOps cfg s auth op = .ok (s', r)) {f id : Nat}
    (hm : op.moves = some (f, id)) :
    NftCons.ownerOf NftCons.bitOps s id = .ok f ∧ Justified s.toCore auth f id op :=
  let ⟨a, b⟩ := (NftCons.apply_did _ cfg h).1.moves hm; ⟨NftCons.toOption_eq_some.mp a, b⟩

/-- … and on a reachable state of the consecutive flavour `f` is the owner in the plain map -/
theorem move_authorized_consecutive_spec (cfg : Cfg) {s s' : NftCons.BState} {spec : Nat → Option Nat}
    (hi : NftCons.GInv NftCons.bitOf NftCons.WFB s spec) {auth : List Nat} {op : Op} {r : Option Nat}
    (h : NftCons.apply NftCons.bitOps cfg s auth op = .ok (s', r)) {f id : Nat}
    (hm : op.moves = some (f, id)) : spec id = some f ∧ Justified s.toCore auth f id op := by
  obtain ⟨ho, hj⟩ := move_authorized_consecutive cfg h hm
  refine ⟨?_, hj⟩
  have := NftCons.ownerOf_impl_spec NftCons.bitOps_impl hi id
  rw [ho] at this; exact this.symm

/-! ## an approval is set only by the owner or a live operator of the owner -/

theorem approve_authorized (cfg : Cfg) {s s' : Nft.State} {auth : List Nat} {ap a id lu : Nat}
    {r : Option Nat} (h : Nft.apply cfg s auth (.approve ap a id lu) = .ok (s', r)) :
    ap ∈ auth ∧ ∃ o, s.owner id = some o ∧ (ap = o ∨ isApprovedForAll s.toCore o ap = true) :=
  ⟨(Nft.apply_did cfg h).1, (Nft.apply_did cfg h).2.approve⟩

theorem approve_authorized_enumerable (cfg : Cfg) {s s' : NftEnum.State} {auth : List Nat}
    {ap a id lu : Nat} {r : Option Nat} (h : NftEnum.apply cfg s auth (.approve ap a id lu) = .ok (s', r)) :
    ap ∈ auth ∧ ∃ o, s.owner id = some o ∧ (ap = o ∨ isApprovedForAll s.toCore o ap = true) :=
  approve_authorized cfg (NftEnum.apply_base cfg h)

theorem approve_authorized_consecutive (cfg : Cfg) {s s' : NftCons.BState} {auth : List Nat}
    {ap a id lu : Nat} {r : Option Nat}
    (h : NftCons.apply NftCons.bitOps cfg s auth (.approve ap a id lu) = .ok (s', r)) :
    ap ∈ auth ∧ ∃ o, NftCons.ownerOf NftCons.bitOps s id = .ok o ∧
      (ap = o ∨ isApprovedForAll s.toCore o ap = true) :=
  let ⟨o, ho, h2⟩ := (NftCons.apply_did _ cfg h).2.approve
  ⟨(NftCons.apply_did _ cfg h).1, o, NftCons.toOption_eq_some.mp ho, h2⟩

/-- operator approvals are granted only with the owner's own authorization -/
theorem approve_for_all_authorized (cfg : Cfg) {s s' : Nft.State} {auth : List Nat} {o p lu : Nat}
    {r : Option Nat} (h : Nft.apply cfg s auth (.approveForAll o p lu) = .ok (s', r)) : o ∈ auth :=
  (Nft.apply_did cfg h).2.grant

theorem approve_for_all_authorized_consecutive (cfg : Cfg) {s s' : NftCons.BState} {auth : List Nat}
    {o p lu : Nat} {r : Option Nat}
    (h : NftCons.apply NftCons.bitOps cfg s auth (.approveForAll o p lu) = .ok (s', r)) : o ∈ auth :=
  (NftCons.apply_did _ cfg h).2.grant

/-! ## any transfer or burn clears the token's approval -/

theorem update_clears_approval (cfg : Cfg) {s s' : Nft.State} {auth : List Nat} {op : Op} {r : Option Nat}
    (h : Nft.apply cfg s auth op = .ok (s', r)) {f id : Nat} (hm : op.moves = some (f, id)) :
    s'.approval id = none ∧ getApproved s'.toCore id = none :=
  (Nft.apply_did cfg h).2.clears hm

theorem update_clears_approval_enumerable (cfg : Cfg) {s s' : NftEnum.State} {auth : List Nat} {op : Op}
    {r : Option Nat} (h : NftEnum.apply cfg s auth op = .ok (s', r)) {f id : Nat}
    (hm : op.moves = some (f, id)) : s'.approval id = none ∧ getApproved s'.toCore id = none :=
  update_clears_approval cfg (NftEnum.apply_base cfg h) hm

/-- consecutive flavour; the model has ONE `approval` map: that `NFTConsecutiveStorageKey::Approval(id)` is the
key `Base::get_approved` reads is a modelling decision (file head) -/
theorem update_clears_approval_consecutive (cfg : Cfg) {s s' : NftCons.BState} {auth : List Nat} {op : Op}
    {r : Option Nat} (h : NftCons.apply NftCons.bitOps cfg s auth op = .ok (s', r)) {f id : Nat}
    (hm : op.moves = some (f, id)) : s'.approval id = none ∧ getApproved s'.toCore id = none :=
  (NftCons.apply_did _ cfg h).2.clears hm

/-! ## approvals never carry over -/

/-- once a token has no approval entry (in particular right after any transfer or burn, see
`update_clears_approval`), `get_approved` stays none through every later history — whatever
the ledger does — until an `approve` for that very token is accepted, which by
`approve_authorized` takes the THEN-current owner or one of its live operators -/
theorem no_approval_carry_over (cfg : Cfg) (ops : List (List Nat × Op)) (s : Nft.State) (id : Nat)
    (hn : s.approval id = none) (hx : ∀ x ∈ ops, x.2.approves id = false) :
    getApproved (Nft.run cfg s ops).toCore id = none :=
  getApproved_none_of_entry_none (Nft.run_approval_none cfg ops s id hn hx)

theorem no_approval_carry_over_enumerable (cfg : Cfg) (ops : List (List Nat × Op)) (s : NftEnum.State)
    (id : Nat) (hn : s.approval id = none) (hx : ∀ x ∈ ops, x.2.approves id = false) :
    getApproved (NftEnum.run cfg s ops).toCore id = none :=
  getApproved_none_of_entry_none (NftEnum.run_approval_none cfg ops s id hn hx)

theorem no_approval_carry_over_consecutive (cfg : Cfg) (ops : List (List Nat × Op)) (s : NftCons.BState)
    (id : Nat) (hn : s.approval id = none) (hx : ∀ x ∈ ops, x.2.approves id = false) :
    getApproved (NftCons.run NftCons.bitOps cfg s ops).toCore id = none :=
  getApproved_none_of_entry_none (NftCons.run_approval_none NftCons.bitOps cfg ops s id hn hx)

/-! ## operator approvals concern only the approving owner's tokens -/

/-- a spender that is neither the owner nor the token's approved account moves a token only
through the operator entry of the token's CURRENT owner -/
theorem operator_scope (cfg : Cfg) {s s' : Nft.State} {auth : List Nat} {op : Op} {r : Option Nat}
    (h : Nft.apply cfg s auth op = .ok (s', r)) {f id sp : Nat} (hm : op.moves = some (f, id))
    (hsp : op.spender = some sp) (h1 : sp ≠ f) (h2 : getApproved s.toCore id ≠ some sp) :
    s.owner id = some f ∧ isApprovedForAll s.toCore f sp = true :=
  let ⟨ho, hj⟩ := move_authorized cfg h hm; ⟨ho, NftMon.operator_of_justified hj hsp h1 h2⟩

theorem operator_scope_consecutive (cfg : Cfg) {s s' : NftCons.BState} {auth : List Nat} {op : Op}
    {r : Option Nat} (h : NftCons.apply NftCons.bitOps cfg s auth op = .ok (s', r)) {f id sp : Nat}
    (hm : op.moves = some (f, id)) (hsp : op.spender = some sp) (h1 : sp ≠ f)
    (h2 : getApproved s.toCore id ≠ some sp) :
    NftCons.ownerOf NftCons.bitOps s id = .ok f ∧ isApprovedForAll s.toCore f sp = true :=
  let ⟨ho, hj⟩ := move_authorized_consecutive cfg h hm; ⟨ho, NftMon.operator_of_justified hj hsp h1 h2⟩

/-- `approve_for_all(o, p, ..)` touches exactly the entry `(o, p)`: no other operator pair, no
per-token approval (shared `Base::approve_for_all`, all flavours) -/
theorem operator_grant_is_local {cfg : Cfg} {c c' : Core} {auth : List Nat} {o p lu : Nat}
    (h : approveForAll cfg c auth o p lu = .ok c') :
    (∀ o' p', ¬ (o' = o ∧ p' = p) → isApprovedForAll c' o' p' = isApprovedForAll c o' p') ∧
    (∀ id, getApproved c' id = getApproved c id) := by
  obtain ⟨_, _, rfl⟩ := approveForAll_eq_ok_iff.mp h
  refine ⟨fun o' p' hne => ?_, fun id => rfl⟩
  unfold isApprovedForAll
  dsimp only
  rw [upd2_other _ _ _ _ _ _ hne]

/-! ## expiry and revocation -/

/-- what counts is live: a reading of `get_approved` / `is_approved_for_all` comes from an entry
whose `live_until_ledger` has not passed -/
theorem expiry_and_revoke {c : Core} :
    (∀ id a, getApproved c id = some a →
      ∃ e, c.approval id = some e ∧ e.val.approved = a ∧ c.now ≤ e.val.liveUntilLedger) ∧
    (∀ o p, isApprovedForAll c o p = true → ∃ e, c.operator o p = some e ∧ c.now ≤ e.val) ∧
    (∀ id e, c.approval id = some e → e.val.liveUntilLedger < c.now → getApproved c id = none) ∧
    (∀ o p e, c.operator o p = some e → e.val < c.now → isApprovedForAll c o p = false) := by
  refine ⟨?_, ?_, ?_, ?_⟩
  · intro id a h
    obtain ⟨e, h1, h2, h3, _⟩ := getApproved_some h
    exact ⟨e, h1, h2, h3⟩
  · intro o p h
    obtain ⟨e, h1, h2, _⟩ := isApprovedForAll_true h
    exact ⟨e, h1, h2⟩
  · intro id e h1 h2; exact getApproved_expired h1 h2
  · intro o p e h1 h2; exact isApprovedForAll_expired h1 h2

/-- `approve_for_owner` (the body of `approve` in all flavours): `live_until_ledger = 0` revokes;
otherwise the approval is readable exactly up to and including `live_until_ledger`, at whatever
ledger later states are (as long as the entry is not rewritten) -/
theorem approve_sets_exact_expiry {cfg : Cfg} {c c' : Core} {o ap a id lu : Nat}
    (h : approveForOwner cfg c o ap a id lu = .ok c') :
    (lu = 0 → getApproved c' id = none) ∧
    (lu ≠ 0 → c.now ≤ lu ∧ ∀ c'' : Core, c''.approval id = c'.approval id →
      getApproved c'' id = if c''.now ≤ lu then some a else none) := by
  obtain ⟨_, hw, rfl⟩ := approveForOwner_eq_ok_iff.mp h
  refine ⟨fun hl => getApproved_none_of_entry_none ((upd_same ..).trans (liveEntry_zero hl)), fun hl => ?_⟩
  obtain ⟨e, he, hv, hlive⟩ := liveEntry_pos (cfg := cfg) (t := c.approval id) (now := c.now)
    (v := (⟨a, lu⟩ : ApprovalData)) hl
  refine ⟨(hw.resolve_left hl).1, fun c'' hc => ?_⟩
  have := getApproved_entry (c := c'') (hc.trans ((upd_same ..).trans he)) (by rw [hv]; exact hlive)
  rw [this, hv]

/-- the same for operators: `approve_for_all(o, p, 0)` revokes; otherwise `p` is an operator of
`o` exactly up to and including `live_until_ledger` -/
theorem approve_for_all_sets_exact_expiry {cfg : Cfg} {c c' : Core} {auth : List Nat} {o p lu : Nat}
    (h : approveForAll cfg c auth o p lu = .ok c') :
    (lu = 0 → isApprovedForAll c' o p = false) ∧
    (lu ≠ 0 → c.now ≤ lu ∧ ∀ c'' : Core, c''.operator o p = c'.operator o p →
      isApprovedForAll c'' o p = decide (c''.now ≤ lu)) := by
  obtain ⟨_, hw, rfl⟩ := approveForAll_eq_ok_iff.mp h
  refine ⟨fun hl => isApprovedForAll_none ((upd2_same ..).trans (liveEntry_zero hl)), fun hl => ?_⟩
  obtain ⟨e, he, hv, hlive⟩ := liveEntry_pos (cfg := cfg) (t := c.operator o p) (now := c.now) (v := lu) hl
  refine ⟨(hw.resolve_left hl).1, fun c'' hc => ?_⟩
  have := isApprovedForAll_entry (c := c'') (hc.trans ((upd2_same ..).trans he)) (by rw [hv]; exact hlive)
  rw [this, hv]

/-- the `approve` entry point of each flavour is `approve_for_owner` on the shared core, with the
flavour's own `owner_of` -/
theorem approve_is_approve_for_owner (cfg : Cfg) {auth : List Nat} {ap a id lu : Nat} {r : Option Nat} :
    (∀ {s s' : Nft.State}, Nft.apply cfg s auth (.approve ap a id lu) = .ok (s', r) →
      ∃ o, s.owner id = some o ∧ approveForOwner cfg s.toCore o ap a id lu = .ok s'.toCore) ∧
    (∀ {s s' : NftEnum.State}, NftEnum.apply cfg s auth (.approve ap a id lu) = .ok (s', r) →
      ∃ o, s.owner id = some o ∧ approveForOwner cfg s.toCore o ap a id lu = .ok s'.toCore) ∧
    (∀ {s s' : NftCons.BState}, NftCons.apply NftCons.bitOps cfg s auth (.approve ap a id lu) = .ok (s', r) →
      ∃ o, NftCons.ownerOf NftCons.bitOps s id = .ok o ∧
        approveForOwner cfg s.toCore o ap a id lu = .ok s'.toCore) :=
  ⟨fun h => (Nft.apply_did cfg h).2, fun h => (Nft.apply_did cfg (NftEnum.apply_base cfg h)).2,
   fun h => let ⟨o, ho, hc⟩ := (NftCons.apply_did _ cfg h).2; ⟨o, NftCons.toOption_eq_some.mp ho, hc⟩⟩

/-! ## conversely: an authorized spender / approver is never refused -/

/-- base flavour: `transfer_from` succeeds iff the spender authorizes, is the owner, the live
approved account or a live operator of `from`, `from` owns the token, and the recipient's balance
`checked_add` does not overflow -/
theorem transfer_from_succeeds_iff (cfg : Cfg) {L : List Nat} {s : Nft.State} (hi : Inv L s)
    {auth : List Nat} {sp f t id : Nat} :
    (∃ p, Nft.apply cfg s auth (.transferFrom sp f t id) = .ok p) ↔
      (sp ∈ auth ∧ (sp = f ∨ getApproved s.toCore id = some sp ∨ isApprovedForAll s.toCore f sp = true) ∧
        s.owner id = some f ∧ upd s.bal f (s.bal f - 1) t + 1 ≤ U32_MAX) :=
  Nft.apply_move_iff cfg hi.owner_pos rfl

theorem transfer_from_succeeds_iff_enumerable (cfg : Cfg) {s : NftEnum.State} (hi : NftEnum.EInv s)
    {auth : List Nat} {sp f t id : Nat} :
    (∃ p, NftEnum.apply cfg s auth (.transferFrom sp f t id) = .ok p) ↔
      (sp ∈ auth ∧ (sp = f ∨ getApproved s.toCore id = some sp ∨ isApprovedForAll s.toCore f sp = true) ∧
        s.owner id = some f ∧ upd s.bal f (s.bal f - 1) t + 1 ≤ U32_MAX) :=
  (NftEnum.apply_move_iff_base cfg hi rfl).trans (Nft.apply_move_iff cfg hi.owner_pos rfl)

theorem transfer_from_succeeds_iff_consecutive (cfg : Cfg) {s : NftCons.BState} {spec : Nat → Option Nat}
    (hi : NftCons.GInv NftCons.bitOf NftCons.WFB s spec) {auth : List Nat} {sp f t id : Nat} :
    (∃ p, NftCons.apply NftCons.bitOps cfg s auth (.transferFrom sp f t id) = .ok p) ↔
      (sp ∈ auth ∧ (sp = f ∨ getApproved s.toCore id = some sp ∨ isApprovedForAll s.toCore f sp = true) ∧
        spec id = some f ∧ upd s.bal f (s.bal f - 1) t + 1 ≤ U32_MAX) :=
  NftCons.apply_move_iff NftCons.bitOps_impl cfg hi rfl

/-- `burn_from` likewise, without an overflow condition -/
theorem burn_from_succeeds_iff (cfg : Cfg) :
    (∀ {L : List Nat} {s : Nft.State}, Inv L s → ∀ {auth : List Nat} {sp f id : Nat},
      ((∃ p, Nft.apply cfg s auth (.burnFrom sp f id) = .ok p) ↔
        (sp ∈ auth ∧ SpenderOK s.toCore sp f id ∧ s.owner id = some f))) ∧
    (∀ {s : NftEnum.State}, NftEnum.EInv s → ∀ {auth : List Nat} {sp f id : Nat},
      ((∃ p, NftEnum.apply cfg s auth (.burnFrom sp f id) = .ok p) ↔
        (sp ∈ auth ∧ SpenderOK s.toCore sp f id ∧ s.owner id = some f))) ∧
    (∀ {s : NftCons.BState} {spec : Nat → Option Nat}, NftCons.GInv NftCons.bitOf NftCons.WFB s spec →
      ∀ {auth : List Nat} {sp f id : Nat},
      ((∃ p, NftCons.apply NftCons.bitOps cfg s auth (.burnFrom sp f id) = .ok p) ↔
        (sp ∈ auth ∧ SpenderOK s.toCore sp f id ∧ spec id = some f))) :=
  ⟨fun hi => Nft.apply_move_iff cfg hi.owner_pos rfl,
   fun hi => (NftEnum.apply_move_iff_base cfg hi rfl).trans (Nft.apply_move_iff cfg hi.owner_pos rfl),
   fun hi => NftCons.apply_move_iff NftCons.bitOps_impl cfg hi rfl⟩

/-- `approve` succeeds iff the approver authorizes, the token exists, the approver is its owner
or a live operator of the owner, and `live_until_ledger` is 0 or lies between the current
ledger and the host's `max_live_until_ledger` (base and enumerable flavour: no invariant needed) -/
theorem approve_succeeds_iff (cfg : Cfg) {s : Nft.State} {auth : List Nat} {ap a id lu : Nat} :
    (∃ p, Nft.apply cfg s auth (.approve ap a id lu) = .ok p) ↔
      (ap ∈ auth ∧ ∃ o, s.owner id = some o ∧ (ap = o ∨ isApprovedForAll s.toCore o ap = true) ∧
        LiveUntilOK cfg s.now lu) := by
  show (∃ p, (Nft.approve cfg s auth ap a id lu >>= fun x => pure (x, none)) = .ok p) ↔ _
  rw [pure_pair_iff]; exact Nft.approve_iff cfg

theorem approve_succeeds_iff_enumerable (cfg : Cfg) {s : NftEnum.State} {auth : List Nat} {ap a id lu : Nat} :
    (∃ p, NftEnum.apply cfg s auth (.approve ap a id lu) = .ok p) ↔
      (ap ∈ auth ∧ ∃ o, s.owner id = some o ∧ (ap = o ∨ isApprovedForAll s.toCore o ap = true) ∧
        LiveUntilOK cfg s.now lu) := by
  show (∃ p, (Nft.approve cfg s.toState auth ap a id lu >>= fun b => pure (({ s with toState := b } : NftEnum.State), (none : Option Nat))) = .ok p) ↔ _
  rw [exists_bind_eq_ok_iff, ← Nft.approve_iff cfg]
  constructor
  · rintro ⟨b, hb, _⟩; exact ⟨b, hb⟩
  · rintro ⟨b, hb⟩; exact ⟨b, hb, _, rfl⟩

theorem approve_succeeds_iff_consecutive (cfg : Cfg) {s : NftCons.BState} {spec : Nat → Option Nat}
    (hi : NftCons.GInv NftCons.bitOf NftCons.WFB s spec) {auth : List Nat} {ap a id lu : Nat} :
    (∃ p, NftCons.apply NftCons.bitOps cfg s auth (.approve ap a id lu) = .ok p) ↔
      (ap ∈ auth ∧ ∃ o, spec id = some o ∧ (ap = o ∨ isApprovedForAll s.toCore o ap = true) ∧
        LiveUntilOK cfg s.now lu) := by
  show (∃ p, (NftCons.approve NftCons.bitOps cfg s auth ap a id lu >>= fun x => pure (x, none)) = .ok p) ↔ _
  rw [pure_pair_iff]; exact NftCons.approve_iff NftCons.bitOps_impl cfg hi

/-- `approve_for_all` (shared by all flavours) succeeds iff the owner authorizes and
`live_until_ledger` is acceptable -/
theorem approve_for_all_succeeds_iff {cfg : Cfg} {c : Core} {auth : List Nat} {o p lu : Nat} :
    (∃ c', approveForAll cfg c auth o p lu = .ok c') ↔ (o ∈ auth ∧ LiveUntilOK cfg c.now lu) :=
  approveForAll_iff

/-! ## non-vacuity -/

/-- owner 1 approves 2 for token 0 until ledger 12; at ledger 12 account 2 moves it, the approval
is gone afterwards; at ledger 13 the same history is rejected -/
example : ((Nft.run ⟨1, 1000⟩ (Nft.init 10)
    [([], .mintSeq 1), ([1], .approve 1 2 0 12), ([], .advance 2), ([2], .transferFrom 2 1 3 0)]).owner 0,
    getApproved (Nft.run ⟨1, 1000⟩ (Nft.init 10)
    [([], .mintSeq 1), ([1], .approve 1 2 0 12), ([], .advance 2), ([2], .transferFrom 2 1 3 0)]).toCore 0)
    = (some 3, none) := by decide

example : (Nft.run ⟨1, 1000⟩ (Nft.init 10)
    [([], .mintSeq 1), ([1], .approve 1 2 0 12), ([], .advance 3), ([2], .transferFrom 2 1 3 0)]).owner 0
    = some 1 := by decide

set_option maxRecDepth 8000 in
/-- an operator of the previous owner cannot move the token after it changed hands -/
example : (NftCons.ownerOf NftCons.bitOps (NftCons.run NftCons.bitOps ⟨1, 1000⟩ (NftCons.init NftCons.noBuckets 10)
    [([], .batchMint 1 40), ([1], .approveForAll 1 4 50), ([1], .transfer 1 2 7),
     ([4], .transferFrom 4 2 4 7), ([4], .transferFrom 4 1 4 8)]) 7).toOption = some 2 := by decide

set_option maxRecDepth 8000 in
example : (NftCons.ownerOf NftCons.bitOps (NftCons.run NftCons.bitOps ⟨1, 1000⟩ (NftCons.init NftCons.noBuckets 10)
    [([], .batchMint 1 40), ([1], .approveForAll 1 4 50), ([1], .transfer 1 2 7),
     ([4], .transferFrom 4 2 4 7), ([4], .transferFrom 4 1 4 8)]) 8).toOption = some 4 := by decide

/-- `LiveUntilOK`: with max_entry_ttl 1000 at ledger 10, 1009 is the last acceptable ledger -/
example : LiveUntilOK ⟨1, 1000⟩ 10 1009 ∧ ¬ LiveUntilOK ⟨1, 1000⟩ 10 1010 ∧ LiveUntilOK ⟨1, 1000⟩ 10 0 ∧
    ¬ LiveUntilOK ⟨1, 1000⟩ 10 9 := by
  unfold LiveUntilOK Cfg.maxLiveUntil; decide

end OZ.C11
