import OZ.Lemmas.AccessOps
/-
C06 — Privileged functions obey the role, admin and owner hierarchy.

The model (OZ/Model/Access.lean) mirrors
packages/access/src/access_control/storage.rs key by key (RoleAccounts, HasRole,
RoleAccountsCount, RoleAdmin, ExistingRoles with MAX_ROLES, swap-and-pop exactly as coded),
the admin / owner machines of OZ/Model/RoleTransfer.lean, and the attribute macros of
packages/macros as guard-then-body.

Histories `ops` are arbitrary finite lists of calls — grant / revoke / renounce, the
`*_no_auth` library functions, set_role_admin (chains, cycles, self-administration), admin and
owner hand-over and renounce, macro-guarded entry points, ledger advances — each issued by any
caller with an arbitrary authorizing subset, over any number of accounts and roles.
`runG` runs the model and, beside it, the plain set `setStep` of (account, role) pairs granted
and not since revoked, which looks at accepted calls only.
-/
namespace OZ.Access
open OZ.Host

/-- **C06, authority over membership**: after any history, if a call changes whether `a`
holds role `r`, then it is a grant / revoke of exactly that pair whose caller authorizes the
call and is the contract admin or holds the admin role of `r`; or `a` renouncing `r` itself
with its own authorization; or one of the unguarded library functions (`*_no_auth`, which
are not entry points of the `AccessControl` trait). No other call, by anyone, with any
authorization, touches the membership of any pair. -/
theorem membership_change_authorized (c : Cfg) (admin owner : Option Nat) (now : Nat)
    (ops : List (List Nat × Op)) (auth : List Nat) (op : Op) (s' : State)
    (h : apply c (run c (init admin owner now) ops) auth op = .ok s') (a r : Nat)
    (hch : memb s' a r ≠ memb (run c (init admin owner now) ops) a r) :
    (∃ k, (op = .grant a r k ∨ op = .revoke a r k) ∧ k ∈ auth ∧
      (getAdmin (run c (init admin owner now) ops) = some k ∨
       ∃ ar, getRoleAdmin (run c (init admin owner now) ops) r = some ar ∧
         memb (run c (init admin owner now) ops) k ar = true)) ∨
    (op = .renounce r a ∧ a ∈ auth ∧ memb (run c (init admin owner now) ops) a r = true) ∨
    (∃ k, op = .grantNoAuth a r k ∨ op = .revokeNoAuth a r k) := by
  have hi := reachable_inv c admin owner now ops
  generalize run c (init admin owner now) ops = s at *
  obtain ⟨-, hm⟩ := apply_effect hi h
  rw [hm] at hch
  have key : ∀ (a' r' : Nat) (v : Bool), upd2 (memb s) a' r' v a r ≠ memb s a r → a = a' ∧ r = r' := by
    intro a' r' v hne
    apply Classical.byContradiction
    intro hc
    exact hne (upd2_other _ _ _ _ _ _ hc)
  have entitled : ∀ k, (isAdmin s k || isAdminRole s r k) = true →
      getAdmin s = some k ∨ ∃ ar, getRoleAdmin s r = some ar ∧ memb s k ar = true :=
    fun k => (mayAdminister_iff s r k).mp
  cases op with
  | grant a' r' k =>
    obtain ⟨e1, e2⟩ := key a' r' true hch; subst e1; subst e2
    obtain ⟨hk, hent, -⟩ := grantRole_ok h
    exact Or.inl ⟨k, Or.inl rfl, hk, entitled k hent⟩
  | revoke a' r' k =>
    obtain ⟨e1, e2⟩ := key a' r' false hch; subst e1; subst e2
    obtain ⟨hk, hent, -⟩ := revokeRole_ok h
    exact Or.inl ⟨k, Or.inr rfl, hk, entitled k hent⟩
  | renounce r' k =>
    obtain ⟨e1, e2⟩ := key k r' false hch; subst e1; subst e2
    obtain ⟨hk, h⟩ := renounceRole_ok h
    exact Or.inr (Or.inl ⟨rfl, hk, (revokeRoleNoAuth_ok h).1⟩)
  | grantNoAuth a' r' k =>
    obtain ⟨e1, e2⟩ := key a' r' true hch; subst e1; subst e2
    exact Or.inr (Or.inr ⟨k, Or.inl rfl⟩)
  | revokeNoAuth a' r' k =>
    obtain ⟨e1, e2⟩ := key a' r' false hch; subst e1; subst e2
    exact Or.inr (Or.inr ⟨k, Or.inr rfl⟩)
  | _ => exact absurd rfl hch

/-- **C06, `has_role`**: after any history `has_role(a, r)` is `Some` exactly for the pairs
granted and not since revoked -/
theorem has_role_refines_set (c : Cfg) (admin owner : Option Nat) (now : Nat)
    (ops : List (List Nat × Op)) (a r : Nat) :
    (hasRoleQ (runG c (initG admin owner now) ops).s a r).isSome
      = (runG c (initG admin owner now) ops).g a r := by
  have := (reachable_ginv c admin owner now ops).set
  exact congrFun (congrFun this a) r

/-- **C06, index map and enumeration are inverse**: `has_role(a, r) = Some(i)` iff
`i < count` and `get_role_member(r, i) = a` -/
theorem enumeration_inverse (c : Cfg) (admin owner : Option Nat) (now : Nat)
    (ops : List (List Nat × Op)) (a r i : Nat) :
    hasRoleQ (runG c (initG admin owner now) ops).s a r = some i ↔
      (i < cnt (runG c (initG admin owner now) ops).s r ∧
       getRoleMember (runG c (initG admin owner now) ops).s r i = .ok a) := by
  have hi := ((reachable_ginv c admin owner now ops).inv.role r)
  generalize (runG c (initG admin owner now) ops).s = s at *
  constructor
  · intro h
    obtain ⟨h1, h2⟩ := hi.back a i h
    exact ⟨h1, by unfold getRoleMember; rw [h2]⟩
  · rintro ⟨h1, h2⟩
    obtain ⟨b, hb1, hb2⟩ := hi.fwd i h1
    unfold getRoleMember at h2
    rw [hb1] at h2
    injection h2 with h2; subst h2
    exact hb2

/-- **C06, gap-free enumeration**: `get_role_member(r, i)` succeeds exactly for
`i < get_role_member_count(r)`; in particular `get_role_member(r, count)` fails -/
theorem enumeration_gap_free (c : Cfg) (admin owner : Option Nat) (now : Nat)
    (ops : List (List Nat × Op)) (r i : Nat) :
    (∃ a, getRoleMember (runG c (initG admin owner now) ops).s r i = .ok a) ↔
      i < cnt (runG c (initG admin owner now) ops).s r := by
  have hi := ((reachable_ginv c admin owner now ops).inv.role r)
  generalize (runG c (initG admin owner now) ops).s = s at *
  constructor
  · rintro ⟨a, h⟩
    apply Classical.byContradiction
    intro hn
    unfold getRoleMember at h
    rw [hi.beyond i (by omega)] at h
    cases h
  · intro h
    obtain ⟨a, ha, -⟩ := hi.fwd i h
    exact ⟨a, by unfold getRoleMember; rw [ha]⟩

/-- **C06, the enumeration lists the set**: reading `get_role_member(r, 0 .. count-1)` yields
`count` answers, none failing, no account twice, and exactly the accounts `a` with `(a, r)`
granted and not since revoked — so `get_role_member_count(r)` is the number of such accounts -/
theorem members_enumerate_set (c : Cfg) (admin owner : Option Nat) (now : Nat)
    (ops : List (List Nat × Op)) (r : Nat) :
    (members (runG c (initG admin owner now) ops).s r).length
        = cnt (runG c (initG admin owner now) ops).s r ∧
    (members (runG c (initG admin owner now) ops).s r).Nodup ∧
    none ∉ members (runG c (initG admin owner now) ops).s r ∧
    ∀ a, some a ∈ members (runG c (initG admin owner now) ops).s r ↔
      (runG c (initG admin owner now) ops).g a r = true := by
  have hg := reachable_ginv c admin owner now ops
  have hi := hg.inv.role r
  have hs : ∀ a, memb (runG c (initG admin owner now) ops).s a r = (runG c (initG admin owner now) ops).g a r :=
    fun a => congrFun (congrFun hg.set a) r
  generalize (runG c (initG admin owner now) ops).g = g at *
  generalize (runG c (initG admin owner now) ops).s = s at *
  refine ⟨Mon.members_length s r, ?_, ?_, ?_⟩
  · rw [← Mon.enumOf_some hi]
    exact (Mon.enumOf_nodup hi).map some fun _ _ hab e => hab (Option.some.inj e)
  · intro h
    obtain ⟨a, ha⟩ := Mon.members_all_some hi none h
    cases ha
  · intro a
    rw [← hs a, ← Mon.mem_enumOf hi, ← Mon.enumOf_some hi, List.mem_map]
    exact ⟨fun ⟨b, hb, e⟩ => Option.some.inj e ▸ hb, fun h => ⟨a, h, rfl⟩⟩

/-- **C06, existing roles**: `get_existing_roles` lists, without repetition and never more
than MAX_ROLES = 256 entries, exactly the roles that currently have a member -/
theorem existing_roles_exact (c : Cfg) (admin owner : Option Nat) (now : Nat)
    (ops : List (List Nat × Op)) :
    (getExistingRoles (runG c (initG admin owner now) ops).s).Nodup ∧
    (getExistingRoles (runG c (initG admin owner now) ops).s).length ≤ MAX_ROLES ∧
    ∀ r, (r ∈ getExistingRoles (runG c (initG admin owner now) ops).s ↔
            0 < cnt (runG c (initG admin owner now) ops).s r) ∧
         (r ∈ getExistingRoles (runG c (initG admin owner now) ops).s ↔
            ∃ a, (runG c (initG admin owner now) ops).g a r = true) := by
  have hg := reachable_ginv c admin owner now ops
  have hs : ∀ a r, memb (runG c (initG admin owner now) ops).s a r = (runG c (initG admin owner now) ops).g a r :=
    fun a r => congrFun (congrFun hg.set a) r
  have hi := hg.inv
  generalize (runG c (initG admin owner now) ops).g = g at *
  generalize (runG c (initG admin owner now) ops).s = s at *
  refine ⟨hi.exNodup, hi.exLen, fun r => ⟨hi.exIff r, ?_⟩⟩
  rw [show getExistingRoles s = s.existing from rfl, hi.exIff r, (hi.role r).cnt_pos_iff]
  simp only [hs]

/-- **C06, the queryable membership describes exactly the set of granted-not-revoked pairs**
(summary of the five preceding theorems for one role and one account) -/
theorem enum_refines_set (c : Cfg) (admin owner : Option Nat) (now : Nat)
    (ops : List (List Nat × Op)) (a r : Nat) :
    ((hasRoleQ (runG c (initG admin owner now) ops).s a r).isSome
        = (runG c (initG admin owner now) ops).g a r) ∧
    (∀ i, hasRoleQ (runG c (initG admin owner now) ops).s a r = some i ↔
        (i < cnt (runG c (initG admin owner now) ops).s r ∧
         getRoleMember (runG c (initG admin owner now) ops).s r i = .ok a)) ∧
    (∀ i, (∃ b, getRoleMember (runG c (initG admin owner now) ops).s r i = .ok b) ↔
        i < cnt (runG c (initG admin owner now) ops).s r) ∧
    ((members (runG c (initG admin owner now) ops).s r).length
        = cnt (runG c (initG admin owner now) ops).s r ∧
     (members (runG c (initG admin owner now) ops).s r).Nodup ∧
     (some a ∈ members (runG c (initG admin owner now) ops).s r ↔
        (runG c (initG admin owner now) ops).g a r = true)) ∧
    ((getExistingRoles (runG c (initG admin owner now) ops).s).Nodup ∧
     (r ∈ getExistingRoles (runG c (initG admin owner now) ops).s ↔
        ∃ b, (runG c (initG admin owner now) ops).g b r = true)) := by
  obtain ⟨m1, m2, -, m4⟩ := members_enumerate_set c admin owner now ops r
  obtain ⟨e1, -, e3⟩ := existing_roles_exact c admin owner now ops
  exact ⟨has_role_refines_set c admin owner now ops a r,
    fun i => enumeration_inverse c admin owner now ops a r i,
    fun i => enumeration_gap_free c admin owner now ops r i,
    ⟨m1, m2, m4 a⟩, ⟨e1, (e3 r).2⟩⟩

/-- **C06, `#[only_admin]`**: a function restricted to the admin runs if and only if an admin
is stored and authorizes the call; it leaves the state as the body leaves it (here: unchanged) -/
theorem admin_guard_iff (c : Cfg) (s : State) (auth : List Nat) :
    ((∃ s', apply c s auth (.adm .guarded) = .ok s') ↔ ∃ a, getAdmin s = some a ∧ a ∈ auth) ∧
    (∀ s', apply c s auth (.adm .guarded) = .ok s' → s' = s) :=
  guarded_iff c .admin s auth

/-- **C06, `#[only_owner]`**: the same for the owner -/
theorem owner_guard_iff (c : Cfg) (s : State) (auth : List Nat) :
    ((∃ s', apply c s auth (.own .guarded) = .ok s') ↔ ∃ a, s.own.holder = some a ∧ a ∈ auth) ∧
    (∀ s', apply c s auth (.own .guarded) = .ok s' → s' = s) :=
  guarded_iff c .owner s auth

/-- **C06, role guards** (on any reachable state, in terms of the plain set `g`):
* `#[only_role(k, r)]` runs iff `(k, r)` is granted-not-revoked, `k` authorizes and the body succeeds;
* `#[has_role(k, r)]` runs iff `(k, r)` is in the set and the body succeeds (the macro adds no
  `require_auth`; the caller's authorization is needed only where the body asks for it);
* `#[has_any_role(k, rs)]` / `#[only_any_role(k, rs)]` likewise with "some role of the list";
* `ensure_if_admin_or_admin_role(r, k)` passes iff `k` is the admin or holds the admin role of `r`. -/
theorem role_guard_iff (c : Cfg) (admin owner : Option Nat) (now : Nat)
    (ops : List (List Nat × Op)) (auth : List Nat) (k r : Nat) (rs : List Nat) (ba b : Bool) :
    ((∃ s', apply c (runG c (initG admin owner now) ops).s auth (.onlyRole k r b) = .ok s') ↔
      (runG c (initG admin owner now) ops).g k r = true ∧ k ∈ auth ∧ b = true) ∧
    ((∃ s', apply c (runG c (initG admin owner now) ops).s auth (.hasRole k r ba b) = .ok s') ↔
      (runG c (initG admin owner now) ops).g k r = true ∧ (ba = true → k ∈ auth) ∧ b = true) ∧
    ((∃ s', apply c (runG c (initG admin owner now) ops).s auth (.hasAnyRole k rs ba) = .ok s') ↔
      (∃ q, q ∈ rs ∧ (runG c (initG admin owner now) ops).g k q = true) ∧ (ba = true → k ∈ auth)) ∧
    ((∃ s', apply c (runG c (initG admin owner now) ops).s auth (.onlyAnyRole k rs) = .ok s') ↔
      (∃ q, q ∈ rs ∧ (runG c (initG admin owner now) ops).g k q = true) ∧ k ∈ auth) ∧
    ((∃ s', apply c (runG c (initG admin owner now) ops).s auth (.ensureAdminOrRole r k) = .ok s') ↔
      (getAdmin (runG c (initG admin owner now) ops).s = some k ∨
       ∃ ar, getRoleAdmin (runG c (initG admin owner now) ops).s r = some ar ∧
         (runG c (initG admin owner now) ops).g k ar = true)) := by
  have hg := reachable_ginv c admin owner now ops
  have hs : ∀ a q, memb (runG c (initG admin owner now) ops).s a q = (runG c (initG admin owner now) ops).g a q :=
    fun a q => congrFun (congrFun hg.set a) q
  generalize (runG c (initG admin owner now) ops).g = g at *
  generalize (runG c (initG admin owner now) ops).s = s at *
  simp only [← hs]
  exact ⟨onlyRole_iff c s auth k r b, hasRole_iff c s auth k r ba b,
    (hasAnyRole_iff c s auth k rs ba).trans (and_congr_left fun _ => anyRole_iff s k rs),
    (onlyAnyRole_iff c s auth k rs).trans (and_congr_left fun _ => anyRole_iff s k rs),
    (ensure_iff c s auth r k).trans (mayAdminister_iff s r k)⟩

/-- **C06, after the admin renounced nobody passes the admin check**: once `get_admin` is
`None` it stays `None` through every later history, every `#[only_admin]` call and every
`set_role_admin` fails whatever the authorization, and the admin clause of the grant / revoke
check holds for nobody -/
theorem renounced_forever_admin (c : Cfg) (admin owner : Option Nat) (now : Nat)
    (ops rest : List (List Nat × Op))
    (hn : getAdmin (run c (init admin owner now) ops) = none) :
    getAdmin (run c (init admin owner now) (ops ++ rest)) = none ∧
    (∀ auth, ∃ e, apply c (run c (init admin owner now) (ops ++ rest)) auth (.adm .guarded) = .error e) ∧
    (∀ auth r ar, ∃ e, apply c (run c (init admin owner now) (ops ++ rest)) auth (.setRoleAdmin r ar) = .error e) ∧
    (∀ k, isAdmin (run c (init admin owner now) (ops ++ rest)) k = false) := by
  have key : getAdmin (run c (init admin owner now) (ops ++ rest)) = none :=
    renounced_final c .admin admin owner now ops rest hn
  refine ⟨key, ?_, ?_, ?_⟩
  · intro auth
    cases h : apply c (run c (init admin owner now) (ops ++ rest)) auth (.adm .guarded) with
    | error e => exact ⟨e, rfl⟩
    | ok s' =>
      obtain ⟨a, ha, -⟩ := ((admin_guard_iff c _ auth).1).mp ⟨s', h⟩
      rw [key] at ha; cases ha
  · intro auth r ar
    cases h : apply c (run c (init admin owner now) (ops ++ rest)) auth (.setRoleAdmin r ar) with
    | error e => exact ⟨e, rfl⟩
    | ok s' =>
      obtain ⟨⟨a, ha, -⟩, -⟩ := setRoleAdmin_ok h
      rw [key] at ha; cases ha
  · intro k
    unfold isAdmin; rw [key]

/-- **C06, after ownership was renounced nobody passes the owner check** -/
theorem renounced_forever_owner (c : Cfg) (admin owner : Option Nat) (now : Nat)
    (ops rest : List (List Nat × Op))
    (hn : (run c (init admin owner now) ops).own.holder = none) :
    (run c (init admin owner now) (ops ++ rest)).own.holder = none ∧
    (∀ auth, ∃ e, apply c (run c (init admin owner now) (ops ++ rest)) auth (.own .guarded) = .error e) := by
  have key : (run c (init admin owner now) (ops ++ rest)).own.holder = none :=
    renounced_final c .owner admin owner now ops rest hn
  refine ⟨key, ?_⟩
  intro auth
  cases h : apply c (run c (init admin owner now) (ops ++ rest)) auth (.own .guarded) with
  | error e => exact ⟨e, rfl⟩
  | ok s' =>
    obtain ⟨a, ha, -⟩ := ((owner_guard_iff c _ auth).1).mp ⟨s', h⟩
    rw [key] at ha; cases ha

/-- **C06, rollback**: a rejected call changes nothing (`step` is the call under the host's rollback) -/
theorem failed_no_effect (c : Cfg) (s : State) (auth : List Nat) (op : Op) (e : Err)
    (h : apply c s auth op = .error e) : step c s (auth, op) = s := by
  unfold step; simp only [h]

/-! ### non-vacuity: a concrete history -/

/-- admin 0 builds a role-admin cycle 0 ← 1 ← 2 ← 0, seeds it, role admins grant along the
cycle, members are removed first / last, the admin renounces -/
def demoOps : List (List Nat × Op) :=
  [([0], .setRoleAdmin 0 1), ([0], .setRoleAdmin 1 2), ([0], .setRoleAdmin 2 0),
   ([0], .grant 2 2 0), ([2], .grant 3 1 2), ([3], .grant 4 0 3), ([4], .grant 1 2 4),
   ([4], .grant 1 1 4),                       -- holder of role 0 does not administer role 1: rejected
   ([3], .grant 5 0 3), ([3], .grant 6 0 3), ([3], .revoke 4 0 3),   -- remove first: 6 swapped into slot 0
   ([5], .renounce 0 5), ([0], .adm .renounce), ([0], .grant 7 0 0)] -- former admin: rejected

example : members (run ⟨1, 1000⟩ (init (some 0) (some 1) 100) demoOps) 0 = [some 6] ∧
    hasRoleQ (run ⟨1, 1000⟩ (init (some 0) (some 1) 100) demoOps) 6 0 = some 0 ∧
    cnt (run ⟨1, 1000⟩ (init (some 0) (some 1) 100) demoOps) 2 = 2 ∧
    getExistingRoles (run ⟨1, 1000⟩ (init (some 0) (some 1) 100) demoOps) = [2, 1, 0] ∧
    getAdmin (run ⟨1, 1000⟩ (init (some 0) (some 1) 100) demoOps) = none := by decide

example : (runG ⟨1, 1000⟩ (initG (some 0) (some 1) 100) demoOps).g 6 0 = true ∧
    (runG ⟨1, 1000⟩ (initG (some 0) (some 1) 100) demoOps).g 4 0 = false ∧
    (runG ⟨1, 1000⟩ (initG (some 0) (some 1) 100) demoOps).g 1 1 = false ∧
    (runG ⟨1, 1000⟩ (initG (some 0) (some 1) 100) demoOps).g 1 2 = true := by decide

-- hypothesis of `membership_change_authorized`: a role admin's grant changes membership
example : (apply ⟨1, 1000⟩ (run ⟨1, 1000⟩ (init (some 0) (some 1) 100) (demoOps.take 5)) [3] (.grant 4 0 3)).toOption.map
    (fun s => memb s 4 0) = some true := by decide

-- hypothesis of `renounced_forever_admin`
example : getAdmin (run ⟨1, 1000⟩ (init (some 0) (some 1) 100) demoOps) = none := by decide

end OZ.Access
