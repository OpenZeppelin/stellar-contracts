import OZ.Lemmas.RegHooks
/-
C20 (h): the compliance hook module lists (`HookModules(hook) -> Vec<Address>`) represent, per
hook, the plain set  reg s h m := is_module_registered(h, m)  under ANY history of
`add_module_to` / `remove_module_from` (arbitrary arguments, failed calls rolled back).
-/
namespace OZ.Props.C20h
open OZ.Reg OZ.RegHooks

def reg (s : State) (h m : Nat) : Prop := isModuleRegistered s h m = true

/-- **hooks_refines.** After any history `is_module_registered` is membership in
`get_modules_for_hook`, which lists no module twice and at most `MAX_MODULES = 20`. -/
theorem hooks_refines (ops : List Op) (h : Nat) :
    let s := run init ops
    (∀ m, isModuleRegistered s h m = true ↔ m ∈ getModulesForHook s h) ∧
    (getModulesForHook s h).Nodup ∧ (getModulesForHook s h).length ≤ 20 := by
  intro s
  have hI : Inv s := inv_run inv_init ops
  exact ⟨fun m => OZ.Lists.any_beq_iff_mem _ m, hI.nodup h, hI.le h⟩

/-- **hooks_abs_step.** The represented sets move exactly as plain sets do. -/
theorem hooks_abs_step (s : State) (hs : Reachable s) (h m : Nat) :
    (∀ s', addModuleTo s h m = .ok s' → ∀ h' m', reg s' h' m' ↔ (reg s h' m' ∨ (h' = h ∧ m' = m))) ∧
    (∀ s', removeModuleFrom s h m = .ok s' → ∀ h' m', reg s' h' m' ↔ (reg s h' m' ∧ ¬ (h' = h ∧ m' = m))) ∧
    (∀ o e, step s o = .error e → next s o = s) := by
  have hI := reachable_inv hs
  refine ⟨?_, ?_, ?_⟩
  · intro s' hok h' m'
    obtain ⟨_, rfl⟩ := (addModuleTo_ok_iff s s' h m).1 hok
    unfold reg isModuleRegistered
    rw [OZ.Lists.any_beq_iff_mem, OZ.Lists.any_beq_iff_mem]
    exact mem_updD_append s.modules h m h' m'
  · intro s' hok h' m'
    obtain ⟨_, rfl⟩ := (removeModuleFrom_ok_iff s s' h m).1 hok
    unfold reg isModuleRegistered
    rw [OZ.Lists.any_beq_iff_mem, OZ.Lists.any_beq_iff_mem]
    exact mem_updD_erase s.modules h m (hI.nodup h) h' m'
  · intro o e he
    simp [next, he]

/-- **hooks_dup_refused.** A module registered for a hook cannot be added to it again. -/
theorem hooks_dup_refused (s : State) (h m : Nat) (hr : reg s h m) : ∃ e, addModuleTo s h m = .error e :=
  err_of_not_ok (fun s' hok => ((addModuleTo_ok_iff s s' h m).1 hok).1.1 ((OZ.Lists.any_beq_iff_mem _ _).1 hr))

/-- **hooks_absent_refused.** A module that is not registered for a hook cannot be removed from it. -/
theorem hooks_absent_refused (s : State) (h m : Nat) (hr : ¬ reg s h m) :
    ∃ e, removeModuleFrom s h m = .error e :=
  err_of_not_ok (fun s' hok => hr ((OZ.Lists.any_beq_iff_mem _ _).2 ((removeModuleFrom_ok_iff s s' h m).1 hok).1))

/-- **hooks_limit_exact.** A new module is accepted for a hook exactly while the hook has fewer
than `MAX_MODULES = 20` (the 20th accepted, the 21st refused). -/
theorem hooks_limit_exact (s : State) (h m : Nat) (hr : ¬ reg s h m) :
    ((∃ s', addModuleTo s h m = .ok s') ↔ (getModulesForHook s h).length < 20) ∧
    ((getModulesForHook s h).length = 19 → ∃ s', addModuleTo s h m = .ok s') ∧
    ((getModulesForHook s h).length = 20 → ∃ e, addModuleTo s h m = .error e) := by
  have hn : m ∉ s.modules h := fun hm => hr ((OZ.Lists.any_beq_iff_mem _ _).2 hm)
  exact limit_exact rfl ⟨fun ⟨s', hok⟩ => ((addModuleTo_ok_iff s s' h m).1 hok).1.2,
    fun hl => ⟨_, (addModuleTo_ok_iff s _ h m).2 ⟨⟨hn, hl⟩, rfl⟩⟩⟩

/-- **hooks_enumerates_once.** In a reachable state index access into `HookModules(h)` is a
bijection between `0 .. len-1` and the registered modules of the hook. -/
theorem hooks_enumerates_once (s : State) (hs : Reachable s) (h : Nat) :
    (∀ m, reg s h m ↔ ∃ i : Nat, (getModulesForHook s h)[i]? = some m) ∧
    (∀ (i j : Nat) m, (getModulesForHook s h)[i]? = some m → (getModulesForHook s h)[j]? = some m → i = j) := by
  have hI := reachable_inv hs
  refine ⟨fun m => ?_, nodup_index_inj _ (hI.nodup h)⟩
  unfold reg isModuleRegistered getModulesForHook
  rw [OZ.Lists.any_beq_iff_mem]; exact List.mem_iff_getElem?

/-! ### non-vacuity -/

def okB (r : Except RErr State) : Bool := match r with | .ok _ => true | .error _ => false

example :
    let s := run init ((List.range 20).map (Op.add 3))
    (getModulesForHook s 3).length = 20 ∧ okB (addModuleTo s 3 20) = false ∧ okB (addModuleTo s 4 20) = true ∧
    getModulesForHook (next s (.remove 3 0)) 3 = (List.range 20).tail := by decide +kernel

end OZ.Props.C20h
