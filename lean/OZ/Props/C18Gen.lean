import OZ.Lemmas.GenBase64
import OZ.Props.C18
/-
C18 — the base64url encoder, re-checked on every run against the SOURCE as it stands.

`lean/OZ/Gen/Base64.lean` is regenerated by `/verif/tools/rs2lean.py --imp` from /repo's current
`packages/accounts/src/verifiers/utils/base64_url.rs` every time `./check C18` runs: the `while` loop
over the mutable `di`, `dst`, `si` becomes a fuel-bounded recursive definition, every indexed read and
write a bounds-checked operation that can panic.  This file proves that the GENERATED encoder, given
enough fuel (one unit per 3-byte group, plus one), computes exactly the hand-written functional model
`OZ.B64.encodeInto` — the same bytes, written at the start of the destination, the rest untouched, and
a panic exactly when the destination is too short — and restates the property (`= RFC 4648 §5 without
padding, for every byte string`) for the generated code.
-/
namespace OZ.Gen.B64
open OZ.Rs

def loopNat (src : OZ.B64.Bytes) (iters si : Nat) : List Nat := nat (OZ.B64.loop src iters si)

theorem loopNat_succ (src : OZ.B64.Bytes) (k si : Nat) :
    loopNat src (k + 1) si =
      [(OZ.B64.pick (OZ.B64.val3 src si) 18).toNat, (OZ.B64.pick (OZ.B64.val3 src si) 12).toNat,
       (OZ.B64.pick (OZ.B64.val3 src si) 6).toNat, (OZ.B64.pick (OZ.B64.val3 src si) 0).toNat] ++
      loopNat src k (si + 3) := by
  simp [loopNat, nat, OZ.B64.loop]

theorem loopNat_length (src : OZ.B64.Bytes) (k : Nat) : ∀ si, (loopNat src k si).length = 4 * k := by
  induction k with
  | zero => intro si; rfl
  | succ k ih =>
    intro si
    rw [loopNat_succ, List.length_append, ih]
    simp only [List.length_cons, List.length_nil]; omega

/-- **the loop**: `r` iterations from `(di, si)` are the `4r` consecutive writes of the model's `loop`,
or a panic when they do not fit the destination -/
theorem loop1_eq (src : OZ.B64.Bytes) (r : Nat) :
    ∀ (fuel di si : Nat) (dst : List Nat), r < fuel → si + 3 * r ≤ src.length →
      base64_url_encode.loop1 fuel di dst si (si + 3 * r) (nat src) =
        Comp.bind (writeAll dst di (loopNat src r si)) fun d' => Comp.ok (di + 4 * r, d', si + 3 * r) := by
  induction r with
  | zero =>
    intro fuel di si dst hf _
    obtain ⟨f, rfl⟩ : ∃ f, fuel = f + 1 := ⟨fuel - 1, by omega⟩
    simp [base64_url_encode.loop1, loopNat, nat, OZ.B64.loop, writeAll]
  | succ k ih =>
    intro fuel di si dst hf hlen
    obtain ⟨f, rfl⟩ : ∃ f, fuel = f + 1 := ⟨fuel - 1, by omega⟩
    have hf' : k < f := by omega
    have hlen' : si + 3 + 3 * k ≤ src.length := by omega
    rw [show si + 3 * (k + 1) = si + 3 + 3 * k by omega, show di + 4 * (k + 1) = di + 4 + 4 * k by omega,
      loopNat_succ, writeAll_append]
    unfold base64_url_encode.loop1
    rw [if_pos (by omega), idx_rd src si (by omega), idx_rd src (si + 1) (by omega), idx_rd src (si + 2) (by omega)]
    simp only [Comp.bind_ok]
    rw [idx_pick, idx_pick, idx_pick, idx_alpha]
    simp only [Comp.bind_ok, ih f _ _ _ hf' hlen']
    simp only [writeAll, bind_assoc, Comp.bind_ok, List.length_cons, List.length_nil, Nat.add_assoc, Nat.reduceAdd]
    rfl

/-- **generated = model**: with enough fuel, for every destination and source the generated encoder
returns the model's `encodeInto`, and panics exactly when the model says the destination is too short -/
theorem base64_url_encode_eq (dst src : OZ.B64.Bytes) (fuel : Nat) (hf : src.length / 3 < fuel) :
    base64_url_encode fuel (nat dst) (nat src) =
      match OZ.B64.encodeInto dst src with
      | some r => Comp.ok (nat r)
      | none => Comp.panic := by
  -- everything is one run of consecutive writes from index 0
  have hmain : base64_url_encode fuel (nat dst) (nat src) = writeAll (nat dst) 0 (nat (OZ.B64.encode src)) := by
    have hlo : 3 * (src.length / 3) ≤ src.length := Nat.mul_div_le _ _
    have hhi : src.length < 3 * (src.length / 3 + 1) := Nat.lt_mul_div_succ _ (by decide)
    unfold base64_url_encode
    rw [OZ.B64.encode_eq, nat_length]
    generalize src.length / 3 = q at hf hlo hhi ⊢
    rw [nat_append, writeAll_append, show q * 3 = 0 + 3 * q by omega,
      loop1_eq src q fuel 0 0 (nat dst) hf (by omega), bind_assoc]
    congr 1; funext d1
    simp only [Comp.bind_ok, Nat.zero_add]
    rw [show (nat (OZ.B64.loop src q 0)).length = 4 * q from loopNat_length src _ _]
    unfold usize_sub OZ.B64.tailOut
    rw [if_pos (by omega)]
    simp only [Comp.bind_ok]
    by_cases hr0 : src.length - 3 * q = 0
    · rw [if_pos hr0, if_pos hr0]; rfl
    · rw [if_neg hr0, if_neg hr0, idx_rd src _ (by omega)]
      simp only [Comp.bind_ok]
      by_cases hr2 : src.length - 3 * q = 2
      · rw [if_pos hr2, if_pos hr2, idx_rd src _ (by omega)]
        simp only [Comp.bind_ok, if_pos hr2]
        rw [idx_pick, idx_pick, idx_pick]
        simp only [Comp.bind_ok, nat, List.map_cons, List.map_nil, writeAll]
      · rw [if_neg hr2, if_neg hr2, idx_pick, idx_pick]
        simp only [Comp.bind_ok, if_neg hr2, nat, List.map_cons, List.map_nil, writeAll]
  rw [hmain, writeAll_spec _ _ _ (Nat.zero_le _)]
  unfold OZ.B64.encodeInto
  simp only [Nat.zero_add, nat_length, List.take_zero, List.nil_append]
  by_cases hfit : (OZ.B64.encode src).length ≤ dst.length
  · rw [if_pos hfit, if_neg (by omega)]
    simp only [nat_append, nat_drop]
  · rw [if_neg hfit, if_pos (by omega)]

/-- **C18, base64url helper, on the source as translated**: what the generated encoder writes into a
large enough destination is RFC 4648 §5 base64url without padding of the source, for EVERY byte string -/
theorem gen_base64url_eq_rfc4648 (dst src : OZ.B64.Bytes) (fuel : Nat) (hf : src.length / 3 < fuel)
    (hfit : (OZ.B64.rfc4648 src).length ≤ dst.length) :
    base64_url_encode fuel (nat dst) (nat src) =
      Comp.ok (nat (OZ.B64.rfc4648 src ++ dst.drop (OZ.B64.rfc4648 src).length)) := by
  rw [base64_url_encode_eq dst src fuel hf]
  have he := OZ.B64.base64url_eq_rfc4648 src
  unfold OZ.B64.encodeInto
  rw [he, if_neg (by omega)]

/-! ### non-vacuity: the generated code runs -/

example : base64_url_encode 3 (List.replicate 8 0) [102, 111, 111, 98, 97] =
    Comp.ok [90, 109, 57, 118, 89, 109, 69, 0] := by decide
example : base64_url_encode 3 (List.replicate 6 0) [102, 111, 111, 98, 97] = Comp.panic := by decide

end OZ.Gen.B64
