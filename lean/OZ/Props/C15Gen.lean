import OZ.Gen.Issuer
import OZ.Model.ClaimIssuer
/-
C15 — the issuer-side invalidation state (nonce, revocation digest, claim message), re-checked on every
run against what the SOURCE says now.

`lean/OZ/Gen/Issuer.lean` is regenerated by `/verif/tools/rs2lean.py --issuer` from /repo's current
`packages/tokens/src/rwa/claim_issuer/storage.rs` every time `./check C15` runs: `get_current_nonce_for`,
`invalidate_claim_signatures`, `build_claim_identifier`, `build_claim_message`, `set_claim_revoked`,
`is_claim_revoked`, `is_claim_expired`.  Byte strings are lists of bytes, `append` / `extend_from_array`
are list concatenation, `u32::to_be_bytes` is the four big-endian bytes, and the network id, the XDR
encoding of an address, keccak-256 and `decode_claim_data_expiration` are functions of the reads record.

The hand model (OZ/Model/ClaimIssuer.lean) takes the message to be the TUPLE (network, issuer, identity,
topic, nonce, data) and the revocation digest to be the TRIPLE (identity, topic, data) — "the encoding is
injective" is a modelling assumption there.  Here it is a theorem about the generated byte layout:
`identifier_inj`, `message_inj` (hypotheses, stated on the reads record: the XDR encoding of addresses is
self-delimiting, i.e. injective and prefix-free; topics and nonces are `u32`).  With keccak-256
collision-free ON THE IDENTIFIERS (`Function.Injective envr.keccak256`, the standard idealisation, an
explicit hypothesis), the generated functions compute exactly the hand model's under the abstraction map
`Abs` (`*_ref`), and the property's clauses follow for the generated code: revocation is per (identity,
topic, data) (`gen_revocation_is_per_claim`), survives a nonce bump (`gen_revocation_survives_nonce_bump`),
and a nonce bump changes the message of exactly that (identity, topic) (`gen_nonce_bump_changes_message`,
`gen_nonce_bump_is_local`).
-/
namespace OZ.Gen.Issuer
open OZ.Rs OZ.Host OZ.ClaimIssuer

/-- the XDR encoding of addresses is self-delimiting: injective and prefix-free -/
def XdrOk (envr : Issuer.Reads) : Prop :=
  ∀ a b x y, envr.to_xdr a ++ x = envr.to_xdr b ++ y → a = b ∧ x = y

theorem be_len (x : Nat) : (u32_to_be_bytes x).length = 4 := rfl

theorem beNat_be {x : Nat} (hx : x < 2 ^ 32) : beNat (u32_to_be_bytes x) = x := by
  show (((0 * 256 + x / 2 ^ 24 % 256) * 256 + x / 2 ^ 16 % 256) * 256 + x / 2 ^ 8 % 256) * 256 + x % 256 = x
  -- the bytes are the base-256 digits of `x`, the top one needing no `% 256`; put them back one by one
  have e8 : x / 2 ^ 8 = x / 256 := rfl
  have e16 : x / 2 ^ 16 = x / 256 / 256 := (Nat.div_div_eq_div_mul x 256 256).symm
  have e24 : x / 2 ^ 24 = x / 256 / 256 / 256 := by rw [Nat.div_div_eq_div_mul, Nat.div_div_eq_div_mul]
  have h0 : x / 2 ^ 24 % 256 = x / 2 ^ 24 := Nat.mod_eq_of_lt (Nat.div_lt_of_lt_mul hx)
  rw [h0, e24, e16, e8, Nat.zero_mul, Nat.zero_add, Nat.div_add_mod', Nat.div_add_mod', Nat.div_add_mod']

theorem be_inj {x y : Nat} (hx : x < 2 ^ 32) (hy : y < 2 ^ 32) (h : u32_to_be_bytes x = u32_to_be_bytes y) : x = y := by
  rw [← beNat_be hx, ← beNat_be hy, h]

/-- the identifier bytes, as the generated `build_claim_identifier` lays them out -/
def ident (envr : Issuer.Reads) (i t : Nat) (d : List Nat) : List Nat :=
  (((envr.network_id ++ envr.to_xdr envr.current_contract_address) ++ envr.to_xdr i) ++ u32_to_be_bytes t) ++ d

/-- the message bytes, as the generated `build_claim_message` lays them out -/
def msgBytes (envr : Issuer.Reads) (i t n : Nat) (d : List Nat) : List Nat :=
  ((((envr.network_id ++ envr.to_xdr envr.current_contract_address) ++ envr.to_xdr i) ++ u32_to_be_bytes t) ++
    u32_to_be_bytes n) ++ d

theorem build_claim_identifier_eq (envr : Issuer.Reads) (st : Issuer.Store) (i t : Nat) (d : List Nat) :
    Issuer.build_claim_identifier envr st i t d = .ok (ident envr i t d) := rfl

/-- **the revocation identifier determines the claim**: equal identifiers are the identifiers of the same
(identity, topic, data) -/
theorem identifier_inj (envr : Issuer.Reads) (hx : XdrOk envr) {i i' t t' : Nat} {d d' : List Nat}
    (ht : t < 2 ^ 32) (ht' : t' < 2 ^ 32) (h : ident envr i t d = ident envr i' t' d') :
    i = i' ∧ t = t' ∧ d = d' := by
  unfold ident at h
  simp only [List.append_assoc] at h
  have h1 := List.append_cancel_left h
  have h2 := List.append_cancel_left h1
  obtain ⟨hi, h3⟩ := hx _ _ _ _ h2
  obtain ⟨h4, h5⟩ := List.append_inj h3 (by simp [be_len])
  exact ⟨hi, be_inj ht ht' h4, h5⟩

/-- **the signed message determines (identity, topic, nonce, data)** -/
theorem message_inj (envr : Issuer.Reads) (hx : XdrOk envr) {i i' t t' n n' : Nat} {d d' : List Nat}
    (ht : t < 2 ^ 32) (ht' : t' < 2 ^ 32) (hn : n < 2 ^ 32) (hn' : n' < 2 ^ 32)
    (h : msgBytes envr i t n d = msgBytes envr i' t' n' d') :
    i = i' ∧ t = t' ∧ n = n' ∧ d = d' := by
  -- the message is the identifier of the data `be nonce ++ data`
  have e : ∀ i t n d, msgBytes envr i t n d = ident envr i t (u32_to_be_bytes n ++ d) :=
    fun _ _ _ _ => List.append_assoc ..
  rw [e, e] at h
  obtain ⟨hi, htt, h5⟩ := identifier_inj envr hx ht ht' h
  obtain ⟨h6, h7⟩ := List.append_inj h5 rfl
  exact ⟨hi, htt, be_inj hn hn' h6, h7⟩

/-- the abstraction map: the generated store represents the hand model's issuer state -/
structure Abs (envr : Issuer.Reads) (st : Issuer.Store) (s : Issuer) : Prop where
  nonce : ∀ i t, st.ClaimNonce i t = s.nonce i t
  revoked : ∀ i t d, t < 2 ^ 32 → st.RevokedClaim (envr.keccak256 (ident envr i t d)) = s.revoked i t d

theorem get_current_nonce_for_ref {envr : Issuer.Reads} {st : Issuer.Store} {s : Issuer} (ha : Abs envr st s) (i t : Nat) :
    Issuer.get_current_nonce_for envr st i t = .ok (currentNonce s i t) := by
  unfold Issuer.get_current_nonce_for currentNonce
  rw [ha.nonce]

/-- generated `build_claim_message` = the byte layout of the model's message tuple with the CURRENT nonce -/
theorem build_claim_message_ref {envr : Issuer.Reads} {st : Issuer.Store} {s : Issuer} (ha : Abs envr st s)
    (i t : Nat) (d : List Nat) :
    Issuer.build_claim_message envr st i t d = .ok (msgBytes envr i t (currentNonce s i t) d) := by
  unfold Issuer.build_claim_message
  rw [get_current_nonce_for_ref ha]
  rfl

/-- generated `is_claim_revoked` = the model's -/
theorem is_claim_revoked_ref {envr : Issuer.Reads} {st : Issuer.Store} {s : Issuer} (ha : Abs envr st s)
    (i t : Nat) (d : List Nat) (ht : t < 2 ^ 32) :
    Issuer.is_claim_revoked envr st i t d = .ok (isClaimRevoked s i t d) := by
  unfold Issuer.is_claim_revoked isClaimRevoked
  rw [build_claim_identifier_eq]
  simp only [Comp.bind_ok]
  rw [ha.revoked i t d ht]

/-- generated `set_claim_revoked` = the model's: it cannot fail and the new store represents
`setClaimRevoked` -/
theorem set_claim_revoked_ref {envr : Issuer.Reads} {st : Issuer.Store} {s : Issuer} (ha : Abs envr st s)
    (hx : XdrOk envr) (hk : Function.Injective envr.keccak256)
    (i t : Nat) (d : List Nat) (b : Bool) (ht : t < 2 ^ 32) :
    ∃ st', Issuer.set_claim_revoked envr st i t d b = .ok ((), st') ∧ Abs envr st' (setClaimRevoked s i t d b) := by
  refine ⟨Issuer.Store.set_RevokedClaim st (envr.keccak256 (ident envr i t d)) b, rfl, ?_, ?_⟩
  · intro i' t'; exact ha.nonce i' t'
  · intro i' t' d' ht'
    simp only [Issuer.Store.set_RevokedClaim, setClaimRevoked]
    by_cases h : i' = i ∧ t' = t ∧ d' = d
    · obtain ⟨rfl, rfl, rfl⟩ := h
      simp
    · rw [if_neg h, if_neg]
      · exact ha.revoked i' t' d' ht'
      · intro hk'
        exact h (identifier_inj envr hx ht' ht (hk hk'))

/-- generated `invalidate_claim_signatures` = the model's: it fails exactly when the nonce is `u32::MAX`
and otherwise the new store represents `invalidateClaimSignatures` -/
theorem invalidate_claim_signatures_ref {envr : Issuer.Reads} {st : Issuer.Store} {s : Issuer} (ha : Abs envr st s)
    (i t : Nat) :
    match invalidateClaimSignatures s i t with
    | .ok s' => ∃ st', Issuer.invalidate_claim_signatures envr st i t = .ok ((), st') ∧ Abs envr st' s'
    | .error _ => Issuer.invalidate_claim_signatures envr st i t = .panic := by
  unfold invalidateClaimSignatures Issuer.invalidate_claim_signatures uN_checked_add
  rw [ha.nonce]
  have hc : (s.nonce i t).getD 0 = currentNonce s i t := rfl
  rw [hc]
  by_cases h : currentNonce s i t + 1 > U32_MAX
  · rw [if_pos h, if_neg (by unfold U32_MAX at h; omega)]
    rfl
  · rw [if_neg h, if_pos (by unfold U32_MAX at h; omega)]
    refine ⟨_, rfl, ?_, ?_⟩
    · intro i' t'
      simp only [Issuer.Store.set_ClaimNonce, upd2]
      by_cases h2 : i' = i ∧ t' = t
      · simp [h2]
      · rw [if_neg h2, if_neg h2]; exact ha.nonce i' t'
    · intro i' t' d' ht'; exact ha.revoked i' t' d' ht'

/-- generated `is_claim_expired`: `timestamp >= valid_until` of whatever `decode_claim_data_expiration`
returns (the decoder itself is a function of the reads record: its byte slicing is tied by the
correspondence run) -/
theorem is_claim_expired_ref (envr : Issuer.Reads) (st : Issuer.Store) (env : Env) (data : List Nat) (vu : Nat)
    (hd : validUntil data = .ok vu) (hdec : (envr.decode_claim_data_expiration data).2.1 = vu)
    (hts : envr.ledger_timestamp = env.timestamp) :
    Issuer.is_claim_expired envr st data = .ok (decide (env.timestamp ≥ vu)) ∧
      isClaimExpired env data = .ok (decide (env.timestamp ≥ vu)) := by
  unfold Issuer.is_claim_expired isClaimExpired
  rw [hd, hdec, hts]
  exact ⟨rfl, rfl⟩

theorem invalidate_unpack {envr : Issuer.Reads} {st st' : Issuer.Store} {i t : Nat}
    (h : Issuer.invalidate_claim_signatures envr st i t = .ok ((), st')) :
    (st.ClaimNonce i t).getD 0 + 1 < 2 ^ 32 ∧
      st' = Issuer.Store.set_ClaimNonce st i t ((st.ClaimNonce i t).getD 0 + 1) := by
  unfold Issuer.invalidate_claim_signatures uN_checked_add at h
  split at h
  · rename_i hlt
    simp only [Comp.unwrap, Comp.ok.injEq, Prod.mk.injEq, true_and] at h
    exact ⟨hlt, h.symm⟩
  · cases h

/-! ### the property's clauses for the generated code -/

/-- **revocation is per claim (identity, topic, data)**: after `set_claim_revoked(i, t, d, b)` the
generated `is_claim_revoked` answers `b` for that claim and what it answered before for EVERY other
claim — another identity, another topic, other data -/
theorem gen_revocation_is_per_claim {envr : Issuer.Reads} {st : Issuer.Store} {s : Issuer} (ha : Abs envr st s)
    (hx : XdrOk envr) (hk : Function.Injective envr.keccak256)
    (i t : Nat) (d : List Nat) (b : Bool) (ht : t < 2 ^ 32) :
    ∃ st', Issuer.set_claim_revoked envr st i t d b = .ok ((), st') ∧
      Issuer.is_claim_revoked envr st' i t d = .ok b ∧
      ∀ i' t' d', t' < 2 ^ 32 → ¬ (i' = i ∧ t' = t ∧ d' = d) →
        Issuer.is_claim_revoked envr st' i' t' d' = Issuer.is_claim_revoked envr st i' t' d' := by
  obtain ⟨st', hs, ha'⟩ := set_claim_revoked_ref ha hx hk i t d b ht
  refine ⟨st', hs, ?_, ?_⟩
  · rw [is_claim_revoked_ref ha' i t d ht]
    simp [isClaimRevoked, setClaimRevoked]
  · intro i' t' d' ht' hne
    rw [is_claim_revoked_ref ha' i' t' d' ht', is_claim_revoked_ref ha i' t' d' ht']
    simp [isClaimRevoked, setClaimRevoked, hne]

/-- **a nonce bump does not touch revocations** (the digest is built WITHOUT the nonce) -/
theorem gen_revocation_survives_nonce_bump {envr : Issuer.Reads} {st st' : Issuer.Store} (i t : Nat)
    (h : Issuer.invalidate_claim_signatures envr st i t = .ok ((), st')) (i' t' : Nat) (d' : List Nat) :
    Issuer.is_claim_revoked envr st' i' t' d' = Issuer.is_claim_revoked envr st i' t' d' := by
  obtain ⟨_, rfl⟩ := invalidate_unpack h
  rfl

/-- **a nonce bump changes the message of that (identity, topic)**: whatever was signed before the bump is
not what `build_claim_message` returns after it, for any data -/
theorem gen_nonce_bump_changes_message {envr : Issuer.Reads} {st st' : Issuer.Store} (hx : XdrOk envr) (i t : Nat)
    (ht : t < 2 ^ 32) (hn : (st.ClaimNonce i t).getD 0 < 2 ^ 32)
    (h : Issuer.invalidate_claim_signatures envr st i t = .ok ((), st')) (d d' : List Nat) (m m' : List Nat)
    (hm : Issuer.build_claim_message envr st i t d = .ok m) (hm' : Issuer.build_claim_message envr st' i t d' = .ok m') :
    m ≠ m' := by
  obtain ⟨hlt, rfl⟩ := invalidate_unpack h
  simp only [Issuer.build_claim_message, Issuer.get_current_nonce_for, Comp.bind_ok, Comp.ok.injEq,
    Issuer.Store.set_ClaimNonce, and_self, if_true, Option.getD_some] at hm hm'
  subst hm; subst hm'
  intro he
  -- equal messages would carry equal nonces
  exact absurd (message_inj envr hx ht ht hn hlt he).2.2.1 (Nat.ne_of_lt (Nat.lt_succ_self _))

/-- **… and of no other (identity, topic)** -/
theorem gen_nonce_bump_is_local {envr : Issuer.Reads} {st st' : Issuer.Store} (i t : Nat)
    (h : Issuer.invalidate_claim_signatures envr st i t = .ok ((), st')) (i' t' : Nat) (d : List Nat)
    (hne : ¬ (i' = i ∧ t' = t)) :
    Issuer.build_claim_message envr st' i' t' d = Issuer.build_claim_message envr st i' t' d := by
  obtain ⟨_, rfl⟩ := invalidate_unpack h
  simp only [Issuer.build_claim_message, Issuer.get_current_nonce_for, Issuer.Store.set_ClaimNonce, if_neg hne]

/-! ### non-vacuity: the hypotheses are satisfiable and the generated code runs -/

/-- a toy environment: an address encodes as the one byte `[a]` (self-delimiting), the "hash" is the identity
function (injective) -/
def demoEnv : Issuer.Reads :=
  ⟨[9, 9], 7, 100, fun a => [a], fun b => b, fun d => (0, d.headD 0, d)⟩

example : Function.Injective demoEnv.keccak256 := fun _ _ h => h
example : XdrOk demoEnv := by
  intro a b x y h
  simp only [demoEnv, List.singleton_append, List.cons.injEq] at h
  exact h

def demoSt : Issuer.Store := ⟨fun _ _ => none, fun _ => none⟩

example : Issuer.build_claim_message demoEnv demoSt 5 3 [1, 2] = .ok [9, 9, 7, 5, 0, 0, 0, 3, 0, 0, 0, 0, 1, 2] := by decide +kernel
example : Issuer.build_claim_identifier demoEnv demoSt 5 3 [1, 2] = .ok [9, 9, 7, 5, 0, 0, 0, 3, 1, 2] := by decide +kernel
example : Issuer.is_claim_revoked demoEnv demoSt 5 3 [1, 2] = .ok false := by decide +kernel
example : Comp.bind (Issuer.set_claim_revoked demoEnv demoSt 5 3 [1, 2] true)
    (fun p => Issuer.is_claim_revoked demoEnv p.2 5 3 [1, 2]) = .ok true := by decide +kernel
example : Comp.bind (Issuer.set_claim_revoked demoEnv demoSt 5 3 [1, 2] true)
    (fun p => Issuer.is_claim_revoked demoEnv p.2 5 4 [1, 2]) = .ok false := by decide +kernel

end OZ.Gen.Issuer
