import OZ.Gen.Fungible
import OZ.Lemmas.Comp
import OZ.Props.C01Gen
/-
C02 — the allowance primitives and the entry points, re-checked on every run against the SOURCE as it stands.

`lean/OZ/Gen/Fungible.lean` is regenerated by `/verif/tools/rs2lean.py --fungible` from /repo's current
`packages/tokens/src/fungible/storage.rs` (state-passing mode, see OZ/Props/C01Gen.lean): `allowance_data`,
`allowance`, `set_allowance`, `spend_allowance`.  The store of the generated code has no TTL: a temporary
entry is never archived there, which can only make MORE allowances visible than the host would (archival
removes entries, and `allowance_data` reads a missing entry as zero).  The theorems below are statements
about the generated code itself, for every store, ledger, owner, spender and amount: what an allowance is worth
(`gen_allowance_value`), and what an accepted `spend_allowance` / `set_allowance` needed and wrote, and what each
refuses.

The second half is about the six state-changing entry points as calls (`Call`, `run`; OZ/Props/C01GenHist.lean
builds on these too): an accepted call lowers a balance only with the holder's authorization or within the spender's
unexpired allowance, and changes an allowance entry only as its owner's `approve` or its spender's spend.
-/
namespace OZ.Gen.Fungible
open OZ.Rs OZ.Host

def entry (st : Fungible.Store) (o s : Nat) : AllowanceData := (st.Allowance ⟨o, s⟩).getD ⟨0, 0⟩

theorem allowance_data_eq (envr : Fungible.Reads) (st : Fungible.Store) (o s : Nat) :
    Fungible.allowance_data envr st o s =
      .ok (if (entry st o s).live_until_ledger < envr.ledger_sequence then ⟨0, 0⟩ else entry st o s) := rfl

/-- **worth zero after expiry, the stored amount until then** -/
theorem gen_allowance_value (envr : Fungible.Reads) (st : Fungible.Store) (o s : Nat) :
    Fungible.allowance envr st o s =
      .ok (if (entry st o s).live_until_ledger < envr.ledger_sequence then 0 else (entry st o s).amount) := by
  unfold Fungible.allowance
  rw [allowance_data_eq]
  simp only [Comp.bind_ok]
  by_cases h : (entry st o s).live_until_ledger < envr.ledger_sequence
  · rw [if_pos h, if_pos h]
  · rw [if_neg h, if_neg h]

/-- the `extend_ttl` arithmetic `lu - ledger` cannot underflow once the checks have passed -/
theorem set_allowance_eq (envr : Fungible.Reads) (st : Fungible.Store) (o s : Nat) (amount : Int) (lu : Nat) :
    Fungible.set_allowance envr st o s amount lu =
      if amount < 0 ∨ lu > envr.max_live_until_ledger ∨ (amount > 0 ∧ lu < envr.ledger_sequence) then .panic
      else .ok ((), Fungible.Store.set_Allowance st ⟨o, s⟩ ⟨amount, lu⟩) := by
  unfold Fungible.set_allowance
  rw [Comp.refuse_or (c := amount < 0)]
  refine ite_congr rfl (fun _ => rfl) fun _ => ite_congr rfl (fun _ => rfl) fun hb => ?_
  split
  · rw [uN_sub_ok (by omega)]; rfl
  · rfl

/-- what an accepted `set_allowance` does -/
theorem gen_set_allowance_sound (envr : Fungible.Reads) (st st' : Fungible.Store) (o s : Nat) (amount : Int) (lu : Nat)
    (h : Fungible.set_allowance envr st o s amount lu = .ok ((), st')) :
    0 ≤ amount ∧ lu ≤ envr.max_live_until_ledger ∧ (amount > 0 → envr.ledger_sequence ≤ lu) ∧
    st' = Fungible.Store.set_Allowance st ⟨o, s⟩ ⟨amount, lu⟩ := by
  rw [set_allowance_eq] at h
  obtain ⟨hc, h⟩ := Comp.guard_eq_ok h
  cases h
  exact ⟨by omega, by omega, by omega, rfl⟩

/-- `set_allowance` refuses a negative amount, an expiry beyond the host's maximum, and a positive amount
whose expiry has already passed -/
theorem gen_set_allowance_refused (envr : Fungible.Reads) (st : Fungible.Store) (o s : Nat) (amount : Int) (lu : Nat)
    (h : amount < 0 ∨ lu > envr.max_live_until_ledger ∨ (amount > 0 ∧ lu < envr.ledger_sequence)) :
    ((Fungible.set_allowance envr st o s amount lu).bind fun _ => Comp.ok ()) = .panic := by
  rw [set_allowance_eq, if_pos h]; rfl

/-- the pair's allowance at the ledger of `envr`, as `allowance` returns it (`gen_allowance_value`) -/
def live (envr : Fungible.Reads) (st : Fungible.Store) (o s : Nat) : Int :=
  if (entry st o s).live_until_ledger < envr.ledger_sequence then 0 else (entry st o s).amount

/-- a positive amount is taken off the STORED entry: it is unexpired, or nothing positive would have passed -/
theorem spend_allowance_eq (envr : Fungible.Reads) (st : Fungible.Store) (o s : Nat) (amount : Int) :
    Fungible.spend_allowance envr st o s amount =
      if amount < 0 ∨ live envr st o s < amount then .panic
      else if amount > 0 then
        Comp.bind (i128_sub (entry st o s).amount amount) fun d =>
          Comp.bind (Fungible.set_allowance envr st o s d (entry st o s).live_until_ledger) fun t => .ok ((), t.2)
      else .ok ((), st) := by
  unfold Fungible.spend_allowance live
  rw [Comp.refuse_or (c := amount < 0), allowance_data_eq, Comp.bind_ok]
  refine ite_congr rfl (fun _ => rfl) fun _ => ?_
  by_cases hx : (entry st o s).live_until_ledger < envr.ledger_sequence
  · rw [if_pos hx, if_pos hx]
    by_cases hp : (0 : Int) < amount
    · exact (if_pos hp).trans (if_pos hp).symm
    · exact ((if_neg hp).trans (if_neg hp)).trans ((if_neg hp).trans (if_neg hp)).symm
  · rw [if_neg hx, if_neg hx]

/-- **an accepted spend**: the amount is within the LIVE allowance, and exactly this pair's entry drops by
exactly `amount` with its expiry kept (nothing is written for a zero amount) -/
theorem gen_spend_sound (envr : Fungible.Reads) (st st' : Fungible.Store) (o s : Nat) (amount : Int)
    (h : Fungible.spend_allowance envr st o s amount = .ok ((), st')) :
    0 ≤ amount ∧
    (amount > 0 → envr.ledger_sequence ≤ (entry st o s).live_until_ledger ∧ amount ≤ (entry st o s).amount ∧
      st' = Fungible.Store.set_Allowance st ⟨o, s⟩ ⟨(entry st o s).amount - amount, (entry st o s).live_until_ledger⟩) ∧
    (amount = 0 → st' = st) := by
  rw [spend_allowance_eq] at h
  obtain ⟨hc, h⟩ := Comp.guard_eq_ok h
  by_cases hp : amount > 0
  · rw [if_pos hp] at h
    obtain ⟨d, hd, h⟩ := Comp.bind_eq_ok h
    obtain ⟨r, hset, h⟩ := Comp.bind_eq_ok h
    cases h
    obtain rfl := (i128_sub_ok_iff.mp hd).2
    refine ⟨by omega, fun _ => ?_, fun hz => absurd hz (by omega)⟩
    unfold live at hc
    split at hc
    · omega
    · exact ⟨by omega, by omega, (gen_set_allowance_sound envr st r.2 o s _ _ hset).2.2.2⟩
  · rw [if_neg hp] at h
    cases h
    exact ⟨by omega, fun hp' => absurd hp' hp, fun _ => rfl⟩

/-- a spend of a negative amount or of more than the allowance is worth NOW (zero after its expiry) is
refused -/
theorem gen_spend_refused (envr : Fungible.Reads) (st : Fungible.Store) (o s : Nat) (amount : Int)
    (h : amount < 0 ∨ live envr st o s < amount) :
    ((Fungible.spend_allowance envr st o s amount).bind fun _ => Comp.ok ()) = .panic := by
  rw [spend_allowance_eq, if_pos h]; rfl

/-- a spend writes nothing but this pair's allowance entry -/
theorem gen_spend_frame (envr : Fungible.Reads) (st st' : Fungible.Store) (o s : Nat) (amount : Int)
    (h : Fungible.spend_allowance envr st o s amount = .ok ((), st')) :
    st'.Balance = st.Balance ∧ st'.TotalSupply = st.TotalSupply ∧
    ∀ k, k ≠ (⟨o, s⟩ : AllowanceKey) → st'.Allowance k = st.Allowance k := by
  have hs := gen_spend_sound envr st st' o s amount h
  by_cases hp : amount > 0
  · rw [(hs.2.1 hp).2.2]
    refine ⟨rfl, rfl, fun k hk => ?_⟩
    simp [Fungible.Store.set_Allowance, hk]
  · have : amount = 0 := by omega
    rw [hs.2.2 this]
    exact ⟨rfl, rfl, fun _ _ => rfl⟩

/-! ### non-vacuity: the generated code runs -/

def demoA : Fungible.Store := ⟨fun _ => none, none, fun k => if k = ⟨1, 2⟩ then some ⟨100, 50⟩ else none⟩

example : Fungible.allowance ⟨50, 1000, fun _ => true⟩ demoA 1 2 = .ok 100 := by decide
example : Fungible.allowance ⟨51, 1000, fun _ => true⟩ demoA 1 2 = .ok 0 := by decide
example : ((Fungible.spend_allowance ⟨50, 1000, fun _ => true⟩ demoA 1 2 30).bind fun r => Comp.ok (r.2.Allowance ⟨1, 2⟩)) =
    .ok (some ⟨70, 50⟩) := by decide
example : ((Fungible.spend_allowance ⟨51, 1000, fun _ => true⟩ demoA 1 2 30).bind fun _ => Comp.ok ()) = .panic := by decide

/-! ## The entry points: who must have authorized a call that lowers a balance or writes an allowance entry -/

def balOf (st : Fungible.Store) (h : Nat) : Int := (st.Balance h).getD 0

theorem balOf_setBal (st : Fungible.Store) (a : Nat) (v : Int) (x : Nat) :
    balOf (Fungible.Store.set_Balance st a v) x = if x = a then v else balOf st x := by
  unfold balOf Fungible.Store.set_Balance
  by_cases hx : x = a
  · simp only [hx, if_true, Option.getD_some]
  · simp only [hx, if_false]

theorem balOf_setSup (st : Fungible.Store) (v : Int) (x : Nat) :
    balOf (Fungible.Store.set_TotalSupply st v) x = balOf st x := rfl

/-- an accepted `update` lowers no balance but `from`'s, and that one by at most `amount` (exactly
`amount` unless it is also the recipient) -/
theorem update_lowers_only_from (envr : Fungible.Reads) (st st' : Fungible.Store) (frm to : Option Nat) (amount : Int)
    (h : Fungible.update envr st frm to amount = .ok ((), st')) (x : Nat) (hx : balOf st' x < balOf st x) :
    frm = some x ∧ 0 ≤ amount ∧ balOf st x - amount ≤ balOf st' x := by
  -- an accepted generated `update` is an accepted `update` of the model, whose effect on one balance is known
  obtain ⟨s', hm, hA'⟩ := tokAbs.update_ok (abs_storeState st) h
  obtain ⟨h0, _, rfl⟩ := OZ.Fungible.update_eq hm
  have hb : balOf st' x = balOf st x - (if frm = some x then amount else 0) +
      (if to = some x then amount else 0) :=
    (hA'.1 x).symm.trans (OZ.Fungible.updateSt_bal (storeState st) frm to amount x)
  rw [hb] at hx ⊢
  by_cases hf : frm = some x
  · rw [if_pos hf] at hx ⊢; exact ⟨hf, h0, by split <;> omega⟩
  · rw [if_neg hf] at hx; split at hx <;> omega

theorem update_allowance {envr : Fungible.Reads} {st st' : Fungible.Store} {frm to : Option Nat} {amount : Int}
    (h : Fungible.update envr st frm to amount = .ok ((), st')) : st'.Allowance = st.Allowance :=
  ops.update_keeps (·.Allowance = st.Allowance) (fun _ _ _ h => h) (fun _ _ h => h) h rfl

/-- an accepted `update` touches no allowance entry (on stores of i128 values) -/
theorem update_keeps_allowance (envr : Fungible.Reads) (st st' : Fungible.Store) (hR : InRange st)
    (frm to : Option Nat) (amount : Int) (h : Fungible.update envr st frm to amount = .ok ((), st')) :
    st'.Allowance = st.Allowance :=
  update_allowance h

inductive Call where
  | transfer (frm to : Nat) (amount : Int)
  | transferFrom (spender frm to : Nat) (amount : Int)
  | burn (frm : Nat) (amount : Int)
  | burnFrom (spender frm : Nat) (amount : Int)
  | approve (owner spender : Nat) (amount : Int) (lu : Nat)
  | mint (to : Nat) (amount : Int)

def run (envr : Fungible.Reads) (st : Fungible.Store) : Call → Comp (Unit × Fungible.Store)
  | .transfer f t a => Fungible.transfer envr st f t a
  | .transferFrom sp f t a => Fungible.transfer_from envr st sp f t a
  | .burn f a => Fungible.burn envr st f a
  | .burnFrom sp f a => Fungible.burn_from envr st sp f a
  | .approve o sp a lu => Fungible.approve envr st o sp a lu
  | .mint t a => Fungible.mint envr st t a

theorem bind_snd_ok {α : Type} {c : Comp (Unit × α)} {st' : α}
    (h : (Comp.bind c fun t => Comp.ok ((), t.2)) = .ok ((), st')) : c = .ok ((), st') :=
  snd_ok h

theorem gen_direct_needs_holder (envr : Fungible.Reads) (st st' : Fungible.Store) (f : Nat) (to : Option Nat) (a : Int)
    (h : (if envr.authorized f = true then
            Comp.bind (Fungible.update envr st (some f) to a) fun t => Comp.ok ((), t.2)
          else Comp.panic) = .ok ((), st')) :
    envr.authorized f = true ∧ Fungible.update envr st (some f) to a = .ok ((), st') := by
  obtain ⟨ha, h⟩ := Comp.require_eq_ok h
  exact ⟨ha, bind_snd_ok h⟩

theorem gen_delegated_needs_spender (envr : Fungible.Reads) (st st' : Fungible.Store) (sp f : Nat) (to : Option Nat) (a : Int)
    (h : (if envr.authorized sp = true then
            Comp.bind (Fungible.spend_allowance envr st f sp a) fun t1 =>
              Comp.bind (Fungible.update envr t1.2 (some f) to a) fun t2 => Comp.ok ((), t2.2)
          else Comp.panic) = .ok ((), st')) :
    envr.authorized sp = true ∧ ∃ st1, Fungible.spend_allowance envr st f sp a = .ok ((), st1) ∧
      Fungible.update envr st1 (some f) to a = .ok ((), st') := by
  obtain ⟨ha, h⟩ := Comp.require_eq_ok h
  obtain ⟨⟨_, st1⟩, hs, h⟩ := Comp.bind_eq_ok h
  exact ⟨ha, st1, hs, bind_snd_ok h⟩

theorem run_ok {envr : Fungible.Reads} {st st' : Fungible.Store} {c : Call} (h : run envr st c = .ok ((), st')) :
    match c with
    | .transfer f t a => envr.authorized f = true ∧ Fungible.update envr st (some f) (some t) a = .ok ((), st')
    | .burn f a => envr.authorized f = true ∧ Fungible.update envr st (some f) none a = .ok ((), st')
    | .transferFrom sp f t a => envr.authorized sp = true ∧ ∃ st1, Fungible.spend_allowance envr st f sp a = .ok ((), st1) ∧
        Fungible.update envr st1 (some f) (some t) a = .ok ((), st')
    | .burnFrom sp f a => envr.authorized sp = true ∧ ∃ st1, Fungible.spend_allowance envr st f sp a = .ok ((), st1) ∧
        Fungible.update envr st1 (some f) none a = .ok ((), st')
    | .approve o sp a lu => envr.authorized o = true ∧ Fungible.set_allowance envr st o sp a lu = .ok ((), st')
    | .mint t a => Fungible.update envr st none (some t) a = .ok ((), st') := by
  cases c with
  | transfer f t a => exact gen_direct_needs_holder envr st st' f _ a h
  | burn f a => exact gen_direct_needs_holder envr st st' f _ a h
  | transferFrom sp f t a => exact gen_delegated_needs_spender envr st st' sp f _ a h
  | burnFrom sp f a => exact gen_delegated_needs_spender envr st st' sp f _ a h
  | approve o sp a lu =>
    obtain ⟨ha, h⟩ := Comp.require_eq_ok (c := envr.authorized o = true) h
    exact ⟨ha, snd_ok h⟩
  | mint t a => exact snd_ok h

/-- **C02 on the source as translated.**  Whatever entry point is called, on whatever store of i128
values, at whatever ledger and under whatever authorizations: if the call is accepted and the balance of an
account `x` is lower afterwards, then EITHER it is a `transfer` / `burn` from `x` that `x` authorized, OR it
is a `transfer_from` / `burn_from` from `x` authorized by its spender, whose allowance from `x` was
unexpired and at least the (positive) amount — and is lower by exactly that amount afterwards, with the
same expiry.  `approve` and `mint` lower no balance. -/
theorem gen_balance_lowered_only_with_authorization (envr : Fungible.Reads) (st st' : Fungible.Store)
    (hR : InRange st) (c : Call) (h : run envr st c = .ok ((), st')) (x : Nat) (hx : balOf st' x < balOf st x) :
    match c with
    | .transfer f _ _ => f = x ∧ envr.authorized x = true
    | .burn f _ => f = x ∧ envr.authorized x = true
    | .transferFrom sp f _ a | .burnFrom sp f a =>
        f = x ∧ envr.authorized sp = true ∧ 0 < a ∧
        envr.ledger_sequence ≤ (entry st x sp).live_until_ledger ∧ a ≤ (entry st x sp).amount ∧
        entry st' x sp = ⟨(entry st x sp).amount - a, (entry st x sp).live_until_ledger⟩
    | .approve _ _ _ _ => False
    | .mint _ _ => False := by
  have direct : ∀ {f : Nat} {to : Option Nat} {a : Int}, envr.authorized f = true ∧
      Fungible.update envr st (some f) to a = .ok ((), st') → f = x ∧ envr.authorized x = true := by
    rintro f to a ⟨ha, hu⟩
    obtain ⟨hf, _, _⟩ := update_lowers_only_from envr st st' (some f) to a hu x hx
    cases hf; exact ⟨rfl, ha⟩
  have delegated : ∀ {sp f : Nat} {to : Option Nat} {a : Int}, (envr.authorized sp = true ∧ ∃ st1,
      Fungible.spend_allowance envr st f sp a = .ok ((), st1) ∧ Fungible.update envr st1 (some f) to a = .ok ((), st')) →
      f = x ∧ envr.authorized sp = true ∧ 0 < a ∧
        envr.ledger_sequence ≤ (entry st x sp).live_until_ledger ∧ a ≤ (entry st x sp).amount ∧
        entry st' x sp = ⟨(entry st x sp).amount - a, (entry st x sp).live_until_ledger⟩ := by
    rintro sp f to a ⟨ha, st1, hs, hu⟩
    obtain ⟨hb, -, -⟩ := gen_spend_frame envr st st1 f sp a hs
    have hx1 : balOf st' x < balOf st1 x := by unfold balOf at hx ⊢; rw [hb]; exact hx
    obtain ⟨hf, h0, hle⟩ := update_lowers_only_from envr st1 st' (some f) to a hu x hx1
    cases hf
    have hpos : 0 < a := by omega
    obtain ⟨hlive, hamt, hst1⟩ := (gen_spend_sound envr st st1 x sp a hs).2.1 hpos
    refine ⟨rfl, ha, hpos, hlive, hamt, ?_⟩
    unfold entry
    rw [update_allowance hu, hst1]
    simp [Fungible.Store.set_Allowance]
    exact ⟨rfl, rfl⟩
  have := run_ok h
  cases c with
  | transfer f t a => exact direct this
  | burn f a => exact direct this
  | transferFrom sp f t a => exact delegated this
  | burnFrom sp f a => exact delegated this
  | approve o sp a lu =>
    rw [(gen_set_allowance_sound envr st st' o sp a lu this.2).2.2.2] at hx
    simp [balOf, Fungible.Store.set_Allowance] at hx
  | mint t a => cases (update_lowers_only_from envr st st' none (some t) a this x hx).1

/-- an allowance entry changes only in `approve` authorized by its OWNER, or by a spend of its own spender
(the two delegated entry points above): `transfer`, `burn` and `mint` write no allowance at all -/
theorem gen_allowance_written_only_by_owner_or_spend (envr : Fungible.Reads) (st st' : Fungible.Store)
    (hR : InRange st) (c : Call) (h : run envr st c = .ok ((), st')) (k : AllowanceKey)
    (hk : st'.Allowance k ≠ st.Allowance k) :
    match c with
    | .approve o sp _ _ => k = ⟨o, sp⟩ ∧ envr.authorized o = true
    | .transferFrom sp f _ _ | .burnFrom sp f _ => k = ⟨f, sp⟩ ∧ envr.authorized sp = true
    | .transfer _ _ _ | .burn _ _ | .mint _ _ => False := by
  have delegated : ∀ {sp f : Nat} {to : Option Nat} {a : Int} {st1}, Fungible.spend_allowance envr st f sp a = .ok ((), st1) →
      Fungible.update envr st1 (some f) to a = .ok ((), st') → k = ⟨f, sp⟩ := by
    intro sp f to a st1 hs hu
    apply Classical.byContradiction
    intro hne
    exact hk (by rw [update_allowance hu]; exact (gen_spend_frame envr st st1 f sp a hs).2.2 k hne)
  have := run_ok h
  cases c with
  | transfer f t a => exact hk (by rw [update_allowance this.2])
  | burn f a => exact hk (by rw [update_allowance this.2])
  | mint t a => exact hk (by rw [update_allowance this])
  | transferFrom sp f t a => obtain ⟨ha, st1, hs, hu⟩ := this; exact ⟨delegated hs hu, ha⟩
  | burnFrom sp f a => obtain ⟨ha, st1, hs, hu⟩ := this; exact ⟨delegated hs hu, ha⟩
  | approve o sp a lu =>
    refine ⟨?_, this.1⟩
    apply Classical.byContradiction
    intro hne
    apply hk
    rw [(gen_set_allowance_sound envr st st' o sp a lu this.2).2.2.2]
    simp [Fungible.Store.set_Allowance, hne]

end OZ.Gen.Fungible
