import OZ.Lemmas.AccessMon
/-
C06 — soundness of the MONITOR that decides the property on implementation traces.

`./check C06` reports a concrete violation exactly when `OZ.Access.Mon.checkCore` (the driver's
monitor on parsed values, OZ/Model/AccessMon.lean) returns a message on the implementation's
observations. Here it is proved that on the observations of the MODEL the monitor never returns a
message, for every ledger configuration, every initial admin / owner / start ledger and every
finite history of calls (`monitor_accepts_every_model_trace`). Consequences:

  * an implementation whose observations agree with the model's (the correspondence the check
    establishes by differential testing) can never raise a monitor alarm — a monitor failure is
    never a false alarm of the monitor itself;
  * every conclusion the monitor evaluates — grant / revoke only by an authorizing admin or holder
    of the role's admin role, revoke / renounce only of held pairs, every guard (`only_admin`,
    `only_owner`, `only_role`, `has_role`, `has_any_role`, `only_any_role`,
    `ensure_if_admin_or_admin_role`) passes for exactly the entitled callers, rollback of rejected
    calls, nothing changes by the passage of time, the admin / owner change only by their own
    accept / renounce and never reappear after a renounce, every getter (count, enumeration,
    index, `get_role_member(count)`, existing roles) answers as the plain set of
    granted-not-revoked pairs — is a THEOREM about the model, in the monitor's own executable wording.

`modelObs s xr ok` (OZ/Model/AccessMon.lean) is the data the model driver prints for state `s`
(`stepLine` / `showState` / `showRole` of OZ/Drv/C06.lean): tag, `admin=`, `owner=`, `ra=` for roles
0..R-1, the role blocks of roles 0..R-1 followed by the blocks of the extra roles `xr` the op line
names, `ex=`, and the persistent words of the line (`persistStr`, built from the same `showHolders`,
`showRoles`, `showExisting` the driver prints). A history item carries its own `xr` (ANY list of
roles), so the theorem covers every op line.

A condition that looks only inside the harness's small universe (accounts < N = 5, role admins of
roles < R = 5) is STRICTER than the model outside it: the three `legacy…` conditions of OZ/Model/AccessMon.lean
hold of the model's own observations there (`legacy_monitor_false_alarm_*` below), so a monitor built on them
reports the model; the conditions `checkCore` uses demand exactly what the property states.
-/
namespace OZ.Access.Mon
open OZ.Host OZ.Access

/-- one item of a history: the authorizing addresses, the call, and the extra roles the op line
makes the driver display (any list) -/
abbrev Call := (List Nat × Op) × List Nat

theorem refinement_quiet {x : GS} (hx : GInv x) (xr touched accts : List Nat) (ok : Bool)
    (hacc : ∀ a r, x.g a r = true → a ∈ accts) :
    firstFail (checkRole x.g (modelObs x.s xr ok).ex) (modelObs x.s xr ok).roles = none ∧
    existingCheck x.g touched accts (modelObs x.s xr ok).ex = none := by
  rw [← hx.set] at hacc ⊢
  refine ⟨firstFail_none ?_, existingCheck_model hx.inv touched accts hacc⟩
  intro ro hro
  have : ∃ r, ro = modelRole x.s r := by
    simp only [modelObs, List.mem_append, List.mem_map] at hro
    rcases hro with ⟨r, -, e⟩ | ⟨r, -, e⟩ <;> exact ⟨r, e.symm⟩
  obtain ⟨r, rfl⟩ := this
  exact checkRole_model hx.inv r

theorem step_quiet {m : Mon} {x y : GS} {auth : List Nat} {op : Op} {ok : Bool} (ha : Agree m x) (xr : List Nat)
    (hy : GInv y) (hg : y.g = setStep x.g op ok) (hra : y.s.roleAdmin = raStep x.s.roleAdmin op ok)
    (h1 : verdict m auth op (modelObs y.s xr ok) = none) (h2 : holderCheck m op (modelObs y.s xr ok) = none) :
    (checkCore m auth op (modelObs y.s xr ok)).2 = none ∧ Agree (checkCore m auth op (modelObs y.s xr ok)).1 y := by
  have hg' : setStep m.g op ok = y.g := by rw [ha.g, hg]
  have hacc : ∀ a r, y.g a r = true → a ∈ acctStep m.accts op ok := hg ▸ accts_step ha.accts op ok
  obtain ⟨r1, r2⟩ := refinement_quiet hy xr (touchStep m.touched op) _ ok hacc
  refine ⟨?_, hg', rfl, rfl, rfl, ?_, fun _ => rfl, hacc⟩
  · show firstSome _ (firstSome _ (firstSome (firstFail (checkRole (setStep m.g op ok) _) _)
      (existingCheck (setStep m.g op ok) _ _ _))) = none
    rw [h1, h2, hg', r1]
    exact r2
  · show raStep m.raG op ok = _
    rw [ha.raG, hra]

/-- **one call**: fed with the model's own observation of any call (accepted or rejected, with any
extra roles displayed), the monitor reports nothing and its state keeps describing the model's -/
theorem monitor_sound_step (c : Cfg) {m : Mon} {x : GS} (hi : MInv c x) (ha : Agree m x)
    (a : List Nat × Op) (xr : List Nat) :
    (checkCore m a.1 a.2 (modelObs (stepG c x a).s xr (accepted c x.s a))).2 = none ∧
    Agree (checkCore m a.1 a.2 (modelObs (stepG c x a).s xr (accepted c x.s a))).1 (stepG c x a) := by
  unfold stepG accepted
  cases h : apply c x.s a.1 a.2 with
  | error e =>
    exact step_quiet ha xr hi.ginv rfl rfl (verdictRejected_model hi.ginv.set ha h xr) (holderCheck_rejected ha a.2 xr)
  | ok s' =>
    obtain ⟨hi', hm⟩ := apply_effect hi.ginv.inv h
    exact step_quiet ha xr ⟨hi', by rw [hm, hi.ginv.set]⟩ rfl (apply_rest h).1
      (verdictAccepted_model hi.ginv.set ha h xr) (holderCheck_accepted hi ha h xr)

/-- the monitor run over a whole history of model observations: first message, if any -/
def monitorRun (c : Cfg) : Mon → GS → List Call → Option String
  | _, _, [] => none
  | m, x, a :: as =>
    match (checkCore m a.1.1 a.1.2 (modelObs (stepG c x a.1).s a.2 (accepted c x.s a.1))).2 with
    | some msg => some msg
    | none => monitorRun c (checkCore m a.1.1 a.1.2 (modelObs (stepG c x a.1).s a.2 (accepted c x.s a.1))).1
        (stepG c x a.1) as

/-- the initial monitor state agrees with the initial model state -/
theorem monInit_agree (admin owner : Option Nat) (start : Nat) :
    Agree (monInit admin owner) (initG admin owner start) :=
  { g := rfl, admin := rfl, owner := rfl, ra := rfl, raG := rfl,
    str := fun h => by simp [monInit] at h, accts := fun a r h => by simp [initG] at h }

/-- **monitor soundness**: for every ledger configuration, initial admin and owner (or none),
start ledger and finite history — any callers, any authorizing subsets, any accounts and roles
(also beyond the displayed universe), any role-admin configuration, hand-overs, renounces, ledger
movement, any extra roles displayed — the monitor that the driver's `minit` builds reports nothing
on the observations of the model that the driver's `initM` builds -/
theorem monitor_accepts_every_model_trace (c : Cfg) (admin owner : Option Nat) (start : Nat)
    (ops : List Call) :
    monitorRun c (monInit admin owner) (initG admin owner start) ops = none := by
  suffices ∀ m x, MInv c x → Agree m x → monitorRun c m x ops = none from
    this _ _ (initG_minv c admin owner start) (monInit_agree admin owner start)
  induction ops with
  | nil => intro m x _ _; rfl
  | cons a as ih =>
    intro m x hi ha
    obtain ⟨h1, h2⟩ := monitor_sound_step c hi ha a.1 a.2
    unfold monitorRun
    rw [h1]
    exact ih _ _ (stepG_minv c hi a.1) h2

/-! ### the `legacy…` conditions hold of observations of the model

Each theorem runs the MODEL on a short history that leaves the harness's universe and shows that a `legacy…`
condition of OZ/Model/AccessMon.lean holds of the model's own observation, i.e. a monitor using it reports the
named site; the condition `checkCore` uses is silent on the same input. -/

/-- model trace: `grant_role_no_auth(7, role 0)` on a fresh contract. The enumeration of role 0 is
[7], exactly the set. `legacyMembersDiffer` (`site=ac.set.members`, enumerated accounts required < N) holds
because 7 ≥ N; `membersDiffer` does not. -/
theorem legacy_monitor_false_alarm_members :
    legacyMembersDiffer (runG ⟨1, 1000⟩ (initG (some 0) (some 1) 100) [([], .grantNoAuth 7 0 0)]).g
      (modelRole (runG ⟨1, 1000⟩ (initG (some 0) (some 1) 100) [([], .grantNoAuth 7 0 0)]).s 0) = true ∧
    membersDiffer (runG ⟨1, 1000⟩ (initG (some 0) (some 1) 100) [([], .grantNoAuth 7 0 0)]).g
      (modelRole (runG ⟨1, 1000⟩ (initG (some 0) (some 1) 100) [([], .grantNoAuth 7 0 0)]).s 0) = false := by
  decide

/-- the monitor state after feeding it the model's observations of `ops` (whatever it reported) -/
def monAfter (c : Cfg) : Mon → GS → List Call → Mon
  | m, _, [] => m
  | m, x, a :: as =>
    monAfter c (checkCore m a.1.1 a.1.2 (modelObs (stepG c x a.1).s a.2 (accepted c x.s a.1))).1 (stepG c x a.1) as

/-- role 7 gets admin role 1, account 2 holds role 1 -/
def raTrace : List Call :=
  [(([], .setRoleAdminNoAuth 7 1), [7]), (([], .grantNoAuth 2 1 0), [])]

/-- model trace: `set_role_admin_no_auth(role 7, admin role 1)`, `grant_role_no_auth(2, role 1)`; then
account 2 grants role 7 to account 3 with its own authorization. The model accepts (2 holds the
admin role of role 7). `legacyMayAdminister` (`site=ac.grant.unauthorized`) takes the role admin of a
role ≥ R to be absent and denies it; `mayAdminister` grants it. -/
theorem legacy_monitor_false_alarm_role_admin :
    accepted ⟨1, 1000⟩ (runG ⟨1, 1000⟩ (initG (some 0) (some 1) 100) (raTrace.map (·.1))).s ([2], .grant 3 7 2) = true ∧
    legacyMayAdminister (monAfter ⟨1, 1000⟩ (monInit (some 0) (some 1)) (initG (some 0) (some 1) 100) raTrace) 7 2 = false ∧
    mayAdminister (monAfter ⟨1, 1000⟩ (monInit (some 0) (some 1)) (initG (some 0) (some 1) 100) raTrace) 7 2 = true := by
  decide

/-- model trace: `grant_role_no_auth(7, role 9)` on a fresh contract. Role 9 is listed in the
existing roles and does have a member. `legacyExistingEmpty` (`site=ac.existing.empty`) looks for members
among the accounts 0..N-1 only and holds; `existingEmpty` does not. -/
theorem legacy_monitor_false_alarm_existing :
    legacyExistingEmpty (runG ⟨1, 1000⟩ (initG (some 0) (some 1) 100) [([], .grantNoAuth 7 9 0)]).g
      (getExistingRoles (runG ⟨1, 1000⟩ (initG (some 0) (some 1) 100) [([], .grantNoAuth 7 9 0)]).s) = true ∧
    existingEmpty (runG ⟨1, 1000⟩ (initG (some 0) (some 1) 100) [([], .grantNoAuth 7 9 0)]).g
      (acctStep [] (.grantNoAuth 7 9 0) true)
      (getExistingRoles (runG ⟨1, 1000⟩ (initG (some 0) (some 1) 100) [([], .grantNoAuth 7 9 0)]).s) = false := by
  decide

/-! ### non-vacuity: the monitor is not trivially silent -/

/-- a stranger's grant that the implementation accepts is reported -/
example :
    (checkCore (monInit (some 0) (some 1)) [3] (.grant 1 0 3)
      ⟨true, some 0, some 1, List.replicate R none, [], [], ""⟩).2.isSome = true := by decide

/-- a role block with a count that the enumeration does not reach is reported; so is an enumerated
account outside the set, and a granted account that `has_role` denies -/
example :
    (checkRole (fun _ _ => false) [] ⟨0, 1, [], [none, none, none, none, none], "F"⟩).isSome = true ∧
    membersDiffer (fun _ _ => false) ⟨0, 1, [some 2], [none, none, none, none, none], "F"⟩ = true ∧
    hasRoleDiffers (fun a r => a == 1 && r == 0) ⟨0, 0, [], [none, none, none, none, none], "F"⟩ = true := by
  decide

/-- an admin that reappears after the renounce is reported -/
example :
    (holderCheck { monInit none (some 1) with first := false } (.adm .accept)
      ⟨true, some 3, some 1, [], [], [], ""⟩).isSome = true := by decide

end OZ.Access.Mon
