import OZ.Lemmas.TimelockController
/-
C09 — A self-administered timelock controller cannot be driven around its own delay.

The model (OZ/Model/TimelockController.lean) mirrors
examples/timelock-controller/src/contract.rs, whose `__check_auth` rejects a
descriptor vector whose length differs from the number of authorized contexts, on top of the
C08 timelock model and of C06's access-control model (OZ/Model/Access.lean): the controller's whole
exposed `AccessControl` surface is covered — `grant_role` / `revoke_role` by the admin and by holders
of a role's admin role, `set_role_admin`, `renounce_role`, `transfer_admin_role`,
`accept_admin_transfer`, `renounce_admin`.

All statements are universally quantified over every controller state, every set of
authorizations (`auth`), every signature payload attached for the controller's own address
(`sig`: none, empty, short, long, arbitrary predecessor / salt / executor fields) and every
argument of every entry point. `check_auth_short_payload_counterexample` shows what that length
comparison prevents, on the transition without it (`checkAuthLegacy`, `applyLegacy`).
-/
namespace OZ.TimelockController
open OZ.Host OZ.Timelock

/-! ### `__check_auth` -/

/-- `__check_auth` returns Ok ⇒ there are exactly as many descriptors as contexts and, for every
context `i`: it is a call on the controller itself; the operation
`(self, fn_i, args_i, pred_i, salt_i)` was Ready before and is Done after (its predecessor zero or
Done); and if executors are configured `executor_i` holds the role and authorized the tuple
("execute_op", self, fn_i, args_i, pred_i, salt_i). -/
theorem check_auth_consumes {c c' : CState} {auth : List AuthTok} {metas : List Meta}
    {ctxs : List Context} (h : checkAuth c auth metas ctxs = .ok c') :
    metas.length = ctxs.length ∧
    ∀ i (hc : i < ctxs.length) (hm : i < metas.length),
      ∃ fn args, ctxs[i] = .contract c.self fn args ∧ Consumed c c' auth fn args metas[i] := by
  obtain ⟨hl, hp⟩ := checkAuth_ok h
  refine ⟨hl, ?_⟩
  intro i hc hm
  obtain ⟨_, hall⟩ := checkPairs_ok hp
  have hmem : (ctxs[i], metas[i]) ∈ ctxs.zip metas := by
    have hz : i < (ctxs.zip metas).length := by simp [List.length_zip]; omega
    have := List.getElem_mem hz
    rw [List.getElem_zip] at this
    exact this
  exact hall _ hmem

/-- … and it changes nothing else: roles, admin, pending admin, minimum delay, clock and target
calls are untouched, a Done operation stays Done, and an operation whose ledger changed was Ready
and is now Done -/
theorem check_auth_frame {c c' : CState} {auth : List AuthTok} {metas : List Meta}
    {ctxs : List Context} (h : checkAuth c auth metas ctxs = .ok c') : Frame c c' :=
  (checkPairs_ok (checkAuth_ok h).2).1

/-- no payload of the wrong length is accepted: empty, short or long -/
theorem check_auth_rejects_length_mismatch (c : CState) (auth : List AuthTok) (metas : List Meta)
    (ctxs : List Context) (h : metas.length ≠ ctxs.length) :
    checkAuth c auth metas ctxs = .error .lengthMismatch := by
  unfold checkAuth; rw [if_pos h]

/-- a context that is not a call on the controller itself (another contract, contract creation)
is never authorized -/
theorem check_auth_only_self_calls {c c' : CState} {auth : List AuthTok} {metas : List Meta}
    {ctxs : List Context} (h : checkAuth c auth metas ctxs = .ok c') :
    ∀ ctx ∈ ctxs, ∃ fn args, ctx = .contract c.self fn args := by
  intro ctx hin
  obtain ⟨i, hi, rfl⟩ := List.getElem_of_mem hin
  obtain ⟨hl, hall⟩ := check_auth_consumes h
  obtain ⟨fn, args, hc, _⟩ := hall i hi (by omega)
  exact ⟨fn, args, hc⟩

/-- non-vacuity: a scheduled, ready `update_delay(42)` is consumed by the right descriptor … -/
example : (checkAuth
    (match applyE (construct 100 200000 0 0 [1] [] none) [.call 1] none
        (.scheduleOp ⟨0, FN_UPDATE_DELAY, [vU32 42], Id.zero, 0⟩ 0 1) with
      | .ok c => c | .error _ => construct 100 200000 0 0 [1] [] none)
    [] [⟨Id.zero, 0, none⟩] [.contract 0 FN_UPDATE_DELAY [vU32 42]]).toBool = true := by decide
/-- … and not by a descriptor with another salt -/
example : (checkAuth
    (match applyE (construct 100 200000 0 0 [1] [] none) [.call 1] none
        (.scheduleOp ⟨0, FN_UPDATE_DELAY, [vU32 42], Id.zero, 0⟩ 0 1) with
      | .ok c => c | .error _ => construct 100 200000 0 0 [1] [] none)
    [] [⟨Id.zero, 1, none⟩] [.contract 0 FN_UPDATE_DELAY [vU32 42]]).toBool = false := by decide

/-! ### a self-administered controller -/

/-- On a controller whose admin is the contract itself, an accepted admin-only call
(`update_delay`, `set_role_admin`, `transfer_admin_role`, `renounce_admin`) was authorized by a
payload of exactly one descriptor `m`, and the operation
`(self, that function, exactly those arguments, m.pred, m.salt)` was Ready before the call and is
Done after it (executor conditions as in `Consumed`). Whatever payload is attached — none, empty,
short, long, mismatched — nothing else gets the call through. -/
theorem admin_call_consumes_ready_op {c c' : CState} {auth : List AuthTok} {sig : Option (List Meta)}
    {x : Entry} {fn : Nat} {args : List Nat} (hself : c.admin = some c.self)
    (hx : x.adminCall = some (fn, args)) (h : applyE c auth sig x = .ok c') :
    ∃ m, sig = some [m] ∧ Consumed c c' auth fn args m := by
  obtain ⟨a, c1, ha, h1, hb⟩ := admin_ok hx h
  rw [hself] at ha; cases ha
  rcases (auth_step h1).2 with ⟨_, m, hm, hcons⟩ | ⟨hne, _, _⟩
  · exact ⟨m, hm, hb.consumed hcons⟩
  · exact absurd rfl hne

/-- `grant_role` / `revoke_role` / `renounce_role` are authorized by the caller named in the
arguments: if that is the controller itself, exactly one descriptor and the operation for exactly
that call was consumed; otherwise that account signed the call (and `__check_auth` did not run:
the timelock state is untouched). Moreover a grant / revoke was permitted: the caller is the admin
or holds the admin role of the role concerned. -/
theorem caller_call_authorized {c c' : CState} {auth : List AuthTok} {sig : Option (List Meta)}
    {x : Entry} {k fn : Nat} {args : List Nat} (hx : x.callerCall = some (k, fn, args))
    (h : applyE c auth sig x = .ok c') :
    ((k = c.self ∧ ∃ m, sig = some [m] ∧ Consumed c c' auth fn args m) ∨
     (k ≠ c.self ∧ AuthTok.call k ∈ auth ∧ c'.tl = c.tl)) ∧
    (∀ a r, (x = .grantRole a r k ∨ x = .revokeRole a r k) →
      OZ.Access.isAdmin c.ac k = true ∨ OZ.Access.isAdminRole c.ac r k = true) := by
  obtain ⟨c1, h1, hac, hb⟩ := caller_ok hx h
  refine ⟨?_, ?_⟩
  · rcases (auth_step h1).2 with ⟨hk, m, hm, hcons⟩ | ⟨hne, hin, rfl⟩
    · exact Or.inl ⟨hk, m, hm, hb.consumed hcons⟩
    · exact Or.inr ⟨hne, hin, hb.tl (by rw [hx]; rfl)⟩
  · rintro a r (rfl | rfl) <;> cases hb <;> rw [← hac] <;> assumption

/-- exact effect of the three membership-changing entry points on the access-control state (in a
state satisfying C06's invariant): one (account, role) pair is switched on / off, role admins and
the admin machine are untouched; the timelock part is what `__check_auth` left -/
theorem membership_effect {c c' : CState} {auth : List AuthTok} {sig : Option (List Meta)}
    (hinv : OZ.Access.Inv c.ac) :
    (∀ a r k, applyE c auth sig (.grantRole a r k) = .ok c' →
      OZ.Access.memb c'.ac = upd2 (OZ.Access.memb c.ac) a r true ∧ OZ.Access.SameRest c.ac c'.ac ∧
        c'.tl.minDelay = c.tl.minDelay) ∧
    (∀ a r k, applyE c auth sig (.revokeRole a r k) = .ok c' →
      OZ.Access.memb c'.ac = upd2 (OZ.Access.memb c.ac) a r false ∧ OZ.Access.memb c.ac a r = true ∧
        OZ.Access.SameRest c.ac c'.ac ∧ c'.tl.minDelay = c.tl.minDelay) ∧
    (∀ r k, applyE c auth sig (.renounceRole r k) = .ok c' →
      OZ.Access.memb c'.ac = upd2 (OZ.Access.memb c.ac) k r false ∧ OZ.Access.memb c.ac k r = true ∧
        OZ.Access.SameRest c.ac c'.ac ∧ c'.tl.minDelay = c.tl.minDelay) := by
  refine ⟨?_, ?_, ?_⟩
  · intro a r k h
    obtain ⟨c1, h1, hac, hb⟩ := caller_ok rfl h
    cases hb with
    | grantRole _ hg =>
      rw [hac] at hg
      obtain ⟨_, hm, hr⟩ := OZ.Access.grantRoleNoAuth_effect hinv hg
      exact ⟨hm, hr, (auth_step h1).1.minDelay⟩
  · intro a r k h
    obtain ⟨c1, h1, hac, hb⟩ := caller_ok rfl h
    cases hb with
    | revokeRole _ hg =>
      rw [hac] at hg
      obtain ⟨_, hm, hb, hr⟩ := OZ.Access.revokeRoleNoAuth_effect hinv hg
      exact ⟨hm, hb, hr, (auth_step h1).1.minDelay⟩
  · intro r k h
    obtain ⟨c1, h1, hac, hb⟩ := caller_ok rfl h
    cases hb with
    | renounceRole hg =>
      rw [hac] at hg
      obtain ⟨_, hm, hb, hr⟩ := OZ.Access.revokeRoleNoAuth_effect hinv hg
      exact ⟨hm, hb, hr, (auth_step h1).1.minDelay⟩

/-- **Every change of the governance state of a self-administered controller has one of four
causes.** If an accepted invocation changes the minimum delay, role membership, a role's admin
role, the admin or the pending admin (`¬ SameGov`), then
* (A) the controller's own `require_auth` was passed: the call is an admin-only entry point
  (`update_delay`, `set_role_admin`, `transfer_admin_role`, `renounce_admin`) or a `grant_role` /
  `revoke_role` / `renounce_role` whose caller is the controller, the payload was exactly one
  descriptor and the Ready operation for exactly that function and those arguments was consumed; or
* (B) it is a `grant_role` / `revoke_role` of role `r` by an ordinary account `k` that holds the
  admin role of `r` (`set_role_admin` — itself an admin-only, timelocked call — made it so) and
  signed the call; or
* (C) it is a `renounce_role` by the holder `k` itself, who signed the call; or
* (D) it is `accept_admin_transfer` by the live pending admin (installed by a timelocked
  `transfer_admin_role`), who signed the call.
In (B)–(D) `__check_auth` did not run (`c'.tl = c.tl`). -/
theorem admin_effect_requires_ready_op {c c' : CState} {auth : List AuthTok} {sig : Option (List Meta)}
    {x : Entry} (hself : c.admin = some c.self) (h : applyE c auth sig x = .ok c')
    (heff : ¬ SameGov c c') :
    (∃ fn args m, (x.adminCall = some (fn, args) ∨ x.callerCall = some (c.self, fn, args)) ∧
        sig = some [m] ∧ Consumed c c' auth fn args m) ∨
    (∃ a r k, (x = .grantRole a r k ∨ x = .revokeRole a r k) ∧ k ≠ c.self ∧ AuthTok.call k ∈ auth ∧
        OZ.Access.isAdminRole c.ac r k = true ∧ c'.tl = c.tl) ∨
    (∃ r k, x = .renounceRole r k ∧ k ≠ c.self ∧ AuthTok.call k ∈ auth ∧ c'.tl = c.tl) ∨
    (x = .acceptAdmin ∧ ∃ p, Temp.get? c.ac.adm.pending c.ac.adm.now = some p ∧ p ≠ c.self ∧
        AuthTok.call p ∈ auth ∧ c'.admin = some p ∧ c'.tl = c.tl) := by
  cases hx : x.adminCall with
  | some fa =>
    obtain ⟨fn, args⟩ := fa
    obtain ⟨m, hm, hcons⟩ := admin_call_consumes_ready_op hself hx h
    exact Or.inl ⟨fn, args, m, Or.inl rfl, hm, hcons⟩
  | none =>
    cases hy : x.callerCall with
    | some kfa =>
      obtain ⟨k, fn, args⟩ := kfa
      obtain ⟨hauth, hperm⟩ := caller_call_authorized hy h
      rcases hauth with ⟨hk, m, hm, hcons⟩ | ⟨hne, hin, htl⟩
      · subst hk
        exact Or.inl ⟨fn, args, m, Or.inr rfl, hm, hcons⟩
      · have notAdmin : OZ.Access.isAdmin c.ac k = false := by
          unfold OZ.Access.isAdmin
          have : OZ.Access.getAdmin c.ac = some c.self := hself
          rw [this]
          simp only [beq_eq_false_iff_ne, ne_eq]
          exact hne
        rcases Entry.callerCall_cases hy with ⟨a, r, hx⟩ | ⟨r, rfl⟩
        · rcases hperm a r hx with hp | hp
          · rw [notAdmin] at hp; cases hp
          · exact Or.inr (Or.inl ⟨a, r, k, hx, hne, hin, hp, htl⟩)
        · exact Or.inr (Or.inr (Or.inl ⟨r, k, rfl, hne, hin, htl⟩))
    | none =>
      cases x with
      | updateDelay _ | setRoleAdmin _ _ | transferAdmin _ _ | renounceAdmin => cases hx
      | grantRole _ _ _ | revokeRole _ _ _ | renounceRole _ _ => cases hy
      | acceptAdmin =>
        obtain ⟨t, p, hp, hh, hne, hcall, rfl⟩ := applyE_ok h
        exact Or.inr (Or.inr (Or.inr ⟨rfl, p, hp, hne, hcall, hh, rfl⟩))
      | scheduleOp op d p =>
        obtain ⟨_, _, tl', hs, rfl⟩ := applyE_ok h
        exact absurd ⟨((apply_iff (x := .schedule op d)).mp hs).minDelay (by intro d' e; cases e), rfl, rfl, rfl, rfl⟩ heff
      | cancelOp id k =>
        obtain ⟨_, _, tl', hs, rfl⟩ := applyE_ok h
        exact absurd ⟨((apply_iff (x := .cancel id)).mp hs).minDelay (by intro d' e; cases e), rfl, rfl, rfl, rfl⟩ heff
      | executeOp op ex ok =>
        obtain ⟨_, tl', hs, rfl⟩ := applyE_ok h
        exact absurd ⟨((apply_iff (x := .execute op ok)).mp hs).minDelay (by intro d' e; cases e), rfl, rfl, rfl, rfl⟩ heff
      | checkAuth metas ctxs =>
        exact absurd (check_auth_frame (show checkAuth c auth metas ctxs = .ok c' from h)).sameGov heff
      | advance n =>
        obtain ⟨tl', hs, rfl⟩ := applyE_ok h
        exact absurd ⟨((apply_iff (x := .advance n)).mp hs).minDelay (by intro d' e; cases e), rfl, rfl, rfl, rfl⟩ heff

/-- the consumed operation really went through the timelock: in a reachable state it was scheduled
(an accepted `schedule_operation` of exactly this id is in the log) with a delay not below the
minimum delay then in force, that delay has elapsed, and nothing about it was accepted since -/
theorem consumed_op_was_scheduled {c c' : CState} {auth : List AuthTok} {fn : Nat} {args : List Nat}
    {m : Meta} (hi : Inv c.tl) (h : Consumed c c' auth fn args m) :
    ∃ newer older l d md, c.tl.log = newer ++ Ev.sched (opOf c.self fn args m).id l d md :: older ∧
      (∀ e ∈ newer, e.id ≠ (opOf c.self fn args m).id) ∧ md ≤ d ∧ elapsed l d c.tl.now :=
  ready_was_scheduled hi h.1

/-- every accepted invocation keeps the timelock invariant (C08) and the access-control invariant (C06): one
step; `construct_inv` has them at the start (the induction over a history of invocations is not stated) -/
theorem controller_inv {c c' : CState} {auth : List AuthTok} {sig : Option (List Meta)} {x : Entry}
    (hi : Inv c.tl) (ha : OZ.Access.Inv c.ac) (h : applyE c auth sig x = .ok c') :
    Inv c'.tl ∧ OZ.Access.Inv c'.ac := by
  obtain ⟨_, hac, ops, ho⟩ := applyE_decomp h
  exact ⟨ho ▸ run_inv hi _, hac ha⟩

/-- the constructor establishes both invariants at ledgers ≥ 2 -/
theorem construct_inv {now maxTtl self minDelay : Nat} {ps es : List Nat} {admin : Option Nat}
    (h2 : 2 ≤ now) (hm : now ≤ U32_MAX) :
    Inv (construct now maxTtl self minDelay ps es admin).tl ∧
    OZ.Access.Inv (construct now maxTtl self minDelay ps es admin).ac := by
  have keep : ∀ (s : AC) (a r k : Nat), OZ.Access.Inv s → OZ.Access.Inv (grantOrKeep s a r k) := by
    intro s a r k hs
    unfold grantOrKeep
    cases hg : OZ.Access.grantRoleNoAuth s a r k with
    | error e => exact hs
    | ok s' => exact (OZ.Access.grantRoleNoAuth_effect hs hg).1
  have := init_inv h2 hm
  exact ⟨⟨this.nowLo, this.nowHi, this.coh, this.cnt⟩,
    OZ.Lists.foldl_inv (P := OZ.Access.Inv) (fun _ _ hs => keep _ _ _ _ hs) _ _
      (OZ.Lists.foldl_inv (P := OZ.Access.Inv) (fun _ _ hs => keep _ _ _ _ (keep _ _ _ _ hs)) _ _
        (OZ.Access.init_inv _ _ _))⟩

/-! ### schedule / cancel / execute -/

/-- scheduling requires the proposer role and that account's authorization -/
theorem schedule_role_and_auth {c c' : CState} {auth : List AuthTok} {sig : Option (List Meta)}
    {op : Operation} {d p : Nat} (h : applyE c auth sig (.scheduleOp op d p) = .ok c') :
    c.hasRole PROPOSER p = true ∧ AuthTok.call p ∈ auth ∧
      ∃ tl', schedule c.tl op d = .ok tl' ∧ c' = { c with tl := tl' } :=
  applyE_ok h

/-- cancelling requires the canceller role and that account's authorization -/
theorem cancel_role_and_auth {c c' : CState} {auth : List AuthTok} {sig : Option (List Meta)}
    {id : Id} {k : Nat} (h : applyE c auth sig (.cancelOp id k) = .ok c') :
    c.hasRole CANCELLER k = true ∧ AuthTok.call k ∈ auth ∧
      ∃ tl', cancel c.tl id = .ok tl' ∧ c' = { c with tl := tl' } :=
  applyE_ok h

/-- whenever any executor is configured, executing requires the executor role and that
account's authorization -/
theorem execute_role_and_auth {c c' : CState} {auth : List AuthTok} {sig : Option (List Meta)}
    {op : Operation} {ex : Option Nat} {ok : Bool} (h : applyE c auth sig (.executeOp op ex ok) = .ok c') :
    (c.executorCount ≠ 0 →
      ∃ e, ex = some e ∧ c.hasRole EXECUTOR e = true ∧ AuthTok.call e ∈ auth) ∧
    ∃ tl', execute c.tl op ok = .ok tl' ∧ c' = { c with tl := tl' } :=
  applyE_ok h

/-- operations enter the timelock only through `schedule_op`: a schedule record that is new in the
log was put there by `schedule_op`, called by a proposer who signed the call -/
theorem schedule_only_by_proposer {c c' : CState} {auth : List AuthTok} {sig : Option (List Meta)}
    {x : Entry} (h : applyE c auth sig x = .ok c') (id : Id) (l d m : Nat)
    (hnew : Ev.sched id l d m ∈ c'.tl.log) (hold : Ev.sched id l d m ∉ c.tl.log) :
    ∃ op p, x = .scheduleOp op d p ∧ op.id = id ∧ c.hasRole PROPOSER p = true ∧ AuthTok.call p ∈ auth := by
  obtain ⟨_, _, ops, ho⟩ := applyE_decomp h
  rw [ho, run_log, List.mem_append] at hnew
  -- the record was logged by a call of the run, and only `schedule` logs such a record
  obtain ⟨pre, y, post, s1, hys, _, hlg⟩ := mem_events.mp (hnew.resolve_right hold)
  cases y with
  | schedule op d' =>
    cases hlg
    have hin : Op.schedule op d ∈ ops.map Op.setExecute ++ x.tlCall.toList := by rw [hys]; simp
    rcases List.mem_append.mp hin with h1 | h1
    · obtain ⟨o, _, e⟩ := List.mem_map.mp h1; cases e
    · cases x <;> simp [Entry.tlCall] at h1
      obtain ⟨rfl, rfl⟩ := h1
      obtain ⟨hr, ha, _⟩ := applyE_ok h
      exact ⟨_, _, rfl, rfl, hr, ha⟩
  | _ => cases hlg

/-- non-vacuity of case (B): once the admin role of PROPOSER is role 3 and account 4 holds role 3,
account 4 grants PROPOSER to account 5 with its own signature and no payload; account 2 (no holder of
role 3) cannot; and account 1 renounces its own proposer role (case (C)) -/
example :
    (applyE { (construct 100 200000 0 5 [1] [] none) with
        ac := OZ.Access.setRoleAdminNoAuth (grantOrKeep (construct 100 200000 0 5 [1] [] none).ac 4 3 0) PROPOSER 3 }
      [.call 4] none (.grantRole 5 PROPOSER 4)).toBool = true ∧
    (applyE { (construct 100 200000 0 5 [1] [] none) with
        ac := OZ.Access.setRoleAdminNoAuth (grantOrKeep (construct 100 200000 0 5 [1] [] none).ac 4 3 0) PROPOSER 3 }
      [.call 2] none (.grantRole 5 PROPOSER 2)).toBool = false ∧
    (applyE (construct 100 200000 0 5 [1] [] none) [.call 1] none (.renounceRole PROPOSER 1)).toBool = true ∧
    (applyE (construct 100 200000 0 5 [1] [] none) [.call 2] none (.renounceRole PROPOSER 1)).toBool = false := by
  decide

/-- Without the length comparison (`checkAuthLegacy`, `applyLegacy`: `zip` drops the contexts that have no
descriptor): on a freshly constructed self-administered controller (minimum delay 5, one proposer, nothing
ever scheduled — the log is empty) the check returns Ok for an `update_delay(42)` context with the EMPTY
descriptor vector, and likewise for two contexts; so `update_delay(42)` called by anybody with an empty payload
sets the minimum delay to 42 and `grant_role` makes account 3 a proposer, with executors
configured or not — nothing is consumed. `checkAuth` and `applyE` reject all of these. -/
theorem check_auth_short_payload_counterexample :
    (construct 100 200000 0 5 [1] [] none).tl.log = [] ∧
    (checkAuthLegacy (construct 100 200000 0 5 [1] [] none) [] []
        [.contract 0 FN_UPDATE_DELAY [vU32 42]]).toBool = true ∧
    (checkAuthLegacy (construct 100 200000 0 5 [1] [3] none) [] []
        [.contract 0 FN_UPDATE_DELAY [vU32 42], .contract 0 FN_RENOUNCE_ADMIN []]).toBool = true ∧
    ((applyLegacy (construct 100 200000 0 5 [1] [] none) [] (some []) (.updateDelay 42)).toOption.bind
        (·.tl.minDelay)) = some 42 ∧
    ((applyLegacy (construct 100 200000 0 5 [1] [3] none) [] (some []) (.grantRole 3 PROPOSER 0)).toOption.map
        (·.hasRole PROPOSER 3)) = some true ∧
    (applyE (construct 100 200000 0 5 [1] [] none) [] (some []) (.updateDelay 42)).toBool = false ∧
    (applyE (construct 100 200000 0 5 [1] [3] none) [] (some []) (.grantRole 3 PROPOSER 0)).toBool = false ∧
    (checkAuth (construct 100 200000 0 5 [1] [] none) [] []
        [.contract 0 FN_UPDATE_DELAY [vU32 42]]).toBool = false := by
  decide

end OZ.TimelockController
