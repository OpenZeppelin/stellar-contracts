import OZ.Gen.Irs
import OZ.Lemmas.Comp
import OZ.Lemmas.Lists
/-
C20 / C15 — the identity registry storage (stored identities with recovery links), re-checked on every run against
the source.

`lean/OZ/Gen/Irs.lean` is regenerated by `/verif/tools/rs2lean.py --irs` (state-passing mode) from /repo's current
`packages/tokens/src/rwa/identity_registry_storage/storage.rs`: `stored_identity`, `get_identity_profile`,
`get_country_data`, `get_country_data_entries`, `get_recovered_to`, `add_identity`, `modify_identity`,
`remove_identity`, `recover_identity`, `add_country_data_entries`, `modify_country_data`, `delete_country_data`
(`CountryData` and `IdentityType` are opaque values; `validate_country_data` — a nest of matches on their variants — is
a function of the reads record that may trap; the loops that only emit events are kept and proved to be no-ops).

For every finite history of calls (accepted or refused, any arguments) from the empty registry:
* an account has a stored identity exactly when it has a profile, and every profile lists 1 .. 15 country entries;
* an account that was recovered away (`RecoveredTo(old) = new`) holds no identity and never gets one again:
  `stored_identity(old)` traps for ever — what the identity verifier relies on.
-/
namespace OZ.Gen.Irs
open OZ.Rs

def AllValid (envr : Irs.Reads) (l : List Nat) : Prop := ∀ c ∈ l, envr.validate_country_data c = .ok ()

instance (envr : Irs.Reads) (l : List Nat) : Decidable (AllValid envr l) := by
  unfold AllValid; infer_instance

theorem validate_loop {σ : Type} (envr : Irs.Reads) {f : List Nat → σ → Comp σ} (h0 : ∀ s, f [] s = .ok s)
    (h1 : ∀ c rest s, f (c :: rest) s = Comp.bind (envr.validate_country_data c) fun _ => f rest s) :
    ∀ xs s, f xs s = if AllValid envr xs then .ok s else .panic :=
  Comp.forEach_eq h0 h1

theorem add_identity_spec (envr : Irs.Reads) (st : Irs.Store) (a i t : Nat) (cs : List Nat) :
    Irs.add_identity envr st a i t cs =
      if (st.RecoveredTo a).isSome ∨ cs = [] ∨ cs.length > 15 ∨ ¬ AllValid envr cs ∨ (st.Identity a).isSome then .panic
      else .ok ((), Irs.Store.set_IdentityProfile (Irs.Store.set_Identity st a i) a ⟨t, cs⟩) := by
  simp only [Irs.add_identity, Irs.get_recovered_to, Comp.bind_ok, optCase_refuse, List.isEmpty_iff,
    validate_loop envr (f := (Irs.add_identity.loop1 envr · · a i t cs)) (fun _ => rfl) (fun _ _ _ => rfl),
    Comp.forEach_skip (f := (Irs.add_identity.loop2 envr · · a i t cs ⟨t, cs⟩)) (fun _ => rfl) (fun _ _ _ => rfl),
    Comp.bind_require, Comp.refuse_or, ite_not]

theorem recover_identity_spec (envr : Irs.Reads) (st : Irs.Store) (o n : Nat) :
    Irs.recover_identity envr st o n =
      match st.RecoveredTo n, st.Identity o, st.Identity n, (Irs.Store.del_Identity (Irs.Store.set_Identity st n 0) o).IdentityProfile o with
      | none, some i, none, some p =>
        .ok ((), Irs.Store.set_RecoveredTo (Irs.Store.del_IdentityProfile (Irs.Store.set_IdentityProfile
          (Irs.Store.del_Identity (Irs.Store.set_Identity st n i) o) n p) o) o n)
      | _, _, _, _ => .panic := by
  have hp : ∀ i, (Irs.Store.del_Identity (Irs.Store.set_Identity st n i) o).IdentityProfile o = st.IdentityProfile o :=
    fun _ => rfl
  unfold Irs.recover_identity Irs.get_recovered_to
  rw [hp 0, Comp.bind_ok]
  cases st.RecoveredTo n with
  | some _ => rfl
  | none =>
    cases st.Identity o with
    | none => rfl
    | some i =>
      cases st.Identity n with
      | some _ => rfl
      | none =>
        -- the profile is read after the two identity writes, which do not touch it
        show Comp.unwrap (st.IdentityProfile o) _ = _
        cases st.IdentityProfile o <;> rfl

structure Inv (st : Irs.Store) : Prop where
  paired : ∀ a, (st.Identity a).isSome = (st.IdentityProfile a).isSome
  recovered : ∀ a b, st.RecoveredTo a = some b → st.Identity a = none
  countries : ∀ a p, st.IdentityProfile a = some p → 1 ≤ p.countries.length ∧ p.countries.length ≤ 15

inductive Op
  | add (a i t : Nat) (cs : List Nat)
  | modify (a i : Nat)
  | remove (a : Nat)
  | recover (o n : Nat)
  | addCountries (a : Nat) (cs : List Nat)
  | modifyCountry (a idx c : Nat)
  | deleteCountry (a idx : Nat)

def call (envr : Irs.Reads) (st : Irs.Store) : Op → Comp (Unit × Irs.Store)
  | .add a i t cs => Irs.add_identity envr st a i t cs
  | .modify a i => Irs.modify_identity envr st a i
  | .remove a => Irs.remove_identity envr st a
  | .recover o n => Irs.recover_identity envr st o n
  | .addCountries a cs => Irs.add_country_data_entries envr st a cs
  | .modifyCountry a idx c => Irs.modify_country_data envr st a idx c
  | .deleteCountry a idx => Irs.delete_country_data envr st a idx

/-- a failed invocation is rolled back by the host -/
def step (envr : Irs.Reads) (st : Irs.Store) (o : Op) : Irs.Store :=
  match call envr st o with
  | .ok r => r.2
  | .panic => st

def run (envr : Irs.Reads) (st : Irs.Store) (ops : List Op) : Irs.Store := ops.foldl (step envr) st

theorem inv_empty : Inv ⟨fun _ => none, fun _ => none, fun _ => none⟩ :=
  ⟨fun _ => rfl, fun _ _ h => (by cases h), fun _ _ h => (by cases h)⟩

/-- The invariant speaks of each account by itself, and every writer changes the entries of one account at a time:
it is enough to look at the three entries that account has afterwards. -/
theorem Inv.update {st st' : Irs.Store} (hI : Inv st) (a : Nat)
    (off : ∀ x, x ≠ a → st'.Identity x = st.Identity x ∧ st'.IdentityProfile x = st.IdentityProfile x ∧
      st'.RecoveredTo x = st.RecoveredTo x)
    {i r : Option Nat} {p : Option IrsProfile}
    (hi : st'.Identity a = i) (hp : st'.IdentityProfile a = p) (hr : st'.RecoveredTo a = r)
    (paired : i.isSome = p.isSome) (recovered : ∀ b, r = some b → i = none)
    (countries : ∀ q, p = some q → 1 ≤ q.countries.length ∧ q.countries.length ≤ 15) : Inv st' where
  paired x := by
    by_cases e : x = a
    · rw [e, hi, hp]; exact paired
    · rw [(off x e).1, (off x e).2.1]; exact hI.paired x
  recovered x b hx := by
    by_cases e : x = a
    · rw [e, hr] at hx
      rw [e, hi]; exact recovered b hx
    · rw [(off x e).2.2] at hx
      rw [(off x e).1]; exact hI.recovered x b hx
  countries x q hx := by
    by_cases e : x = a
    · rw [e, hp] at hx; exact countries q hx
    · rw [(off x e).2.1] at hx; exact hI.countries x q hx

section
variable {st : Irs.Store} (hI : Inv st) {a : Nat}
include hI

theorem Inv.set_countries {p : IrsProfile} (hp : st.IdentityProfile a = some p) {l : List Nat}
    (hl : 1 ≤ l.length ∧ l.length ≤ 15) : Inv (Irs.Store.set_IdentityProfile st a { p with countries := l }) :=
  hI.update a (fun _ e => ⟨rfl, if_neg e, rfl⟩) rfl (if_pos rfl) rfl
    (((hI.paired a).trans (congrArg Option.isSome hp)).trans rfl) (hI.recovered a) (fun _ h => Option.some.inj h ▸ hl)

theorem Inv.add (hr : st.RecoveredTo a = none) (i : Nat) {q : IrsProfile}
    (hq : 1 ≤ q.countries.length ∧ q.countries.length ≤ 15) :
    Inv (Irs.Store.set_IdentityProfile (Irs.Store.set_Identity st a i) a q) :=
  hI.update a (fun _ e => ⟨if_neg e, if_neg e, rfl⟩) (if_pos rfl) (if_pos rfl) rfl
    rfl (fun _ hb => nomatch hr.symm.trans hb) (fun _ h => Option.some.inj h ▸ hq)

theorem Inv.remove (a : Nat) : Inv (Irs.Store.del_IdentityProfile (Irs.Store.del_Identity st a) a) :=
  hI.update a (fun _ e => ⟨if_neg e, if_neg e, rfl⟩) (if_pos rfl) (if_pos rfl) rfl
    rfl (fun _ _ => rfl) (fun _ h => nomatch h)

end

/-- A recovery is: register the new account with the old one's identity and profile, remove the old account, link old
to new; the old account had an identity, so by `recovered` no link yet. -/
theorem call_ok {envr : Irs.Reads} {st : Irs.Store} (hI : Inv st) {o : Op} {r : Unit × Irs.Store}
    (hc : call envr st o = .ok r) :
    Inv r.2 ∧ ∀ a b, st.RecoveredTo a = some b → r.2.RecoveredTo a = some b := by
  cases o with
  | add a i t cs =>
    obtain ⟨hn, h⟩ := Comp.guard_eq_ok ((add_identity_spec envr st a i t cs).symm.trans hc)
    simp only [not_or, Option.not_isSome_iff_eq_none, Decidable.not_not] at hn
    cases h
    exact ⟨hI.add hn.1 i ⟨List.length_pos_iff.2 hn.2.1, Nat.le_of_not_gt hn.2.2.1⟩, fun _ _ h => h⟩
  | modify a i =>
    obtain ⟨v, hv, h⟩ := Comp.unwrap_eq_ok (o := st.Identity a) hc
    cases h
    exact ⟨hI.update a (fun _ e => ⟨if_neg e, rfl, rfl⟩) (if_pos rfl) rfl rfl
      ((congrArg Option.isSome hv).symm.trans (hI.paired a)) (fun b hb => nomatch hv.symm.trans (hI.recovered a b hb))
      (hI.countries a), fun _ _ h => h⟩
  | remove a =>
    obtain ⟨i, -, h⟩ := Comp.unwrap_eq_ok (o := st.Identity a) hc
    obtain ⟨p, -, h⟩ := Comp.unwrap_eq_ok h
    rw [Comp.forEach_skip (f := (Irs.remove_identity.loop1 envr · · a i p)) (fun _ => rfl) (fun _ _ _ => rfl)] at h
    cases h
    exact ⟨hI.remove a, fun _ _ h => h⟩
  | recover o n =>
    have h := (recover_identity_spec envr st o n).symm.trans hc
    split at h
    · next i p h1 h2 _ h4 =>
      cases h
      have hR := (hI.add h1 i (hI.countries o p h4)).remove o
      refine ⟨hR.update o (fun _ e => ⟨rfl, rfl, if_neg e⟩) rfl rfl (if_pos rfl) (hR.paired o) (fun _ _ => if_pos rfl)
        (hR.countries o), fun a b h => ?_⟩
      have e : a ≠ o := fun e => by
        have := hI.recovered a b h
        rw [e, h2] at this; cases this
      exact (if_neg e).trans h
    · cases h
  | addCountries a cs =>
    simp only [call, Irs.add_country_data_entries] at hc
    obtain ⟨-, h⟩ := Comp.guard_eq_ok hc
    rw [validate_loop envr (f := (Irs.add_country_data_entries.loop1 envr · · a cs)) (fun _ => rfl)
      (fun _ _ _ => rfl), Comp.bind_require] at h
    obtain ⟨-, h⟩ := Comp.require_eq_ok h
    obtain ⟨p, hp, h⟩ := Comp.unwrap_eq_ok h
    obtain ⟨hl, h⟩ := Comp.guard_eq_ok h
    rw [Comp.forEach_skip (f := (Irs.add_country_data_entries.loop2 envr · · a cs (p.countries ++ cs)
      { p with countries := p.countries ++ cs })) (fun _ => rfl) (fun _ _ _ => rfl)] at h
    cases h
    refine ⟨hI.set_countries hp ⟨?_, Nat.le_of_not_gt hl⟩, fun _ _ h => h⟩
    rw [List.length_append]
    exact Nat.le_trans (hI.countries a p hp).1 (Nat.le_add_right _ _)
  | modifyCountry a idx c =>
    simp only [call, Irs.modify_country_data, Irs.get_identity_profile] at hc
    obtain ⟨_, -, h⟩ := Comp.bind_eq_ok hc
    rw [Comp.bind_unwrap] at h
    obtain ⟨p, hp, h⟩ := Comp.unwrap_eq_ok h
    obtain ⟨-, h⟩ := Comp.guard_eq_ok h
    obtain ⟨-, h⟩ := Comp.require_eq_ok h
    cases h
    refine ⟨hI.set_countries hp ?_, fun _ _ h => h⟩
    rw [List.length_set]
    exact hI.countries a p hp
  | deleteCountry a idx =>
    simp only [call, Irs.delete_country_data, Irs.get_identity_profile, Comp.bind_unwrap] at hc
    obtain ⟨p, hp, h⟩ := Comp.unwrap_eq_ok hc
    obtain ⟨h1, h⟩ := Comp.guard_eq_ok h
    obtain ⟨_, hv, h⟩ := Comp.unwrap_eq_ok h
    cases h
    obtain ⟨hlo, hhi⟩ := hI.countries a p hp
    refine ⟨hI.set_countries hp ?_, fun _ _ h => h⟩
    rw [List.length_eraseIdx_of_lt (List.getElem?_eq_some_iff.1 hv).1]
    exact ⟨Nat.le_sub_one_of_lt (Nat.lt_of_le_of_ne hlo (Ne.symm h1)), Nat.le_trans (Nat.sub_le _ _) hhi⟩

theorem step_inv (envr : Irs.Reads) (st : Irs.Store) (hI : Inv st) (o : Op) : Inv (step envr st o) := by
  unfold step
  cases hc : call envr st o with
  | panic => exact hI
  | ok r => exact (call_ok hI hc).1

/-- **every history** keeps the registry well-formed -/
theorem run_inv (envr : Irs.Reads) (ops : List Op) : ∀ st, Inv st → Inv (run envr st ops) :=
  OZ.Lists.foldl_inv (fun st o h => step_inv envr st h o) ops

/-- a recovery link is never removed or redirected -/
theorem step_link (envr : Irs.Reads) (st : Irs.Store) (o : Op) (a b : Nat) (h : st.RecoveredTo a = some b) (hI : Inv st) :
    (step envr st o).RecoveredTo a = some b := by
  unfold step
  cases hc : call envr st o with
  | panic => exact h
  | ok r => exact (call_ok hI hc).2 a b h

/-- **C15 / C20: an account that was recovered away never holds an identity again** — whatever calls follow, by
whomever, `stored_identity(old)` traps, so a verification of the old account can never succeed through this registry -/
theorem gen_recovered_account_has_no_identity (envr : Irs.Reads) (ops : List Op) :
    ∀ (st : Irs.Store), Inv st → ∀ a b, st.RecoveredTo a = some b →
      (run envr st ops).RecoveredTo a = some b ∧ Irs.stored_identity envr (run envr st ops) a = .panic := by
  intro st hI a b h
  obtain ⟨hI', h'⟩ := OZ.Lists.foldl_inv (P := fun s => Inv s ∧ s.RecoveredTo a = some b)
    (fun s o hs => ⟨step_inv envr s hs.1 o, step_link envr s o a b hs.2 hs.1⟩) ops st ⟨hI, h⟩
  exact ⟨h', congrArg (Comp.unwrap · Comp.ok) (hI'.recovered a b h')⟩

/-- non-vacuity: account 1 gets identity 50, is recovered to account 2; account 1 can never be registered again -/
example :
    let envr : Irs.Reads := ⟨fun c => if c = 0 then .panic else .ok ()⟩
    let st := run envr ⟨fun _ => none, fun _ => none, fun _ => none⟩
      [.add 1 50 7 [840], .add 3 60 7 [0], .recover 1 2, .add 1 51 7 [276], .recover 2 1]
    st.Identity 2 = some 50 ∧ st.Identity 1 = none ∧ st.Identity 3 = none ∧ st.RecoveredTo 1 = some 2 ∧
      Irs.stored_identity envr st 1 = .panic := by
  decide

end OZ.Gen.Irs
