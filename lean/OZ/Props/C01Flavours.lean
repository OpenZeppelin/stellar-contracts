import OZ.Lemmas.Flavours
import OZ.Lemmas.Gates
/-
C01 — "for every fungible-token flavour of the library": the allow-listed, block-listed,
pausable, capped and votes flavours (the vault's share token is proved in OZ/Props/C05, the RWA
token in OZ/Props/C04).

Every flavour is a wrapper whose entry points first evaluate a gate (list membership, pause
flag, cap, owner) and then run exactly one `Base` entry point on the token underneath.  That
is proved here as a SIMULATION (`Wraps`): a successful wrapper invocation is either the very
same successful `Base` invocation on the token part, or leaves the token part untouched (list
changes, pause, delegate).  From the simulation alone the C01 statements (the invariant in every
reachable state, the exact supply movement, the replay of events, a failed invocation changes nothing)
follow for every finite history of the wrapper, by the theorems of OZ/Props/C01.

All theorems are for all states / all finite operation lists / all
authorizing subsets / all `Int` amounts.
-/
namespace OZ.C01Flavours
open OZ.Host OZ.Fungible OZ.Gates

/-- `ap` wraps the `Base` token found at `proj`: every accepted invocation is one accepted
`Base` invocation `tokOp op` on the token part, or does not touch the token part -/
def Wraps {σ ο ε : Type} (c : Cfg) (ap : σ → List Nat → ο → Except ε σ) (proj : σ → Fungible.State)
    (tokOp : ο → Option Fungible.Op) : Prop :=
  ∀ s auth op s', ap s auth op = .ok s' →
    (∃ o, tokOp op = some o ∧ Fungible.apply c (proj s) auth o = .ok (proj s')) ∨
    (tokOp op = none ∧ proj s' = proj s)

/-- a failed invocation is rolled back by the host (any error type); `Gates.stepWith`,
`PTok.step`, `FungibleVotes.step` are instances (`run_eq_*` below) -/
def stepE {σ ο ε : Type} (ap : σ → List Nat → ο → Except ε σ) (s : σ) (x : List Nat × ο) : σ :=
  match ap s x.1 x.2 with
  | .ok s' => s'
  | .error _ => s

def runE {σ ο ε : Type} (ap : σ → List Nat → ο → Except ε σ) (s : σ) (ops : List (List Nat × ο)) : σ :=
  ops.foldl (stepE ap) s

theorem stepE_or {σ ο ε : Type} (ap : σ → List Nat → ο → Except ε σ) (s : σ) (x : List Nat × ο) :
    stepE ap s x = s ∨ ap s x.1 x.2 = .ok (stepE ap s x) := by
  unfold stepE
  cases ap s x.1 x.2
  · exact .inl rfl
  · exact .inr rfl

def opAddrs {ο : Type} (tokOp : ο → Option Fungible.Op) (op : ο) : List Nat :=
  match tokOp op with
  | some o => o.addrs
  | none => []

def opDelta {ο : Type} (tokOp : ο → Option Fungible.Op) (op : ο) : Int :=
  match tokOp op with
  | some o => supplyDelta o
  | none => 0

theorem wraps_apply_inv {σ ο ε : Type} {c : Cfg} {ap : σ → List Nat → ο → Except ε σ}
    {proj : σ → Fungible.State} {tokOp : ο → Option Fungible.Op} (hw : Wraps c ap proj tokOp)
    {U : List Nat} (hn : U.Nodup) {s s' : σ} (auth : List Nat) (op : ο)
    (hi : Inv U (proj s)) (hU : ∀ a ∈ opAddrs tokOp op, a ∈ U) (h : ap s auth op = .ok s') :
    Inv U (proj s') ∧ (proj s').supply = (proj s).supply + opDelta tokOp op := by
  rcases hw s auth op s' h with ⟨o, ho, hb⟩ | ⟨ho, he⟩
  · have := apply_inv hn c hi auth o (by simpa [opAddrs, ho] using hU) hb
    simpa [opDelta, ho] using this
  · rw [he]; exact ⟨hi, by simp [opDelta, ho]⟩

/-- **supply movement, every flavour**: an accepted invocation moves the supply by exactly
`+amount` (mint), `−amount` (burn, burn_from) and by nothing otherwise (transfer,
transfer_from, approve, list changes, pause, delegate) -/
theorem flavour_supply_exact {σ ο ε : Type} {c : Cfg} {ap : σ → List Nat → ο → Except ε σ}
    {proj : σ → Fungible.State} {tokOp : ο → Option Fungible.Op} (hw : Wraps c ap proj tokOp)
    {U : List Nat} (hn : U.Nodup) {s s' : σ} (auth : List Nat) (op : ο)
    (hi : Inv U (proj s)) (hU : ∀ a ∈ opAddrs tokOp op, a ∈ U) (h : ap s auth op = .ok s') :
    (proj s').supply = (proj s).supply + opDelta tokOp op :=
  (wraps_apply_inv hw hn auth op hi hU h).2

/-- **every flavour, every reachable state** -/
theorem wraps_inv {σ ο ε : Type} {c : Cfg} {ap : σ → List Nat → ο → Except ε σ}
    {proj : σ → Fungible.State} {tokOp : ο → Option Fungible.Op} (hw : Wraps c ap proj tokOp)
    {U : List Nat} (hn : U.Nodup) (s0 : σ) (h0 : Inv U (proj s0))
    (ops : List (List Nat × ο)) (hU : ∀ x ∈ ops, ∀ a ∈ opAddrs tokOp x.2, a ∈ U) :
    Inv U (proj (runE ap s0 ops)) :=
  run_keeps_on (stepE_or ap) (P := fun s => Inv U (proj s)) (Q := fun op => ∀ a ∈ opAddrs tokOp op, a ∈ U)
    (fun hq hi hx => (wraps_apply_inv hw hn _ _ hi hq hx).1) ops s0 hU h0

/-- **every flavour, events**: replaying the emitted events reproduces every balance -/
theorem wraps_replay {σ ο ε : Type} {c : Cfg} {ap : σ → List Nat → ο → Except ε σ}
    {proj : σ → Fungible.State} {tokOp : ο → Option Fungible.Op} (hw : Wraps c ap proj tokOp)
    (s0 : σ) (h0 : replay (proj s0).events = (proj s0).bal) (ops : List (List Nat × ο)) :
    replay (proj (runE ap s0 ops)).events = (proj (runE ap s0 ops)).bal :=
  run_keeps (stepE_or ap) (P := fun s => replay (proj s).events = (proj s).bal) (fun {s auth op s'} hs hx => by
    rcases hw s auth op s' hx with ⟨o, _, hb⟩ | ⟨_, he⟩
    · exact apply_replay c auth o hs hb
    · rw [he]; exact hs) ops s0 h0

theorem wraps_c01 {σ ο ε : Type} {c : Cfg} {ap : σ → List Nat → ο → Except ε σ}
    {proj : σ → Fungible.State} {tokOp : ο → Option Fungible.Op} (hw : Wraps c ap proj tokOp)
    {U : List Nat} (hn : U.Nodup) (s0 : σ)
    (h0 : Inv U (proj s0) ∧ replay (proj s0).events = (proj s0).bal)
    (ops : List (List Nat × ο)) (hU : ∀ x ∈ ops, ∀ a ∈ opAddrs tokOp x.2, a ∈ U) :
    Inv U (proj (runE ap s0 ops)) ∧
    replay (proj (runE ap s0 ops)).events = (proj (runE ap s0 ops)).bal :=
  ⟨wraps_inv hw hn s0 h0.1 ops hU, wraps_replay hw s0 h0.2 ops⟩

theorem init_c01 (U : List Nat) (now : Nat) :
    Inv U (Fungible.init now) ∧ replay (Fungible.init now).events = (Fungible.init now).bal :=
  ⟨init_inv U now, rfl⟩

/-- a rejected invocation leaves the whole wrapper state (token, lists, flags) as it was -/
theorem wraps_failed_no_effect {σ ο ε : Type} (ap : σ → List Nat → ο → Except ε σ) (s : σ)
    (auth : List Nat) (op : ο) (e : ε) (h : ap s auth op = .error e) :
    stepE ap s (auth, op) = s := by
  simp [stepE, h]

theorem run_eq_runWith {σ ο : Type} (ap : σ → List Nat → ο → Except Fungible.Err σ) (s : σ)
    (ops : List (List Nat × ο)) : runWith ap s ops = runE ap s ops := by
  have : stepWith ap = stepE ap := by
    funext s x; unfold stepWith stepE; cases ap s x.1 x.2 <;> rfl
  unfold runWith runE; rw [this]

theorem run_eq_ptok (c : Cfg) (s : PTok) (ops : List (List Nat × PTok.Op)) :
    PTok.run c s ops = runE (PTok.apply c) s ops := by
  have : PTok.step c = stepE (PTok.apply c) := by
    funext s x; unfold PTok.step stepE; cases PTok.apply c s x.1 x.2 <;> rfl
  unfold PTok.run runE; rw [this]

theorem run_eq_votes (c : Cfg) (s : OZ.FungibleVotes.State) (ops : List (List Nat × OZ.FungibleVotes.Op)) :
    OZ.FungibleVotes.run c s ops = runE (OZ.FungibleVotes.apply c) s ops := by
  have : OZ.FungibleVotes.step c = stepE (OZ.FungibleVotes.apply c) := by
    funext s x; unfold OZ.FungibleVotes.step stepE; cases OZ.FungibleVotes.apply c s x.1 x.2 <;> rfl
  unfold OZ.FungibleVotes.run runE; rw [this]

/-! ## the simulations, flavour by flavour -/

def lopTok : LOp → Option Fungible.Op
  | .tok o => some o
  | .setList _ _ _ => none

/-- library type `AllowList` (every entry point routed through it, open mint) -/
theorem allowlist_lib_wraps (c : Cfg) : Wraps c (ALib.apply c) LTok.tok lopTok := by
  intro s auth op s' h
  cases op with
  | setList u on operator =>
    cases Mon.alib_set_eq h
    exact .inr ⟨rfl, Mon.setFn_tok true on s u⟩
  | tok o => obtain ⟨-, t, ht, rfl⟩ := alib_tok_ok h; exact .inl ⟨o, rfl, ht⟩

/-- library type `BlockList` -/
theorem blocklist_lib_wraps (c : Cfg) : Wraps c (BLib.apply c) LTok.tok lopTok := by
  intro s auth op s' h
  cases op with
  | setList u on operator =>
    cases Mon.blib_set_eq h
    exact .inr ⟨rfl, Mon.setFn_tok false on s u⟩
  | tok o => obtain ⟨-, t, ht, rfl⟩ := blib_tok_ok h; exact .inl ⟨o, rfl, ht⟩

/-- examples/fungible-allowlist (entry points as exposed, manager-gated list changes): every
call it accepts is a call of the library type on its `LTok` part -/
theorem allowlist_example_wraps (c : Cfg) : Wraps c (AEx.apply c) (fun s => s.t.tok) lopTok := by
  intro s auth op s' h
  cases op with
  | tok o =>
    obtain ⟨t, ht, rfl⟩ := aex_tok_ok h
    exact allowlist_lib_wraps c s.t auth (.tok o) t ht
  | setList u on operator =>
    obtain ⟨-, rfl⟩ := aex_set_ok h
    exact .inr ⟨rfl, Mon.setFn_tok true on s.t u⟩

/-- examples/fungible-blocklist -/
theorem blocklist_example_wraps (c : Cfg) : Wraps c (BEx.apply c) (fun s => s.t.tok) lopTok := by
  intro s auth op s' h
  cases op with
  | tok o =>
    obtain ⟨t, ht, rfl⟩ := bex_tok_ok h
    exact blocklist_lib_wraps c s.t auth (.tok o) t ht
  | setList u on operator =>
    obtain ⟨-, rfl⟩ := bex_set_ok h
    exact .inr ⟨rfl, Mon.setFn_tok false on s.t u⟩

def ptokOp : PTok.Op → Option Fungible.Op
  | .tok o => some o
  | .pause _ => none
  | .unpause _ => none

/-- examples/fungible-pausable -/
theorem pausable_example_wraps (c : Cfg) : Wraps c (PTok.apply c) PTok.tok ptokOp := by
  intro s auth op s' h
  cases op with
  | pause caller => obtain ⟨-, -, -, rfl⟩ := ownerPause_ok h; exact .inr ⟨rfl, rfl⟩
  | unpause caller => obtain ⟨-, -, -, rfl⟩ := ownerUnpause_ok h; exact .inr ⟨rfl, rfl⟩
  | tok o => obtain ⟨-, -, t, ht, rfl⟩ := ptok_tok_ok h; exact .inl ⟨o, rfl, ht⟩

/-- examples/fungible-capped (`mint = check_cap; Base::mint`) -/
theorem capped_example_wraps (c : Cfg) : Wraps c (CTok.apply c) CTok.tok some :=
  fun _ _ op _ h => let ⟨_, _, ht, e⟩ := ctok_ok h; .inl ⟨op, rfl, e ▸ ht⟩

/-- library type `FungibleVotes` (mint / transfer / transfer_from / burn / burn_from through the
votes hooks, `Base::approve`, `Votes::delegate`) -/
theorem votes_lib_wraps (c : Cfg) :
    Wraps c (OZ.FungibleVotes.apply c) OZ.FungibleVotes.State.tok OZ.FungibleVotes.Op.tokOp := by
  intro s auth op s' h
  obtain ⟨a, hb, -⟩ := OZ.FungibleVotes.apply_ok h
  exact votes_base_sim c s.tok s'.tok auth op a hb

/-- examples/fungible-votes (owner-gated mint, no burn entry points) -/
theorem votes_example_wraps (c : Cfg) (owner : Nat) :
    Wraps c (OZ.FungibleVotes.exampleApply c owner) OZ.FungibleVotes.State.tok OZ.FungibleVotes.Op.tokOp :=
  fun s auth op s' h => votes_lib_wraps c s auth op s' (OZ.FungibleVotes.exampleApply_ok h)

/-! ## the C01 statements for each flavour, from its constructor, for every finite history -/

/-- **allow-listed token (library type)** -/
theorem allowlist_lib_c01 (c : Cfg) (now : Nat) {U : List Nat} (hn : U.Nodup)
    (ops : List (List Nat × LOp)) (hU : ∀ x ∈ ops, ∀ a ∈ opAddrs lopTok x.2, a ∈ U) :
    Inv U (runWith (ALib.apply c) (LTok.empty now) ops).tok ∧
    replay (runWith (ALib.apply c) (LTok.empty now) ops).tok.events =
      (runWith (ALib.apply c) (LTok.empty now) ops).tok.bal := by
  rw [run_eq_runWith]
  exact wraps_c01 (allowlist_lib_wraps c) hn _ (init_c01 U now) ops hU

/-- **block-listed token (library type)** -/
theorem blocklist_lib_c01 (c : Cfg) (now : Nat) {U : List Nat} (hn : U.Nodup)
    (ops : List (List Nat × LOp)) (hU : ∀ x ∈ ops, ∀ a ∈ opAddrs lopTok x.2, a ∈ U) :
    Inv U (runWith (BLib.apply c) (LTok.empty now) ops).tok ∧
    replay (runWith (BLib.apply c) (LTok.empty now) ops).tok.events =
      (runWith (BLib.apply c) (LTok.empty now) ops).tok.bal := by
  rw [run_eq_runWith]
  exact wraps_c01 (blocklist_lib_wraps c) hn _ (init_c01 U now) ops hU

/-- **examples/fungible-allowlist**, from its constructor (the constructor's mint emits its
event like any other, so the replay starts from genesis) -/
theorem allowlist_example_c01 (c : Cfg) (now admin mgr : Nat) (initial : Int) (s0 : LEx)
    (h0 : AEx.construct now admin mgr initial = .ok s0) {U : List Nat} (hn : U.Nodup) (ha : admin ∈ U)
    (ops : List (List Nat × LOp)) (hU : ∀ x ∈ ops, ∀ a ∈ opAddrs lopTok x.2, a ∈ U) :
    Inv U (runWith (AEx.apply c) s0 ops).t.tok ∧
    replay (runWith (AEx.apply c) s0 ops).t.tok.events = (runWith (AEx.apply c) s0 ops).t.tok.bal := by
  obtain ⟨t, ht, h0⟩ := bind_eq_ok h0
  injection h0 with h0; subst h0
  rw [(Mon.allowUser_listed _ admin).2] at ht
  rw [run_eq_runWith]
  exact wraps_c01 (allowlist_example_wraps c) hn _ (mint_init hn now admin initial t ha ht) ops hU

/-- **examples/fungible-blocklist**, from its constructor -/
theorem blocklist_example_c01 (c : Cfg) (now admin mgr : Nat) (initial : Int) (s0 : LEx)
    (h0 : BEx.construct now admin mgr initial = .ok s0) {U : List Nat} (hn : U.Nodup) (ha : admin ∈ U)
    (ops : List (List Nat × LOp)) (hU : ∀ x ∈ ops, ∀ a ∈ opAddrs lopTok x.2, a ∈ U) :
    Inv U (runWith (BEx.apply c) s0 ops).t.tok ∧
    replay (runWith (BEx.apply c) s0 ops).t.tok.events = (runWith (BEx.apply c) s0 ops).t.tok.bal := by
  obtain ⟨t, ht, h0⟩ := bind_eq_ok h0
  injection h0 with h0; subst h0
  rw [run_eq_runWith]
  exact wraps_c01 (blocklist_example_wraps c) hn _ (mint_init hn now admin initial t ha ht) ops hU

/-- **examples/fungible-pausable**, from its constructor, pause / unpause interleaved at will -/
theorem pausable_example_c01 (c : Cfg) (now owner : Nat) (initial : Int) (s0 : PTok)
    (h0 : PTok.construct now owner initial = .ok s0) {U : List Nat} (hn : U.Nodup) (ha : owner ∈ U)
    (ops : List (List Nat × PTok.Op)) (hU : ∀ x ∈ ops, ∀ a ∈ opAddrs ptokOp x.2, a ∈ U) :
    Inv U (PTok.run c s0 ops).tok ∧
    replay (PTok.run c s0 ops).tok.events = (PTok.run c s0 ops).tok.bal := by
  obtain ⟨t, ht, h0⟩ := bind_eq_ok h0
  injection h0 with h0; subst h0
  rw [run_eq_ptok]
  exact wraps_c01 (pausable_example_wraps c) hn _ (mint_init hn now owner initial t ha ht) ops hU

/-- **examples/fungible-capped**, from its constructor -/
theorem capped_example_c01 (c : Cfg) (now : Nat) (cap : Int) (s0 : CTok)
    (h0 : CTok.construct now cap = .ok s0) {U : List Nat} (hn : U.Nodup)
    (ops : List (List Nat × Fungible.Op)) (hU : ∀ x ∈ ops, ∀ a ∈ x.2.addrs, a ∈ U) :
    Inv U (runWith (CTok.apply c) s0 ops).tok ∧
    replay (runWith (CTok.apply c) s0 ops).tok.events = (runWith (CTok.apply c) s0 ops).tok.bal := by
  obtain ⟨-, rfl⟩ := ctok_construct_ok h0
  rw [run_eq_runWith]
  exact wraps_c01 (capped_example_wraps c) hn _ (init_c01 U now) ops hU

/-- **votes token (library type `FungibleVotes`)**: the token underneath the voting hooks -/
theorem votes_lib_c01 (c : Cfg) (now : Nat) {U : List Nat} (hn : U.Nodup)
    (ops : List (List Nat × OZ.FungibleVotes.Op))
    (hU : ∀ x ∈ ops, ∀ a ∈ opAddrs OZ.FungibleVotes.Op.tokOp x.2, a ∈ U) :
    Inv U (OZ.FungibleVotes.run c (OZ.FungibleVotes.init now) ops).tok ∧
    replay (OZ.FungibleVotes.run c (OZ.FungibleVotes.init now) ops).tok.events =
      (OZ.FungibleVotes.run c (OZ.FungibleVotes.init now) ops).tok.bal := by
  rw [run_eq_votes]
  exact wraps_c01 (votes_lib_wraps c) hn _ (init_c01 U now) ops hU

/-- **examples/fungible-votes** -/
theorem votes_example_c01 (c : Cfg) (now owner : Nat) {U : List Nat} (hn : U.Nodup)
    (ops : List (List Nat × OZ.FungibleVotes.Op))
    (hU : ∀ x ∈ ops, ∀ a ∈ opAddrs OZ.FungibleVotes.Op.tokOp x.2, a ∈ U) :
    Inv U (runE (OZ.FungibleVotes.exampleApply c owner) (OZ.FungibleVotes.init now) ops).tok ∧
    replay (runE (OZ.FungibleVotes.exampleApply c owner) (OZ.FungibleVotes.init now) ops).tok.events =
      (runE (OZ.FungibleVotes.exampleApply c owner) (OZ.FungibleVotes.init now) ops).tok.bal :=
  wraps_c01 (votes_example_wraps c owner) hn _ (init_c01 U now) ops hU

/-! ### non-vacuity: concrete histories meeting the hypotheses,
with accepted and rejected calls, through the gates of each flavour -/

def demoList : List (List Nat × LOp) :=
  [([], .tok (.mint 0 1000)), ([0], .tok (.transfer 0 1 10)),        -- 1 not allowed: rejected
   ([], .setList 0 true 9), ([], .setList 1 true 9), ([0], .tok (.transfer 0 1 400)),
   ([], .setList 1 false 9), ([1], .tok (.burn 1 5)),                  -- disallowed holder: rejected
   ([], .setList 1 true 9), ([1], .tok (.burn 1 5)), ([0], .tok (.transfer 0 0 600))]

example : (runWith (ALib.apply ⟨1, 1000⟩) (LTok.empty 100) demoList).tok.supply = 995 ∧
    (runWith (ALib.apply ⟨1, 1000⟩) (LTok.empty 100) demoList).tok.bal 1 = 395 := by decide

example : ∀ x ∈ demoList, ∀ a ∈ opAddrs lopTok x.2, a ∈ [0, 1] := by decide

example : ∃ s0, PTok.construct 100 7 500 = .ok s0 ∧
    (PTok.run ⟨1, 1000⟩ s0 [([7], .pause 7), ([7], .tok (.transfer 7 1 5)), ([7], .unpause 7),
      ([7], .tok (.transfer 7 1 5))]).tok.bal 1 = 5 := ⟨_, rfl, by decide⟩

end OZ.C01Flavours
