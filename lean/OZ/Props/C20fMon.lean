import OZ.Lemmas.RegIrsMon
/-
C20 (f) — soundness of the `irs` MONITOR that decides the property on implementation traces.

`./check C20` reports a concrete violation in an `irs` sequence exactly when
`OZ.RegIrs.Mon.checkCore` (the sub-driver's monitor on parsed values, OZ/Model/RegIrsMon.lean)
returns a message on the implementation's observations. Here it is proved that on the observations
of the MODEL the monitor never returns a message, for every label parameter `na` and every finite
history of the seven mutators of the identity registry storage with arbitrary arguments
(`monitor_accepts_every_model_trace`). Consequences: a monitor failure is never a false alarm of the
monitor itself, and every conclusion it evaluates (a recovered account is refused as account of
`add_identity` and as target of `recover_identity`; empty / over-long country lists and over-limit
metadata refused, the 15th entry accepted; duplicates and absent accounts / indices refused; the last
country entry cannot be deleted; `stored_identity`, `get_identity_profile`,
`get_country_data_entries`, `get_recovered_to` are the plain maps; `get_country_data` reads the plain
list by index and fails from its length on; no account is reported both recovered and registered) is
a THEOREM about the model, in the monitor's own executable wording.

`modelObs s na ok` is EXACTLY the data the model driver prints for state `s` (`stepLine` / `showState`
of OZ/Drv/C20Irs.lean): the tag, then the words `ID=` (`storedIdentity`), `PR=` (`getIdentityProfile`),
`CE=` (`getCountryDataEntries`), `RT=` (`getRecoveredTo`), `CD=` (`getCountryData` by index 0..len) over
accounts 0..na-1, each printed with the same expression as in `showState` (its `let`s inlined).
`RTe` / `IDe` are the entry lists of the words `RT=` / `ID=`: the driver obtains them by splitting the
printed word at `,` and `:` (`entries`); the model prints each entry as `a:v` with `a` a number and
`v` a number or `x`, so the split entry is `[toString a, showOpt v]`. This print / split round trip
(like the splitting of the line into words) is the trusted string level and is not proved here.
-/
namespace OZ.RegIrs.Mon
open OZ.Reg OZ.RegMon OZ.RegIrs

/-- the observation the harness / the model driver print for a state -/
def modelObs (s : State) (na : Nat) (ok : Bool) : Obs :=
  { ok := ok,
    ID := sepBy "," ((List.range na).map (fun a => s!"{a}:{showOpt (storedIdentity s a)}")),
    PR := sepBy "," ((List.range na).map (fun a => match getIdentityProfile s a with
      | some p => s!"{a}:{p.ty}:{showCDs p.countries}"
      | none => s!"{a}:x")),
    CE := sepBy "," ((List.range na).map (fun a => s!"{a}:{showCDs (getCountryDataEntries s a)}")),
    RT := sepBy "," ((List.range na).map (fun a => s!"{a}:{showOpt (getRecoveredTo s a)}")),
    CD := sepBy "," ((List.range na).map (fun a =>
      s!"{a}:{sepBy "+" ((List.range ((getCountryDataEntries s a).length + 1)).map (fun i => match getCountryData s a i with
        | some c => showCD c
        | none => "x"))}")),
    RTe := (List.range na).map (fun a => [toString a, showOpt (getRecoveredTo s a)]),
    IDe := (List.range na).map (fun a => [toString a, showOpt (storedIdentity s a)]) }

def accepted (s : State) (op : Op) : Bool :=
  match step s op with
  | .ok _ => true
  | .error _ => false

theorem getters_quiet {g : Mon} {s : State} {na : Nat} (ha : Agree g s na) (hI : Inv s) (ok : Bool) :
    (modelObs s na ok).ID = sepBy "," (idWant g) ∧
    (modelObs s na ok).PR = sepBy "," (prWant g) ∧
    (modelObs s na ok).CE = sepBy "," (ceWant g) ∧
    (modelObs s na ok).RT = sepBy "," (rtWant g) ∧
    (modelObs s na ok).CD = sepBy "," (cdWant g) ∧
    recoveredOk (modelObs s na ok).RTe (modelObs s na ok).IDe = true := by
  refine ⟨word_congr ha.na fun a => ?_, word_congr ha.na fun a => ?_, word_congr ha.na fun a => ?_,
    word_congr ha.na fun a => ?_, word_congr ha.na fun a => ?_, recovered_quiet hI na⟩
  · rw [ident_of_agree ha hI a]; rfl
  · show (match s.profile a with
      | some p => s!"{a}:{p.ty}:{showCDs p.countries}"
      | none => s!"{a}:x") = _
    rw [← prof_of_agree ha hI a]
    cases find g a <;> rfl
  · rw [cs_of_agree ha hI a]
  · show _ = s!"{a}:{showOpt (rlook g a)}"
    rw [ha.rto a]; rfl
  · rw [cs_of_agree ha hI a, ← cd_by_index]
    simp only [getCountryData_eq]
    rfl

/-- **one call**: fed with the model's own observation of any call (accepted or refused), the
monitor reports nothing and its plain maps keep describing the model's state -/
theorem monitor_sound_step {g : Mon} {s : State} {na : Nat} (hI : Inv s) (ha : Agree g s na) (op : Op) :
    (checkCore g op (modelObs (next s op) na (accepted s op))).2 = none ∧
    Agree (checkCore g op (modelObs (next s op) na (accepted s op))).1 (next s op) na := by
  obtain ⟨g', hd, ha'⟩ := (decides ha hI op).quiet ha "irs" (near g op) (acc := accepted s op) (s1 := next s op)
    (fun s' h => by unfold accepted next; rw [h]; exact ⟨rfl, rfl⟩)
    (fun e h => by unfold accepted next; rw [h]; exact ⟨rfl, rfl⟩)
  obtain ⟨q1, q2, q3, q4, q5, q6⟩ := getters_quiet ha' (inv_next hI op) (accepted s op)
  unfold checkCore
  rw [show (modelObs (next s op) na (accepted s op)).ok = accepted s op from rfl, hd]
  refine ⟨?_, ha'⟩
  show firstFail [none, chk (decide _) _, chk (decide _) _, chk (decide _) _, chk (decide _) _, chk (decide _) _, chk _ _] = none
  rw [chk_decide q1, chk_decide q2, chk_decide q3, chk_decide q4, chk_decide q5, chk_of q6]
  rfl

def monitorRun (na : Nat) : Mon → State → List Op → Option String
  | _, _, [] => none
  | g, s, op :: ops =>
    match (checkCore g op (modelObs (next s op) na (accepted s op))).2 with
    | some msg => some msg
    | none => monitorRun na (checkCore g op (modelObs (next s op) na (accepted s op))).1 (next s op) ops

/-- the monitor's initial state for a sequence (what `minit` builds from the label) -/
def monInit (na : Nat) : Mon := { recs := [], recovered := [], na := na }

/-- **monitor soundness**: for every label parameter `na` and every finite history of `add_identity`,
`modify_identity`, `remove_identity`, `recover_identity`, `add_country_data_entries`,
`modify_country_data`, `delete_country_data` — any accounts, identities, types, country lists,
indices, accepted or refused — the monitor that the sub-driver's `minit` builds reports nothing on
the observations of the model that the sub-driver's `initM` builds -/
theorem monitor_accepts_every_model_trace (na : Nat) (ops : List Op) :
    monitorRun na (monInit na) init ops = none :=
  run_quiet (R := fun g s => Inv s ∧ Agree g s na) (fun _ _ => rfl) (fun _ _ _ _ h => by rw [monitorRun, h]) ops
    (fun op _ _ _ ⟨hI, ha⟩ => ⟨(monitor_sound_step hI ha op).1, inv_next hI op, (monitor_sound_step hI ha op).2⟩)
    _ _ ⟨inv_init, rfl, fun a => rfl, fun a => rfl⟩

/-! ### non-vacuity: the monitor is not trivially silent -/

/-- a refused valid registration, a refused 15-entry list (reported at the limit site), an accepted
re-registration of a recovered account, a wrong `stored_identity` word and an account listed both as
recovered and with an identity are reported -/
example :
    (checkCore (monInit 0) (.add 0 7 0 [⟨1, 0, 0⟩]) ⟨false, "-", "-", "-", "-", "-", [], []⟩).2.isSome = true ∧
    near (monInit 0) (.add 0 7 0 (List.replicate 15 ⟨1, 0, 0⟩)) = "limit.add_identity.countries" ∧
    (checkCore { recs := [], recovered := [(0, 1)], na := 0 } (.add 0 7 0 [⟨1, 0, 0⟩])
      ⟨true, "-", "-", "-", "-", "-", [], []⟩).2.isSome = true ∧
    (checkCore (monInit 0) (.remove 0) ⟨false, "0:5", "-", "-", "-", "-", [], []⟩).2.isSome = true ∧
    recoveredOk [["0", "1"]] [["0", "5"], ["1", "x"]] = false := by
  refine ⟨by decide, by decide, by decide, by decide, by decide⟩

end OZ.RegIrs.Mon
