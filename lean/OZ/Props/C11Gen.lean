import OZ.Gen.Nft
import OZ.Lemmas.Comp
/-
C11 — the approval rules of the NFT base, re-checked on every run against what the SOURCE says now.

`lean/OZ/Gen/Nft.lean` is regenerated by `/verif/tools/rs2lean.py --nft` (state-passing mode) from /repo's
current `packages/tokens/src/non_fungible/storage.rs`: `get_approved`, `is_approved_for_all`,
`approve_for_all`, `approve_for_owner`, `check_spender_approval` — the functions all three flavours use to
decide who may move a token and who may approve.  The store is `Approval(token) → {approved, live_until}` and
`ApprovalForAll(owner, operator) → live_until`; it has no TTL (an entry is never archived there, which can
only make MORE approvals visible than the host would; the code's own expiry comparisons are what the
theorems are about).

Theorems about the GENERATED code, for every store, ledger, token and account:
* `gen_get_approved` / `gen_is_approved_for_all` — an approval counts exactly while `live_until ≥` the current
  ledger;
* `gen_check_spender_iff` — the spender check passes EXACTLY for the owner, the account with the live
  individual approval of this token, or a live operator of the owner;
* `gen_approve_for_owner_sound` — an approval is written or removed only when the approver is the owner or a
  live operator of the owner; `live_until = 0` removes exactly this token's entry, otherwise the expiry must
  not lie in the past and exactly `{approved, live_until}` is stored for exactly this token;
* `gen_approve_for_all_sound` — an operator grant needs the owner's authorization, `0` revokes exactly this
  (owner, operator) pair, a past expiry is refused, otherwise exactly the expiry is stored for this pair.

No statement here mentions the hand-written model.
-/
namespace OZ.Gen.Nft
open OZ.Rs

def passes {α : Type} (c : Comp α) : Bool :=
  match c with
  | .ok _ => true
  | .panic => false

def liveApproved (envr : Nft.Reads) (st : Nft.Store) (id : Nat) : Option Nat :=
  match st.Approval id with
  | some d => if d.live_until_ledger < envr.ledger_sequence then none else some d.approved
  | none => none

def liveOperator (envr : Nft.Reads) (st : Nft.Store) (o p : Nat) : Bool :=
  match st.ApprovalForAll o p with
  | some lu => decide (lu ≥ envr.ledger_sequence)
  | none => false

theorem gen_get_approved (envr : Nft.Reads) (st : Nft.Store) (id : Nat) :
    Nft.get_approved envr st id = .ok (liveApproved envr st id) := by
  unfold Nft.get_approved liveApproved
  cases st.Approval id with
  | none => rfl
  | some d =>
    simp only [optCase_some]
    by_cases h : d.live_until_ledger < envr.ledger_sequence
    · rw [if_pos h, if_pos h]
    · rw [if_neg h, if_neg h]

theorem gen_is_approved_for_all (envr : Nft.Reads) (st : Nft.Store) (o p : Nat) :
    Nft.is_approved_for_all envr st o p = .ok (liveOperator envr st o p) := by
  unfold Nft.is_approved_for_all liveOperator
  cases st.ApprovalForAll o p with
  | none => rfl
  | some lu =>
    simp only [optCase_some]
    by_cases h : lu ≥ envr.ledger_sequence
    · rw [if_pos h]; simp [h]
    · rw [if_neg h]; simp [h]

/-- **who may move a token**: the owner, the live approved account, a live operator — nobody else -/
theorem gen_check_spender_iff (envr : Nft.Reads) (st : Nft.Store) (spender owner id : Nat) :
    passes (Nft.check_spender_approval envr st spender owner id) = true ↔
      (spender = owner ∨ liveApproved envr st id = some spender ∨ liveOperator envr st owner spender = true) := by
  unfold Nft.check_spender_approval
  rw [gen_get_approved, gen_is_approved_for_all]
  simp only [Comp.bind_ok]
  by_cases h1 : spender = owner
  · simp [passes, h1]
  · by_cases h2 : liveApproved envr st id = some spender
    · simp [passes, h1, h2]
    · cases h3 : liveOperator envr st owner spender with
      | true => simp [passes, h1, h2]
      | false => simp [passes, h1, h2]

theorem write_or_clear {σ : Type} {now lu : Nat} {D W st' : σ}
    (h : (if lu = 0 then Comp.ok ((), D)
      else if lu < now then Comp.panic
      else Comp.bind (uN_sub 32 lu now) fun _ => Comp.ok ((), W)) = .ok ((), st')) :
    (lu = 0 → st' = D) ∧ (lu ≠ 0 → now ≤ lu ∧ st' = W) := by
  by_cases h0 : lu = 0
  · rw [if_pos h0] at h
    exact ⟨fun _ => (Prod.mk.inj (Comp.ok.inj h)).2.symm, fun hne => absurd h0 hne⟩
  · obtain ⟨hlt, h⟩ := Comp.guard_eq_ok ((if_neg h0).symm.trans h)
    obtain ⟨_, -, h⟩ := Comp.bind_eq_ok h
    exact ⟨fun hz => absurd hz h0, fun _ => ⟨Nat.le_of_not_lt hlt, (Prod.mk.inj (Comp.ok.inj h)).2.symm⟩⟩

/-- **who may approve, and what is written** -/
theorem gen_approve_for_owner_sound (envr : Nft.Reads) (st st' : Nft.Store) (owner approver approved id lu : Nat)
    (h : Nft.approve_for_owner envr st owner approver approved id lu = .ok ((), st')) :
    (approver = owner ∨ liveOperator envr st owner approver = true) ∧
    (lu = 0 → st' = Nft.Store.del_Approval st id) ∧
    (lu ≠ 0 → envr.ledger_sequence ≤ lu ∧ st' = Nft.Store.set_Approval st id ⟨approved, lu⟩) := by
  unfold Nft.approve_for_owner at h
  by_cases hne : approver ≠ owner
  · rw [if_pos hne, gen_is_approved_for_all, Comp.bind_ok] at h
    obtain ⟨hop, h⟩ := Comp.require_eq_ok h
    exact ⟨Or.inr hop, write_or_clear h⟩
  · rw [if_neg hne] at h
    exact ⟨Or.inl (Classical.byContradiction hne), write_or_clear h⟩

/-- **operator grants**: by the owner's authorization only; what is written, as for `approve_for_owner` -/
theorem gen_approve_for_all_sound (envr : Nft.Reads) (st st' : Nft.Store) (owner operator lu : Nat)
    (h : Nft.approve_for_all envr st owner operator lu = .ok ((), st')) :
    envr.authorized owner = true ∧
    (lu = 0 → st' = Nft.Store.del_ApprovalForAll st owner operator) ∧
    (lu ≠ 0 → envr.ledger_sequence ≤ lu ∧ st' = Nft.Store.set_ApprovalForAll st owner operator lu) := by
  obtain ⟨ha, h⟩ := Comp.require_eq_ok h
  exact ⟨ha, write_or_clear h⟩

/-- a grant just stored is live exactly until its expiry; a revoked one is dead at once -/
theorem gen_operator_lifetime (envr : Nft.Reads) (st : Nft.Store) (o p lu now' : Nat) :
    liveOperator ⟨now', envr.authorized⟩ (Nft.Store.set_ApprovalForAll st o p lu) o p = decide (now' ≤ lu) ∧
    liveOperator ⟨now', envr.authorized⟩ (Nft.Store.del_ApprovalForAll st o p) o p = false := by
  simp [liveOperator, Nft.Store.set_ApprovalForAll, Nft.Store.del_ApprovalForAll]

/-! ### non-vacuity -/
def demo : Nft.Store := ⟨fun id => if id = 3 then some ⟨7, 50⟩ else none, fun o p => if o = 1 ∧ p = 2 then some 60 else none⟩
example : passes (Nft.check_spender_approval ⟨50, fun _ => true⟩ demo 7 1 3) = true := by decide
example : passes (Nft.check_spender_approval ⟨51, fun _ => true⟩ demo 7 1 3) = false := by decide
example : passes (Nft.check_spender_approval ⟨60, fun _ => true⟩ demo 2 1 3) = true := by decide
example : passes (Nft.check_spender_approval ⟨61, fun _ => true⟩ demo 2 1 3) = false := by decide

end OZ.Gen.Nft
