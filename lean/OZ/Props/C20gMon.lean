import OZ.Lemmas.RegClaimsMon
/-
C20 (g) — soundness of the `claims` MONITOR that decides the property on implementation traces.

`./check C20` reports a concrete violation in a `claims` sequence exactly when
`OZ.RegClaims.Mon.checkCore` (the sub-driver's monitor on parsed values, OZ/Model/RegClaimsMon.lean)
returns a message on the implementation's observations. Here it is proved that on the observations
of the MODEL (with the harness's oracle `valid`: the mock issuers reject exactly empty data) the
monitor never returns a message, for every finite history of `add_claim` / `remove_claim` with
arbitrary arguments and of removals of never-produced ids (`monitor_accepts_every_model_trace`).
Consequences: a monitor failure is never a false alarm of the monitor itself, and every conclusion
it evaluates (absent ids and invalid claims refused, the returned id, `get_claim` is the plain map,
`get_claim_ids_by_topic` lists the stored claims of each topic once) is a THEOREM about the model,
in the monitor's own executable wording.

`modelObs s c ok` is the data the model driver prints for state `s` after command `c` (`stepLine` /
`showState` of OZ/Drv/C20Claims.lean): the tag, `ret=` the id of an accepted add, `C=` the printed
graph of `getClaim` over the universe `ids`, `BT=` the graph of `getClaimIdsByTopic` over topics 0..3
with printed ids (`BTraw` its printed form).
-/
namespace OZ.RegClaims.Mon
open OZ.Reg OZ.RegMon OZ.RegClaims

/-- the observation the harness / the model driver print for a state -/
def modelObs (s : State) (c : Cmd) (ok : Bool) : Obs :=
  { ok := ok,
    ret := retWant c ok,
    C := sepBy "," (ids.filterMap (fun id => (getClaim s id).map (fun c => s!"{showId id}:{showClaim c}"))),
    BT := (List.range NT).map (fun t => (t, (getClaimIdsByTopic s t).map showId)),
    BTraw := sepBy "," ((List.range NT).map (fun t => s!"{t}:{sepBy "+" ((getClaimIdsByTopic s t).map showId)}")) }

/-- the model's transition for a command (a removal of a never-produced id is refused) -/
def stepC (s : State) : Cmd → Except RErr State
  | .op o => step valid s o
  | .removeRaw => .error .absent

def nextC (s : State) (c : Cmd) : State :=
  match stepC s c with
  | .ok s' => s'
  | .error _ => s

def accepted (s : State) (c : Cmd) : Bool :=
  match stepC s c with
  | .ok _ => true
  | .error _ => false

theorem inv_nextC {s : State} (hI : Inv s) (c : Cmd) : Inv (nextC s c) := by
  cases c with
  | op o => exact inv_next valid hI o
  | removeRaw => exact hI

theorem decidesC {g : Mon} {s : State} (ha : Agree g s) (c : Cmd) : Decides Agree (stepC s c) (plain g c) := by
  cases c with
  | op o => exact decides ha o
  | removeRaw => exact .refused

theorem getters_quiet {g : Mon} {s : State} (ha : Agree g s) (hI : Inv s) (c : Cmd) (ok : Bool) :
    (modelObs s c ok).C = sepBy "," (cWant g) ∧
    (List.range NT).all (topicOk g (modelObs s c ok).BT) = true := by
  constructor
  · show sepBy "," _ = sepBy "," _
    refine congrArg (sepBy ",") ?_
    unfold cWant
    refine List.filterMap_congr (fun id _ => ?_)
    have := congrArg (Option.map fun x => s!"{showId id}:{x}") (ha.look id)
    rw [look, Option.map_map, Option.map_map] at this
    exact this.symm
  · rw [List.all_eq_true]
    intro t ht
    unfold topicOk
    show (match ((List.range NT).map (fun t => (t, (getClaimIdsByTopic s t).map showId))).find? (fun x => x.1 == t) with
      | some (_, l) => nodupB l && sameSet l (want g t)
      | none => false) = true
    rw [find_graph _ _ t ht]
    simp only [Bool.and_eq_true]
    exact ⟨(nodupB_iff _).2 ((hI.nodup t).map showId_inj), (sameSet_iff _ _).2 (mem_want_iff ha hI t)⟩

/-- **one call**: fed with the model's own observation of any command (accepted or refused), the
monitor reports nothing and its plain map keeps describing the model's state -/
theorem monitor_sound_step {g : Mon} {s : State} (hI : Inv s) (ha : Agree g s) (c : Cmd) :
    (checkCore g c (modelObs (nextC s c) c (accepted s c))).2 = none ∧
    Agree (checkCore g c (modelObs (nextC s c) c (accepted s c))).1 (nextC s c) := by
  obtain ⟨g', hd, ha'⟩ := (decidesC ha c).quiet ha "claims" "valid" (acc := accepted s c) (s1 := nextC s c)
    (fun s' h => by unfold accepted nextC; rw [h]; exact ⟨rfl, rfl⟩)
    (fun e h => by unfold accepted nextC; rw [h]; exact ⟨rfl, rfl⟩)
  obtain ⟨q1, q2⟩ := getters_quiet ha' (inv_nextC hI c) c (accepted s c)
  unfold checkCore
  rw [show (modelObs (nextC s c) c (accepted s c)).ok = accepted s c from rfl, hd]
  refine ⟨?_, ha'⟩
  show firstFail [none, chk (decide _) _, chk (decide _) _, chk _ _] = none
  rw [chk_decide (show (modelObs (nextC s c) c (accepted s c)).ret = retWant c (accepted s c) from rfl), chk_decide q1,
    chk_of q2]
  rfl

def monitorRun : Mon → State → List Cmd → Option String
  | _, _, [] => none
  | g, s, c :: cs =>
    match (checkCore g c (modelObs (nextC s c) c (accepted s c))).2 with
    | some msg => some msg
    | none => monitorRun (checkCore g c (modelObs (nextC s c) c (accepted s c))).1 (nextC s c) cs

/-- the monitor's initial state for a sequence (what `minit` builds) -/
def monInit : Mon := { map := [] }

/-- **monitor soundness**: for every finite history of `add_claim` / `remove_claim` — any topics,
issuers, schemes, signatures, data, uris, any ids, removals of never-produced ids, accepted or
refused — the monitor that the sub-driver's `minit` builds reports nothing on the observations of
the model that the sub-driver's `initM` builds -/
theorem monitor_accepts_every_model_trace (cs : List Cmd) :
    monitorRun monInit init cs = none :=
  run_quiet (R := fun g s => Inv s ∧ Agree g s) (fun _ _ => rfl) (fun _ _ _ _ h => by rw [monitorRun, h]) cs
    (fun c _ _ _ ⟨hI, ha⟩ => ⟨(monitor_sound_step hI ha c).1, inv_nextC hI c, (monitor_sound_step hI ha c).2⟩)
    _ _ ⟨inv_init, ⟨fun id => rfl⟩⟩

/-- an accepted removal of an absent id, a refused valid claim and an index listing an id twice are
reported -/
example :
    (checkCore monInit (.op (.remove (1, 2))) ⟨true, "-", "-", [], ""⟩).2.isSome = true ∧
    (checkCore monInit (.op (.add 1 1 1 1 1 1)) ⟨false, "-", "-", [], ""⟩).2.isSome = true ∧
    topicOk { map := [((1, 2), "c")] } [(2, ["1.2", "1.2"])] 2 = false := by
  refine ⟨by decide, by decide, by decide⟩

end OZ.RegClaims.Mon
