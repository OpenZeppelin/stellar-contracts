import OZ.Lemmas.RegClaims
/-
C20 (g): the identity-claims registry (`Claim(id) -> Claim`, `ClaimsByTopic(topic) -> Vec<id>`,
`id = keccak256(issuer || topic)` taken as the pair `(issuer, topic)`) represents the plain
finite map  id ↦ getClaim s id  under ANY history of `add_claim` / `remove_claim` (arbitrary
arguments, an arbitrary oracle `valid` for the issuer's `is_claim_valid`, failed calls rolled
back), and the per-topic index enumerates the claims of a topic exactly once.
-/
namespace OZ.Props.C20g
open OZ.Reg OZ.RegClaims

/-- **claims_refines.** After any history `get_claim_ids_by_topic(t)` lists exactly the ids of
the stored claims with topic `t`, each once; a stored claim's id is its (issuer, topic). -/
theorem claims_refines (valid : Valid) (ops : List Op) :
    let s := run valid init ops
    (∀ t, (getClaimIdsByTopic s t).Nodup ∧
          ∀ id, id ∈ getClaimIdsByTopic s t ↔ ∃ c, getClaim s id = some c ∧ c.topic = t) ∧
    (∀ id c, getClaim s id = some c → id = (c.issuer, c.topic)) := by
  intro s
  have hI : Inv s := inv_run valid inv_init ops
  refine ⟨fun t => ⟨hI.nodup t, hI.mem t⟩, fun id c h => ?_⟩
  obtain ⟨h1, h2⟩ := hI.key id c h
  rw [h1, h2]

/-- **claims_abs_step.** The represented map moves exactly as a plain map does: an accepted
`add_claim` binds `(issuer, topic)` to the new claim (inserting or updating in place), an
accepted `remove_claim` unbinds its id; nothing else changes. -/
theorem claims_abs_step (valid : Valid) (s : State) :
    (∀ t sc i sg d u s', addClaim valid s t sc i sg d u = .ok s' →
      ∀ id, getClaim s' id = if id = (i, t) then some ⟨t, sc, i, sg, d, u⟩ else getClaim s id) ∧
    (∀ id s', removeClaim s id = .ok s' → ∀ id', getClaim s' id' = if id' = id then none else getClaim s id') ∧
    (∀ o e, step valid s o = .error e → next valid s o = s) := by
  refine ⟨?_, ?_, ?_⟩
  · intro t sc i sg d u s' hok id
    obtain ⟨_, rfl⟩ := (addClaim_ok_iff valid s s' t sc i sg d u).1 hok
    exact congrFun (added_claim s _) id
  · intro id s' hok id'
    obtain ⟨c, _, rfl⟩ := (removeClaim_ok_iff s s' id).1 hok
    exact congrFun (removed_claim s id c) id'
  · intro o e he
    simp [next, he]

/-- **claims_update_in_place** (the registry's answer to a duplicate): adding a claim for an
(issuer, topic) that already has one replaces it and leaves every topic index as it was. -/
theorem claims_update_in_place (valid : Valid) (s : State) (t sc i sg d u : Nat) (s' : State)
    (hex : (getClaim s (i, t)).isSome = true) (hok : addClaim valid s t sc i sg d u = .ok s') :
    ∀ t', getClaimIdsByTopic s' t' = getClaimIdsByTopic s t' := by
  obtain ⟨_, rfl⟩ := (addClaim_ok_iff valid s s' t sc i sg d u).1 hok
  intro t'
  unfold getClaimIdsByTopic added
  have hex' : (s.claim (i, t)).isSome = true := hex
  simp only [hex', if_true]

/-- **claims_absent_refused.** An id without a claim cannot be removed; an invalid claim is not
stored. -/
theorem claims_absent_refused (valid : Valid) (s : State) :
    (∀ id, getClaim s id = none → ∃ e, removeClaim s id = .error e) ∧
    (∀ t sc i sg d u, valid i t sc sg d = false → ∃ e, addClaim valid s t sc i sg d u = .error e) := by
  constructor
  · intro id h
    exact err_of_not_ok (fun s' hok => by
      obtain ⟨c, hc, _⟩ := (removeClaim_ok_iff s s' id).1 hok
      unfold getClaim at h; rw [hc] at h; cases h)
  · intro t sc i sg d u hv
    exact err_of_not_ok (fun s' hok => by
      have := ((addClaim_ok_iff valid s s' t sc i sg d u).1 hok).1; rw [hv] at this; cases this)

/-- **claims_enumerates_once.** In a reachable state index access into `ClaimsByTopic(t)` is a
bijection between `0 .. len-1` and the ids of the stored claims with topic `t`. -/
theorem claims_enumerates_once (valid : Valid) (s : State) (hs : Reachable valid s) (t : Nat) :
    (∀ id, (∃ c, getClaim s id = some c ∧ c.topic = t) ↔ ∃ i : Nat, (getClaimIdsByTopic s t)[i]? = some id) ∧
    (∀ (i j : Nat) id, (getClaimIdsByTopic s t)[i]? = some id → (getClaimIdsByTopic s t)[j]? = some id → i = j) := by
  have hI := reachable_inv hs
  refine ⟨fun id => ?_, nodup_index_inj _ (hI.nodup t)⟩
  rw [← List.mem_iff_getElem?]
  exact (hI.mem t id).symm

/-! ### non-vacuity -/

example :
    let v : Valid := fun _ _ _ _ d => d != 0
    let s := run v init [.add 0 1 5 1 1 1, .add 0 1 6 1 1 1, .add 0 2 5 9 9 9, .add 0 1 7 1 0 1, .remove (5, 0), .add 1 1 5 2 2 2]
    getClaimIdsByTopic s 0 = [(6, 0)] ∧ getClaimIdsByTopic s 1 = [(5, 1)] ∧
    (getClaim s (6, 0)).map (·.scheme) = some 1 ∧ (getClaim s (5, 0)).isNone = true ∧
    (getClaim s (7, 0)).isNone = true := by decide +kernel

end OZ.Props.C20g
