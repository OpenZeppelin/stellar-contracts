import OZ.Gen.Docs
import OZ.Lemmas.RegDocs
import OZ.Lemmas.RegGen
import OZ.Lemmas.Sim
/-
C20 — the document registry, re-checked on every run against the source.

`lean/OZ/Gen/Docs.lean` is regenerated by `/verif/tools/rs2lean.py --docs` (state-passing mode) from /repo's current
`packages/tokens/src/rwa/extensions/doc_manager/storage.rs`: `get_document_count`, `get_document`,
`get_document_by_index`, `get_documents`, `set_document`, `remove_document` (the private generic helper read as the
storage access it wraps; `BUCKET_SIZE`, `MAX_DOCUMENTS`, `MAX_URI_LEN` of `mod.rs`; a host string is the list of its
bytes, of which only the length is read).

REFINEMENT to the hand model (OZ/Model/RegDocs.lean) under the abstraction map `Abs` — names are decoded by an
INJECTIVE function `dn` (the model numbers names), document hashes by any function `dh`, a URI by its length, for
every history of `set_document` / `remove_document` calls at any timestamps (`remove_document` for model states that
satisfy the model's invariant); the registry sentence is then read on the generated getters.
-/
namespace OZ.Gen.Docs
open OZ.Rs OZ.Reg OZ.RegDocs

def ofOptC {α : Type} : Option α → Comp α
  | some a => .ok a
  | none => .panic

def cmap {α β : Type} (f : α → β) : Comp α → Comp β
  | .ok a => .ok (f a)
  | .panic => .panic

def dec (dn : B32 → Nat) (dh : B32 → Nat) (x : B32 × Docs.Document) : Entry :=
  (dn x.1, ⟨x.2.uri.length, dh x.2.document_hash, x.2.timestamp⟩)

structure Abs (dn dh : B32 → Nat) (st : Docs.Store) (s : State) : Prop where
  index : ∀ nm, st.Index nm = s.index (dn nm)
  buckets : ∀ b, ((st.Bucket b).getD []).map (dec dn dh) = s.buckets b
  count : st.Count.getD 0 = s.count

theorem count_eq (envr : Docs.Reads) (dn dh) (st : Docs.Store) (s : State) (hA : Abs dn dh st s) :
    Docs.get_document_count envr st = .ok s.count := by
  unfold Docs.get_document_count; rw [hA.count]

theorem get_document_by_index_eq (envr : Docs.Reads) (dn dh) (st : Docs.Store) (s : State) (hA : Abs dn dh st s) (i : Nat) :
    cmap (dec dn dh) (Docs.get_document_by_index envr st i) = ofOptC (getDocumentByIndex s i) := by
  unfold Docs.get_document_by_index getDocumentByIndex BUCKET_SIZE
  rw [count_eq envr dn dh st s hA, Comp.bind_ok, uN_div_ok, uN_rem_ok, Comp.bind_ok, Comp.bind_ok,
    OZ.RegGen.unwrap_slot, ← hA.buckets, List.getElem?_map]
  by_cases h : i ≥ s.count
  · rw [if_pos h, if_pos h]; rfl
  · rw [if_neg h, if_neg h]; cases ((st.Bucket (i / 50)).getD [])[i % 50]? <;> rfl

theorem cmap_ofOptC {α β : Type} (f : α → β) (o : Option α) : cmap f (ofOptC o) = ofOptC (o.map f) := by
  cases o <;> rfl

theorem get_document_eq (envr : Docs.Reads) (dn dh) (st : Docs.Store) (s : State) (hA : Abs dn dh st s) (nm : B32) :
    cmap (fun d : Docs.Document => (⟨d.uri.length, dh d.document_hash, d.timestamp⟩ : Doc)) (Docs.get_document envr st nm) =
      ofOptC (getDocument s (dn nm)) := by
  unfold Docs.get_document getDocument
  rw [hA.index nm]
  cases s.index (dn nm) with
  | none => rfl
  | some i =>
    have h := congrArg (cmap (·.2)) (get_document_by_index_eq envr dn dh st s hA i)
    rw [cmap_ofOptC] at h
    rw [Comp.unwrap_some, Option.bind_some, ← h]
    cases Docs.get_document_by_index envr st i <;> rfl

def Sim (dn dh : B32 → Nat) (c : Comp (Unit × Docs.Store)) (m : Except RErr State) : Prop :=
  match m with
  | .ok s' => ∃ st', c = Comp.ok ((), st') ∧ Abs dn dh st' s'
  | .error _ => c = Comp.panic

theorem sim_iff {dn dh : B32 → Nat} {c : Comp (Unit × Docs.Store)} {m : Except RErr State} :
    Sim dn dh c m ↔ Rs.Sim (onStore (Abs dn dh)) c m := by
  cases m with
  | ok s' => exact Rs.Sim.store_ok_iff.symm
  | error e => exact Iff.rfl

/-- `Vec::set` at slot `j` of bucket `b`: both sides refuse a missing or short bucket -/
theorem setAt_sim {β γ δ : Type} {Q : β → γ → Prop} {dn dh : B32 → Nat} {st : Docs.Store} {l : List Entry} {b j : Nat}
    (hb : ((st.Bucket b).getD []).map (dec dn dh) = l) (e : Entry) (X : List Entry → δ)
    {x : Except RErr δ} (hx : x = if l = [] then .error .panic else
      if j ≥ l.length then .error .panic else .ok (X (l.set j e)))
    {K : List (B32 × Docs.Document) → Comp β} {k : δ → Except RErr γ}
    (hK : ∀ v, v.map (dec dn dh) = l → Rs.Sim Q (K v) (k (X (l.set j e)))) :
    Rs.Sim Q (Comp.unwrap (st.Bucket b) fun v => if j < v.length then K v else .panic) (x.bind k) := by
  subst hx
  cases hs : st.Bucket b with
  | none => rw [hs] at hb; rw [if_pos (show l = [] from hb.symm)]; exact Sim.panic _
  | some v =>
    rw [hs] at hb
    have hlen : l.length = v.length := by rw [← hb]; exact List.length_map _
    rw [Comp.unwrap_some]
    by_cases hlt : j < v.length
    · rw [if_pos hlt, if_neg (fun h => by rw [h] at hlen; exact absurd hlt (by rw [← hlen]; exact Nat.not_lt_zero _)),
        if_neg (by rw [hlen]; exact Nat.not_le_of_lt hlt)]
      exact hK v hb
    · rw [if_neg hlt]
      by_cases h0 : l = []
      · rw [if_pos h0]; exact Sim.panic _
      · rw [if_neg h0, if_pos (by rw [hlen]; exact Nat.le_of_not_lt hlt)]; exact Sim.panic _

theorem abs_setBucket {dn dh : B32 → Nat} {st : Docs.Store} {s : State} (hA : Abs dn dh st s) (b : Nat)
    {v : List (B32 × Docs.Document)} {l : List Entry} (hv : v.map (dec dn dh) = l) :
    Abs dn dh (Docs.Store.set_Bucket st b v) { s with buckets := updD s.buckets b l } :=
  ⟨hA.index, fun b' => (congrArg _ (apply_ite (Option.getD · []) _ _ _)).trans
    ((apply_ite (List.map (dec dn dh)) _ _ _).trans (ite_congr rfl (fun _ => hv) fun _ => hA.buckets b')), hA.count⟩

section
variable {dn dh : B32 → Nat} {st : Docs.Store} {s : State}

/-- `Store.set_Index` and `Store.del_Index` are the point update at `some i` and at `none`, by `rfl` -/
theorem abs_updIndex (hinj : ∀ a b, dn a = dn b → a = b) (hA : Abs dn dh st s) (nm : B32) (o : Option Nat) :
    Abs dn dh { st with Index := fun x => if x = nm then o else st.Index x } { s with index := updD s.index (dn nm) o } :=
  ⟨fun x => ite_congr (propext ⟨congrArg dn, hinj _ _⟩) (fun _ => rfl) fun _ => hA.index x, hA.buckets, hA.count⟩

theorem abs_setCount (hA : Abs dn dh st s) (n : Nat) : Abs dn dh (Docs.Store.set_Count st n) { s with count := n } :=
  ⟨hA.index, hA.buckets, rfl⟩

end

/-- **generated = model** for `set_document` -/
theorem set_document_ref (envr : Docs.Reads) (dn dh) (hinj : ∀ a b, dn a = dn b → a = b) (st : Docs.Store) (s : State)
    (hA : Abs dn dh st s) (nm : B32) (uri : List Nat) (hash : B32) :
    Sim dn dh (Docs.set_document envr st nm uri hash) (setDocument s (dn nm) uri.length (dh hash) envr.ledger_timestamp) := by
  unfold Docs.set_document setDocument
  refine sim_iff.2 (Sim.refuse _ Iff.rfl fun _ => ?_)
  rw [hA.index nm]
  cases hi : s.index (dn nm) with
  | some i =>
    simp only [optCase_some, uN_div_ok, uN_rem_ok, Comp.bind_ok]
    rw [← bind_pure (overwriteAt _ _ _)]
    exact setAt_sim (Q := onStore (Abs dn dh)) (hA.buckets (i / 50)) (dec dn dh (nm, ⟨uri, hash, envr.ledger_timestamp⟩)) (fun l => { s with buckets := updD s.buckets (i / BUCKET_SIZE) l }) rfl
      fun v hv => Sim.pure (abs_setBucket hA (i / 50) (by rw [List.map_set, hv]))
  | none =>
    simp only [optCase_none]
    rw [count_eq envr dn dh st s hA, Comp.bind_ok]
    refine Sim.refuse _ Iff.rfl fun hm => ?_
    rw [uN_div_ok, Comp.bind_ok,
      uN_add_ok (Nat.lt_of_lt_of_le (Nat.succ_lt_succ (Nat.lt_of_not_le hm)) (by decide)), Comp.bind_ok]
    exact Sim.pure (abs_setCount (abs_setBucket (abs_updIndex hinj hA nm (some s.count)) (s.count / 50)
      (by rw [List.map_append]; exact congrArg (· ++ _) (hA.buckets _))) _)

section
variable {dn dh : B32 → Nat} {st : Docs.Store} {s : State}

/-- the generated code does not test the bucket for emptiness: the last bucket of a model state with `count > 0` is
not empty -/
theorem popLast_sim (hinj : ∀ a b, dn a = dn b → a = b) (hA : Abs dn dh st s) (nm : B32) (last : Nat)
    (hne : s.buckets (last / 50) ≠ []) :
    Rs.Sim (onStore (Abs dn dh))
      (Comp.unwrap (st.Bucket (last / 50)) fun v =>
        Comp.ok ((), Docs.Store.set_Count (Docs.Store.del_Index (Docs.Store.set_Bucket st (last / 50) (List.dropLast v)) nm) last))
      (popLast s (dn nm) last) := by
  unfold popLast
  rw [if_neg (show ¬ s.buckets (last / BUCKET_SIZE) = [] from hne)]
  have hb := hA.buckets (last / 50)
  cases hs : st.Bucket (last / 50) with
  | none => rw [hs] at hb; exact absurd hb.symm hne
  | some v =>
    rw [hs] at hb
    exact Sim.pure (abs_setCount (abs_updIndex hinj (abs_setBucket hA _ (by rw [List.map_dropLast]; exact congrArg _ hb)) nm none) last)

theorem getAt_sim {β γ : Type} {Q : β → γ → Prop} (hA : Abs dn dh st s) (b j : Nat) {K : B32 × Docs.Document → Comp β}
    {k : Entry → Except RErr γ}
    (hK : ∀ e, ((st.Bucket b).getD [])[j]? = some e → Rs.Sim Q (K e) (k (dec dn dh e))) :
    Rs.Sim Q (Comp.unwrap (st.Bucket b) fun v => Comp.unwrap (v[j]?) K) ((ofOpt RErr.panic ((s.buckets b)[j]?)).bind k) := by
  rw [OZ.RegGen.unwrap_slot, ← hA.buckets b, List.getElem?_map]
  exact Sim.unwrap (f := dec dn dh) (by cases ((st.Bucket b).getD [])[j]? <;> rfl) hK

end

/-- **generated = model** for `remove_document`, on model states satisfying the model's invariant -/
theorem remove_document_ref (envr : Docs.Reads) (dn dh) (hinj : ∀ a b, dn a = dn b → a = b) (st : Docs.Store) (s : State)
    (hA : Abs dn dh st s) (hI : Inv s) (nm : B32) :
    Sim dn dh (Docs.remove_document envr st nm) (removeDocument s (dn nm)) := by
  unfold Docs.remove_document removeDocument
  rw [hA.index nm]
  cases hi : s.index (dn nm) with
  | none => exact sim_iff.2 (Sim.panic _)
  | some idx =>
    show Sim dn dh _ (removeAt s (dn nm) idx)
    unfold removeAt
    rw [Comp.unwrap_some, count_eq envr dn dh st s hA, Comp.bind_ok]
    by_cases hc0 : s.count = 0
    · rw [if_pos hc0, show uN_sub 32 s.count 1 = .panic from if_neg (by omega)]; exact sim_iff.2 (Sim.panic _)
    · rw [if_neg hc0, uN_sub_ok (Nat.pos_of_ne_zero hc0)]
      simp only [Comp.bind_ok, uN_div_ok, uN_rem_ok]
      refine sim_iff.2 (Sim.ite Iff.rfl (fun _ => ?_) fun he => ?_)
      · refine getAt_sim hA _ _ fun v9 hl => ?_
        have hlast : s.buckets ((s.count - 1) / 50) ≠ [] := by
          rw [← hA.buckets]; intro h; rw [List.map_eq_nil_iff.1 h] at hl; cases hl
        refine setAt_sim (st := Docs.Store.set_Index st v9.1 idx) (hA.buckets (idx / 50)) (dec dn dh v9)
          (fun l => { s with index := updD s.index (dec dn dh v9).1 (some idx), buckets := updD s.buckets (idx / BUCKET_SIZE) l })
          rfl fun v10 hv => ?_
        refine popLast_sim hinj (abs_setBucket (abs_updIndex hinj hA v9.1 (some idx)) (idx / 50) (by rw [List.map_set, hv])) nm _ ?_
        show updD s.buckets (idx / 50) _ ((s.count - 1) / 50) ≠ []
        unfold updD
        by_cases hq : (s.count - 1) / 50 = idx / 50
        · rw [if_pos hq, ← hq]; intro h; exact hlast (List.length_eq_zero_iff.1 (by rw [← List.length_set, h]; rfl))
        · rw [if_neg hq]; exact hlast
      · have he : idx = s.count - 1 := Classical.not_not.1 he
        obtain ⟨l, hr⟩ := hI
        obtain ⟨d, hd⟩ := (hr.index (dn nm) idx).1 hi
        have hby := rep_byIndex hr idx
        rw [hd, he] at hby
        unfold getDocumentByIndex at hby
        rw [if_neg (by omega)] at hby
        exact popLast_sim hinj hA nm _ fun h => by rw [show s.buckets ((s.count - 1) / BUCKET_SIZE) = [] from h] at hby; cases hby

inductive GOp
  | set (ts : Nat) (nm : B32) (uri : List Nat) (hash : B32)
  | remove (nm : B32)

def mop (dn dh : B32 → Nat) : GOp → Op
  | .set ts nm uri hash => .set (dn nm) uri.length (dh hash) ts
  | .remove nm => .remove (dn nm)

def genCall (st : Docs.Store) : GOp → Comp (Unit × Docs.Store)
  | .set ts nm uri hash => Docs.set_document ⟨ts⟩ st nm uri hash
  | .remove nm => Docs.remove_document ⟨0⟩ st nm

def nextSt (st : Docs.Store) (c : Comp (Unit × Docs.Store)) : Docs.Store :=
  match c with
  | .ok (_, st') => st'
  | .panic => st

/-- a failed invocation is rolled back by the host -/
def genStep (st : Docs.Store) (o : GOp) : Docs.Store := nextSt st (genCall st o)

def genRun (st : Docs.Store) (ops : List GOp) : Docs.Store := ops.foldl genStep st

theorem call_refines {dn dh : B32 → Nat} {st : Docs.Store} {s : State} (hA : Abs dn dh st s) {c : Comp (Unit × Docs.Store)}
    {m : Except RErr State} : Sim dn dh c m → Abs dn dh (nextSt st c) (match m with | .ok s' => s' | .error _ => s) := by
  cases m with
  | error e => intro h; rw [show c = Comp.panic from h]; exact hA
  | ok s' => rintro ⟨st', h1, h2⟩; rw [h1]; exact h2

theorem step_refines (dn dh : B32 → Nat) (hinj : ∀ a b, dn a = dn b → a = b) (st : Docs.Store) (s : State)
    (hA : Abs dn dh st s) (hI : Inv s) (o : GOp) :
    Abs dn dh (genStep st o) (next s (mop dn dh o)) ∧ Inv (next s (mop dn dh o)) := by
  refine ⟨?_, inv_next hI _⟩
  cases o with
  | set ts nm uri hash => exact call_refines hA (set_document_ref ⟨ts⟩ dn dh hinj st s hA nm uri hash)
  | remove nm => exact call_refines hA (remove_document_ref ⟨0⟩ dn dh hinj st s hA hI nm)

/-- **every history** of `set_document` / `remove_document` calls, at any timestamps, follows the model -/
theorem run_refines (dn dh : B32 → Nat) (hinj : ∀ a b, dn a = dn b → a = b) (ops : List GOp) :
    ∀ (st : Docs.Store) (s : State), Abs dn dh st s → Inv s →
      Abs dn dh (genRun st ops) (run s (ops.map (mop dn dh))) ∧ Inv (run s (ops.map (mop dn dh))) := by
  induction ops with
  | nil => intro st s h hi; exact ⟨h, hi⟩
  | cons o rest ih =>
    intro st s h hi
    obtain ⟨h1, h2⟩ := step_refines dn dh hinj st s h hi o
    exact ih _ _ h1 h2

theorem store0_abs (dn dh : B32 → Nat) : Abs dn dh ⟨fun _ => none, fun _ => none, none⟩ init :=
  ⟨fun _ => rfl, fun _ => rfl, rfl⟩

/-- **C20, the documents are a map** — on the generated getters, after every history from the empty registry: there is
a list of (name, document) entries with pairwise different names such that `get_document_count` is its length,
`get_document_by_index` enumerates it, and `get_document(name)` answers exactly the document listed under that name -/
theorem gen_docs_is_a_map (dn dh : B32 → Nat) (hinj : ∀ a b, dn a = dn b → a = b) (ops : List GOp) :
    ∃ l : List Entry, (l.map (·.1)).Nodup ∧
      Docs.get_document_count ⟨0⟩ (genRun ⟨fun _ => none, fun _ => none, none⟩ ops) = .ok l.length ∧
      (∀ i, cmap (dec dn dh) (Docs.get_document_by_index ⟨0⟩ (genRun ⟨fun _ => none, fun _ => none, none⟩ ops) i) = ofOptC l[i]?) ∧
      (∀ nm d, cmap (fun x : Docs.Document => (⟨x.uri.length, dh x.document_hash, x.timestamp⟩ : Doc))
          (Docs.get_document ⟨0⟩ (genRun ⟨fun _ => none, fun _ => none, none⟩ ops) nm) = .ok d ↔ (dn nm, d) ∈ l) := by
  obtain ⟨hA, hI⟩ := run_refines dn dh hinj ops _ _ (store0_abs dn dh) inv_init
  obtain ⟨l, hr⟩ := hI
  refine ⟨l, hr.names, ?_, ?_, ?_⟩
  · rw [count_eq _ dn dh _ _ hA, hr.count]
  · intro i; rw [get_document_by_index_eq _ dn dh _ _ hA, rep_byIndex hr]
  · intro nm d
    rw [get_document_eq _ dn dh _ _ hA, ← rep_getDocument hr]
    cases getDocument (run init (ops.map (mop dn dh))) (dn nm) with
    | none => simp [ofOptC]
    | some x => simp [ofOptC]

/-- non-vacuity: names are one-byte strings decoded by their byte; two documents, one updated later, one removed -/
example :
    let st := genRun ⟨fun _ => none, fun _ => none, none⟩
      [.set 10 [1] [7, 7] [5], .set 20 [2] [8] [6], .set 30 [1] [9, 9, 9] [5], .remove [2]]
    Docs.get_document_count ⟨0⟩ st = .ok 1 ∧
      cmap (fun d => (d.uri.length, d.timestamp)) (Docs.get_document ⟨0⟩ st [1]) = .ok (3, 30) ∧
      Docs.get_document ⟨0⟩ st [2] = .panic := by
  decide

end OZ.Gen.Docs
