import OZ.Lemmas.MulDiv
/-
C12 — Fixed-point mul-div is exact for every input and fails only when it must.

The property statements quantify over every `x y d` in the i128 (resp. I256) range; no bound, no sampling.

`spec128 err rd x y d` (OZ/Model/MulDiv.lean) is the property's right-hand side: the
exactly rounded quotient `Int.fdiv / Int.cdiv / Int.tdiv (x*y) d` when `d ≠ 0` and it fits
in i128, and the error outcome `err` otherwise.
-/
namespace OZ.MulDiv

theorem in128_in256 {v : Int} (h : in128 v) : in256 v := by
  unfold in128 in256 I128_MIN I128_MAX I256_MIN I256_MAX at *; omega

/-- `|x·y| ≤ 2^254`, and rounding adds at most one -/
theorem exactQ_in256 (rd : Rounding) (x y d : Int) (hx : in128 x) (hy : in128 y) (hd0 : d ≠ 0) :
    in256 (exactQ rd x y d) := by
  obtain ⟨ht, hf, hc⟩ := rounded_mem_range (mul_in128_bound hx hy) hd0
  unfold in256 I256_MIN I256_MAX I128_MAX at *
  cases rd
  · show _ ≤ Int.fdiv (x * y) d ∧ Int.fdiv (x * y) d ≤ _
    omega
  · show _ ≤ Int.cdiv (x * y) d ∧ Int.cdiv (x * y) d ≤ _
    omega
  · show _ ≤ Int.tdiv (x * y) d ∧ Int.tdiv (x * y) d ≤ _
    omega

/-- in `mul_div_i128_spec` below, `in128 x` and `in128 y` serve only to guarantee `hp2` -/
theorem mulDiv128_eq (rd : Rounding) (x y d : Int) (hp2 : in256 (x * y)) :
    mulDiv128 rd x y d = spec128 .panic rd x y d := by
  unfold mulDiv128 spec128 checkedMul128 chk128
  by_cases hd0 : d = 0
  · rw [if_pos hd0, if_pos hd0]
  rw [if_neg hd0, if_neg hd0]
  by_cases hp : in128 (x * y)
  · rw [if_pos hp]
    have h := round128_spec rd x y d hp hd0
    cases rd <;> exact (congrArg Res.orPanic h).trans (orPanic_ite _ _)
  · rw [if_neg hp]
    unfold mulDiv256 mul256 chk256
    rw [if_neg hd0, if_pos hp2]
    have h := round256_spec rd x y d hp2 hd0
    by_cases hq : in256 (exactQ rd x y d)
    · -- the I256 helper returns the quotient; what is left is the narrowing
      rw [if_pos hq] at h
      have hn := (congrArg Res.orPanic (ofOpt_chk128 (exactQ rd x y d))).trans (orPanic_ite _ _)
      cases rd <;> dsimp only at h ⊢ <;> rw [h] <;> exact hn
    · -- `MIN256 / -1`: the host traps, and the quotient does not fit i128 either
      rw [if_neg hq] at h
      rw [if_neg (fun h' => hq (in128_in256 h'))]
      cases rd <;> dsimp only at h ⊢ <;> rw [h] <;> rfl

/-- **C12, i128 plain variants** (`mul_div_i128`, `mul_div_floor/ceil`, `mul_div`):
exact rounded quotient whenever `d ≠ 0` and it fits — also when `x*y` overflows i128 —
and a panic exactly otherwise. -/
theorem mul_div_i128_spec (rd : Rounding) (x y d : Int)
    (hx : in128 x) (hy : in128 y) (_hd : in128 d) :
    mulDiv128 rd x y d = spec128 .panic rd x y d :=
  mulDiv128_eq rd x y d (mul_in256 x y hx hy)

theorem mulDiv128_ok {rd : Rounding} {x y d v : Int} (h : mulDiv128 rd x y d = .ok v) :
    d ≠ 0 ∧ v = exactQ rd x y d ∧ in128 v := by
  by_cases hp2 : in256 (x * y)
  · rw [mulDiv128_eq rd x y d hp2] at h
    unfold spec128 at h
    split at h
    · cases h
    split at h
    · rename_i hd0 hq; injection h with h; subst h; exact ⟨hd0, rfl, hq⟩
    · cases h
  · -- a product beyond 256 bits: the host multiplication traps
    unfold mulDiv128 checkedMul128 chk128 mulDiv256 mul256 chk256 at h
    by_cases hd0 : d = 0
    · rw [if_pos hd0] at h; cases h
    · simp only [if_neg hd0, if_neg (fun hp => hp2 (in128_in256 hp)), if_neg hp2] at h
      cases h

/-- **C12, i128 checked variants**: same value, `None` exactly when the plain variant panics,
and never a panic. -/
theorem checked_mul_div_i128_spec (rd : Rounding) (x y d : Int)
    (hx : in128 x) (hy : in128 y) (_hd : in128 d) :
    checkedMulDiv128 rd x y d = spec128 .none rd x y d := by
  unfold checkedMulDiv128 spec128 checkedMul128 chk128
  by_cases hd0 : d = 0
  · subst hd0
    rw [if_pos rfl]
    by_cases hp : in128 (x * y)
    · rw [if_pos hp]
      cases rd <;> simp [divFloor128, divCeil128, checkedDiv128, checkedRemEuclid128, ofOpt]
    · rw [if_neg hp]
      cases rd <;> simp [checkedMulDiv256, narrowChecked]
  rw [if_neg hd0]
  by_cases hp : in128 (x * y)
  · rw [if_pos hp]; exact round128_spec rd x y d hp hd0
  · rw [if_neg hp]
    unfold checkedMulDiv256 mul256 chk256
    rw [if_neg hd0, if_pos (mul_in256 x y hx hy)]
    have h := round256_spec rd x y d (mul_in256 x y hx hy) hd0
    rw [if_pos (exactQ_in256 rd x y d hx hy hd0)] at h
    exact (congrArg narrowChecked h).trans (ofOpt_chk128 _)

/-- checked and plain variants agree: same value, `None` ⇔ panic -/
theorem checked_eq_plain (rd : Rounding) (x y d : Int)
    (hx : in128 x) (hy : in128 y) (hd : in128 d) :
    (∀ v, checkedMulDiv128 rd x y d = .ok v ↔ mulDiv128 rd x y d = .ok v) ∧
    (checkedMulDiv128 rd x y d = .none ↔ mulDiv128 rd x y d = .panic) ∧
    checkedMulDiv128 rd x y d ≠ .panic ∧ mulDiv128 rd x y d ≠ .none := by
  rw [checked_mul_div_i128_spec rd x y d hx hy hd, mul_div_i128_spec rd x y d hx hy hd]
  unfold spec128
  by_cases hd0 : d = 0
  · simp [hd0]
  · by_cases h : in128 (exactQ rd x y d)
    · rw [if_neg hd0, if_neg hd0, if_pos h, if_pos h]; simp
    · rw [if_neg hd0, if_neg hd0, if_neg h, if_neg h]; simp

/-- the error outcome occurs exactly when `d = 0` or the rounded quotient does not fit -/
theorem fails_only_when_it_must (rd : Rounding) (x y d : Int)
    (hx : in128 x) (hy : in128 y) (hd : in128 d) :
    mulDiv128 rd x y d = .panic ↔ (d = 0 ∨ ¬ in128 (exactQ rd x y d)) := by
  rw [mul_div_i128_spec rd x y d hx hy hd]
  unfold spec128
  by_cases hd0 : d = 0
  · simp [hd0]
  · by_cases h : in128 (exactQ rd x y d) <;> simp [hd0, h]

/-- **C12, I256 variants**: exact whenever the product fits in 256 bits (the quotient then
fails to fit only for `MIN / -1`, where the host traps). -/
theorem mul_div_i256_spec (rd : Rounding) (x y d : Int) (hp : in256 (x * y)) :
    mulDiv256 rd x y d =
      if d = 0 then .panic
      else if in256 (exactQ rd x y d) then .ok (exactQ rd x y d) else .panic := by
  unfold mulDiv256 mul256 chk256
  by_cases hd0 : d = 0
  · rw [if_pos hd0, if_pos hd0]
  rw [if_neg hd0, if_neg hd0, if_pos hp]
  have h := round256_spec rd x y d hp hd0
  cases rd <;> dsimp only at h ⊢
  · rw [h]; split <;> rfl
  · rw [h]; split <;> rfl
  · exact h

theorem checked_mul_div_i256_spec (rd : Rounding) (x y d : Int) (hp : in256 (x * y)) :
    checkedMulDiv256 rd x y d =
      if d = 0 then .none
      else if in256 (exactQ rd x y d) then .ok (exactQ rd x y d) else .panic := by
  unfold checkedMulDiv256 mul256 chk256
  by_cases hd0 : d = 0
  · rw [if_pos hd0, if_pos hd0]
  rw [if_neg hd0, if_neg hd0, if_pos hp]
  exact round256_spec rd x y d hp hd0

/-! ### the rounded quotients are what they are called -/

theorem floor_is_floor (r d : Int) (hd : 0 < d) :
    d * Int.fdiv r d ≤ r ∧ r < d * (Int.fdiv r d + 1) := by
  rw [Int.mul_comm d, Int.mul_comm d]
  exact ⟨(le_fdiv_iff hd).1 (Int.le_refl _),
    Int.not_le.1 fun h => by have := (le_fdiv_iff hd).2 h; omega⟩

theorem ceil_is_ceil (r d : Int) (hd : 0 < d) :
    d * (Int.cdiv r d - 1) < r ∧ r ≤ d * Int.cdiv r d := by
  rw [Int.mul_comm d, Int.mul_comm d]
  exact ⟨Int.not_le.1 fun h => by have := (cdiv_le_iff hd).2 h; omega,
    (cdiv_le_iff hd).1 (Int.le_refl _)⟩

/-! ### Wad -/

theorem in128_WAD : in128 WAD := by decide

/-- `Wad::checked_mul`: the exact product `a·b / 10^18` truncated toward zero, or `None`
exactly when it does not fit -/
theorem wad_checked_mul_exact (a b : Int) (ha : in128 a) (hb : in128 b) :
    wadCheckedMul a b = spec128 .none .trunc a b WAD :=
  checked_mul_div_i128_spec .trunc a b WAD ha hb in128_WAD

/-- `Wad::checked_div`: `a·10^18 / b` truncated toward zero; `None` iff `b = 0` or no fit -/
theorem wad_checked_div_exact (a b : Int) (ha : in128 a) (hb : in128 b) :
    wadCheckedDiv a b = spec128 .none .trunc a WAD b := by
  unfold wadCheckedDiv
  by_cases h : b = 0
  · rw [if_pos h]; unfold spec128; rw [if_pos h]
  · rw [if_neg h]; exact checked_mul_div_i128_spec .trunc a WAD b ha in128_WAD hb

/-- `Wad::from_ratio`: `num·10^18 / den` truncated toward zero; panics iff `den = 0` or no fit -/
theorem wad_from_ratio_exact (n d : Int) (hn : in128 n) (hd : in128 d) :
    wadFromRatio n d = spec128 .panic .trunc n WAD d := by
  unfold wadFromRatio
  by_cases h : d = 0
  · rw [if_pos h]; unfold spec128; rw [if_pos h]
  · rw [if_neg h, checked_mul_div_i128_spec .trunc n WAD d hn in128_WAD hd]
    unfold spec128; rw [if_neg h, if_neg h]
    by_cases hq : in128 (exactQ .trunc n WAD d)
    · rw [if_pos hq, if_pos hq]; rfl
    · rw [if_neg hq, if_neg hq]; rfl

theorem checked_result_shape (rd : Rounding) (x y d : Int)
    (hx : in128 x) (hy : in128 y) (hd : in128 d) :
    (∃ v, in128 v ∧ checkedMulDiv128 rd x y d = .ok v) ∨ checkedMulDiv128 rd x y d = .none := by
  rw [checked_mul_div_i128_spec rd x y d hx hy hd]
  unfold spec128
  by_cases hd0 : d = 0
  · right; rw [if_pos hd0]
  · rw [if_neg hd0]
    by_cases h : in128 (exactQ rd x y d)
    · left; exact ⟨_, h, by rw [if_pos h]⟩
    · right; rw [if_neg h]

theorem powLoop_shape (fuel e : Nat) (base result : Int) (hb : in128 base) (hr : in128 result) :
    (∃ v, in128 v ∧ powLoop fuel e base result = .ok v) ∨ powLoop fuel e base result = .none := by
  induction fuel generalizing e base result with
  | zero => left; exact ⟨result, hr, rfl⟩
  | succ n ih =>
    unfold powLoop
    by_cases he : e = 0
    · rw [if_pos he]; left; exact ⟨result, hr, rfl⟩
    rw [if_neg he]
    by_cases hodd : e % 2 = 1
    · simp only [hodd, if_true]
      rcases checked_result_shape .trunc result base WAD hr hb in128_WAD with ⟨v, hv, h1⟩ | h1
      · rw [h1]
        by_cases he2 : e / 2 > 0
        · simp only [he2, if_true]
          rcases checked_result_shape .trunc base base WAD hb hb in128_WAD with ⟨w, hw, h2⟩ | h2
          · rw [h2]; exact ih _ _ _ hw hv
          · rw [h2]; right; rfl
        · simp only [he2, if_false]; exact ih _ _ _ hb hv
      · rw [h1]; right; rfl
    · simp only [hodd, if_false]
      by_cases he2 : e / 2 > 0
      · simp only [he2, if_true]
        rcases checked_result_shape .trunc base base WAD hb hb in128_WAD with ⟨w, hw, h2⟩ | h2
        · rw [h2]; exact ih _ _ _ hw hr
        · rw [h2]; right; rfl
      · simp only [he2, if_false]; exact ih _ _ _ hb hr

theorem wad_checked_pow_shape (a : Int) (n : Nat) (ha : in128 a) :
    (∃ v, in128 v ∧ wadCheckedPow a n = .ok v) ∨ wadCheckedPow a n = .none := by
  unfold wadCheckedPow
  by_cases h0 : n = 0
  · rw [if_pos h0]; left; exact ⟨WAD, in128_WAD, rfl⟩
  rw [if_neg h0]
  by_cases h1 : n = 1
  · rw [if_pos h1]; left; exact ⟨a, ha, rfl⟩
  rw [if_neg h1]
  by_cases h2 : a = 0
  · rw [if_pos h2]; left; exact ⟨0, by decide, rfl⟩
  rw [if_neg h2]
  by_cases h3 : a = WAD
  · rw [if_pos h3]; left; exact ⟨a, ha, rfl⟩
  rw [if_neg h3]
  exact powLoop_shape 33 n a WAD ha in128_WAD

/-- **`pow` fails exactly when `checked_pow` returns no value**, and otherwise returns the
same value -/
theorem wad_pow_iff_checked_pow (a : Int) (n : Nat) (ha : in128 a) :
    (wadPow a n = .panic ↔ wadCheckedPow a n = .none) ∧
    (∀ v, wadPow a n = .ok v ↔ wadCheckedPow a n = .ok v) := by
  unfold wadPow
  rcases wad_checked_pow_shape a n ha with ⟨v, -, h⟩ | h <;> rw [h] <;> simp [Res.orPanic]

/-! ### witnesses -/

/-- phantom overflow: `x*y` exceeds i128, the quotient fits, and the operation succeeds -/
example : ¬ in128 (I128_MAX * 4) ∧ mulDiv128 .floor I128_MAX 4 8 = .ok 85070591730234615865843651857942052863 := by
  decide
/-- `MIN * 1 / -1` does not fit: plain panics, checked returns `None` (all three roundings) -/
example : mulDiv128 .floor I128_MIN 1 (-1) = .panic ∧ checkedMulDiv128 .floor I128_MIN 1 (-1) = .none ∧
    mulDiv128 .ceil I128_MIN 1 (-1) = .panic ∧ checkedMulDiv128 .ceil I128_MIN 1 (-1) = .none ∧
    mulDiv128 .trunc I128_MIN 1 (-1) = .panic ∧ checkedMulDiv128 .trunc I128_MIN 1 (-1) = .none := by
  decide
example : mulDiv128 .floor (-7) 3 2 = .ok (-11) ∧ mulDiv128 .ceil (-7) 3 2 = .ok (-10) ∧
    mulDiv128 .trunc (-7) 3 2 = .ok (-10) ∧ mulDiv128 .ceil 7 3 2 = .ok 11 := by decide
example : wadCheckedPow (2 * WAD) 10 = .ok (1024 * WAD) := by decide

end OZ.MulDiv
