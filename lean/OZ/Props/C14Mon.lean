import OZ.Lemmas.PoliciesMonChecks
/-
C14 — soundness of the MONITOR that decides the property on implementation traces.

`./check C14` reports a concrete violation exactly when `OZ.Policies.Mon.checkCore` (the
driver's monitor on parsed values, OZ/Model/PoliciesMon.lean) returns a message on the
implementation's observations. Here it is proved that on the observations of the MODEL the
monitor never returns a message: for every start ledger (also ledger 0) and every finite
sequence of well-formed `>` lines — calls of the sixteen entry points with any thresholds,
weight pairs, signer lists, contexts, amounts, limits, periods and authorizing subsets, ledger
moves `pol adv` and long idle periods `pol idle` of any length
(`monitor_accepts_every_model_trace`). Consequences:

  * an implementation whose observations agree with the model's (the correspondence the check
    establishes by differential testing) can never raise a monitor alarm — a monitor failure is
    never a false alarm of the monitor itself;
  * every conclusion the monitor evaluates (simple / weighted policy accept and answer
    can_enforce exactly by the count / weight rule of the reported configuration; can_enforce
    never traps on a duplicate-free signer list; no stored threshold is 0, unreachable or
    overflowing, at every change and in every observed state; cached total = Σ history, history
    sorted, not from the future, ≤ 1000 entries, limit and period positive; the accepted amounts
    of a key with ledger in (now − period, now] never exceed the limit in force at an accepted
    spend — across limit changes and ledger gaps; only well-formed transfers with a signer are
    accepted; can_enforce asked immediately before an enforce agrees with it; every accepted
    change was authorized by the account, which is the authorization demanded; a rejected call
    and a query change nothing and emit nothing; ledger moves change nothing) is a THEOREM about
    the model, in the monitor's own executable wording.

What the statement ranges over: `>` lines are the parsed values (`Line`) exactly as the driver
hands them to the model (`mstep`) and to the monitor (`Line.mop`). `Valid` = the call names a
key of the observed universe (account < NA, rule id < NR: the observation line carries exactly
these keys) and the three readings of its context word agree (the model gets `ctx`; the monitor
reads "announces a transfer" and "its amount" off the same word: `t:<amt>` / `x:<amt>` / `s:<amt>` are
the transfers, nothing else is; a word like `t:abc`, which `parseOp` reads as announcing a transfer
while `parseCtx` gives no transfer context, is not `Valid`). The model's observation is `modelObs`
(OZ/Lemmas/PoliciesMon.lean): field by field what the driver's `line` prints (`showS/W/L`, `stateStr`)
and `parseObs` reads back.
NOT covered (string level, trusted): `parseOp`, `parseCtx`, `parseKind`, `parseObs`, `line` and
the two `site=policy.parse` alarms of the driver.
-/
namespace OZ.Policies.Mon
open OZ.Host OZ.Policies

def Line.Valid : Line → Prop
  | .call p => Mon.Valid p
  | _ => True

/-- **one call**: fed with the model's own observation of any well-formed call (accepted,
rejected or a query), the monitor reports nothing and its state keeps describing the model's -/
theorem monitor_sound_call {mon : Mon} {m : M} (hA : Agree mon m) (p : POp) (hv : Mon.Valid p) :
    (checkCore mon (.call p) (modelObs (mstepCall m p).1 (mstepCall m p).2)).2 = none ∧
    Agree (checkCore mon (.call p) (modelObs (mstepCall m p).1 (mstepCall m p).2)).1 (mstepCall m p).1 := by
  have F := mstepCall_facts m p
  generalize modelObs (mstepCall m p).1 (mstepCall m p).2 = o at F
  generalize (mstepCall m p).1 = m' at F
  obtain ⟨hlog, hwin⟩ := call_log hA hv F
  constructor
  · show callVerdict mon p o = none
    have hinv' : Inv m' (monStep mon p o).log := hlog
    unfold callVerdict
    rw [sThrOf_eq (hA.prev o) hv, wCfgOf_eq (hA.prev o) hv, lCfgOf_eq (hA.prev o) hv,
      stateChecks_quiet hinv' F.state F.now, chkRollback_quiet hA F, chkRollbackEvent_quiet F, chkAuth_quiet F,
      chkAuthDemand_quiet F, chkRule_quiet F, chkTrap_quiet hA.inv F, chkSimpleConfig_quiet F,
      chkSimpleReinstall_quiet F, chkWeightedInstall_quiet F, chkWeightedReinstall_quiet F,
      chkWeightedSetThr_quiet F, chkSpendLimit_quiet F, chkSpendInstall_quiet F,
      chkSpendCtx_quiet hv F, chkSpendCanCtx_quiet hv F, hwin, chkAgree_quiet hA F]
    rfl
  · show Agree (monStep mon p o) m'
    refine ⟨hlog, fun _ => F.state, ?_⟩
    intro k ans hl
    have hl' : (if p.kind.isCan then some (canKeyOf p, o.res) else none) = some (k, ans) := hl
    cases hc : p.kind.isCan with
    | false => rw [hc] at hl'; cases hl'
    | true =>
      rw [hc, if_pos rfl] at hl'
      injection hl' with hl'
      injection hl' with h1 h2
      subst h1; subst h2
      rw [(F.quiet (.inr hc)).1]
      exact ((F.can hc).1).trans (canM_true_iff m p)

/-- **one `>` line** (a call, a ledger move, a long idle period) -/
theorem monitor_sound_step {mon : Mon} {m : M} (hA : Agree mon m) (l : Line) (hv : l.Valid) :
    (checkCore mon l.mop (modelObs (mstep m l).1 (mstep m l).2)).2 = none ∧
    Agree (checkCore mon l.mop (modelObs (mstep m l).1 (mstep m l).2)).1 (mstep m l).1 := by
  cases l with
  | call p => exact monitor_sound_call hA p hv
  | idle k => exact move_sound hA k (.inl rfl)
  | adv k => exact move_sound hA k (.inr rfl)

/-- the monitor run over a whole history of model observations: first message, if any -/
def monitorRun : Mon → M → List Line → Option String
  | _, _, [] => none
  | mon, m, l :: ls =>
    match (checkCore mon l.mop (modelObs (mstep m l).1 (mstep m l).2)).2 with
    | some msg => some msg
    | none => monitorRun (checkCore mon l.mop (modelObs (mstep m l).1 (mstep m l).2)).1 (mstep m l).1 ls

/-- **monitor soundness**: for every start ledger (the only parameter of a sequence label the
driver reads; `monInit` is what its `minit` builds for every label, `M.init start` what its `init`
builds) and every finite history of well-formed `>` lines — any entry points, thresholds, weight
maps, signer lists, contexts, amounts, limits, periods, authorizing subsets, any number of calls
per ledger, any ledger movement — the monitor reports nothing on the model's observations -/
theorem monitor_accepts_every_model_trace (start : Nat) (ls : List Line) (hv : ∀ l ∈ ls, l.Valid) :
    monitorRun monInit (M.init start) ls = none := by
  suffices ∀ mon m, Agree mon m → monitorRun mon m ls = none from this _ _ (init_agree start)
  induction ls with
  | nil => intro mon m _; rfl
  | cons l ls ih =>
    intro mon m hA
    obtain ⟨h1, h2⟩ := monitor_sound_step hA l (hv l List.mem_cons_self)
    unfold monitorRun
    rw [h1]
    exact ih (fun y hy => hv y (List.mem_cons_of_mem _ hy)) _ _ h2

/-! ### a finding about the monitor: a false alarm of `chkWindowOld`, at ledger 0

`chkWindowOld` below sums ALL logged spends of the key with ledger later than
`now − period`. The property speaks about ledgers ≥ 1 for a reason: `cutoff = now.saturating_sub(period)`
is 0 while `now ≤ period`, and the code evicts entries with `ledger ≤ cutoff`, so a spend made AT
ledger 0 is evicted by the next enforce, whatever the window. The model (like the code) then
grants the allowance again, and `chkWindowOld` counts the ledger-0 spend against it: a false alarm
on a model trace — of a sequence started at ledger 0, which no harness sequence is (it
skips spends MADE at ledger 0, but not later spends whose window reaches back to it).
`chkWindow` leaves spends of ledger 0 out of the sum (`windowSum`), i.e. it demands exactly
what the property states; on every trace without a spend at ledger 0 it is the same check. -/

/-- window sum and check that count ledger-0 spends -/
def windowSumOld (log : List Spent) (e : Spent) : Int :=
  isum ((log.filter (fun x => x.a = e.a ∧ x.r = e.r ∧ e.ledger < x.ledger + e.period)).map (·.amount))

def chkWindowOld (entry : Option Spent) (log2 : List Spent) : Option String :=
  match entry with
  | some e =>
    if e.ledger ≥ 1 ∧ windowSumOld log2 e > e.limit then
      some s!"site=policy.spend.window accepted amounts in ({e.ledger}-{e.period}, {e.ledger}] sum to {windowSumOld log2 e} > limit {e.limit}"
    else none
  | none => none

def alarmInstall : POp :=
  { kind := .lInstall, a := 0, r := 0, rs := [0, 1], thr := 0, w := [], sgn := 0, wt := 0, lim := 10, per := 5,
    ctxS := "o:approve", ctx := .otherCall, isTransfer := false, amount := 0, sg := [], auth := [0] }

def alarmSpend : POp :=
  { kind := .lEnforce, a := 0, r := 0, rs := [0, 1], thr := 0, w := [], sgn := 0, wt := 0, lim := 0, per := 0,
    ctxS := "t:10", ctx := .transfer 10, isTransfer := true, amount := 10, sg := [1], auth := [0] }

/-- limit 10 per 5 ledgers installed at ledger 0; 10 spent at ledger 0; 10 spent again at ledger 3 -/
def alarmTrace : List Line := [.call alarmInstall, .call alarmSpend, .adv 3, .call alarmSpend]

def runBoth : Mon → M → List Line → Mon × M
  | mon, m, [] => (mon, m)
  | mon, m, l :: ls => runBoth (checkCore mon l.mop (modelObs (mstep m l).1 (mstep m l).2)).1 (mstep m l).1 ls

theorem alarmTrace_valid : ∀ l ∈ alarmTrace, l.Valid := by
  have h1 : Mon.Valid alarmInstall :=
    ⟨by decide, by decide, ⟨fun h => (by cases h), fun ⟨_, h⟩ => (by cases h)⟩, fun _ h => (by cases h)⟩
  have h2 : Mon.Valid alarmSpend :=
    ⟨by decide, by decide, ⟨fun _ => ⟨10, rfl⟩, fun _ => rfl⟩, fun _ h => by cases h; rfl⟩
  intro l hl
  simp only [alarmTrace, List.mem_cons, List.mem_nil_iff, or_false] at hl
  rcases hl with rfl | rfl | rfl | rfl
  · exact h1
  · exact h2
  · trivial
  · exact h2

/-- on this model trace (started at ledger 0) the model accepts the second spend, `chkWindowOld`
reports it, `chkWindow` does not -/
theorem old_monitor_false_alarm :
    (∀ l ∈ alarmTrace, l.Valid) ∧
    (modelObs (mstepCall (runBoth monInit (M.init 0) (alarmTrace.take 3)).2 alarmSpend).1
      (mstepCall (runBoth monInit (M.init 0) (alarmTrace.take 3)).2 alarmSpend).2).ok = true ∧
    (monStep (runBoth monInit (M.init 0) (alarmTrace.take 3)).1 alarmSpend
      (modelObs (mstepCall (runBoth monInit (M.init 0) (alarmTrace.take 3)).2 alarmSpend).1
        (mstepCall (runBoth monInit (M.init 0) (alarmTrace.take 3)).2 alarmSpend).2)).log
      = [⟨0, 0, 10, 3, 10, 5⟩, ⟨0, 0, 10, 0, 10, 5⟩] ∧
    (chkWindowOld (some ⟨0, 0, 10, 3, 10, 5⟩) [⟨0, 0, 10, 3, 10, 5⟩, ⟨0, 0, 10, 0, 10, 5⟩]).isSome = true ∧
    chkWindow (some ⟨0, 0, 10, 3, 10, 5⟩) [⟨0, 0, 10, 3, 10, 5⟩, ⟨0, 0, 10, 0, 10, 5⟩] = none ∧
    monitorRun monInit (M.init 0) alarmTrace = none := by
  refine ⟨alarmTrace_valid, by decide, by decide, ?_, ?_, monitor_accepts_every_model_trace 0 _ alarmTrace_valid⟩
  · have : windowSumOld [⟨0, 0, 10, 3, 10, 5⟩, ⟨0, 0, 10, 0, 10, 5⟩] ⟨0, 0, 10, 3, 10, 5⟩ = 20 := by decide
    unfold chkWindowOld
    simp only [this]
    decide
  · have : windowSum [⟨0, 0, 10, 3, 10, 5⟩, ⟨0, 0, 10, 0, 10, 5⟩] ⟨0, 0, 10, 3, 10, 5⟩ = 10 := by decide
    unfold chkWindow
    simp only [this]
    decide

/-- without a spend at ledger 0 in the log `chkWindowOld` and `chkWindow` are the same check -/
theorem chkWindow_eq_old (entry : Option Spent) (log : List Spent) (h : ∀ x ∈ log, 1 ≤ x.ledger) :
    chkWindow entry log = chkWindowOld entry log := by
  have hs : ∀ e, windowSum log e = windowSumOld log e := by
    intro e
    unfold windowSum windowSumOld
    congr 2
    apply List.filter_congr
    intro x hx
    have := h x hx
    simp [this]
  cases entry with
  | none => rfl
  | some e =>
    unfold chkWindow chkWindowOld
    simp only [hs]

/-- the universe assumption of `Valid` is needed: the observation carries the keys with account
< NA only, so the monitor cannot see an installation of account 2 and would call its accepted
spend "no installation" -/
def outsideInstall : POp := { alarmInstall with a := 2, auth := [2] }
def outsideSpend : POp := { alarmSpend with a := 2, auth := [2] }

example :
    (modelObs (mstepCall (mstepCall (M.init 5) outsideInstall).1 outsideSpend).1
      (mstepCall (mstepCall (M.init 5) outsideInstall).1 outsideSpend).2).ok = true ∧
    (modelObs (mstepCall (mstepCall (M.init 5) outsideInstall).1 outsideSpend).1
      (mstepCall (mstepCall (M.init 5) outsideInstall).1 outsideSpend).2).L = [] := by decide

/-! ### non-vacuity: the monitor is not trivially silent -/

def demoS (k : Kind) (sg auth : List Nat) : POp :=
  { kind := k, a := 1, r := 0, rs := [0, 1, 2], thr := 2, w := [], sgn := 0, wt := 0, lim := 0, per := 0,
    ctxS := "o:approve", ctx := .otherCall, isTransfer := false, amount := 0, sg := sg, auth := auth }

def demoL (k : Kind) (amt : Int) : POp :=
  { kind := k, a := 0, r := 1, rs := [0], thr := 0, w := [], sgn := 0, wt := 0, lim := 100, per := 10,
    ctxS := "t", ctx := .transfer amt, isTransfer := true, amount := amt, sg := [1], auth := [0] }

/-- a well-formed history: install 2-of-3, a query, an enforce with one signer (rejected), an
enforce with two (accepted), a spending limit with spends at the window edge -/
def demoTrace : List Line :=
  [.call (demoS .sInstall [] [1]), .call (demoS .sCan [0] []), .call (demoS .sEnforce [0] [1]),
   .call (demoS .sEnforce [0, 2] [1]), .call (demoL .lInstall 0), .call (demoL .lEnforce 60),
   .call (demoL .lEnforce 40), .adv 9, .call (demoL .lCan 1), .call (demoL .lEnforce 1), .idle 1,
   .call (demoL .lEnforce 100)]

def outcomes (m : M) : List Line → List String
  | [] => []
  | l :: ls => (mstep m l).2.tag :: outcomes (mstep m l).1 ls

example : outcomes (M.init 100) demoTrace =
    ["ok", "no", "err", "ok", "ok", "ok", "ok", "ok", "no", "err", "ok", "ok"] := by decide

example : ∀ l ∈ demoTrace, l.Valid := by
  have hS : ∀ k sg auth, Mon.Valid (demoS k sg auth) := fun k sg auth =>
    ⟨show (1 : Nat) < 2 by decide, show (0 : Nat) < 2 by decide, ⟨fun h => (by cases h), fun ⟨_, h⟩ => (by cases h)⟩, fun _ h => (by cases h)⟩
  have hL : ∀ k amt, Mon.Valid (demoL k amt) := fun k amt =>
    ⟨show (0 : Nat) < 2 by decide, show (1 : Nat) < 2 by decide, ⟨fun _ => ⟨amt, rfl⟩, fun _ => rfl⟩, fun _ h => by cases h; rfl⟩
  intro l hl
  simp only [demoTrace, List.mem_cons, List.mem_nil_iff, or_false] at hl
  rcases hl with rfl | rfl | rfl | rfl | rfl | rfl | rfl | rfl | rfl | rfl | rfl | rfl <;>
    first | exact hS _ _ _ | exact hL _ _ | trivial

/-- threshold 2 reported, enforce with ONE signer accepted: the monitor fires (`policy.s.enforce`) -/
def badPrev : Obs :=
  { ok := true, res := "-", S := [(1, 0, 2)], W := [], L := [], now := 100, ev := "-", dem := "1",
    stateStr := "S=1:0:2 W=- L=-" }

example : (checkCore { prev := some badPrev, lastCan := none, log := [] } (.call (demoS .sEnforce [0] [1]))
    { badPrev with ev := "S:1:0:1" }).2.isSome = true := by decide

/-- 60 + 41 accepted inside one window under limit 100: the monitor fires (`policy.spend.window`) -/
def badPrevL : Obs :=
  { ok := true, res := "-", S := [], W := [], L := [⟨0, 1, 100, 10, 60, [(60, 100)]⟩], now := 100, ev := "-",
    dem := "0", stateStr := "S=- W=- L=0:1:100:10:60:60@100" }

def badObsL : Obs :=
  { ok := true, res := "-", S := [], W := [], L := [⟨0, 1, 100, 10, 101, [(60, 100), (41, 100)]⟩], now := 100,
    ev := "L:0:1:41:101", dem := "0", stateStr := "S=- W=- L=0:1:100:10:101:60@100,41@100" }

example : (checkCore { prev := some badPrevL, lastCan := none, log := [⟨0, 1, 60, 100, 100, 10⟩] }
    (.call (demoL .lEnforce 41)) badObsL).2.isSome = true := by decide

end OZ.Policies.Mon
