import OZ.Lemmas.FungibleComplete
import OZ.Props.C01
import OZ.Props.C02
/-
C01, completeness — a call of the fungible `Base` token fails ONLY when it must.

`Props/C01.lean` proves that a failed call leaves everything as before (`failed_no_effect`)
and that the supply invariant holds in every reachable state. This file adds the converse
side: in every state satisfying the invariant `Inv U s` (U duplicate-free), for every
authorizing set, each entry point succeeds IF AND ONLY IF its documented precondition holds,
and the resulting state is exactly the documented one. In particular the unchecked additions
of `Base::update` (`update_no_overflow`), the host's TTL machinery inside `set_allowance`
(`setAllowance_extend_cannot_fail`) and the re-write of the remaining allowance in
`spend_allowance` never refuse a call.

The spend entry points need one more fact about the state: every stored
`live_until_ledger` is at most `now + max_entry_ttl − 1` (`AllowLuOk`; it was checked when
the record was written and the ledger only moves forward). It is an explicit hypothesis of
the step theorems and is proved for every reachable state (`allowLuOk_reachable`); the
`…_reachable` corollaries need neither hypothesis.
-/
namespace OZ.Fungible
open OZ.Host

/-! ### mint / transfer / burn -/

/-- `mint(to, a)` succeeds iff `0 ≤ a` and `total_supply + a` is an i128; the result is
`mintResult` (supply and `to`'s balance raised by `a`, one `mint` event). -/
theorem mint_succeeds_iff {U : List Nat} (hn : U.Nodup) (c : Cfg) {s : State} (hi : Inv U s)
    (auth : List Nat) (t : Nat) (a : Int) (s' : State) :
    apply c s auth (.mint t a) = .ok s' ↔
      (0 ≤ a ∧ in128 (s.supply + a)) ∧ s' = mintResult s t a := by
  show mint s t a = .ok s' ↔ _
  rw [mint_eq_ok_iff, updateCond_iff_of_inv hn hi]; rfl

/-- `transfer(from, to, a)` succeeds iff `from` authorized, `0 ≤ a ≤ balance(from)`; no
overflow condition is needed (`update_no_overflow`). The result is `transferResult`. -/
theorem transfer_succeeds_iff {U : List Nat} (hn : U.Nodup) (c : Cfg) {s : State} (hi : Inv U s)
    (auth : List Nat) (f t : Nat) (a : Int) (s' : State) :
    apply c s auth (.transfer f t a) = .ok s' ↔
      (f ∈ auth ∧ 0 ≤ a ∧ a ≤ s.bal f) ∧ s' = transferResult s f t a := by
  show (requireAuth auth f >>= fun _ =>
    update s (some f) (some t) a >>= fun s1 => pure (emit s1 (.transfer f t a))) = .ok s' ↔ _
  rw [requireAuth_bind_ok_iff, update_emit_eq_ok_iff, updateCond_iff_of_inv hn hi]
  exact and_assoc.symm

/-- `burn(from, a)` succeeds iff `from` authorized and `0 ≤ a ≤ balance(from)`. The result
is `burnResult`. -/
theorem burn_succeeds_iff {U : List Nat} (hn : U.Nodup) (c : Cfg) {s : State} (hi : Inv U s)
    (auth : List Nat) (f : Nat) (a : Int) (s' : State) :
    apply c s auth (.burn f a) = .ok s' ↔
      (f ∈ auth ∧ 0 ≤ a ∧ a ≤ s.bal f) ∧ s' = burnResult s f a := by
  show (requireAuth auth f >>= fun _ =>
    update s (some f) none a >>= fun s1 => pure (emit s1 (.burn f a))) = .ok s' ↔ _
  rw [requireAuth_bind_ok_iff, update_emit_eq_ok_iff, updateCond_iff_of_inv hn hi]
  exact and_assoc.symm

/-- `mintResult`: supply `+a`, `to`'s balance `+a`, everything else untouched, one event -/
theorem mintResult_spec (s : State) (t : Nat) (a : Int) :
    (mintResult s t a).supply = s.supply + a ∧
    (∀ x, (mintResult s t a).bal x = s.bal x + (if x = t then a else 0)) ∧
    (mintResult s t a).allow = s.allow ∧ (mintResult s t a).now = s.now ∧
    (mintResult s t a).events = s.events ++ [.mint t a] := by
  refine ⟨rfl, ?_, rfl, rfl, rfl⟩
  intro x
  show upd s.bal t (s.bal t + a) x = _
  by_cases hx : x = t
  · subst hx; rw [upd_same, if_pos rfl]
  · rw [upd_other _ _ _ _ hx, if_neg hx]; omega

/-- `transferResult`: `from` pays `a`, `to` receives `a` (a self-transfer nets to nothing),
supply, allowances and ledger untouched, one event -/
theorem transferResult_spec (s : State) (f t : Nat) (a : Int) :
    (transferResult s f t a).supply = s.supply ∧
    (∀ x, (transferResult s f t a).bal x =
      s.bal x - (if x = f then a else 0) + (if x = t then a else 0)) ∧
    (transferResult s f t a).allow = s.allow ∧ (transferResult s f t a).now = s.now ∧
    (transferResult s f t a).events = s.events ++ [.transfer f t a] :=
  ⟨rfl, OZ.Vault.moved_apply s.bal f t a, rfl, rfl, rfl⟩

/-- `burnResult`: `from` pays `a`, supply `−a`, everything else untouched, one event -/
theorem burnResult_spec (s : State) (f : Nat) (a : Int) :
    (burnResult s f a).supply = s.supply - a ∧
    (∀ x, (burnResult s f a).bal x = s.bal x - (if x = f then a else 0)) ∧
    (burnResult s f a).allow = s.allow ∧ (burnResult s f a).now = s.now ∧
    (burnResult s f a).events = s.events ++ [.burn f a] := by
  refine ⟨rfl, ?_, rfl, rfl, rfl⟩
  intro x
  show upd s.bal f (s.bal f - a) x = _
  by_cases hx : x = f
  · subst hx; rw [upd_same, if_pos rfl]
  · rw [upd_other _ _ _ _ hx, if_neg hx]; omega

/-! ### transfer_from / burn_from -/

/-- `transfer_from(spender, from, to, a)` succeeds iff the spender authorized,
`0 ≤ a ≤ allowance(from, spender)` and `a ≤ balance(from)`. Nothing else — neither the
re-write of the remaining allowance nor its TTL extension nor an overflow — can refuse it. -/
theorem transfer_from_succeeds_iff {U : List Nat} (hn : U.Nodup) (c : Cfg) {s : State}
    (hi : Inv U s) (hlu : AllowLuOk c s) (auth : List Nat) (sp f t : Nat) (a : Int) :
    (∃ s', apply c s auth (.transferFrom sp f t a) = .ok s') ↔
      sp ∈ auth ∧ 0 ≤ a ∧ a ≤ allowance s f sp ∧ a ≤ s.bal f := by
  show (∃ s', (requireAuth auth sp >>= fun _ => spendAllowance c s f sp a >>= fun s0 =>
    update s0 (some f) (some t) a >>= fun s1 => pure (emit s1 (.transfer f t a))) = .ok s') ↔ _
  simp only [requireAuth_bind_ok_iff, exists_and_left]
  rw [spend_update_succeeds_iff hn hi hlu]

/-- `burn_from(spender, from, a)` succeeds iff the spender authorized,
`0 ≤ a ≤ allowance(from, spender)` and `a ≤ balance(from)`. -/
theorem burn_from_succeeds_iff {U : List Nat} (hn : U.Nodup) (c : Cfg) {s : State}
    (hi : Inv U s) (hlu : AllowLuOk c s) (auth : List Nat) (sp f : Nat) (a : Int) :
    (∃ s', apply c s auth (.burnFrom sp f a) = .ok s') ↔
      sp ∈ auth ∧ 0 ≤ a ∧ a ≤ allowance s f sp ∧ a ≤ s.bal f := by
  show (∃ s', (requireAuth auth sp >>= fun _ => spendAllowance c s f sp a >>= fun s0 =>
    update s0 (some f) none a >>= fun s1 => pure (emit s1 (.burn f a))) = .ok s') ↔ _
  simp only [requireAuth_bind_ok_iff, exists_and_left]
  rw [spend_update_succeeds_iff hn hi hlu]

/-- result of an accepted `transfer_from` (any state): balances, supply, ledger and events
are those of the plain transfer, `allowance(from, spender)` is exactly `a` less and every
other allowance reads as before -/
theorem transfer_from_result (c : Cfg) (s s' : State) (auth : List Nat) (sp f t : Nat) (a : Int)
    (h : apply c s auth (.transferFrom sp f t a) = .ok s') :
    s'.supply = s.supply ∧ s'.bal = (transferResult s f t a).bal ∧ s'.now = s.now ∧
    s'.events = s.events ++ [.transfer f t a] ∧
    allowance s' f sp = allowance s f sp - a ∧
    ∀ o x, ¬ (o = f ∧ x = sp) → allowance s' o x = allowance s o x := by
  obtain ⟨_, _, _, hex, hoth⟩ := spend_exact c s s' auth _ f sp a (.inl ⟨t, rfl⟩) h
  obtain ⟨-, -, s0, -, rfl⟩ := transferFrom_eq_ok_iff.1 h
  exact ⟨rfl, rfl, rfl, rfl, hex, hoth⟩

/-- result of an accepted `burn_from` (any state): as `transfer_from_result`, with the plain
burn's balances, event and supply -/
theorem burn_from_result (c : Cfg) (s s' : State) (auth : List Nat) (sp f : Nat) (a : Int)
    (h : apply c s auth (.burnFrom sp f a) = .ok s') :
    s'.supply = s.supply - a ∧ s'.bal = (burnResult s f a).bal ∧ s'.now = s.now ∧
    s'.events = s.events ++ [.burn f a] ∧
    allowance s' f sp = allowance s f sp - a ∧
    ∀ o x, ¬ (o = f ∧ x = sp) → allowance s' o x = allowance s o x := by
  obtain ⟨_, _, _, hex, hoth⟩ := spend_exact c s s' auth _ f sp a (.inr rfl) h
  obtain ⟨-, -, s0, -, rfl⟩ := burnFrom_eq_ok_iff.1 h
  exact ⟨rfl, rfl, rfl, rfl, hex, hoth⟩

/-! ### approve -/

/-- `approve(owner, spender, a, lu)` succeeds iff the owner authorized, `0 ≤ a`,
`lu ≤ now + max_entry_ttl − 1`, and `lu ≥ now` when `a > 0` (every state; `approve_bounds`
of C02 restated as a success condition) -/
theorem approve_succeeds_iff (c : Cfg) (s : State) (auth : List Nat) (o sp : Nat) (a : Int) (lu : Nat) :
    (∃ s', apply c s auth (.approve o sp a lu) = .ok s') ↔
      o ∈ auth ∧ 0 ≤ a ∧ lu ≤ s.now + c.maxTtl - 1 ∧ (0 < a → s.now ≤ lu) := by
  exact approve_exists_ok_iff c s auth o sp a lu

/-- result of an accepted `approve` (any state): only `allowance(owner, spender)` changes,
to exactly `a`; supply, balances and ledger untouched; one event -/
theorem approve_result (c : Cfg) (s s' : State) (auth : List Nat) (o sp : Nat) (a : Int) (lu : Nat)
    (h : apply c s auth (.approve o sp a lu) = .ok s') :
    s'.supply = s.supply ∧ s'.bal = s.bal ∧ s'.now = s.now ∧
    s'.events = s.events ++ [.approve o sp a lu] ∧ allowance s' o sp = a ∧
    ∀ x y, ¬ (x = o ∧ y = sp) → allowance s' x y = allowance s x y := by
  have hv := approve_sets_allowance c s s' auth o sp a lu h
  obtain ⟨_, s0, h0, rfl⟩ := approve_ok h
  obtain ⟨es, eb, en, ee, hother⟩ := setAllowance_ok h0
  refine ⟨es, eb, en, by show s0.events ++ _ = _; rw [ee], hv, ?_⟩
  intro x y hxy
  exact allowance_congr_entry (s := s) (s' := emit s0 _) (hother x y hxy) en

/-! ### reachable states: no hypothesis beyond "the history mentions accounts of U" -/

/-- every state reachable from the empty token stores only acceptable expiry ledgers -/
theorem allowLuOk_reachable (c : Cfg) (now : Nat) (ops : List (List Nat × Op)) :
    AllowLuOk c (run c (init now) ops) :=
  allowLuOk_run c (init now) ops (allowLuOk_init c now)

theorem mint_succeeds_iff_reachable (c : Cfg) (now : Nat) (U : List Nat) (hn : U.Nodup)
    (ops : List (List Nat × Op)) (hU : ∀ x ∈ ops, ∀ a ∈ x.2.addrs, a ∈ U)
    (auth : List Nat) (t : Nat) (a : Int) (s' : State) :
    apply c (run c (init now) ops) auth (.mint t a) = .ok s' ↔
      (0 ≤ a ∧ in128 ((run c (init now) ops).supply + a)) ∧
      s' = mintResult (run c (init now) ops) t a :=
  mint_succeeds_iff hn c (inv_reachable c now U hn ops hU) auth t a s'

theorem transfer_succeeds_iff_reachable (c : Cfg) (now : Nat) (U : List Nat) (hn : U.Nodup)
    (ops : List (List Nat × Op)) (hU : ∀ x ∈ ops, ∀ a ∈ x.2.addrs, a ∈ U)
    (auth : List Nat) (f t : Nat) (a : Int) (s' : State) :
    apply c (run c (init now) ops) auth (.transfer f t a) = .ok s' ↔
      (f ∈ auth ∧ 0 ≤ a ∧ a ≤ (run c (init now) ops).bal f) ∧
      s' = transferResult (run c (init now) ops) f t a :=
  transfer_succeeds_iff hn c (inv_reachable c now U hn ops hU) auth f t a s'

theorem burn_succeeds_iff_reachable (c : Cfg) (now : Nat) (U : List Nat) (hn : U.Nodup)
    (ops : List (List Nat × Op)) (hU : ∀ x ∈ ops, ∀ a ∈ x.2.addrs, a ∈ U)
    (auth : List Nat) (f : Nat) (a : Int) (s' : State) :
    apply c (run c (init now) ops) auth (.burn f a) = .ok s' ↔
      (f ∈ auth ∧ 0 ≤ a ∧ a ≤ (run c (init now) ops).bal f) ∧
      s' = burnResult (run c (init now) ops) f a :=
  burn_succeeds_iff hn c (inv_reachable c now U hn ops hU) auth f a s'

theorem transfer_from_succeeds_iff_reachable (c : Cfg) (now : Nat) (U : List Nat) (hn : U.Nodup)
    (ops : List (List Nat × Op)) (hU : ∀ x ∈ ops, ∀ a ∈ x.2.addrs, a ∈ U)
    (auth : List Nat) (sp f t : Nat) (a : Int) :
    (∃ s', apply c (run c (init now) ops) auth (.transferFrom sp f t a) = .ok s') ↔
      sp ∈ auth ∧ 0 ≤ a ∧ a ≤ allowance (run c (init now) ops) f sp ∧
      a ≤ (run c (init now) ops).bal f :=
  transfer_from_succeeds_iff hn c (inv_reachable c now U hn ops hU)
    (allowLuOk_reachable c now ops) auth sp f t a

theorem burn_from_succeeds_iff_reachable (c : Cfg) (now : Nat) (U : List Nat) (hn : U.Nodup)
    (ops : List (List Nat × Op)) (hU : ∀ x ∈ ops, ∀ a ∈ x.2.addrs, a ∈ U)
    (auth : List Nat) (sp f : Nat) (a : Int) :
    (∃ s', apply c (run c (init now) ops) auth (.burnFrom sp f a) = .ok s') ↔
      sp ∈ auth ∧ 0 ≤ a ∧ a ≤ allowance (run c (init now) ops) f sp ∧
      a ≤ (run c (init now) ops).bal f :=
  burn_from_succeeds_iff hn c (inv_reachable c now U hn ops hU)
    (allowLuOk_reachable c now ops) auth sp f a

/-- the ledger may always move -/
theorem advance_succeeds (c : Cfg) (s : State) (auth : List Nat) (n : Nat) :
    apply c s auth (.advance n) = .ok { s with now := s.now + n } := rfl

/-! ### non-vacuity -/

-- a history with balances, a partly spent allowance that is still live, and a supply
-- within 100 of i128::MAX (`demoOps` of Props/C01)
example : ∀ x ∈ demoOps, ∀ a ∈ x.2.addrs, a ∈ [0, 1, 2, 3, 4] := by decide

-- the preconditions are met by concrete calls in that reachable state …
example : (0 ∈ [0] ∧ (0 : Int) ≤ 440 ∧ 440 ≤ (run ⟨1, 1000⟩ (init 100) demoOps).bal 0) ∧
    ((4 ∈ [4] ∧ (0 : Int) ≤ 140 ∧ 140 ≤ allowance (run ⟨1, 1000⟩ (init 100) demoOps) 0 4 ∧
      140 ≤ (run ⟨1, 1000⟩ (init 100) demoOps).bal 0)) ∧
    ((0 : Int) ≤ 100 ∧ in128 ((run ⟨1, 1000⟩ (init 100) demoOps).supply + 100)) := by decide

-- … so the theorems produce the successful calls (whole balance, whole allowance, mint up
-- to exactly i128::MAX)
example : ∃ s', apply ⟨1, 1000⟩ (run ⟨1, 1000⟩ (init 100) demoOps) [0] (.transfer 0 1 440) = .ok s' :=
  ⟨_, (transfer_succeeds_iff_reachable ⟨1, 1000⟩ 100 [0, 1, 2, 3, 4] (by decide) demoOps (by decide)
    [0] 0 1 440 _).mpr ⟨by decide, rfl⟩⟩

example : ∃ s', apply ⟨1, 1000⟩ (run ⟨1, 1000⟩ (init 100) demoOps) [4] (.transferFrom 4 0 3 140) = .ok s' :=
  (transfer_from_succeeds_iff_reachable ⟨1, 1000⟩ 100 [0, 1, 2, 3, 4] (by decide) demoOps (by decide)
    [4] 4 0 3 140).mpr (by decide)

example : ∃ s', apply ⟨1, 1000⟩ (run ⟨1, 1000⟩ (init 100) demoOps) [] (.mint 1 100) = .ok s' :=
  ⟨_, (mint_succeeds_iff_reachable ⟨1, 1000⟩ 100 [0, 1, 2, 3, 4] (by decide) demoOps (by decide)
    [] 1 100 _).mpr ⟨by decide, rfl⟩⟩

-- … and the calls one unit beyond are exactly the rejected ones
example : ¬ (0 ∈ [0] ∧ (0 : Int) ≤ 441 ∧ 441 ≤ (run ⟨1, 1000⟩ (init 100) demoOps).bal 0) ∧
    ¬ (4 ∈ [4] ∧ (0 : Int) ≤ 141 ∧ 141 ≤ allowance (run ⟨1, 1000⟩ (init 100) demoOps) 0 4 ∧
      141 ≤ (run ⟨1, 1000⟩ (init 100) demoOps).bal 0) ∧
    ¬ ((0 : Int) ≤ 101 ∧ in128 ((run ⟨1, 1000⟩ (init 100) demoOps).supply + 101)) := by decide

end OZ.Fungible
