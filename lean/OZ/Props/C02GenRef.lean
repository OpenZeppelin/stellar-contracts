import OZ.Props.C01GenRef
import OZ.Props.C02
/-
C02 — the allowance law over histories, for the code as translated.

`OZ/Props/C01GenRef.lean` proves that every finite history of the entry points of the token GENERATED from
/repo's current `fungible/storage.rs` + `extensions/burnable/storage.rs` (with the `Allowance` entry temporary
and its lifetime) follows the hand model's `run` under the abstraction map `Abs`.  The history-level theorems
of `OZ/Props/C02.lean` are about the model's `run`; this file transports them to the generated getters:
what the generated `allowance(owner, spender)` returns after ANY history from the freshly deployed store is
the amount of the last accepted approval minus what was spent through it since, while the ledger has not
passed that approval's `live_until_ledger`, and 0 afterwards.
-/
namespace OZ.Gen.FungibleF
open OZ.Rs OZ.Host OZ.Fungible

/-- the generated `allowance` getter is the model's under the abstraction map -/
theorem allowance_ref (envr : FungibleF.Reads) (st : FungibleF.Store) (s : OZ.Fungible.State) (hA : Abs envr st s)
    (o sp : Nat) : FungibleF.allowance envr st o sp = .ok (OZ.Fungible.allowance s o sp) := by
  obtain ⟨d, hd, hc⟩ := allowance_data_ref envr st s hA o sp
  unfold FungibleF.allowance OZ.Fungible.allowance
  rw [hd, ← hc]
  rfl

/-- the generated `balance` getter is the model's -/
theorem balance_ref (envr : FungibleF.Reads) (st : FungibleF.Store) (s : OZ.Fungible.State) (hA : Abs envr st s)
    (a : Nat) : FungibleF.balance envr st a = .ok (s.bal a) := by
  rw [hA.bal a]
  exact balance_eq envr st a

/-- **C02 over histories, on the source as translated**: after ANY finite history of generated calls and
ledger movements from the freshly deployed store, the generated `allowance(o, sp)` returns
(last approved − spent since) while the ledger has not passed the last approval's `live_until_ledger`,
and 0 afterwards -/
theorem gen_allowance_eq_ghost (c : Cfg) (hmin : 1 ≤ c.minTempTtl) (now : Nat)
    (ops : List (List Nat × OZ.Fungible.Op)) (hops : ∀ x ∈ ops, OpRange x.2) (o sp : Nat) :
    let x := genRun c (now, ⟨fun _ => none, none, fun _ => none⟩) ops
    FungibleF.allowance (envrOf c x.1 []) x.2 o sp =
      .ok (if x.1 ≤ (ghost c now ops o sp).lu
        then (ghost c now ops o sp).approved - (ghost c now ops o sp).spent else 0) := by
  intro x
  obtain ⟨hA, _⟩ := run_refines c hmin ops now _ _ (abs_init c now) range_init hops
  rw [allowance_ref _ _ _ hA, allowance_eq_ghost]
  have hn : (run c (init now) ops).now = x.1 := hA.now
  rw [hn]

/-- **bounds over histories**: what the generated getter returns is never negative and never exceeds
approved − spent -/
theorem gen_allowance_bounds (c : Cfg) (hmin : 1 ≤ c.minTempTtl) (now : Nat)
    (ops : List (List Nat × OZ.Fungible.Op)) (hops : ∀ x ∈ ops, OpRange x.2) (o sp : Nat) :
    let x := genRun c (now, ⟨fun _ => none, none, fun _ => none⟩) ops
    ∃ v, FungibleF.allowance (envrOf c x.1 []) x.2 o sp = .ok v ∧ 0 ≤ v ∧
      v ≤ (ghost c now ops o sp).approved - (ghost c now ops o sp).spent := by
  intro x
  obtain ⟨hA, _⟩ := run_refines c hmin ops now _ _ (abs_init c now) range_init hops
  exact ⟨_, allowance_ref _ _ _ hA o sp, allowance_le_approved_minus_spent c now ops o sp⟩

/-- **expiry over histories**: once the ledger has passed the `live_until_ledger` of the last accepted
approval of `(o, sp)`, the generated getter returns 0 — whatever happened in between and however long the
storage entry lives -/
theorem gen_allowance_zero_after_expiry (c : Cfg) (hmin : 1 ≤ c.minTempTtl) (now : Nat)
    (ops : List (List Nat × OZ.Fungible.Op)) (hops : ∀ x ∈ ops, OpRange x.2) (o sp : Nat)
    (hx : (ghost c now ops o sp).lu < (genRun c (now, ⟨fun _ => none, none, fun _ => none⟩) ops).1) :
    FungibleF.allowance (envrOf c (genRun c (now, ⟨fun _ => none, none, fun _ => none⟩) ops).1 [])
      (genRun c (now, ⟨fun _ => none, none, fun _ => none⟩) ops).2 o sp = .ok 0 := by
  have h := gen_allowance_eq_ghost c hmin now ops hops o sp
  simp only [] at h
  rw [h, if_neg (by omega)]

/-! ### non-vacuity: the generated token runs the demo history of C02 -/

example : (let x := genRun ⟨16, 6312000⟩ (100, ⟨fun _ => none, none, fun _ => none⟩) demoAuth
    FungibleF.allowance (envrOf ⟨16, 6312000⟩ x.1 []) x.2 0 1) = .ok 300 := by decide

end OZ.Gen.FungibleF
