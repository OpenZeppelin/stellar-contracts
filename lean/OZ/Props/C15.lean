import OZ.Lemmas.IdentityHist
/-
C15 — An RWA identity is verified only by valid claims from currently trusted issuers.

Model: OZ/Model/IdentityRegistry.lean, ClaimIssuer.lean, Identity.lean (`verifyIdentity` refuses a required topic
whose issuer list is empty; `verifyIdentityLegacy` is the same function without that guard, see the last section).
Notions: `trustedFor`, `holds`, `satisfies` (OZ/Lemmas/Identity.lean); `WorldInv W`, registry invariant + identity stores
well-formed, holds in every world reachable from a fresh deployment (`reach_inv`, `worldInv_fresh`); `Binding V`
(OZ/Lemmas/IdentityHist.lean, namespace `OZ.ClaimIssuer`): the signature oracle accepts given bytes for one message only.
-/
namespace OZ.Identity
open OZ.Host OZ.ClaimIssuer

variable {σ : Type}

/-! ### the registry: who is trusted for what -/

/-- the per-topic issuer list the verifier iterates over is exactly the set of issuers whose current
topic set contains the topic — in every registry reachable by any add/remove/update history -/
theorem trusted_iff_listed (ops : List RegOp) (t i : Nat) (l : List Nat)
    (hl : (regReplay ops).topicIssuers t = some l) : i ∈ l ↔ trustedFor (regReplay ops) i t :=
  ((inv_replay ops).fwd t l hl).2 i

/-- `trustedFor` is what the registry's own `has_claim_topic` answers -/
theorem trusted_iff_has_claim_topic (r : Reg) (i t : Nat) :
    trustedFor r i t ↔ hasClaimTopic r i t = .ok true := by
  unfold trustedFor hasClaimTopic
  cases h : r.issuerTopics i with
  | none => simp
  | some ts => simp

/-- every required topic of a reachable registry has its (possibly empty) issuer list, so
`get_claim_topics_and_issuers` never fails and reports exactly the required topics -/
theorem required_topics_listed (ops : List RegOp) :
    ∃ tis, getClaimTopicsAndIssuers (regReplay ops) = .ok tis ∧
      ∀ t l, (t, l) ∈ tis ↔ t ∈ (regReplay ops).topics ∧ (regReplay ops).topicIssuers t = some l :=
  collect_ok (inv_replay ops)

/-- de-listing: a removed issuer is trusted for nothing -/
theorem delisted_issuer_not_trusted {r r' : Reg} {i : Nat} (e : removeIssuer r i = .ok r') (t : Nat) :
    ¬ trustedFor r' i t := by
  rintro ⟨ts, h, _⟩
  rw [(removeIssuer_spec e).2.2.2, upd_eq] at h
  cases h

/-- narrowing: after `update_issuer_claim_topics` the issuer is trusted exactly for the new set -/
theorem updated_issuer_trusted_iff {r r' : Reg} {i : Nat} {ts : List Nat}
    (e : updateIssuer r i ts = .ok r') (t : Nat) : trustedFor r' i t ↔ t ∈ ts := by
  unfold trustedFor
  rw [(updateIssuer_spec e).2.2.2.1, upd_eq]
  constructor
  · rintro ⟨ts', h, ht⟩; injection h with h; subst h; exact ht
  · intro ht; exact ⟨ts, rfl, ht⟩

/-- a removed topic is taken away from every issuer -/
theorem removed_topic_not_trusted {r r' : Reg} {t : Nat} (h : r.Inv) (e : removeTopic r t = .ok r')
    (i : Nat) : ¬ trustedFor r' i t := by
  rintro ⟨ts, hts, ht⟩
  rw [(removeTopic_spec h e).2.2.2 i] at hts
  cases ho : r.issuerTopics i with
  | none => rw [ho] at hts; cases hts
  | some old =>
    rw [ho] at hts
    injection hts with hts
    subst hts
    exact ((List.Nodup.mem_erase_iff (h.issuerTopicsOk i old ho).1).mp ht).1 rfl

/-- a topic added (again) starts with no trusted issuer: earlier trust does not come back -/
theorem fresh_topic_has_no_issuer {r r' : Reg} {t : Nat} (h : r.Inv) (e : addTopic r t = .ok r')
    (i : Nat) : ¬ trustedFor r' i t := by
  rintro ⟨ts, hts, ht⟩
  obtain ⟨hnot, _, hit, _⟩ := addTopic_spec e
  rw [hit] at hts
  exact hnot ((h.issuerTopicsOk i ts hts).2 t ht)

/-! ### the verifier -/

/-- **verify_identity succeeds exactly when** the verifier is wired, the account has a registered
identity, and for EVERY currently required topic there is an issuer currently trusted for that
topic whose claim for that topic the identity holds and which confirms it. -/
theorem verify_identity_iff (V : Verifier σ) (W : World σ) (hW : WorldInv W) (a : Nat) :
    verifyIdentity V W a = .ok () ↔
      W.vIrs = true ∧ ∃ d ra r, W.irs.identity a = some d ∧ W.vCti = some ra ∧ W.regs ra = some r ∧
        ∀ t ∈ r.topics, ∃ i, trustedFor r i t ∧ ∃ st, W.ids d = some st ∧ satisfies V W st d t i := by
  refine ⟨verify_ok_imp V W hW.regs a, fun ⟨hv, d, ra, r, hd, hc, hr, hall⟩ => ?_⟩
  exact verify_of_cond V W hW.regs a hv hd hc hr (fun st hst => (hW.ids d st hst).1) hall

/-- the same over ANY history: every world reached from a fresh deployment by any finite sequence
of accepted operations of the whole stack (registry add/remove/update, identity registry, claims
added / removed / written raw, keys, nonces, revocations, time, re-wiring) -/
theorem verify_identity_iff_reachable (V : Verifier σ) (W0 W : World σ) (h0 : W0.Fresh)
    (hr : Reach V W0 W) (a : Nat) :
    verifyIdentity V W a = .ok () ↔
      W.vIrs = true ∧ ∃ d ra r, W.irs.identity a = some d ∧ W.vCti = some ra ∧ W.regs ra = some r ∧
        ∀ t ∈ r.topics, ∃ i, trustedFor r i t ∧ ∃ st, W.ids d = some st ∧ satisfies V W st d t i :=
  verify_identity_iff V W (reach_inv V (worldInv_fresh h0) hr) a

-- non-vacuity: a reachable world in which verification succeeds …
example : Reach idealV (freshWorld Msg) exWorld :=
  reach_runOps idealV _ exOps Reach.init (by decide)
example : okB (verifyIdentity idealV exWorld 11) = true := by decide +kernel
-- … and fails once the claim has expired, the nonce is bumped, the claim is revoked, the key is
-- removed, the issuer is de-listed or narrowed, or another topic is required
example : okB (verifyIdentity idealV (stepW idealV exWorld (.time 9)) 11) = false := by decide +kernel
example : okB (verifyIdentity idealV (stepW idealV exWorld (.time 8)) 11) = true := by decide +kernel
example : okB (verifyIdentity idealV (stepW idealV exWorld (.invalidate 4 8 1)) 11) = false := by decide +kernel
example : okB (verifyIdentity idealV (stepW idealV exWorld (.revoke 4 8 1 exData true)) 11) = false := by decide +kernel
example : okB (verifyIdentity idealV (stepW idealV exWorld (.removeKey 4 1 101 0 1)) 11) = false := by decide +kernel
example : okB (verifyIdentity idealV (stepW idealV exWorld (.reg 0 (.removeIssuer 4))) 11) = false := by decide +kernel
example : okB (verifyIdentity idealV (stepW idealV exWorld (.reg 0 (.addTopic 2))) 11) = false := by decide +kernel
example : okB (verifyIdentity idealV
    (runOps idealV exWorld [.reg 0 (.addTopic 2), .reg 0 (.updateIssuer 4 [2])]) 11) = false := by decide +kernel

/-- **untrusted never counts**: if for some required topic no CURRENTLY TRUSTED issuer has a held,
matching and confirmed claim, verification fails — whatever claims the identity holds from
untrusted or de-listed issuers, for other topics, or rejected by their issuer -/
theorem untrusted_never_counts (V : Verifier σ) (W : World σ) (hW : WorldInv W) (a d ra : Nat) (r : Reg)
    (t : Nat) (hd : W.irs.identity a = some d) (hc : W.vCti = some ra) (hr : W.regs ra = some r)
    (ht : t ∈ r.topics)
    (hno : ∀ i, trustedFor r i t → ∀ st, W.ids d = some st → ¬ satisfies V W st d t i) :
    verifyIdentity V W a ≠ .ok () := by
  intro h
  obtain ⟨_, d', ra', r', hd', hc', hr', hall⟩ := verify_ok_imp V W hW.regs a h
  cases hd.symm.trans hd'
  cases hc.symm.trans hc'
  cases hr.symm.trans hr'
  obtain ⟨i, htr, st, hst, hsat⟩ := hall t ht
  exact hno i htr st hst hsat

/-- a claim counts for (topic, issuer) only if it carries that topic and that issuer and the issuer
confirms it: a claim for another topic, of another issuer, or rejected never validates -/
theorem claim_counts_only_if (V : Verifier σ) (W : World σ) (c : Claim σ) (t i d : Nat) :
    validateClaim V W c t i d = true ↔
      c.topic = t ∧ c.issuer = i ∧ issuerConfirms V W i d t c.scheme c.sig c.data = true := by
  rw [validateClaim_iff]; exact and_assoc

/-- an address without a claim issuer contract confirms nothing -/
theorem no_contract_no_confirmation (V : Verifier σ) (W : World σ) (i d t scheme : Nat) (sd : SigData σ)
    (data : List Nat) (h : W.issuers i = none) : issuerConfirms V W i d t scheme sd data = false := by
  unfold issuerConfirms; rw [h]

/-- a de-listed issuer's claim stops counting at once: if only issuer `i` settled the required
topic `t`, verification fails after `remove_trusted_issuer(i)` -/
theorem delisting_invalidates (V : Verifier σ) (W : World σ) (hW : WorldInv W) (a d ra i t : Nat) (r r' : Reg)
    (hd : W.irs.identity a = some d) (hc : W.vCti = some ra) (hr : W.regs ra = some r)
    (e : removeIssuer r i = .ok r') (ht : t ∈ r.topics)
    (honly : ∀ j, j ≠ i → ∀ st, W.ids d = some st → ¬ satisfies V W st d t j) :
    verifyIdentity V { W with regs := upd W.regs ra (some r') } a ≠ .ok () := by
  have hW' : WorldInv { W with regs := upd W.regs ra (some r') } :=
    ⟨forall_upd_some (P := fun _ (r : Reg) => r.Inv) hW.regs (inv_apply (.removeIssuer i) (hW.regs ra r hr) e), hW.ids⟩
  apply untrusted_never_counts V _ hW' a d ra r' t hd hc (upd_eq ..) (by rw [(removeIssuer_spec e).2.1]; exact ht)
  intro j htr st hst
  by_cases hj : j = i
  · subst hj; exact absurd htr (delisted_issuer_not_trusted e t)
  · exact honly j hj st hst

/-! ### the issuer -/

/-- **is_claim_valid accepts exactly when** the signature data is well-formed for the scheme and
the signature verifies, under the embedded key, over exactly (network, issuer, identity, topic,
CURRENT nonce, data) ∧ that key is currently allowed for the topic ∧ the claim is not expired
(`timestamp < valid_until`, data at least 16 bytes) ∧ it is not revoked -/
theorem issuer_confirms_iff (V : Verifier σ) (env : Env) (s : Issuer) (self identity topic scheme : Nat)
    (sd : SigData σ) (data : List Nat) :
    isClaimValid V env s self identity topic scheme sd data = true ↔
      expectedLen scheme = some sd.len ∧
      V scheme sd.pk { network := env.network, issuer := self, identity := identity, topic := topic,
                       nonce := currentNonce s identity topic, data := data } sd.sig = true ∧
      isKeyAllowedForTopic s sd.pk scheme topic = true ∧
      (∃ vu, validUntil data = .ok vu ∧ env.timestamp < vu) ∧
      isClaimRevoked s identity topic data = false := by
  rw [← extractOk_iff, ← isClaimExpired_false_iff]
  unfold isClaimValid buildClaimMessage
  cases extractOk scheme sd
  · simp
  cases isKeyAllowedForTopic s sd.pk scheme topic
  · simp
  rcases isClaimExpired env data with _ | _ | _
  · simp
  · cases isClaimRevoked s identity topic data <;> simp
  · simp

/-- through the verifier's `try_is_claim_valid`: additionally the issuer address must host a claim
issuer contract -/
theorem issuer_confirms_world_iff (V : Verifier σ) (W : World σ) (i d t scheme : Nat) (sd : SigData σ)
    (data : List Nat) :
    issuerConfirms V W i d t scheme sd data = true ↔
      ∃ s, W.issuers i = some s ∧ isClaimValid V W.env s i d t scheme sd data = true := by
  unfold issuerConfirms
  cases h : W.issuers i with
  | none => simp
  | some s => simp

/-- the two sentences of the property composed: issuer `i` settles topic `t` for identity `d` iff
the identity holds a claim for `t` from `i`, `i` hosts a claim issuer contract, and that contract's
five conditions hold for the claim as stored -/
theorem satisfies_iff (V : Verifier σ) (W : World σ) (st : IdStore σ) (d t i : Nat) :
    satisfies V W st d t i ↔
      ∃ c s, holds st i t c ∧ W.issuers i = some s ∧
        expectedLen c.scheme = some c.sig.len ∧
        V c.scheme c.sig.pk { network := W.env.network, issuer := i, identity := d, topic := t,
                              nonce := currentNonce s d t, data := c.data } c.sig.sig = true ∧
        isKeyAllowedForTopic s c.sig.pk c.scheme t = true ∧
        (∃ vu, validUntil c.data = .ok vu ∧ W.env.timestamp < vu) ∧
        isClaimRevoked s d t c.data = false := by
  unfold satisfies
  simp only [issuer_confirms_world_iff, issuer_confirms_iff]
  exact exists_congr fun c => ⟨fun ⟨hh, s, hs, hv⟩ => ⟨s, hh, hs, hv⟩, fun ⟨s, hh, hs, hv⟩ => ⟨hh, s, hs, hv⟩⟩

/-- "key currently allowed for the topic" = some (topic, registry) authorisation of that
(key, scheme) has been granted by `allow_key` and not taken back by `remove_key` — over any
history of an issuer's key, nonce and revocation operations -/
theorem key_allowed_iff_authorized (ops : List KeyOp) (pk scheme topic : Nat) :
    isKeyAllowedForTopic (issuerReplay ops) pk scheme topic = true ↔
      ∃ registry, authorized (issuerReplay ops) pk scheme topic registry :=
  (inv_issuerReplay ops).link pk scheme topic

/-- `allow_key` grants exactly one authorisation, `remove_key` takes exactly one back -/
theorem allow_key_grants_one {s s' : Issuer} {reg : Option Reg} {self pk registry scheme topic : Nat}
    (e : allowKey s reg self pk registry scheme topic = .ok s') (pk' sc' t' r' : Nat) :
    authorized s' pk' sc' t' r' ↔
      authorized s pk' sc' t' r' ∨ (pk' = pk ∧ sc' = scheme ∧ t' = topic ∧ r' = registry) :=
  (allowKey_spec e).2.2.2 pk' sc' t' r'

theorem remove_key_revokes_one (ops : List KeyOp) {s' : Issuer} {pk registry scheme topic : Nat}
    (e : removeKey (issuerReplay ops) pk registry scheme topic = .ok s') (pk' sc' t' r' : Nat) :
    authorized s' pk' sc' t' r' ↔
      authorized (issuerReplay ops) pk' sc' t' r' ∧ ¬ (pk' = pk ∧ sc' = scheme ∧ t' = topic ∧ r' = registry) :=
  (removeKey_spec (inv_issuerReplay ops) e).2 pk' sc' t' r'

theorem currentNonce_bumped {s s' : Issuer} {d t : Nat} (e : invalidateClaimSignatures s d t = .ok s') :
    currentNonce s' d t = currentNonce s d t + 1 := by
  rw [invalidate_nonce e, if_pos ⟨rfl, rfl⟩]

/-- **nonce bump invalidates**: a claim the issuer confirmed stops being confirmed once
`invalidate_claim_signatures(identity, topic)` is accepted (signatures bind their message) -/
theorem nonce_bump_invalidates (V : Verifier σ) (hV : Binding V) (env : Env) {s s' : Issuer} {d t : Nat}
    (e : invalidateClaimSignatures s d t = .ok s') (self scheme : Nat) (sd : SigData σ) (data : List Nat)
    (h : isClaimValid V env s self d t scheme sd data = true) :
    isClaimValid V env s' self d t scheme sd data = false := by
  cases h' : isClaimValid V env s' self d t scheme sd data with
  | false => rfl
  | true =>
    have h1 := ((issuer_confirms_iff V env s self d t scheme sd data).mp h).2.1
    have h2 := ((issuer_confirms_iff V env s' self d t scheme sd data).mp h').2.1
    have := hV _ _ _ _ _ h1 h2
    injection this with _ _ _ _ hn _
    rw [currentNonce_bumped e] at hn
    omega

/-- … and only for that (identity, topic): every other pair is judged as before -/
theorem nonce_bump_is_local (V : Verifier σ) (env : Env) {s s' : Issuer} {d t : Nat}
    (e : invalidateClaimSignatures s d t = .ok s') (self d' t' scheme : Nat) (sd : SigData σ) (data : List Nat)
    (hne : ¬ (d' = d ∧ t' = t)) :
    isClaimValid V env s' self d' t' scheme sd data = isClaimValid V env s self d' t' scheme sd data := by
  have hn : currentNonce s' d' t' = currentNonce s d' t' := by rw [invalidate_nonce e, if_neg hne]
  obtain ⟨hk, _, hrv⟩ := invalidate_frame e
  rw [Bool.eq_iff_iff, issuer_confirms_iff, issuer_confirms_iff, hn]
  unfold isKeyAllowedForTopic isClaimRevoked
  rw [hk, hrv]

/-- **revocation is nonce independent**: the revocation digest does not contain the nonce, so a
bump changes no revocation status … -/
theorem revocation_is_nonce_independent {s s' : Issuer} {d t : Nat}
    (e : invalidateClaimSignatures s d t = .ok s') (d' t' : Nat) (data : List Nat) :
    isClaimRevoked s' d' t' data = isClaimRevoked s d' t' data := by
  rw [show isClaimRevoked s' d' t' data = (s'.revoked d' t' data).getD false from rfl,
      (invalidate_frame e).2.2]
  rfl

/-- … a revocation sets exactly the status of its (identity, topic, data) and leaves nonces alone … -/
theorem revocation_sets (s : Issuer) (d t : Nat) (data : List Nat) (b : Bool) (d' t' : Nat) (data' : List Nat) :
    isClaimRevoked (setClaimRevoked s d t data b) d' t' data' =
      (if d' = d ∧ t' = t ∧ data' = data then b else isClaimRevoked s d' t' data') ∧
    currentNonce (setClaimRevoked s d t data b) d' t' = currentNonce s d' t' :=
  ⟨setRevoked_apply s d t data b d' t' data', rfl⟩

/-- … and in ANY issuer state in which a claim reads as revoked it is confirmed under no signature, whatever
the nonce and the keys are by then (with `revocation_is_nonce_independent`: also after every later bump) -/
theorem revoked_never_confirmed (V : Verifier σ) (env : Env) (s : Issuer) (self d t scheme : Nat)
    (sd : SigData σ) (data : List Nat) (h : isClaimRevoked s d t data = true) :
    isClaimValid V env s self d t scheme sd data = false := by
  cases h' : isClaimValid V env s self d t scheme sd data with
  | false => rfl
  | true =>
    have := ((issuer_confirms_iff V env s self d t scheme sd data).mp h').2.2.2.2
    rw [h] at this; cases this

-- non-vacuity: issuer 4 of the example world confirms the example claim, and neither after a bump
-- nor after its revocation followed by a bump and a re-signature with the new nonce
example : issuerConfirms idealV exWorld 4 8 1 101 exClaim.sig exData = true := by decide +kernel
example : issuerConfirms idealV (stepW idealV exWorld (.invalidate 4 8 1)) 4 8 1 101 exClaim.sig exData = false := by
  decide +kernel
example : issuerConfirms idealV (runOps idealV exWorld [.revoke 4 8 1 exData true, .invalidate 4 8 1]) 4 8 1 101
    { exClaim.sig with sig := { exClaim.sig.sig with nonce := 1 } } exData = false := by decide +kernel
example : issuerConfirms idealV (runOps idealV exWorld [.invalidate 4 8 1]) 4 8 1 101
    { exClaim.sig with sig := { exClaim.sig.sig with nonce := 1 } } exData = true := by decide +kernel
example : Binding idealV := idealV_binding

/-! ### `verify_identity` without the guard on an empty issuer list (`verifyIdentityLegacy`) -/

/-- without the guard a required topic WITHOUT any trusted issuer counts as satisfied: in the world
reached by `set_irs; set_cti; add_identity(11 ↦ 8); add_claim_topic(7)` identity 8 holds no claim
at all, `verifyIdentityLegacy` accepts account 11, `verifyIdentity` refuses -/
theorem legacy_zero_issuer_topic_counterexample :
    okB (verifyIdentityLegacy noV cexWorld 11) = true ∧ okB (verifyIdentity noV cexWorld 11) = false ∧
    (∃ r, cexWorld.regs 0 = some r ∧ r.topics = [7] ∧ r.topicIssuers 7 = some []) := by
  refine ⟨by decide +kernel, by decide +kernel, ?_⟩
  exact ⟨_, rfl, by decide, by decide⟩

/-- the counterexample world is reachable from a fresh deployment -/
theorem legacy_counterexample_reachable : Reach noV (freshWorld Unit) cexWorld :=
  reach_runOps noV _ cexOps Reach.init (by decide)

/-- the guard makes no other difference: whenever every required topic has at least one trusted issuer
`verifyIdentityLegacy` and `verifyIdentity` agree -/
theorem legacy_agrees_when_every_topic_has_an_issuer (V : Verifier σ) (W : World σ) (a : Nat)
    (h : ∀ ra r tis, W.vCti = some ra → W.regs ra = some r → getClaimTopicsAndIssuers r = .ok tis →
      ∀ ti ∈ tis, ti.2 ≠ []) :
    verifyIdentityLegacy V W a = .ok () ↔ verifyIdentity V W a = .ok () := by
  unfold verifyIdentityLegacy verifyIdentity
  rw [verifyWith_iff, verifyWith_iff]
  -- the two conditions differ only in the verdict on each entry, and there only by `l ≠ []`
  refine and_congr_right fun _ => exists_congr fun d => exists_congr fun ra => exists_congr fun r =>
    exists_congr fun tis => and_congr_right fun _ => and_congr_right fun hc => and_congr_right fun hr =>
    and_congr_right fun hg => forall_congr' fun ti => forall_congr' fun hm => ?_
  rw [verifyTopicLegacy_iff, verifyTopic_iff]
  exact (and_iff_right (h ra r tis hc hr hg ti hm)).symm

end OZ.Identity
