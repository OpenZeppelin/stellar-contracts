import OZ.Gen.VaultSt
import OZ.Lemmas.Sim
import OZ.Lemmas.TokenStore
import OZ.Props.C05Gen
/-
C05 — REFINEMENT of the vault's state-changing entry points, re-checked on every run against the SOURCE.

`lean/OZ/Gen/VaultSt.lean` is regenerated by `/verif/tools/rs2lean.py --vault-st` (state-passing mode) from /repo's
current `packages/tokens/src/vault/storage.rs` (the getters, the two conversions, `max_*`, `preview_*`, the two
internal movers and the four entry points) and the share-token functions of `fungible/storage.rs` they call,
over ONE store; the arithmetic goes through the generated `mul_div_i128` of OZ/Gen/Math.lean.  The ASSET token is
another contract: its state is a value of the hand-written Base-token model and the three `token::Client` calls
(`balance`, `transfer`, `transfer_from`) are DECLARED stand-ins on it (trusted base; the correspondence run drives
a real Base token as the asset).

Proved here: under the abstraction map `Abs`, each of `deposit`, `mint`, `withdraw`, `redeem` as generated
returns exactly the model's result and leaves a store that represents the model's resulting state, and panics
exactly when the model fails.  Hypotheses: minimum temporary lifetime ≥ 1 (`hmin`); stored numbers are i128 values
(`InRange`, a field of `Abs`); the asset token sees, as authorizing the nested call, the model's `tokenAuth` on an
entry (`hasset`) and a set that holds the vault on an exit (`hv`); in histories, `approve` amounts of the share token are i128 values (`OpRange`).  From these: the
rounding clauses of C05 for the generated entry points, and histories of generated calls following the model's
`run`, hence `gen_rate_monotone_run`.
-/
namespace OZ.Gen.VaultSt
open OZ.Rs OZ.Host

def cfgOf (envr : VaultSt.Reads) : Cfg := ⟨envr.min_temp_ttl, envr.max_ttl⟩
def conv (d : VaultSt.AllowanceData) : OZ.Fungible.AllowanceData := ⟨d.amount, d.live_until_ledger⟩
def convT (t : Temp VaultSt.AllowanceData) : Temp OZ.Fungible.AllowanceData := ⟨conv t.val, t.liveUntil⟩

/-- the part of the store the share-token code never touches -/
abbrev Rest := OZ.Fungible.State × Option Nat × Option Nat
def restOf (st : VaultSt.Store) : Rest := (st.Asset, st.AssetAddress, st.VirtualDecimalsOffset)

/-- the share-token part of the store (at the ledger of `envr`) represents the model's share token `s`
(events are ghost: not compared); the rest of the store is `R` -/
structure ShareAbs (R : Rest) (envr : VaultSt.Reads) (st : VaultSt.Store) (s : OZ.Fungible.State) : Prop where
  now : s.now = envr.ledger_sequence
  bal : ∀ a, s.bal a = (st.Balance a).getD 0
  sup : s.supply = st.TotalSupply.getD 0
  allow : ∀ o sp, s.allow o sp = (st.Allowance ⟨o, sp⟩).map convT
  rest : restOf st = R

/-- every stored number is an i128 -/
structure InRange (st : VaultSt.Store) : Prop where
  bal : ∀ a v, st.Balance a = some v → OZ.MulDiv.in128 v
  sup : ∀ v, st.TotalSupply = some v → OZ.MulDiv.in128 v
  allow : ∀ k e, st.Allowance k = some e → OZ.MulDiv.in128 e.val.amount

theorem abs_emit {R : Rest} {envr : VaultSt.Reads} {st : VaultSt.Store} {s : OZ.Fungible.State} (h : ShareAbs R envr st s)
    (ev : OZ.Fungible.Event) : ShareAbs R envr st (OZ.Fungible.emit s ev) :=
  ⟨h.now, h.bal, h.sup, h.allow, h.rest⟩

/-! ## the refinement relation

`RefS A m g` / `RefV A m g`: the generated computation `g` is accepted exactly when the model computation `m`
is (a model error is a panic), returns the same value, and then leaves a store that `A` relates to `m`'s state.
Both are `Sim` of OZ/Lemmas/Sim.lean at the result relation of a store-passing call, without and with a returned
value.

The `*_ref` theorems state this relation written out, as a `match` on the model's outcome. A `match` is a constant
of its own for each type it is over, so each form has its bridge (`*_iff`): a `*_ref` is proved through `.2` by the
rules, and enters the proof of a caller through `.1`. -/

abbrev RefS {ε σ : Type} (A : VaultSt.Store → σ → Prop) (m : Except ε σ) (g : Comp (Unit × VaultSt.Store)) : Prop :=
  Sim (onStore A) g m

abbrev RefV {ε σ α : Type} (A : VaultSt.Store → σ → Prop) (m : Except ε (σ × α)) (g : Comp (α × VaultSt.Store)) : Prop :=
  Sim (fun b r => b.1 = r.2 ∧ A b.2 r.1) g m

theorem RefV.accepted {ε σ α : Type} {A : VaultSt.Store → σ → Prop} {mv : Except ε (σ × α)} {gv : Comp (α × VaultSt.Store)}
    (h : RefV A mv gv) {r : α} {st' : VaultSt.Store} (hg : gv = .ok (r, st')) :
    ∃ s', mv = .ok (s', r) ∧ A st' s' := by
  cases mv with
  | error e => rw [h.of_error rfl] at hg; cases hg
  | ok p =>
    obtain ⟨b, h1, h2, h3⟩ := h
    cases h1.symm.trans hg
    exact ⟨p.1, by rw [show r = p.2 from h2], h3⟩

/-! ### balances and supply -/

theorem total_supply_eq (envr : VaultSt.Reads) (st : VaultSt.Store) :
    VaultSt.total_supply envr st = .ok (st.TotalSupply.getD 0) := rfl

theorem balance_eq (envr : VaultSt.Reads) (st : VaultSt.Store) (a : Nat) :
    VaultSt.balance envr st a = .ok ((st.Balance a).getD 0) := by
  unfold VaultSt.balance
  cases st.Balance a <;> rfl

theorem balRange {st : VaultSt.Store} (h : InRange st) (a : Nat) : OZ.MulDiv.in128 ((st.Balance a).getD 0) := by
  cases hb : st.Balance a with
  | none => exact in128_zero
  | some v => exact h.bal a v hb

theorem abs_setBal {R : Rest} {envr : VaultSt.Reads} {st : VaultSt.Store} {s : OZ.Fungible.State} (h : ShareAbs R envr st s) (a : Nat) (v : Int) :
    ShareAbs R envr (VaultSt.Store.set_Balance st a v) { s with bal := upd s.bal a v } :=
  ⟨h.now, upd_getD h.bal a v, h.sup, h.allow, h.rest⟩

theorem abs_setSup {R : Rest} {envr : VaultSt.Reads} {st : VaultSt.Store} {s : OZ.Fungible.State} (h : ShareAbs R envr st s) (v : Int) :
    ShareAbs R envr (VaultSt.Store.set_TotalSupply st v) { s with supply := v } :=
  ⟨h.now, fun x => by simpa [VaultSt.Store.set_TotalSupply] using h.bal x, by simp [VaultSt.Store.set_TotalSupply], h.allow, h.rest⟩

theorem range_setBal {st : VaultSt.Store} (h : InRange st) (a : Nat) (v : Int) (hv : OZ.MulDiv.in128 v) :
    InRange (VaultSt.Store.set_Balance st a v) :=
  ⟨forall_some_set h.bal a v hv, h.sup, h.allow⟩

theorem range_setSup {st : VaultSt.Store} (h : InRange st) (v : Int) (hv : OZ.MulDiv.in128 v) :
    InRange (VaultSt.Store.set_TotalSupply st v) := by
  refine ⟨h.bal, fun w hw => ?_, h.allow⟩
  simp only [VaultSt.Store.set_TotalSupply] at hw
  cases hw; exact hv

abbrev ShareRel (R : Rest) (envr : VaultSt.Reads) (st : VaultSt.Store) (s : OZ.Fungible.State) : Prop :=
  ShareAbs R envr st s ∧ InRange st

theorem shareRef_iff {R : Rest} {envr : VaultSt.Reads} {m : Except OZ.Fungible.Err OZ.Fungible.State}
    {g : Comp (Unit × VaultSt.Store)} :
    (match m with
      | .ok s' => ∃ st', g = .ok ((), st') ∧ ShareAbs R envr st' s' ∧ InRange st'
      | .error _ => g = .panic) ↔ RefS (ShareRel R envr) m g := by
  cases m with
  | ok s' => exact ⟨fun ⟨st', h⟩ => ⟨((), st'), h⟩, fun ⟨b, h⟩ => ⟨b.2, h⟩⟩
  | error e => exact Iff.rfl

/-- the same for those that drop the result value on the rejecting side -/
theorem shareRef_iff_weak {R : Rest} {envr : VaultSt.Reads} {m : Except OZ.Fungible.Err OZ.Fungible.State}
    {g : Comp (Unit × VaultSt.Store)} :
    (match m with
      | .ok s' => ∃ st', g = .ok ((), st') ∧ ShareAbs R envr st' s' ∧ InRange st'
      | .error _ => (g.bind fun _ => Comp.ok ()) = .panic) ↔ RefS (ShareRel R envr) m g := by
  cases m with
  | ok s' => exact ⟨fun ⟨st', h⟩ => ⟨((), st'), h⟩, fun ⟨b, h⟩ => ⟨b.2, h⟩⟩
  | error e => exact ⟨fun h => (by cases g with | panic => rfl | ok b => cases h), fun h => RefG.weak h rfl⟩

/-- the store's share balances and supply as `TokOps`: `VaultSt.update` is `ops.update`, by `rfl` -/
def ops : TokOps VaultSt.Store :=
  ⟨(·.Balance), (·.TotalSupply), VaultSt.Store.set_Balance, VaultSt.Store.set_TotalSupply⟩

theorem tokRef (R : Rest) (envr : VaultSt.Reads) : TokRef ops (ShareAbs R envr) InRange where
  bal h := h.bal
  sup h := h.sup
  setBal h := abs_setBal h
  setSup h := abs_setSup h
  balR := balRange
  rSetBal := range_setBal
  rSetSup := range_setSup

/-- the model's `credit` against the second half of the generated `update`'s body, written out: the generated
file has no function of its own for it -/
theorem credit_ref {R : Rest} (envr : VaultSt.Reads) (st : VaultSt.Store) (s : OZ.Fungible.State) (hA : ShareAbs R envr st s)
    (hR : InRange st) (to' : Option Nat) (amount : Int) :
    match OZ.Fungible.credit s to' amount with
    | .ok s' => ∃ st',
        (optCase to'
          (fun b => Comp.bind (VaultSt.balance envr st b) fun t => Comp.bind (i128_add t amount) fun t' =>
            Comp.ok ((), VaultSt.Store.set_Balance st b t'))
          (Comp.bind (VaultSt.total_supply envr st) fun t => Comp.bind (i128_sub t amount) fun t' =>
            Comp.ok ((), VaultSt.Store.set_TotalSupply st t'))) = .ok ((), st') ∧
        ShareAbs R envr st' s' ∧ InRange st'
    | .error _ =>
        (optCase to'
          (fun b => Comp.bind (VaultSt.balance envr st b) fun t => Comp.bind (i128_add t amount) fun t' =>
            Comp.ok ((), VaultSt.Store.set_Balance st b t'))
          (Comp.bind (VaultSt.total_supply envr st) fun t => Comp.bind (i128_sub t amount) fun t' =>
            Comp.ok ((), VaultSt.Store.set_TotalSupply st t'))) = .panic := by
  exact shareRef_iff.2 ((tokRef R envr).credit hA hR to' amount)

/-- **`Base::update`**: generated = model -/
theorem update_ref {R : Rest} (envr : VaultSt.Reads) (st : VaultSt.Store) (s : OZ.Fungible.State) (hA : ShareAbs R envr st s)
    (hR : InRange st) (frm to' : Option Nat) (amount : Int) :
    match OZ.Fungible.update s frm to' amount with
    | .ok s' => ∃ st', VaultSt.update envr st frm to' amount = .ok ((), st') ∧ ShareAbs R envr st' s' ∧ InRange st'
    | .error _ => VaultSt.update envr st frm to' amount = .panic := by
  exact shareRef_iff.2 ((tokRef R envr).update hA hR frm to' amount)

/-! ### allowances -/

theorem abs_setAllow {R : Rest} {envr : VaultSt.Reads} {st : VaultSt.Store} {s : OZ.Fungible.State} (hA : ShareAbs R envr st s)
    (o sp : Nat) (e : Temp VaultSt.AllowanceData) :
    ShareAbs R envr (VaultSt.Store.set_Allowance st ⟨o, sp⟩ e) { s with allow := upd2 s.allow o sp (some (convT e)) } :=
  ⟨hA.now, hA.bal, hA.sup, upd2_map_key (key := fun o sp => (⟨o, sp⟩ : VaultSt.AllowanceKey))
    (fun h => by injection h with h1 h2; exact ⟨h1, h2⟩) hA.allow o sp e, hA.rest⟩

theorem range_setAllow {st : VaultSt.Store} (h : InRange st) (k : VaultSt.AllowanceKey) (e : Temp VaultSt.AllowanceData)
    (he : OZ.MulDiv.in128 e.val.amount) : InRange (VaultSt.Store.set_Allowance st k e) :=
  ⟨h.bal, h.sup, forall_some_set h.allow k e he⟩

/-- the store's share allowances as `AllowOps`, at the reads of a call: `VaultSt.allowance_data`, `set_allowance`,
`spend_allowance` are those of `aops envr`, by `rfl` -/
def aops (envr : VaultSt.Reads) : AllowOps VaultSt.Store VaultSt.AllowanceData where
  now := envr.ledger_sequence
  cfg := ⟨envr.min_temp_ttl, envr.max_ttl⟩
  get st o sp := st.Allowance ⟨o, sp⟩
  set st o sp e := VaultSt.Store.set_Allowance st ⟨o, sp⟩ e
  mkData a l := ⟨a, l⟩
  amount := (·.amount)
  lu := (·.live_until_ledger)

theorem allowRef (R : Rest) (envr : VaultSt.Reads) : AllowRef (aops envr) (ShareAbs R envr) where
  now h := h.now
  allow h := h.allow
  set h := abs_setAllow h
  get_set _ _ _ _ := by simp [aops, VaultSt.Store.set_Allowance]
  conv_mkData _ _ := rfl

theorem allowRange (envr : VaultSt.Reads) : AllowRange (aops envr) InRange OZ.MulDiv.in128 where
  set h o sp e he := range_setAllow h ⟨o, sp⟩ e he
  get h _ _ e he := h.allow _ e he
  rv _ h := h

theorem allowance_data_ref {R : Rest} (envr : VaultSt.Reads) (st : VaultSt.Store) (s : OZ.Fungible.State)
    (hA : ShareAbs R envr st s) (o sp : Nat) :
    ∃ d, VaultSt.allowance_data envr st o sp = .ok d ∧ conv d = OZ.Fungible.allowanceData s o sp :=
  (allowRef R envr).allowance_data hA o sp

/-- **`Base::set_allowance`**: generated = model -/
theorem set_allowance_ref {R : Rest} (envr : VaultSt.Reads) (st : VaultSt.Store) (s : OZ.Fungible.State)
    (hA : ShareAbs R envr st s) (hR : InRange st) (hmin : 1 ≤ envr.min_temp_ttl) (o sp : Nat) (amount : Int) (lu : Nat)
    (hamt : OZ.MulDiv.in128 amount) :
    match OZ.Fungible.setAllowance (cfgOf envr) s o sp amount lu with
    | .ok s' => ∃ st', VaultSt.set_allowance envr st o sp amount lu = .ok ((), st') ∧ ShareAbs R envr st' s' ∧ InRange st'
    | .error _ => ((VaultSt.set_allowance envr st o sp amount lu).bind fun _ => Comp.ok ()) = .panic := by
  exact shareRef_iff_weak.2 ((allowRef R envr).set_allowance (allowRange envr).set hA hR hmin o sp amount lu hamt)

/-- **`Base::spend_allowance`**: generated = model -/
theorem spend_allowance_ref {R : Rest} (envr : VaultSt.Reads) (st : VaultSt.Store) (s : OZ.Fungible.State)
    (hA : ShareAbs R envr st s) (hR : InRange st) (hmin : 1 ≤ envr.min_temp_ttl) (o sp : Nat) (amount : Int) :
    match OZ.Fungible.spendAllowance (cfgOf envr) s o sp amount with
    | .ok s' => ∃ st', VaultSt.spend_allowance envr st o sp amount = .ok ((), st') ∧ ShareAbs R envr st' s' ∧ InRange st'
    | .error _ => ((VaultSt.spend_allowance envr st o sp amount).bind fun _ => Comp.ok ()) = .panic := by
  exact shareRef_iff_weak.2 ((allowRef R envr).spend_allowance (allowRange envr) hA hR hmin o sp amount)

/-! ## the vault -/

open OZ.Vault in
/-- the whole store represents the vault model state: the share-token part, the asset token's state (a value
of the hand model), the vault's own address, the decimals offset, and an asset address being set -/
structure Abs (envr : VaultSt.Reads) (st : VaultSt.Store) (s : OZ.Vault.State) : Prop where
  share : ShareAbs (restOf st) envr st s.sh
  range : InRange st
  asset : st.Asset = s.ast
  vault : envr.current_contract_address = s.vault
  offset : st.VirtualDecimalsOffset.getD 0 = s.offset
  addr : st.AssetAddress.isSome = true

theorem refS_iff {envr : VaultSt.Reads} {m : Except OZ.Vault.Err OZ.Vault.State} {g : Comp (Unit × VaultSt.Store)} :
    (match m with
      | .ok s' => ∃ st', g = .ok ((), st') ∧ Abs envr st' s'
      | .error _ => g = .panic) ↔ RefS (Abs envr) m g := by
  cases m with
  | ok s' => exact ⟨fun ⟨st', h⟩ => ⟨((), st'), h⟩, fun ⟨b, h⟩ => ⟨b.2, h⟩⟩
  | error e => exact Iff.rfl

theorem refV_iff {envr : VaultSt.Reads} {m : Except OZ.Vault.Err (OZ.Vault.State × Int)} {g : Comp (Int × VaultSt.Store)} :
    (match m with
      | .ok (s', ret) => ∃ st', g = .ok (ret, st') ∧ Abs envr st' s'
      | .error _ => g = .panic) ↔ RefV (Abs envr) m g := by
  cases m with
  | ok p => exact ⟨fun ⟨st', h1, h2⟩ => ⟨(p.2, st'), h1, rfl, h2⟩, fun ⟨b, h1, h2, h3⟩ => ⟨b.2, h2 ▸ h1, h3⟩⟩
  | error e => exact Iff.rfl

theorem query_asset_ok {envr : VaultSt.Reads} {st : VaultSt.Store} (h : st.AssetAddress.isSome = true) :
    ∃ a, VaultSt.query_asset envr st = .ok a := by
  unfold VaultSt.query_asset
  cases hx : st.AssetAddress with
  | none => rw [hx] at h; cases h
  | some a => exact ⟨a, rfl⟩

theorem total_assets_ref {envr : VaultSt.Reads} {st : VaultSt.Store} {s : OZ.Vault.State} (hA : Abs envr st s) :
    VaultSt.total_assets envr st = .ok (OZ.Vault.totalAssets s) := by
  obtain ⟨a, ha⟩ := query_asset_ok (envr := envr) hA.addr
  unfold VaultSt.total_assets VaultSt.Client_balance OZ.Vault.totalAssets
  rw [ha, hA.asset, hA.vault]
  rfl

theorem total_supply_ref {envr : VaultSt.Reads} {st : VaultSt.Store} {s : OZ.Vault.State} (hA : Abs envr st s) :
    VaultSt.total_supply envr st = .ok (OZ.Vault.totalShares s) := by
  rw [total_supply_eq, ← hA.share.sup]; rfl

theorem offset_ref {envr : VaultSt.Reads} {st : VaultSt.Store} {s : OZ.Vault.State} (hA : Abs envr st s) :
    VaultSt.get_decimals_offset envr st = .ok s.offset := by
  unfold VaultSt.get_decimals_offset; rw [hA.offset]

theorem convert_to_shares_fn {envr : VaultSt.Reads} {st : VaultSt.Store} {s : OZ.Vault.State} (hA : Abs envr st s)
    (a : Int) (r : Rounding) :
    VaultSt.convert_to_shares_with_rounding envr st a r =
      OZ.Gen.Vault.convert_to_shares_with_rounding (OZ.Gen.Vault.readsOf s) a r := by
  unfold VaultSt.convert_to_shares_with_rounding OZ.Gen.Vault.convert_to_shares_with_rounding
  rw [offset_ref hA, total_supply_ref hA, total_assets_ref hA]
  rfl

theorem convert_to_assets_fn {envr : VaultSt.Reads} {st : VaultSt.Store} {s : OZ.Vault.State} (hA : Abs envr st s)
    (x : Int) (r : Rounding) :
    VaultSt.convert_to_assets_with_rounding envr st x r =
      OZ.Gen.Vault.convert_to_assets_with_rounding (OZ.Gen.Vault.readsOf s) x r := by
  unfold VaultSt.convert_to_assets_with_rounding OZ.Gen.Vault.convert_to_assets_with_rounding
  rw [offset_ref hA, total_supply_ref hA, total_assets_ref hA]
  rfl

theorem convert_to_shares_ref {envr : VaultSt.Reads} {st : VaultSt.Store} {s : OZ.Vault.State} (hA : Abs envr st s)
    (a : Int) (r : Rounding) :
    VaultSt.convert_to_shares_with_rounding envr st a r = Comp.ofExcept (OZ.Vault.convertToShares s a (OZ.Gen.rnd r)) := by
  rw [convert_to_shares_fn hA]; exact Sim.eq_iff.1 (OZ.Gen.Vault.val_eq_iff.1 (OZ.Gen.Vault.convert_to_shares_eq s a r))

theorem convert_to_assets_ref {envr : VaultSt.Reads} {st : VaultSt.Store} {s : OZ.Vault.State} (hA : Abs envr st s)
    (x : Int) (r : Rounding) :
    VaultSt.convert_to_assets_with_rounding envr st x r = Comp.ofExcept (OZ.Vault.convertToAssets s x (OZ.Gen.rnd r)) := by
  rw [convert_to_assets_fn hA]; exact Sim.eq_iff.1 (OZ.Gen.Vault.val_eq_iff.1 (OZ.Gen.Vault.convert_to_assets_eq s x r))

/-! ### the two internal movers -/

theorem Abs.setShare {envr : VaultSt.Reads} {st st2 : VaultSt.Store} {s : OZ.Vault.State} (hA : Abs envr st s)
    {sh' : OZ.Fungible.State} (hs : ShareRel (restOf st) envr st2 sh') : Abs envr st2 { s with sh := sh' } := by
  have hrest := hs.1.rest
  unfold restOf at hrest
  injection hrest with h1 h2
  injection h2 with h2 h3
  exact ⟨⟨hs.1.now, hs.1.bal, hs.1.sup, hs.1.allow, rfl⟩, hs.2, h1.trans hA.asset, hA.vault, by rw [h3]; exact hA.offset,
    by rw [h2]; exact hA.addr⟩

theorem Abs.setAsset {envr : VaultSt.Reads} {st : VaultSt.Store} {s : OZ.Vault.State} (hA : Abs envr st s)
    (a : OZ.Fungible.State) : Abs envr { st with Asset := a } { s with ast := a } :=
  ⟨⟨hA.share.now, hA.share.bal, hA.share.sup, hA.share.allow, rfl⟩, ⟨hA.range.bal, hA.range.sup, hA.range.allow⟩, rfl,
    hA.vault, hA.offset, hA.addr⟩

theorem abs_emit_vault {envr : VaultSt.Reads} {st : VaultSt.Store} {s : OZ.Vault.State} (hA : Abs envr st s) (ev : OZ.Vault.Event) :
    Abs envr st (OZ.Vault.emit s ev) :=
  ⟨hA.share, hA.range, hA.asset, hA.vault, hA.offset, hA.addr⟩

theorem liftS_ref {β σ : Type} {Q : β → σ → Prop} {m : Except OZ.Fungible.Err σ} {g : Comp β}
    (h : Sim Q g m) : Sim Q g (OZ.Vault.liftS m) := by
  cases m <;> exact h

theorem liftA_ref {β σ : Type} {Q : β → σ → Prop} {m : Except OZ.Fungible.Err σ} {g : Comp β}
    (h : Sim Q g m) : Sim Q g (OZ.Vault.liftA m) := by
  cases m <;> exact h

/-- the declared stand-ins for the asset token's client calls replace `Asset` by the hand model's result -/
theorem client_ref {st : VaultSt.Store} (m : Except OZ.Fungible.Err OZ.Fungible.State) :
    RefS (fun st' a => st' = { st with Asset := a }) m
      (match m with
        | .ok a => Comp.ok ((), { st with Asset := a })
        | .error _ => Comp.panic) := by
  cases m with
  | ok a => exact Sim.pure rfl
  | error e => rfl

/-- The translator prints what follows a branch once per arm: `deposit_internal` with the two copies of the share
mint made one -/
theorem deposit_internal_eq (envr : VaultSt.Reads) (st : VaultSt.Store) (receiver : Nat) (assets shares : Int) (frm operator : Nat) :
    VaultSt.deposit_internal envr st receiver assets shares frm operator =
      Comp.bind (VaultSt.query_asset envr st) fun _ =>
        Comp.bind (if operator = frm then VaultSt.Client_transfer envr st frm envr.current_contract_address assets
            else VaultSt.Client_transfer_from envr st operator frm envr.current_contract_address assets) fun t =>
          Comp.bind (VaultSt.update envr t.2 none (some receiver) shares) fun t' => Comp.ok ((), t'.2) := by
  unfold VaultSt.deposit_internal
  split <;> rfl

/-- the asset token sees the authorizing set `envr.asset_auth` -/
theorem deposit_internal_ref {envr : VaultSt.Reads} {st : VaultSt.Store} {s : OZ.Vault.State} (hA : Abs envr st s)
    (receiver : Nat) (assets shares : Int) (frm operator : Nat) :
    match OZ.Vault.depositInternal (cfgOf envr) s envr.asset_auth receiver assets shares frm operator with
    | .ok s' => ∃ st', VaultSt.deposit_internal envr st receiver assets shares frm operator = .ok ((), st') ∧ Abs envr st' s'
    | .error _ => VaultSt.deposit_internal envr st receiver assets shares frm operator = .panic := by
  obtain ⟨a0, ha0⟩ := query_asset_ok (envr := envr) hA.addr
  refine refS_iff.2 ?_
  rw [deposit_internal_eq]
  unfold OZ.Vault.depositInternal OZ.Vault.pullAssets VaultSt.Client_transfer VaultSt.Client_transfer_from
  rw [ha0, hA.asset, hA.vault]
  refine (Sim.ite Iff.rfl (fun _ => liftA_ref (client_ref (st := st) _)) fun _ => liftA_ref (client_ref (st := st) _)).bind ?_
  rintro ⟨_, _⟩ a rfl
  have hA1 := hA.setAsset a
  exact (liftS_ref (shareRef_iff.1 (update_ref envr _ _ hA1.share hA1.range none (some receiver) shares))).bind
    fun _ _ h => Sim.pure (hA1.setShare h)

theorem transfer_auth_congr (t : OZ.Fungible.State) (a1 a2 : List Nat) (f to' : Nat) (x : Int) (h1 : f ∈ a1) (h2 : f ∈ a2) :
    OZ.Fungible.transfer t a1 f to' x = OZ.Fungible.transfer t a2 f to' x := by
  unfold OZ.Fungible.transfer OZ.Fungible.requireAuth
  rw [if_pos h1, if_pos h2]

theorem withdraw_internal_eq (envr : VaultSt.Reads) (st : VaultSt.Store) (receiver owner : Nat) (assets shares : Int) (operator : Nat) :
    VaultSt.withdraw_internal envr st receiver owner assets shares operator =
      Comp.bind (if operator ≠ owner then VaultSt.spend_allowance envr st owner operator shares else Comp.ok ((), st)) fun t =>
        Comp.bind (VaultSt.update envr t.2 (some owner) none shares) fun t2 =>
          Comp.bind (VaultSt.query_asset envr t2.2) fun _ =>
            Comp.bind (VaultSt.Client_transfer envr t2.2 envr.current_contract_address receiver assets) fun t4 =>
              Comp.ok ((), t4.2) := by
  unfold VaultSt.withdraw_internal
  split <;> rfl

/-- **`Vault::withdraw_internal`**: generated = model -/
theorem withdraw_internal_ref {envr : VaultSt.Reads} {st : VaultSt.Store} {s : OZ.Vault.State} (hA : Abs envr st s)
    (hmin : 1 ≤ envr.min_temp_ttl) (hv : s.vault ∈ envr.asset_auth) (receiver owner : Nat) (assets shares : Int) (operator : Nat) :
    match OZ.Vault.withdrawInternal (cfgOf envr) s receiver owner assets shares operator with
    | .ok s' => ∃ st', VaultSt.withdraw_internal envr st receiver owner assets shares operator = .ok ((), st') ∧ Abs envr st' s'
    | .error _ => VaultSt.withdraw_internal envr st receiver owner assets shares operator = .panic := by
  refine refS_iff.2 ?_
  rw [withdraw_internal_eq]
  unfold OZ.Vault.withdrawInternal OZ.Vault.spendShares
  refine (Sim.ite_not Iff.rfl
    (fun _ => liftS_ref (shareRef_iff_weak.1 (spend_allowance_ref envr _ _ hA.share hA.range hmin owner operator shares)))
    fun _ => Sim.pure ⟨hA.share, hA.range⟩).bind fun _ sh1 h1 => ?_
  refine (liftS_ref (shareRef_iff.1 (update_ref envr _ _ h1.1 h1.2 (some owner) none shares))).bind fun ⟨_, st2⟩ sh2 h2 => ?_
  have hA2 := hA.setShare h2
  obtain ⟨a0, ha0⟩ := query_asset_ok (envr := envr) hA2.addr
  simp only [ha0, Comp.bind_ok]
  unfold VaultSt.Client_transfer
  rw [hA2.asset, hA.vault, transfer_auth_congr _ _ [s.vault] _ _ _ hv (by simp)]
  refine (liftA_ref (client_ref (st := st2) _)).bind fun ⟨_, st3⟩ a h3 => ?_
  subst h3
  exact Sim.pure (hA2.setAsset a)

/-! ### the four entry points -/

theorem auth_iff {envr : VaultSt.Reads} {auth : List Nat} (hauth : ∀ a, envr.authorized a = decide (a ∈ auth))
    (a : Nat) : envr.authorized a = true ↔ OZ.Vault.requireAuth auth a = .ok () := by
  rw [hauth, decide_eq_true_iff]; exact (OZ.Vault.guard_ok_iff _ _).symm

theorem limit_iff {a b : Int} (e : OZ.Vault.Err) : ¬ a > b ↔ OZ.Vault.guard (a ≤ b) e = .ok () :=
  Int.not_lt.trans (OZ.Vault.guard_ok_iff _ e).symm

theorem preview_deposit_ref {envr : VaultSt.Reads} {st : VaultSt.Store} {s : OZ.Vault.State} (hA : Abs envr st s) (a : Int) :
    VaultSt.preview_deposit envr st a = Comp.ofExcept (OZ.Vault.previewDeposit s a) := by
  unfold VaultSt.preview_deposit OZ.Vault.previewDeposit
  rw [convert_to_shares_ref hA]
  exact Comp.bind_ret _

theorem preview_mint_ref {envr : VaultSt.Reads} {st : VaultSt.Store} {s : OZ.Vault.State} (hA : Abs envr st s) (x : Int) :
    VaultSt.preview_mint envr st x = Comp.ofExcept (OZ.Vault.previewMint s x) := by
  unfold VaultSt.preview_mint OZ.Vault.previewMint
  rw [convert_to_assets_ref hA]
  exact Comp.bind_ret _

theorem preview_withdraw_ref {envr : VaultSt.Reads} {st : VaultSt.Store} {s : OZ.Vault.State} (hA : Abs envr st s) (a : Int) :
    VaultSt.preview_withdraw envr st a = Comp.ofExcept (OZ.Vault.previewWithdraw s a) := by
  unfold VaultSt.preview_withdraw OZ.Vault.previewWithdraw
  rw [convert_to_shares_ref hA]
  exact Comp.bind_ret _

theorem preview_redeem_ref {envr : VaultSt.Reads} {st : VaultSt.Store} {s : OZ.Vault.State} (hA : Abs envr st s) (x : Int) :
    VaultSt.preview_redeem envr st x = Comp.ofExcept (OZ.Vault.previewRedeem s x) := by
  unfold VaultSt.preview_redeem OZ.Vault.previewRedeem
  rw [convert_to_assets_ref hA]
  exact Comp.bind_ret _

theorem max_withdraw_ref {envr : VaultSt.Reads} {st : VaultSt.Store} {s : OZ.Vault.State} (hA : Abs envr st s) (owner : Nat) :
    VaultSt.max_withdraw envr st owner = Comp.ofExcept (OZ.Vault.maxWithdraw s owner) := by
  unfold VaultSt.max_withdraw OZ.Vault.maxWithdraw
  rw [balance_eq, ← hA.share.bal owner]
  simp only [Comp.bind_ok]
  rw [convert_to_assets_ref hA]
  exact Comp.bind_ret _

theorem max_redeem_ref {envr : VaultSt.Reads} {st : VaultSt.Store} {s : OZ.Vault.State} (hA : Abs envr st s) (owner : Nat) :
    VaultSt.max_redeem envr st owner = .ok (OZ.Vault.maxRedeem s owner) := by
  unfold VaultSt.max_redeem OZ.Vault.maxRedeem
  rw [balance_eq, ← hA.share.bal owner]
  rfl

/-- **`Vault::deposit`**: generated = model -/
theorem deposit_ref {envr : VaultSt.Reads} {st : VaultSt.Store} {s : OZ.Vault.State} (hA : Abs envr st s)
    (auth : List Nat) (sub : Bool) (hauth : ∀ a, envr.authorized a = decide (a ∈ auth))
    (hasset : envr.asset_auth = OZ.Vault.tokenAuth s auth sub) (assets : Int) (receiver frm operator : Nat) :
    match OZ.Vault.deposit (cfgOf envr) s auth sub assets receiver frm operator with
    | .ok (s', ret) => ∃ st', VaultSt.deposit envr st assets receiver frm operator = .ok (ret, st') ∧ Abs envr st' s'
    | .error _ => VaultSt.deposit envr st assets receiver frm operator = .panic := by
  refine refV_iff.2 ?_
  unfold VaultSt.deposit VaultSt.max_deposit OZ.Vault.deposit
  rw [preview_deposit_ref hA, ← hasset]
  exact Sim.test (auth_iff hauth _) fun _ => Sim.reject (limit_iff _) fun _ => Sim.read rfl fun shares _ =>
    (refS_iff.1 (deposit_internal_ref hA receiver assets shares frm operator)).map _ _ fun _ _ h => ⟨rfl, abs_emit_vault h _⟩

/-- **`Vault::mint`**: generated = model -/
theorem mint_ref {envr : VaultSt.Reads} {st : VaultSt.Store} {s : OZ.Vault.State} (hA : Abs envr st s)
    (auth : List Nat) (sub : Bool) (hauth : ∀ a, envr.authorized a = decide (a ∈ auth))
    (hasset : envr.asset_auth = OZ.Vault.tokenAuth s auth sub) (shares : Int) (receiver frm operator : Nat) :
    match OZ.Vault.mint (cfgOf envr) s auth sub shares receiver frm operator with
    | .ok (s', ret) => ∃ st', VaultSt.mint envr st shares receiver frm operator = .ok (ret, st') ∧ Abs envr st' s'
    | .error _ => VaultSt.mint envr st shares receiver frm operator = .panic := by
  refine refV_iff.2 ?_
  unfold VaultSt.mint VaultSt.max_mint OZ.Vault.mint
  rw [preview_mint_ref hA, ← hasset]
  exact Sim.test (auth_iff hauth _) fun _ => Sim.reject (limit_iff _) fun _ => Sim.read rfl fun assets _ =>
    (refS_iff.1 (deposit_internal_ref hA receiver assets shares frm operator)).map _ _ fun _ _ h => ⟨rfl, abs_emit_vault h _⟩

/-- **`Vault::withdraw`**: generated = model -/
theorem withdraw_ref {envr : VaultSt.Reads} {st : VaultSt.Store} {s : OZ.Vault.State} (hA : Abs envr st s)
    (hmin : 1 ≤ envr.min_temp_ttl) (auth : List Nat) (hauth : ∀ a, envr.authorized a = decide (a ∈ auth))
    (hv : s.vault ∈ envr.asset_auth) (assets : Int) (receiver owner operator : Nat) :
    match OZ.Vault.withdraw (cfgOf envr) s auth assets receiver owner operator with
    | .ok (s', ret) => ∃ st', VaultSt.withdraw envr st assets receiver owner operator = .ok (ret, st') ∧ Abs envr st' s'
    | .error _ => VaultSt.withdraw envr st assets receiver owner operator = .panic := by
  refine refV_iff.2 ?_
  unfold VaultSt.withdraw OZ.Vault.withdraw
  rw [max_withdraw_ref hA, preview_withdraw_ref hA]
  exact Sim.test (auth_iff hauth _) fun _ => Sim.read rfl fun _ _ => Sim.reject (limit_iff _) fun _ =>
    Sim.read rfl fun shares _ =>
    (refS_iff.1 (withdraw_internal_ref hA hmin hv receiver owner assets shares operator)).map _ _ fun _ _ h =>
      ⟨rfl, abs_emit_vault h _⟩

/-- **`Vault::redeem`**: generated = model -/
theorem redeem_ref {envr : VaultSt.Reads} {st : VaultSt.Store} {s : OZ.Vault.State} (hA : Abs envr st s)
    (hmin : 1 ≤ envr.min_temp_ttl) (auth : List Nat) (hauth : ∀ a, envr.authorized a = decide (a ∈ auth))
    (hv : s.vault ∈ envr.asset_auth) (shares : Int) (receiver owner operator : Nat) :
    match OZ.Vault.redeem (cfgOf envr) s auth shares receiver owner operator with
    | .ok (s', ret) => ∃ st', VaultSt.redeem envr st shares receiver owner operator = .ok (ret, st') ∧ Abs envr st' s'
    | .error _ => VaultSt.redeem envr st shares receiver owner operator = .panic := by
  refine refV_iff.2 ?_
  unfold VaultSt.redeem OZ.Vault.redeem
  rw [max_redeem_ref hA, preview_redeem_ref hA]
  exact Sim.test (auth_iff hauth _) fun _ => Sim.reject (limit_iff _) fun _ => Sim.read rfl fun assets _ =>
    (refS_iff.1 (withdraw_internal_ref hA hmin hv receiver owner assets shares operator)).map _ _ fun _ _ h =>
      ⟨rfl, abs_emit_vault h _⟩

/-! ### the property's rounding clauses, for the generated entry points -/

open OZ.Vault in
/-- **C05 on the source as translated: an accepted generated `deposit` hands out the floor** —
`shares·(A+1) ≤ assets·(S+V) < (shares+1)·(A+1)` with A, S the assets and shares of the represented state -/
theorem gen_deposit_rounds_down {U : List Nat} {envr : VaultSt.Reads} {st st' : VaultSt.Store} {s : OZ.Vault.State}
    (hA : Abs envr st s) (hw : WF U s) (auth : List Nat) (sub : Bool) (hauth : ∀ a, envr.authorized a = decide (a ∈ auth))
    (hasset : envr.asset_auth = OZ.Vault.tokenAuth s auth sub) {assets shares : Int} {receiver frm operator : Nat}
    (h : VaultSt.deposit envr st assets receiver frm operator = .ok (shares, st')) :
    shares * (totalAssets s + 1) ≤ assets * (totalShares s + 10 ^ s.offset) ∧
    assets * (totalShares s + 10 ^ s.offset) < (shares + 1) * (totalAssets s + 1) := by
  obtain ⟨s', hm, _⟩ := (refV_iff.1 (deposit_ref hA auth sub hauth hasset assets receiver frm operator)).accepted h
  exact deposit_rounds_down hw hm

open OZ.Vault in
/-- **an accepted generated `mint` charges the ceiling** -/
theorem gen_mint_rounds_up {U : List Nat} {envr : VaultSt.Reads} {st st' : VaultSt.Store} {s : OZ.Vault.State}
    (hA : Abs envr st s) (hw : WF U s) (auth : List Nat) (sub : Bool) (hauth : ∀ a, envr.authorized a = decide (a ∈ auth))
    (hasset : envr.asset_auth = OZ.Vault.tokenAuth s auth sub) {shares assets : Int} {receiver frm operator : Nat}
    (h : VaultSt.mint envr st shares receiver frm operator = .ok (assets, st')) :
    shares * (totalAssets s + 1) ≤ assets * (totalShares s + 10 ^ s.offset) ∧
    assets * (totalShares s + 10 ^ s.offset) < shares * (totalAssets s + 1) + (totalShares s + 10 ^ s.offset) := by
  obtain ⟨s', hm, _⟩ := (refV_iff.1 (mint_ref hA auth sub hauth hasset shares receiver frm operator)).accepted h
  exact mint_rounds_up hw hm

open OZ.Vault in
/-- **an accepted generated `withdraw` charges the ceiling** -/
theorem gen_withdraw_rounds_up {U : List Nat} (hn : U.Nodup) {envr : VaultSt.Reads} {st st' : VaultSt.Store} {s : OZ.Vault.State}
    (hA : Abs envr st s) (hw : WF U s) (hmin : 1 ≤ envr.min_temp_ttl) (auth : List Nat)
    (hauth : ∀ a, envr.authorized a = decide (a ∈ auth)) (hv : s.vault ∈ envr.asset_auth)
    {assets shares : Int} {receiver owner operator : Nat}
    (h : VaultSt.withdraw envr st assets receiver owner operator = .ok (shares, st')) :
    assets * (totalShares s + 10 ^ s.offset) ≤ shares * (totalAssets s + 1) ∧
    shares * (totalAssets s + 1) < assets * (totalShares s + 10 ^ s.offset) + (totalAssets s + 1) := by
  obtain ⟨s', hm, _⟩ := (refV_iff.1 (withdraw_ref hA hmin auth hauth hv assets receiver owner operator)).accepted h
  exact withdraw_rounds_up hn hw hm

open OZ.Vault in
/-- **an accepted generated `redeem` pays out the floor** -/
theorem gen_redeem_rounds_down {U : List Nat} (hn : U.Nodup) {envr : VaultSt.Reads} {st st' : VaultSt.Store} {s : OZ.Vault.State}
    (hA : Abs envr st s) (hw : WF U s) (hmin : 1 ≤ envr.min_temp_ttl) (auth : List Nat)
    (hauth : ∀ a, envr.authorized a = decide (a ∈ auth)) (hv : s.vault ∈ envr.asset_auth)
    {shares assets : Int} {receiver owner operator : Nat}
    (h : VaultSt.redeem envr st shares receiver owner operator = .ok (assets, st')) :
    assets * (totalShares s + 10 ^ s.offset) ≤ shares * (totalAssets s + 1) ∧
    shares * (totalAssets s + 1) < (assets + 1) * (totalShares s + 10 ^ s.offset) := by
  obtain ⟨s', hm, _⟩ := (refV_iff.1 (redeem_ref hA hmin auth hauth hv shares receiver owner operator)).accepted h
  exact redeem_rounds_down hn hw hm

/-! ## the share token's own entry points, and histories -/

def genShareCall (envr : VaultSt.Reads) (st : VaultSt.Store) : OZ.Fungible.Op → Comp (Unit × VaultSt.Store)
  | .transfer f t a => VaultSt.transfer envr st f t a
  | .transferFrom sp f t a => VaultSt.transfer_from envr st sp f t a
  | .approve o sp a lu => VaultSt.approve envr st o sp a lu
  | _ => Comp.panic

def ShareRange : OZ.Fungible.Op → Prop
  | .approve _ _ a _ => OZ.MulDiv.in128 a
  | _ => True

theorem emit_refS {R : Rest} {envr : VaultSt.Reads} (ev : OZ.Fungible.Event) (b : Unit × VaultSt.Store)
    (s : OZ.Fungible.State) (h : ShareRel R envr b.2 s) :
    RefS (ShareRel R envr) (Except.ok (OZ.Fungible.emit s ev) : Except OZ.Fungible.Err _) (Comp.ok ((), b.2)) :=
  Sim.pure ⟨abs_emit h.1 ev, h.2⟩

theorem share_step_refines {R : Rest} (envr : VaultSt.Reads) (st : VaultSt.Store) (s : OZ.Fungible.State) (hA : ShareAbs R envr st s)
    (hR : InRange st) (hmin : 1 ≤ envr.min_temp_ttl) (auth : List Nat) (hauth : ∀ a, envr.authorized a = decide (a ∈ auth))
    (op : OZ.Fungible.Op) (hop : ShareRange op) (hal : OZ.Vault.shareOpAllowed op = true) :
    match OZ.Fungible.apply (cfgOf envr) s auth op with
    | .ok s' => ∃ st', genShareCall envr st op = .ok ((), st') ∧ ShareAbs R envr st' s' ∧ InRange st'
    | .error _ => ((genShareCall envr st op).bind fun _ => Comp.ok ()) = .panic := by
  refine shareRef_iff_weak.2 ?_
  cases op with
  | advance n => cases hal
  | mint _ _ => cases hal
  | burn _ _ => cases hal
  | burnFrom _ _ _ => cases hal
  | transfer f t a =>
    show RefS _ (OZ.Fungible.transfer s auth f t a) (VaultSt.transfer envr st f t a)
    unfold OZ.Fungible.transfer VaultSt.transfer
    exact Sim.test (tok_auth_iff hauth _) fun _ => (shareRef_iff.1 (update_ref envr st s hA hR _ _ _)).bind (emit_refS _)
  | transferFrom sp f t a =>
    show RefS _ (OZ.Fungible.transferFrom _ s auth sp f t a) (VaultSt.transfer_from envr st sp f t a)
    unfold OZ.Fungible.transferFrom VaultSt.transfer_from
    exact Sim.test (tok_auth_iff hauth _) fun _ =>
      (shareRef_iff_weak.1 (spend_allowance_ref envr st s hA hR hmin _ _ _)).bind fun _ _ h1 =>
        (shareRef_iff.1 (update_ref envr _ _ h1.1 h1.2 _ _ _)).bind (emit_refS _)
  | approve o sp a lu =>
    show RefS _ (OZ.Fungible.approve _ s auth o sp a lu) (VaultSt.approve envr st o sp a lu)
    unfold OZ.Fungible.approve VaultSt.approve
    exact Sim.test (tok_auth_iff hauth _) fun _ =>
      (shareRef_iff_weak.1 (set_allowance_ref envr st s hA hR hmin _ _ _ _ hop)).bind (emit_refS _)

/-! ### histories of the generated vault -/

/-- the reads record of a call: ledger, host configuration, the authorizing addresses, the vault's address and
the addresses the asset token sees as authorizing the nested call -/
def envrOf (c : Cfg) (v now : Nat) (auth aauth : List Nat) : VaultSt.Reads :=
  ⟨now, c.minTempTtl, c.maxTtl, fun a => decide (a ∈ auth), v, aauth⟩

/-- the store after a call: a rejected call leaves it as it was (the host's rollback) -/
def keep {α : Type} (st : VaultSt.Store) : Comp (α × VaultSt.Store) → VaultSt.Store
  | .ok p => p.2
  | .panic => st

/-- one item of a history of the GENERATED vault (address `v`): a ledger movement, one of the four vault entry
points, a share-token entry point, or an operation of the asset token (another contract: the hand model) -/
def genStep (c : Cfg) (v : Nat) (x : Nat × VaultSt.Store) (ao : List Nat × OZ.Vault.Op) : Nat × VaultSt.Store :=
  match ao.2 with
  | .advance n => (x.1 + n, { x.2 with Asset := { x.2.Asset with now := x.2.Asset.now + n } })
  | .deposit sub a r f o =>
    (x.1, keep x.2 (VaultSt.deposit (envrOf c v x.1 ao.1 (v :: (if sub then ao.1 else []))) x.2 a r f o))
  | .mint sub sh r f o =>
    (x.1, keep x.2 (VaultSt.mint (envrOf c v x.1 ao.1 (v :: (if sub then ao.1 else []))) x.2 sh r f o))
  | .withdraw a r ow o => (x.1, keep x.2 (VaultSt.withdraw (envrOf c v x.1 ao.1 [v]) x.2 a r ow o))
  | .redeem sh r ow o => (x.1, keep x.2 (VaultSt.redeem (envrOf c v x.1 ao.1 [v]) x.2 sh r ow o))
  | .share op =>
    (x.1, if OZ.Vault.shareOpAllowed op then keep x.2 (genShareCall (envrOf c v x.1 ao.1 []) x.2 op) else x.2)
  | .asset op =>
    (x.1, match OZ.Fungible.apply c x.2.Asset ao.1 op with
      | .ok a => { x.2 with Asset := a }
      | .error _ => x.2)

def genRun (c : Cfg) (v : Nat) (x : Nat × VaultSt.Store) (ops : List (List Nat × OZ.Vault.Op)) : Nat × VaultSt.Store :=
  ops.foldl (genStep c v) x

def OpRange : OZ.Vault.Op → Prop
  | .share op => ShareRange op
  | _ => True

theorem abs_congr {e1 e2 : VaultSt.Reads} {st : VaultSt.Store} {s : OZ.Vault.State} (h : Abs e1 st s)
    (he : e1.ledger_sequence = e2.ledger_sequence) (hv : e1.current_contract_address = e2.current_contract_address) :
    Abs e2 st s :=
  ⟨⟨by rw [← he]; exact h.share.now, h.share.bal, h.share.sup, h.share.allow, h.share.rest⟩, h.range, h.asset,
    by rw [← hv]; exact h.vault, h.offset, h.addr⟩

/-- a call that refines `apply` at the reads of the call moves `Abs` at the reads between calls along `step` -/
theorem step_of_sim {st : VaultSt.Store} {s : OZ.Vault.State} {α : Type}
    {Q : α × VaultSt.Store → OZ.Vault.State × Int → Prop} {c : Cfg} {v now : Nat}
    {auth aauth : List Nat} {op : OZ.Vault.Op} {g : Comp (α × VaultSt.Store)}
    (hA : Abs (envrOf c v now [] []) st s)
    (h : Abs (envrOf c v now auth aauth) st s → Sim Q g (OZ.Vault.apply c s auth op))
    (hQ : ∀ b r, Q b r → Abs (envrOf c v now auth aauth) b.2 r.1) :
    Abs (envrOf c v now [] []) (keep st g) (OZ.Vault.step c s (auth, op)) := by
  have h := h (abs_congr hA rfl rfl)
  unfold OZ.Vault.step
  cases hm : OZ.Vault.apply c s auth op with
  | error e => rw [h.of_error hm]; exact hA
  | ok p =>
    obtain ⟨b, h1, h2⟩ := h.of_ok hm
    rw [h1]
    exact abs_congr (hQ _ _ h2) rfl rfl

theorem withRet_sim {β : Type} {A : β → OZ.Vault.State → Prop} {g : Comp β} {m : Except OZ.Vault.Err OZ.Vault.State}
    (h : Sim A g m) : Sim (fun b r => A b r.1) g (OZ.Vault.withRet m) := by
  cases m <;> exact h

/-- **one item**: the generated vault does what the model's `step` does -/
theorem step_refines (c : Cfg) (hmin : 1 ≤ c.minTempTtl) (v now : Nat) (st : VaultSt.Store) (s : OZ.Vault.State)
    (hA : Abs (envrOf c v now [] []) st s) (ao : List Nat × OZ.Vault.Op) (hop : OpRange ao.2) :
    Abs (envrOf c v (genStep c v (now, st) ao).1 [] []) (genStep c v (now, st) ao).2 (OZ.Vault.step c s ao) := by
  obtain ⟨auth, op⟩ := ao
  have hvs : v = s.vault := hA.vault
  cases op with
  | advance n =>
    have hs : OZ.Vault.step c s (auth, .advance n) = OZ.Vault.advance s n := rfl
    rw [hs]
    refine ⟨⟨?_, hA.share.bal, hA.share.sup, hA.share.allow, rfl⟩, ⟨hA.range.bal, hA.range.sup, hA.range.allow⟩, ?_, hA.vault, hA.offset, hA.addr⟩
    · show s.sh.now + n = now + n
      have : s.sh.now = now := hA.share.now
      rw [this]
    · show ({ st.Asset with now := st.Asset.now + n } : OZ.Fungible.State) = { s.ast with now := s.ast.now + n }
      rw [hA.asset]
  | deposit sub a r f o =>
    exact step_of_sim hA
      (fun hA => refV_iff.1 (deposit_ref hA auth sub (fun _ => rfl) (by simp [envrOf, OZ.Vault.tokenAuth, hvs]) a r f o))
      fun _ _ h => h.2
  | mint sub sh r f o =>
    exact step_of_sim hA
      (fun hA => refV_iff.1 (mint_ref hA auth sub (fun _ => rfl) (by simp [envrOf, OZ.Vault.tokenAuth, hvs]) sh r f o))
      fun _ _ h => h.2
  | withdraw a r ow o =>
    exact step_of_sim hA
      (fun hA => refV_iff.1 (withdraw_ref hA hmin auth (fun _ => rfl) (by simp [envrOf, hvs]) a r ow o)) fun _ _ h => h.2
  | redeem sh r ow o =>
    exact step_of_sim hA
      (fun hA => refV_iff.1 (redeem_ref hA hmin auth (fun _ => rfl) (by simp [envrOf, hvs]) sh r ow o)) fun _ _ h => h.2
  | asset aop =>
    show Abs _ (match OZ.Fungible.apply c st.Asset auth aop with
        | .ok a => { st with Asset := a }
        | .error _ => st) (OZ.Vault.step c s (auth, .asset aop))
    unfold OZ.Vault.step
    simp only [OZ.Vault.apply, OZ.Vault.assetOp, OZ.Vault.withRet]
    rw [hA.asset]
    cases OZ.Fungible.apply c s.ast auth aop with
    | error e => exact hA
    | ok a => exact hA.setAsset a
  | share sop =>
    show Abs _ (if OZ.Vault.shareOpAllowed sop then keep st (genShareCall (envrOf c v now auth []) st sop) else st)
      (OZ.Vault.step c s (auth, .share sop))
    by_cases hal : OZ.Vault.shareOpAllowed sop = true
    · rw [if_pos hal]
      refine step_of_sim (aauth := []) hA (fun hA => ?_) fun _ _ h => h
      simp only [OZ.Vault.apply, OZ.Vault.shareOp, if_pos hal]
      have h := liftS_ref (shareRef_iff_weak.1 (share_step_refines _ st s.sh hA.share hA.range hmin auth (fun _ => rfl) sop hop hal))
      refine withRet_sim ?_
      cases hx : OZ.Vault.liftS (OZ.Fungible.apply c s.sh auth sop) with
      | error e => exact h.of_error hx
      | ok sh' =>
        obtain ⟨b, h1, h2⟩ := h.of_ok hx
        refine ⟨b, h1, ?_⟩
        have hbase := hA.setShare h2
        cases OZ.Vault.shareEvent sop with
        | none => exact hbase
        | some ev => exact abs_emit_vault hbase _
    · rw [if_neg hal]
      unfold OZ.Vault.step
      simp only [OZ.Vault.apply, OZ.Vault.shareOp, if_neg hal, OZ.Vault.withRet]
      exact hA

/-- **every history**: the generated vault follows the model's `run`, item by item -/
theorem run_refines (c : Cfg) (hmin : 1 ≤ c.minTempTtl) (v : Nat) (ops : List (List Nat × OZ.Vault.Op)) :
    ∀ (now : Nat) (st : VaultSt.Store) (s : OZ.Vault.State), Abs (envrOf c v now [] []) st s → (∀ x ∈ ops, OpRange x.2) →
      Abs (envrOf c v (genRun c v (now, st) ops).1 [] []) (genRun c v (now, st) ops).2 (OZ.Vault.run c s ops) := by
  induction ops with
  | nil => intro now st s hA _; exact hA
  | cons ao rest ih =>
    intro now st s hA hops
    exact ih _ _ _ (step_refines c hmin v now st s hA ao (hops ao (by simp))) fun x hx => hops x (by simp [hx])

open OZ.Vault in
/-- **C05 for the generated vault, over histories: the assets-per-share rate never decreases.**  From any store
that represents a well-formed vault state, after EVERY finite history of generated calls (the four vault entry
points, the share token's entry points, operations of the asset token incl. donations, ledger movements) in
which no call's authorizing set holds the vault's address (the vault authorizes its own nested calls only):
`(A₀ + 1)·(S' + 10^off) ≤ (A' + 1)·(S₀ + 10^off)` for the assets `A = asset.balance(vault)` and share supply `S`
read from the store before (₀) and after (') -/
theorem gen_rate_monotone_run {U : List Nat} (hn : U.Nodup) (c : Cfg) (hmin : 1 ≤ c.minTempTtl) (v now : Nat)
    (st : VaultSt.Store) (s : OZ.Vault.State) (hA : Abs (envrOf c v now [] []) st s) (hw : WF U s)
    (ops : List (List Nat × OZ.Vault.Op)) (hops : ∀ x ∈ ops, OpRange x.2)
    (hadm : ∀ x ∈ ops, v ∉ x.1 ∧ ∀ a ∈ x.2.addrs, a ∈ U) :
    let st' := (genRun c v (now, st) ops).2
    (st.Asset.bal v + 1) * (st'.TotalSupply.getD 0 + 10 ^ (st.VirtualDecimalsOffset.getD 0)) ≤
      (st'.Asset.bal v + 1) * (st.TotalSupply.getD 0 + 10 ^ (st.VirtualDecimalsOffset.getD 0)) := by
  intro st'
  have hA' := run_refines c hmin v ops now st s hA hops
  have hvs : v = s.vault := hA.vault
  obtain ⟨_, hr, hv', ho'⟩ := rate_monotone_run hn c ops hw (by rw [← hvs]; exact hadm)
  unfold RateLe totalAssets totalShares at hr
  have e1 : st.Asset.bal v = s.ast.bal s.vault := by rw [hA.asset, hvs]
  have e2 : st.TotalSupply.getD 0 = s.sh.supply := hA.share.sup.symm
  have e3 : st.VirtualDecimalsOffset.getD 0 = s.offset := hA.offset
  have e4 : st'.Asset.bal v = (run c s ops).ast.bal (run c s ops).vault := by rw [hA'.asset, hv', hvs]
  have e5 : st'.TotalSupply.getD 0 = (run c s ops).sh.supply := hA'.share.sup.symm
  rw [e1, e2, e3, e4, e5]
  rw [ho'] at hr
  exact hr

/-! ### the generated vault runs -/

/-- a vault (address 9) over an asset token in which account 1 holds 1000; offset 0 -/
def demoAsset : OZ.Fungible.State := { OZ.Fungible.init 100 with bal := fun a => if a = 1 then 1000 else 0, supply := 1000 }
def demoSt : VaultSt.Store := ⟨fun _ => none, none, fun _ => none, some 7, some 0, demoAsset⟩
def demoEnv : VaultSt.Reads := ⟨100, 16, 6312000, fun a => a == 1, 9, [9, 1]⟩

def verdict (c : Comp (Int × VaultSt.Store)) : Comp Int := Comp.bind c fun p => Comp.ok p.1

example : verdict (VaultSt.deposit demoEnv demoSt 500 1 1 1) = .ok 500 := by decide
example : verdict (VaultSt.deposit demoEnv demoSt 1001 1 1 1) = .panic := by decide     -- the asset token refuses
example : verdict (VaultSt.deposit demoEnv demoSt 500 1 1 2) = .panic := by decide      -- operator 2 did not authorize
example : (Comp.bind (VaultSt.deposit demoEnv demoSt 500 1 1 1) fun p => verdict (VaultSt.redeem demoEnv p.2 200 1 1 1)) = .ok 200 := by decide

end OZ.Gen.VaultSt
