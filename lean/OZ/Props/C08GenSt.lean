import OZ.Gen.TimelockSt
import OZ.Lemmas.Comp
/-
C08 — schedule / execute / cancel, re-checked on every run against what the SOURCE says now.

`lean/OZ/Gen/TimelockSt.lean` is regenerated by `/verif/tools/rs2lean.py --timelock-st` (state-passing mode)
from /repo's current `packages/governance/src/timelock/storage.rs` and the constants / state enum of
`timelock/mod.rs`: `get_min_delay`, `get_operation_ledger`, `get_operation_state`, the four boolean views,
`set_min_delay`, `schedule_operation`, `set_execute_operation` (everything `execute_operation` does before it
invokes the target), `cancel_operation`.  `hash_operation` (Keccak-256 over the XDR of the five fields) is a
parameter `hash_operation : Operation → B32` of the reads record; the storage is `MinDelay` and the map
`OperationLedger(id)` (missing = `UNSET_LEDGER`).

Theorems about the GENERATED code, for every store, ledger, hash function and operation:
* `gen_schedule_sound` — an accepted `schedule_operation` returns the operation's id, needs the id to be
  Unset and `delay ≥` the stored minimum delay, and stores exactly `ledger ⊕ delay` (saturating) for that id;
* `gen_execute_sound` — an accepted `set_execute_operation` needs the operation Ready — a stored ready ledger
  that is neither `UNSET` nor `DONE` and has been REACHED (`≤` the current ledger) — and its predecessor, when
  it names one, Done; it marks exactly this id Done.

"`x` is refused" is written `(x.bind fun _ => Comp.ok ()) = .panic`, here and in OZ/Props/C08GenHist.lean: `x`
panics; the `bind` only drops what `x` returns.
-/
namespace OZ.Gen.TimelockSt
open OZ.Rs

/-- the stored ready ledger of an id (`UNSET_LEDGER = 0` when there is no entry) -/
def led (st : TimelockSt.Store) (id : B32) : Nat := (st.OperationLedger id).getD 0

/-- the `match` of `get_operation_state` -/
def stateAt (ready now : Nat) : OperationState :=
  if ready = 0 then .Unset else if ready = 1 then .Done else if ready > now then .Waiting else .Ready

theorem get_operation_ledger_eq (envr : TimelockSt.Reads) (st : TimelockSt.Store) (id : B32) :
    TimelockSt.get_operation_ledger envr st id = .ok (led st id) := by
  unfold TimelockSt.get_operation_ledger led
  cases st.OperationLedger id <;> rfl

theorem get_operation_state_eq (envr : TimelockSt.Reads) (st : TimelockSt.Store) (id : B32) :
    TimelockSt.get_operation_state envr st id = .ok (stateAt (led st id) envr.ledger_sequence) := by
  unfold TimelockSt.get_operation_state stateAt
  rw [get_operation_ledger_eq]
  simp only [Comp.bind_ok]
  by_cases h0 : led st id = 0
  · rw [if_pos h0, if_pos h0]
  · rw [if_neg h0, if_neg h0]
    by_cases h1 : led st id = 1
    · rw [if_pos h1, if_pos h1]
    · rw [if_neg h1, if_neg h1]
      by_cases h2 : led st id > envr.ledger_sequence
      · rw [if_pos h2, if_pos h2]
      · rw [if_neg h2, if_neg h2]

theorem exists_eq (envr : TimelockSt.Reads) (st : TimelockSt.Store) (id : B32) :
    TimelockSt.operation_exists envr st id = .ok (decide (stateAt (led st id) envr.ledger_sequence ≠ .Unset)) := by
  unfold TimelockSt.operation_exists; rw [get_operation_state_eq]; rfl
theorem ready_eq (envr : TimelockSt.Reads) (st : TimelockSt.Store) (id : B32) :
    TimelockSt.is_operation_ready envr st id = .ok (decide (stateAt (led st id) envr.ledger_sequence = .Ready)) := by
  unfold TimelockSt.is_operation_ready; rw [get_operation_state_eq]; rfl
theorem done_eq (envr : TimelockSt.Reads) (st : TimelockSt.Store) (id : B32) :
    TimelockSt.is_operation_done envr st id = .ok (decide (stateAt (led st id) envr.ledger_sequence = .Done)) := by
  unfold TimelockSt.is_operation_done; rw [get_operation_state_eq]; rfl
theorem pending_eq (envr : TimelockSt.Reads) (st : TimelockSt.Store) (id : B32) :
    TimelockSt.is_operation_pending envr st id =
      .ok (decide (stateAt (led st id) envr.ledger_sequence = .Waiting ∨ stateAt (led st id) envr.ledger_sequence = .Ready)) := by
  unfold TimelockSt.is_operation_pending; rw [get_operation_state_eq]; rfl

theorem stateAt_ready {r now : Nat} : stateAt r now = .Ready ↔ (r ≠ 0 ∧ r ≠ 1 ∧ r ≤ now) := by
  unfold stateAt
  by_cases h0 : r = 0
  · simp [h0]
  · by_cases h1 : r = 1
    · simp [h1]
    · by_cases h2 : r > now
      · simp [h0, h1, h2]; try omega
      · simp [h0, h1, h2]; try omega

theorem stateAt_done {r now : Nat} : stateAt r now = .Done ↔ r = 1 := by
  unfold stateAt
  by_cases h0 : r = 0
  · simp [h0]
  · by_cases h1 : r = 1
    · simp [h1]
    · by_cases h2 : r > now <;> simp [h0, h1, h2]

theorem stateAt_unset {r now : Nat} : stateAt r now = .Unset ↔ r = 0 := by
  unfold stateAt
  by_cases h0 : r = 0
  · simp [h0]
  · by_cases h1 : r = 1
    · simp [h1]
    · by_cases h2 : r > now <;> simp [h0, h1, h2]

/-- **schedule**: what an accepted `schedule_operation` needs and does -/
theorem gen_schedule_sound (envr : TimelockSt.Reads) (st st' : TimelockSt.Store) (op : Operation) (delay : Nat) (id : B32)
    (h : TimelockSt.schedule_operation envr st op delay = .ok (id, st')) :
    id = envr.hash_operation op ∧ led st id = 0 ∧
    (∃ m, st.MinDelay = some m ∧ m ≤ delay) ∧
    st' = TimelockSt.Store.set_OperationLedger st id (uN_saturating_add 32 envr.ledger_sequence delay) := by
  unfold TimelockSt.schedule_operation at h
  rw [exists_eq, Comp.bind_ok] at h
  obtain ⟨hu, h⟩ := Comp.guard_eq_ok h
  obtain ⟨m, hm, h⟩ := Comp.bind_eq_ok h
  obtain ⟨m', hm', e⟩ := Comp.unwrap_eq_ok (show Comp.unwrap st.MinDelay _ = _ from hm)
  cases e
  obtain ⟨hlt, h⟩ := Comp.guard_eq_ok h
  cases h
  exact ⟨rfl, stateAt_unset.mp (by simpa using hu), ⟨m, hm', Nat.le_of_not_lt hlt⟩, rfl⟩

/-- **execute**: only a Ready operation whose predecessor (if it names one) is Done; marks exactly it Done -/
theorem gen_execute_sound (envr : TimelockSt.Reads) (st st' : TimelockSt.Store) (op : Operation)
    (h : TimelockSt.set_execute_operation envr st op = .ok ((), st')) :
    let id := envr.hash_operation op
    (led st id ≠ 0 ∧ led st id ≠ 1 ∧ led st id ≤ envr.ledger_sequence) ∧
    (op.predecessor ≠ List.replicate 32 0 → led st op.predecessor = 1) ∧
    st' = TimelockSt.Store.set_OperationLedger st id 1 := by
  intro id
  unfold TimelockSt.set_execute_operation at h
  rw [ready_eq, Comp.bind_ok] at h
  obtain ⟨hr, h⟩ := Comp.require_eq_ok h
  have hr := stateAt_ready.mp (of_decide_eq_true hr)
  by_cases hp : op.predecessor ≠ List.replicate 32 0
  · rw [if_pos hp, done_eq, Comp.bind_ok] at h
    obtain ⟨hd, h⟩ := Comp.require_eq_ok h
    cases h
    exact ⟨hr, fun _ => stateAt_done.mp (of_decide_eq_true hd), rfl⟩
  · rw [if_neg hp] at h
    cases h
    exact ⟨hr, fun hne => absurd hne hp, rfl⟩

/-- execution is refused whenever the operation is not Ready: never scheduled or cancelled (`0`), already
executed (`1`), or its ready ledger not yet reached -/
theorem gen_not_ready_refused (envr : TimelockSt.Reads) (st : TimelockSt.Store) (op : Operation)
    (h : led st (envr.hash_operation op) = 0 ∨ led st (envr.hash_operation op) = 1 ∨
      envr.ledger_sequence < led st (envr.hash_operation op)) :
    ((TimelockSt.set_execute_operation envr st op).bind fun _ => Comp.ok ()) = .panic := by
  cases hx : TimelockSt.set_execute_operation envr st op with
  | panic => rfl
  | ok r =>
    obtain ⟨u, st'⟩ := r
    have := (gen_execute_sound envr st st' op hx).1
    omega

/-- **cancel**: only a pending operation; removes exactly its entry -/
theorem gen_cancel_sound (envr : TimelockSt.Reads) (st st' : TimelockSt.Store) (id : B32)
    (h : TimelockSt.cancel_operation envr st id = .ok ((), st')) :
    led st id ≠ 0 ∧ led st id ≠ 1 ∧ st' = TimelockSt.Store.del_OperationLedger st id := by
  unfold TimelockSt.cancel_operation at h
  rw [pending_eq, Comp.bind_ok] at h
  obtain ⟨hp, h⟩ := Comp.require_eq_ok h
  have hp := of_decide_eq_true hp
  cases h
  refine ⟨fun h0 => ?_, fun h1 => ?_, rfl⟩
  · rw [(stateAt_unset (now := envr.ledger_sequence)).mpr h0] at hp
    rcases hp with hp | hp <;> cases hp
  · rw [(stateAt_done (now := envr.ledger_sequence)).mpr h1] at hp
    rcases hp with hp | hp <;> cases hp

/-- after an accepted cancel the operation is Unset again (so it cannot be executed) -/
theorem gen_cancelled_is_unset (envr : TimelockSt.Reads) (st st' : TimelockSt.Store) (id : B32)
    (h : TimelockSt.cancel_operation envr st id = .ok ((), st')) : led st' id = 0 := by
  rw [(gen_cancel_sound envr st st' id h).2.2]
  simp [led, TimelockSt.Store.del_OperationLedger]

/-- **Done is final**: a Done operation is neither executed again, nor cancelled, nor scheduled again -/
theorem gen_done_is_final (envr : TimelockSt.Reads) (st : TimelockSt.Store) (op : Operation)
    (hd : led st (envr.hash_operation op) = 1) (delay : Nat) :
    ((TimelockSt.set_execute_operation envr st op).bind fun _ => Comp.ok ()) = .panic ∧
    ((TimelockSt.cancel_operation envr st (envr.hash_operation op)).bind fun _ => Comp.ok ()) = .panic ∧
    ((TimelockSt.schedule_operation envr st op delay).bind fun _ => Comp.ok ()) = .panic := by
  refine ⟨gen_not_ready_refused envr st op (Or.inr (Or.inl hd)), ?_, ?_⟩
  · cases hx : TimelockSt.cancel_operation envr st (envr.hash_operation op) with
    | panic => rfl
    | ok r =>
      obtain ⟨u, st'⟩ := r
      have := (gen_cancel_sound envr st st' _ hx).2.1
      exact absurd hd this
  · cases hx : TimelockSt.schedule_operation envr st op delay with
    | panic => rfl
    | ok r =>
      obtain ⟨id, st'⟩ := r
      obtain ⟨hid, h0, _, _⟩ := gen_schedule_sound envr st st' op delay id hx
      rw [hid] at h0
      omega

/-- an accepted execution leaves the operation Done — and hence, by `gen_done_is_final`, it runs once -/
theorem gen_executed_is_done (envr : TimelockSt.Reads) (st st' : TimelockSt.Store) (op : Operation)
    (h : TimelockSt.set_execute_operation envr st op = .ok ((), st')) :
    led st' (envr.hash_operation op) = 1 := by
  rw [(gen_execute_sound envr st st' op h).2.2]
  simp [led, TimelockSt.Store.set_OperationLedger]

end OZ.Gen.TimelockSt
