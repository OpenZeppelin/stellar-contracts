import OZ.Lemmas.RegKeysMon
/-
C20 (a) — soundness of the `keys` MONITOR that decides the property on implementation traces.

`./check C20` reports a concrete violation in a `keys` sequence exactly when
`OZ.RegKeys.Mon.checkCore` (the sub-driver's monitor on parsed values, OZ/Model/RegKeysMon.lean)
returns a message on the implementation's observations. Here it is proved that on the observations
of the MODEL (run with the harness's oracle `allowed r t := t ≠ 7`, as the driver does) the monitor
never returns a message, for all label parameters `nk`, `nt` and every finite history of
`allow_key` / `remove_key` with arbitrary arguments (`monitor_accepts_every_model_trace`).
Consequences: a monitor failure is never a false alarm of the monitor itself, and every conclusion
it evaluates (empty keys, unknown topics, duplicates and absent triples refused; the 20th pair of a
key and the 50th key of a topic accepted, the 21st and the 51st refused; `get_keys_for_topic` lists
the keys with a pair for the topic once each and fails exactly when there are none;
`get_registries` lists the registries of the key's pairs as a multiset and fails exactly when there
are none; the two membership getters are "exists a pair (topic, .)" / "exists a pair (., registry)")
is a THEOREM about the model, in the monitor's own executable wording.

`modelObs s nk nt ok` is the data the model driver prints for state `s` (`stepLine` / `showState` of
OZ/Drv/C20Keys.lean): the tag, `T=` the graph of `getKeysForTopic` over topics 0..nt-1 (only the
topics whose getter succeeds are printed), `R=` the graph of `getRegistries` over the universe
`keysU nk` (only the keys whose getter succeeds), `at=` the bits of `isKeyAllowedForTopic` over
keys x topics 0..nt-1, `ar=` the bits of `isKeyAllowedForRegistry` over keys x registries 0..2.
-/
namespace OZ.RegKeys.Mon
open OZ.Reg OZ.RegMon OZ.RegKeys

/-- the observation the harness / the model driver print for a state -/
def modelObs (s : State) (nk nt : Nat) (ok : Bool) : Obs :=
  { ok := ok,
    T := (List.range nt).filterMap (fun t => (getKeysForTopic s t).map (fun l => (t, l))),
    R := (keysU nk).filterMap (fun k => (getRegistries s k).map (fun l => (k, l))),
    atB := bits ((keysU nk).flatMap (fun k => (List.range nt).map (fun t => isKeyAllowedForTopic s k t))),
    arB := bits ((keysU nk).flatMap (fun k => (List.range NR).map (fun r => isKeyAllowedForRegistry s k r))) }

theorem topic_getter_quiet {g : Mon} {s : State} {nk nt : Nat} (ha : Agree g s nk nt) (hI : Inv s) (ok : Bool)
    (t : Nat) (ht : t ∈ List.range nt) : topicCheck g (modelObs s nk nt ok).T t = none := by
  have hp := keysOf_perm ha hI t
  unfold topicCheck
  rw [show (modelObs s nk nt ok).T =
    (List.range nt).filterMap (fun t => (getKeysForTopic s t).map (fun l => (t, l))) from rfl]
  rw [find_graphO _ (getKeysForTopic s) t fun _ => ht]
  unfold getKeysForTopic
  by_cases he : s.topics t = []
  · rw [if_pos he]
    show chk (decide _) _ = none
    refine chk_decide ?_ _
    rw [he] at hp; exact hp.eq_nil
  · rw [if_neg he]
    show chk (decide _) _ = none
    refine chk_decide ⟨?_, (nodupB_iff _).2 (hI.topicsNodup t), (sameSet_iff _ _).2 (fun k => hp.symm.mem_iff)⟩ _
    intro h; rw [h] at hp; exact he hp.symm.eq_nil

theorem registry_getter_quiet {g : Mon} {s : State} {nk nt : Nat} (ha : Agree g s nk nt) (hI : Inv s) (ok : Bool)
    (k : Key) (hk : k ∈ keysU nk) : registryCheck g (modelObs s nk nt ok).R k = none := by
  have hp := pairsOf_perm ha hI k
  unfold registryCheck
  rw [show (modelObs s nk nt ok).R =
    (keysU nk).filterMap (fun k => (getRegistries s k).map (fun l => (k, l))) from rfl]
  rw [find_graphO _ (getRegistries s) k fun _ => hk]
  unfold getRegistries
  by_cases he : s.pairs k = []
  · rw [if_pos he]
    show chk (decide _) _ = none
    refine chk_decide ?_ _
    rw [he] at hp
    unfold regsWant; rw [hp.eq_nil]; exact OZ.Lists.mergeSort_eq_nil.2 rfl
  · rw [if_neg he]
    show chk (decide _) _ = none
    refine chk_decide ⟨?_, ?_⟩ _
    · unfold regsWant
      intro h
      have h' := OZ.Lists.mergeSort_eq_nil.1 h
      rw [List.map_eq_nil_iff] at h'
      rw [h'] at hp; exact he hp.symm.eq_nil
    · exact OZ.Lists.mergeSort_le_eq_iff_perm.2 (hp.symm.map _)

theorem member_getters_quiet {g : Mon} {s : State} {nk nt : Nat} (ha : Agree g s nk nt) (hI : Inv s) (ok : Bool) :
    (modelObs s nk nt ok).atB = bits (atWant g) ∧ (modelObs s nk nt ok).arB = bits (arWant g) := by
  constructor
  · show bits _ = bits _
    refine congrArg bits ?_
    unfold atWant
    rw [ha.nk, ha.nt]
    refine List.flatMap_congr (fun k _ => List.map_congr_left (fun t _ => ?_))
    unfold isKeyAllowedForTopic
    rw [Bool.eq_iff_iff, List.contains_iff_mem, hI.twoWay, List.any_eq_true]
    constructor
    · rintro ⟨r, h⟩; exact ⟨(k, t, r), (ha.mem k t r).2 h, by simp⟩
    · rintro ⟨⟨k', t', r⟩, hm, hx⟩
      simp only [beq_iff_eq, decide_eq_true_eq] at hx
      obtain ⟨rfl, rfl⟩ := hx
      exact ⟨r, (ha.mem _ _ r).1 hm⟩
  · show bits _ = bits _
    refine congrArg bits ?_
    unfold arWant
    rw [ha.nk]
    refine List.flatMap_congr (fun k _ => List.map_congr_left (fun r _ => ?_))
    unfold isKeyAllowedForRegistry
    rw [Bool.eq_iff_iff, List.any_eq_true, List.any_eq_true]
    constructor
    · rintro ⟨⟨t, r'⟩, hm, hx⟩
      simp only [beq_iff_eq] at hx; subst hx
      exact ⟨(k, t, r'), (ha.mem k t r').2 hm, by simp⟩
    · rintro ⟨⟨k', t, r'⟩, hm, hx⟩
      simp only [beq_iff_eq, decide_eq_true_eq] at hx
      obtain ⟨rfl, rfl⟩ := hx
      exact ⟨(t, r'), (ha.mem _ t _).1 hm, by simp⟩

/-- **one call**: fed with the model's own observation of any call (accepted or refused), the
monitor reports nothing and its plain relation keeps describing the model's state -/
theorem monitor_sound_step {g : Mon} {s : State} {nk nt : Nat} (hI : Inv s) (ha : Agree g s nk nt) (op : Op) :
    (checkCore g op (modelObs (next allowed s op) nk nt (accepted s op))).2 = none ∧
    Agree (checkCore g op (modelObs (next allowed s op) nk nt (accepted s op))).1 (next allowed s op) nk nt := by
  obtain ⟨he, ha'⟩ := decision_agrees ha hI op
  have hI' := inv_next allowed hI op
  obtain ⟨q3, q4⟩ := member_getters_quiet ha' hI' (accepted s op)
  unfold checkCore
  rw [show (modelObs (next allowed s op) nk nt (accepted s op)).ok = accepted s op from rfl]
  refine ⟨firstFail_all_none (fun x hx => ?_), ha'⟩
  simp only [List.mem_append, List.mem_map, List.mem_cons, List.not_mem_nil, or_false] at hx
  rcases hx with ((hx | ⟨t, ht, rfl⟩) | ⟨k, hk, rfl⟩) | hx | hx
  · subst hx; unfold acceptMsg; rw [if_pos he.symm]
  · rw [ha'.nt] at ht; exact topic_getter_quiet ha' hI' _ t ht
  · rw [ha'.nk] at hk; exact registry_getter_quiet ha' hI' _ k hk
  · subst hx; exact chk_decide q3 _
  · subst hx; exact chk_decide q4 _

def monitorRun (nk nt : Nat) : Mon → State → List Op → Option String
  | _, _, [] => none
  | g, s, op :: ops =>
    match (checkCore g op (modelObs (next allowed s op) nk nt (accepted s op))).2 with
    | some msg => some msg
    | none => monitorRun nk nt (checkCore g op (modelObs (next allowed s op) nk nt (accepted s op))).1 (next allowed s op) ops

/-- the monitor's initial state for a sequence (what `minit` builds from the label) -/
def monInit (nk nt : Nat) : Mon := { rel := [], nk := nk, nt := nt }

/-- **monitor soundness**: for all label parameters `nk`, `nt` and every finite history of
`allow_key` / `remove_key` — any keys (also the empty one), schemes, registries, topics (also the
topic the mock registries do not know), accepted or refused — the monitor that the sub-driver's
`minit` builds reports nothing on the observations of the model that the sub-driver's `initM` builds -/
theorem monitor_accepts_every_model_trace (nk nt : Nat) (ops : List Op) :
    monitorRun nk nt (monInit nk nt) init ops = none :=
  run_quiet (R := fun g s => Inv s ∧ Agree g s nk nt) (fun _ _ => rfl) (fun _ _ _ _ h => by rw [monitorRun, h]) ops
    (fun op _ _ _ ⟨hI, ha⟩ =>
      ⟨(monitor_sound_step hI ha op).1, inv_next allowed hI op, (monitor_sound_step hI ha op).2⟩)
    _ _ ⟨inv_init, rfl, rfl, List.nodup_nil, fun k t r => by simp [monInit, init]⟩

/-- a refused 20th pair, an accepted 21st pair, an accepted duplicate, an accepted unknown topic, a
key listed twice for a topic, a missing registry and a wrong membership bit are reported -/
example :
    (acceptMsg { rel := (List.range 19).map (fun i => ((1, 1), i / 3, i % 3)), nk := 1, nt := 1 }
      (.allow (1, 1) 1 6) false).isSome = true ∧
    (acceptMsg { rel := (List.range 20).map (fun i => ((1, 1), i / 3, i % 3)), nk := 1, nt := 1 }
      (.allow (1, 1) 2 6) true).isSome = true ∧
    (acceptMsg { rel := [((1, 1), 0, 0)], nk := 1, nt := 1 } (.allow (1, 1) 0 0) true).isSome = true ∧
    (acceptMsg { rel := [], nk := 1, nt := 8 } (.allow (1, 1) 0 7) true).isSome = true ∧
    (topicCheck { rel := [((1, 1), 0, 0)], nk := 1, nt := 1 } [(0, [(1, 1), (1, 1)])] 0).isSome = true ∧
    (registryCheck { rel := [((1, 1), 0, 0), ((1, 1), 1, 0)], nk := 1, nt := 2 } [((1, 1), [0])] (1, 1)).isSome = true ∧
    atWant { rel := [((1, 1), 0, 0)], nk := 1, nt := 1 } ≠ List.replicate 4 false := by
  refine ⟨by decide, by decide, by decide, by decide, by decide,
    by simp [registryCheck, regsWant, sortN, pairsOf, chk, List.mergeSort, List.MergeSort.Internal.splitInTwo],
    by decide⟩

end OZ.RegKeys.Mon
