import OZ.Lemmas.NftEnumerable
import OZ.Lemmas.NftBits
import OZ.Lemmas.NftLayers
import OZ.Lemmas.NftLive
import OZ.Lemmas.NftStep
/-
C10 — Every NFT has exactly one owner and the enumerations mirror ownership.

Models: OZ/Model/Nft.lean (`Base`), OZ/Model/NftEnumerable.lean, OZ/Model/NftConsecutive.lean (the contract
logic once, over an abstract ownership-bit set; instantiated at the set level and at the bit level =
buckets of 100 u32 items, MSB first).

The specification is a PLAIN ownership map `Id → Option Addr` that follows only the accepted
operations: a mint gives the issued id(s) to the recipient, a transfer moves the named id, a
burn removes it; nothing else changes. All statements are for every configuration, every
start ledger, every finite history of operations with arbitrary arguments and authorizing
sets, and every token id (no bound on batch sizes beyond the code's own limit, none on the
number of steps).
-/
namespace OZ.C10
open OZ.Host OZ.Nft

def Chain {α : Type} (lo hi : α → Nat) (a b : Nat) (L : List α) : Prop :=
  L.Pairwise (fun x y => hi x < lo y) ∧ (∀ x ∈ L, a ≤ lo x ∧ lo x ≤ hi x ∧ hi x < b) ∧ a ≤ b

section
variable {α : Type} {lo hi : α → Nat} {a m b : Nat}

theorem Chain.nil (h : a ≤ b) : Chain lo hi a b [] := ⟨List.Pairwise.nil, nofun, h⟩

theorem Chain.single {x : α} (h1 : a ≤ lo x) (h2 : lo x ≤ hi x) (h3 : hi x < b) : Chain lo hi a b [x] :=
  ⟨List.pairwise_singleton _ _, fun y hy => by cases List.mem_singleton.mp hy; exact ⟨h1, h2, h3⟩, by omega⟩

theorem Chain.append {E L : List α} (hE : Chain lo hi a m E) (hL : Chain lo hi m b L) :
    Chain lo hi a b (E ++ L) := by
  obtain ⟨e1, e2, e3⟩ := hE
  obtain ⟨l1, l2, l3⟩ := hL
  refine ⟨List.pairwise_append.mpr ⟨e1, l1, fun x hx y hy => ?_⟩, fun x hx => ?_, by omega⟩
  · have := e2 x hx; have := l2 y hy; omega
  · rcases List.mem_append.mp hx with h | h
    · have := e2 x h; omega
    · have := l2 x h; omega

end

/-! ## base flavour (sequential and explicit ids) -/

/-- the fresh-id hypothesis of the property along a history: whenever a mint is attempted, the
id it would issue (the explicit one, or the counter) has no owner at that moment -/
def FreshRun (cfg : Cfg) : Nft.State → List (List Nat × Op) → Prop
  | _, [] => True
  | s, x :: xs => FreshOp s x.2 ∧ FreshRun cfg (Nft.step cfg s x) xs

/-- the plain ownership map driven by the accepted operations of a history -/
def specRun (cfg : Cfg) : Nft.State → (Nat → Option Nat) → List (List Nat × Op) → (Nat → Option Nat)
  | _, spec, [] => spec
  | s, spec, x :: xs =>
    match Nft.apply cfg s x.1 x.2 with
    | .ok (s', r) => specRun cfg s' (specStep spec x.2 r) xs
    | .error _ => specRun cfg s spec xs

/-- the stored owner map IS the plain map, after every history (no fresh-id hypothesis needed
for this part: an explicit mint over an existing token simply overwrites the entry) -/
theorem base_refines_map (cfg : Cfg) (ops : List (List Nat × Op)) (s : Nft.State) :
    (Nft.run cfg s ops).owner = specRun cfg s s.owner ops := by
  induction ops generalizing s with
  | nil => rfl
  | cons x xs ih =>
    show (Nft.run cfg (Nft.step cfg s x) xs).owner = _
    unfold specRun Nft.step
    cases h : Nft.apply cfg s x.1 x.2 with
    | error e => exact ih s
    | ok p =>
      obtain ⟨s', r⟩ := p
      have := (apply_owner cfg h).1
      simp only
      rw [ih s', this]

/-- an accepted transfer or burn names the token's current owner as `from`, i.e. it moves
exactly the named token out of exactly its owner's hands -/
theorem base_moves_named_token (cfg : Cfg) {s s' : Nft.State} {auth : List Nat} {op : Op} {r : Option Nat}
    (h : Nft.apply cfg s auth op = .ok (s', r)) {f id : Nat} (hm : op.moves = some (f, id)) :
    s.owner id = some f ∧
    s'.owner id = (match op with | .burn _ _ => none | .burnFrom _ _ _ => none
                                 | .transfer _ t _ => some t | .transferFrom _ _ t _ => some t | _ => s.owner id) := by
  obtain ⟨hown, hmv, _⟩ := apply_owner cfg h
  refine ⟨hmv f id hm, ?_⟩
  rw [hown]
  cases op <;> simp only [Op.moves] at hm <;> try cases hm
  all_goals (simp only [specStep]; exact upd_same _ _ _)

/-- the token an operation can touch: the named one, or the id a sequential mint returns -/
def touched (op : Op) (r : Option Nat) : Option Nat :=
  match op with
  | .mintSeq _ => r
  | op => op.token

/-- frame: whatever happens to one token never changes the owner of another -/
theorem base_frame (cfg : Cfg) {s s' : Nft.State} {auth : List Nat} {op : Op} {r : Option Nat}
    (h : Nft.apply cfg s auth op = .ok (s', r)) (t' : Nat) (hne : touched op r ≠ some t') :
    s'.owner t' = s.owner t' := by
  rw [(apply_owner cfg h).1]
  cases op with
  | mintSeq to =>
    cases r with
    | none => rfl
    | some id =>
      have : t' ≠ id := fun e => hne (by rw [e]; rfl)
      exact upd_other _ _ _ _ this
  | mint to id | transfer f t id | transferFrom sp f t id | burn f id | burnFrom sp f id =>
    exact upd_other _ _ _ _ (fun e => hne (by rw [e]; rfl))
  | batchMint to n | approve ap a id lu | approveForAll o p lu | advance n => rfl

theorem run_inv (cfg : Cfg) (ops : List (List Nat × Op)) {L : List Nat} {s : Nft.State}
    (hi : Inv L s) (hf : FreshRun cfg s ops) : ∃ L', Inv L' (Nft.run cfg s ops) := by
  induction ops generalizing L s with
  | nil => exact ⟨L, hi⟩
  | cons x xs ih =>
    obtain ⟨L', hi'⟩ := Nft.step_keeps cfg (P := fun s => ∃ L, Inv L s) ⟨L, hi⟩
      fun _ _ h => ⟨_, (apply_inv cfg hi hf.1 h).1⟩
    exact ih hi' hf.2

/-- balance(a) is the number of tokens whose owner is a: after every history that respects the
fresh-id hypothesis there is a duplicate-free list of exactly a's tokens whose length is a's
stored balance; in particular every existing token has exactly one owner -/
theorem base_balance_counts (cfg : Cfg) (now : Nat) (ops : List (List Nat × Op))
    (hf : FreshRun cfg (Nft.init now) ops) (a : Nat) :
    ∃ l : List Nat, l.Nodup ∧ (∀ t, t ∈ l ↔ (Nft.run cfg (Nft.init now) ops).owner t = some a) ∧
      l.length = (Nft.run cfg (Nft.init now) ops).bal a := by
  obtain ⟨L, hi⟩ := run_inv cfg ops (init_inv now) hf
  exact hi.balance_counts a

/-- histories without explicit-id mints satisfy the fresh-id hypothesis by themselves: the
sequential counter never points at an owned id -/
theorem sequential_histories_are_fresh (cfg : Cfg) (ops : List (List Nat × Op)) (s : Nft.State)
    (hn : NoneAbove s) (hx : ∀ x ∈ ops, x.2.isExplicitMint = false) : FreshRun cfg s ops := by
  induction ops generalizing s with
  | nil => trivial
  | cons x xs ih =>
    have hx1 := hx x (by simp)
    exact ⟨freshOp_of_noneAbove hn hx1,
      ih _ (Nft.step_keeps cfg hn fun _ _ h => apply_noneAbove cfg hn hx1 h) fun y hy => hx y (by simp [hy])⟩

/-- the ids issued by the accepted sequential mints of a history, in order -/
def issued (cfg : Cfg) : Nft.State → List (List Nat × Op) → List Nat
  | _, [] => []
  | s, x :: xs =>
    match Nft.apply cfg s x.1 x.2 with
    | .ok (s', r) => (match x.2, r with | .mintSeq _, some id => [id] | _, _ => []) ++ issued cfg s' xs
    | .error _ => issued cfg s xs

theorem issued_chain (cfg : Cfg) (ops : List (List Nat × Op)) (s : Nft.State) :
    Chain id id s.nextId (Nft.run cfg s ops).nextId (issued cfg s ops) := by
  induction ops generalizing s with
  | nil => exact Chain.nil (Nat.le_refl _)
  | cons x xs ih =>
    show Chain id id s.nextId (Nft.run cfg (Nft.step cfg s x) xs).nextId (issued cfg s (x :: xs))
    unfold issued Nft.step
    cases h : Nft.apply cfg s x.1 x.2 with
    | error e => exact ih s
    | ok p =>
      obtain ⟨s', r⟩ := p
      obtain ⟨-, -, hseq, hother⟩ := apply_owner cfg h
      refine Chain.append ?_ (ih s')
      split
      · rename_i to i hop
        obtain ⟨hr, hnx⟩ := hseq to hop
        cases hr
        exact Chain.single (Nat.le_refl _) (Nat.le_refl _) (by show s.nextId < s'.nextId; omega)
      · refine Chain.nil ?_
        by_cases hb : ∃ to, x.2 = .mintSeq to
        · obtain ⟨to, hop⟩ := hb
          have := (hseq to hop).2; omega
        · exact Nat.le_of_eq (hother fun to e => hb ⟨to, e⟩).symm

/-- sequential ids are never reused: the issued ids are strictly increasing, each is at least
the counter at the start and below the counter at the end (so also burned ids never come back) -/
theorem sequential_ids_never_reused (cfg : Cfg) (ops : List (List Nat × Op)) (s : Nft.State) :
    (issued cfg s ops).Pairwise (· < ·) ∧
    (∀ id ∈ issued cfg s ops, s.nextId ≤ id ∧ id < (Nft.run cfg s ops).nextId) ∧
    s.nextId ≤ (Nft.run cfg s ops).nextId :=
  have h := issued_chain cfg ops s
  ⟨h.1, fun i hi => ⟨(h.2.1 i hi).1, (h.2.1 i hi).2.2⟩, h.2.2⟩

/-! ## enumerable flavour -/

open OZ.NftEnum in
def FreshRunE (cfg : Cfg) : NftEnum.State → List (List Nat × Op) → Prop
  | _, [] => True
  | s, x :: xs => FreshOp s.toState x.2 ∧ FreshRunE cfg (NftEnum.step cfg s x) xs

open OZ.NftEnum in
theorem run_einv (cfg : Cfg) (ops : List (List Nat × Op)) {L : List Nat} {s : NftEnum.State}
    (hi : EInv s) (hb : Inv L s.toState) (hf : FreshRunE cfg s ops) :
    EInv (NftEnum.run cfg s ops) ∧ ∃ L', Inv L' (NftEnum.run cfg s ops).toState := by
  induction ops generalizing L s with
  | nil => exact ⟨hi, L, hb⟩
  | cons x xs ih =>
    obtain ⟨hi', L', hb'⟩ := NftEnum.step_keeps cfg (P := fun s => EInv s ∧ ∃ L, Inv L s.toState) ⟨hi, L, hb⟩
      fun _ _ h => ⟨apply_step cfg hi hf.1 h, _, (apply_inv cfg hb hf.1 (apply_base cfg h)).1⟩
    exact ih hi' hb' hf.2

open OZ.NftEnum in
/-- after every history: `total_supply` is the length of the global list, the global list has no
duplicates and contains exactly the existing tokens; each owner's list has length balance(owner),
no duplicates and contains exactly that owner's tokens -/
theorem enumerable_refines (cfg : Cfg) (now : Nat) (ops : List (List Nat × Op))
    (hf : FreshRunE cfg (NftEnum.init now) ops) (s : NftEnum.State)
    (hs : s = NftEnum.run cfg (NftEnum.init now) ops) :
    ((listOf s.gTok s.total).length = s.total ∧ (listOf s.gTok s.total).Nodup ∧
      ∀ t, t ∈ listOf s.gTok s.total ↔ (s.owner t).isSome = true) ∧
    (∀ a, (listOf (s.oTok a) (s.bal a)).length = s.bal a ∧ (listOf (s.oTok a) (s.bal a)).Nodup ∧
      ∀ t, t ∈ listOf (s.oTok a) (s.bal a) ↔ s.owner t = some a) := by
  subst hs
  obtain ⟨hi, _⟩ := run_einv cfg ops (init_einv now) (init_inv now) hf
  exact ⟨LOK_list hi.glob, fun a => LOK_list (hi.own a)⟩

open OZ.NftEnum in
/-- both index maps are the inverse functions of their lists: slot `i < total_supply` holds a token
whose global index is `i` and every existing token sits at its global index; likewise per owner -/
theorem enumerable_index_maps_inverse (cfg : Cfg) (now : Nat) (ops : List (List Nat × Op))
    (hf : FreshRunE cfg (NftEnum.init now) ops) (s : NftEnum.State)
    (hs : s = NftEnum.run cfg (NftEnum.init now) ops) :
    (∀ i, i < s.total → ∃ t, s.gTok i = some t ∧ s.gIdx t = some i ∧ (s.owner t).isSome = true) ∧
    (∀ t, (s.owner t).isSome = true → ∃ i, i < s.total ∧ s.gIdx t = some i ∧ s.gTok i = some t) ∧
    (∀ i, s.total ≤ i → s.gTok i = none) ∧
    (∀ a i, i < s.bal a → ∃ t, s.oTok a i = some t ∧ s.oIdx t = some i ∧ s.owner t = some a) ∧
    (∀ a t, s.owner t = some a → ∃ i, i < s.bal a ∧ s.oIdx t = some i ∧ s.oTok a i = some t) ∧
    (∀ a i, s.bal a ≤ i → s.oTok a i = none) := by
  subst hs
  obtain ⟨hi, _⟩ := run_einv cfg ops (init_einv now) (init_inv now) hf
  exact ⟨hi.glob.1, hi.glob.2.1, hi.glob.2.2, fun a => (hi.own a).1, fun a => (hi.own a).2.1,
    fun a => (hi.own a).2.2⟩

open OZ.NftEnum in
/-- balances count owned tokens in the enumerable flavour too -/
theorem enumerable_balance_counts (cfg : Cfg) (now : Nat) (ops : List (List Nat × Op))
    (hf : FreshRunE cfg (NftEnum.init now) ops) (a : Nat) :
    ∃ l : List Nat, l.Nodup ∧ (∀ t, t ∈ l ↔ (NftEnum.run cfg (NftEnum.init now) ops).owner t = some a) ∧
      l.length = (NftEnum.run cfg (NftEnum.init now) ops).bal a := by
  obtain ⟨_, L, hi⟩ := run_einv cfg ops (init_einv now) (init_inv now) hf
  exact hi.balance_counts a

open OZ.NftEnum in
/-- the enumerable flavour moves ownership exactly like the base flavour: every accepted call
acts on the base state as the same call on `Base` (so `base_moves_named_token`, `base_frame`
and `sequential_ids_never_reused` apply to it verbatim) -/
theorem enumerable_acts_as_base (cfg : Cfg) {s s' : NftEnum.State} {auth : List Nat} {op : Op} {r : Option Nat}
    (hi : EInv s) (hf : FreshOp s.toState op) (h : NftEnum.apply cfg s auth op = .ok (s', r)) :
    Nft.apply cfg s.toState auth op = .ok (s'.toState, r) :=
  -- true of every accepted call (`apply_base`): `hi` and `hf` are not needed
  apply_base cfg h

/-! ## consecutive flavour -/

open OZ.NftCons

def specRunC {β : Type} (B : BitOps β) (cfg : Cfg) :
    NftCons.State β → (Nat → Option Nat) → List (List Nat × Op) → (Nat → Option Nat)
  | _, spec, [] => spec
  | s, spec, x :: xs =>
    match NftCons.apply B cfg s x.1 x.2 with
    | .ok (s', _) => specRunC B cfg s' (NftCons.specStep spec s.nextId x.2) xs
    | .error _ => specRunC B cfg s spec xs

theorem run_ginv {β : Type} {B : BitOps β} {g : β → Nat → Bool} {W : β → Prop} (hI : Impl B g W)
    (cfg : Cfg) (ops : List (List Nat × Op)) {s : NftCons.State β} {spec : Nat → Option Nat}
    (hi : GInv g W s spec) : GInv g W (NftCons.run B cfg s ops) (specRunC B cfg s spec ops) := by
  induction ops generalizing s spec with
  | nil => exact hi
  | cons x xs ih =>
    show GInv g W (NftCons.run B cfg (NftCons.step B cfg s x) xs) _
    unfold NftCons.step specRunC
    cases h : NftCons.apply B cfg s x.1 x.2 with
    | error e => exact ih hi
    | ok p =>
      obtain ⟨s', r⟩ := p
      exact ih (apply_impl_step hI cfg hi h).1

/-- for EVERY id and EVERY history of batch_mint / transfer / transfer_from / burn / burn_from /
approve / approve_for_all / ledger movement, the bit-level `owner_of` (bucket scan + sparse
marks + burned set, exactly as coded) answers the plain ownership map: the owner for every
minted and not burned id, failure for every other id -/
theorem consecutive_owner_of (cfg : Cfg) (now : Nat) (ops : List (List Nat × Op)) (id : Nat) :
    (NftCons.ownerOf bitOps (NftCons.run bitOps cfg (NftCons.init noBuckets now) ops) id).toOption
      = specRunC bitOps cfg (NftCons.init noBuckets now) (fun _ => none) ops id :=
  ownerOf_impl_spec bitOps_impl (run_ginv bitOps_impl cfg ops (init_ginv now)) id

/-- `consecutive_owner_of` at the set level (`setOps`) -/
theorem consecutive_owner_of_set (cfg : Cfg) (now : Nat) (ops : List (List Nat × Op)) (id : Nat) :
    (NftCons.ownerOf setOps (NftCons.run setOps cfg (NftCons.init (fun _ => false) now) ops) id).toOption
      = specRunC setOps cfg (NftCons.init (fun _ => false) now) (fun _ => none) ops id := by
  have h0 : GInv (fun b => b) (fun _ => True) (NftCons.init (fun _ => false) now) (fun _ => none) :=
    ⟨CI_init, fun _ => rfl, trivial⟩
  exact ownerOf_impl_spec setOps_impl (run_ginv setOps_impl cfg ops h0) id

/-- balance(a) = number of ids below the counter that the plain map gives to a -/
theorem consecutive_balance_counts (cfg : Cfg) (now : Nat) (ops : List (List Nat × Op)) (a : Nat) :
    (NftCons.run bitOps cfg (NftCons.init noBuckets now) ops).bal a
      = cnt (List.range (NftCons.run bitOps cfg (NftCons.init noBuckets now) ops).nextId)
          (specRunC bitOps cfg (NftCons.init noBuckets now) (fun _ => none) ops) a :=
  (run_ginv bitOps_impl cfg ops (init_ginv now)).bal a

/-- one accepted call on a reachable state: the plain map changes by the plain rule only
(`specStep`: the batch interval, or the one named id), an accepted transfer / burn names the
current owner, and a batch of `n` issues exactly `[nextId, nextId + n)` and returns its last id -/
theorem consecutive_step (cfg : Cfg) {s s' : BState} {spec : Nat → Option Nat} {auth : List Nat} {op : Op}
    {r : Option Nat} (hi : GInv bitOf WFB s spec) (h : NftCons.apply bitOps cfg s auth op = .ok (s', r)) :
    GInv bitOf WFB s' (NftCons.specStep spec s.nextId op) ∧
    (∀ f id, op.moves = some (f, id) → spec id = some f) ∧
    (∀ to n, op = .batchMint to n → 1 ≤ n ∧ r = some (s.nextId + n - 1) ∧ s'.nextId = s.nextId + n) ∧
    ((∀ to n, op ≠ .batchMint to n) → s'.nextId = s.nextId) :=
  apply_impl_step bitOps_impl cfg hi h

/-- frame for the consecutive flavour: an accepted call on token `t` leaves the answer of
`owner_of` unchanged for every other id (and a batch only adds its own interval) -/
theorem consecutive_frame (cfg : Cfg) {s s' : BState} {spec : Nat → Option Nat} {auth : List Nat} {op : Op}
    {r : Option Nat} (hi : GInv bitOf WFB s spec) (h : NftCons.apply bitOps cfg s auth op = .ok (s', r))
    (t' : Nat) (hne : op.token ≠ some t') (hb : ∀ to n, op = .batchMint to n → t' < s.nextId) :
    (NftCons.ownerOf bitOps s' t').toOption = (NftCons.ownerOf bitOps s t').toOption := by
  obtain ⟨hi', _⟩ := apply_impl_step bitOps_impl cfg hi h
  rw [ownerOf_impl_spec bitOps_impl hi', ownerOf_impl_spec bitOps_impl hi]
  cases op with
  | batchMint to n =>
    have := hb to n rfl
    show (if s.nextId ≤ t' ∧ t' < s.nextId + n then some to else spec t') = spec t'
    rw [if_neg (by omega)]
  | transfer f t id | transferFrom sp f t id | burn f id | burnFrom sp f id =>
    exact upd_other _ _ _ _ (fun e => hne (by rw [e]; rfl))
  | mintSeq to | mint to id | approve ap a id lu | approveForAll o p lu | advance n => rfl

/-- the id ranges `[first, last]` issued by the accepted batch mints of a history, in order -/
def issuedRanges {β : Type} (B : BitOps β) (cfg : Cfg) : NftCons.State β → List (List Nat × Op) → List (Nat × Nat)
  | _, [] => []
  | s, x :: xs =>
    match NftCons.apply B cfg s x.1 x.2 with
    | .ok (s', r) =>
      (match x.2, r with | .batchMint _ _, some last => [(s.nextId, last)] | _, _ => []) ++ issuedRanges B cfg s' xs
    | .error _ => issuedRanges B cfg s xs

theorem issuedRanges_chain {β : Type} (B : BitOps β) (cfg : Cfg) (ops : List (List Nat × Op))
    (s : NftCons.State β) :
    Chain Prod.fst Prod.snd s.nextId (NftCons.run B cfg s ops).nextId (issuedRanges B cfg s ops) := by
  induction ops generalizing s with
  | nil => exact Chain.nil (Nat.le_refl _)
  | cons x xs ih =>
    show Chain Prod.fst Prod.snd s.nextId (NftCons.run B cfg (NftCons.step B cfg s x) xs).nextId
      (issuedRanges B cfg s (x :: xs))
    unfold issuedRanges NftCons.step
    cases h : NftCons.apply B cfg s x.1 x.2 with
    | error e => exact ih s
    | ok p =>
      obtain ⟨s', r⟩ := p
      obtain ⟨hbatch, hother⟩ := apply_counter B cfg h
      refine Chain.append ?_ (ih s')
      split
      · rename_i to n last hop
        obtain ⟨hn, hr, hnx⟩ := hbatch to n hop
        cases hr
        exact Chain.single (Nat.le_refl _) (by show s.nextId ≤ s.nextId + n - 1; omega)
          (by show s.nextId + n - 1 < s'.nextId; omega)
      · refine Chain.nil ?_
        by_cases hb : ∃ to n, x.2 = .batchMint to n
        · obtain ⟨to, n, hop⟩ := hb
          have := (hbatch to n hop).2.2; omega
        · exact Nat.le_of_eq (hother fun to n e => hb ⟨to, n, e⟩).symm

/-- batch ids are never reused: every batch starts exactly at the counter, ends below the next
batch's start, and the counter only grows (so burned ids never come back) -/
theorem batch_ids_never_reused (cfg : Cfg) (ops : List (List Nat × Op)) (s : BState) (spec : Nat → Option Nat)
    (hi : GInv bitOf WFB s spec) :
    (issuedRanges bitOps cfg s ops).Pairwise (fun a b => a.2 < b.1) ∧
    (∀ p ∈ issuedRanges bitOps cfg s ops, s.nextId ≤ p.1 ∧ p.1 ≤ p.2 ∧
      p.2 < (NftCons.run bitOps cfg s ops).nextId) ∧
    s.nextId ≤ (NftCons.run bitOps cfg s ops).nextId :=
  -- the counter moves the same way on every state (`apply_counter`): `hi` is not needed
  issuedRanges_chain bitOps cfg ops s

/-! ## bit level -/

/-- `find_bit_in_item` returns the least position `≥ start` (counted from the most significant
bit) whose bit is set, and `None` exactly when there is none -/
theorem find_bit_in_item_correct (num start : Nat) :
    (∀ p, findBitInItem (some num) start = some p ↔
      (start ≤ p ∧ p ≤ 31 ∧ num.testBit (31 - p) = true ∧
        ∀ q, start ≤ q → q < p → num.testBit (31 - q) = false)) ∧
    (findBitInItem (some num) start = none ↔ ∀ q, start ≤ q → q ≤ 31 → num.testBit (31 - q) = false) :=
  ⟨fun _ => findBitInItem_some, findBitInItem_none⟩

/-- `find_bit_in_bucket` returns the least set position `≥ start` across the items of a bucket -/
theorem find_bit_in_bucket_correct (b : List Nat) (start : Nat) :
    (∀ p, findBitInBucket b start = some p ↔
      (start ≤ p ∧ p < b.length * 32 ∧ bitB b p = true ∧ ∀ q, start ≤ q → q < p → bitB b q = false)) ∧
    (findBitInBucket b start = none ↔ ∀ q, start ≤ q → q < b.length * 32 → bitB b q = false) :=
  ⟨fun _ => findBitInBucket_some, findBitInBucket_none⟩

/-- the whole scan of `owner_of` (start bucket from the token's relative position, later
buckets from 0, missing buckets skipped) returns the least set ownership bit at or above
`token_id` up to the end of the last bucket — the same answer as the set-level scan -/
theorem find_bit_correct (bk : Buckets) (hw : WFB bk) (id last : Nat) (hle : id ≤ last) :
    findInBuckets bk id last = findFrom (bitOf bk) id ((last / 3200 + 1) * 3200) :=
  (findInBuckets_spec hw hle).eq_iff.mpr (findFrom_spec _ _ _)

/-- the bit layer refines the set layer: on well-formed buckets (100 items each) the coded scan
equals the set-level scan over `[token_id, nextId)` whenever no bit is set at or above the
counter, and the coded `set_ownership_in_bucket` never hits its `expect`, keeps the buckets
well-formed and adds exactly the bit of `token_id` to the abstract set. Since the contract
logic is ONE definition over these two operations, every set-level theorem above holds at the
bit level (`consecutive_owner_of` is stated for the bit level). -/
theorem bit_layer_refines_set_layer :
    (∀ bk id n, WFB bk → id < n → (∀ i, bitOf bk i = true → i < n) →
      bitOps.find bk id (n - 1) = setOps.find (bitOf bk) id (n - 1)) ∧
    (∀ bk id, WFB bk → ∃ bk', bitOps.set bk id = some bk' ∧ WFB bk' ∧
      setOps.set (bitOf bk) id = some (bitOf bk')) := by
  refine ⟨?_, ?_⟩
  · intro bk id n hw hlt hbl
    exact (bitOps_impl.find bk id n hw hlt hbl).trans (setOps_impl.find (bitOf bk) id n trivial hlt hbl).symm
  · intro bk id hw
    obtain ⟨bk', h1, h2, h3⟩ := bitOps_impl.set bk id hw
    refine ⟨bk', h1, h2, ?_⟩
    show some (upd (bitOf bk) id true) = some (bitOf bk')
    rw [h3]

/-- run-level refinement: for EVERY history the bit-level contract and the set-level contract
accept and reject exactly the same calls and stay related — same balances, approvals,
operators, counter and ledger, same owner marks, same burned set, and the set-level bits are
the abstraction `bitOf` of the buckets (which stay well-formed, with no bit at or above the
counter). Hence every getter answers the same at both levels. -/
theorem bit_layer_run_refines_set_layer (cfg : Cfg) (now : Nat) (ops : List (List Nat × Op))
    (sB : BState) (sS : SState)
    (hB : sB = NftCons.run bitOps cfg (NftCons.init noBuckets now) ops)
    (hS : sS = NftCons.run setOps cfg (NftCons.init (fun _ => false) now) ops) :
    sS.toCore = sB.toCore ∧ sS.mark = sB.mark ∧ sS.burned = sB.burned ∧ sS.bits = bitOf sB.bits ∧
    WFB sB.bits ∧ (∀ i, bitOf sB.bits i = true → i < sB.nextId) ∧
    (∀ id, NftCons.ownerOf bitOps sB id = NftCons.ownerOf setOps sS id) := by
  subst hB; subst hS
  have h0 : SR bitOf WFB (NftCons.init noBuckets now) (NftCons.init (fun _ => false) now) :=
    ⟨rfl, rfl, rfl, rfl, WFB_empty, fun i hi => by cases hi⟩
  have h := run_sim bitOps_impl cfg ops h0
  exact ⟨h.core, h.mark, h.burned, h.bits, h.wf, h.lt, fun id => ownerOf_sim bitOps_impl h id⟩

/-- one call: both layers accept / reject together and return the same value -/
theorem bit_layer_call_refines_set_layer (cfg : Cfg) {sB : BState} {sS : SState}
    (h : SR bitOf WFB sB sS) (auth : List Nat) (op : Op) :
    RelE (fun p p' => SR bitOf WFB p.1 p'.1 ∧ p.2 = p'.2)
      (NftCons.apply bitOps cfg sB auth op) (NftCons.apply setOps cfg sS auth op) :=
  apply_sim bitOps_impl cfg h auth op

/-! ## no spurious failures -/

/-- base flavour, any state whose balances count owned tokens (`Inv`, every reachable state under
the fresh-id hypothesis): transfer / transfer_from / burn / burn_from succeed iff `MoveOK` —
authorization, `from` is the owner, approval for a spender, and (transfers) the recipient's
balance `checked_add`; the `checked_sub` on the sender's balance can never fire -/
theorem base_op_succeeds_iff (cfg : Cfg) {L : List Nat} {s : Nft.State} {auth : List Nat} {op : Op}
    (hi : Inv L s) (hm : op.moves.isSome = true) :
    (∃ p, Nft.apply cfg s auth op = .ok p) ↔ MoveOK s.toCore s.owner auth op :=
  Nft.apply_move_iff cfg hi.owner_pos hm

/-- enumerable flavour, any state with well-formed lists (`EInv`, every reachable state):
`remove_from_owner_enumeration`, `remove_from_global_enumeration`, `add_to_owner_enumeration`
and the total-supply decrement never hit their error branches, so the call succeeds iff the
same `Base`-level conditions hold -/
theorem enumerable_op_succeeds_iff (cfg : Cfg) {s : NftEnum.State} {auth : List Nat} {op : Op}
    (hi : NftEnum.EInv s) (hm : op.moves.isSome = true) :
    (∃ p, NftEnum.apply cfg s auth op = .ok p) ↔ MoveOK s.toCore s.owner auth op :=
  (NftEnum.apply_move_iff_base cfg hi hm).trans (Nft.apply_move_iff cfg hi.owner_pos hm)

/-- consecutive flavour (bit level), any state related to a plain map (`GInv`, every reachable
state): the owner scan finds the owner of every minted, unburned id, previous-token marking and
the bucket updates never fail, so the call succeeds iff the conditions hold over the plain map -/
theorem consecutive_op_succeeds_iff (cfg : Cfg) {s : BState} {spec : Nat → Option Nat} {auth : List Nat}
    {op : Op} (hi : GInv bitOf WFB s spec) (hm : op.moves.isSome = true) :
    (∃ p, NftCons.apply bitOps cfg s auth op = .ok p) ↔ MoveOK s.toCore spec auth op :=
  NftCons.apply_move_iff bitOps_impl cfg hi hm

/-- minting fails only where the code's u32 `checked_add`s (counter, balance, total supply) and, for
`batch_mint`, its two bounds on the amount say so -/
theorem mint_succeeds_iff :
    (∀ (s : Nft.State) (to : Nat), (∃ p, Nft.sequentialMint s to = .ok p) ↔
      (s.nextId + 1 ≤ U32_MAX ∧ s.bal to + 1 ≤ U32_MAX)) ∧
    (∀ (s : NftEnum.State) (to : Nat), (∃ p, NftEnum.sequentialMint s to = .ok p) ↔
      (s.nextId + 1 ≤ U32_MAX ∧ s.bal to + 1 ≤ U32_MAX ∧ s.total + 1 ≤ U32_MAX)) ∧
    (∀ (s : BState) (to n : Nat), WFB s.bits → ((∃ p, NftCons.batchMint bitOps s to n = .ok p) ↔
      (1 ≤ n ∧ n ≤ MAX_TOKENS_IN_BATCH ∧ s.nextId + n ≤ U32_MAX ∧ s.bal to + n ≤ U32_MAX))) :=
  ⟨fun _ _ => Nft.sequentialMint_iff, fun _ _ => NftEnum.sequentialMint_iff,
   fun _ _ _ hw => NftCons.batchMint_iff bitOps_impl hw⟩

/-- the invariants used above hold on every reachable state of each flavour -/
theorem reachable_states_satisfy_invariants (cfg : Cfg) (now : Nat) (ops : List (List Nat × Op)) :
    (FreshRun cfg (Nft.init now) ops → ∃ L, Inv L (Nft.run cfg (Nft.init now) ops)) ∧
    (FreshRunE cfg (NftEnum.init now) ops → NftEnum.EInv (NftEnum.run cfg (NftEnum.init now) ops)) ∧
    GInv bitOf WFB (NftCons.run bitOps cfg (NftCons.init noBuckets now) ops)
      (specRunC bitOps cfg (NftCons.init noBuckets now) (fun _ => none) ops) :=
  ⟨fun hf => run_inv cfg ops (init_inv now) hf,
   fun hf => (run_einv cfg ops (NftEnum.init_einv now) (init_inv now) hf).1,
   run_ginv bitOps_impl cfg ops (init_ginv now)⟩

/-! ## non-vacuity -/

/-- a concrete history reaches a non-trivial state; the next example: it is a `FreshRun` -/
example : (Nft.run ⟨1, 1000⟩ (Nft.init 10)
    [([], .mintSeq 1), ([], .mint 2 77), ([1], .transfer 1 3 0), ([2], .burn 2 77)]).owner 0 = some 3 := by
  decide

example : FreshRun ⟨1, 1000⟩ (Nft.init 10)
    [([], .mintSeq 1), ([], .mint 2 77), ([1], .transfer 1 3 0), ([2], .burn 2 77)] := by
  refine ⟨by decide, by decide, by decide, by decide, trivial⟩

example : (NftEnum.run ⟨1, 1000⟩ (NftEnum.init 10)
    [([], .mintSeq 1), ([], .mintSeq 1), ([], .mintSeq 2), ([1], .burn 1 0)]).gTok 0 = some 2 := by
  decide

example : (NftCons.ownerOf bitOps (NftCons.run bitOps ⟨1, 1000⟩ (NftCons.init noBuckets 10)
    [([], .batchMint 1 40), ([1], .transfer 1 2 33), ([1], .burn 1 31)]) 32).toOption = some 1 := by
  decide

example : (NftCons.ownerOf bitOps (NftCons.run bitOps ⟨1, 1000⟩ (NftCons.init noBuckets 10)
    [([], .batchMint 1 40), ([1], .transfer 1 2 33), ([1], .burn 1 31)]) 31).toOption = none := by
  decide

example : findBitInItem (some 0b00010100) 28 = some 29 := by decide

/-- a third-party burn_from on the enumerable flavour (spender 2 approved for token 0, owner 1
holding three tokens) succeeds and compacts the OWNER's list -/
example : ((NftEnum.run ⟨1, 1000⟩ (NftEnum.init 10)
    [([], .mintSeq 1), ([], .mintSeq 1), ([], .mintSeq 1), ([1], .approve 1 2 0 50),
     ([2], .burnFrom 2 1 0)]).oTok 1 0,
   (NftEnum.run ⟨1, 1000⟩ (NftEnum.init 10)
    [([], .mintSeq 1), ([], .mintSeq 1), ([], .mintSeq 1), ([1], .approve 1 2 0 50),
     ([2], .burnFrom 2 1 0)]).bal 1) = (some 2, 2) := by decide

/-- the conditions of `MoveOK` on a concrete reachable state: owner 1 may transfer token 0, a
stranger may not -/
example : MoveOK (Nft.run ⟨1, 1000⟩ (Nft.init 10) [([], .mintSeq 1)]).toCore
    (Nft.run ⟨1, 1000⟩ (Nft.init 10) [([], .mintSeq 1)]).owner [1] (.transfer 1 3 0) := by
  refine ⟨by decide, by decide, by decide⟩

example : ¬ MoveOK (Nft.run ⟨1, 1000⟩ (Nft.init 10) [([], .mintSeq 1)]).toCore
    (Nft.run ⟨1, 1000⟩ (Nft.init 10) [([], .mintSeq 1)]).owner [4] (.transfer 1 3 0) := by
  rintro ⟨h, _⟩; revert h; decide

end OZ.C10
