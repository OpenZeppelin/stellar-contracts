import OZ.Lemmas.Timelock
/-
C08 — A timelocked operation runs once, only after its delay and its predecessor.

The model (OZ/Model/Timelock.lean) mirrors
packages/governance/src/timelock/storage.rs. Operation ids are the tuples
(target, function, args, predecessor, salt) themselves (`Id.op`), i.e. `hash_operation` is
an abstract injective function (collision resistance of Keccak-256 over the XDR encoding is
assumed; the correspondence checks id-equality ⇔ tuple-equality on all generated pairs).

All statements are universally quantified over every state satisfying the invariant `Inv`
(in particular every state reachable from `init now`, `2 ≤ now ≤ u32::MAX`, through ANY finite
list of schedule / set_execute / execute / cancel / set_min_delay / advance calls with
arbitrary arguments, accepted or rejected), i.e. under the regime the property states:
ledger sequence ≥ 2. `sentinels_need_ledger_ge_two` shows that this hypothesis is necessary.

The ghost log (`State.log`, newest first) records the accepted schedule / cancel / execute
calls; `execute_requires_history` states the property purely over histories, with no ghost state.
-/
namespace OZ.Timelock
open OZ.Host

/-- same five fields ⇔ same id (definitional in the model; observed on the implementation) -/
theorem id_is_a_function (a b : Operation) : a.id = b.id ↔ a = b := by
  constructor
  · intro h
    cases a; cases b
    simp only [Operation.id] at h
    injection h with h1 h2 h3 h4 h5
    subst h1; subst h2; subst h3; subst h4; subst h5; rfl
  · intro h; rw [h]

/-- an operation id is never the "no predecessor" marker, and never its own predecessor -/
theorem id_ne_zero_ne_pred (a : Operation) : a.id ≠ Id.zero ∧ a.id ≠ a.pred := by
  refine ⟨(by intro h; cases h), ?_⟩
  intro h
  have : sizeOf a.id = sizeOf a.pred := by rw [h]
  simp only [Operation.id, Id.op.sizeOf_spec] at this
  omega

/-- every state reachable at ledgers ≥ 2 satisfies the invariant -/
theorem inv_reachable {now : Nat} (h2 : 2 ≤ now) (hm : now ≤ U32_MAX) (ops : List Op) :
    Inv (run (init now) ops) := run_inv (init_inv h2 hm) ops

/-- An accepted `set_execute_operation` (hence `execute_operation`) of `op` at ledger `now`:
the log holds an accepted schedule of exactly this id at some ledger `l` with delay `d` and the
minimum delay `m ≤ d` then in force; nothing about this id (no cancel, no execution, no
re-schedule) was accepted since; the delay has fully elapsed (`l + d ≤ now`, or the saturated
corner `l + d > u32::MAX ∧ now = u32::MAX`); the predecessor is zero or has been executed;
and the id was never executed before. -/
theorem execute_requires {s s' : State} (hi : Inv s) {op : Operation}
    (h : setExecute s op = .ok s') :
    ∃ newer older l d m,
      s.log = newer ++ Ev.sched op.id l d m :: older ∧
      (∀ e ∈ newer, e.id ≠ op.id) ∧
      m ≤ d ∧ 2 ≤ l ∧ l ≤ s.now ∧
      elapsed l d s.now ∧
      (op.pred = Id.zero ∨ ghost s.log op.pred = .done) ∧
      (∀ l', Ev.exec op.id l' ∉ s.log) := by
  obtain ⟨⟨h2, hn, hp⟩, _⟩ := setExecute_iff.mp h
  obtain ⟨l, d, m, hg, hv, hmd, hl2, hln⟩ := (hi.coh op.id).ledger_ge_two h2
  obtain ⟨newer, older, hlog, hnew⟩ := ghost_pending_split hg
  refine ⟨newer, older, l, d, m, hlog, hnew, hmd, hl2, hln, ?_, ?_, ?_⟩
  · rw [hv] at hn; exact (satAdd_le_iff_elapsed hi.nowHi).mp hn
  · rcases hp with hz | h1
    · exact Or.inl hz
    · exact Or.inr ((hi.coh op.pred).of_one hi.nowHi h1)
  · apply execCount_zero_iff.mp
    have := hi.cnt op.id
    rw [if_neg (by omega)] at this
    exact this

/-- the same over histories, for `execute_operation` -/
theorem execute_requires_run {now : Nat} (h2 : 2 ≤ now) (hm : now ≤ U32_MAX) (ops : List Op)
    {op : Operation} {ok : Bool} {s' : State}
    (h : execute (run (init now) ops) op ok = .ok s') :
    ∃ newer older l d m,
      (run (init now) ops).log = newer ++ Ev.sched op.id l d m :: older ∧
      (∀ e ∈ newer, e.id ≠ op.id) ∧
      m ≤ d ∧ 2 ≤ l ∧ l ≤ (run (init now) ops).now ∧
      elapsed l d (run (init now) ops).now ∧
      (op.pred = Id.zero ∨ ghost (run (init now) ops).log op.pred = .done) ∧
      (∀ l', Ev.exec op.id l' ∉ (run (init now) ops).log) := by
  obtain ⟨s1, h1, _, _⟩ := execute_iff.mp h
  exact execute_requires (inv_reachable h2 hm ops) h1

example : (setExecute (run (init 100)
    [.setMinDelay 5, .schedule ⟨7, 0, [1], Id.zero, 0⟩ 5, .advance 5]) ⟨7, 0, [1], Id.zero, 0⟩).toBool = true := by
  decide
example : (setExecute (run (init 100)
    [.setMinDelay 5, .schedule ⟨7, 0, [1], Id.zero, 0⟩ 5, .advance 4]) ⟨7, 0, [1], Id.zero, 0⟩).toBool = false := by
  decide
/-- the saturated corner is reachable: scheduled near the end of the u32 range -/
example : (setExecute (run (init 4294967290)
    [.setMinDelay 0, .schedule ⟨7, 0, [], Id.zero, 0⟩ 4294967295, .advance 5]) ⟨7, 0, [], Id.zero, 0⟩).toBool = true := by
  decide

/-! ### the ghost log is the history -/

/-- every log entry of a run was produced by an accepted call of the history: the history
splits as `pre ++ x :: post`, `x` was accepted in the state after `pre`, and the entry is what
`x` logs there -/
theorem log_entry_has_cause (s0 : State) (ops : List Op) (e : Ev) (h : e ∈ (run s0 ops).log) :
    e ∈ s0.log ∨ ∃ pre x post s1, ops = pre ++ x :: post ∧
      apply (run s0 pre) x = .ok s1 ∧ logged (run s0 pre) x = some e := by
  rw [run_log, List.mem_append] at h
  exact h.symm.imp_right mem_events.mp

/-- a schedule entry of the log is faithful: it was produced by an accepted
`schedule_operation(op, d)` with `op.id` the entry's id — hence, ids being injective, of
exactly that operation tuple —, at ledger `l`, when the minimum delay in force was `m` -/
theorem sched_entry_faithful {s s1 : State} {x : Op} {id : Id} {l d m : Nat}
    (ha : apply s x = .ok s1) (hl : logged s x = some (.sched id l d m)) :
    ∃ op, x = .schedule op d ∧ op.id = id ∧ s.now = l ∧ s.minDelay = some m ∧ m ≤ d := by
  cases x with
  | schedule op d' =>
    obtain ⟨m', hm, hmd, _, _⟩ := schedule_iff.mp ha
    simp only [logged, hm, Option.getD_some, Option.some.injEq, Ev.sched.injEq] at hl
    obtain ⟨h1, h2, h3, h4⟩ := hl
    subst h1; subst h2; subst h3; subst h4
    exact ⟨op, rfl, rfl, rfl, hm, hmd⟩
  | setExecute op => simp [logged] at hl
  | execute op ok => simp [logged] at hl
  | cancel i => simp [logged] at hl
  | setMinDelay d' => simp [logged] at hl
  | advance n => simp [logged] at hl

/-- **The property over histories, without any ghost state.** If, after ANY finite history
`ops` started at a ledger ≥ 2, `set_execute_operation(op)` is accepted, then the history
splits as `pre ++ schedule(op, d) :: post` where
* that schedule — of exactly this operation tuple — was accepted in the state after `pre`,
* the minimum delay in force there was `m ≤ d`,
* the delay has fully elapsed since the ledger of that call (or the saturated corner),
* no call accepted in `post` concerns this id (no cancel, no execution, no re-schedule),
* the predecessor is zero or some accepted call of the history executed it,
* no accepted call of the history ever executed this id. -/
theorem execute_requires_history {now : Nat} (h2 : 2 ≤ now) (hm : now ≤ U32_MAX) (ops : List Op)
    {op : Operation} {s' : State} (h : setExecute (run (init now) ops) op = .ok s') :
    ∃ pre post d m s1,
      ops = pre ++ Op.schedule op d :: post ∧
      schedule (run (init now) pre) op d = .ok s1 ∧
      (run (init now) pre).minDelay = some m ∧ m ≤ d ∧
      elapsed (run (init now) pre).now d (run (init now) ops).now ∧
      (∀ p1 y p2 s2 e, post = p1 ++ y :: p2 → apply (run s1 p1) y = .ok s2 →
          logged (run s1 p1) y = some e → e.id ≠ op.id) ∧
      (op.pred = Id.zero ∨ ∃ p1 y p2 s2 l, ops = p1 ++ y :: p2 ∧
          apply (run (init now) p1) y = .ok s2 ∧ logged (run (init now) p1) y = some (.exec op.pred l)) ∧
      (∀ p1 y p2 s2 l, ops = p1 ++ y :: p2 → apply (run (init now) p1) y = .ok s2 →
          logged (run (init now) p1) y ≠ some (.exec op.id l)) := by
  obtain ⟨newer, older, l, d, m, hlog, hnew, hmd, _, _, hel, hpred, hnever⟩ :=
    execute_requires (inv_reachable h2 hm ops) h
  -- the log of a run from `init` is what the history logged
  have hev : (run (init now) ops).log = events (init now) ops := (run_log _ ops).trans (List.append_nil _)
  rw [hev] at hlog hpred hnever
  obtain ⟨pre, x, post, s1, hsplit, hacc, hlg, hnw⟩ := events_split hlog
  obtain ⟨op', hx, hid, hnow, hmin, _⟩ := sched_entry_faithful hacc hlg
  obtain rfl := (id_is_a_function op' op).mp hid
  subst hx
  refine ⟨pre, post, d, m, s1, hsplit, hacc, hmin, hmd, hnow ▸ hel, ?_, ?_, ?_⟩
  · intro p1 y p2 s2 e hp hay hly
    exact hnew e (hnw ▸ mem_events.mpr ⟨p1, y, p2, s2, hp, hay, hly⟩)
  · refine hpred.imp_right fun hd => ?_
    obtain ⟨l', hmem⟩ := ghost_done_mem hd
    obtain ⟨p1, y, p2, s2, hc⟩ := mem_events.mp hmem
    exact ⟨p1, y, p2, s2, l', hc⟩
  · intro p1 y p2 s2 l' hp hay hly
    exact hnever l' (mem_events.mpr ⟨p1, y, p2, s2, hp, hay, hly⟩)

/-! ### done is final; at most one execution -/

/-- once an id is Done: scheduling, executing and cancelling it are rejected, and whatever is
called afterwards (any finite list of calls) it is still reported Done -/
theorem done_is_final (s : State) (id : Id) (h : getOperationState s id = .done) :
    (∀ op d, op.id = id → ∃ e, schedule s op d = .error e) ∧
    (∀ op, op.id = id → ∃ e, setExecute s op = .error e) ∧
    (∀ op ok, op.id = id → ∃ e, execute s op ok = .error e) ∧
    (∃ e, cancel s id = .error e) ∧
    ∀ ops, getOperationState (run s ops) id = .done := by
  have h1 : s.ledger id = 1 := stateOf_done.mp h
  refine ⟨?_, ?_, ?_, ?_, ?_⟩
  · intro op d hid
    cases hs : schedule s op d with
    | error e => exact ⟨e, rfl⟩
    | ok s' => obtain ⟨_, _, _, h0, _⟩ := schedule_iff.mp hs; rw [hid] at h0; omega
  · intro op hid
    cases hs : setExecute s op with
    | error e => exact ⟨e, rfl⟩
    | ok s' => obtain ⟨⟨h2, _⟩, _⟩ := setExecute_iff.mp hs; rw [hid] at h2; omega
  · intro op ok hid
    cases hs : execute s op ok with
    | error e => exact ⟨e, rfl⟩
    | ok s' =>
      obtain ⟨s1, hs1, _, _⟩ := execute_iff.mp hs
      obtain ⟨⟨h2, _⟩, _⟩ := setExecute_iff.mp hs1; rw [hid] at h2; omega
  · cases hs : cancel s id with
    | error e => exact ⟨e, rfl⟩
    | ok s' => obtain ⟨h2, _⟩ := cancel_iff.mp hs; omega
  · intro ops
    exact stateOf_done.mpr (run_ledger_one h1 ops)

example : getOperationState (run (init 100)
    [.setMinDelay 0, .schedule ⟨7, 0, [], Id.zero, 0⟩ 0, .execute ⟨7, 0, [], Id.zero, 0⟩ true])
    (Operation.id ⟨7, 0, [], Id.zero, 0⟩) = .done := by decide

/-- in every reachable state the log holds at most one execution per id, and exactly one iff
the id is reported Done -/
theorem executed_at_most_once {s : State} (hi : Inv s) (id : Id) :
    execCount s.log id ≤ 1 ∧ (execCount s.log id = 1 ↔ getOperationState s id = .done) := by
  have := hi.cnt id
  by_cases h1 : s.ledger id = 1
  · rw [if_pos h1] at this
    exact ⟨by omega, fun _ => stateOf_done.mpr h1, fun _ => this⟩
  · rw [if_neg h1] at this
    refine ⟨by omega, fun h => by omega, fun h => absurd (stateOf_done.mp h) h1⟩

/-! ### the reported state machine -/

/-- the only moves of a reported operation state -/
inductive Move : OpState → OpState → Prop
  | stay (a : OpState) : Move a a
  | scheduleWaiting : Move .unset .waiting
  | scheduleReady : Move .unset .ready
  | time : Move .waiting .ready
  | cancelWaiting : Move .waiting .unset
  | cancelReady : Move .ready .unset
  | execute : Move .ready .done

/-- At ledgers ≥ 2 one call (accepted or rejected, any arguments) changes the reported state of
an id only along Unset → Waiting | Ready (an accepted schedule of that id), Waiting → Ready (the
ledger advanced), Waiting | Ready → Unset (an accepted cancel of that id), Ready → Done (an
accepted execution of that id). -/
theorem state_machine (s : State) (h2 : 2 ≤ s.now) (x : Op) (id : Id)
    (hne : getOperationState s id ≠ getOperationState (step s x) id) :
    match x with
    | .schedule op _ => op.id = id ∧ getOperationState s id = .unset ∧
        (getOperationState (step s x) id = .waiting ∨ getOperationState (step s x) id = .ready)
    | .setExecute op => op.id = id ∧ getOperationState s id = .ready ∧
        getOperationState (step s x) id = .done
    | .execute op _ => op.id = id ∧ getOperationState s id = .ready ∧
        getOperationState (step s x) id = .done
    | .cancel i => i = id ∧ (getOperationState s id = .waiting ∨ getOperationState s id = .ready) ∧
        getOperationState (step s x) id = .unset
    | .setMinDelay _ => False
    | .advance _ => getOperationState s id = .waiting ∧ getOperationState (step s x) id = .ready := by
  unfold step at hne ⊢
  cases h : apply s x with
  | error e => rw [h] at hne; exact absurd rfl hne
  | ok s' =>
    rw [h] at hne
    simp only at hne ⊢
    cases apply_iff.mp h with
    | setMinDelay d => exact hne rfl
    | advance hn =>
      rcases stateOf_advance (s.ledger id) (Nat.le_add_right s.now _) with e | ⟨hw, hr, _⟩
      · exact absurd e.symm hne
      · exact ⟨hw, hr⟩
    | @write _ i v e w =>
      -- only the id written can change its reported state
      have hi : i = id := Decidable.byContradiction fun hi => hne (by
        show _ = stateOf (updId s.ledger i v id) s.now
        rw [updId_other _ _ _ _ (Ne.symm hi)]; rfl)
      subst hi
      have hs := w.states h2
      cases w <;> simp only [getOperationState, getOperationLedger, updId_same] <;> exact ⟨trivial, hs⟩

/-- corollary: every step is one of the seven allowed moves -/
theorem state_machine_moves (s : State) (h2 : 2 ≤ s.now) (x : Op) (id : Id) :
    Move (getOperationState s id) (getOperationState (step s x) id) := by
  by_cases hne : getOperationState s id = getOperationState (step s x) id
  · rw [← hne]; exact Move.stay _
  · have h := state_machine s h2 x id hne
    cases x with
    | schedule op d =>
      obtain ⟨_, hb, ha | ha⟩ := h
      · rw [hb, ha]; exact Move.scheduleWaiting
      · rw [hb, ha]; exact Move.scheduleReady
    | setExecute | execute => obtain ⟨_, hb, ha⟩ := h; rw [hb, ha]; exact Move.execute
    | cancel i =>
      obtain ⟨_, hb | hb, ha⟩ := h
      · rw [hb, ha]; exact Move.cancelWaiting
      · rw [hb, ha]; exact Move.cancelReady
    | setMinDelay d => exact False.elim h
    | advance n => obtain ⟨hb, ha⟩ := h; rw [hb, ha]; exact Move.time

/-! ### the reported state is the state of the history -/

/-- In every reachable state `get_operation_state`, `get_operation_ledger` and the four
predicates report exactly what the ghost log says: Unset iff the last accepted call about the
id is a cancel (or there is none), Done iff it is an execution, otherwise (scheduled at `l`
with delay `d`) Ready iff the delay has elapsed and Waiting iff not. -/
theorem state_reported_correctly {s : State} (hi : Inv s) (id : Id) :
    getOperationState s id = ghostState (ghost s.log id) s.now ∧
    getOperationLedger s id = (match ghost s.log id with
      | .unset => 0 | .done => 1 | .pending l d _ => satAdd l d) ∧
    (operationExists s id = true ↔ ghost s.log id ≠ .unset) ∧
    (isOperationPending s id = true ↔ ∃ l d m, ghost s.log id = .pending l d m) ∧
    (isOperationReady s id = true ↔ ∃ l d m, ghost s.log id = .pending l d m ∧ elapsed l d s.now) ∧
    (isOperationDone s id = true ↔ ghost s.log id = .done) := by
  rw [operationExists_iff, isOperationPending_iff, isOperationReady_iff, isOperationDone_iff, hi.state_eq]
  exact ⟨rfl, (hi.coh id).ledger_eq, not_congr ghostState_unset, ghostState_pending, ghostState_ready, ghostState_done⟩

/-! ### the target is called once per execution -/

/-- an accepted `execute_operation` calls the target exactly once, with exactly the scheduled
function and arguments, after the operation has been marked done -/
theorem target_called_once_per_execute {s s' : State} {op : Operation} {ok : Bool}
    (h : execute s op ok = .ok s') :
    s'.calls = (op.target, op.fn, op.args) :: s.calls ∧ getOperationState s' op.id = .done := by
  obtain ⟨s1, h1, _, rfl⟩ := execute_iff.mp h
  obtain ⟨_, rfl⟩ := setExecute_iff.mp h1
  exact ⟨rfl, state_done.mpr (updId_same _ _ _)⟩

/-- nothing else ever calls a target: a rejected call and every call other than an accepted
`execute_operation` leave the call log alone -/
theorem target_called_only_by_execute (s : State) (x : Op) :
    (step s x).calls = s.calls ∨
      ∃ op s', x = .execute op true ∧ execute s op true = .ok s' ∧
        (step s x).calls = (op.target, op.fn, op.args) :: s.calls := by
  unfold step
  cases h : apply s x with
  | error e => exact Or.inl rfl
  | ok s' =>
    cases apply_iff.mp h with
    | write w => cases w <;> first | exact Or.inl rfl | exact Or.inr ⟨_, _, rfl, h, rfl⟩
    | setMinDelay d => exact Or.inl rfl
    | advance hn => exact Or.inl rfl

/-! ### completeness: a call succeeds exactly under the coded conditions -/

/-- `schedule_operation` succeeds iff the id is Unset and the delay is at least the minimum
delay in force (which must be set) -/
theorem schedule_succeeds_iff (s : State) (op : Operation) (d : Nat) :
    (∃ s', schedule s op d = .ok s') ↔
      getOperationState s op.id = .unset ∧ ∃ m, s.minDelay = some m ∧ m ≤ d := by
  simp only [schedule_iff, state_unset]
  exact ⟨fun ⟨_, m, hm, hd, h0, _⟩ => ⟨h0, m, hm, hd⟩, fun ⟨h0, m, hm, hd⟩ => ⟨_, m, hm, hd, h0, rfl⟩⟩

/-- `set_execute_operation` succeeds iff the operation is Ready and its predecessor is zero or Done -/
theorem execute_succeeds_iff (s : State) (op : Operation) :
    (∃ s', setExecute s op = .ok s') ↔
      getOperationState s op.id = .ready ∧ (op.pred = Id.zero ∨ getOperationState s op.pred = .done) := by
  simp only [setExecute_iff, state_ready, state_done, exists_and_left, exists_eq, and_true, and_assoc]

/-- `execute_operation` succeeds iff moreover the target accepts the call -/
theorem execute_call_succeeds_iff (s : State) (op : Operation) (ok : Bool) :
    (∃ s', execute s op ok = .ok s') ↔
      getOperationState s op.id = .ready ∧ (op.pred = Id.zero ∨ getOperationState s op.pred = .done) ∧
        ok = true := by
  rw [← and_assoc, ← execute_succeeds_iff]
  simp only [execute_iff]
  exact ⟨fun ⟨_, s1, h1, hok, _⟩ => ⟨⟨s1, h1⟩, hok⟩, fun ⟨⟨s1, h1⟩, hok⟩ => ⟨_, s1, h1, hok, rfl⟩⟩

/-- `cancel_operation` succeeds iff the operation is pending (Waiting or Ready) -/
theorem cancel_succeeds_iff (s : State) (id : Id) :
    (∃ s', cancel s id = .ok s') ↔
      getOperationState s id = .waiting ∨ getOperationState s id = .ready := by
  simp only [cancel_iff, state_pending, exists_and_left, exists_eq, and_true]

/-- the same in terms of the history (ghost log), in every reachable state: scheduling succeeds
iff the last accepted call about the id is a cancel or there is none, and the delay suffices -/
theorem schedule_succeeds_iff_history {s : State} (hi : Inv s) (op : Operation) (d : Nat) :
    (∃ s', schedule s op d = .ok s') ↔
      ghost s.log op.id = .unset ∧ ∃ m, s.minDelay = some m ∧ m ≤ d := by
  rw [schedule_succeeds_iff, hi.state_eq, ghostState_unset]

/-- `set_execute_operation` succeeds iff the log holds an accepted schedule of
the id with nothing about it accepted since (`ghost = pending l d m`), the delay `d` has elapsed
since ledger `l`, and the predecessor is zero or was executed -/
theorem execute_succeeds_iff_history {s : State} (hi : Inv s) (op : Operation) :
    (∃ s', setExecute s op = .ok s') ↔
      (∃ l d m, ghost s.log op.id = .pending l d m ∧ elapsed l d s.now) ∧
      (op.pred = Id.zero ∨ ghost s.log op.pred = .done) := by
  rw [execute_succeeds_iff, hi.state_eq, hi.state_eq, ghostState_ready, ghostState_done]

/-- **converse of `execute_requires`**: an operation that was scheduled (with a delay the schedule call
accepted), has not been cancelled or executed since, whose delay has elapsed and whose predecessor is zero
or executed CAN be executed -/
theorem can_execute {s : State} (hi : Inv s) {op : Operation} {newer older : List Ev} {l d m : Nat}
    (hlog : s.log = newer ++ Ev.sched op.id l d m :: older) (hnew : ∀ e ∈ newer, e.id ≠ op.id)
    (hel : elapsed l d s.now) (hp : op.pred = Id.zero ∨ ghost s.log op.pred = .done) :
    ∃ s', setExecute s op = .ok s' :=
  (execute_succeeds_iff_history hi op).mpr ⟨⟨l, d, m, ghost_of_split hlog hnew, hel⟩, hp⟩

/-- cancelling succeeds iff the last accepted call about the id is a schedule -/
theorem cancel_succeeds_iff_history {s : State} (hi : Inv s) (id : Id) :
    (∃ s', cancel s id = .ok s') ↔ ∃ l d m, ghost s.log id = .pending l d m := by
  rw [cancel_succeeds_iff, hi.state_eq, ghostState_pending]

/-- non-vacuity: after the minimum delay is set, an unset operation can be scheduled with exactly
that delay and not with one ledger less; it can be cancelled; once the delay is over it can be
executed, and not one ledger earlier -/
example : (schedule (run (init 100) [.setMinDelay 5]) ⟨7, 0, [1], Id.zero, 0⟩ 5).toBool = true ∧
    (schedule (run (init 100) [.setMinDelay 5]) ⟨7, 0, [1], Id.zero, 0⟩ 4).toBool = false ∧
    (cancel (run (init 100) [.setMinDelay 5, .schedule ⟨7, 0, [1], Id.zero, 0⟩ 5])
      (Operation.id ⟨7, 0, [1], Id.zero, 0⟩)).toBool = true ∧
    (setExecute (run (init 100) [.setMinDelay 5, .schedule ⟨7, 0, [1], Id.zero, 0⟩ 5, .advance 5])
      ⟨7, 0, [1], Id.zero, 0⟩).toBool = true ∧
    (setExecute (run (init 100) [.setMinDelay 5, .schedule ⟨7, 0, [1], Id.zero, 0⟩ 5, .advance 4])
      ⟨7, 0, [1], Id.zero, 0⟩).toBool = false := by decide
/-- a predecessor that is scheduled but not executed blocks; once executed it does not -/
example : (setExecute (run (init 100) [.setMinDelay 0, .schedule ⟨7, 0, [], Id.zero, 0⟩ 0,
      .schedule ⟨7, 0, [], Operation.id ⟨7, 0, [], Id.zero, 0⟩, 1⟩ 0])
      ⟨7, 0, [], Operation.id ⟨7, 0, [], Id.zero, 0⟩, 1⟩).toBool = false ∧
    (setExecute (run (init 100) [.setMinDelay 0, .schedule ⟨7, 0, [], Id.zero, 0⟩ 0,
      .schedule ⟨7, 0, [], Operation.id ⟨7, 0, [], Id.zero, 0⟩, 1⟩ 0, .setExecute ⟨7, 0, [], Id.zero, 0⟩])
      ⟨7, 0, [], Operation.id ⟨7, 0, [], Id.zero, 0⟩, 1⟩).toBool = true := by decide

/-! ### why ledgers 0 and 1 are excluded -/

/-- At ledger 1 an accepted schedule with delay 0 stores the ready ledger 1 = `DONE_LEDGER`:
the operation is reported Done although nothing was ever executed. At ledger 0, delay 1 does
the same and delay 0 stores 0 = `UNSET_LEDGER` (the accepted schedule is invisible and can be
repeated). So the hypothesis `2 ≤ now` of the theorems above is necessary. -/
theorem sentinels_need_ledger_ge_two :
    (getOperationState (run (init 1) [.setMinDelay 0, .schedule ⟨7, 0, [], Id.zero, 0⟩ 0])
        (Operation.id ⟨7, 0, [], Id.zero, 0⟩) = .done ∧
      execCount (run (init 1) [.setMinDelay 0, .schedule ⟨7, 0, [], Id.zero, 0⟩ 0]).log
        (Operation.id ⟨7, 0, [], Id.zero, 0⟩) = 0) ∧
    getOperationState (run (init 0) [.setMinDelay 0, .schedule ⟨7, 0, [], Id.zero, 0⟩ 1])
        (Operation.id ⟨7, 0, [], Id.zero, 0⟩) = .done ∧
    (getOperationState (run (init 0) [.setMinDelay 0, .schedule ⟨7, 0, [], Id.zero, 0⟩ 0])
        (Operation.id ⟨7, 0, [], Id.zero, 0⟩) = .unset ∧
      (run (init 0) [.setMinDelay 0, .schedule ⟨7, 0, [], Id.zero, 0⟩ 0]).log.length = 1) := by
  decide

end OZ.Timelock
