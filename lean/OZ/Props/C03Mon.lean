import OZ.Lemmas.SmartAccountMonCheck
import OZ.Lemmas.SmartAccountMonFp
/-
C03 — soundness of the MONITOR that decides the property on implementation traces.

`./check C03` reports a concrete violation exactly when `OZ.SmartAccount.Mon.checkCore` (the
driver's monitor on parsed values, OZ/Model/SmartAccountMon.lean) returns a message on the
implementation's observations (or a line does not parse). Here it is proved that on the
observations of the MODEL the monitor never returns a message, for every sequence label (start
ledger, constructor signers and policies), and every finite history of op lines — any scripting
of the mock verifiers / policies, any ledger movement, any management operation (accepted or
rejected), any `check` / `e2e` with any signature map, delegated authorizations and context batch
(`monitor_accepts_every_model_trace`). Consequences:

  * an implementation whose observations agree with the model's (the correspondence the check
    establishes by differential testing) can never raise a monitor alarm — a monitor failure is
    never a false alarm of the monitor itself;
  * every conclusion the monitor evaluates is a THEOREM about the model in the monitor's own
    executable wording (its own rule list, candidates recomputed by filtering and SORTING):
      accepted check:  c03.sound.signature (every supplied signature verifies),
                       c03.sound.verified (the verifier was asked for exactly the supplied external signatures),
                       c03.sound.uncovered (every context has a first satisfied live candidate),
                       c03.foreign (a policy only ever sees rule signers ∩ supplied),
                       c03.sound.enforce (enforce calls = policies of the first satisfied rules, in order, once per context),
                       c03.precedence (can_enforce questions in precedence order, stopping at the first satisfied rule);
      rejected check:  c03.complete (rejected only if a signature fails, a context is uncovered, or a hook's budget refuses),
                       c03.foreign;
      every line:      c03.getters (get_context_rules per type, get_context_rule per id, count = the accepted management history),
                       c03.limits (15 rules / 15 signers / 5 policies / non-empty), c03.idle.changed (ledger moves change nothing);
      accepted management op: c03.fingerprint.duplicate (no two rules with the same type, signer set, policy set).

`modelObs` (OZ/Model/SmartAccountMon.lean) is the same data the model side of the driver prints
(`stepLine` = `obsLine` of `mstep`: ok / err, id, now, log, `showStore` = Count, the ids
0 .. NextId+1, `get_context_rules` of the seven types of the universe).

Not covered (string level, in the driver OZ/Drv/C03.lean): `parseMOp` / `parseObs` / `parseLabel`
(site c03.parse), the `flagged` bit for lines containing `!` / `?`, and the treatment of log entries
that are not in canonical form (`LEv.other`).
-/
namespace OZ.SmartAccount.Mon
open OZ.SmartAccount

/-- monitor state and model state describe the same point of a history: the monitor's own rule
list is the list of all stored rules by ascending id; the mock tables are the same -/
structure Agree (m : Mon) (st : St) : Prop where
  rules : m.rules = allRules st.s
  mocks : m.mocks = st.mocks

/-- the invariants of a reachable model state: the storage invariant `Inv` (OZ/Lemmas/SmartAccount.lean) and the
fingerprint invariant `FpInv` (OZ/Lemmas/SmartAccountMonFp.lean) -/
structure Good (st : St) : Prop where
  inv : Inv st.s
  fp : FpInv st.s

/-- the part the eight management op lines share. `hcore`: on such a line `checkCore` moves the ghost list by
`ghostApply` if the observation says `ok` and answers `mgmtVerdict`; `hstep`: if the model accepts the operation, it is
a `Step` whose ghost change is that `ghostApply` (for the observation carrying the model's id) -/
theorem mgmt_sound {m : Mon} {st : St} (hG : Good st) (ha : Agree m st) (op : MOp) (r : Except Err Store)
    (id : Option Nat) (log : List LEv)
    (hcore : ∀ o, checkCore m op o =
      ({ rules := if o.ok then ghostApply m.rules op o else m.rules, now := o.now, mocks := m.mocks },
       mgmtVerdict (if o.ok then ghostApply m.rules op o else m.rules) o))
    (hstep : ∀ s' o, r = .ok s' → o.id = id → Step st.s (ghostApply · op o) s') :
    Good (mgmtRes st r id log).1 ∧
    (checkCore m op (modelObs (mgmtRes st r id log).1 (mgmtRes st r id log).2)).2 = none ∧
    Agree (checkCore m op (modelObs (mgmtRes st r id log).1 (mgmtRes st r id log).2)).1 (mgmtRes st r id log).1 := by
  rw [hcore]
  cases r with
  | error e =>
    have hok : (modelObs (mgmtRes st (.error e) id log).1 (mgmtRes st (.error e) id log).2).ok = false := rfl
    rw [hok]
    simp only [Bool.false_eq_true, if_false]
    refine ⟨hG, ?_, ha.rules, ha.mocks⟩
    unfold mgmtVerdict
    rw [ha.rules, hok]
    show firstSome (getterCheck (allRules st.s) (modelObs st _)) _ = none
    rw [getterCheck_quiet hG.inv]; rfl
  | ok s' =>
    have hok : (modelObs (mgmtRes st (.ok s') id log).1 (mgmtRes st (.ok s') id log).2).ok = true := rfl
    have hs := hstep s' (modelObs (mgmtRes st (.ok s') id log).1 (mgmtRes st (.ok s') id log).2) rfl rfl
    have hI' := hs.inv hG.inv
    have hF' := hs.fpInv hG.fp
    rw [hok]
    simp only [if_true]
    rw [ha.rules, ← hs.ghost]
    refine ⟨⟨hI', hF'⟩, ?_, rfl, ha.mocks⟩
    unfold mgmtVerdict
    rw [hok]
    show firstSome (getterCheck (allRules s') (modelObs { st with s := s' } _)) _ = none
    rw [getterCheck_quiet (st := { st with s := s' }) hI', if_pos rfl, fingerprintCheck_quiet hF']
    rfl

theorem step_sound {m : Mon} {st : St} (hG : Good st) (ha : Agree m st) (op : MOp) :
    Good (mstep st op).1 ∧
    (checkCore m op (modelObs (mstep st op).1 (mstep st op).2)).2 = none ∧
    Agree (checkCore m op (modelObs (mstep st op).1 (mstep st op).2)).1 (mstep st op).1 := by
  cases op with
  | setter u =>
    refine ⟨⟨hG.inv, hG.fp⟩, ?_, ha.rules, ?_⟩
    · show getterCheck m.rules (modelObs { st with mocks := applySetter st.mocks u } _) = none
      rw [ha.rules]; exact getterCheck_quiet (st := { st with mocks := applySetter st.mocks u }) hG.inv _
    · show applySetter m.mocks u = applySetter st.mocks u
      rw [ha.mocks]
  | ledger seq =>
    refine ⟨⟨hG.inv, hG.fp⟩, ?_, ha.rules, ha.mocks⟩
    show idleMsg _ (getterCheck m.rules (modelObs { st with now := seq.getD st.now } _)) = none
    rw [ha.rules, getterCheck_quiet (st := { st with now := seq.getD st.now }) hG.inv]; rfl
  | check sigs auth ctxs =>
    have hI := hG.inv
    show Good (checkRes st _ _).1 ∧
      (checkCore m (.check sigs auth ctxs) (modelObs (checkRes st _ _).1 (checkRes st _ _).2)).2 = none ∧
      Agree (checkCore m (.check sigs auth ctxs) (modelObs (checkRes st _ _).1 (checkRes st _ _).2)).1 (checkRes st _ _).1
    have hmon : ({ m with now := st.now } : Mon) = { rules := allRules st.s, now := st.now, mocks := st.mocks } := by
      rw [← ha.rules, ← ha.mocks]
    cases hd : doCheckAuth (oracleOf st.mocks auth) st.s st.now sigs ctxs with
    | error e =>
      unfold checkRes
      dsimp only
      refine ⟨hG, ?_, ha.rules, ?_⟩
      · show firstSome (checkAuthMon { m with now := st.now } sigs auth ctxs _) (getterCheck m.rules (modelObs st _)) = none
        rw [hmon, checkAuthMon_quiet hI st.now st.mocks sigs auth ctxs _ (by rw [hd]; rfl) rfl, ha.rules,
          getterCheck_quiet hI]
        rfl
      · show m.mocks.spend [] = st.mocks
        rw [ha.mocks]; rfl
    | ok calls =>
      unfold checkRes
      dsimp only
      refine ⟨⟨hI, hG.fp⟩, ?_, ha.rules, ?_⟩
      · show firstSome (checkAuthMon { m with now := st.now } sigs auth ctxs _)
          (getterCheck m.rules (modelObs { st with mocks := st.mocks.spend (calls.map (·.policy)) } _)) = none
        rw [hmon, checkAuthMon_quiet hI st.now st.mocks sigs auth ctxs _ (by rw [hd]; rfl) rfl, ha.rules,
          getterCheck_quiet (st := { st with mocks := st.mocks.spend (calls.map (·.policy)) }) hI]
        rfl
      · show m.mocks.spend (((((checkTrace (oracleOf st.mocks auth) st.s st.now sigs ctxs).1.filterMap toLEv).filter LEv.isE).filterMap polOfLEv))
          = st.mocks.spend (calls.map (·.policy))
        rw [log_enforce_ok hI hd, pols_of_enforce_log, ha.mocks]
  | add t vu sg pm =>
    show Good (addRes st _).1 ∧
      (checkCore m (.add t vu sg pm) (modelObs (addRes st _).1 (addRes st _).2)).2 = none ∧
      Agree (checkCore m (.add t vu sg pm) (modelObs (addRes st _).1 (addRes st _).2)).1 (addRes st _).1
    cases h : addContextRule st.s st.now t 0 vu sg pm (fun p => !(st.mocks.pol p).installTrap) with
    | error e => exact mgmt_sound hG ha _ (.error e) none [] (fun _ => rfl) nofun
    | ok p =>
      obtain ⟨s', r⟩ := p
      -- the observation of an accepted `add` carries the new id
      exact mgmt_sound hG ha _ (.ok s') (some r.id) _ (fun _ => rfl)
        (fun _ o e hid => Except.ok.inj e ▸ (show Step st.s (ghostAdd · o.id t vu sg pm) s' from hid ▸ addContextRule_step h))
  | rm id => exact mgmt_sound hG ha _ _ _ _ (fun _ => rfl) (fun _ _ h _ => removeContextRule_step h)
  | vu id vu => exact mgmt_sound hG ha _ _ _ _ (fun _ => rfl) (fun _ _ h _ => updateValidUntil_step h)
  | name id => exact mgmt_sound hG ha _ _ _ _ (fun _ => rfl) (fun _ _ h _ => updateName_step h)
  | adds id x => exact mgmt_sound hG ha _ _ _ _ (fun _ => rfl) (fun _ _ h _ => addSigner_step h)
  | rms id x => exact mgmt_sound hG ha _ _ _ _ (fun _ => rfl) (fun _ _ h _ => removeSigner_step hG.inv h)
  | addp id p => exact mgmt_sound hG ha _ _ _ _ (fun _ => rfl) (fun _ _ h _ => addPolicy_step h)
  | rmp id p => exact mgmt_sound hG ha _ _ _ _ (fun _ => rfl) (fun _ _ h _ => removePolicy_step hG.inv h)

/-- every op line keeps the model state good -/
theorem mstep_good {st : St} (hG : Good st) (op : MOp) : Good (mstep st op).1 :=
  (step_sound hG (m := { rules := allRules st.s, now := st.now, mocks := st.mocks }) ⟨rfl, rfl⟩ op).1

/-- **one line**: fed with the model's own observation of any op line, the monitor reports nothing
and its state keeps describing the model's -/
theorem monitor_sound_step {m : Mon} {st : St} (hG : Good st) (ha : Agree m st) (op : MOp) :
    (checkCore m op (modelObs (mstep st op).1 (mstep st op).2)).2 = none ∧
    Agree (checkCore m op (modelObs (mstep st op).1 (mstep st op).2)).1 (mstep st op).1 :=
  (step_sound hG ha op).2

/-! ### the start of a sequence -/

/-- the initial monitor state `monInit` (the driver's `minit`, on the parsed label) describes the initial
model state `initSt` (the driver's `initM`) -/
theorem init_agree (start : Nat) (s0 : List Signer) (p0 : List Nat) :
    Good (initSt start s0 p0) ∧ Agree (monInit s0 p0) (initSt start s0 p0) := by
  obtain ⟨hok, herr⟩ := ctor_result start s0 p0
  have hrules : (monInit s0 p0).rules
      = if ctorOk s0 p0 = true then [⟨0, .default, none, s0, sortDedup p0⟩] else [] := rfl
  by_cases hc : ctorOk s0 p0 = true
  · obtain ⟨s', r, h, hid⟩ := hok hc
    have hst : initSt start s0 p0 = ⟨s', start, {}⟩ := by unfold initSt; rw [h]; rfl
    rw [hst]
    have hs := addContextRule_step h
    refine ⟨⟨hs.inv inv_empty, hs.fpInv fpInv_empty⟩, ?_, rfl⟩
    rw [hrules, if_pos hc]
    show _ = allRules s'
    rw [hs.ghost, hid, allRules_empty]
    rfl
  · have hc' : ctorOk s0 p0 = false := by simpa using hc
    obtain ⟨e, h⟩ := herr hc'
    have hst : initSt start s0 p0 = ⟨Store.empty, start, {}⟩ := by unfold initSt; rw [h]; rfl
    rw [hst]
    refine ⟨⟨inv_empty, fpInv_empty⟩, ?_, rfl⟩
    rw [hrules, if_neg hc]
    rfl

/-! ### whole traces -/

/-- the monitor run over a whole history of model observations: first message, if any -/
def monitorRun : Mon → St → List MOp → Option String
  | _, _, [] => none
  | m, st, op :: ops =>
    match (checkCore m op (modelObs (mstep st op).1 (mstep st op).2)).2 with
    | some msg => some msg
    | none => monitorRun (checkCore m op (modelObs (mstep st op).1 (mstep st op).2)).1 (mstep st op).1 ops

/-- from any reachable point (any good model state and any monitor state agreeing with it) the monitor
reports nothing on the model's observations of any finite history of op lines -/
theorem monitor_accepts_from (m : Mon) (st : St) (hG : Good st) (ha : Agree m st) (ops : List MOp) :
    monitorRun m st ops = none := by
  induction ops generalizing m st with
  | nil => rfl
  | cons op ops ih =>
    obtain ⟨hG', h1, h2⟩ := step_sound hG ha op
    unfold monitorRun
    rw [h1]
    exact ih _ _ hG' h2

/-- **monitor soundness**: for every sequence label (start ledger, constructor signers and policies
— valid or not) and every finite history of op lines, the monitor reports nothing on the model's
observations -/
theorem monitor_accepts_every_model_trace (start : Nat) (s0 : List Signer) (p0 : List Nat) (ops : List MOp) :
    monitorRun (monInit s0 p0) (initSt start s0 p0) ops = none :=
  monitor_accepts_from _ _ (init_agree start s0 p0).1 (init_agree start s0 p0).2 ops

/-! ### an initial ghost list that always holds rule 0 raises an alarm on a model trace

`legacyMonInit` puts rule 0 into the ghost list whatever the label. For the label `s0=- p0=-` (a constructor
call the account rejects: no signer and no policy) the model starts from the empty store; on the
model's observation of the very first line (here `sa ledger`) a monitor started from `legacyMonInit`
reports `site=c03.idle.changed … was=c03.getters get_context_rules disagree with the accepted
management history`, an alarm on a MODEL trace, while `monInit` is silent. (Outside the harness
universe: every label the harness writes has a valid constructor call.) -/

theorem legacy_minit_false_alarm :
    (checkCore (legacyMonInit [] []) (.ledger none)
      (modelObs (mstep (initSt 100 [] []) (.ledger none)).1 (mstep (initSt 100 [] []) (.ledger none)).2)).2.isSome = true ∧
    (checkCore (monInit [] []) (.ledger none)
      (modelObs (mstep (initSt 100 [] []) (.ledger none)).1 (mstep (initSt 100 [] []) (.ledger none)).2)).2 = none := by
  constructor
  · decide +kernel
  · exact (monitor_sound_step (m := monInit [] []) (init_agree 100 [] []).1 (init_agree 100 [] []).2 (.ledger none)).1

/-! ### non-vacuity: the monitor is not trivially silent -/

/-- rule 0 = Default {d0}; a check with d0's signature but WITHOUT d0's authorization is reported accepted -/
example :
    (checkCore (monInit [.delegated 0] []) (.check [(.delegated 0, 1)] [] [.call 0 0])
      ⟨true, none, 100, [], 1, [(0, .default)], [⟨0, .default, none, [.delegated 0], []⟩], false⟩).2.isSome = true := by
  decide +kernel

/-- the same check with the authorization, but a stranger's signature set: no rule is satisfied -/
example :
    (checkCore (monInit [.delegated 0] []) (.check [(.delegated 1, 1)] [1] [.call 0 0])
      ⟨true, none, 100, [], 1, [(0, .default)], [⟨0, .default, none, [.delegated 0], []⟩], false⟩).2.isSome = true := by
  decide +kernel

/-- a rejected check although d0 signed and authorized and rule 0 covers the context -/
example :
    (checkCore (monInit [.delegated 0] []) (.check [(.delegated 0, 1)] [0] [.call 0 0])
      ⟨false, none, 100, [], 1, [(0, .default)], [⟨0, .default, none, [.delegated 0], []⟩], false⟩).2.isSome = true := by
  decide +kernel

/-- a getter that lost the rule -/
example :
    (checkCore (monInit [.delegated 0] []) (.ledger (some 101)) ⟨true, none, 101, [], 1, [(0, .default)], [], false⟩).2.isSome = true := by
  decide +kernel

end OZ.SmartAccount.Mon
