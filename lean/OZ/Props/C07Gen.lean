import OZ.Gen.RoleTransfer
import OZ.Lemmas.RoleTransferGen
/-
C07 — the two-step handshake primitives, on the code generated from the SOURCE on every run.

`lean/OZ/Gen/RoleTransfer.lean` is regenerated by `/verif/tools/rs2lean.py --role-transfer` (state-passing
mode) from /repo's `packages/access/src/role_transfer/storage.rs`: `transfer_role` and
`accept_transfer`.  The pending entry lives in TEMPORARY storage and its lifetime IS the mechanism, so here
the generated store carries the entry WITH its `liveUntil` and the host's rules for `get` / `set` /
`extend_ttl` of a temporary entry are those of the hand-written host model (OZ/Model/Host.lean `Temp.get?`,
`Temp.set`, `Temp.extend`, through OZ/Model/RustSemHost.lean `tempExtend`).  The generic key parameters
`pending_key` / `active_key` are the two fields `Pending` / `Active` of the store.

For every host configuration with a minimum temporary lifetime of at least one ledger, every store, ledger,
authorization predicate, invitee and deadline, the GENERATED `transfer_role` is the model's
`OZ.RoleTransfer.transferRole` and the generated `accept_transfer` the model's `acceptTransfer` — same
acceptance, same resulting pending entry (value and lifetime) and holder; `gen_accept_sound` and `gen_offer_range`
are read off the generated code directly.
-/
namespace OZ.Gen.RoleTransfer
open OZ.Rs OZ.Host

def cfgOf (envr : RoleTransfer.Reads) : Cfg := ⟨envr.min_temp_ttl, envr.max_ttl⟩

def Abs (envr : RoleTransfer.Reads) (st : RoleTransfer.Store) (s : OZ.RoleTransfer.State) : Prop :=
  s.pending = st.Pending ∧ s.holder = st.Active ∧ s.now = envr.ledger_sequence

/-- **generated = model** for `transfer_role` (offer, replacement, cancellation) -/
theorem transfer_role_eq (envr : RoleTransfer.Reads) (st : RoleTransfer.Store) (s : OZ.RoleTransfer.State)
    (hA : Abs envr st s) (hmin : 1 ≤ envr.min_temp_ttl) (new lu : Nat) :
    match OZ.RoleTransfer.transferRole (cfgOf envr) s new lu with
    | .ok s' => ∃ st', RoleTransfer.transfer_role envr st new lu = .ok ((), st') ∧ Abs envr st' s'
    | .error _ => ((RoleTransfer.transfer_role envr st new lu).bind fun _ => Comp.ok ()) = .panic := by
  obtain ⟨hp, hh, hn⟩ := hA
  have hg := OZ.RoleTransfer.Gen.transferRoleC_eq (cfgOf envr) hmin s new lu
    fun p => Comp.ok ((), (⟨p, st.Active⟩ : RoleTransfer.Store))
  rw [hp, hn] at hg
  change RoleTransfer.transfer_role envr st new lu = _ at hg
  rw [hg]
  cases hx : OZ.RoleTransfer.transferRole (cfgOf envr) s new lu with
  | error e => rfl
  | ok s' =>
    obtain ⟨h1, h2⟩ := OZ.RoleTransfer.transferRole_frame hx
    exact ⟨_, rfl, rfl, h1.trans hh, h2.trans hn⟩

/-- **generated = model** for `accept_transfer`, the authorization predicate being membership in `auth` -/
theorem accept_transfer_eq (envr : RoleTransfer.Reads) (st : RoleTransfer.Store) (s : OZ.RoleTransfer.State)
    (hA : Abs envr st s) (auth : List Nat) (hauth : ∀ a, envr.authorized a = decide (a ∈ auth)) :
    match OZ.RoleTransfer.acceptTransfer s auth with
    | .ok (s', p) => ∃ st', RoleTransfer.accept_transfer envr st = .ok (p, st') ∧ Abs envr st' s'
    | .error _ => ((RoleTransfer.accept_transfer envr st).bind fun _ => Comp.ok ()) = .panic := by
  obtain ⟨hp, hh, hn⟩ := hA
  have hg := OZ.RoleTransfer.Gen.acceptTransferC_eq s auth envr.authorized hauth
    fun v => Comp.ok (v, (⟨none, some v⟩ : RoleTransfer.Store))
  rw [hp, hn] at hg
  change RoleTransfer.accept_transfer envr st = _ at hg
  rw [hg]
  cases hx : OZ.RoleTransfer.acceptTransfer s auth with
  | error e => rfl
  | ok r =>
    obtain ⟨-, -, h3⟩ := OZ.RoleTransfer.acceptTransfer_ok hx
    exact ⟨_, rfl, by rw [h3], by rw [h3], by rw [h3]; exact hn⟩

/-- **C07 on the source as translated**: an accepted `accept_transfer` needs a pending entry that is still
live at the current ledger, and the authorization of exactly the pending account; it becomes the holder and
the entry is gone -/
theorem gen_accept_sound (envr : RoleTransfer.Reads) (st st' : RoleTransfer.Store) (p : Nat)
    (h : RoleTransfer.accept_transfer envr st = .ok (p, st')) :
    (∃ e, st.Pending = some e ∧ e.val = p ∧ envr.ledger_sequence ≤ e.liveUntil) ∧
    envr.authorized p = true ∧ st'.Active = some p ∧ st'.Pending = none := by
  unfold RoleTransfer.accept_transfer at h
  cases hpd : st.Pending with
  | none => rw [hpd] at h; simp [Temp.get?] at h
  | some e =>
    rw [hpd] at h
    simp only [Temp.get?] at h
    by_cases hl : envr.ledger_sequence ≤ e.liveUntil
    · rw [if_pos hl] at h
      simp only [Comp.unwrap_some] at h
      by_cases ha : envr.authorized e.val = true
      · rw [if_pos ha] at h
        injection h with h'; injection h' with h1 h2
        subst h1
        refine ⟨⟨e, rfl, rfl, hl⟩, ha, ?_, ?_⟩ <;> rw [← h2] <;> rfl
      · rw [if_neg ha] at h; cases h
    · rw [if_neg hl] at h; simp at h

/-- an offer is refused when its deadline lies in the past or beyond the host's maximum -/
theorem gen_offer_range (envr : RoleTransfer.Reads) (st : RoleTransfer.Store) (new lu : Nat) (h0 : lu ≠ 0)
    (hb : lu < envr.ledger_sequence ∨ lu > (cfgOf envr).maxLiveUntil envr.ledger_sequence) :
    ((RoleTransfer.transfer_role envr st new lu).bind fun _ => Comp.ok ()) = .panic := by
  unfold RoleTransfer.transfer_role
  rw [if_neg h0]
  have : (lu > Cfg.maxLiveUntil (⟨envr.min_temp_ttl, envr.max_ttl⟩ : Cfg) envr.ledger_sequence) ∨ (lu < envr.ledger_sequence) := by
    rcases hb with h | h
    · exact Or.inr h
    · exact Or.inl h
  rw [if_pos this]; rfl

end OZ.Gen.RoleTransfer
