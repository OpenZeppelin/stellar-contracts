import OZ.Gen.Keys
import OZ.Lemmas.RegTwoWay
/-
C20 — the claim issuer's signing-key registry, re-checked on every run against the source.

`lean/OZ/Gen/Keys.lean` is regenerated by `/verif/tools/rs2lean.py --keys` (state-passing mode) from /repo's current
`packages/tokens/src/rwa/claim_issuer/storage.rs`: `get_keys_for_topic`, `is_key_allowed_for_topic`,
`is_key_allowed_for_registry`, `is_authorized_for`, `allow_key`, `remove_key` (+ `MAX_KEYS_PER_TOPIC`,
`MAX_REGISTRIES_PER_KEY` of `mod.rs`); the registry's `has_claim_topic` is a function of the reads record. No theorem
here or in C20GenKeysInv speaks of `is_authorized_for`.

The two membership getters are membership in the stored lists; `allow_key` is accepted EXACTLY
when the key is not empty, the registry lists this issuer for the topic, the topic's key list has room (or already
holds the key), the (topic, registry) pair is new for the key and the key has fewer than `MAX_REGISTRIES_PER_KEY` pairs
— in particular the 20th pair of a key IS accepted and the 21st is not (defect 7 of DESIGN section 8 is a length check
that refuses the 20th) — and it then appends the pair (and the key to the topic's list if it was not there), nothing
else.
-/
namespace OZ.Gen.Keys
open OZ.Rs

def topicKeys (st : Keys.Store) (t : Nat) : List Keys.SigningKey := (st.Topics t).getD []
def pairsOf (st : Keys.Store) (k : Keys.SigningKey) : List (Nat × Nat) := (st.Pairs k).getD []

theorem any_key_eq (l : List Keys.SigningKey) (pk : List Nat) (sc : Nat) :
    List.any l (fun k => decide (k.public_key = pk ∧ k.scheme = sc)) = decide ((⟨pk, sc⟩ : Keys.SigningKey) ∈ l) := by
  rw [Bool.eq_iff_iff, List.any_eq_true, decide_eq_true_iff]
  constructor
  · rintro ⟨⟨_, _⟩, hm, hd⟩
    obtain ⟨rfl, rfl⟩ := of_decide_eq_true hd
    exact hm
  · exact fun hm => ⟨_, hm, decide_eq_true ⟨rfl, rfl⟩⟩

theorem is_key_allowed_for_topic_eq (envr : Keys.Reads) (st : Keys.Store) (pk : List Nat) (sc t : Nat) :
    Keys.is_key_allowed_for_topic envr st pk sc t = .ok (decide ((⟨pk, sc⟩ : Keys.SigningKey) ∈ topicKeys st t)) := by
  unfold Keys.is_key_allowed_for_topic topicKeys
  cases st.Topics t with
  | none => rfl
  | some l => exact congrArg Comp.ok (any_key_eq l pk sc)

theorem is_key_allowed_for_registry_eq (envr : Keys.Reads) (st : Keys.Store) (pk : List Nat) (sc reg : Nat) :
    Keys.is_key_allowed_for_registry envr st pk sc reg =
      .ok (List.any (pairsOf st ⟨pk, sc⟩) (fun p => decide (p.2 = reg))) := by
  unfold Keys.is_key_allowed_for_registry pairsOf
  cases st.Pairs ⟨pk, sc⟩ <;> rfl

def allowed (st : Keys.Store) (pk : List Nat) (reg sc t : Nat) : Keys.Store :=
  let st1 := if (⟨pk, sc⟩ : Keys.SigningKey) ∈ topicKeys st t then st
    else Keys.Store.set_Topics st t (topicKeys st t ++ [⟨pk, sc⟩])
  Keys.Store.set_Pairs st1 ⟨pk, sc⟩ (pairsOf st ⟨pk, sc⟩ ++ [(t, reg)])

/-! ### storing a list the way the writers do: the entry is deleted when the list is empty -/

def storePairs (st : Keys.Store) (k : Keys.SigningKey) (l : List (Nat × Nat)) : Keys.Store :=
  if l.isEmpty then st.del_Pairs k else st.set_Pairs k l

def storeTopics (st : Keys.Store) (t : Nat) (l : List Keys.SigningKey) : Keys.Store :=
  if l.isEmpty then st.del_Topics t else st.set_Topics t l

theorem pairsOf_storePairs (st : Keys.Store) (k : Keys.SigningKey) (l : List (Nat × Nat)) :
    pairsOf (storePairs st k l) = Reg.updD (pairsOf st) k l := by
  cases l <;> exact funext fun _ => apply_ite (Option.getD · []) _ _ _

theorem topicKeys_storePairs (st : Keys.Store) (k : Keys.SigningKey) (l : List (Nat × Nat)) :
    topicKeys (storePairs st k l) = topicKeys st := by
  cases l <;> rfl

theorem topicKeys_storeTopics (st : Keys.Store) (t : Nat) (l : List Keys.SigningKey) :
    topicKeys (storeTopics st t l) = Reg.updD (topicKeys st) t l := by
  cases l <;> exact funext fun _ => apply_ite (Option.getD · []) _ _ _

theorem pairsOf_storeTopics (st : Keys.Store) (t : Nat) (l : List Keys.SigningKey) :
    pairsOf (storeTopics st t l) = pairsOf st := by
  cases l <;> rfl

theorem allowed_eq (st : Keys.Store) (pk : List Nat) (reg sc t : Nat) :
    allowed st pk reg sc t =
      storePairs (if (⟨pk, sc⟩ : Keys.SigningKey) ∈ topicKeys st t then st
        else storeTopics st t (topicKeys st t ++ [⟨pk, sc⟩])) ⟨pk, sc⟩ (pairsOf st ⟨pk, sc⟩ ++ [(t, reg)]) := by
  simp only [allowed, storePairs, storeTopics, List.isEmpty_iff, List.append_eq_nil_iff, reduceCtorEq, and_false,
    if_false]

theorem pairsOf_allowed (st : Keys.Store) (pk : List Nat) (reg sc t : Nat) :
    pairsOf (allowed st pk reg sc t) =
      Reg.updD (pairsOf st) ⟨pk, sc⟩ (pairsOf st ⟨pk, sc⟩ ++ [(t, reg)]) := by
  rw [allowed_eq, pairsOf_storePairs, apply_ite pairsOf, pairsOf_storeTopics, ite_self]

theorem topicKeys_allowed (st : Keys.Store) (pk : List Nat) (reg sc t : Nat) :
    topicKeys (allowed st pk reg sc t) = Reg.listKey (topicKeys st) ⟨pk, sc⟩ t := by
  rw [allowed_eq, topicKeys_storePairs, apply_ite topicKeys, topicKeys_storeTopics]
  rfl

/-- `if v.contains(&p) { panic } v.push_back(p); if v.len() > n { panic }` -/
theorem push_checked {α β : Type} (l : List α) (p : α) [Decidable (p ∈ l)] (n : Nat) (r : Comp β) :
    (if decide (p ∈ l) = true then .panic else if (l ++ [p]).length > n then .panic else r) =
      if p ∉ l ∧ l.length < n then r else .panic := by
  by_cases hm : p ∈ l
  · rw [if_pos (decide_eq_true hm), if_neg fun h => h.1 hm]
  · rw [if_neg (by rwa [decide_eq_true_eq]), List.length_append, List.length_singleton]
    by_cases hl : l.length < n
    · rw [if_neg (Nat.not_lt.2 hl), if_pos ⟨hm, hl⟩]
    · rw [if_pos (Nat.lt_succ_of_le (Nat.le_of_not_lt hl)), if_neg fun h => hl h.2]

/-- **`allow_key`, exactly** -/
theorem gen_allow_key_iff (envr : Keys.Reads) (st : Keys.Store) (pk : List Nat) (reg sc t : Nat) :
    Keys.allow_key envr st pk reg sc t =
      if pk ≠ [] ∧ envr.ClaimTopicsAndIssuersClient_has_claim_topic reg envr.current_contract_address t = .ok true ∧
          ((⟨pk, sc⟩ : Keys.SigningKey) ∈ topicKeys st t ∨ (topicKeys st t).length < 50) ∧
          (t, reg) ∉ pairsOf st ⟨pk, sc⟩ ∧ (pairsOf st ⟨pk, sc⟩).length < 20
      then .ok ((), allowed st pk reg sc t) else .panic := by
  unfold Keys.allow_key allowed
  by_cases he : pk = []
  · subst he
    exact (if_neg fun h => h.1 rfl).symm
  rw [if_neg (mt List.isEmpty_iff.1 he)]
  cases hh : envr.ClaimTopicsAndIssuersClient_has_claim_topic reg envr.current_contract_address t with
  | panic => exact (if_neg fun h => nomatch h.2.1).symm
  | ok b =>
    cases b with
    | false => exact (if_neg fun h => nomatch h.2.1).symm
    | true =>
      rw [Comp.bind_ok, if_pos rfl, is_key_allowed_for_topic_eq, Comp.bind_ok, push_checked, push_checked]
      by_cases hk : (⟨pk, sc⟩ : Keys.SigningKey) ∈ topicKeys st t
      · rw [if_pos (decide_eq_true hk), if_pos hk]
        exact ite_congr (propext ⟨fun h => ⟨he, rfl, Or.inl hk, h⟩, fun h => h.2.2.2⟩) (fun _ => rfl) (fun _ => rfl)
      · rw [if_neg (mt of_decide_eq_true hk), if_neg hk]
        by_cases hc : ((st.Topics t).getD []).length ≥ 50
        · rw [if_pos hc]
          exact (if_neg fun h => h.2.2.1.elim hk (Nat.not_lt.2 hc)).symm
        · rw [if_neg hc]
          -- the pair list read back after the topic write is the one read before it
          exact ite_congr (propext ⟨fun h => ⟨he, rfl, Or.inr (Nat.not_le.1 hc), h⟩, fun h => h.2.2.2⟩)
            (fun _ => rfl) (fun _ => rfl)

/-- **the documented capacity is reachable and not exceedable**: a key with 19 pairs accepts one more (the 20th), a key
with 20 pairs accepts none. A code that pushes and then tests `len ≥ MAX_REGISTRIES_PER_KEY` (defect 7 of DESIGN
section 8) refuses the 20th, and its translation fails the first half. -/
theorem gen_allow_key_twentieth_pair (envr : Keys.Reads) (st : Keys.Store) (pk : List Nat) (reg sc t : Nat)
    (hpk : pk ≠ []) (hreg : envr.ClaimTopicsAndIssuersClient_has_claim_topic reg envr.current_contract_address t = .ok true)
    (hk : (⟨pk, sc⟩ : Keys.SigningKey) ∈ topicKeys st t) (hnew : (t, reg) ∉ pairsOf st ⟨pk, sc⟩) :
    ((pairsOf st ⟨pk, sc⟩).length = 19 → ∃ st', Keys.allow_key envr st pk reg sc t = .ok ((), st') ∧
        (pairsOf st' ⟨pk, sc⟩).length = 20) ∧
    ((pairsOf st ⟨pk, sc⟩).length = 20 → Keys.allow_key envr st pk reg sc t = .panic) := by
  rw [gen_allow_key_iff]
  refine ⟨fun h19 => ?_, fun h20 => if_neg fun h => absurd h.2.2.2.2 (by omega)⟩
  rw [if_pos ⟨hpk, hreg, Or.inl hk, hnew, by omega⟩]
  refine ⟨_, rfl, ?_⟩
  rw [pairsOf_allowed, Reg.updD_same, List.length_append, h19]
  rfl

def envr0 : Keys.Reads := ⟨9, fun reg who t => .ok (reg == 4 && who == 9 && t == 1)⟩
def st0 : Keys.Store := ⟨fun _ => none, fun _ => none⟩

/-- non-vacuity: issuer 9 is listed for topic 1 at registry 4; key [7] is allowed there, a second time it is refused -/
example : ∃ st, Keys.allow_key envr0 st0 [7] 4 0 1 = .ok ((), st) ∧
    topicKeys st 1 = [⟨[7], 0⟩] ∧ pairsOf st ⟨[7], 0⟩ = [(1, 4)] ∧
    Keys.allow_key envr0 st [7] 4 0 1 = .panic ∧ Keys.allow_key envr0 st [7] 4 0 2 = .panic ∧
    Keys.is_key_allowed_for_topic envr0 st [7] 0 1 = .ok true :=
  ⟨_, rfl, by decide, by decide, by rfl, by rfl, by rfl⟩

end OZ.Gen.Keys
