import OZ.Gen.VotesF
import OZ.Lemmas.Votes
import OZ.Lemmas.Sim
/-
C13 — REFINEMENT of the vote-tracking library, re-checked on every run against what the SOURCE says now.

`lean/OZ/Gen/VotesF.lean` is regenerated by `/verif/tools/rs2lean.py --votes-full` (state-passing mode) from /repo's
current `packages/governance/src/votes/storage.rs`. The two small enums that only select storage keys and the
direction of a delta (`CheckpointType`, `CheckpointOp`) are specialized away BEFORE translation: every function that
takes one becomes one function per variant (`push_checkpoint_Account_Add`, …), every `match` on them is resolved,
and `checkpoint_storage_key` is inlined at its call sites.

Proved here: every generated state-changing entry point computes exactly the step of the hand model
(OZ/Model/Votes.lean) under the abstraction map `Abs` — accepted with the same successor state, refused together —,
the current-value getters read the model's values, and every finite history of generated calls and ledger movements
follows the model's history (`run_refines`). The binary search `lookup_checkpoint_at` is tied separately
(OZ/Props/C13Gen.lean).
-/
namespace OZ.Gen.VotesF
open OZ.Rs OZ.Host OZ.Votes

def toM (c : VotesF.Checkpoint) : OZ.Votes.Checkpoint := ⟨c.ledger, c.votes⟩

def tlOf (st : VotesF.Store) (a : Nat) : Timeline :=
  ⟨(st.NumCheckpoints a).getD 0, fun i => (st.DelegateCheckpoint a i).map toM⟩

def totOf (st : VotesF.Store) : Timeline :=
  ⟨(st.NumTotalSupplyCheckpoints).getD 0, fun i => (st.TotalSupplyCheckpoint i).map toM⟩

structure FrameA (st st' : VotesF.Store) (a : Nat) : Prop where
  others : ∀ b, b ≠ a → tlOf st' b = tlOf st b
  total : totOf st' = totOf st
  delegatee : st'.Delegatee = st.Delegatee
  units : st'.VotingUnits = st.VotingUnits

structure FrameT (st st' : VotesF.Store) : Prop where
  tls : ∀ b, tlOf st' b = tlOf st b
  delegatee : st'.Delegatee = st.Delegatee
  units : st'.VotingUnits = st.VotingUnits

def applyG (envr : VotesF.Reads) (st : VotesF.Store) : CheckpointOp → Nat → Nat → Comp Nat
  | .add => VotesF.apply_checkpoint_op_Add envr st
  | .sub => VotesF.apply_checkpoint_op_Sub envr st

theorem checked_add_eq (a b : Nat) : uN_checked_add 128 a b = if a + b ≤ U128_MAX then some (a + b) else none :=
  ite_congr (propext Nat.lt_succ_iff) (fun _ => rfl) fun _ => rfl

theorem applyG_eq (envr : VotesF.Reads) (st : VotesF.Store) (op : CheckpointOp) (p d : Nat) :
    applyG envr st op p d = Comp.ofExcept (applyOp p op d) := by
  cases op
  · show Comp.unwrap (uN_checked_add 128 p d) _ = Comp.ofExcept (if _ then _ else _)
    rw [checked_add_eq]; split <;> rfl
  · show Comp.unwrap (if d ≤ p then _ else _) _ = Comp.ofExcept (if _ then _ else _)
    split <;> rfl

/-- the text the four generated instances of `push_checkpoint` share, with what differs as parameters: the counter
`n` (already read), the read of an entry, the instance of `apply_checkpoint_op`, and the two writes (overwrite the
newest entry; write a new entry and the counter) -/
def pushG (now n : Nat) (get : Nat → Comp VotesF.Checkpoint) (ap : Nat → Comp Nat)
    (setCp : Nat → VotesF.Checkpoint → VotesF.Store) (setBoth : Nat → VotesF.Checkpoint → Nat → VotesF.Store) :
    Comp ((Nat × Nat) × VotesF.Store) :=
  if n > 0 then
    Comp.bind (uN_sub 32 n 1) fun t2 =>
    Comp.bind (get t2) fun t3 =>
    Comp.bind (ap (Option.elim (some t3) 0 (fun c => c.votes))) fun t5 =>
    optCase (some t3)
      (fun c =>
        if c.ledger = now then
          Comp.bind (uN_sub 32 n 1) fun t7 =>
          Comp.ok ((Option.elim (some t3) 0 (fun c => c.votes), t5), setCp t7 ⟨now, t5⟩)
        else
          Comp.bind (uN_add 32 n 1) fun t8 =>
          Comp.ok ((Option.elim (some t3) 0 (fun c => c.votes), t5), setBoth n ⟨now, t5⟩ t8))
      (Comp.bind (uN_add 32 n 1) fun t9 =>
        Comp.ok ((Option.elim (some t3) 0 (fun c => c.votes), t5), setBoth n ⟨now, t5⟩ t9))
  else
    Comp.bind (ap 0) fun t10 =>
    Comp.bind (uN_add 32 n 1) fun t11 =>
    Comp.ok ((0, t10), setBoth n ⟨now, t10⟩ t11)

theorem getCheckpoint_eq (t : Timeline) (i : Nat) : Comp.ofExcept (getCheckpoint t i) = Comp.ofOption (t.cp i) := by
  unfold getCheckpoint; cases t.cp i <;> rfl

theorem pushG_spec (now n : Nat) (cp : Nat → Option VotesF.Checkpoint) (op : CheckpointOp) (delta : Nat)
    (ap : Nat → Comp Nat) (hap : ∀ p, ap p = Comp.ofExcept (applyOp p op delta))
    (setCp : Nat → VotesF.Checkpoint → VotesF.Store) (setBoth : Nat → VotesF.Checkpoint → Nat → VotesF.Store)
    (Q : VotesF.Store → Timeline → Prop)
    (hCp : ∀ k v, Q (setCp k ⟨now, v⟩) ⟨n, upd (fun i => (cp i).map toM) k (some ⟨now, v⟩)⟩)
    (hBoth : ∀ k v m, Q (setBoth k ⟨now, v⟩ m) ⟨m, upd (fun i => (cp i).map toM) k (some ⟨now, v⟩)⟩) :
    Rs.Sim (fun b t => Q b.2 t)
      (pushG now n (fun i => optCase (cp i) (fun c => Comp.ok c) Comp.panic) ap setCp setBoth)
      (pushCheckpoint ⟨n, fun i => (cp i).map toM⟩ now op delta) := by
  rw [pushCheckpoint_eq]
  refine Sim.ite_not (c' := n = 0) Nat.pos_iff_ne_zero (fun hpos => ?_) fun h0 => ?_
  · rw [uN_sub_ok hpos, Comp.bind_ok]
    refine Sim.lookup (o := cp (n - 1)) (f := toM) rfl (getCheckpoint_eq _ _) fun c _ =>
      Sim.read (hap _) fun v _ => Sim.ite Iff.rfl (fun _ => Sim.pure (hCp (n - 1) v)) fun _ => ?_
    unfold uN_add
    rw [Comp.bind_require]
    exact Sim.require _ Nat.lt_succ_iff fun _ => Sim.pure (hBoth n v (n + 1))
  · cases Nat.eq_zero_of_not_pos h0
    exact Sim.read (hap 0) fun v _ => Sim.pure (hBoth 0 v 1)

theorem cp_upd (f : Nat → Option VotesF.Checkpoint) (k : Nat) (c : VotesF.Checkpoint) :
    (fun i => (upd f k (some c) i).map toM) = upd (fun i => (f i).map toM) k (some (toM c)) := by
  funext i; unfold upd; split <;> rfl

/-- `Store.set_DelegateCheckpoint` is this store with the old counters, `Store.set_NumCheckpoints` after it with the old
counters updated at `a`, both by `rfl` -/
theorem tl_write (st : VotesF.Store) (a k : Nat) (c : VotesF.Checkpoint) (N : Nat → Option Nat) (n : Nat)
    (hn : (N a).getD 0 = n) (hN : ∀ b, b ≠ a → N b = st.NumCheckpoints b) :
    tlOf { st with DelegateCheckpoint := upd2 st.DelegateCheckpoint a k (some c), NumCheckpoints := N } a =
      ⟨n, upd (tlOf st a).cp k (some (toM c))⟩ ∧
    FrameA st { st with DelegateCheckpoint := upd2 st.DelegateCheckpoint a k (some c), NumCheckpoints := N } a := by
  refine ⟨?_, fun b hb => ?_, rfl, rfl, rfl⟩
  · subst hn
    exact congrArg (Timeline.mk _) ((funext fun i => congrArg (Option.map toM) (upd2_row ..)).trans (cp_upd _ k c))
  · show (⟨(N b).getD 0, fun i => (upd2 st.DelegateCheckpoint a k (some c) b i).map toM⟩ : Timeline) = _
    rw [hN b hb]
    exact congrArg (Timeline.mk _) (funext fun i => by rw [upd2_other _ _ _ _ _ _ fun h => hb h.1])

theorem get_num_eq (envr : VotesF.Reads) (st : VotesF.Store) (a : Nat) :
    VotesF.get_num_checkpoints_Account envr st a = Comp.ok ((st.NumCheckpoints a).getD 0) := by
  unfold VotesF.get_num_checkpoints_Account; cases st.NumCheckpoints a <;> rfl

def pushA (envr : VotesF.Reads) (st : VotesF.Store) (a amt : Nat) : CheckpointOp → Comp ((Nat × Nat) × VotesF.Store)
  | .add => VotesF.push_checkpoint_Account_Add envr st a amt
  | .sub => VotesF.push_checkpoint_Account_Sub envr st a amt

def pushT (envr : VotesF.Reads) (st : VotesF.Store) (amt : Nat) : CheckpointOp → Comp ((Nat × Nat) × VotesF.Store)
  | .add => VotesF.push_checkpoint_TotalSupply_Add envr st amt
  | .sub => VotesF.push_checkpoint_TotalSupply_Sub envr st amt

theorem pushA_eq (envr : VotesF.Reads) (st : VotesF.Store) (a delta : Nat) (op : CheckpointOp) :
    pushA envr st a delta op =
      pushG envr.ledger_sequence ((st.NumCheckpoints a).getD 0) (VotesF.get_checkpoint_Account envr st a)
        (fun p => applyG envr st op p delta) (VotesF.Store.set_DelegateCheckpoint st a)
        (fun k c m => VotesF.Store.set_NumCheckpoints (VotesF.Store.set_DelegateCheckpoint st a k c) a m) := by
  cases op
  · unfold pushA VotesF.push_checkpoint_Account_Add; rw [get_num_eq]; rfl
  · unfold pushA VotesF.push_checkpoint_Account_Sub; rw [get_num_eq]; rfl

theorem pushT_eq (envr : VotesF.Reads) (st : VotesF.Store) (delta : Nat) (op : CheckpointOp) :
    pushT envr st delta op =
      pushG envr.ledger_sequence ((st.NumTotalSupplyCheckpoints).getD 0) (VotesF.get_checkpoint_TotalSupply envr st)
        (fun p => applyG envr st op p delta) (VotesF.Store.set_TotalSupplyCheckpoint st)
        (fun k c m => VotesF.Store.set_NumTotalSupplyCheckpoints (VotesF.Store.set_TotalSupplyCheckpoint st k c) m) := by
  cases op <;> rfl

theorem push_of_sim {g : Comp ((Nat × Nat) × VotesF.Store)} {m : Except Err Timeline} {Q : VotesF.Store → Timeline → Prop} :
    Rs.Sim (fun b t => Q b.2 t) g m →
      match m with
      | .ok t => ∃ r st', g = Comp.ok (r, st') ∧ Q st' t
      | .error _ => g = Comp.panic := by
  cases m with
  | ok t => exact fun ⟨⟨r, st'⟩, h1, h2⟩ => ⟨r, st', h1, h2⟩
  | error e => exact id

theorem push_account (envr : VotesF.Reads) (st : VotesF.Store) (a delta : Nat) (op : CheckpointOp) :
    Rs.Sim (fun b t => tlOf b.2 a = t ∧ FrameA st b.2 a) (pushA envr st a delta op)
      (pushCheckpoint (tlOf st a) envr.ledger_sequence op delta) := by
  rw [pushA_eq]
  exact pushG_spec envr.ledger_sequence _ (st.DelegateCheckpoint a) op delta _ (fun p => applyG_eq envr st op p delta) _ _
    (fun st' t => tlOf st' a = t ∧ FrameA st st' a)
    (fun k v => tl_write st a k ⟨_, v⟩ _ _ rfl fun _ _ => rfl)
    (fun k v m => tl_write st a k ⟨_, v⟩ (upd st.NumCheckpoints a (some m)) m (by rw [upd_same]; rfl) fun b hb =>
      upd_other _ _ _ _ hb)

/-- **generated = model** for `push_checkpoint(e, &CheckpointType::Account(a), CheckpointOp::Add, delta)` -/
theorem push_account_add (envr : VotesF.Reads) (st : VotesF.Store) (a delta : Nat) :
    match pushCheckpoint (tlOf st a) envr.ledger_sequence .add delta with
    | .ok t => ∃ r st', VotesF.push_checkpoint_Account_Add envr st a delta = Comp.ok (r, st') ∧ tlOf st' a = t ∧ FrameA st st' a
    | .error _ => VotesF.push_checkpoint_Account_Add envr st a delta = Comp.panic :=
  push_of_sim (push_account envr st a delta .add)

theorem push_account_sub (envr : VotesF.Reads) (st : VotesF.Store) (a delta : Nat) :
    match pushCheckpoint (tlOf st a) envr.ledger_sequence .sub delta with
    | .ok t => ∃ r st', VotesF.push_checkpoint_Account_Sub envr st a delta = Comp.ok (r, st') ∧ tlOf st' a = t ∧ FrameA st st' a
    | .error _ => VotesF.push_checkpoint_Account_Sub envr st a delta = Comp.panic :=
  push_of_sim (push_account envr st a delta .sub)

theorem tot_write (st : VotesF.Store) (k : Nat) (c : VotesF.Checkpoint) (N : Option Nat) :
    totOf { st with TotalSupplyCheckpoint := upd st.TotalSupplyCheckpoint k (some c), NumTotalSupplyCheckpoints := N } =
      ⟨N.getD 0, upd (totOf st).cp k (some (toM c))⟩ ∧
    FrameT st { st with TotalSupplyCheckpoint := upd st.TotalSupplyCheckpoint k (some c), NumTotalSupplyCheckpoints := N } :=
  ⟨congrArg (Timeline.mk _) (cp_upd _ k c), fun _ => rfl, rfl, rfl⟩

theorem push_total (envr : VotesF.Reads) (st : VotesF.Store) (delta : Nat) (op : CheckpointOp) :
    Rs.Sim (fun b t => totOf b.2 = t ∧ FrameT st b.2) (pushT envr st delta op)
      (pushCheckpoint (totOf st) envr.ledger_sequence op delta) := by
  rw [pushT_eq]
  exact pushG_spec envr.ledger_sequence _ st.TotalSupplyCheckpoint op delta _ (fun p => applyG_eq envr st op p delta) _ _
    (fun st' t => totOf st' = t ∧ FrameT st st')
    (fun k v => tot_write st k ⟨_, v⟩ _) (fun k v m => tot_write st k ⟨_, v⟩ (some m))

/-- **generated = model** for `push_checkpoint(e, &CheckpointType::TotalSupply, CheckpointOp::Add, delta)` -/
theorem push_total_add (envr : VotesF.Reads) (st : VotesF.Store) (delta : Nat) :
    match pushCheckpoint (totOf st) envr.ledger_sequence .add delta with
    | .ok t => ∃ r st', VotesF.push_checkpoint_TotalSupply_Add envr st delta = Comp.ok (r, st') ∧ totOf st' = t ∧ FrameT st st'
    | .error _ => VotesF.push_checkpoint_TotalSupply_Add envr st delta = Comp.panic :=
  push_of_sim (push_total envr st delta .add)

theorem push_total_sub (envr : VotesF.Reads) (st : VotesF.Store) (delta : Nat) :
    match pushCheckpoint (totOf st) envr.ledger_sequence .sub delta with
    | .ok t => ∃ r st', VotesF.push_checkpoint_TotalSupply_Sub envr st delta = Comp.ok (r, st') ∧ totOf st' = t ∧ FrameT st st'
    | .error _ => VotesF.push_checkpoint_TotalSupply_Sub envr st delta = Comp.panic :=
  push_of_sim (push_total envr st delta .sub)

/-! ### the abstraction map -/

structure Abs (envr : VotesF.Reads) (st : VotesF.Store) (s : State) : Prop where
  units : ∀ a, (st.VotingUnits a).getD 0 = s.units a
  delegatee : st.Delegatee = s.delegatee
  tl : ∀ a, tlOf st a = s.tl a
  total : totOf st = s.total
  now : envr.ledger_sequence = s.now

def Sim (envr : VotesF.Reads) (c : Comp (Unit × VotesF.Store)) (m : Except Err State) : Prop :=
  match m with
  | .ok s' => ∃ st', c = Comp.ok ((), st') ∧ Abs envr st' s'
  | .error _ => c = Comp.panic

theorem get_delegate_eq (envr : VotesF.Reads) (st : VotesF.Store) (a : Nat) :
    VotesF.get_delegate envr st a = Comp.ok (st.Delegatee a) := by
  unfold VotesF.get_delegate; cases st.Delegatee a <;> rfl

theorem get_units_eq (envr : VotesF.Reads) (st : VotesF.Store) (a : Nat) :
    VotesF.get_voting_units envr st a = Comp.ok ((st.VotingUnits a).getD 0) := by
  unfold VotesF.get_voting_units; cases st.VotingUnits a <;> rfl

/-- `set_voting_units` writes one cell; the entry is removed at zero -/
def setU (st : VotesF.Store) (a u : Nat) : VotesF.Store :=
  { st with VotingUnits := fun x => if x = a then (if u = 0 then none else some u) else st.VotingUnits x }

theorem set_units_eq (envr : VotesF.Reads) (st : VotesF.Store) (a u : Nat) :
    VotesF.set_voting_units envr st a u = Comp.ok ((), setU st a u) := by
  unfold VotesF.set_voting_units setU VotesF.Store.del_VotingUnits VotesF.Store.set_VotingUnits
  by_cases h : u = 0 <;> simp [h]

theorem Abs.setU {envr : VotesF.Reads} {st : VotesF.Store} {s : State} (h : Abs envr st s) (a u : Nat) :
    Abs envr (setU st a u) { s with units := upd s.units a u } := by
  refine ⟨fun b => ?_, h.delegatee, h.tl, h.total, h.now⟩
  unfold OZ.Gen.VotesF.setU upd
  by_cases hu : u = 0 <;> by_cases hb : b = a <;> simp [hu, hb, h.units]

theorem sim_iff {envr : VotesF.Reads} {c : Comp (Unit × VotesF.Store)} {m : Except Err State} :
    Sim envr c m ↔ Rs.Sim (onStore (Abs envr)) c m := by
  cases m with
  | ok s' => exact Rs.Sim.store_ok_iff.symm
  | error e => exact Iff.rfl

/-- the result of a `push_checkpoint` is not used by its callers: only the store counts -/
abbrev storeOf (envr : VotesF.Reads) : (Nat × Nat) × VotesF.Store → State → Prop := fun b s' => Abs envr b.2 s'

theorem push_account_state (envr : VotesF.Reads) (st : VotesF.Store) (s : State) (hA : Abs envr st s) (a amt : Nat) (op : CheckpointOp) :
    Rs.Sim (storeOf envr) (pushA envr st a amt op) (pushAccount s (some a) op amt) := by
  have hg := push_account envr st a amt op
  rw [hA.tl a, hA.now] at hg
  simp only [pushAccount]
  cases hm : pushCheckpoint (s.tl a) s.now op amt with
  | error e => exact hg.of_error hm
  | ok t =>
    obtain ⟨⟨r, st'⟩, h1, h2, hf⟩ := hg.of_ok hm
    refine ⟨(r, st'), h1, ⟨fun b => by rw [hf.units]; exact hA.units b, by rw [hf.delegatee]; exact hA.delegatee, fun b => ?_,
      by rw [hf.total]; exact hA.total, hA.now⟩⟩
    show tlOf st' b = upd s.tl a t b
    by_cases hb : b = a
    · subst hb; rw [upd_same]; exact h2
    · rw [upd_other _ _ _ _ hb, hf.others b hb]; exact hA.tl b

theorem push_total_state (envr : VotesF.Reads) (st : VotesF.Store) (s : State) (hA : Abs envr st s) (amt : Nat) (op : CheckpointOp) :
    Rs.Sim (storeOf envr) (pushT envr st amt op) (pushTotal s op amt) := by
  have hg := push_total envr st amt op
  rw [hA.total, hA.now] at hg
  unfold pushTotal
  cases hm : pushCheckpoint s.total s.now op amt with
  | error e => exact hg.of_error hm
  | ok t =>
    obtain ⟨⟨r, st'⟩, h1, h2, hf⟩ := hg.of_ok hm
    exact ⟨(r, st'), h1, ⟨fun b => by rw [hf.units]; exact hA.units b, by rw [hf.delegatee]; exact hA.delegatee,
      fun b => by rw [hf.tls b]; exact hA.tl b, h2, hA.now⟩⟩

/-- **generated = model** for `move_delegate_votes` -/
theorem move_ref (envr : VotesF.Reads) (st : VotesF.Store) (s : State) (hA : Abs envr st s) (frm to : Option Nat) (amount : Nat) :
    Sim envr (VotesF.move_delegate_votes envr st frm to amount) (moveDelegateVotes s frm to amount) := by
  rw [moveDelegateVotes_eq]
  refine sim_iff.2 (Sim.ite Iff.rfl (fun _ => Sim.pure hA) fun _ => Sim.ite Iff.rfl (fun _ => Sim.pure hA) fun he => ?_)
  cases frm with
  | none =>
    cases to with
    | none => exact absurd rfl he
    | some ta => exact (push_account_state envr st s hA ta amount .add).mapL (fun t => ((), t.2)) fun _ _ h => h
  | some fa =>
    refine (push_account_state envr st s hA fa amount .sub).bind fun b s1 h1 => ?_
    cases to with
    | none => exact Sim.pure h1
    | some ta => exact (push_account_state envr b.2 s1 h1 ta amount .add).mapL (fun t => ((), t.2)) fun _ _ h => h

theorem auth_iff {envr : VotesF.Reads} {auth : List Nat} (hauth : ∀ a, envr.authorized a = decide (a ∈ auth)) (a : Nat) :
    envr.authorized a = true ↔ requireAuth auth a = .ok () := by
  rw [hauth]; unfold requireAuth; by_cases h : a ∈ auth <;> simp [h]

/-- **generated = model** for `delegate` -/
theorem delegate_ref (auth : List Nat) (envr : VotesF.Reads) (st : VotesF.Store) (s : State) (hA : Abs envr st s)
    (hauth : ∀ a, envr.authorized a = decide (a ∈ auth)) (account delegatee : Nat) :
    Sim envr (VotesF.delegate envr st account delegatee) (OZ.Votes.delegate s auth account delegatee) := by
  have hA1 : Abs envr (VotesF.Store.set_Delegatee st account delegatee)
      { s with delegatee := upd s.delegatee account (some delegatee) } :=
    ⟨hA.units, congrArg (upd · account (some delegatee)) hA.delegatee, hA.tl, hA.total, hA.now⟩
  unfold VotesF.delegate
  rw [delegate_eq, get_delegate_eq, Comp.bind_ok, get_units_eq, Comp.bind_ok, hA.delegatee,
    show ((VotesF.Store.set_Delegatee st account delegatee).VotingUnits account).getD 0 = s.units account from hA.units account]
  exact sim_iff.2 (Sim.test (auth_iff hauth account) fun _ => Sim.refuse _ Iff.rfl fun _ =>
    (sim_iff.1 (move_ref envr _ _ hA1 (s.delegatee account) (some delegatee) (s.units account))).tail)

/-- the delegate of an optional account is looked up before anything moves; the translator prints what follows once
per arm -/
theorem lookup_delegate {β : Type} (envr : VotesF.Reads) (st : VotesF.Store) (who : Option Nat) (K : Option Nat → Comp β) :
    optCase who (fun a => Comp.bind (VotesF.get_delegate envr st a) K) (K none) = K (who.bind st.Delegatee) := by
  cases who with
  | none => rfl
  | some a => rw [optCase_some, get_delegate_eq]; rfl

theorem credit_sim (envr : VotesF.Reads) (st1 : VotesF.Store) (s1 : State) (hA1 : Abs envr st1 s1) (to : Option Nat)
    (amount : Nat) (df dt : Option Nat) :
    Rs.Sim (onStore (Abs envr))
      (optCase to
        (fun ta => Comp.bind (VotesF.get_voting_units envr st1 ta) fun t10 =>
          optCase (uN_checked_add 128 t10 amount)
            (fun nu => Comp.bind (VotesF.set_voting_units envr st1 ta nu) fun t12 =>
              Comp.bind (VotesF.move_delegate_votes envr t12.2 df dt amount) fun t13 => Comp.ok ((), t13.2))
            Comp.panic)
        (Comp.bind (VotesF.push_checkpoint_TotalSupply_Sub envr st1 amount) fun t14 =>
          Comp.bind (VotesF.move_delegate_votes envr t14.2 df dt amount) fun t15 => Comp.ok ((), t15.2)))
      (creditUnits s1 to amount >>= fun s2 => moveDelegateVotes s2 df dt amount) := by
  cases to with
  | none =>
    exact (push_total_state envr st1 s1 hA1 amount .sub).bind fun b s2 h2 =>
      (sim_iff.1 (move_ref envr b.2 s2 h2 df dt amount)).tail
  | some ta =>
    rw [optCase_some, get_units_eq, Comp.bind_ok, hA1.units ta, checked_add_eq]
    simp only [creditUnits]
    by_cases h : s1.units ta + amount ≤ U128_MAX
    · rw [if_pos h, if_pos h, optCase_some, set_units_eq]
      exact (sim_iff.1 (move_ref envr _ _ (hA1.setU ta _) df dt amount)).tail
    · rw [if_neg h, if_neg h]; rfl

theorem debit_sim (envr : VotesF.Reads) (st : VotesF.Store) (s : State) (hA : Abs envr st s) (frm : Option Nat)
    (amount : Nat) (k : VotesF.Store → Comp (Unit × VotesF.Store)) (km : State → Except Err State)
    (hk : ∀ st1 s1, Abs envr st1 s1 → Rs.Sim (onStore (Abs envr)) (k st1) (km s1)) :
    Rs.Sim (onStore (Abs envr))
      (optCase frm
        (fun fa => Comp.bind (VotesF.get_voting_units envr st fa) fun t6 =>
          optCase (uN_checked_sub 128 t6 amount)
            (fun nu => Comp.bind (VotesF.set_voting_units envr st fa nu) fun t8 => k t8.2)
            Comp.panic)
        (Comp.bind (VotesF.push_checkpoint_TotalSupply_Add envr st amount) fun t16 => k t16.2))
      (debitUnits s frm amount >>= km) := by
  cases frm with
  | none => exact (push_total_state envr st s hA amount .add).bind fun b s1 h1 => hk b.2 s1 h1
  | some fa =>
    rw [optCase_some, get_units_eq, Comp.bind_ok, hA.units fa]
    simp only [debitUnits, uN_checked_sub]
    by_cases h : amount ≤ s.units fa
    · rw [if_pos h, if_pos h, optCase_some, set_units_eq]
      exact hk _ _ (hA.setU fa _)
    · rw [if_neg h, if_neg h]; rfl

/-- **generated = model** for `transfer_voting_units` -/
theorem transfer_ref (envr : VotesF.Reads) (st : VotesF.Store) (s : State) (hA : Abs envr st s) (frm to : Option Nat) (amount : Nat) :
    Sim envr (VotesF.transfer_voting_units envr st frm to amount) (transferVotingUnits s frm to amount) := by
  rw [transferVotingUnits_eq]
  refine sim_iff.2 (Sim.ite Iff.rfl (fun _ => Sim.pure hA) fun _ => ?_)
  rw [lookup_delegate, lookup_delegate, hA.delegatee]
  -- the continuation `k` is read off the second half: from the goal it is determined only up to unfolding
  have h := debit_sim envr st s hA frm amount _ _ fun st1 s1 hA1 =>
    credit_sim envr st1 s1 hA1 to amount (frm.bind s.delegatee) (to.bind s.delegatee)
  exact h

theorem latest_gen (num : Nat) (cp : Nat → Option VotesF.Checkpoint) :
    (if num = 0 then (Comp.ok 0 : Comp Nat)
     else Comp.bind (uN_sub 32 num 1) fun t2 => Comp.bind (optCase (cp t2) (fun c => Comp.ok c) Comp.panic) fun t3 => Comp.ok t3.votes) =
      (match latest ⟨num, fun i => (cp i).map toM⟩ with | .ok v => Comp.ok v | .error _ => Comp.panic) := by
  unfold latest
  by_cases h : num = 0
  · simp [h]
  · have hsub : uN_sub 32 num 1 = Comp.ok (num - 1) := if_pos (Nat.pos_of_ne_zero h)
    simp only [h, ↓reduceIte, hsub, Comp.bind_ok]
    cases cp (num - 1) with
    | none => rfl
    | some c => rfl

/-- **generated = model** for `get_votes`, `get_total_supply`, `get_delegate`, `get_voting_units`, `num_checkpoints` -/
theorem getters_ref (envr : VotesF.Reads) (st : VotesF.Store) (s : State) (hA : Abs envr st s) (a : Nat) :
    VotesF.get_votes envr st a = (match getVotes s a with | .ok v => Comp.ok v | .error _ => Comp.panic) ∧
    VotesF.get_total_supply envr st = (match getTotalSupply s with | .ok v => Comp.ok v | .error _ => Comp.panic) ∧
    VotesF.get_delegate envr st a = Comp.ok (getDelegate s a) ∧
    VotesF.get_voting_units envr st a = Comp.ok (getVotingUnits s a) ∧
    VotesF.num_checkpoints envr st a = Comp.ok (numCheckpoints s a) := by
  have hnum := get_num_eq envr st a
  refine ⟨?_, ?_, ?_, ?_, ?_⟩
  · unfold VotesF.get_votes VotesF.get_checkpoint_Account getVotes
    rw [hnum, Comp.bind_ok, ← hA.tl a]
    exact latest_gen _ _
  · unfold VotesF.get_total_supply VotesF.get_checkpoint_TotalSupply VotesF.get_num_checkpoints_TotalSupply getTotalSupply
    rw [Comp.bind_ok, ← hA.total]
    exact latest_gen _ _
  · rw [get_delegate_eq, hA.delegatee]; rfl
  · rw [get_units_eq, hA.units a]; rfl
  · unfold VotesF.num_checkpoints numCheckpoints
    rw [hnum, Comp.bind_ok, ← hA.tl a]; rfl

/-! ### the machine -/

structure GS where
  st : VotesF.Store
  now : Nat

def envOf (now : Nat) (auth : List Nat) : VotesF.Reads := ⟨now, fun a => decide (a ∈ auth)⟩

def genCall (g : GS) (auth : List Nat) : Op → Comp (Unit × VotesF.Store)
  | .transferUnits f t a => VotesF.transfer_voting_units (envOf g.now auth) g.st f t a
  | .delegate a d => VotesF.delegate (envOf g.now auth) g.st a d
  | .advance _ => Comp.ok ((), g.st)

/-- a failed invocation is rolled back by the host; `advance` moves the ledger -/
def genStep (g : GS) (x : List Nat × Op) : GS :=
  match x.2 with
  | .advance n => ⟨g.st, g.now + n⟩
  | _ =>
    match genCall g x.1 x.2 with
    | Comp.ok (_, st') => ⟨st', g.now⟩
    | Comp.panic => g

def genRun (g : GS) (ops : List (List Nat × Op)) : GS := ops.foldl genStep g

def AbsG (g : GS) (s : State) : Prop := Abs (envOf g.now []) g.st s

theorem abs_env {e1 e2 : VotesF.Reads} {st : VotesF.Store} {s : State} (h : Abs e1 st s)
    (he : e2.ledger_sequence = e1.ledger_sequence) : Abs e2 st s :=
  ⟨h.units, h.delegatee, h.tl, h.total, he.trans h.now⟩

theorem call_refines {g : GS} {s : State} (hA : AbsG g s) {auth : List Nat} {c : Comp (Unit × VotesF.Store)}
    {m : Except Err State} : Sim (envOf g.now auth) c m →
      AbsG (match c with | Comp.ok (_, st') => ⟨st', g.now⟩ | Comp.panic => g) (match m with | .ok s' => s' | .error _ => s) := by
  cases m with
  | error e => intro h; rw [show c = Comp.panic from h]; exact hA
  | ok s' => rintro ⟨st', h1, h2⟩; rw [h1]; exact abs_env h2 rfl

/-- **one step**: generated call = model step, with the host's rollback -/
theorem step_refines (g : GS) (s : State) (hA : AbsG g s) (x : List Nat × Op) : AbsG (genStep g x) (step s x) := by
  obtain ⟨auth, op⟩ := x
  have hA' : Abs (envOf g.now auth) g.st s := abs_env hA rfl
  cases op with
  | advance n =>
    show Abs _ _ _
    unfold step
    simp only [genStep, apply]
    exact ⟨hA.units, hA.delegatee, hA.tl, hA.total, by show g.now + n = s.now + n; rw [← hA.now]; rfl⟩
  | transferUnits f t a => exact call_refines hA (transfer_ref (envOf g.now auth) g.st s hA' f t a)
  | delegate a d => exact call_refines hA (delegate_ref auth (envOf g.now auth) g.st s hA' (fun _ => rfl) a d)

/-- **every history**: whatever finite sequence of `transfer_voting_units` (mint, burn, transfer), `delegate` and ledger
movements with whatever signers is run, the generated store follows the model state -/
theorem run_refines (ops : List (List Nat × Op)) : ∀ (g : GS) (s : State), AbsG g s → AbsG (genRun g ops) (run s ops) := by
  induction ops with
  | nil => intro g s h; exact h
  | cons x xs ih => intro g s h; exact ih _ _ (step_refines g s h x)

def store0 : VotesF.Store := ⟨fun _ => none, fun _ => none, fun _ _ => none, none, fun _ => none, fun _ => none⟩

theorem store0_abs (now0 : Nat) : AbsG ⟨store0, now0⟩ (init now0) :=
  ⟨fun _ => rfl, rfl, fun _ => rfl, rfl, rfl⟩

/-- **C13 on the generated code, current votes and supply**: after every history among the accounts of `U`, the
generated `get_votes(a)` returns the sum of the generated voting units of the accounts whose generated delegate is
`a`, and the generated `get_total_supply()` the sum of all generated voting units -/
theorem gen_votes_eq_delegated_units (now0 : Nat) (U : List Nat) (hn : U.Nodup) (ops : List (List Nat × Op))
    (hU : ∀ x ∈ ops, ∀ a ∈ x.2.addrs, a ∈ U) (a : Nat) (auth : List Nat) :
    VotesF.get_votes (envOf (genRun ⟨store0, now0⟩ ops).now auth) (genRun ⟨store0, now0⟩ ops).st a =
      Comp.ok (sumN U (fun d => if (genRun ⟨store0, now0⟩ ops).st.Delegatee d = some a
        then ((genRun ⟨store0, now0⟩ ops).st.VotingUnits d).getD 0 else 0)) ∧
    VotesF.get_total_supply (envOf (genRun ⟨store0, now0⟩ ops).now auth) (genRun ⟨store0, now0⟩ ops).st =
      Comp.ok (sumN U (fun d => ((genRun ⟨store0, now0⟩ ops).st.VotingUnits d).getD 0)) := by
  have hA : Abs (envOf (genRun ⟨store0, now0⟩ ops).now auth) (genRun ⟨store0, now0⟩ ops).st (run (init now0) ops) :=
    abs_env (run_refines ops _ _ (store0_abs now0)) rfl
  obtain ⟨h1, h2, -, -, -⟩ := getters_ref _ _ _ hA a
  have hi := run_inv hn (init_inv U now0) ops hU
  rw [h1, h2, hi.getVotes a, hi.getTotalSupply]
  simp only
  constructor
  · congr 1
    unfold delegatedTo
    congr 1
    funext d
    rw [hA.delegatee, hA.units d]
  · congr 1
    congr 1
    funext d
    exact (hA.units d).symm

/-! ### non-vacuity -/

def demoOps : List (List Nat × Op) :=
  [([], .transferUnits none (some 0) 1000), ([0], .delegate 0 1), ([], .advance 3), ([], .transferUnits (some 0) (some 2) 400),
   ([2], .delegate 2 1), ([], .transferUnits (some 2) none 100), ([0], .delegate 0 1)]

example : (genRun ⟨store0, 100⟩ demoOps).st.VotingUnits 0 = some 600 ∧ (genRun ⟨store0, 100⟩ demoOps).st.VotingUnits 2 = some 300 ∧
    (genRun ⟨store0, 100⟩ demoOps).st.NumCheckpoints 1 = some 2 ∧
    (genRun ⟨store0, 100⟩ demoOps).st.DelegateCheckpoint 1 1 = some ⟨103, 900⟩ ∧
    (genRun ⟨store0, 100⟩ demoOps).st.TotalSupplyCheckpoint 1 = some ⟨103, 900⟩ := by
  decide

end OZ.Gen.VotesF
