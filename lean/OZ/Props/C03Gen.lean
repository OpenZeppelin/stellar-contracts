import OZ.Gen.SmartAccount
/-
C03 — rule selection of the smart account, re-checked on every run against what the SOURCE says now.

`lean/OZ/Gen/SmartAccount.lean` is regenerated by `/verif/tools/rs2lean.py --smart-account` from /repo's
current `packages/accounts/src/smart_account/storage.rs`: `get_authenticated_signers` (a `for` loop that
grows a vector), `can_enforce_all_policies` (a `for` loop with an early `return false` around the
cross-contract call `PolicyClient::can_enforce`), `get_validated_context` (the loop over the candidate rules
with its two early returns of a tuple and the final panic) and `validate_signers_and_policies`.
ONE DECLARED HOLE: the candidate list of `get_validated_context` — the `match` on the host's `Context`
object followed by `get_valid_context_rules` (a closure over an iterator pipeline) — is the function
`valid_context_rules` of the reads record; what that list is (type-specific rules newest-first, then
Default rules, expired ones skipped) is tied by the correspondence run and proved of the hand model
(`OZ/Props/C03.lean`).  Signers, contexts and policies are opaque identifiers.

The theorems are about the GENERATED code, for every candidate list, every supplied signer set and every
`can_enforce` answer table. `get_validated_context_eq` (the FIRST candidate, in list order, that `Matches`, or a panic)
is the shape of the hand model's `getValidatedContext` (`find?`, then `pickRule`); no theorem relates the two (this file
imports the generated module only): the hand model is tied to the source by the correspondence run.
-/
namespace OZ.Gen.SmartAccount
open OZ.Rs

/-- the rule's signers that were supplied -/
def authd (rs all : List Nat) : List Nat := rs.filter (fun x => decide (x ∈ all))

theorem auth_loop_eq (envr : SmartAccount.Reads) (all rs : List Nat) :
    ∀ (xs acc : List Nat),
      SmartAccount.get_authenticated_signers.loop1 envr xs acc all rs = .ok (acc ++ authd xs all) := by
  intro xs
  induction xs with
  | nil => intro acc; simp [SmartAccount.get_authenticated_signers.loop1, authd]
  | cons x rest ih =>
    intro acc
    unfold SmartAccount.get_authenticated_signers.loop1
    by_cases h : x ∈ all
    · simp only [h, decide_true, if_true]
      rw [ih]
      simp [authd, h]
    · simp only [h, decide_false]
      rw [if_neg (by simp), ih]
      simp [authd, h]

/-- **signers not named by the rule never count**: generated `get_authenticated_signers` = the rule's
signers filtered by membership in the supplied ones -/
theorem get_authenticated_signers_eq (envr : SmartAccount.Reads) (rs all : List Nat) :
    SmartAccount.get_authenticated_signers envr rs all = .ok (authd rs all) := by
  unfold SmartAccount.get_authenticated_signers
  rw [auth_loop_eq]
  rfl

/-- every `can_enforce` call answers (no trap): the answers are the table `can` -/
def Answers (envr : SmartAccount.Reads) (can : Nat → Nat → List Nat → SmartAccount.ContextRule → Bool) : Prop :=
  ∀ p c sg r, envr.PolicyClient_can_enforce p c sg r = .ok (can p c sg r)

theorem can_loop_eq (envr : SmartAccount.Reads) (can : Nat → Nat → List Nat → SmartAccount.ContextRule → Bool)
    (ha : Answers envr can) (ctx : Nat) (rule : SmartAccount.ContextRule) (m : List Nat) :
    ∀ (ps : List Nat), SmartAccount.can_enforce_all_policies.loop1 envr ps ctx rule m =
      .ok (if ps.all (fun p => can p ctx m rule) then none else some false) := by
  intro ps
  induction ps with
  | nil => rfl
  | cons p rest ih =>
    unfold SmartAccount.can_enforce_all_policies.loop1
    rw [ha]
    simp only [Comp.bind_ok]
    cases hc : can p ctx m rule with
    | true => simp [ih, hc]
    | false => simp [hc]

/-- generated `can_enforce_all_policies` = every policy of the rule accepts -/
theorem can_enforce_all_policies_eq (envr : SmartAccount.Reads) (can : Nat → Nat → List Nat → SmartAccount.ContextRule → Bool)
    (ha : Answers envr can) (ctx : Nat) (rule : SmartAccount.ContextRule) (m : List Nat) :
    SmartAccount.can_enforce_all_policies envr ctx rule m = .ok (rule.policies.all (fun p => can p ctx m rule)) := by
  unfold SmartAccount.can_enforce_all_policies
  rw [can_loop_eq envr can ha]
  simp only [Comp.bind_ok]
  cases rule.policies.all (fun p => can p ctx m rule) <;> rfl

/-- does the loop of `get_validated_context` return at this rule? (the test the hand model calls `ruleMatches`,
written out here on the generated types) -/
def Matches (can : Nat → Nat → List Nat → SmartAccount.ContextRule → Bool) (ctx : Nat) (all : List Nat)
    (r : SmartAccount.ContextRule) : Bool :=
  if r.policies.isEmpty then decide (r.signers.length = (authd r.signers all).length)
  else r.policies.all (fun p => can p ctx (authd r.signers all) r)

theorem validated_loop_eq (envr : SmartAccount.Reads) (can : Nat → Nat → List Nat → SmartAccount.ContextRule → Bool)
    (ha : Answers envr can) (ctx : Nat) (all : List Nat) (cr : List SmartAccount.ContextRule) :
    ∀ (xs : List SmartAccount.ContextRule), SmartAccount.get_validated_context.loop1 envr xs all ctx cr =
      .ok ((xs.find? (Matches can ctx all)).map (fun r => (r, ctx, authd r.signers all))) := by
  intro xs
  induction xs with
  | nil => rfl
  | cons r rest ih =>
    unfold SmartAccount.get_validated_context.loop1
    rw [get_authenticated_signers_eq]
    simp only [Comp.bind_ok]
    by_cases hp : r.policies.isEmpty = true
    · rw [if_pos hp]
      by_cases hl : r.signers.length = (authd r.signers all).length
      · rw [if_pos hl]
        have hm : Matches can ctx all r = true := by simp [Matches, hp, hl]
        simp [hm]
      · rw [if_neg hl, ih]
        have hm : Matches can ctx all r = false := by simp [Matches, hp, hl]
        simp [hm]
    · rw [if_neg hp, can_enforce_all_policies_eq envr can ha]
      simp only [Comp.bind_ok]
      cases hc : r.policies.all (fun p => can p ctx (authd r.signers all) r) with
      | true =>
        have hm : Matches can ctx all r = true := by simp [Matches, hp, hc]
        simp [hm]
      | false =>
        have hm : Matches can ctx all r = false := by simp [Matches, hp, hc]
        simp [hm, ih]

/-- **generated `get_validated_context` = first matching candidate**, or a panic -/
theorem get_validated_context_eq (envr : SmartAccount.Reads) (can : Nat → Nat → List Nat → SmartAccount.ContextRule → Bool)
    (ha : Answers envr can) (ctx : Nat) (all : List Nat) (rules : List SmartAccount.ContextRule)
    (hr : envr.valid_context_rules ctx = .ok rules) :
    SmartAccount.get_validated_context envr ctx all =
      match rules.find? (Matches can ctx all) with
      | some r => .ok (r, ctx, authd r.signers all)
      | none => .panic := by
  unfold SmartAccount.get_validated_context
  rw [hr]
  simp only [Comp.bind_ok]
  rw [validated_loop_eq envr can ha]
  simp only [Comp.bind_ok]
  cases rules.find? (Matches can ctx all) <;> rfl

/-! ### the property's clauses for the generated code -/

/-- **rules are tried in the candidates' order and the first satisfied one is chosen**: the chosen rule
matches, every candidate before it does not, and the signers handed on are the rule's supplied ones -/
theorem gen_chosen_is_first_match (envr : SmartAccount.Reads) (can : Nat → Nat → List Nat → SmartAccount.ContextRule → Bool)
    (ha : Answers envr can) (ctx : Nat) (all : List Nat) (rules : List SmartAccount.ContextRule)
    (hr : envr.valid_context_rules ctx = .ok rules) (r : SmartAccount.ContextRule) (c : Nat) (sg : List Nat)
    (h : SmartAccount.get_validated_context envr ctx all = .ok (r, c, sg)) :
    c = ctx ∧ sg = authd r.signers all ∧ Matches can ctx all r = true ∧
      ∃ before after, rules = before ++ r :: after ∧ ∀ q ∈ before, Matches can ctx all q = false := by
  rw [get_validated_context_eq envr can ha ctx all rules hr] at h
  cases hf : rules.find? (Matches can ctx all) with
  | none => rw [hf] at h; cases h
  | some r' =>
    rw [hf] at h
    injection h with h; injection h with h1 h2; injection h2 with h2 h3
    subst h1
    obtain ⟨hm, before, after, hsplit, hb⟩ := List.find?_eq_some_iff_append.mp hf
    exact ⟨h2.symm, h3.symm, hm, before, after, hsplit, fun q hq => by simpa using hb q hq⟩

/-- a chosen rule WITHOUT policies has ALL of its signers among the supplied ones -/
theorem gen_no_policy_rule_needs_all_its_signers (can : Nat → Nat → List Nat → SmartAccount.ContextRule → Bool)
    (ctx : Nat) (all : List Nat) (r : SmartAccount.ContextRule) (hp : r.policies = [])
    (hm : Matches can ctx all r = true) : ∀ s ∈ r.signers, s ∈ all := by
  unfold Matches at hm
  rw [hp] at hm
  simp only [List.isEmpty_nil, if_true, decide_eq_true_eq] at hm
  intro s hs
  simpa using List.length_filter_eq_length_iff.mp hm.symm s hs

/-- a chosen rule WITH policies was accepted by every one of them, on exactly (rule signers ∩ supplied) -/
theorem gen_policy_rule_needs_all_policies (can : Nat → Nat → List Nat → SmartAccount.ContextRule → Bool)
    (ctx : Nat) (all : List Nat) (r : SmartAccount.ContextRule) (hp : r.policies ≠ [])
    (hm : Matches can ctx all r = true) : ∀ p ∈ r.policies, can p ctx (authd r.signers all) r = true := by
  unfold Matches at hm
  have : r.policies.isEmpty = false := by
    cases h : r.policies with
    | nil => exact absurd h hp
    | cons _ _ => rfl
  rw [this] at hm
  simp only [Bool.false_eq_true, if_false] at hm
  exact List.all_eq_true.mp hm

/-- no satisfied candidate: the check panics (`UnvalidatedContext` in the source; the generated code has the one `.panic`) -/
theorem gen_no_match_panics (envr : SmartAccount.Reads) (can : Nat → Nat → List Nat → SmartAccount.ContextRule → Bool)
    (ha : Answers envr can) (ctx : Nat) (all : List Nat) (rules : List SmartAccount.ContextRule)
    (hr : envr.valid_context_rules ctx = .ok rules) (hn : ∀ q ∈ rules, Matches can ctx all q = false) :
    SmartAccount.get_validated_context envr ctx all = .panic := by
  rw [get_validated_context_eq envr can ha ctx all rules hr]
  have : rules.find? (Matches can ctx all) = none := List.find?_eq_none.mpr (fun q hq => by simp [hn q hq])
  rw [this]

/-- the authenticated signers are always a sub-list of the rule's signers and all supplied -/
theorem authd_sound (rs all : List Nat) : ∀ s ∈ authd rs all, s ∈ rs ∧ s ∈ all := by
  intro s hs
  have := List.mem_filter.mp hs
  exact ⟨this.1, by simpa using this.2⟩

/-- the documented limits: at most 15 signers, at most 5 policies, not both empty -/
theorem validate_signers_and_policies_eq (envr : SmartAccount.Reads) (signers policies : List Nat) :
    SmartAccount.validate_signers_and_policies envr signers policies =
      if signers.length ≤ 15 ∧ policies.length ≤ 5 ∧ ¬ (signers = [] ∧ policies = []) then .ok () else .panic := by
  unfold SmartAccount.validate_signers_and_policies
  by_cases h1 : signers.length > 15
  · rw [if_pos h1, if_neg (by omega)]
  · rw [if_neg h1]
    by_cases h2 : policies.length > 5
    · rw [if_pos h2, if_neg (by omega)]
    · rw [if_neg h2]
      by_cases h3 : signers = [] ∧ policies = []
      · rw [if_pos (by simp [h3.1, h3.2]), if_neg (by simp [h3.1, h3.2])]
      · rw [if_neg (by simpa [List.isEmpty_iff] using h3), if_pos ⟨by omega, by omega, h3⟩]

/-! ### non-vacuity: the generated selection runs -/

/-- rule 2 (signers 10, 11; no policy) before rule 1 (signer 10; policy 77) -/
def demoRules : List SmartAccount.ContextRule := [⟨2, 0, 0, [10, 11], [], none⟩, ⟨1, 0, 0, [10], [77], none⟩]
def demoEnv (ok77 : Bool) : SmartAccount.Reads := ⟨fun _ => .ok demoRules, fun p _ _ _ => .ok (p != 77 || ok77)⟩

example : (SmartAccount.get_validated_context (demoEnv true) 5 [10, 11, 12]).bind (fun r => .ok (r.1.id, r.2.2)) = .ok (2, [10, 11]) := by decide +kernel
example : (SmartAccount.get_validated_context (demoEnv true) 5 [10, 12]).bind (fun r => .ok (r.1.id, r.2.2)) = .ok (1, [10]) := by decide +kernel
example : (SmartAccount.get_validated_context (demoEnv false) 5 [10, 12]).bind (fun r => .ok (r.1.id, r.2.2)) = .panic := by decide +kernel

end OZ.Gen.SmartAccount
