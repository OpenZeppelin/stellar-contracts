import OZ.Props.C16
/-
C16 — list changes are idempotent, EVENTS INCLUDED ("list changes take effect immediately and
idempotently"): on the model of `AllowList` / `BlockList` (OZ/Model/Gates.lean, `allowUser`, `disallowUser`,
`blockUser`, `unblockUser`: each checks `has()` first) a list change that asks for the status the account
already has is a no-op for every observer — same state, no event — and one that flips the status emits
exactly the matching event; hence the event log of any history replays to exactly the stored list and never
announces a change that did not happen. This is what the monitor sites `site=list.idempotent.<machine>` /
`site=list.event.<machine>` evaluate on the implementation's observations (`vListEv`, OZ/Model/GatesMon.lean;
sound by OZ/Props/C16Mon.lean).

`setFn ak on` (OZ/Lemmas/Gates.lean) is the library function behind a list change (`ak`: allow list, `on`:
allow / block), `evOf ak on u` the event of that change.
-/
namespace OZ.Gates.Mon
open OZ.Host OZ.Fungible OZ.Gates

/-- **list_change_events**: for each of `allow_user`, `disallow_user`, `block_user`, `unblock_user`: if the
account already has the requested status the call returns the state itself (no write, no event); otherwise
it appends exactly one event, the matching one, flips exactly that status and touches no token state -/
theorem list_change_events (ak on : Bool) (s : LTok) (u : Nat) :
    (s.listed u = on → setFn ak on s u = s) ∧
    (s.listed u ≠ on →
      (setFn ak on s u).log = s.log ++ [evOf ak on u] ∧ (setFn ak on s u).listed = upd s.listed u on ∧
      (setFn ak on s u).tok = s.tok) := by
  rw [setFn_eq]
  exact ⟨fun h => if_pos h, fun h => by rw [if_neg h]; exact ⟨rfl, rfl, rfl⟩⟩

/-- the entry points of all four list machines run exactly these functions -/
theorem list_change_entry_points (c : Cfg) (auth : List Nat) (u x : Nat) (on : Bool) :
    (∀ s s' : LTok, ALib.apply c s auth (.setList u on x) = .ok s' → s' = setFn true on s u) ∧
    (∀ s s' : LTok, BLib.apply c s auth (.setList u on x) = .ok s' → s' = setFn false on s u) ∧
    (∀ s s' : LEx, AEx.apply c s auth (.setList u on x) = .ok s' → s' = { s with t := setFn true on s.t u }) ∧
    (∀ s s' : LEx, BEx.apply c s auth (.setList u on x) = .ok s' → s' = { s with t := setFn false on s.t u }) :=
  ⟨fun _ _ h => alib_set_eq h, fun _ _ h => blib_set_eq h, fun _ _ h => aex_set_eq h, fun _ _ h => bex_set_eq h⟩

/-! ### the event log tells the list, and nothing but real changes -/

/-- what an observer of the events does with one event -/
def evStep (g : Nat → Bool) : GEvent → (Nat → Bool)
  | .userAllowed u => upd g u true
  | .userBlocked u => upd g u true
  | .userDisallowed u => upd g u false
  | .userUnblocked u => upd g u false
  | _ => g

/-- the list an observer reconstructs from an event log, starting from `g` -/
def replay (g : Nat → Bool) (log : List GEvent) : Nat → Bool := log.foldl evStep g

/-- the event announces a change of the status `g` (not a status the account already had) -/
def realChange (g : Nat → Bool) : GEvent → Bool
  | .userAllowed u => !g u
  | .userBlocked u => !g u
  | .userDisallowed u => g u
  | .userUnblocked u => g u
  | _ => true

/-- every event of the log announces a real change of the list replayed so far -/
def allReal (g : Nat → Bool) : List GEvent → Bool
  | [] => true
  | e :: es => realChange g e && allReal (evStep g e) es

/-- the event log of the state replays to the stored list, and no event in it is redundant -/
def LogTellsList (s : LTok) : Prop := replay emptyList s.log = s.listed ∧ allReal emptyList s.log = true

theorem allReal_snoc (g : Nat → Bool) (log : List GEvent) (e : GEvent) :
    allReal g (log ++ [e]) = (allReal g log && realChange (replay g log) e) := by
  induction log generalizing g with
  | nil => simp [allReal, replay]
  | cons x xs ih => simp [allReal, replay, ih, Bool.and_assoc]

theorem logTellsList_set (ak on : Bool) (s : LTok) (u : Nat) (h : LogTellsList s) :
    LogTellsList (setFn ak on s u) := by
  obtain ⟨h1, h2⟩ := list_change_events ak on s u
  by_cases hs : s.listed u = on
  · rw [h1 hs]; exact h
  · obtain ⟨e1, e2, -⟩ := h2 hs
    obtain ⟨i1, i2⟩ := h
    refine ⟨?_, ?_⟩
    · rw [e1, e2]
      unfold replay at i1 ⊢
      rw [List.foldl_append, i1]
      cases ak <;> cases on <;> rfl
    · rw [e1, allReal_snoc, i2, i1]
      cases ak <;> cases on <;> cases hl : s.listed u <;> simp [evOf, realChange, hl] at hs ⊢

theorem logTellsList_run {ap : LTok → List Nat → LOp → Except Err LTok} (ak : Bool)
    (htok : ∀ {s s' auth o}, ap s auth (.tok o) = .ok s' → ∃ t, s' = { s with tok := t })
    (hset : ∀ {s s' auth u on x}, ap s auth (.setList u on x) = .ok s' → s' = setFn ak on s u)
    (ops : List (List Nat × LOp)) : ∀ s : LTok, LogTellsList s → LogTellsList (runWith ap s ops) :=
  run_keeps (stepWith_or ap) (P := LogTellsList) (fun {s auth o s'} hs hx => by
    cases o with
    | tok o => obtain ⟨t, rfl⟩ := htok hx; exact hs
    | setList u on x => rw [hset hx]; exact logTellsList_set ak on s u hs) ops

/-- **list_events_tell_the_list**, all histories of the `AllowList` library type: after ANY finite list of
calls (list changes, repeated or not, in any order; token calls with any arguments and authorizations) the
`user_allowed` / `user_disallowed` events emitted so far replay to exactly `allowed()`, and none of them
announced a status the account already had -/
theorem list_events_tell_the_list_allow (c : Cfg) (now : Nat) (ops : List (List Nat × LOp)) :
    LogTellsList (runWith (ALib.apply c) (LTok.empty now) ops) :=
  logTellsList_run true (fun h => let ⟨_, t, _, e⟩ := alib_tok_ok h; ⟨t, e⟩) alib_set_eq ops _ ⟨rfl, rfl⟩

/-- the same for the `BlockList` library type (`user_blocked` / `user_unblocked`, `blocked()`) -/
theorem list_events_tell_the_list_block (c : Cfg) (now : Nat) (ops : List (List Nat × LOp)) :
    LogTellsList (runWith (BLib.apply c) (LTok.empty now) ops) :=
  logTellsList_run false (fun h => let ⟨_, t, _, e⟩ := blib_tok_ok h; ⟨t, e⟩) blib_set_eq ops _ ⟨rfl, rfl⟩

/-! ### non-vacuity -/

/-- allow 2, allow 2 again, disallow 3 (never allowed), disallow 2, disallow 2 again: two events, not five -/
example :
    (runWith (ALib.apply demoCfg) (LTok.empty 100)
      [([], .setList 2 true 0), ([], .setList 2 true 0), ([], .setList 3 false 0), ([], .setList 2 false 0),
       ([], .setList 2 false 0)]).log = [.userAllowed 2, .userDisallowed 2] := by decide

/-- an event emitted although the account is already allowed breaks `allReal`: an observer would see a change
that never happened -/
example : allReal emptyList [.userAllowed 2, .userAllowed 2] = false := by decide

end OZ.Gates.Mon
