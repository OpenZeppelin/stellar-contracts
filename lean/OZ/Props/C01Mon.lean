import OZ.Props.C01
import OZ.Lemmas.FungibleMon
/-
C01 — soundness of the MONITOR that decides the property on implementation traces.

`./check C01` reports a concrete violation of the Base-token part exactly when
`OZ.FungibleMon.Supply.checkCore` (the driver's monitor on parsed values, OZ/Model/FungibleMon.lean)
returns a message on the implementation's observations. Here it is proved that on the observations
of the MODEL the monitor never returns a message, for every host configuration, every start
ledger, every size `n` of the observed universe and every finite history whose addresses lie in
that universe (`monitor_accepts_every_model_trace`). Consequences:

  * an implementation whose observations agree with the model's (the correspondence the check
    establishes by differential testing) can never raise a monitor alarm — a monitor failure is
    never a false alarm of the monitor itself;
  * every conclusion the monitor evaluates (Σ balances = total_supply; no negative balance; a
    rejected call changes neither supply, balances nor allowances; mint / burn / burn_from move the
    supply by exactly ±amount, transfer / transfer_from / approve / ledger movement not at all;
    the list-level replay of the emitted events from genesis reproduces the printed balances) is a
    THEOREM about the model, in the monitor's own executable wording.

The model observation `OZ.FungibleMon.stepObs` used here IS the data the driver's model side
prints: `FungibleIO.stepLine` is `showObs (stepObs cfg n s auth op mauth)` after parsing the op
line, and `lineOf auth op` is what `FungibleIO.parseLine` reads from that op line (kind, `a=`,
`auth=`, `amt=`, and `lu=` of an approve).

Hypothesis `hU` (all addresses of the history are < n): the observation line prints the balances
of the universe 0..n-1 only, so "the balances sum to the supply" can be decided from it only when
no tokens sit outside; the harness draws every address from that universe (and so does the
assumption of `inv_reachable` in OZ/Props/C01.lean). `sum_needs_closed_universe` shows the
hypothesis cannot be dropped.
-/
namespace OZ.FungibleMon.Supply
open OZ.Host OZ.Fungible OZ.FungibleMon

/-- monitor state and model state describe the same point of a history: the previous observation
(or the empty token before the first call) shows the model state, and the balances reconstructed
from the events are the model's balances -/
structure Agree (n : Nat) (m : Mon) (s : State) : Prop where
  size : m.n = n
  sup : (m.prev.getD (zeroObs m.n)).sup = s.supply
  bal : (m.prev.getD (zeroObs m.n)).bal = balList n s
  allow : (m.prev.getD (zeroObs m.n)).allow = allowList n s
  replay : m.replay = balList n s

/-- what is known of every reachable model state: the C01 invariant over the observed universe
(`inv_reachable`) and that its event log replays to its balances (`replay_events`) -/
structure Good (n : Nat) (s : State) : Prop where
  inv : Inv (List.range n) s
  replay : replay s.events = s.bal

theorem supply_moves_by_kind {c : Cfg} {s s' : State} {auth : List Nat} {op : Op}
    (h : apply c s auth op = .ok s') :
    (kindOf op = .mint → s'.supply = s.supply + amtOf op) ∧
    ((kindOf op = .burn ∨ kindOf op = .burnFrom) → s'.supply = s.supply - amtOf op) ∧
    ((kindOf op = .transfer ∨ kindOf op = .transferFrom ∨ kindOf op = .approve ∨ kindOf op = .advance) →
      s'.supply = s.supply) := by
  have hd := apply_supply h
  cases op <;> simp [kindOf, amtOf, supplyDelta] at hd ⊢ <;> omega

/-- **one call**: fed with the model's own observation of any call (accepted or rejected, with or
without the mint guard), the monitor reports nothing, its state keeps describing the model's, and
the model state stays good -/
theorem monitor_sound_step (c : Cfg) (n : Nat) {m : Mon} {s : State} (hg : Good n s) (ha : Agree n m s)
    (auth : List Nat) (op : Op) (mauth : Option Nat) (hU : ∀ a ∈ op.addrs, a < n) :
    (checkCore m (lineOf auth op) (stepObs c n s auth op mauth).2).2 = none ∧
    Agree n (checkCore m (lineOf auth op) (stepObs c n s auth op mauth).2).1 (stepObs c n s auth op mauth).1 ∧
    Good n (stepObs c n s auth op mauth).1 := by
  obtain ⟨hn, hsup, hbal, hallow, hrep⟩ := ha
  rcases stepObs_cases c n s auth op mauth with hs | ⟨s', hap, hs⟩ <;> rw [hs]
  · exact ⟨verdict_none (vSum_none hg.inv.sum) (vNegative_none (balList_nonneg hg.inv.nonneg))
      (vRollback_none fun _ => ⟨hsup.symm, hbal.symm, hallow.symm⟩) (vMint_none fun h => by cases h)
      (vBurn_none fun h => by cases h) (vSame_none fun h => by cases h) (vReplay_none hrep),
      ⟨hn, rfl, rfl, rfl, hrep⟩, hg⟩
  · obtain ⟨hi', -⟩ := apply_inv List.nodup_range c hg.inv auth op (fun a ha => List.mem_range.mpr (hU a ha)) hap
    have hr' := apply_replay c auth op hg.replay hap
    obtain ⟨k1, k2, k3⟩ := supply_moves_by_kind hap
    have hrep' : (newEvents s s').foldl replayEv m.replay = balList n s' := by
      rw [hrep]
      show List.foldl replayEv ((List.range n).map s.bal) _ = _
      rw [foldl_replayEv_map, replay_step hap]
      rfl
    exact ⟨verdict_none (vSum_none hi'.sum) (vNegative_none (balList_nonneg hi'.nonneg))
      (vRollback_none fun h => by cases h) (vMint_none fun _ hk => by rw [hsup]; exact k1 hk)
      (vBurn_none fun _ hk => by rw [hsup]; exact k2 hk) (vSame_none fun _ hk => by rw [hsup]; exact k3 hk)
      (vReplay_none hrep'), ⟨hn, rfl, rfl, rfl, hrep'⟩, ⟨hi', hr'⟩⟩

/-- the monitor run over a whole history of model observations: first message, if any. A history
item is (authorizing addresses, operation, `mauth=` guard of the line if any). -/
def monitorRun (c : Cfg) (n : Nat) : Mon → State → List (List Nat × Op × Option Nat) → Option String
  | _, _, [] => none
  | m, s, x :: xs =>
    match (checkCore m (lineOf x.1 x.2.1) (stepObs c n s x.1 x.2.1 x.2.2).2).2 with
    | some msg => some msg
    | none => monitorRun c n (checkCore m (lineOf x.1 x.2.1) (stepObs c n s x.1 x.2.1 x.2.2).2).1
        (stepObs c n s x.1 x.2.1 x.2.2).1 xs

/-- the monitor's initial state for a sequence (what the driver's `minit` builds from the label:
`n` = `n=` of the label, default 5) -/
def monInit (n : Nat) : Mon := { prev := none, replay := List.replicate n 0, n := n }

/-- **monitor soundness**: for every host configuration, start ledger, universe size and finite
history over that universe — any amounts, any authorizing subsets, guarded or unguarded mints, any
ledger movement — the monitor reports nothing on the model's observations. (`init start` and
`c` are what the driver's `init` builds from the label, `monInit n` what `minit` builds.) -/
theorem monitor_accepts_every_model_trace (c : Cfg) (start n : Nat)
    (ops : List (List Nat × Op × Option Nat)) (hU : ∀ x ∈ ops, ∀ a ∈ x.2.1.addrs, a < n) :
    monitorRun c n (monInit n) (init start) ops = none := by
  suffices ∀ m s, Good n s → Agree n m s → monitorRun c n m s ops = none from
    this _ _ ⟨init_inv _ start, by simp [init, replay]⟩
      ⟨rfl, rfl, (balList_init n start).symm, (allowList_init n start).symm, (balList_init n start).symm⟩
  induction ops with
  | nil => intro m s _ _; rfl
  | cons x xs ih =>
    intro m s hg ha
    obtain ⟨h1, h2, h3⟩ := monitor_sound_step c n hg ha x.1 x.2.1 x.2.2 (hU x List.mem_cons_self)
    unfold monitorRun
    rw [h1]
    exact ih (fun y hy => hU y (List.mem_cons_of_mem _ hy)) _ _ h3 h2

/-! ### what the theorem needs of the monitor's initial state and of the history

1. `monInit` takes the universe size from the label (`n=`, driver `minit`) as the model side
   (`FungibleIO.initM`) does, and has to: a monitor state built for 5 accounts reports
   `site=fungible.replay` on the very first call of a model trace labelled `n=7`. -/

example :
    (checkCore { prev := none, replay := List.replicate 5 0, n := 5 } (lineOf [] (.mint 0 1000))
      (stepObs ⟨1, 200000⟩ 7 (init 100) [] (.mint 0 1000) none).2).2.isSome = true := by
  decide

/-- 2. the hypothesis that the history stays inside the observed universe cannot be dropped: after
a mint to account 7 with only accounts 0..4 observed, the model's own observation shows supply 1
and balances summing to 0 — the monitor (rightly, from what it sees) reports `site=fungible.sum` -/
theorem sum_needs_closed_universe :
    (monitorRun ⟨1, 200000⟩ 5 (monInit 5) (init 100) [([], .mint 7 1, none)]).isSome = true := by
  decide

/-! ### non-vacuity: the monitor is not trivially silent — on an
observation in which a self-transfer inflated the balance it fires -/

example :
    (checkCore { prev := some ⟨true, 1000, [1000, 0, 0, 0, 0], [], 100, [], []⟩, replay := [1000, 0, 0, 0, 0], n := 5 }
      (lineOf [0] (.transfer 0 0 1000))
      ⟨true, 1000, [2000, 0, 0, 0, 0], [], 100, [.transfer 0 0 1000], [0]⟩).2.isSome = true := by
  simp [checkCore, verdict, orElse, vSum]

end OZ.FungibleMon.Supply
