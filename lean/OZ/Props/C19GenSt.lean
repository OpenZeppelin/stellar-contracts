import OZ.Gen.FeeSt
import OZ.Lemmas.Comp
/-
C19 — `collect_fee` and `collect_fee_and_invoke`, re-checked on every run against the SOURCE as it stands.

`lean/OZ/Gen/FeeSt.lean` is regenerated by `/verif/tools/rs2lean.py --fee-st` (state-passing mode) from /repo's
current `packages/fee-abstraction/src/storage.rs`: `is_fee_token_allowlist_enabled`, `is_allowed_fee_token`,
`validate_fee_bounds`, `validate_expiration_ledger`, `collect_fee` (the `match` on the approval strategy an
if-chain) and `collect_fee_and_invoke`.  The fee token and the target are other contracts: `approve`,
`allowance`, `transfer_from` (each naming the token first) and `invoke_contract` are functions of the reads
record that may panic; `user.require_auth_for_args(..)` is a test of `authorized_for_args` on the translated
tuple (fee token, maximum fee, expiration ledger, target contract, target function, target arguments).

Theorems about the GENERATED code, for every store, every behaviour of the external contracts, every
authorization predicate and every argument. `gen_collect_fee_sound`: an accepted `collect_fee` took a fee token
the allow-list admits, from a user who is not the forwarder itself, a fee with `0 < fee ≤ max`, through
`transfer_from(forwarder, user, recipient, fee)` on exactly that token and amount; any approval it made was
`approve(user, forwarder, max, expiration)` — never more than the maximum; the Lazy strategy without a fresh
approval checked the expiration ledger.
-/
namespace OZ.Gen.FeeSt
open OZ.Rs

/-- the fee token passes the allow-list: the list is disabled (count 0) or the token is on it -/
def Allowed (st : FeeSt.Store) (token : Nat) : Prop :=
  st.Count.getD 0 = 0 ∨ (st.TokenIndex token).isSome = true

instance (st : FeeSt.Store) (token : Nat) : Decidable (Allowed st token) := by unfold Allowed; infer_instance

theorem is_allowed_fee_token_eq (envr : FeeSt.Reads) (st : FeeSt.Store) (token : Nat) :
    FeeSt.is_allowed_fee_token envr st token = .ok (decide (Allowed st token)) := by
  unfold FeeSt.is_allowed_fee_token FeeSt.is_fee_token_allowlist_enabled Allowed
  rw [Comp.bind_ok]
  by_cases hc : st.Count.getD 0 > 0
  · rw [if_pos (decide_eq_true hc)]
    unfold optCase
    split
    · rename_i i hx; simp [hx]
    · rename_i hx; simp [hx, Nat.ne_of_gt hc]
  · rw [if_neg (by rw [decide_eq_false hc]; exact Bool.false_ne_true)]
    simp [Nat.le_zero.mp (Nat.not_lt.mp hc)]

/-- what an accepted `collect_fee` did -/
structure Collected (envr : FeeSt.Reads) (st : FeeSt.Store) (token : Nat) (fee max : Int) (exp user recipient : Nat)
    (approval : FeeAbstractionApproval) : Prop where
  allowed : Allowed st token
  notSelf : envr.current_contract_address ≠ user
  positive : 0 < fee
  withinMax : fee ≤ max
  charged : envr.TokenClient_transfer_from token envr.current_contract_address user recipient fee = .ok ()
  eager : approval = .Eager → envr.TokenClient_approve token user envr.current_contract_address max exp = .ok ()
  lazy : approval = .Lazy → ∃ a, envr.TokenClient_allowance token user envr.current_contract_address = .ok a ∧
    (a < max → envr.TokenClient_approve token user envr.current_contract_address max exp = .ok ()) ∧
    (¬ a < max → envr.ledger_sequence ≤ exp)

theorem validate_fee_bounds_ok {envr : FeeSt.Reads} {st : FeeSt.Store} {fee max : Int} {u : Unit}
    (h : FeeSt.validate_fee_bounds envr st fee max = .ok u) : 0 < fee ∧ fee ≤ max := by
  have := (Comp.guard_eq_ok h).1
  omega

theorem validate_expiration_ledger_ok {envr : FeeSt.Reads} {st : FeeSt.Store} {exp : Nat} {u : Unit}
    (h : FeeSt.validate_expiration_ledger envr st exp = .ok u) : envr.ledger_sequence ≤ exp :=
  Nat.le_of_not_lt (Comp.guard_eq_ok h).1

/-- every arm of `collect_fee` is one call `x` (an approval or the expiration check) and then the charge `tf` -/
theorem then_charge_ok {x tf : Comp Unit}
    (h : (x.bind fun _ => tf.bind fun _ => Comp.ok ()) = .ok ()) : x = .ok () ∧ tf = .ok () := by
  obtain ⟨_, hx, h⟩ := Comp.bind_eq_ok h
  obtain ⟨_, ht, -⟩ := Comp.bind_eq_ok h
  exact ⟨hx, ht⟩

/-- **what an accepted generated `collect_fee` checked and called** (`Collected`) -/
theorem gen_collect_fee_sound (envr : FeeSt.Reads) (st : FeeSt.Store) (token : Nat) (fee max : Int) (exp user recipient : Nat)
    (approval : FeeAbstractionApproval)
    (h : FeeSt.collect_fee envr st token fee max exp user recipient approval = .ok ()) :
    Collected envr st token fee max exp user recipient approval := by
  unfold FeeSt.collect_fee at h
  rw [is_allowed_fee_token_eq, Comp.bind_ok] at h
  obtain ⟨hal, h⟩ := Comp.require_eq_ok h
  obtain ⟨hself, h⟩ := Comp.guard_eq_ok h
  obtain ⟨_, hb, h⟩ := Comp.bind_eq_ok h
  obtain ⟨hpos, hmax⟩ := validate_fee_bounds_ok hb
  have hal := of_decide_eq_true hal
  cases approval with
  | Eager =>
    obtain ⟨hap, htf⟩ := then_charge_ok ((if_pos rfl).symm.trans h)
    exact ⟨hal, hself, hpos, hmax, htf, fun _ => hap, nofun⟩
  | Lazy =>
    obtain ⟨a, hall, h⟩ := Comp.bind_eq_ok ((if_neg nofun).symm.trans h)
    by_cases hlt : a < max
    · obtain ⟨hap, htf⟩ := then_charge_ok ((if_pos hlt).symm.trans h)
      exact ⟨hal, hself, hpos, hmax, htf, nofun, fun _ => ⟨a, hall, fun _ => hap, fun hn => absurd hlt hn⟩⟩
    · obtain ⟨hex, htf⟩ := then_charge_ok ((if_neg hlt).symm.trans h)
      exact ⟨hal, hself, hpos, hmax, htf, nofun,
        fun _ => ⟨a, hall, fun hl => absurd hl hlt, fun _ => validate_expiration_ledger_ok hex⟩⟩

/-- **an accepted generated `collect_fee_and_invoke`**: the user authorized exactly (token, maximum, expiration,
target, function, arguments); the fee collected is within that maximum, in that token; exactly that call was made -/
theorem gen_forward_sound (envr : FeeSt.Reads) (st : FeeSt.Store) (token : Nat) (fee max : Int) (exp target fn args user recipient : Nat)
    (approval : FeeAbstractionApproval) (r : Nat)
    (h : FeeSt.collect_fee_and_invoke envr st token fee max exp target fn args user recipient approval = .ok r) :
    envr.authorized_for_args user (token, max, exp, target, fn, args) = true ∧
    Collected envr st token fee max exp user recipient approval ∧
    envr.invoke_contract target fn args = .ok r := by
  obtain ⟨ha, h⟩ := Comp.require_eq_ok h
  obtain ⟨_, hc, h⟩ := Comp.bind_eq_ok h
  exact ⟨ha, gen_collect_fee_sound envr st token fee max exp user recipient approval hc, (Comp.bind_ret _).symm.trans h⟩

/-- a fee above the authorized maximum (or not positive) is refused before any token call matters -/
theorem gen_fee_above_max_refused (envr : FeeSt.Reads) (st : FeeSt.Store) (token : Nat) (fee max : Int) (exp user recipient : Nat)
    (approval : FeeAbstractionApproval) (hb : fee ≤ 0 ∨ max < fee) :
    FeeSt.collect_fee envr st token fee max exp user recipient approval = .panic := by
  cases h : FeeSt.collect_fee envr st token fee max exp user recipient approval with
  | panic => rfl
  | ok u =>
    have hs := gen_collect_fee_sound envr st token fee max exp user recipient approval h
    have := hs.positive; have := hs.withinMax
    omega

/-- a token the (enabled) allow-list does not hold is refused, whatever allowance stands -/
theorem gen_token_not_allowed_refused (envr : FeeSt.Reads) (st : FeeSt.Store) (token : Nat) (fee max : Int) (exp user recipient : Nat)
    (approval : FeeAbstractionApproval) (hc : 0 < st.Count.getD 0) (hi : st.TokenIndex token = none) :
    FeeSt.collect_fee envr st token fee max exp user recipient approval = .panic := by
  cases h : FeeSt.collect_fee envr st token fee max exp user recipient approval with
  | panic => rfl
  | ok u =>
    have hs := (gen_collect_fee_sound envr st token fee max exp user recipient approval h).allowed
    rcases hs with h0 | h1
    · omega
    · rw [hi] at h1; cases h1

/-- without the user's authorization of exactly this call nothing is collected and nothing invoked -/
theorem gen_unauthorized_refused (envr : FeeSt.Reads) (st : FeeSt.Store) (token : Nat) (fee max : Int) (exp target fn args user recipient : Nat)
    (approval : FeeAbstractionApproval) (ha : envr.authorized_for_args user (token, max, exp, target, fn, args) = false) :
    FeeSt.collect_fee_and_invoke envr st token fee max exp target fn args user recipient approval = .panic := by
  unfold FeeSt.collect_fee_and_invoke
  rw [if_neg (by rw [ha]; simp)]

/-! ### non-vacuity: the generated forwarder runs -/

/-- forwarder 9; the token's calls all succeed, the standing allowance is 50; the allow-list holds token 7 only -/
def demoEnv : FeeSt.Reads :=
  ⟨100, 9, fun u a => u == 1 && a == (7, 40, 200, 3, 4, 5), fun _ _ _ _ _ => .ok (), fun _ _ _ => .ok 50,
   fun _ _ _ _ _ => .ok (), fun _ _ _ => .ok 77⟩
def demoSt : FeeSt.Store := ⟨some 1, fun t => if t = 7 then some 0 else none⟩

example : FeeSt.collect_fee_and_invoke demoEnv demoSt 7 30 40 200 3 4 5 1 2 .Lazy = .ok 77 := by decide
example : FeeSt.collect_fee_and_invoke demoEnv demoSt 7 41 40 200 3 4 5 1 2 .Lazy = .panic := by decide     -- fee above the maximum
example : FeeSt.collect_fee_and_invoke demoEnv demoSt 7 30 40 200 3 4 6 1 2 .Lazy = .panic := by decide     -- other arguments
example : FeeSt.collect_fee_and_invoke demoEnv demoSt 8 30 40 200 3 4 5 1 2 .Eager = .panic := by decide    -- token not allowed
example : FeeSt.collect_fee_and_invoke demoEnv demoSt 7 30 40 99 3 4 5 1 2 .Lazy = .panic := by decide      -- (not authorized: other expiry)

end OZ.Gen.FeeSt
