import OZ.Gen.SimpleThreshold
import OZ.Lemmas.Comp
/-
C14 — the simple-threshold policy, re-checked on every run against what the SOURCE says now.

`lean/OZ/Gen/SimpleThreshold.lean` is regenerated by `/verif/tools/rs2lean.py --simple-threshold`
(state-passing mode) from /repo's current `packages/accounts/src/policies/simple_threshold.rs`:
`get_threshold`, `can_enforce`, `enforce`, `set_threshold`, `install`, `uninstall`,
`validate_and_set_threshold`.  The store is the one map `AccountContext(smart_account, rule id) → threshold`;
`smart_account.require_auth()` is a test of the authorization predicate; the context and the emitted event
play no part.

Theorems about the GENERATED code, for every store, account, rule and signer list:
* `gen_can_enforce_iff` — `can_enforce` answers `true` exactly when a threshold is installed for this account
  and rule and the number of authenticated signers reaches it;
* `gen_enforce_iff` — `enforce` is accepted exactly when the smart account authorized the call and
  `can_enforce` answers `true` (the two never disagree);
* `gen_install_sound` / `gen_set_threshold_sound` — an accepted install / change needs the account's
  authorization and `1 ≤ threshold ≤` the number of the rule's signers, install also that nothing is
  installed yet; exactly this entry is written; `gen_uninstall_sound` — removal needs the authorization and
  removes exactly this entry.
-/
namespace OZ.Gen.SimpleThreshold
open OZ.Rs

def passes {α : Type} (c : Comp α) : Bool :=
  match c with
  | .ok _ => true
  | .panic => false

/-- **threshold, exactly** -/
theorem gen_can_enforce_iff (envr : SimpleThreshold.Reads) (st : SimpleThreshold.Store) (signers : List Nat)
    (rule : ContextRule) (acct : Nat) :
    SimpleThreshold.can_enforce envr st signers rule acct =
      .ok (decide (∃ th, st.AccountContext acct rule.id = some th ∧ th ≤ signers.length)) := by
  unfold SimpleThreshold.can_enforce
  cases h : st.AccountContext acct rule.id with
  | none => simp
  | some th => simp

/-- **`enforce` and `can_enforce` agree**, and `enforce` additionally needs the account's authorization -/
theorem gen_enforce_iff (envr : SimpleThreshold.Reads) (st : SimpleThreshold.Store) (signers : List Nat)
    (rule : ContextRule) (acct : Nat) :
    passes (SimpleThreshold.enforce envr st signers rule acct) = true ↔
      (envr.authorized acct = true ∧ SimpleThreshold.can_enforce envr st signers rule acct = .ok true) := by
  rw [gen_can_enforce_iff]
  unfold SimpleThreshold.enforce SimpleThreshold.get_threshold
  by_cases ha : envr.authorized acct = true
  · rw [if_pos ha]
    cases h : st.AccountContext acct rule.id with
    | none => simp [passes, ha]
    | some th =>
      simp only [Comp.unwrap_some, Comp.bind_ok]
      by_cases hge : signers.length ≥ th
      · rw [if_pos hge]; simp [passes, ha, hge]
      · rw [if_neg hge]
        have : ¬ th ≤ signers.length := hge
        simp [passes, ha, this]
  · rw [if_neg ha]; simp [passes, ha]

theorem validate_sound (envr : SimpleThreshold.Reads) (st st' : SimpleThreshold.Store) (th : Nat) (rule : ContextRule) (acct : Nat)
    (h : SimpleThreshold.validate_and_set_threshold envr st th rule acct = .ok ((), st')) :
    1 ≤ th ∧ th ≤ rule.signers.length ∧ st' = SimpleThreshold.Store.set_AccountContext st acct rule.id th := by
  obtain ⟨hb, h⟩ := Comp.guard_eq_ok h
  injection h with h'; injection h' with _ h2
  exact ⟨by omega, by omega, h2.symm⟩

/-- an accepted `set_threshold` -/
theorem gen_set_threshold_sound (envr : SimpleThreshold.Reads) (st st' : SimpleThreshold.Store) (th : Nat) (rule : ContextRule) (acct : Nat)
    (h : SimpleThreshold.set_threshold envr st th rule acct = .ok ((), st')) :
    envr.authorized acct = true ∧ 1 ≤ th ∧ th ≤ rule.signers.length ∧
    st' = SimpleThreshold.Store.set_AccountContext st acct rule.id th := by
  obtain ⟨ha, h⟩ := Comp.require_eq_ok h
  exact ⟨ha, validate_sound envr st st' th rule acct (snd_ok h)⟩

/-- an accepted `install` -/
theorem gen_install_sound (envr : SimpleThreshold.Reads) (st st' : SimpleThreshold.Store) (params : SimpleThresholdAccountParams)
    (rule : ContextRule) (acct : Nat)
    (h : SimpleThreshold.install envr st params rule acct = .ok ((), st')) :
    envr.authorized acct = true ∧ st.AccountContext acct rule.id = none ∧
    1 ≤ params.threshold ∧ params.threshold ≤ rule.signers.length ∧
    st' = SimpleThreshold.Store.set_AccountContext st acct rule.id params.threshold := by
  obtain ⟨ha, h⟩ := Comp.require_eq_ok h
  obtain ⟨hn, h⟩ := Comp.guard_eq_ok h
  exact ⟨ha, Option.not_isSome_iff_eq_none.mp hn, validate_sound envr st st' _ rule acct (snd_ok h)⟩

/-- an accepted `uninstall` -/
theorem gen_uninstall_sound (envr : SimpleThreshold.Reads) (st st' : SimpleThreshold.Store) (rule : ContextRule) (acct : Nat)
    (h : SimpleThreshold.uninstall envr st rule acct = .ok ((), st')) :
    envr.authorized acct = true ∧ st' = SimpleThreshold.Store.del_AccountContext st acct rule.id := by
  obtain ⟨ha, h⟩ := Comp.require_eq_ok h
  injection h with h'; injection h' with _ h2
  exact ⟨ha, h2.symm⟩

/-! ### non-vacuity -/
def demo : SimpleThreshold.Store := ⟨fun a r => if a = 1 ∧ r = 0 then some 2 else none⟩
example : SimpleThreshold.can_enforce ⟨fun _ => true⟩ demo [7, 8] ⟨0, [7, 8, 9]⟩ 1 = .ok true := by decide
example : SimpleThreshold.can_enforce ⟨fun _ => true⟩ demo [7] ⟨0, [7, 8, 9]⟩ 1 = .ok false := by decide
example : passes (SimpleThreshold.enforce ⟨fun _ => false⟩ demo [7, 8] ⟨0, [7, 8, 9]⟩ 1) = false := by decide

end OZ.Gen.SimpleThreshold
