import OZ.Gen.Claims
import OZ.Lemmas.Comp
import OZ.Lemmas.RegGen
import OZ.Lemmas.AttrIndex
/-
C20 / C15 — the identity-claims store, re-checked on every run against the source.

`lean/OZ/Gen/Claims.lean` is regenerated by `/verif/tools/rs2lean.py --claims` (state-passing mode) from /repo's
current `packages/tokens/src/rwa/identity_claims/storage.rs`: `add_claim`, `get_claim`, `get_claim_ids_by_topic`,
`remove_claim`, `remove_claim_from_topic_index`, `add_claim_to_topic_index`, `generate_claim_id`. The issuer's
`is_claim_valid`, `to_xdr` and Keccak-256 are functions of the reads record.

The registry sentence of C20 for this store — "the per-topic index and the claims answer as the map they represent" —
as an invariant `Wf` of the generated store, proved for every finite history of `add_claim` / `remove_claim` calls
(accepted or refused, any arguments) from the empty store: every topic list is non-empty and duplicate-free and lists
exactly the ids of the stored claims of that topic, every stored claim sits under the id of its (issuer, topic). And
C15's "a claim is stored only when its issuer confirms it".
Hypothesis: the id function is injective in (issuer, topic) (`IdInj`: collision resistance of Keccak-256 on these
inputs, in the trusted base of C15 / C20).
-/
namespace OZ.Gen.Claims
open OZ.Rs OZ.AttrIndex

def genId (envr : Claims.Reads) (issuer topic : Nat) : B32 := envr.keccak256 (envr.to_xdr issuer ++ u32_to_be_bytes topic)

def IdInj (envr : Claims.Reads) : Prop :=
  ∀ i t i' t', t < 2 ^ 32 → t' < 2 ^ 32 → genId envr i t = genId envr i' t' → i = i' ∧ t = t'

def ids (st : Claims.Store) (t : Nat) : List B32 := (st.ClaimsByTopic t).getD []

structure Wf (envr : Claims.Reads) (st : Claims.Store) : Prop where
  nonempty : ∀ t, st.ClaimsByTopic t ≠ some []
  nodup : ∀ t, (ids st t).Nodup
  listed : ∀ t id, id ∈ ids st t → ∃ c, st.Claim id = some c ∧ c.topic = t
  indexed : ∀ id c, st.Claim id = some c → id ∈ ids st c.topic ∧ id = genId envr c.issuer c.topic
  topics : ∀ id c, st.Claim id = some c → c.topic < 2 ^ 32

theorem wf_empty (envr : Claims.Reads) : Wf envr ⟨fun _ => none, fun _ => none⟩ :=
  ⟨fun _ h => (by cases h), fun _ => List.nodup_nil, fun _ _ h => (by cases h), fun _ _ h => (by cases h),
    fun _ _ h => (by cases h)⟩

/-- **the index is exact**: an id is listed under a topic exactly when a claim of that topic is stored under it -/
theorem gen_index_exact (envr : Claims.Reads) (st : Claims.Store) (h : Wf envr st) (t : Nat) (id : B32) :
    id ∈ ids st t ↔ ∃ c, st.Claim id = some c ∧ c.topic = t := by
  constructor
  · exact h.listed t id
  · rintro ⟨c, hc, rfl⟩; exact (h.indexed id c hc).1

theorem get_claim_ids_eq (envr : Claims.Reads) (st : Claims.Store) (t : Nat) :
    Claims.get_claim_ids_by_topic envr st t = .ok (ids st t) := rfl

theorem get_claim_eq (envr : Claims.Reads) (st : Claims.Store) (id : B32) :
    Claims.get_claim envr st id = match st.Claim id with | some c => .ok c | none => .panic := by
  unfold Claims.get_claim; cases st.Claim id <;> rfl

theorem add_claim_eq_ok {envr : Claims.Reads} {st : Claims.Store} {topic scheme issuer : Nat} {sig data : List Nat}
    {uri : Nat} {r : B32 × Claims.Store} (h : Claims.add_claim envr st topic scheme issuer sig data uri = .ok r) :
    envr.ClaimIssuerClient_is_claim_valid issuer envr.current_contract_address topic scheme sig data = .ok () ∧
      r.1 = genId envr issuer topic ∧
      r.2 = if (st.Claim (genId envr issuer topic)).isSome = true
        then st.set_Claim (genId envr issuer topic) ⟨topic, scheme, issuer, sig, data, uri⟩
        else (st.set_Claim (genId envr issuer topic) ⟨topic, scheme, issuer, sig, data, uri⟩).set_ClaimsByTopic topic
          (ids st topic ++ [genId envr issuer topic]) := by
  obtain ⟨_, hv, h⟩ := Comp.bind_eq_ok h
  refine ⟨hv, ?_⟩
  change (if (!(st.Claim (genId envr issuer topic)).isSome) = true then _ else _) = _ at h
  cases hc : st.Claim (genId envr issuer topic) <;> rw [hc] at h <;> cases h <;> exact ⟨rfl, rfl⟩

/-- **a claim is stored only when its issuer confirms it** -/
theorem gen_add_claim_needs_issuer (envr : Claims.Reads) (st : Claims.Store) (topic scheme issuer : Nat)
    (sig data : List Nat) (uri : Nat) (r : B32 × Claims.Store)
    (h : Claims.add_claim envr st topic scheme issuer sig data uri = .ok r) :
    envr.ClaimIssuerClient_is_claim_valid issuer envr.current_contract_address topic scheme sig data = .ok () ∧
      r.1 = genId envr issuer topic ∧
      r.2.Claim r.1 = some ⟨topic, scheme, issuer, sig, data, uri⟩ := by
  obtain ⟨hv, h1, h2⟩ := add_claim_eq_ok h
  refine ⟨hv, h1, ?_⟩
  rw [h1, h2]
  split <;> exact if_pos rfl

theorem Wf.idx {envr : Claims.Reads} {st : Claims.Store} (h : Wf envr st) : Ok st.Claim (·.topic) (ids st) :=
  ⟨h.nodup, gen_index_exact envr st h⟩

theorem Wf.of {envr : Claims.Reads} {st : Claims.Store} (h : Ok st.Claim (·.topic) (ids st))
    (hne : ∀ t, st.ClaimsByTopic t ≠ some [])
    (hkey : ∀ id c, st.Claim id = some c → id = genId envr c.issuer c.topic ∧ c.topic < 2 ^ 32) : Wf envr st :=
  ⟨hne, h.nodup, fun t id hm => (h.mem t id).1 hm, fun id c hc => ⟨(h.mem _ _).2 ⟨c, hc, rfl⟩, (hkey id c hc).1⟩,
    fun id c hc => (hkey id c hc).2⟩

theorem ids_of {st s' : Claims.Store} {t : Nat} {ol : Option (List B32)}
    (h : ∀ x, s'.ClaimsByTopic x = if x = t then ol else st.ClaimsByTopic x) (x : Nat) :
    ids s' x = if x = t then ol.getD [] else ids st x := by
  unfold ids; rw [h]; split <;> rfl

/-- `add_claim` keeps the store well-formed -/
theorem add_claim_wf (envr : Claims.Reads) (hI : IdInj envr) (st : Claims.Store) (hW : Wf envr st)
    (topic scheme issuer : Nat) (htop : topic < 2 ^ 32) (sig data : List Nat) (uri : Nat) (r : B32 × Claims.Store)
    (h : Claims.add_claim envr st topic scheme issuer sig data uri = .ok r) : Wf envr r.2 := by
  obtain ⟨-, -, hr⟩ := add_claim_eq_ok h
  rw [hr]
  have hkey : ∀ id c, (if id = genId envr issuer topic then some (⟨topic, scheme, issuer, sig, data, uri⟩ : IdClaim)
      else st.Claim id) = some c → id = genId envr c.issuer c.topic ∧ c.topic < 2 ^ 32 := by
    intro id c hc
    split at hc
    · next e => cases hc; exact ⟨e, htop⟩
    · exact ⟨(hW.indexed id c hc).2, hW.topics id c hc⟩
  cases hc : st.Claim (genId envr issuer topic) with
  | none =>
    show Wf envr ((st.set_Claim _ _).set_ClaimsByTopic _ _)
    refine Wf.of (hW.idx.insert (c := ⟨topic, scheme, issuer, sig, data, uri⟩) hc (fun _ => rfl)
      (ids_of (ol := some (ids st topic ++ [genId envr issuer topic])) fun _ => rfl))
      (fun x => OZ.RegGen.ite_ne (fun e => List.cons_ne_nil _ _ (List.append_eq_nil_iff.1 (Option.some.inj e)).2)
        (hW.nonempty x)) hkey
  | some c0 =>
    show Wf envr (st.set_Claim _ _)
    have ht0 := (hI _ _ _ _ htop (hW.topics _ c0 hc) (hW.indexed _ c0 hc).2).2
    exact Wf.of (hW.idx.replace (c := ⟨topic, scheme, issuer, sig, data, uri⟩) hc ht0 fun _ => rfl) hW.nonempty hkey

/-- the list shorter than 2^32, as host vectors are: `position` returns a `u32` -/
theorem remove_claim_from_topic_index_eq (envr : Claims.Reads) (st : Claims.Store) (t : Nat) (id : B32)
    (hm : id ∈ ids st t) (hlen : (ids st t).length < 2 ^ 32) :
    Claims.remove_claim_from_topic_index envr st t id = .ok ((), ⟨st.Claim, fun x =>
      if x = t then (if ((ids st t).erase id).isEmpty = true then none else some ((ids st t).erase id))
      else st.ClaimsByTopic x⟩) := by
  unfold Claims.remove_claim_from_topic_index
  unfold ids at hm hlen ⊢
  obtain ⟨i, hf, he⟩ := OZ.RegGen.position_of_mem hm (Nat.le_of_lt hlen)
  rw [hf, optCase_some, he]
  cases ((st.ClaimsByTopic t).getD []).erase id <;> rfl

/-- `remove_claim` keeps the store well-formed (topic lists shorter than 2^32, as host vectors are): a claim was stored
under the id; it is deleted and the id erased from the list of its topic. -/
theorem remove_claim_wf (envr : Claims.Reads) (st : Claims.Store) (hW : Wf envr st) (hlen : ∀ t, (ids st t).length < 2 ^ 32)
    (id : B32) (r : Unit × Claims.Store) (h : Claims.remove_claim envr st id = .ok r) : Wf envr r.2 := by
  unfold Claims.remove_claim at h
  obtain ⟨c, hc, h⟩ := Comp.unwrap_eq_ok h
  rw [remove_claim_from_topic_index_eq envr (st.del_Claim id) c.topic id (hW.indexed id c hc).1 (hlen c.topic),
    Comp.bind_ok] at h
  cases h
  refine Wf.of (hW.idx.delete hc (fun _ => rfl) (ids_of fun _ => rfl) ?_ fun y => ?_)
    (fun x => OZ.RegGen.ite_ne (OZ.RegGen.store_ne_nil _) (hW.nonempty x)) fun id' c' h' => ?_
  · rw [OZ.RegGen.getD_store]; exact (hW.nodup c.topic).erase id
  · rw [OZ.RegGen.getD_store]; exact (hW.nodup c.topic).mem_erase_iff.trans and_comm
  · have h0 : st.Claim id' = some c' := by
      change (if id' = id then none else st.Claim id') = some c' at h'
      split at h'
      · cases h'
      · exact h'
    exact ⟨(hW.indexed _ _ h0).2, hW.topics _ _ h0⟩

inductive Op
  | add (topic scheme issuer : Nat) (sig data : List Nat) (uri : Nat)
  | remove (id : B32)

/-- a failed invocation is rolled back by the host -/
def step (envr : Claims.Reads) (st : Claims.Store) : Op → Claims.Store
  | .add t s i sg d u => match Claims.add_claim envr st t s i sg d u with | .ok r => r.2 | .panic => st
  | .remove id => match Claims.remove_claim envr st id with | .ok r => r.2 | .panic => st

def run (envr : Claims.Reads) (st : Claims.Store) (ops : List Op) : Claims.Store := ops.foldl (step envr) st

/-- a host vector cannot be longer -/
def Short (st : Claims.Store) : Prop := ∀ t, (ids st t).length < 2 ^ 32

def OpOk : Op → Prop
  | .add t _ _ _ _ _ => t < 2 ^ 32      -- a claim topic is a `u32`
  | .remove _ => True

theorem step_wf {envr : Claims.Reads} (hI : IdInj envr) {st : Claims.Store} (hW : Wf envr st) (hS : Short st) {op : Op}
    (hO : OpOk op) : Wf envr (step envr st op) := by
  cases op with
  | add t s i sg d u =>
    simp only [step]
    cases hr : Claims.add_claim envr st t s i sg d u with
    | panic => exact hW
    | ok r => exact add_claim_wf envr hI st hW t s i hO sg d u r hr
  | remove id =>
    simp only [step]
    cases hr : Claims.remove_claim envr st id with
    | panic => exact hW
    | ok r => exact remove_claim_wf envr st hW hS id r hr

/-- **every history**: the store stays the map it represents (as long as the host's vectors stay within their range) -/
theorem run_wf (envr : Claims.Reads) (hI : IdInj envr) : ∀ (ops : List Op) (st : Claims.Store), Wf envr st →
    (∀ op ∈ ops, OpOk op) → (∀ pre, pre <+: ops → Short (run envr st pre)) → Wf envr (run envr st ops) := by
  intro ops
  induction ops with
  | nil => intro st h _ _; exact h
  | cons op rest ih =>
    intro st hW hO hS
    exact ih _ (step_wf hI hW (hS [] List.nil_prefix) (hO op List.mem_cons_self))
      (fun o ho => hO o (List.mem_cons_of_mem _ ho)) (fun pre hp => hS (op :: pre) ((List.prefix_cons_inj op).2 hp))

theorem eq_of_digits {t t' n : Nat} (hm : t % n = t' % n) (hd : t / n = t' / n) : t = t' := by
  rw [← Nat.div_add_mod t n, ← Nat.div_add_mod t' n, hd, hm]

theorem div_eq_of_digits {t t' m n : Nat} (hm : t / m % n = t' / m % n) (hd : t / (m * n) = t' / (m * n)) :
    t / m = t' / m :=
  eq_of_digits hm ((Nat.div_div_eq_div_mul t m n).trans (hd.trans (Nat.div_div_eq_div_mul t' m n).symm))

/-- non-vacuity: an environment whose id function is injective, and a history on it -/
def demoEnv : Claims.Reads := ⟨9, fun a => [a], fun l => l, fun _ _ _ _ _ _ => .ok ()⟩

example : IdInj demoEnv := by
  intro i t i' t' ht ht' h
  -- the id is the issuer followed by the four big-endian bytes of the topic, which has no digit above them
  injection h with h0 h
  injection h with h3 h
  injection h with h2 h
  injection h with h1 h
  injection h with h4
  have e : t / (2 ^ 24 * 256) = t' / (2 ^ 24 * 256) := (Nat.div_eq_of_lt ht).trans (Nat.div_eq_of_lt ht').symm
  exact ⟨h0, eq_of_digits h4 (div_eq_of_digits h1 (div_eq_of_digits h2 (div_eq_of_digits h3 e)))⟩

example :
    let st := run demoEnv ⟨fun _ => none, fun _ => none⟩
      [.add 1 0 5 [] [7] 0, .add 1 0 6 [] [8] 0, .add 2 0 5 [] [9] 0, .add 1 0 5 [] [10] 0, .remove (genId demoEnv 6 1)]
    ids st 1 = [genId demoEnv 5 1] ∧ ids st 2 = [genId demoEnv 5 2] ∧
      (st.Claim (genId demoEnv 5 1)).map (·.data) = some [10] ∧ st.Claim (genId demoEnv 6 1) = none := by
  decide

end OZ.Gen.Claims
